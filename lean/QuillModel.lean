-- GENERATED by tools/gen_lean_roots.py: root of the `QuillModel` library (every module).
import QuillModel.Backend.BackRel
import QuillModel.Backend.Basics
import QuillModel.Backend.ConcBound
import QuillModel.Backend.ConcDrain
import QuillModel.Backend.ConcGrow
import QuillModel.Backend.ConcMono
import QuillModel.Backend.ConcPrio
import QuillModel.Backend.ConcProgress
import QuillModel.Backend.ConsProofsBasics
import QuillModel.Backend.ConsProofsCore
import QuillModel.Backend.ConsProofsCoreFront
import QuillModel.Backend.ConsProofsDispatch
import QuillModel.Backend.ConsProofsDrop
import QuillModel.Backend.ConsProofsDropCall
import QuillModel.Backend.ConsProofsExact
import QuillModel.Backend.ConsProofsFault
import QuillModel.Backend.ConsProofsFront
import QuillModel.Backend.ConsProofsIds
import QuillModel.Backend.ConsProofsIdsFront
import QuillModel.Backend.ConsProofsOnce
import QuillModel.Backend.ConsProofsOrder
import QuillModel.Backend.ConsProofsPop
import QuillModel.Backend.ConsProofsQueue
import QuillModel.Backend.ConsProofsQuiesce
import QuillModel.Backend.ConsProofsReclaim
import QuillModel.Backend.ConsProofsSkel
import QuillModel.Backend.ConsProofsStill
import QuillModel.Backend.ConsProofsTrace
import QuillModel.Backend.ConsProofsUnplaced
import QuillModel.Backend.ConsProofsWrites
import QuillModel.Backend.CtxCore
import QuillModel.Backend.CtxDrain
import QuillModel.Backend.CtxProofs
import QuillModel.Backend.CtxRel
import QuillModel.Backend.DrainProgress
import QuillModel.Backend.DrainProofs
import QuillModel.Backend.DrainTerminate
import QuillModel.Backend.EventGroups
import QuillModel.Backend.EventLog
import QuillModel.Backend.EventRel
import QuillModel.Backend.EventShape
import QuillModel.Backend.ExitUnbounded
import QuillModel.Backend.Fault
import QuillModel.Backend.FlagProofs
import QuillModel.Backend.FlushBack
import QuillModel.Backend.FlushContract
import QuillModel.Backend.FlushFront
import QuillModel.Backend.FlushGate
import QuillModel.Backend.FlushInv
import QuillModel.Backend.FlushProgress
import QuillModel.Backend.FlushRel
import QuillModel.Backend.FlushStep
import QuillModel.Backend.FlushTop
import QuillModel.Backend.FrontRel
import QuillModel.Backend.FrontRules
import QuillModel.Backend.FrontShape
import QuillModel.Backend.LevelProofs
import QuillModel.Backend.LiftBal
import QuillModel.Backend.LiftFuel
import QuillModel.Backend.LiftFuelFront
import QuillModel.Backend.LiftNote
import QuillModel.Backend.LiftObsDefs
import QuillModel.Backend.LiftObsFront
import QuillModel.Backend.LiftObsRet0
import QuillModel.Backend.LiftObsRun
import QuillModel.Backend.LiftObsStep
import QuillModel.Backend.LiftObsStr
import QuillModel.Backend.LiftObsView
import QuillModel.Backend.LiftOnce
import QuillModel.Backend.LiftOnceFinal
import QuillModel.Backend.LiftOnceNodup
import QuillModel.Backend.LiftOrder
import QuillModel.Backend.LiftRingPop
import QuillModel.Backend.LiftRingPot
import QuillModel.Backend.LoggerBack
import QuillModel.Backend.LoggerProofs
import QuillModel.Backend.Mixed
import QuillModel.Backend.MixedProofs
import QuillModel.Backend.Model
import QuillModel.Backend.Ops
import QuillModel.Backend.OrdBack1
import QuillModel.Backend.OrdBack2
import QuillModel.Backend.OrdBack3
import QuillModel.Backend.OrdFront
import QuillModel.Backend.OrdInv
import QuillModel.Backend.OrdTop
import QuillModel.Backend.ParkedInv
import QuillModel.Backend.ParkedInv2
import QuillModel.Backend.Pass
import QuillModel.Backend.PcBasic
import QuillModel.Backend.PcKept
import QuillModel.Backend.PcSkeleton
import QuillModel.Backend.PubInv
import QuillModel.Backend.QLink
import QuillModel.Backend.QueueCalls
import QuillModel.Backend.QuietRel
import QuillModel.Backend.RemovalFlag
import QuillModel.Backend.ReplayStep
import QuillModel.Backend.ResumeProgress
import QuillModel.Backend.RunLemmas
import QuillModel.Backend.Sched
import QuillModel.Backend.SinkBack
import QuillModel.Backend.SinkProofs
import QuillModel.Backend.SinkRefs
import QuillModel.Backend.SinkRefsSched
import QuillModel.Backend.ThreadProofs
import QuillModel.Backend.UExit
import QuillModel.Backend.UFail
import QuillModel.Backend.UGen
import QuillModel.Backend.UInvClosed
import QuillModel.Backend.UOps
import QuillModel.Backend.UProg
import QuillModel.Backend.UPub
import QuillModel.Backend.UPubInv
import QuillModel.Backend.UQueue
import QuillModel.Backend.UQueueProofs
import QuillModel.Backend.USched
import QuillModel.Backend.USkel
import QuillModel.Backend.UThread
import QuillModel.Backtrace.Model
import QuillModel.Backtrace.Proofs
import QuillModel.Backtrace.Refine
import QuillModel.Codec.Alloc
import QuillModel.Codec.Basic
import QuillModel.Codec.Lemmas
import QuillModel.Codec.Model
import QuillModel.Codec.Statement
import QuillModel.Codec.Window
import QuillModel.Drivers.Backend
import QuillModel.Drivers.Backtrace
import QuillModel.Drivers.Codec
import QuillModel.Drivers.Exit
import QuillModel.Drivers.FileSink
import QuillModel.Drivers.Filt
import QuillModel.Drivers.LogReg
import QuillModel.Drivers.MathUtil
import QuillModel.Drivers.Mixed
import QuillModel.Drivers.Named
import QuillModel.Drivers.Pattern
import QuillModel.Drivers.Reg
import QuillModel.Drivers.Rot
import QuillModel.Drivers.SinkReg
import QuillModel.Drivers.Spsc
import QuillModel.Drivers.Time
import QuillModel.Drivers.Transit
import QuillModel.Drivers.Tsc
import QuillModel.Drivers.Uspsc
import QuillModel.Drivers.Util
import QuillModel.Exit.Model
import QuillModel.Exit.Program
import QuillModel.Exit.Proofs
import QuillModel.Exit.Stop
import QuillModel.Exit.StopProofs
import QuillModel.Extracted.Backend
import QuillModel.Extracted.Backtrace
import QuillModel.Extracted.Codec
import QuillModel.Extracted.Exit
import QuillModel.Extracted.Faults
import QuillModel.Extracted.Filesink
import QuillModel.Extracted.Filt
import QuillModel.Extracted.Logreg
import QuillModel.Extracted.Math
import QuillModel.Extracted.Mixed
import QuillModel.Extracted.Named
import QuillModel.Extracted.Pattern
import QuillModel.Extracted.Queue
import QuillModel.Extracted.Reg
import QuillModel.Extracted.Rot
import QuillModel.Extracted.Sinkreg
import QuillModel.Extracted.Spin
import QuillModel.Extracted.Time
import QuillModel.Extracted.Tsc
import QuillModel.FileSink.Model
import QuillModel.Filt.Model
import QuillModel.Filt.ProofsA
import QuillModel.Filt.ProofsB
import QuillModel.Filt.ProofsC
import QuillModel.Filt.ProofsD
import QuillModel.Filt.Step
import QuillModel.LogReg.Model
import QuillModel.LogReg.Proofs
import QuillModel.MathUtil.Ctor
import QuillModel.MathUtil.Model
import QuillModel.MathUtil.NextPow2
import QuillModel.MathUtil.TransitW
import QuillModel.NamedArgs.Basic
import QuillModel.NamedArgs.Cache
import QuillModel.NamedArgs.Fuel
import QuillModel.NamedArgs.Grammar
import QuillModel.NamedArgs.Json
import QuillModel.NamedArgs.JsonParse
import QuillModel.NamedArgs.Logj
import QuillModel.NamedArgs.Message
import QuillModel.NamedArgs.Model
import QuillModel.NamedArgs.Pairs
import QuillModel.NamedArgs.ScanDet
import QuillModel.NamedArgs.ScanProc
import QuillModel.NamedArgs.Split
import QuillModel.NamedArgs.Tight
import QuillModel.Obligations.BackendA
import QuillModel.Obligations.BackendA_C03
import QuillModel.Obligations.BackendA_C08
import QuillModel.Obligations.BackendA_C10
import QuillModel.Obligations.BackendA_Common
import QuillModel.Obligations.BackendB
import QuillModel.Obligations.BackendB_C05
import QuillModel.Obligations.BackendB_C06
import QuillModel.Obligations.BackendB_C09
import QuillModel.Obligations.BackendB_Common
import QuillModel.Obligations.BackendC
import QuillModel.Obligations.BackendC_C07
import QuillModel.Obligations.BackendC_C16
import QuillModel.Obligations.BackendC_C17
import QuillModel.Obligations.BackendC_C20
import QuillModel.Obligations.BackendC_Common
import QuillModel.Obligations.BackendW_C10
import QuillModel.Obligations.Backtrace
import QuillModel.Obligations.Codec
import QuillModel.Obligations.CodecAlloc
import QuillModel.Obligations.CodecAllocMap
import QuillModel.Obligations.CodecStore
import QuillModel.Obligations.Counter
import QuillModel.Obligations.Exit
import QuillModel.Obligations.Faults
import QuillModel.Obligations.FileSink
import QuillModel.Obligations.Filt
import QuillModel.Obligations.JsonSinkFaults
import QuillModel.Obligations.LogReg
import QuillModel.Obligations.MathUtilC01
import QuillModel.Obligations.MathUtilC02
import QuillModel.Obligations.MathUtilC03
import QuillModel.Obligations.Mixed
import QuillModel.Obligations.Named
import QuillModel.Obligations.Pattern
import QuillModel.Obligations.Queue
import QuillModel.Obligations.Reg
import QuillModel.Obligations.RotSize
import QuillModel.Obligations.RotTime
import QuillModel.Obligations.SinkOverridePattern
import QuillModel.Obligations.SinkReg
import QuillModel.Obligations.Spin
import QuillModel.Obligations.Structure.C03
import QuillModel.Obligations.Structure.C05
import QuillModel.Obligations.Structure.C06
import QuillModel.Obligations.Structure.C08
import QuillModel.Obligations.Structure.C10
import QuillModel.Obligations.Structure.C16
import QuillModel.Obligations.Structure.C17
import QuillModel.Obligations.Structure.C20
import QuillModel.Obligations.Structure.Complete
import QuillModel.Obligations.Time
import QuillModel.Obligations.Tsc
import QuillModel.Obligations.UQueue
import QuillModel.Obligations.UnboundedRead
import QuillModel.Pattern.Basic
import QuillModel.Pattern.Calls
import QuillModel.Pattern.Chars
import QuillModel.Pattern.Compile
import QuillModel.Pattern.Dup
import QuillModel.Pattern.Fuel
import QuillModel.Pattern.Lines
import QuillModel.Pattern.Meta
import QuillModel.Pattern.Model
import QuillModel.Pattern.Scan
import QuillModel.Pattern.Sinks
import QuillModel.Pattern.Slots
import QuillModel.Pattern.SpecLemmas
import QuillModel.Pattern.Stage1
import QuillModel.Pattern.Stage2
import QuillModel.Props.C01
import QuillModel.Props.C01Cap
import QuillModel.Props.C02
import QuillModel.Props.C02Cap
import QuillModel.Props.C03
import QuillModel.Props.C03Cap
import QuillModel.Props.C03Delivery
import QuillModel.Props.C03Final
import QuillModel.Props.C03ReadFuel
import QuillModel.Props.C03Trace
import QuillModel.Props.C03Transit
import QuillModel.Props.C03U
import QuillModel.Props.C03Whole
import QuillModel.Props.C04
import QuillModel.Props.C05
import QuillModel.Props.C05Tsc
import QuillModel.Props.C05Unbounded
import QuillModel.Props.C05Write
import QuillModel.Props.C06
import QuillModel.Props.C06Progress
import QuillModel.Props.C06Sink
import QuillModel.Props.C07
import QuillModel.Props.C07Drain
import QuillModel.Props.C07U
import QuillModel.Props.C07Unbounded
import QuillModel.Props.C08
import QuillModel.Props.C08Counter
import QuillModel.Props.C08Log
import QuillModel.Props.C08Mixed
import QuillModel.Props.C08Trace
import QuillModel.Props.C08U
import QuillModel.Props.C09
import QuillModel.Props.C09Backend
import QuillModel.Props.C09Progress
import QuillModel.Props.C09U
import QuillModel.Props.C10
import QuillModel.Props.C10Faults
import QuillModel.Props.C10Format
import QuillModel.Props.C10Replay
import QuillModel.Props.C10ReplayWhole
import QuillModel.Props.C11
import QuillModel.Props.C12
import QuillModel.Props.C13
import QuillModel.Props.C14
import QuillModel.Props.C14Dated
import QuillModel.Props.C14DatedLimit
import QuillModel.Props.C14More
import QuillModel.Props.C14Render
import QuillModel.Props.C15
import QuillModel.Props.C15Compose
import QuillModel.Props.C15Schedule
import QuillModel.Props.C16
import QuillModel.Props.C16Filt
import QuillModel.Props.C17
import QuillModel.Props.C17Destroy
import QuillModel.Props.C17Flags
import QuillModel.Props.C17LogReg
import QuillModel.Props.C17Parked
import QuillModel.Props.C17Removal
import QuillModel.Props.C17SinkReg
import QuillModel.Props.C17Spin
import QuillModel.Props.C18
import QuillModel.Props.C19
import QuillModel.Props.C19Json
import QuillModel.Props.C20
import QuillModel.Props.C20Reg
import QuillModel.Props.C20Shrink
import QuillModel.Props.Faults
import QuillModel.Reg.Model
import QuillModel.Reg.Proofs
import QuillModel.Rot.Dated
import QuillModel.Rot.FS
import QuillModel.Rot.Generic
import QuillModel.Rot.History
import QuillModel.Rot.Index
import QuillModel.Rot.Json
import QuillModel.Rot.Model
import QuillModel.Rot.Render
import QuillModel.Rot.RenderCal
import QuillModel.Rot.RenderThm
import QuillModel.Rot.Time
import QuillModel.SinkReg.Model
import QuillModel.SinkReg.Proofs
import QuillModel.Spin.Model
import QuillModel.Spin.Proofs
import QuillModel.Spsc.Api
import QuillModel.Spsc.ApiEq
import QuillModel.Spsc.Arith
import QuillModel.Spsc.Model
import QuillModel.Spsc.Proofs
import QuillModel.Spsc.Wrap
import QuillModel.Time.Cache
import QuillModel.Time.Civil
import QuillModel.Time.CivilProofs
import QuillModel.Time.FormatterProofs
import QuillModel.Time.FracProofs
import QuillModel.Time.LexProofs
import QuillModel.Time.MachineProofs
import QuillModel.Time.PartsProofs
import QuillModel.Time.PatchProofs
import QuillModel.Time.RewriteProofs
import QuillModel.Time.ScanProofs
import QuillModel.Time.SplitProofs
import QuillModel.Time.Strftime
import QuillModel.Time.Supported
import QuillModel.Time.WindowProofs
import QuillModel.Transit.Model
import QuillModel.Transit.Proofs
import QuillModel.Tsc.Model
import QuillModel.Tsc.PipeProofs
import QuillModel.Tsc.Proofs
import QuillModel.Uspsc.Api
import QuillModel.Uspsc.Capacity
import QuillModel.Uspsc.Model
import QuillModel.Uspsc.NodeStep
import QuillModel.Uspsc.Proofs
import QuillModel.Uspsc.ReadPass
import QuillModel.Uspsc.Shrink
import QuillModel.Uspsc.Trace
import QuillModel.Util.Digits
import QuillModel.Util.ListLemmas
import QuillModel.Util.SortedList
