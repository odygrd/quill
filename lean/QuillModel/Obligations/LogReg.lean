import QuillModel.Extracted.Logreg
import QuillModel.Props.C17LogReg
/-!
Side-conditions of the logger-registry theorems (C17), re-proved for the structure extracted from the current
`core/LoggerManager.h`: both `_find_logger` and `_insert_logger` search for the LOWER bound with an ascending comparator;
the end + name test, the create-only-when-null shape, the validity test of `get_logger`, `remove_logger`, and the
clean-up loop — early return on a lowered flag, one `check_queues_empty()` per invalid entry, re-arming, and the erase IN
PLACE inside a forward loop (`it = _loggers.erase(it)`: what makes the result an order-preserving sublist,
`LogReg.sweep`) — are the ones `LogReg.step` transcribes. If an edit changes any of these (e.g. a clean-up through
`std::partition`, whose effect on the lookups is `C17_logreg_unstable_cleanup_lookup_fails`), this file stops
compiling: the proof obligation is broken and the check relies on the harness's linear-search oracle for a failing op
sequence on the real class.
-/
namespace Obligations
open LogReg

theorem logreg_extraction_complete : Extracted.logregFailures = [] := by decide +kernel

theorem logreg_params_ok : Extracted.logRegParams.OK := by decide +kernel

theorem logreg_comparators_ascending : Extracted.logRegComparatorsAscending = true := by decide +kernel

theorem logreg_structure :
    Extracted.logRegStructure =
      [("findTestsEndThenName", true), ("insertsAtBound", true), ("createOnlyWhenNotFound", true), ("getChecksValid", true),
       ("removeMarksInvalidRaisesFlag", true), ("cleanupFlagProtocol", true), ("cleanupChecksQueuesPerInvalid", true),
       ("cleanupErasesInPlace", true), ("allFiltersValid", true), ("countIsSize", true), ("publicOpsLocked", true),
       ("sortedVectorOfOwners", true)] :=
  rfl

/-- the clean-up of the code as extracted erases in place: the order of the remaining entries is the old one -/
theorem logreg_cleanup_erases_in_place : Extracted.logRegStructure.lookup "cleanupErasesInPlace" = some true := by decide +kernel

/-- idempotence of the by-name lookup for the code as extracted -/
theorem C17_logreg_idempotent_extracted (ops : List Op) (n : Nat) (ops2 : List Op) :
    let r := step Extracted.logRegParams (run Extracted.logRegParams {} ops) (.createOrGet n)
    ∀ i, r.2 = .id i → (∀ op ∈ ops2, op ≠ .remove n) →
      step Extracted.logRegParams (run Extracted.logRegParams r.1 ops2) (.get n) = (run Extracted.logRegParams r.1 ops2, .id i) ∧
      step Extracted.logRegParams (run Extracted.logRegParams r.1 ops2) (.createOrGet n) =
        (run Extracted.logRegParams r.1 ops2, .id i) :=
  C17_logreg_idempotent _ logreg_params_ok ops n ops2

/-- strictly sorted vector (one entry per name) and binary search = linear search, for the code as extracted -/
theorem C17_logreg_sorted_extracted (ops : List Op) (n : Nat) :
    (run Extracted.logRegParams {} ops).entries.Pairwise (fun a b => a.name < b.name) ∧
    find Extracted.logRegParams (run Extracted.logRegParams {} ops) n =
      (run Extracted.logRegParams {} ops).entries.find? (fun e => e.name == n) :=
  ⟨C17_logreg_sorted _ logreg_params_ok ops, C17_logreg_find_is_linear_search _ logreg_params_ok ops n⟩

end Obligations
