import QuillModel.Extracted.Backend
import QuillModel.Props.C08
/-! Proof bundle A, the obligations of C08. One module per property, so that a broken fact breaks the proof side of the
    property that rests on it and of no other. -/
namespace Obligations
open Backend Backend.PA

/-- what the C08 theorems assume of the code, as extracted: only ordinary log events bump the failure counter, the
    control requests retry, the Flush path reports the counters before it removes contexts, and the clean-up keeps a
    context whose counter is non-zero (the flag `C08_removed_context_reported` carries as a hypothesis and the witness
    `C08_count_lost_between_check_and_cleanup` shows to be necessary) -/
theorem backendA_C08_structure :
    Extracted.countsOnlyLogEvents = true ∧ Extracted.flushRetries = true ∧
    Extracted.reportBeforeFlushCleanup = true ∧ Extracted.cleanupKeepsUnreported = true := by decide +kernel

/-- C08 for the code as extracted: every started system with a dropping queue, every schedule: no call blocks and
    Σ discarded = reported + Σ fail over all contexts -/
theorem C08_extracted (s0 : BSt) (h0 : Started s0) (hd : s0.cfg.dropping = true)
    (_hf : s0.cfg.reportBeforeFlushCleanup = Extracted.reportBeforeFlushCleanup) (ops : List Op) :
    (∀ c ∈ ctrs (runOps s0 ops), c.2.2 = 0) ∧
    ((ctrs (runOps s0 ops)).map (fun c => c.2.1)).sum =
      (runOps s0 ops).reported + ((ctrs (runOps s0 ops)).map (·.1)).sum :=
  C08_dropped_equals_reported_plus_pending s0 (C08_started_inv s0 h0) hd ops

/-- a reclaimed context has no unreported drops, for every fresh system whose configuration carries the extracted
    clean-up flag, every schedule -/
theorem C08_removed_extracted (s0 : BSt) (h0 : Fresh s0)
    (hk : s0.cfg.cleanupKeepsUnreported = Extracted.cleanupKeepsUnreported) (ops : List Op) (i : Nat)
    (hr : ((runOps s0 ops).th i).removed = true) : ((runOps s0 ops).th i).fail = 0 :=
  C08_removed_context_reported s0 (C08_fresh_reclaim_inv s0 h0 (hk.trans backendA_C08_structure.2.2.2)) ops i hr

/-- the two witness schedules lose nothing for the extracted flag values -/
theorem C08_witnesses_extracted :
    ((runOps (c08Init Extracted.reportBeforeFlushCleanup Extracted.cleanupKeepsUnreported) f17Sched).th 0).fail = 0 ∧
    (runOps (c08Init Extracted.reportBeforeFlushCleanup Extracted.cleanupKeepsUnreported) f17Sched).reported = 1 ∧
    ((runOps (c08Init Extracted.reportBeforeFlushCleanup Extracted.cleanupKeepsUnreported) f23Sched).th 0).removed = false := by
  decide +kernel

end Obligations
