import QuillModel.Extracted.Backend
import QuillModel.Props.C05Unbounded
/-!
The completeness of the backend's read of an unbounded frontend queue (C05, finding F25) for the retry rule extracted
from `BackendWorker::_read_unbounded_frontend_queue` in the current header: after a switch that found the new buffer
empty the read looks again (`Extracted.unboundedReadFollowsEmptyBuffers`).
-/
namespace Obligations
open Uspsc

/-- the construct the theorem needs is in the header -/
theorem unbounded_read_follows : Extracted.unboundedReadFollowsEmptyBuffers = true := by decide +kernel

/-- C05 on the unbounded queue for the code as extracted: with the extracted retry rule, in every reachable state of the
    chain model, a read that answers "nothing" has seen the whole chain drained -/
theorem C05_unbounded_read_complete_extracted (o : UParams) (ho : UOrdersOK o) (f : Flags) (cap : Nat)
    (batch : Nat → Nat) (hc : 0 < cap) (ops : List UOp) (hr : URun o (uinit cap batch) ops)
    (hn : (apiRead Extracted.unboundedReadFollowsEmptyBuffers o f (urun o (uinit cap batch) ops).n
      (urun o (uinit cap batch) ops)).2.final = .null) (k : Nat)
    (h1 : (urun o (uinit cap batch) ops).ci ≤ k) (h2 : k ≤ (urun o (uinit cap batch) ops).pi) :
    ¬ pend (urun o (uinit cap batch) ops) k := by
  rw [unbounded_read_follows] at hn
  exact (C05_unbounded_read_complete o ho f cap batch hc ops hr).2.1 hn k h1 h2

/-- the F25 state is read completely with the extracted rule -/
theorem f25_read_extracted :
    (apiRead Extracted.unboundedReadFollowsEmptyBuffers quillU f25Flags f25State.n f25State).2.final.readsAt =
      some (2, 0) := by decide +kernel

end Obligations
