import QuillModel.Extracted.Tsc
import QuillModel.Props.C05Tsc
/-!
Side-conditions of the TSC-conversion theorems (C05/C06 with `ClockSourceType::Tsc`), re-proved for what
`tools/extractors/tsc.py` reads off the current `backend/RdtscClock.h`, `backend/BackendWorker.h`, `backend/BackendOptions.h`,
`core/Rdtsc.h` and `Logger.h`: the constants and comparison operators are those of `Tsc.Params.code` (the record the theorems
are stated for), the slot/version protocol stores the new base and only then bumps the version with `release`, and the
statement shapes the model transcribes are still there. An edit that changes any of them (another lag bound, `>=` in the
trigger, the version bumped first, the stale slot written, the conversion after the gate, the gate chained as `else if` behind the TSC
branch so that TSC loggers skip it, a pop rule on another field …)
stops this file from compiling: a broken proof obligation; the check then relies on the correspondence stream and the
harness oracles for a failing input.
-/
namespace Obligations
open Tsc

theorem tsc_extraction_complete : Extracted.tscFailures = [] := by decide +kernel

theorem tsc_params_are_code : Extracted.tscParams = Params.code := by decide +kernel

/-- `_version.load(relaxed)` on the resyncing (backend) thread, `_version.fetch_add(1, release)` after both fields of the
    other slot were stored: a reader of `time_since_epoch_safe` that sees the new version sees the new base -/
theorem tsc_publication_orders : Extracted.tscOrders = ("relaxed", "release") := by decide +kernel

theorem tsc_default_resync_interval : Extracted.tscDefaultResyncMs = 500 := by decide +kernel

theorem tsc_structure :
    Extracted.tscStructure =
      [("attemptLoop", true), ("ctorShape", true), ("readOrder", true), ("storeThenFlip", true), ("failureDoubles", true),
       ("tseShape", true), ("safeShape", true), ("fastAverage", true), ("intervalInit", true), ("twoSlots", true),
       ("nsPerTickConst", true), ("convertBeforeGate", true), ("gateForNonUser", true), ("gateReturnsFalse", true), ("lazyClock", true),
       ("popComparesStored", true), ("idleShape", true), ("frontendReadsRdtsc", true), ("rdtscIsIntrinsic", true)] := by
  decide +kernel

theorem C05Tsc_monotone_between_resyncs_extracted {sc : Int → Int} {ε : Int} (hs : ScaleOK sc ε) (c : Clock) (ops : List COp) :
    (crun Extracted.tscParams sc c ops).Pairwise (fun o1 o2 => o1.epoch = o2.epoch →
      InWin o1.base.tsc o1.tsc → InWin o1.base.tsc o2.tsc →
      (o1.tsc ≤ o2.tsc → o1.value ≤ o2.value) ∧ (o2.tsc ≤ o1.tsc → o2.value ≤ o1.value)) := by
  rw [tsc_params_are_code]; exact C05Tsc_monotone_between_resyncs hs c ops

theorem C05Tsc_backstep_witness_extracted :
    ((prun Extracted.tscParams sc1 { clock := wClock } wBackstep).written.map (fun e => (e.id, e.tsc, e.ts)))
      = [(1, 2002100, 1700000000001002100), (2, 2002150, 1700000000001001650)] := by
  rw [tsc_params_are_code]; exact C05Tsc_backstep_witness.1

end Obligations
