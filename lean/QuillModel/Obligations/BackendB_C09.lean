import QuillModel.Extracted.Backend
import QuillModel.Extracted.Queue
import QuillModel.Props.C09Backend
/-! Proof bundle B, the obligations of C09. One module per property, so that a broken fact breaks the proof side of the
    property that rests on it and of no other. -/
namespace Obligations
open Backend

/-- what the end-to-end C09 theorems (the retry of `enqFlow`, the publication rule of the queue the model embeds)
    assume of the code, as extracted -/
theorem backendB_retry_structure :
    Extracted.boundedParams.drainPublish = true ∧ Extracted.blockingRetriesSameRequest = true ∧
    Extracted.timestampBeforeContext = true := by decide

/-- C09 (a blocked log call resumes) for the code as extracted: every configuration that carries the extracted queue
    parameters -/
theorem C09_backend_extracted (s0 : BSt) (h0 : StartF s0) (hqp : s0.cfg.qp = Extracted.boundedParams) (pre : List Op)
    (a : Nat) (x : Actor) (st : Stmt) (k : Nat) (hblk : s0.cfg.dropping = false)
    (hx : (runOps s0 pre).actor a = some x) (hp : x.pend = .retry st k) (hsz : st.size ≤ s0.cfg.qcap)
    (hrun : (runOps s0 pre).backendGone = false) (dt : Nat) (hdt : s0.cfg.grace ≤ dt)
    (suffix : List Op) (hq : ∀ o ∈ suffix, quietOp o = true) (hn : PB.pendingCount (runOps s0 pre) ≤ pollCount suffix)
    (hk : st.kind = .log) (hk0 : k = 0) :
    (resume (runOps (runOps s0 pre) (.front (.tick dt) :: suffix)) a).2 = s!"id={st.id} ret=1 ev=1 bytes={st.size}" := by
  have h := (C09_blocked_call_resumes s0 h0 pre a x st k (by rw [hqp]; exact backendB_retry_structure.1) hblk hx hp hsz
    hrun dt hdt suffix hq hn).2.2 hk (Or.inl hk0)
  rw [h.1, hk0]; exact C09_obs_ret1 st

end Obligations
