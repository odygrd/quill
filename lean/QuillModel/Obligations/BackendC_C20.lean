import QuillModel.Extracted.Backend
import QuillModel.Props.C20
/-! Proof bundle C, the obligations of C20. One module per property, so that a broken fact breaks the proof side of the
    property that rests on it and of no other. -/
namespace Obligations.BackendC
open Backend

/-- the obligation chosen for the invalid-context counter: at least 32 bits, i.e. it cannot wrap while fewer than
    `2^32` thread contexts are registered at once (each owns a queue of at least a kilobyte: beyond any process).
    The 8-bit counter of the pinned tree fails this (finding F13, repaired). -/
theorem invalid_counter_wide : 32 ≤ Extracted.invalidBits := by decide

/-- a context is dropped only when invalid with an empty queue and an empty transit buffer (`ctxEmpty` in
    `cleanupContexts.go.findFirst`) -/
theorem c20_structure : Extracted.cleanupNeedsEmptyBuffer = true := by decide

/-- C20 for the extracted width: along every schedule, while fewer than `2^32` contexts are registered, the
    counter is exactly the number of registered contexts of exited threads -/
theorem C20_counter_extracted (s0 : BSt) (h0 : CtxFresh s0) (ops : List Op)
    (hb : (runOps s0 ops).cfg.invalidBits = Extracted.invalidBits)
    (hn : (runOps s0 ops).registry.length < 2 ^ 32) :
    (runOps s0 ops).invalidCnt = invalidRegistered (runOps s0 ops) := by
  apply C20_counter_exact s0 h0 ops
  rw [hb]
  exact Nat.lt_of_lt_of_le hn (Nat.pow_le_pow_right (by decide) invalid_counter_wide)

/-- and the clean-up returns early only when there is nothing to reclaim -/
theorem C20_early_return_extracted (s0 : BSt) (h0 : CtxFresh s0) (ops : List Op)
    (hb : (runOps s0 ops).cfg.invalidBits = Extracted.invalidBits)
    (hn : (runOps s0 ops).registry.length < 2 ^ 32) :
    (runOps s0 ops).invalidCnt = 0 ↔ ∀ i ∈ (runOps s0 ops).registry, ((runOps s0 ops).th i).valid = true := by
  apply C20_early_return_iff s0 h0 ops
  rw [hb]
  exact Nat.lt_of_lt_of_le hn (Nat.pow_le_pow_right (by decide) invalid_counter_wide)

end Obligations.BackendC
