import QuillModel.Extracted.Backend
/-! Proof bundle B: the extraction of the backend facts reported no failure (needed by each of its properties). -/
namespace Obligations

theorem backendB_extraction_ok : Extracted.backendFailures = [] := by decide

end Obligations
