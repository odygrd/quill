import QuillModel.Props.C06
import QuillModel.Obligations.BackendB_C05
/-! Proof bundle B, the obligations of C06. One module per property, so that a broken fact breaks the proof side of the
    property that rests on it and of no other. -/
namespace Obligations
open Backend

/-- what the C06 theorems (the shape of `processLowest` / `processEvent` / `flushSinks` / `enqFlow` in the model)
    assume of the code, as extracted -/
theorem backendB_flush_structure :
    Extracted.flushBeforeFlag = true ∧ Extracted.flushIgnoresInterval = true ∧ Extracted.popBeforeFlag = true ∧
    Extracted.perSinkFlushCatch = true ∧ Extracted.perEventCatch = true ∧ Extracted.flushRetries = true ∧
    Extracted.flushWaitsOnFlag = true ∧ Extracted.countsOnlyLogEvents = true ∧
    Extracted.flushOnlyValidLoggers = false := by decide

/-- `sink_min_flush_interval` (C06 / F33): the model's call sites are the code's — the idle branch of `_poll` passes the
    option (`flushGate`), the Flush event and `_exit` pass the literal 0 (`flushSinks`), the gate has the modelled shape
    (0 = always; else `now - last > interval`, then `last := now`), there is no other call site, and the logger clean-up
    flushes before it erases (F33 repaired: what `StartC` asks for when the interval is not 0) -/
theorem backendB_flush_interval_structure :
    Extracted.idleFlushPassesOption = true ∧ Extracted.flushIgnoresInterval = true ∧
    Extracted.exitFlushIgnoresInterval = true ∧ Extracted.flushGateShape = true ∧
    Extracted.flushCallSitesAllModelled = true ∧ Extracted.flushBeforeLoggerErase = true := by decide

/-- for the code as extracted, `StartC`'s F33 clause holds for **every** interval -/
theorem backendB_startC_f33 (c : Cfg) (h : c.flushBeforeLoggerErase = Extracted.flushBeforeLoggerErase) :
    c.flushInterval = 0 ∨ c.flushBeforeLoggerErase = true :=
  Or.inr (h.trans backendB_flush_interval_structure.2.2.2.2.2)

/-- C06 (other threads) for the code as extracted -/
theorem C06_extracted (s0 : BSt) (h0 : StartF s0) (hg : s0.cfg.grace ≠ 0)
    (hc : s0.cfg.refreshAfterSample = Extracted.refreshAfterSample) (ops : List Op)
    (hp : GracePremise (runOps s0 ops)) (i : Nat) (st : Stmt) (f : Nat)
    (hst : st ∈ ((runOps s0 ops).th i).accepted) (hk : st.kind = .flush f) (hf : f ∈ (runOps s0 ops).flags)
    (k : Nat) (r : Stmt) (hrk : r ∈ ((runOps s0 ops).th k).accepted)
    (hlt : r.ts < st.ts) : r ∈ ((runOps s0 ops).th k).popped :=
  C06_other_threads s0 h0 hg (hc.trans backendB_order_structure.1) ops hp i st f hst hk hf k r hrk hlt

end Obligations
