import QuillModel.Extracted.Math
import QuillModel.Props.C01Cap
/-!
Side-conditions of `Props/C01Cap.lean` for the shapes extracted from the current `MathUtilities.h` and
`BoundedSPSCQueue.h`: the model `MathUtil.isPow2 / maxPow2 / nextPow2W / boundedCtor` is written for exactly these
operators and constants. If an edit changes the saturation comparison, drops the `!= 0`, changes the loop test, the mask
or the allocation factor, this file stops compiling.
-/
namespace Obligations
open MathUtil

theorem math_common_found : Extracted.mathMissingCommon = [] ∧ Extracted.mathFailures = [] := by decide

/-- `(number != 0) && ((number & (number - 1)) == 0)` -/
theorem math_is_pow2_shape :
    Extracted.mathIp2NonzeroGuard = true ∧ Extracted.mathIp2BitTrick = true ∧ Extracted.mathIp2Conjunction = true := by
  decide

/-- `(max() >> 1) + 1` -/
theorem math_max_pow2_shape : Extracted.mathMaxShift = 1 ∧ Extracted.mathMaxAdd = 1 := by decide

/-- `if (n >= max) return max; if (is_power_of_two(n)) return n; T result = 1; while (result < n) result <<= 1; return result;` -/
theorem math_next_pow2_shape :
    (Extracted.mathSatOp = ">=" ∨ Extracted.mathSatOp = ">") ∧ Extracted.mathSatConstFromMax = true ∧ Extracted.mathEarlyReturnPow2 = true ∧
    Extracted.mathLoopInit = 1 ∧ (Extracted.mathLoopCmp = "<" ∨ Extracted.mathLoopCmp = "<=") ∧ Extracted.mathLoopShift = 1 ∧
    Extracted.mathReturnsResult = true ∧ Extracted.mathOrderOK = true := by decide

theorem math_bounded_found : Extracted.mathMissingBounded = [] := by decide

/-- `_capacity(next_power_of_two(capacity))`, `_mask(_capacity - 1)`, `2ull * uint64_t(_capacity)` bytes allocated and
    cleared, offsets `pos & _mask`, batch threshold `capacity * percent / 100` -/
theorem math_bounded_ctor_shape :
    Extracted.mathBCapacityFromNextPow2 = true ∧ Extracted.mathBMaskMinus = 1 ∧ Extracted.mathBAllocFactor = 2 ∧
    Extracted.mathBMemsetFactor = 2 ∧ Extracted.mathBBatchDiv = 100 ∧ Extracted.mathBWriteOffsetMasked = true ∧
    Extracted.mathBReadOffsetMasked = true ∧ Extracted.mathBCapacityDeclaredBeforeMask = true := by decide

/-- the model's constructor with the extracted constants, on sample requests of every class (below, at and above the
    saturation point; 0) — ties the constants to `boundedCtor` -/
theorem math_bounded_ctor_extracted :
    ∀ req ∈ [0, 1, 3, 64, 100, 128, 129, 255],
      (boundedCtor 8 req 5).mask + Extracted.mathBMaskMinus = (boundedCtor 8 req 5).capacity ∧
      (boundedCtor 8 req 5).allocBytes = Extracted.mathBAllocFactor * (boundedCtor 8 req 5).capacity ∧
      (boundedCtor 8 req 5).bytesPerBatch = (boundedCtor 8 req 5).capacity * 5 / Extracted.mathBBatchDiv := by decide

/-- the capacity hypotheses `C01_any_requested_capacity` / `C01_wrap_any_requested_capacity` discharge, for the widths the code
    instantiates -/
theorem C01_cap_extracted (req pct : Nat) :
    ∀ w ∈ [8, 16, 32, 64], 0 < (boundedCtor w req pct).capacity ∧ (boundedCtor w req pct).capacity ∣ 2 ^ w ∧
      (boundedCtor w req pct).capacity < 2 ^ w := by
  intro w hw
  have h1 : 1 ≤ w := by simp only [List.mem_cons, List.mem_nil_iff, or_false] at hw; omega
  obtain ⟨_, _, _, _, a, b, c, _⟩ := boundedCtor_ok h1 req pct
  exact ⟨a, b, c⟩

/-- whichever of the equivalent spellings (`n > max` / `n >= max`, `result <= n` / `result < n`) the header uses, the function is
    the `nextPow2W` the theorems are about (`MathUtil.nextPow2V_eq`) -/
theorem math_spelling_extracted (w : Nat) (hw : 1 ≤ w) (n : Nat) :
    nextPow2V Extracted.mathSatStrict Extracted.mathLoopLe w n = nextPow2W w n :=
  nextPow2V_eq hw _ _ n

/-- the constructor rejects a capacity whose doubled byte count does not fit (repair of F32). On the pinned header this is
    `false` and the obligation fails: `MathUtil.C01_unrepaired_flag_witness` / the harness oracle exhibit the failing request. -/
theorem math_ctor_rejects_oversized : Extracted.mathCtorRejectsOversized = true := by decide

/-- `C01_storage_exact` for the extracted constructor: accepted ⇒ exactly `2·capacity` bytes; rejected ⇒ throws before storage -/
theorem C01_storage_exact_extracted (w req pct : Nat) :
    (∃ c, boundedCtorR Extracted.mathCtorRejectsOversized w req pct = some c ∧ c.allocBytes = 2 * c.capacity) ∨
    boundedCtorR Extracted.mathCtorRejectsOversized w req pct = none := by
  rw [math_ctor_rejects_oversized]
  rcases C01_storage_exact w req pct with ⟨c, h, _, ha⟩ | ⟨h, _⟩
  · exact Or.inl ⟨c, h, ha⟩
  · exact Or.inr h

end Obligations
