import QuillModel.Extracted.Backend
/-! Structural facts the end-to-end backend model builds in, re-checked on the current headers — the part that
    property C05 rests on (own module: a broken fact breaks this property's proof side only). -/
namespace Obligations

/-- C05: timestamp taken before the context is looked up; one cut-off per pass, sampled before the cache refresh;
    a future timestamp stops the read; strict minimum; the batch loops are guarded by the pending check; the unbounded
    read looks again when the buffer it switched to is empty (F25) -/
theorem structure_C05 :
    Extracted.timestampBeforeContext = true ∧ Extracted.refreshAfterSample = true ∧
    Extracted.refreshAlsoBeforeSampleInPoll = false ∧ Extracted.stopsOnFutureTimestamp = true ∧
    Extracted.strictMinimum = true ∧ Extracted.batchGuardInPoll = true ∧ Extracted.batchGuardInExit = true ∧
    Extracted.unboundedReadFollowsEmptyBuffers = true := by decide

end Obligations
