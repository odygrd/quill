import QuillModel.Extracted.Backend
/-! Structural facts the end-to-end backend model builds in, re-checked on the current headers — the part that
    property C08 rests on (own module: a broken fact breaks this property's proof side only). -/
namespace Obligations

/-- C08: only ordinary log events are counted; the Flush path reports the counters before it removes contexts; the
    clean-up keeps a context whose counter is non-zero; the counter is incremented by a read-modify-write and reset by an
    `exchange(0)` whose result is what is reported -/
theorem structure_C08 : Extracted.countsOnlyLogEvents = true ∧ Extracted.reportBeforeFlushCleanup = true ∧
    Extracted.cleanupKeepsUnreported = true ∧ Extracted.counterResetAtomic = true := by decide

end Obligations
