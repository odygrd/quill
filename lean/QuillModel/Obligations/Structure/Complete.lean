import QuillModel.Extracted.Backend
/-! Structural facts the end-to-end backend model builds in, re-checked on the current headers — what every backend
    property rests on: the extraction found every construct it looks for. -/
namespace Obligations

theorem backend_extraction_complete : Extracted.backendFailures = [] := by decide

end Obligations
