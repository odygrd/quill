import QuillModel.Extracted.Pattern
import QuillModel.Props.C12
/-!
Side-conditions of the C12 theorems, re-proved for what the extraction reads off the current headers. The model
(`Pattern/Model.lean`) has the attribute tables, the scanner rules and the split rules built in; these obligations state
that the tables and structural facts extracted from `PatternFormatter.h`, `PatternFormatterOptions.h`,
`MacroMetadata.h`, `BackendWorker.h`, `Common.h` and `LogMacros.h` are the ones the model was written for. An edit that
swaps two table entries, drops the appended newline, changes an accessor of `MacroMetadata` or the multi-line guard
makes this file stop compiling.
-/
namespace Obligations
open Pattern

/-- C++ enumerator of each attribute -/
def cppName : Attr → String
  | .time => "Time" | .fileName => "FileName" | .callerFunction => "CallerFunction" | .logLevel => "LogLevel"
  | .logLevelShortCode => "LogLevelShortCode" | .lineNumber => "LineNumber" | .logger => "Logger"
  | .fullPath => "FullPath" | .threadId => "ThreadId" | .threadName => "ThreadName" | .processId => "ProcessId"
  | .sourceLocation => "SourceLocation" | .shortSourceLocation => "ShortSourceLocation" | .message => "Message"
  | .tags => "Tags" | .namedArgs => "NamedArgs"

theorem pattern_extraction_complete : Extracted.patternFailures = [] := by decide +kernel

/- The table comparisons below are `rfl`: both sides unfold to `String.toList` of the same literals, entry by entry, so
   no string is ever converted (deciding the equality would convert every one, in time quadratic in its length). -/

/-- sixteen attributes, in the enum order of the model -/
theorem pattern_enum : Extracted.attrEnum.map String.toList = Attr.all.map (fun a => (cppName a).toList) ∧
    Extracted.attrEnum.length = nrItems ∧ (Attr.all.map Attr.idx) = List.range 16 := ⟨rfl, rfl, rfl⟩

/-- the `"name"_a` list (slot ids) is the model's name table, in enum order, names unique -/
theorem pattern_arg_names : Extracted.argNames.map String.toList = Attr.all.map Attr.name ∧
    (Extracted.argNames.map String.toList).Nodup := by
  have h : Extracted.argNames.map String.toList = Attr.all.map Attr.name := rfl
  rw [h]
  -- unique, because the lookup finds every attribute under its own name
  exact ⟨rfl, List.Pairwise.map _ (fun _ _ hne e => hne (name_inj e)) (by decide : Attr.all.Nodup)⟩

/-- `_attribute_from_string` maps every name to the enumerator at the same position -/
theorem pattern_attr_map :
    Extracted.attrMap.map (fun p => (p.1.toList, p.2.toList)) = Attr.all.map (fun a => (a.name, (cppName a).toList)) :=
  rfl

/-- `_set_arg<Attribute::X>("x")`: every slot is initialised with its own attribute, enum order -/
theorem pattern_set_arg_seq :
    Extracted.setArgSeq.map (fun p => (p.1.toList, p.2.toList)) = Attr.all.map (fun a => ((cppName a).toList, a.name)) :=
  rfl

/-- `format()` fills the attributes in the model's `formatOrder`, each from its own source, each guarded by its own
    `_is_set_in_pattern` bit — except `Message`, which is filled unconditionally and last -/
theorem pattern_format_seq :
    Extracted.formatSeq.map (fun p => (p.1.toList, p.2.1.toList, p.2.2.toList)) =
      formatOrder.map (fun a => ((cppName a).toList, a.name, if a = .message then [] else (cppName a).toList)) := by
  simp only [formatOrder, List.map_cons, List.map_nil, reduceCtorEq, if_false, if_true]
  rfl

/-- the scanner rules the model implements -/
theorem pattern_scanner_facts :
    Extracted.appendsNewline = true ∧ Extracted.orderFillIsLast = true ∧ Extracted.argIdxIsUint8 = true ∧
    Extracted.fieldStartIsPercentParen = true ∧ Extracted.fieldEndIsFirstCloseParen = true ∧
    Extracted.specStartsAtFirstColon = true ∧ Extracted.unterminatedThrows = true ∧ Extracted.unknownThrows = true ∧
    Extracted.rescansFromStart = true ∧ Extracted.slotIsArgIdxPostIncrement = true ∧
    Extracted.replacementPlain.toList = ['{', '}'] ∧ Extracted.replacementSpecOpen.toList = ['{'] ∧
    Extracted.replacementSpecClose.toList = ['}'] ∧
    Extracted.emptyPatternReturnsEmpty = true ∧ Extracted.vformatOnRewrittenString = true ∧
    Extracted.namedArgsKeyValueSep.toList = [':', ' '] ∧ Extracted.namedArgsPairSep.toList = [',', ' '] := by decide +kernel

/-- `MacroMetadata`: last colon, after the last slash, and the five accessors -/
theorem pattern_metadata_facts :
    Extracted.colonIsLastColon = true ∧ Extracted.fileNameAfterLastSlash = true ∧
    Extracted.metaSourceLocation.toList = "_source_location".toList ∧
    Extracted.metaLine.toList = "_source_location+_colon_separator_pos+1".toList ∧
    Extracted.metaFullPath.toList = "std::string_view{_source_location,_colon_separator_pos}".toList ∧
    Extracted.metaFileName.toList =
      "std::string_view{_source_location+_file_name_pos,static_cast<size_t>(_colon_separator_pos-_file_name_pos)}".toList ∧
    Extracted.metaShort.toList = "_source_location+_file_name_pos".toList := ⟨rfl, rfl, rfl, rfl, rfl, rfl, rfl⟩

/-- backend: multi-line guard, strip rule, split loop, runtime-metadata split; a sink's override pattern is selected per
    sink on the write path by the sink's options (its formatter created there on first use), not where the logger's
    formatter is set up or shared — the model's `patternFor` rule (`C12_sink_pattern_rule`) -/
theorem pattern_backend_facts :
    Extracted.multiLineGuard = true ∧ Extracted.stripsOneTrailingNewline = true ∧ Extracted.splitLoop = true ∧
    Extracted.runtimeSplitsOnSeparator = true ∧ Extracted.runtimeMetadataArgs = true ∧ Extracted.runtimeMacroOrder = true ∧
    Extracted.runtimeFileLineJoin.toList = [':'] ∧ Extracted.defaultAddMetadata = true ∧
    Extracted.overrideChosenOnWritePath = true := by decide +kernel

/-- the separator the runtime-metadata theorem is proved for -/
theorem pattern_magic_separator : Extracted.magicSeparator.map Char.ofNat = magicSep := by decide +kernel

/-- the default pattern is the item list `defaultItems`, which meets the hypotheses of the main theorem -/
theorem pattern_default_is_wellformed :
    Extracted.defaultPattern.toList = printPattern defaultItems ∧ WF defaultItems ∧ NoBrace defaultItems :=
  ⟨printPattern_defaultItems.symm, defaultItems_hyps.1, defaultItems_hyps.2.1⟩

/-- C12 for the default pattern as extracted -/
theorem C12_default_pattern_extracted (vals : Attr → Str) :
    formatPattern Extracted.defaultPattern.toList vals = .line (defaultItems.flatMap (render vals) ++ ['\n']) := by
  rw [pattern_default_is_wellformed.1]
  exact C12_format_eq_substitution_partial defaultItems vals pattern_default_is_wellformed.2.1
    pattern_default_is_wellformed.2.2 defaultItems_hyps.2.2

end Obligations
