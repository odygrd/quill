import QuillModel.Extracted.Pattern
import QuillModel.Props.C12
/-!
C16 ("each sink receives the line formatted with its own override pattern if it has one, else the logger's") rests on one
fact of the pattern bundle: the pattern a sink gets does not depend on the order in which loggers were first dispatched nor on
which loggers share a formatter. A file apart from `Obligations/Pattern.lean`, so that C16's proof side depends on this fact only.
-/
namespace Obligations
open Pattern

/-- the override formatter of a sink is selected (and lazily created) on the write path, per sink — not inside the block that
    creates a logger's formatter, which is skipped when the formatter of another logger with equal options is shared -/
theorem sink_override_on_write_path : Extracted.overrideChosenOnWritePath = true := by decide

/-- for the code as extracted: whatever the history of dispatches and the starting state of the formatter cache, every
    sink gets `patternFor sink logger` -/
theorem C16_sink_pattern_extracted (cfg : Config) (ls : List Nat) (st : BState) :
    runHistory (!Extracted.overrideChosenOnWritePath) cfg st ls = ls.map (ruleFor cfg) := by
  rw [sink_override_on_write_path]
  exact (C12_sink_pattern_independent_of_history cfg ls st st).1

end Obligations
