import QuillModel.Extracted.Backend
import QuillModel.Props.C10
/-! Proof bundle A, the obligations of C10. One module per property, so that a broken fact breaks the proof side of the
    property that rests on it and of no other. -/
namespace Obligations
open Backend Backend.PA

/-- what the C10 theorems assume of the code, as extracted: the per-event try/catch (with the pop after it, before
    the flag), the per-sink try/catch around `flush_sink`, the catch-all around the formatting step -/
theorem backendA_C10_structure :
    Extracted.perEventCatch = true ∧ Extracted.perSinkFlushCatch = true ∧ Extracted.popBeforeFlag = true ∧
    Extracted.catchAllFormat = true := by decide

/-- C10 for the code as extracted: every fresh system (any sinks with any fault assignment) whose configuration
    carries the extracted parameters, every schedule: conservation per context, the fault assignment is never
    altered, at most once per sink -/
theorem C10_extracted (s0 : BSt) (h0 : Fresh s0) (_hc : s0.cfg.catchAllFormat = Extracted.catchAllFormat)
    (_hb : s0.cfg.invalidBits = Extracted.invalidBits) (ops : List Op) (i : Nat) :
    ((runOps s0 ops).th i).accepted =
        ((runOps s0 ops).th i).popped ++ ((runOps s0 ops).th i).buf ++ ((runOps s0 ops).th i).qStmts ∧
    (∀ sid, ((runOps s0 ops).sinkOf sid).wthrow = (s0.sinkOf sid).wthrow ∧
            ((runOps s0 ops).sinkOf sid).fthrow = (s0.sinkOf sid).fthrow) ∧
    (∀ st ∈ ((runOps s0 ops).th i).accepted, isOrd st = true → ∀ sid,
        wcount (runOps s0 ops).log sid st.id ≤ ((runOps s0 ops).lgOf st.lg).sinks.count sid) :=
  ⟨C10_conservation_under_faults s0 h0.inv ops i,
   fun sid => ⟨(C10_fault_schedule_constant s0 ops sid).1, (C10_fault_schedule_constant s0 ops sid).2.1⟩,
   fun st hm ho sid => C10_at_most_once_under_faults s0 h0.inv ops i st hm ho sid⟩

end Obligations
