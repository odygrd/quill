import QuillModel.Extracted.Backend
import QuillModel.Props.C07Drain
/-! Proof bundle C, the obligations of C07. One module per property, so that a broken fact breaks the proof side of the
    property that rests on it and of no other. -/
namespace Obligations.BackendC
open Backend

/-- `_exit` has the shape `exitLoop` mirrors: loop until the emptiness check says yes, then report the failure
    counters, flush the sinks and leave the loop; the batch loop inside is guarded by the pending check; contexts
    and loggers are reclaimed after the loop -/
theorem c07_structure : Extracted.exitDrainShape = true ∧ Extracted.batchGuardInExit = true := by decide

theorem C07_exit_drains_extracted (s0 : BSt) (h0 : DrainFresh s0) (ops : List Op)
    (hg : (runOps s0 ops).backendGone = false)
    (he : PC.exitEnds (runInj []) 1000 100000 { runOps s0 ops with siteCnt := [] }) :
    ∀ i, i < (applyOp (runOps s0 ops) .exit).1.ths.length →
      ((applyOp (runOps s0 ops) .exit).1.th i).accepted = ((applyOp (runOps s0 ops) .exit).1.th i).popped :=
  fun i hi => ((C07_exit_drains s0 h0 ops hg he).1 i hi).2.2

end Obligations.BackendC
