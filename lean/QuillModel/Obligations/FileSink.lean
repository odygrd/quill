import QuillModel.Extracted.Filesink
import QuillModel.Props.C06Sink
/-!
Side-conditions of the sink half of C06, re-proved for the structure extracted from the current `sinks/StreamSink.h` and
`sinks/FileSink.h`: every path of `StreamSink::write_log` that reaches `fwrite` — with or without the `before_write`
callback — sets `_write_occurred` before it returns; `flush_sink` ends in `flush()` = reset the flag + `fflush(_file)`;
`FileSink::flush_sink` tests the same flag and delegates. If an edit lets one write path forget the flag this file stops
compiling and the check relies on the harness's oracle (a second descriptor reading the file after `flush_sink()`).
-/
namespace Obligations
open FileSink

theorem filesink_extraction_complete : Extracted.filesinkFailures = [] := by decide +kernel

/-- every writing path marks the stream dirty -/
theorem filesink_params_ok : Extracted.fileSinkParams.OK := by decide +kernel

theorem filesink_structure :
    Extracted.fileSinkStructure =
      [("hookPathCallsCallbackBeforeWrite", true), ("oneWritePerPath", true), ("flushCallsFlush", true),
       ("flushFflushes", true), ("fileFlushDelegates", true), ("flagStartsFalse", true)] := rfl

/-- `flush_sink()` makes everything written so far readable, for the code as extracted -/
theorem C06_sink_flush_makes_readable_extracted (ops : List Op) :
    (step Extracted.fileSinkParams (run Extracted.fileSinkParams {} ops) .flush).file = stmtsOf ops ∧
    (step Extracted.fileSinkParams (run Extracted.fileSinkParams {} ops) .flush).buf = [] :=
  C06_sink_flush_makes_readable _ filesink_params_ok ops

end Obligations
