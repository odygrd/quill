import QuillModel.Extracted.Codec
import QuillModel.Props.C04
/-!
Side-conditions of the C04 theorems, re-proved for what `tools/extractors/codec.py` found in the current headers.
An edit that makes a shortcut apply to a non-arithmetic element, drops the element-count prefix on one side only,
counts the dynamic level without writing it (or vice versa), changes the clearing rule or the escape format stops this
file from compiling — the obligation is broken and the check goes looking for a failing input.
-/
namespace Obligations

theorem codec_extraction_complete : Extracted.codecFailures = [] := by decide +kernel

/-- the cached lengths are `uint32_t` (where the model truncates) — capacity and growth of the vector are C11's subject
    (`Obligations/CodecAlloc.lean`); the C04 theorems hold for every capacity -/
theorem codec_cache_elem : Extracted.cacheElemBytes = 4 := by decide +kernel

/-- no std/ codec `memcpy`s `pair` elements (side condition `ki.ok` of `wf`) -/
theorem codec_kinds_ok : Extracted.kindTable.all (fun p => p.2.ok) = true := by decide +kernel

/-- the ten container families are all there, with the structure the model's `Arg.seq` interprets -/
theorem codec_kind_names : Extracted.kindTable.map (·.1) =
    ["vector", "deque", "list", "forward_list", "set", "unordered_set", "map", "unordered_map", "array", "carray"] := rfl

/-- every shortcut is guarded by `is_arithmetic || is_enum` only (the model's `PrimKind.fast`), on the element type
    (on both `Key` and `T` for the map families) -/
theorem codec_fast_traits :
    Extracted.fastTraits.all (fun p => p.2.all (fun t => t.1 == "is_arithmetic" || t.1 == "is_enum")) = true ∧
    Extracted.kindTable.all (fun p =>
      (!p.2.fastSize || (Extracted.fastTraits.lookup (p.1 ++ ".size")).isSome) &&
      (!p.2.fastEncode || (Extracted.fastTraits.lookup (p.1 ++ ".encode")).isSome) &&
      (!p.2.mapLike || (Extracted.fastTraits.lookup (p.1 ++ ".size")) ==
          some [("is_arithmetic", "Key"), ("is_enum", "Key"), ("is_arithmetic", "T"), ("is_enum", "T")])) = true := by
  decide +kernel

/-- header pointers counted = written = read; dynamic level counted ⇔ written ⇔ read; the size reserved is the size
    committed -/
theorem codec_framing_consistent :
    Extracted.hdrPtrsWritten = Extracted.frame.nPtrs ∧ Extracted.hdrPtrsRead = Extracted.frame.nPtrs ∧
    Extracted.lvlCounted = Extracted.lvlWritten ∧ Extracted.lvlWritten = Extracted.lvlRead ∧
    Extracted.sameSizeReservedCommitted = true ∧ 0 < Extracted.frame.tsBytes := by decide +kernel

/-- the clearing rule of the model (`needsClear`: everything but plain objects and `std::string`/`string_view`) -/
theorem codec_clear_rule :
    Extracted.clearExempt = ["is_arithmetic", "is_enum", "is_same:void const*", "is_std_string", "is_same:std::string_view"] ∧
    Extracted.clearsCache = true ∧ Extracted.encodeStartsAtZero = true := ⟨rfl, rfl, rfl⟩

/-- … and *where* it clears: at the start of the size pass, before anything is sized (`sizeStatementAt true`), while
    the encode pass only reads the cache (`const&`, no `clear`/`push_back`/`assign`) — so a statement dropped or
    rejected between the two passes leaves nothing behind (`C04_drop_leaves_nothing`; the other placement is refuted by
    `C04_clear_position_matters`) -/
theorem codec_clear_position :
    Extracted.clearAtStart = true ∧ Extracted.encodeCacheConst = true ∧ Extracted.encodeMutatesCache = false := by decide +kernel

/-- C04 after any history of logged and dropped statements, for the record layout as extracted -/
theorem C04_extracted_after_drops (old : Codec.Mem) (c : Codec.Cache) (ops : List Codec.StmtOp) (args : List Codec.Arg)
    (pos : Nat) (dyn : Bool) (hdr lvl rest : Codec.Bytes) (h : Codec.wfL args = true)
    (hh : hdr.length = Extracted.frame.header) (hl : lvl.length = if dyn then Extracted.frame.lvlBytes else 0) :
    ∃ record, Codec.writeRecord old (Codec.cacheAfter Extracted.clearAtStart c ops) pos hdr args lvl = some record ∧
      record.length = Codec.reserved Extracted.frame c args dyn ∧
      Codec.readRecord Extracted.frame (Codec.shapesOf args) pos dyn (record ++ rest) =
        some (hdr, Codec.viewL args, lvl, rest) := by
  rw [codec_clear_position.1]
  obtain ⟨record, h1, h2, h3, h4⟩ :=
    Codec.C04_framing_after_drops old Extracted.frame c ops args pos dyn hdr lvl rest h hh hl
  exact ⟨record, h1, by rw [h2, h3], h4⟩

/-- the escape is backslash, `x`, high nibble, low nibble in upper-case hex; bytes ≥ 0x80 fail the predicate under
    either signedness of `char`; the sanitiser runs only for statements with a string related argument -/
theorem codec_escape_format :
    Extracted.escapePrefix = [92, 120] ∧ Extracted.escapeHex = "0123456789ABCDEF" ∧
    Extracted.escapeNibbles = ["hex[(c>>4)&0xF]", "hex[c&0xF]"] ∧ Extracted.printable.hi < 128 ∧
    Extracted.printable.extra.all (· < 128) = true ∧ Extracted.sanitizeGuard = true :=
  ⟨rfl, rfl, rfl, by decide +kernel, by decide +kernel, rfl⟩

/-- both loops of `sanitize_non_printable_chars` call the user's `check_printable_char` on every byte, first thing in
    the loop body (the model's `sanitizeBy`, `C04_sanitize_any_predicate`; a range shortcut before the call is refuted by
    `C04_sanitize_shortcut_misses`) -/
theorem codec_sanitize_every_byte : Extracted.sanitizeAsksEveryByte = true := by decide +kernel

/-- `Codec<std::set/multiset>::decode_arg` rebuilds the container with the argument type's comparator (`std::less`
    rebound to the decoded key type, any other comparator kept): the backend iterates it in encode order
    (`C04_set_view_in_encode_order`; a re-sorting decode is refuted by `C04_resorting_decode_differs`) -/
theorem codec_set_order : Extracted.setKeepsComparator = true := by decide +kernel

/-- the events that `_populate_transit_event_from_frontend_queue` excludes (`event() != MacroMetadata::Event::…`) before it
    decodes the arguments are members of `enum MacroMetadata::Event`, and `Log` — the event the model's record stands
    for — is one of the enum's members -/
theorem codec_events : Extracted.unformattedEvents.all (Extracted.macroEvents.contains ·) = true ∧
    Extracted.macroEvents.contains "Log" = true := by decide +kernel

/-- `DirectFormatCodec` caches one length per argument (`lens (.direct _)`); `DeferredFormatCodec` has the slack
    `sizeof(T) + alignof(T) - 1` at its three sites — size pass, encode pass, decoder (the model's `.nonpod`) -/
theorem codec_user_codecs : Extracted.directPushes = 1 ∧ Extracted.nonpodSlackSites = 3 := by decide +kernel

/-- C04 framing for the record layout as extracted -/
theorem C04_extracted (old : Codec.Mem) (c : Codec.Cache) (args : List Codec.Arg) (pos : Nat) (dyn : Bool)
    (hdr lvl rest : Codec.Bytes) (h : Codec.wfL args = true) (hh : hdr.length = Extracted.frame.header)
    (hl : lvl.length = if dyn then Extracted.frame.lvlBytes else 0) :
    ∃ record, Codec.writeRecord old c pos hdr args lvl = some record ∧
      record.length = Codec.reserved Extracted.frame c args dyn ∧
      Codec.readRecord Extracted.frame (Codec.shapesOf args) pos dyn (record ++ rest) =
        some (hdr, Codec.viewL args, lvl, rest) :=
  Codec.C04_framing old Extracted.frame c args pos dyn hdr lvl rest h hh hl

end Obligations
