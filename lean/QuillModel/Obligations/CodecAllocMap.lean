import QuillModel.Extracted.Codec
import QuillModel.Props.C11
/-!
The C11 obligation that finding F16 broke on the pinned tree, in a module of its own: no container codec copies its
elements into temporaries (`pairTemp = false` for every family). Before the repair (`quill/std/Map.h` /
`UnorderedMap.h` handing `pair<const Key,T>` elements to `Codec<std::pair<Key,T>>`) this file did not compile and only
the proved negation `Codec.C11_map_pair_temporary_allocates` and `C11_no_events` under `listed` were available; since the
`fix:` commit the key and the mapped value go through their own codecs and maps of listed types are covered in full.
A reversion flips the extracted flag, breaks this module and is exhibited by `corpus/C11/f16_map_pair_temporary.txt`.
-/
namespace Obligations

theorem alloc_no_pair_temporaries : Extracted.kindTable.all (fun p => !p.2.pairTemp) = true := by decide +kernel

/-- with that, every container of listed element types is listed, whatever its family -/
theorem C11_maps_listed (name : String) (ki : Codec.KindInfo) (hk : (name, ki) ∈ Extracted.kindTable)
    (es : Codec.Shape) (elems : List Codec.Arg) : Codec.listed (.seq ki es elems) = Codec.listedL elems := by
  have h := alloc_no_pair_temporaries
  rw [List.all_eq_true] at h
  have := h (name, ki) hk
  exact Codec.C11_listed_of_no_pair_temporaries ki es elems (by simpa using this)

/-- C11 in full for the repaired code: every container family of the extracted table, with listed element types
    (`listedL elems`), is listed — so `C11_no_events` covers `std::map<std::string,int>` like any other container -/
theorem C11_no_events_maps (name : String) (ki : Codec.KindInfo) (hk : (name, ki) ∈ Extracted.kindTable)
    (es : Codec.Shape) (elems : List Codec.Arg) (fe : Codec.Frontend) (dyn : Bool)
    (h : Codec.wfL [Codec.Arg.seq ki es elems] = true) (hreg : fe.registered = true)
    (hcache : (Codec.lensL [Codec.Arg.seq ki es elems]).length ≤ fe.cache.cap)
    (hfit : fe.queue.fits (Codec.reserved Extracted.frame fe.cache [Codec.Arg.seq ki es elems] dyn) = true)
    (hl : Codec.listedL elems = true) :
    (Codec.logCall Extracted.frame fe [Codec.Arg.seq ki es elems] dyn).1 = [] :=
  Codec.C11_no_events Extracted.frame fe _ dyn h hreg hcache hfit
    (by simp [Codec.listedL, C11_maps_listed name ki hk es elems, hl])

end Obligations
