import QuillModel.Extracted.Backend
import QuillModel.Props.C17Removal
/-! Proof bundle C, the obligations of C17. One module per property, so that a broken fact breaks the proof side of the
    property that rests on it and of no other. -/
namespace Obligations.BackendC
open Backend

/-- the constructs `cleanupLoggers`, `applyFront (.removeBlocking …)` and `afterEnq` mirror are in place:
    `LoggerManager::cleanup_invalidated_loggers` erases an invalid logger only in the else-branch of
    `!check_queues_empty()`, re-evaluated for every invalid logger; that check is
    `_check_frontend_queues_and_cached_transit_events_empty` (all queues and transit buffers); the removal flag is
    stored after the erase and after the sink pruning; `remove_logger_blocking` enqueues its request before it
    invalidates the logger and waits for the flag afterwards -/
theorem c17_structure :
    Extracted.eraseGuardedByEmptyCheck = true ∧ Extracted.checksQueuesPerLogger = true ∧
    Extracted.emptyCheckIsAllQueues = true ∧ Extracted.removalFlagAfterErase = true ∧
    Extracted.removalRequestBeforeInvalidate = true := by decide

theorem C17_erased_logger_has_no_record_extracted (s0 : BSt) (h0 : LoggerFresh s0) (ops : List Op) :
    ∀ i, i < (runOps s0 ops).ths.length → ∀ st,
      (st ∈ ((runOps s0 ops).th i).qStmts ∨ st ∈ ((runOps s0 ops).th i).buf) →
      ((runOps s0 ops).lgOf st.lg).erased = false :=
  (C17_erased_logger_has_no_record s0 h0 ops).1

/-- instance of the global removal theorem: with the flag stored after the erase and the request enqueued before the
    invalidation (`c17_structure`), a raised removal flag means the named logger object is erased -/
theorem C17_removal_flag_after_erase_extracted (s0 : BSt) (h0 : RemovalFresh s0) (ops : List Op) (i : Nat) (st : Stmt)
    (f : Nat) (hst : st ∈ ((runOps s0 ops).th i).accepted) (hk : st.kind = .removal f) (hf : f ∈ (runOps s0 ops).flags) :
    ((runOps s0 ops).lgOf st.lg).erased = true :=
  C17_removal_flag_after_erase s0 h0 ops i st f hst hk hf

end Obligations.BackendC
