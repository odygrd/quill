import QuillModel.Obligations.BackendB_C06
import QuillModel.Obligations.BackendB_C09
import QuillModel.Obligations.BackendB_Common
/-! Umbrella of the per-property obligation modules of proof bundle B (`BackendB_<Cxx>.lean`). -/
