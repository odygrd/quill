import QuillModel.Extracted.Backend
import QuillModel.Props.C05
/-! Proof bundle B, the obligations of C05. One module per property, so that a broken fact breaks the proof side of the
    property that rests on it and of no other. -/
namespace Obligations
open Backend

/-- what `C05_statement_order` assumes of the code, as extracted -/
theorem backendB_order_structure :
    Extracted.refreshAfterSample = true ∧ Extracted.stopsOnFutureTimestamp = true ∧
    Extracted.readLoopShape = true ∧ Extracted.strictMinimum = true ∧
    Extracted.batchGuardInPoll = true ∧ Extracted.batchGuardInExit = true := by decide

/-- C05 for the code as extracted: every configuration that carries the extracted refresh order -/
theorem C05_extracted (s0 : BSt) (h0 : Start s0) (hg : s0.cfg.grace ≠ 0)
    (hc : s0.cfg.refreshAfterSample = Extracted.refreshAfterSample) (ops : List Op)
    (hp : GracePremise (runOps s0 ops)) :
    (((runOps s0 ops).popLog.reverse.filter (fun st => st.kind = .log ∧ st.lvl ≠ 9)).map (·.ts)).Pairwise (· ≤ ·) :=
  C05_statement_order s0 h0 hg (hc.trans backendB_order_structure.1) ops hp

end Obligations
