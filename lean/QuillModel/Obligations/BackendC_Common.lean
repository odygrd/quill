import QuillModel.Extracted.Backend
/-! Proof bundle C: the extraction of the backend facts reported no failure (needed by each of its properties). -/
namespace Obligations.BackendC

theorem extraction_complete : Extracted.backendFailures = [] := by decide

end Obligations.BackendC
