import QuillModel.Extracted.Named
import QuillModel.Props.C19Json
/-!
C10 ("a throwing sink disturbs nothing else") for the one concrete sink of the library that keeps a buffer across
statements, the JSON sink: the extracted position of the buffer reset and the fault theorem instantiated with it.
Kept apart from `Obligations/Named.lean` so that C10's proof side depends on these two facts only.
-/
namespace Obligations
open Named

/-- `JsonSink::write_log` empties its line buffer before the (virtual, possibly throwing) `generate_json_message` call -/
theorem json_sink_clear_before_generate :
    Extracted.jsonSinkParams.clearBefore = true ∧ Extracted.jsonWriteOrderOK = true := by decide +kernel

/-- for the code as extracted: whatever statements fault (half-way through the record or at the write), the file holds exactly
    the lines of the statements that did not, and every fault is reported once -/
theorem C10_json_sink_faults_extracted (stmts : List JStmt) :
    (runJson Extracted.jsonLayout Extracted.jsonSinkParams {} stmts).file =
      (stmts.filter (fun st => decide (st.fault = .none))).flatMap
        (fun st => jsonLine Extracted.jsonLayout st.h st.tmpl st.pairs) ∧
    (runJson Extracted.jsonLayout Extracted.jsonSinkParams {} stmts).reports =
      (stmts.filter (fun st => decide (st.fault ≠ .none))).length :=
  C19_json_faults_leave_nothing _ _ json_sink_clear_before_generate.1 stmts

end Obligations
