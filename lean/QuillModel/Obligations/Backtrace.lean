import QuillModel.Extracted.Backtrace
import QuillModel.Props.C18
/-!
Side-conditions of the C18 theorems, re-proved for the values extracted from the current headers
(`BacktraceStorage.h`, `BackendWorker.h::_process_transit_event`, `LogLevel.h`). If an edit reverts the repair
of F1 (`_index = 0` after `clear()`) or of F2 (the capacity-0 guard), starts the walk elsewhere, drops the
`clear()`, changes the wrap bound or the comparison against the flush level, or reorders the level enum, this
file stops compiling — the proof obligation is broken and the check goes looking for a failing history.
-/
namespace Obligations
open Backtrace

theorem bt_extraction_complete : Extracted.backtraceFailures = [] := by decide

theorem bt_resets_index_on_flush : Extracted.backtraceParams.resetsIndexOnFlush = true := by decide

theorem bt_guards_zero_capacity : Extracted.backtraceParams.guardsZeroCapacity = true := by decide

theorem bt_ring_ok : Extracted.backtraceParams.RingOK := by decide

theorem bt_flush_cmp_ge : Extracted.backtraceParams.flushCmp = .ge := by decide

theorem bt_params_ok : Extracted.backtraceParams.OK := ⟨bt_ring_ok, bt_flush_cmp_ge⟩

/-- order of the branches of `_process_transit_event` that the model's `applyAction` / `stepEv` assume -/
theorem bt_dispatch_structure :
    Extracted.writesBeforeReplay = true ∧ Extracted.backtraceBranchStoresOnly = true ∧
    Extracted.explicitFlushReplays = true ∧ Extracted.initSetsCapacity = true := by decide

theorem bt_levels_ok : LevelsOK Extracted.levelTable = true := by decide +kernel

/-- ranks of the two special levels in the extracted enum -/
def btRank : Nat := (rank Extracted.levelTable "Backtrace").getD 0
def noneRank : Nat := (rank Extracted.levelTable "None").getD 0

theorem bt_ranks_found :
    rank Extracted.levelTable "Backtrace" = some btRank ∧ rank Extracted.levelTable "None" = some noneRank := by
  decide +kernel

/-- with the default flush level (`None`) no statement of any severity triggers a replay, and with a severity
    as flush level exactly the severities at or above it (documented order) trigger -/
theorem bt_trigger_table :
    severityOrder.all (fun a => severityOrder.all (fun f =>
      match rank Extracted.levelTable a, rank Extracted.levelTable f with
      | some la, some lf =>
        (action Extracted.backtraceParams.flushCmp btRank noneRank (.log 0 la 1)).flush == false &&
        ((action Extracted.backtraceParams.flushCmp btRank lf (.log 0 la 1)).flush ==
          decide (severityOrder.idxOf a ≥ severityOrder.idxOf f)) &&
        (action Extracted.backtraceParams.flushCmp btRank lf (.log 0 la 1)).write &&
        !(action Extracted.backtraceParams.flushCmp btRank lf (.log 0 la 1)).store
      | _, _ => false)) = true := by decide +kernel

/-- C18 (ring) for the code as extracted -/
theorem C18_ring_extracted {α : Type} (ops : List (Op α)) :
    trace Extracted.backtraceParams {} ops = Spec.trace {} ops ∧
    (run Extracted.backtraceParams {} ops).ub = false :=
  ⟨(C18_ring_refines _ bt_ring_ok ops).1, (C18_ring_refines _ bt_ring_ok ops).2.1⟩

theorem C18_flush_extracted {α : Type} (ops : List (Op α)) :
    (process Extracted.backtraceParams (run Extracted.backtraceParams {} ops)).2 =
      lastN (capacity ops) (pending ops) :=
  (C18_flush_emits_lastN _ bt_ring_ok ops).1

/-- C18 (backend decisions + ring) for the code as extracted -/
theorem C18_backend_extracted (es : List Ev) :
    runEv Extracted.backtraceParams btRank (BSt.init noneRank) es = specRunEv btRank (SSt.init noneRank) es :=
  C18_backend_refines _ bt_params_ok btRank noneRank es

end Obligations
