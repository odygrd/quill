import QuillModel.Extracted.Faults
import QuillModel.Props.Faults
/-!
Extraction obligations of the fault machine: the three structural facts `FCfg` is parametric in hold of the current
headers, so the theorems of `Props/Faults.lean` speak about the machine the code implements (`FCfg` with every flag true).
-/
namespace Obligations
open Backend

theorem faults_extraction_complete : Extracted.faultsFailures = [] := by decide

/-- the override formatter is created inside the per-sink loop, after the filter test, before `write_log`, nowhere else -/
theorem override_formatter_created_in_loop_after_filter :
    Extracted.overrideFormatterCreatedInsideSinkLoopAfterFilter = true := by decide

/-- no try/catch inside the read pass: an exception raised while one queue is read ends the pass and the poll -/
theorem read_pass_has_no_catch : Extracted.readPassHasNoCatch = true := by decide

/-- both handlers of `_process_lowest_timestamp_transit_event` call the notifier directly, whatever the text -/
theorem process_handlers_notify_unconditionally : Extracted.processHandlersNotifyUnconditionally = true := by decide

/-- the machine for the code as extracted -/
def extractedFCfg : FCfg :=
  { patInLoop := Extracted.overrideFormatterCreatedInsideSinkLoopAfterFilter, readAborts := Extracted.readPassHasNoCatch,
    notifyAlways := Extracted.processHandlersNotifyUnconditionally }

theorem C10_fault_reported_kind_extracted (s : BSt) (i : Nat) (st : Stmt) (rest : List Stmt)
    (hk : st.kind = .log) (hl : st.lvl ≠ 9) (m : String) (hx : (dispatchF extractedFCfg s st).2 = some m) :
    (popStepF extractedFCfg s i st rest).log = Ev.notify m :: (dispatchF extractedFCfg s st).1.log :=
  C10_fault_reported_kind extractedFCfg process_handlers_notify_unconditionally s i st rest hk hl m hx

/-- for the code as extracted the dispatch IS the per-sink loop (nothing is created before it) -/
theorem C16_dispatch_is_loop_extracted (s : BSt) (st : Stmt) :
    dispatchF extractedFCfg s st = writeToSinksF s st (s.lgOf st.lg).sinks := by
  unfold dispatchF extractedFCfg
  simp [override_formatter_created_in_loop_after_filter]

theorem C05_aborted_poll_extracted (inj : BSt → Nat → BSt) (s : BSt) (ha : (populateF extractedFCfg inj s).2.2 = true) :
    pollF extractedFCfg inj s = (populateF extractedFCfg inj s).1.emit (.notify "n:dfail") :=
  C05_aborted_poll_is_the_pass extractedFCfg inj s ha

end Obligations
