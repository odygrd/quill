import QuillModel.Extracted.Codec
import QuillModel.Props.C04
/-!
The obligation behind `C04_store_per_statement`, in a module of its own (C04 and C10 both rest on it): the decoder
stored in every record header, `detail::decode_and_store_args<Args...>`, begins with an unconditional
`args_store.clear()` — no branch on the argument count around it or around the decode — and
`DynamicFormatArgStore::clear()` drops the values, the owned copies and the string-related flag. A change that skips the
reset for some statements (say for an empty argument pack) stops this file from compiling; the check then exhibits the
statement that is formatted from another statement's arguments (harness H3, stream `seq`).
-/
namespace Obligations

theorem codec_store_reset :
    Extracted.decodeClearsStoreFirst = true ∧ Extracted.storeClearResetsAll = true := by decide +kernel

/-- every statement is formatted from its own decoded arguments only — for the decoder as extracted -/
theorem C04_store_extracted (s0 : Codec.Store) (hist : List (List Codec.Shape × Nat × Codec.Bytes))
    (shapes : List Codec.Shape) (pos : Nat) (bs : Codec.Bytes) (p : Option Codec.Printable)
    (fmt : Codec.Bytes → List Codec.Val → Option Codec.Bytes) (err : Codec.Bytes → Codec.Bytes) (fmtStr : Codec.Bytes) :
    (Codec.decodeStatementAt Extracted.decodeClearsStoreFirst shapes pos bs
        (Codec.storeAfter Extracted.decodeClearsStoreFirst s0 hist)).map (fun r => Codec.storeText p fmt err fmtStr r.1) =
      (Codec.decodeStatementAt Extracted.decodeClearsStoreFirst shapes pos bs Codec.Store.empty).map
        (fun r => Codec.storeText p fmt err fmtStr r.1) ∧
    Codec.decodeStatementAt Extracted.decodeClearsStoreFirst [] pos bs
        (Codec.storeAfter Extracted.decodeClearsStoreFirst s0 hist) = some (Codec.Store.empty, bs) := by
  rw [codec_store_reset.1]
  have h := Codec.C04_store_per_statement (fun _ => 0) s0 hist shapes pos bs p fmt err fmtStr
  exact ⟨h.2.1, h.2.2.2⟩

end Obligations
