import QuillModel.Extracted.Rot
import QuillModel.Props.C14
/-!
Side-conditions of the C14 theorems, re-proved for what was extracted from the current `RotatingSink.h`.
The model assumes the structure recorded in `Extracted.rotSizeFacts` (size-trigger comparison and its place before the
write, stop test, empty-file test, oldest-first loop and bump rule, order close → rename → delete → push → open,
deletion from the back of the deque, naming, clean / recover rules, constructor order); how many files one rotation deletes
is the parameter `deletesAllExcess` (`rot_deletes_all_excess`). If an edit to the header changes one of
them this file stops compiling — the proof obligation is broken and the check looks for a failing history on the real
code. (The time-rotation facts are in `Obligations/RotTime.lean`.)
-/
namespace Obligations

theorem rot_extraction_complete : Extracted.rotFailures = [] := by decide +kernel

/-- every structural fact the size / naming / start-up part of the model relies on was found in the header -/
theorem rot_size_facts_hold : Extracted.rotSizeFacts.all (·.2) = true ∧ Extracted.rotSizeFacts.length = 17 := by decide +kernel

/-- the member initialisers are the model's defaults -/
theorem rot_defaults : Extracted.rotDefaults = ({} : Rot.Cfg) := by decide +kernel

theorem rot_enums : Extracted.rotSchemes = ["Index", "Date", "DateAndTime"] ∧
    Extracted.rotFreqs = ["Disabled", "Daily", "Hourly", "Minutely"] := ⟨rfl, rfl⟩

/-- `_rotate_files` removes every file in excess of `max_backup_files` (the repair of F18 is in place) -/
theorem rot_deletes_all_excess : Extracted.rotParams.deletesAllExcess = true := by decide +kernel

/-- the backup bound after a rotation, for the code as extracted -/
theorem C14_bound_extracted (z : Nat → Int) (w : Rot.World) (st : Rot.Stmt) (ts : Nat)
    (hdue : Rot.timeDue w ts ∨ Rot.sizeDue w st.size ts) (hr : Rot.rotates w) :
    (Rot.write Extracted.rotParams z w st ts).sink.created.length - 1 ≤ w.sink.cfg.maxBackup :=
  Rot.C14_index_backup_bound_after_rotation _ rot_deletes_all_excess z w st ts hdue hr

/-- C14 (Index scheme) for the code as extracted — whatever `_time_rotation`'s advance rule is -/
theorem C14_extracted (z : Nat → Int) (fs0 : Rot.FS) (hd : Rot.DirOK fs0) (c0 : Rot.Cfg) (start0 : Nat)
    (hc0 : Rot.RestartOK c0) (ops : List Rot.Op) (hops : ∀ op ∈ ops, Rot.OpAppend op) :
    Rot.IndexInv (Rot.run Extracted.rotParams z (Rot.restart z fs0 c0 start0) ops) ∧
      Rot.diskSeq (Rot.run Extracted.rotParams z (Rot.restart z fs0 c0 start0) ops) <:+
        Rot.diskSeq (Rot.restart z fs0 c0 start0) ++ Rot.written ops :=
  ⟨Rot.C14_index_invariant _ z fs0 hd c0 start0 hc0 ops (fun op ho => (hops op ho).ok),
   Rot.C14_index_sequence _ z fs0 hd c0 start0 hc0 ops hops⟩

end Obligations
