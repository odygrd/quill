import QuillModel.Extracted.Backend
import QuillModel.Props.C03
/-! Proof bundle A, the obligations of C03. One module per property, so that a broken fact breaks the proof side of the
    property that rests on it and of no other. -/
namespace Obligations
open Backend Backend.PA

/-- what the C03 theorems assume of the code, as extracted: the read loop finishes a record only after decoding it
    and commits only what it read; clean-up requires the empty transit buffer; the event is popped inside the
    per-event try/catch path whatever is thrown, and before a flush flag is raised -/
theorem backendA_C03_structure :
    Extracted.readLoopShape = true ∧ Extracted.cleanupNeedsEmptyBuffer = true ∧ Extracted.perEventCatch = true ∧
    Extracted.popBeforeFlag = true := by decide

/-- C03 for the code as extracted: every configuration carrying the extracted parameters (counter width, refresh
    order, report-before-clean-up), every freshly started system, every schedule -/
theorem C03_extracted (s0 : BSt) (h0 : Fresh s0)
    (_hb : s0.cfg.invalidBits = Extracted.invalidBits) (_hr : s0.cfg.refreshAfterSample = Extracted.refreshAfterSample)
    (_hf : s0.cfg.reportBeforeFlushCleanup = Extracted.reportBeforeFlushCleanup) (ops : List Op) (i : Nat) :
    ((runOps s0 ops).th i).accepted =
        ((runOps s0 ops).th i).popped ++ ((runOps s0 ops).th i).buf ++ ((runOps s0 ops).th i).qStmts ∧
    (((runOps s0 ops).th i).removed = true →
        ((runOps s0 ops).th i).accepted = ((runOps s0 ops).th i).popped) ∧
    (∀ st ∈ ((runOps s0 ops).th i).accepted, isOrd st = true → ∀ sid,
        wcount (runOps s0 ops).log sid st.id ≤ ((runOps s0 ops).lgOf st.lg).sinks.count sid) :=
  ⟨C03_conservation s0 h0.inv ops i, fun hr => (C03_removed_drained s0 h0.inv ops i hr).2.2.2,
   fun st hm ho sid => C03_at_most_once s0 h0.inv ops i st hm ho sid⟩

end Obligations
