import QuillModel.Extracted.Named
import QuillModel.Props.C19
import QuillModel.Props.C19Json
/-!
Side-conditions of the C19 theorems, re-proved for the values extracted from the current headers
(`tools/extractors/named.py`): the separator is non-empty and unbordered; the JSON header literal has the fixed
seven keys in the fixed order and the per-pair / closing literals are the ones the model appends; the newline
rewrite replaces `'\n'` by one space; the scanners test exactly the characters the model tests (and still have the
loop shape the model transcribes); the cache is keyed by the original template; the LOGJ_ helpers have the shape
`text " {x1}, {x2}, …"`. If an edit to the headers changes any of these, this file stops compiling.
-/
namespace Obligations
open Named

theorem named_extraction_complete : Extracted.namedFailures = [] := by decide +kernel

/-- the separator meets the hypotheses of `C19_split_join` -/
theorem named_separator_ok : Extracted.separator ≠ [] ∧ unbordered Extracted.separator = true := by decide +kernel

/-- fixed key order of the JSON header -/
theorem named_json_layout :
    Extracted.jsonLayout =
      [("timestamp".toList, .timestamp), ("file_name".toList, .fileName), ("line".toList, .line),
       ("thread_id".toList, .threadId), ("logger".toList, .logger), ("log_level".toList, .logLevel),
       ("message".toList, .messageFormat)] := by
  rw [String.toList_ofList, String.toList_ofList, String.toList_ofList, String.toList_ofList, String.toList_ofList,
    String.toList_ofList, String.toList_ofList]
  rfl

theorem named_json_layout_ne : Extracted.jsonLayout ≠ [] := by
  rw [named_json_layout]; exact List.cons_ne_nil _ _

/-- the seven keys need no escaping -/
theorem named_json_keys_plain : ∀ kf ∈ Extracted.jsonLayout, noEscapeNeeded kf.1 = true := by decide +kernel

/-- the literals appended around each pair and at the end are those of `jsonArgs` / `jsonLine` -/
theorem named_json_literals :
    (∀ k v : Str, jsonArgs [(k, v)] = Extracted.jsonArgOpen ++ k ++ Extracted.jsonArgMid ++ v ++ Extracted.jsonArgClose) ∧
    Extracted.jsonTail = ['}', '\n'] ∧ Extracted.jsonNlChar = '\n' ∧ Extracted.jsonNlRepl = [' '] := by
  refine ⟨fun k v => ?_, by decide, by decide, by decide⟩
  simp [jsonArgs, Extracted.jsonArgOpen, Extracted.jsonArgMid, Extracted.jsonArgClose]

/-- the characters and ranges `_contains_named_args` tests, and its loop shape -/
theorem named_detect_chars :
    Extracted.detectEqChars = ['{', '{', '}', '}'] ∧
    (∀ c : Char, isAlpha c = Extracted.detectAlphaRanges.any (fun r => decide (r.1 ≤ c) && decide (c ≤ r.2))) ∧
    Extracted.detectNeedsCount = true ∧ Extracted.detectTrailingInc = true := by
  refine ⟨by decide, fun c => ?_, by decide, by decide⟩
  simp [isAlpha, Extracted.detectAlphaRanges]

/-- the characters `_process_named_args_format_message` searches for, the `':'` split, its two adjacency tests,
    the emitted `text{syntax}` piece, and where the `{` search resumes -/
theorem named_process_chars :
    Extracted.processFindChars = ['{', '{', '{', '}', '}', '}', '{'] ∧ Extracted.processColon = ':' ∧
    Extracted.processAdjacentTests = 2 ∧ Extracted.processEmitFormat = "{}{{{}}}".toList ∧
    Extracted.processReopensAtClose = true := by decide +kernel

theorem named_cache_key : Extracted.cacheKeyIsOriginalTemplate = true := by decide +kernel

theorem named_logj_shape : Extracted.logjShapeOK = true ∧ Extracted.logjMaxArity = 26 := by decide +kernel

/-- C19 split∘join for the separator as extracted -/
theorem C19_split_join_extracted (vals : List Str) (hv : ∀ v ∈ vals, containsSub Extracted.separator v = false) :
    splitValues Extracted.separator (joinVals Extracted.separator vals) vals.length = vals :=
  C19_split_join named_separator_ok.1 named_separator_ok.2 vals hv

/-- C19 pairs for the separator as extracted -/
theorem C19_pairs_extracted (san : Bool) (keys : List (Str × Str)) (fv : List Str) (hlen : keys.length ≤ fv.length)
    (hv : ∀ v ∈ fv, containsSub Extracted.separator v = false) :
    namedPairs Extracted.separator san keys fv = (populateNames keys fv.length).zip (if san then fv.map sanitize else fv) :=
  C19_pairs named_separator_ok.1 named_separator_ok.2 san keys fv hlen hv

/-- C19 JSON line for the layout as extracted: the seven fixed members in the fixed order, then the pairs -/
theorem C19_json_extracted (h : Hdr) (tmpl : Str) (pairs : Option (List (Str × Str))) :
    jsonLine Extracted.jsonLayout h tmpl pairs =
      '{' :: joinVals [',']
        ([member "timestamp".toList h.timestamp, member "file_name".toList h.fileName, member "line".toList h.line,
          member "thread_id".toList h.threadId, member "logger".toList h.logger, member "log_level".toList h.logLevel,
          member "message".toList (tmpl.map replNl)] ++ (pairs.getD []).map (fun kv => member kv.1 kv.2))
      ++ ['}'] ++ ['\n'] := by
  rw [C19_json_members _ named_json_layout_ne, named_json_layout]
  rfl

/-- C19 single line for the layout as extracted: the keys are newline-free, so only run-time values count -/
theorem C19_json_single_line_extracted (h : Hdr) (tmpl : Str) (pairs : Option (List (Str × Str))) :
    ∃ body, jsonLine Extracted.jsonLayout h tmpl pairs = body ++ ['\n'] ∧
      ('\n' ∈ body ↔
        ('\n' ∈ h.timestamp ∨ '\n' ∈ h.fileName ∨ '\n' ∈ h.line ∨ '\n' ∈ h.threadId ∨ '\n' ∈ h.logger ∨ '\n' ∈ h.logLevel) ∨
        (∃ kv ∈ pairs.getD [], '\n' ∈ kv.1 ∨ '\n' ∈ kv.2)) := by
  obtain ⟨body, hb, hiff⟩ := C19_json_single_line Extracted.jsonLayout named_json_layout_ne h tmpl pairs
  refine ⟨body, hb, ?_⟩
  rw [hiff]
  simp [Extracted.jsonLayout, Hdr.get]

/-- C19 "parses as JSON" for the layout as extracted: the seven keys need no escaping, so only run-time strings count -/
theorem C19_json_parses_extracted (h : Hdr) (tmpl : Str) (pairs : Option (List (Str × Str)))
    (hh : noEscapeNeeded h.timestamp = true ∧ noEscapeNeeded h.fileName = true ∧ noEscapeNeeded h.line = true ∧
          noEscapeNeeded h.threadId = true ∧ noEscapeNeeded h.logger = true ∧ noEscapeNeeded h.logLevel = true)
    (ht : noEscapeNeeded (tmpl.map replNl) = true)
    (hp : ∀ kv ∈ pairs.getD [], noEscapeNeeded kv.1 = true ∧ noEscapeNeeded kv.2 = true) :
    ∃ body, jsonLine Extracted.jsonLayout h tmpl pairs = body ++ ['\n'] ∧
      parseFlat body = some
        ([("timestamp".toList, h.timestamp), ("file_name".toList, h.fileName), ("line".toList, h.line),
          ("thread_id".toList, h.threadId), ("logger".toList, h.logger), ("log_level".toList, h.logLevel),
          ("message".toList, tmpl.map replNl)] ++ pairs.getD []) := by
  obtain ⟨body, hb, hparse⟩ := C19_json_parses Extracted.jsonLayout named_json_layout_ne h tmpl pairs
    (by
      intro kf hkf
      refine ⟨named_json_keys_plain kf hkf, ?_⟩
      rw [named_json_layout] at hkf
      simp only [List.mem_cons, List.mem_nil_iff, or_false] at hkf
      obtain ⟨h1, h2, h3, h4, h5, h6⟩ := hh
      rcases hkf with rfl | rfl | rfl | rfl | rfl | rfl | rfl
      · exact h1
      · exact h2
      · exact h3
      · exact h4
      · exact h5
      · exact h6
      · exact ht)
    hp
  refine ⟨body, hb, ?_⟩
  rw [hparse, named_json_layout]
  rfl

/-- `JsonSink::write_log` empties `_json_message` BEFORE the (virtual, possibly throwing) `generate_json_message` call,
    and then does generate; append `}\n`; base `write_log` with the buffer, in this order, unconditionally -/
theorem named_json_clear_before_generate :
    Extracted.jsonSinkParams.clearBefore = true ∧ Extracted.jsonWriteOrderOK = true := by decide +kernel

/-- C19/C10 "a throwing JSON sink leaves nothing behind" for the code as extracted: for every sequence of statements and
    every fault schedule the file is the lines of the statements that did not fault, each with the fixed seven members
    and its own pairs (`C19_json_extracted`), and every fault is reported once -/
theorem C19_json_faults_extracted (stmts : List JStmt) :
    (runJson Extracted.jsonLayout Extracted.jsonSinkParams {} stmts).file =
      (stmts.filter (fun st => decide (st.fault = .none))).flatMap
        (fun st => jsonLine Extracted.jsonLayout st.h st.tmpl st.pairs) ∧
    (runJson Extracted.jsonLayout Extracted.jsonSinkParams {} stmts).reports =
      (stmts.filter (fun st => decide (st.fault ≠ .none))).length :=
  C19_json_faults_leave_nothing _ _ named_json_clear_before_generate.1 stmts

end Obligations
