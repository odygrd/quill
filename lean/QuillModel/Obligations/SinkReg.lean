import QuillModel.Extracted.Sinkreg
import QuillModel.Props.C17SinkReg
/-!
Side-conditions of the sink-registry theorems (C17), re-proved for the structure extracted from the current
`core/SinkManager.h`: both `_find_sink` and `_insert_sink` search for the LOWER bound with an ascending comparator; the
name test, the `weak_ptr::lock()`, the create-only-when-null shape, the throw of `get_sink` and the erase-iff-expired
loop are the ones `SinkReg.step` transcribes. If an edit changes any of these (e.g. inserts at the upper bound), this
file stops compiling: the proof obligation is broken and the check relies on the harness's oracles for a failing
op sequence on the real class.
-/
namespace Obligations
open SinkReg

theorem sinkreg_extraction_complete : Extracted.sinkregFailures = [] := by decide +kernel

theorem sinkreg_params_ok : Extracted.sinkRegParams.OK := by decide +kernel

theorem sinkreg_comparators_ascending : Extracted.sinkRegComparatorsAscending = true := by decide +kernel

theorem sinkreg_structure :
    Extracted.sinkRegStructure =
      [("findTestsNameThenLocks", true), ("insertsAtBound", true), ("createOnlyWhenNotFound", true),
       ("getThrowsWhenNull", true), ("cleanupErasesIffExpired", true), ("publicOpsLocked", true), ("weakEntries", true)] :=
  rfl

/-- idempotence of the by-name lookup for the code as extracted -/
theorem C17_sinkreg_idempotent_extracted (ops : List Op) (n : Nat) (ops2 : List Op) :
    let r := step Extracted.sinkRegParams (run Extracted.sinkRegParams {} ops) (.createOrGet n)
    ∀ i, r.2 = .id i → (∀ op ∈ ops2, op ≠ .drop i) →
      step Extracted.sinkRegParams (run Extracted.sinkRegParams r.1 ops2) (.get n) = (run Extracted.sinkRegParams r.1 ops2, .id i) ∧
      step Extracted.sinkRegParams (run Extracted.sinkRegParams r.1 ops2) (.createOrGet n) =
        (run Extracted.sinkRegParams r.1 ops2, .id i) :=
  C17_sinkreg_idempotent _ sinkreg_params_ok ops n ops2

/-- at most one alive object per name, sorted vector, for the code as extracted -/
theorem C17_sinkreg_unique_extracted (ops : List Op) (n : Nat) :
    (aliveIds (run Extracted.sinkRegParams {} ops) n).length ≤ 1 ∧
    (run Extracted.sinkRegParams {} ops).entries.Pairwise (fun a b => a.name ≤ b.name) :=
  ⟨C17_sinkreg_one_alive_per_name _ sinkreg_params_ok ops n, C17_sinkreg_sorted _ sinkreg_params_ok ops⟩

end Obligations
