import QuillModel.Extracted.Backend
/-! Proof bundle A: the extraction of the backend facts reported no failure (needed by each of its properties). -/
namespace Obligations

theorem backendA_extraction_ok : Extracted.backendFailures = [] := by decide

end Obligations
