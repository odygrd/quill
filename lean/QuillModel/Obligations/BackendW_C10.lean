import QuillModel.Extracted.Backend
import QuillModel.Props.C10Replay
/-!
Obligation of bundle W (`tools/props/backend_thm_W.py`) for C10 / C18 (finding F26): in the current header both `backtrace_storage->process`
callbacks replay through a function whose whole body is `try { _dispatch_transit_event_to_sinks(…) } catch → error_notifier`
(`extractors/backend.py`, fact `replayCatchesPerEvent`). With the plain dispatch as callback this fails — and
`Backend.C10_replay_fault_duplicates` is the failing schedule.
-/
namespace Obligations
open Backend

/-- the extracted callback shape is the repaired one -/
theorem C10_replay_extracted : Extracted.replayCatchesPerEvent = true := rfl

/-- … so on the witness schedule of F26 the model of the current tree writes every stored statement at most once -/
theorem C10_replay_schedule_extracted :
    bwcount (runOps (c10ReplayInit Extracted.replayCatchesPerEvent) c10ReplaySched).log 1 0 = 1 ∧
    bwcount (runOps (c10ReplayInit Extracted.replayCatchesPerEvent) c10ReplaySched).log 1 2 = 1 := by
  rw [C10_replay_extracted]
  exact ⟨C10_replay_fault_repaired.2.1, C10_replay_fault_repaired.2.2.2.1⟩

end Obligations
