import QuillModel.Extracted.Exit
import QuillModel.Props.C07
/-!
Side-conditions of the C07 theorems, re-proved for what `tools/extractors/exit.py` reads from the current headers
(`SignalHandler.h`, `Backend.h`, `BackendManager.h`, `BackendWorker.h`, `ManualBackendWorker.h`, `BackendOptions.h`).

* `exit_onSignal_agrees`: the control-flow skeleton of `detail::on_signal`, interpreted, makes exactly the calls of
  the decision function `Exit.onSignal` the theorems are about — on every context. Re-ordering the handler
  (re-raise before the flush, notice after the flush, SIGTERM re-raised, a branch dropped …) breaks this.
* the default `catchable_signals` are the six handled signals (SIGALRM is not among them);
* the life-cycle facts are those of the repaired code (`stop` renews the once-flag, `Backend::stop()` and the `atexit`
  handler clear the id the signal handler compares against — F23);
* the structure of `run` / `stop` / `_exit` / `stop_backend_thread` / both `start` overloads / `~ManualBackendWorker`
  and the default of `wait_for_queues_to_empty_before_exit`.
-/
namespace Obligations
open Exit

theorem exit_extraction_complete : Extracted.exitFailures = [] := by decide

/-- the extracted handler = the model's decision function, for all 8·2⁶ contexts (2·2⁶ evaluated) -/
theorem exit_onSignal_agrees (x : Ctx) : Extracted.onSignalProg.actions x = onSignal x := by
  -- both sides see the signal only through the test `∈ [int, term]`: one signal inside and one outside stand for all
  have h : ∀ s ∈ [Sig.int, Sig.segv], ∀ a b c d e f,
      Extracted.onSignalProg.actions ⟨s, a, b, c, d, e, f⟩ = onSignal ⟨s, a, b, c, d, e, f⟩ := by decide +kernel
  obtain ⟨s, a, b, c, d, e, f⟩ := x
  obtain ⟨r, hm, hsame, hg⟩ : ∃ r ∈ [Sig.int, Sig.segv],
      SameIn Extracted.onSignalProg.sigLists s r ∧ r.graceful = s.graceful := by
    cases s <;> decide
  have e1 : Extracted.onSignalProg.actions ⟨r, a, b, c, d, e, f⟩ = Extracted.onSignalProg.actions ⟨s, a, b, c, d, e, f⟩ := by
    unfold Prog.actions
    rw [← Prog.run_sig ⟨s, a, b, c, d, e, f⟩ r _ hsame]
  have e2 : onSignal ⟨r, a, b, c, d, e, f⟩ = onSignal ⟨s, a, b, c, d, e, f⟩ := by simp only [onSignal, hg]
  rw [← e1, ← e2]
  exact h r hm a b c d e f

/-- default `catchable_signals` = the handled signals of the property (as a set) -/
theorem exit_catchable_is_handled (s : Sig) : s ∈ Extracted.catchableDefault ↔ s ∈ handled := by
  have h : ∀ s ∈ Sig.all, (s ∈ Extracted.catchableDefault ↔ s ∈ handled) := by decide
  exact h s (Sig.mem_all s)

theorem exit_alarm_not_catchable : Sig.alrm ∉ Extracted.catchableDefault := by decide

theorem exit_catchable_no_duplicates : Extracted.catchableDefault.Nodup := by decide

theorem exit_life_params_repaired : Extracted.lifeParams = LParams.repaired := by decide

/-- `Backend::stop()` and the `atexit` handler of the signal-handler overload, flattened through `stop_backend_thread` and
    `BackendWorker::stop`, take their steps in the order the interleaving theorems are about: stop request, wake, join,
    forget the worker id, fresh once-flag — and only then clear the id the signal handler reads -/
theorem exit_stop_sequence : Extracted.stopSeq = stopSeqCurrent ∧ Extracted.atexitSeq = stopSeqCurrent := by decide

theorem exit_wait_for_queues_default : Extracted.waitForQueuesDefault = true := by decide

/-- `run`: init, set the running flag, poll while it is set, then `_exit()` and nothing else; the starter waits for
    the flag. `stop`: early return when not running, wake, join, clear the thread id -/
theorem exit_worker_structure :
    Extracted.runPollsThenExits = true ∧ Extracted.runWaitsForRunningFlag = true ∧ Extracted.workerStopShape = true := by
  decide

/-- `_exit`: loops until (`!wait_for_queues…` or every queue **and** transit buffer is empty), leaves only there and
    only after flushing the sinks; otherwise populates and runs the guarded batch loop; `~ManualBackendWorker` calls it -/
theorem exit_drain_structure :
    Extracted.exitLoopShape = true ∧ Extracted.exitHonoursWaitOption = true ∧ Extracted.exitFlushesSinksWhenEmpty = true ∧
    Extracted.emptyCheckCoversQueuesAndBuffers = true ∧ Extracted.manualDtorCallsExit = true := by
  decide

/-- both `start` overloads run under the current once-flag, spawn, then register exactly one `atexit` handler that
    stops the backend thread; the signal-handler overload blocks all signals, installs the handlers, spawns,
    publishes the thread id, restores the mask — in this order; `stop_backend_thread` stops the worker and then
    installs a fresh once-flag, which is the one `start` reads -/
theorem exit_start_stop_structure :
    Extracted.startUsesOnceFlag = true ∧ Extracted.plainStartSpawnsThenRegistersAtexit = true ∧
    Extracted.shStartOrder = true ∧ Extracted.atexitStopsBackendThread = true ∧ Extracted.stopStopsBackendThread = true ∧
    Extracted.stopBackendThreadStopsWorker = true ∧ Extracted.onceFlagIsTheCurrentOne = true ∧
    Extracted.startBackendThreadRuns = true := by
  decide

/-- `init_signal_handler` installs `on_signal` for every listed signal (rejecting SIGALRM) and `on_alarm` for SIGALRM;
    `on_alarm` restores the default action of the stored signal and raises it; the notice macro tests the logger's
    level and then logs on the calling thread -/
theorem exit_handler_installation :
    Extracted.initInstallsHandlers = true ∧ Extracted.alarmRestoresThenRaisesStored = true ∧
    Extracted.noticeMacroChecksLevelThenLogs = true := by
  decide

/-- C07 (signal half) for the handler as extracted and the life-cycle facts as extracted -/
theorem C07_signal_extracted (ops : List LOp) (thread : Nat) (s : Sig) (hs : s ∈ Extracted.catchableDefault)
    (pr : Bool) (earlier : List Nat) (w q : List Item) (hsplit : w ++ q = earlier.map Item.stmt) :
    let st := Life.run Extracted.lifeParams {} ops
    st.ctxTid ≠ 0 → thread ≠ st.workerTid →
    exec (st.env true true) s (Extracted.onSignalProg.actions (st.ctx thread s true pr true true)) false false
        { queue := q, written := w } =
      if s = .int ∨ s = .term then ({ queue := [], written := earlier.map Item.stmt ++ [.notice] }, .exit0)
      else ({ queue := [], written := earlier.map Item.stmt ++ [.notice, .critical] }, .diedBy s) := by
  rw [exit_life_params_repaired]
  intro st hctx hthr
  rw [exit_onSignal_agrees]
  rw [C07_signal_in_any_cycle ops thread s pr true true earlier w q hsplit hctx hthr]
  -- the same canonical outcome as under the default environment, which `C07_handled_signal_outcomes` spells out per signal
  exact (C07_signal_loses_nothing { backendRunning := true } s false earlier w q hsplit rfl).symm.trans
    (C07_handled_signal_outcomes s ((exit_catchable_is_handled s).mp hs) earlier w q hsplit)

/-- restart after any number of cycles, for the life-cycle facts as extracted -/
theorem C07_restart_extracted (cs : List Cycle) (sh : Bool) :
    (Life.run Extracted.lifeParams {} (cs.flatMap Cycle.ops ++ [if sh then .startSH else .start])).running = true := by
  rw [exit_life_params_repaired]
  exact (C07_start_after_cycles_runs cs sh).1

/-- stop / normal exit / handled signal at every point of every program, for the facts and the handler as extracted -/
theorem C07_program_extracted (ops : List POp) (hne : noExit ops = true) :
    ((Sys.run Extracted.lifeParams {} ops).life.running = true →
      (Sys.run Extracted.lifeParams {} (ops ++ [.life .stop])).fe = { queue := [], written := logged ops }) ∧
    (Sys.run Extracted.lifeParams {} (ops ++ [.life .exit])).fe = { queue := [], written := logged ops } ∧
    (∀ (thread : Nat) (s : Sig) (pr : Bool), s ∈ Extracted.catchableDefault →
      (Sys.run Extracted.lifeParams {} ops).life.ctxTid ≠ 0 → thread ≠ (Sys.run Extracted.lifeParams {} ops).life.workerTid →
      exec ((Sys.run Extracted.lifeParams {} ops).life.env true true) s
          (Extracted.onSignalProg.actions ((Sys.run Extracted.lifeParams {} ops).life.ctx thread s true pr true true))
          false false (Sys.run Extracted.lifeParams {} ops).fe =
        ({ queue := [], written := logged ops ++ (if s.graceful then [.notice] else [.notice, .critical]) },
         if s.graceful then .exit0 else .diedBy s)) := by
  rw [exit_life_params_repaired]
  refine ⟨fun hrun => ?_, ?_, fun thread s pr _ hctx hthr => ?_⟩
  · rw [Sys.stop_fe _ ops hne, hrun]; rfl
  · rw [Sys.exit_fe _ ops hne]; rfl
  · rw [exit_onSignal_agrees]
    rw [C07_program_signal ops hne thread s pr true true hctx hthr]
    unfold notices
    cases s.graceful <;> rfl

/-- a handled signal while another thread is inside `Backend::stop()` or the process is inside the `atexit` stop, for
    the step order as extracted: served at every point before the backend thread's last look at the queues -/
theorem C07_signal_during_stop_extracted (viaAtexit wait : Bool) (s : Sig) (pr : Bool) (earlier : List Nat) (w q : List Item)
    (hsplit : w ++ q = earlier.map Item.stmt) (pre mid : List Ev) :
    let seq := if viaAtexit then Extracted.atexitSeq else Extracted.stopSeq
    let a := (CS.init { queue := q, written := w }).run seq wait pre
    let b := a.run seq wait mid
    a.pc < 6 → b.serving = true →
    signalDuringStop wait true true s pr a b =
      ({ queue := [], written := earlier.map Item.stmt ++ loggedEv (pre ++ mid) ++ notices { backendRunning := true } s },
       if s.graceful then .exit0 else .diedBy s) := by
  have hseq : (if viaAtexit then Extracted.atexitSeq else Extracted.stopSeq) = stopSeqCurrent := by
    cases viaAtexit
    · exact exit_stop_sequence.1
    · exact exit_stop_sequence.2
  rw [hseq]
  exact C07_signal_during_stop_served wait true true s pr earlier w q hsplit pre mid

/-- whichever way the handler as extracted waits for its flush request — `flush_log(0)`, for ever (the current code), or
    until the backend thread is gone (`flushEndsWhenBackendGone`, the candidate repair of F27) — at every point of
    `stop()` before the backend thread's last look at the queues the outcome is the one of `C07_signal_during_stop_served`;
    after that look it is F27 (`C07_signal_during_stop_after_last_look_hangs`) resp. `C07_F27_repair_never_hangs` -/
theorem C07_signal_during_stop_extracted_flush (wait info crit : Bool) (s : Sig) (pr : Bool) (f : Fe) (pre mid : List Ev) :
    let a := (CS.init f).run stopSeqCurrent wait pre
    let b := a.run stopSeqCurrent wait mid
    a.pc < 6 → b.serving = true →
    signalDuringStopG Extracted.flushEndsWhenBackendGone wait info crit s pr a b = signalDuringStop wait info crit s pr a b := by
  intro a b ha hb
  cases Extracted.flushEndsWhenBackendGone
  · rfl
  · exact (C07_F27_repair_never_hangs wait info crit s pr f pre mid ha).2.1 hb

end Obligations
