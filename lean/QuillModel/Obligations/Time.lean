import QuillModel.Extracted.Time
import QuillModel.Props.C13
/-!
Side-conditions of the C13 theorems, re-proved for the tables and constants extracted from the current
`StringFromTime.h` / `TimestampFormatter.h`. The model's own tables (`Time.modifierTable`, `Time.patchTable`, …)
are what its functions implement (`model_tables_coherent`); if an edit to the headers changes a modifier, a width,
a fill, the argument of a patch (`hours > 12` → `>=`), a rewrite, the rejected substring, a recalculation constant,
the fallback / recalculation condition, the fraction widths or divisors or the alignment of the fraction writer,
this file stops compiling — a broken tie, and the check goes looking for a failing input.
-/
namespace Obligations

theorem time_extraction_complete : Extracted.timeFailures = [] := by decide +kernel

theorem time_modifiers : Extracted.modifierTable = Time.modifierTable := by decide +kernel
/-- the split is made at the lowest position among the per-modifier hits (`Time.splitOnceCpp`, `Time.splitOnceCpp_eq`) -/
theorem time_split_lowest : Extracted.splitAtLowestIndex = true := by decide +kernel
theorem time_patch_table : Extracted.patchTable = Time.patchTable := by decide +kernel
theorem time_patch_args : Extracted.patchArgs = Time.patchArgs := rfl
theorem time_rewrites : Extracted.rewriteTable = Time.rewriteTable := by decide +kernel
/-- `_replace_all` is the find / replace / skip-the-replacement loop (`Time.replaceAllCppF`, `Time.replaceAllCpp_eq`) -/
theorem time_replace_loop : Extracted.replaceAllLoop = true := by decide +kernel
theorem time_rejected : Extracted.rejectedTable = Time.rejectedTable := by decide +kernel
theorem time_noon_midnight : Extracted.noonMidnightTable = Time.noonMidnightTable := by decide +kernel
theorem time_hms : Extracted.hmsDivisors = Time.hmsDivisors := by decide +kernel
theorem time_cached_seconds :
    Extracted.cachedSecondsExpr = "(time_info.tm_hour*3600)+(time_info.tm_min*60)+time_info.tm_sec" := rfl
theorem time_conditions :
    Extracted.fallbackCond = "timestamp<_cached_timestamp" ∧
    Extracted.recalcCond = "timestamp>=_next_recalculation_timestamp" ∧
    Extracted.emptyIndexReturn = true ∧ Extracted.sameTimestampReturn = true := ⟨rfl, rfl, rfl, rfl⟩
theorem time_frac_table : Extracted.fracTable = Time.fracTable := by decide +kernel
theorem time_frac_ctor :
    Extracted.fracSearchOrder = ["Qms", "Qus", "Qns"] ∧ Extracted.specifierLength = 4 ∧
    Extracted.nsPerSec = 1000000000 ∧ Extracted.fracRightAligned = true ∧ Extracted.exclusiveThrows = 2 := by decide +kernel
/-- the doubling loop of `_safe_strftime` terminates only from a positive size with a factor above one; the empty
    format (for which `strftime` returns 0 legitimately) is guarded -/
theorem time_strftime_buffer :
    0 < Extracted.strftimeBuf.1 ∧ 1 < Extracted.strftimeBuf.2 ∧ Extracted.emptyFormatGuard = true := by decide +kernel

/-- finding F21 is repaired in the current header: a repeated fractional specifier is rejected -/
theorem time_rejects_repeated : Extracted.rejectsRepeatedSpecifier = true := by decide +kernel

/-- what the local-time theorem needs from the recalculation period -/
theorem time_local_period : 0 < Extracted.localPeriod ∧ 43200 % Extracted.localPeriod = 0 := by decide +kernel

theorem model_tables_coherent :
    Time.modifierTable.all Time.isModifier = true ∧
    Time.modifierTable = [Time.FT.H, .M, .S, .I, .k, .l, .s].map Time.FT.char ∧
    (∀ ft : Time.FT, Time.FT.ofChar ft.char = some ft) ∧
    Time.patchTable.map (fun e => (e.1, e.2.1)) = [Time.FT.H, .M, .S, .I, .k, .l, .s].map (fun ft => (ft.char, ft.back)) ∧
    Time.fracTable = [Time.Frac.ms, .us, .ns].map
      (fun k => (String.ofList (Time.Tok.frac k).chars, k.width, 1000000000 / (k.value 1000000000))) := by
  refine ⟨by decide +kernel, by decide +kernel, ?_, by decide +kernel, by decide +kernel⟩
  intro ft; cases ft <;> decide

/-- the patch switch of the model writes what the extracted table says: fill, width and argument per modifier -/
theorem model_patch_text (h m s ts : Nat) :
    [Time.FT.H, .M, .S, .I, .k, .l, .s].map (fun ft => Time.patchText ft h m s ts) =
      [Time.padNum '0' 2 h, Time.padNum '0' 2 m, Time.padNum '0' 2 s,
       Time.padNum '0' 2 (if h = 0 then 12 else if h > 12 then h - 12 else h), Time.padNum ' ' 2 h,
       Time.padNum ' ' 2 (if h = 0 then 12 else if h > 12 then h - 12 else h), Time.padNum ' ' 10 ts] := rfl

/-- C13 (local time) for the recalculation period written in the current header: the zone premise only has to
    be stated for that period; positivity and divisibility of a half day are re-proved from the extracted value -/
theorem C13_extracted (tz : Nat → Time.ZInfo)
    (hconst : ∀ t t', t / Extracted.localPeriod = t' / Extracted.localPeriod → tz t = tz t')
    (haligned : ∀ t, (tz t).off % (Extracted.localPeriod : Int) = 0)
    (hlower : ∀ t, -(978307200 : Int) ≤ (tz t).off)
    (p : List Char) (hs : Time.supportedToks (Time.lex p) = true) (hx : Time.hasX (Time.lex p) = false)
    (hf : Time.fracCount (Time.lex p) ≤ 1) (nss : List Nat) (hr : ∀ ns ∈ nss, Time.InRange p ns) :
    Time.renderAll Extracted.rejectsRepeatedSpecifier Extracted.localPeriod tz p true nss =
      some (nss.map (fun ns =>
        Time.strftimeRef p (Time.mkTm (ns / 1000000000) (tz (ns / 1000000000))) (ns % 1000000000))) :=
  Time.C13_local Extracted.rejectsRepeatedSpecifier Extracted.localPeriod tz
    ⟨time_local_period.1, time_local_period.2, hconst, haligned, hlower⟩ p hs hx hf nss hr

/-- C13 rejections for the constructor as extracted: more than one fractional specifier, or `%X`, throws -/
theorem C13_rejects_extracted (p : List Char) (loc : Bool) (hs : Time.supportedToks (Time.lex p) = true)
    (h : 2 ≤ Time.fracCount (Time.lex p) ∨ Time.hasX (Time.lex p) = true) :
    ∃ e, Time.TF.init Extracted.rejectsRepeatedSpecifier p loc = .error e := by
  rw [time_rejects_repeated]
  cases hi : Time.TF.init true p loc with
  | error e => exact ⟨e, rfl⟩
  | ok f =>
    -- an accepted pattern has no `%X` and at most one fractional specifier
    obtain ⟨hx, hf⟩ := (Time.TF.init_ok_iff (Time.lex p) loc hs).1 ⟨f, by rwa [Time.charsOf_lex]⟩
    rcases h with h | h
    · omega
    · rw [hx] at h; cases h

end Obligations
