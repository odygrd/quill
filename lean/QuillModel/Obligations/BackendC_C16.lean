import QuillModel.Extracted.Backend
import QuillModel.Props.C16
/-! Proof bundle C, the obligations of C16. One module per property, so that a broken fact breaks the proof side of the
    property that rests on it and of no other. -/
namespace Obligations.BackendC
open Backend

/-- the model's numeric levels are the ranks of `enum class LogLevel`: the enum has exactly these enumerators in
    this order and no explicit values, so the C++ comparison of two `LogLevel`s is the comparison of the
    positions — which is what `shouldLog` / `sinkAccepts` compare -/
theorem level_order :
    Extracted.backendLevelNames =
      ["TraceL3", "TraceL2", "TraceL1", "Debug", "Info", "Notice", "Warning", "Error", "Critical", "Backtrace",
       "None", "Dynamic"] := rfl

/-- rank of a level name in the extracted enum -/
def levelRank (n : String) : Nat := Extracted.backendLevelNames.idxOf n

/-- the numbers the model uses: 0 TraceL3 … 4 Info … 8 Critical, 9 Backtrace (the backtrace branch of
    `processEvent`), 10 None (default backtrace flush level) -/
theorem level_ranks :
    levelRank "TraceL3" = 0 ∧ levelRank "TraceL2" = 1 ∧ levelRank "TraceL1" = 2 ∧ levelRank "Debug" = 3 ∧
    levelRank "Info" = 4 ∧ levelRank "Notice" = 5 ∧ levelRank "Warning" = 6 ∧ levelRank "Error" = 7 ∧
    levelRank "Critical" = 8 ∧ levelRank "Backtrace" = 9 ∧ levelRank "None" = 10 ∧ levelRank "Dynamic" = 11 := by
  decide +kernel

/-- the severity order the documentation promises is the numeric order the model compares:
    for every pair of user levels, `shouldLog a b` iff `b` does not come after `a` in the enum -/
theorem level_compare_is_rank_compare :
    (List.range 9).all (fun a => (List.range 11).all (fun b =>
      shouldLog a b == decide (Extracted.backendLevelNames.idxOf (Extracted.backendLevelNames.getD b "") ≤
                               Extracted.backendLevelNames.idxOf (Extracted.backendLevelNames.getD a "")))) = true := by
  decide +kernel

/-- the constructs `shouldLog`, `applyFront (.log …)`, `sinkAccepts` and `writeToSinks` mirror are in place:
    `should_log_statement` is `>=`; both macros wrap the call (hence the argument evaluation) in that test;
    `Sink::apply_all_filters` is "level `<` threshold ⇒ false, then all_of the filters"; `_write_log_statement`
    asks each sink's own `apply_all_filters` inside the loop and passes `transit_event.log_level()`;
    `TransitEvent::log_level()` selects the macro's level unless it is `Dynamic`; the decoder reads the dynamic
    level or resets it to `None` for a reused event -/
theorem c16_structure :
    Extracted.frontendLevelCmpGe = true ∧ Extracted.macroGuardsEvaluation = true ∧
    Extracted.sinkLevelCmpLt = true ∧ Extracted.sinkFiltersAllOf = true ∧ Extracted.perSinkFilterInLoop = true ∧
    Extracted.eventLevelSelect = true ∧ Extracted.dynamicLevelDecodedOrReset = true := by decide +kernel

/-- C16, frontend, in the names of the header: a statement of level `stmt` is skipped by a logger at level
    `lg` iff `stmt` comes before `lg` in `enum class LogLevel` -/
theorem C16_frontend_extracted (stmt lg : String)
    (h1 : stmt ∈ Extracted.backendLevelNames) (h2 : lg ∈ Extracted.backendLevelNames) :
    shouldLog (levelRank stmt) (levelRank lg) = true ↔ levelRank lg ≤ levelRank stmt := by
  have _ := h1; have _ := h2
  exact C16_shouldLog_iff _ _

/-- C16, backend, for any state: instance of `C16_sinks_exact` (no side-condition depends on the extraction
    beyond `c16_structure`) -/
theorem C16_sinks_extracted (s : BSt) (st : Stmt) (sids : List Nat) (h : (writeToSinks s st sids).2 = false) :
    (writeToSinks s st sids).1.log =
      ((sids.filter (fun sid => sinkAccepts (s.sinkOf sid) st)).map (PC.writeEv st)).reverse ++ s.log :=
  C16_sinks_exact s st sids h

end Obligations.BackendC
