import QuillModel.Transit.Model
import QuillModel.Spsc.Arith
/-! The ring refines the FIFO list through every operation, including expansion and shrinking. -/
namespace Transit
variable {α : Type}

/-- the content of a ring is the window of its slots, read modulo the capacity, from the reader position (`abs_eq`) -/
def window (f : Nat → α) (r n : Nat) : List α := (List.range n).map (fun i => f (r + i))

theorem abs_eq (b : TB α) : b.abs = window (fun p => b.store (p % b.cap)) b.rpos b.size := rfl

theorem window_length (f : Nat → α) (r n : Nat) : (window f r n).length = n := by simp [window]

theorem window_succ (f : Nat → α) (r n : Nat) : window f r (n + 1) = window f r n ++ [f (r + n)] := by
  simp [window, List.range_succ]

theorem window_cons (f : Nat → α) (r n : Nat) : window f r (n + 1) = f r :: window f (r + 1) n := by
  simp only [window, List.range_succ_eq_map, List.map_cons, List.map_map, Nat.add_zero]
  exact congrArg _ (List.map_congr_left fun i _ => show f (r + (i + 1)) = f (r + 1 + i) by rw [Nat.add_right_comm]; rfl)

theorem window_congr {f g : Nat → α} {r r' n : Nat} (h : ∀ i, i < n → f (r + i) = g (r' + i)) :
    window f r n = window g r' n :=
  List.map_congr_left fun i hi => h i (List.mem_range.mp hi)

theorem abs_length (b : TB α) : b.abs.length = b.size := by rw [abs_eq]; exact window_length ..

theorem init_inv (c : Nat) (d : α) (hc : 0 < c) : TInv (TB.init c d) :=
  { capPos := hc, initPos := hc, le := Nat.le_refl _, fits := by simp [TB.init], grown := ⟨0, by simp [TB.init]⟩ }

theorem init_abs (c : Nat) (d : α) : (TB.init c d).abs = [] := rfl

theorem expand_abs (b : TB α) (h : TInv b) : b.expand.abs = b.abs := by
  rw [abs_eq, abs_eq]
  refine window_congr fun i (hi : i < b.size) => ?_
  have hlt : i < b.cap * 2 := Nat.lt_of_lt_of_le hi (Nat.le_trans h.fits (Nat.le_mul_of_pos_right _ (by decide)))
  simp only [TB.expand, Nat.zero_add, Nat.mod_eq_of_lt hlt, if_pos hi]

theorem expand_inv (b : TB α) (h : TInv b) : TInv b.expand := by
  obtain ⟨k, hk⟩ := h.grown
  refine { capPos := ?_, initPos := h.initPos, le := ?_, fits := ?_, grown := ⟨k + 1, ?_⟩ }
  · simp only [TB.expand]; have := h.capPos; omega
  · simp [TB.expand]
  · simp only [TB.expand, TB.size, Nat.sub_zero]; have := h.fits; omega
  · simp only [TB.expand]; rw [hk, Nat.pow_succ, Nat.mul_assoc]

/-- `push` is `put` (`push_back` on a buffer that has room) after `roomy` (the expansion of a full buffer) -/
def TB.roomy (b : TB α) : TB α := if b.cap = b.size then b.expand else b

def TB.put (b : TB α) (x : α) : TB α :=
  { b with store := fun i => if i = b.wpos % b.cap then x else b.store i, wpos := b.wpos + 1 }

theorem push_eq (b : TB α) (x : α) : b.push x = b.roomy.put x := rfl

theorem room (b : TB α) (h : TInv b) : TInv b.roomy ∧ b.roomy.abs = b.abs ∧ b.roomy.size < b.roomy.cap := by
  unfold TB.roomy
  split
  · exact ⟨expand_inv b h, expand_abs b h, show b.size - 0 < b.cap * 2 by have := h.capPos; omega⟩
  · next hf => exact ⟨h, rfl, Nat.lt_of_le_of_ne h.fits (Ne.symm hf)⟩

/-- the slot written is none of those in use -/
theorem put_abs (b : TB α) (x : α) (h : TInv b) (hroom : b.size < b.cap) : (b.put x).abs = b.abs ++ [x] := by
  have hw : b.rpos + b.size = b.wpos := Nat.add_sub_cancel' h.le
  rw [abs_eq, abs_eq]
  show window _ b.rpos (b.wpos + 1 - b.rpos) = _
  rw [Nat.sub_add_comm h.le, window_succ]
  congr 1
  · refine window_congr fun i hi => if_neg ?_
    rw [← hw]; exact Spsc.mod_ne_of_lt b.cap b.rpos i _ hi hroom
  · simp only [TB.put, Nat.add_sub_cancel' h.le, ↓reduceIte]

theorem put_inv (b : TB α) (x : α) (h : TInv b) (hroom : b.size < b.cap) : TInv (b.put x) :=
  { h with le := Nat.le_succ_of_le h.le, fits := (Nat.succ_sub h.le).symm ▸ hroom }

theorem push_abs (b : TB α) (x : α) (h : TInv b) : (b.push x).abs = b.abs ++ [x] :=
  have ⟨hi, ha, hr⟩ := room b h
  (push_eq b x ▸ put_abs _ x hi hr).trans (congrArg (· ++ [x]) ha)

theorem push_inv (b : TB α) (x : α) (h : TInv b) : TInv (b.push x) :=
  have ⟨hi, _, hr⟩ := room b h
  push_eq b x ▸ put_inv _ x hi hr

theorem isEmpty_iff (b : TB α) : b.isEmpty = true ↔ b.rpos = b.wpos := beq_iff_eq

theorem size_eq_succ (b : TB α) (h : TInv b) (hne : b.rpos ≠ b.wpos) : b.size = (b.wpos - (b.rpos + 1)) + 1 :=
  (Nat.succ_pred_eq_of_pos (Nat.sub_pos_of_lt (Nat.lt_of_le_of_ne h.le hne))).symm

theorem front_abs (b : TB α) (h : TInv b) : b.front = b.abs.head? := by
  unfold TB.front
  by_cases he : b.rpos = b.wpos
  · rw [if_pos he, abs_eq, TB.size, he, Nat.sub_self]; rfl
  · rw [if_neg he, abs_eq, size_eq_succ b h he, window_cons]; rfl

theorem pop_abs (b : TB α) (h : TInv b) (hne : b.rpos ≠ b.wpos) : b.pop.abs = b.abs.tail := by
  rw [abs_eq b, size_eq_succ b h hne, window_cons]; rfl

theorem pop_inv (b : TB α) (h : TInv b) (hne : b.rpos ≠ b.wpos) : TInv b.pop :=
  { capPos := h.capPos, initPos := h.initPos, le := by simp only [TB.pop]; have := h.le; omega,
    fits := by simp only [TB.pop]; have := h.fits; omega, grown := h.grown }

theorem tryShrink_abs (b : TB α) : b.tryShrink.abs = b.abs := by
  unfold TB.tryShrink
  split
  · rename_i hc
    have he : b.rpos = b.wpos := (isEmpty_iff b).mp (Bool.and_eq_true_iff.mp hc).2
    split <;> simp [TB.abs, TB.size, he]
  · rfl

theorem tryShrink_inv (b : TB α) (h : TInv b) : TInv b.tryShrink := by
  unfold TB.tryShrink
  split
  · split
    · exact { capPos := h.initPos, initPos := h.initPos, le := Nat.le_refl _, fits := by simp,
              grown := ⟨0, by simp⟩ }
    · exact { h with }
  · exact h

theorem step_inv (b : TB α) (op : Op α) (h : TInv b) : TInv (step b op) := by
  cases op with
  | push x => exact push_inv b x h
  | pop =>
    simp only [step]
    split
    · exact h
    · rename_i hne
      exact pop_inv b h (fun e => hne ((isEmpty_iff b).mpr e))
  | requestShrink => exact { h with }
  | tryShrink => exact tryShrink_inv b h

theorem step_abs (b : TB α) (op : Op α) (h : TInv b) : (step b op).abs = specStep b.abs op := by
  cases op with
  | push x => exact push_abs b x h
  | pop =>
    simp only [step, specStep]
    split
    · rename_i he
      have : b.rpos = b.wpos := (isEmpty_iff b).mp he
      simp [TB.abs, TB.size, this]
    · rename_i hne
      exact pop_abs b h (fun e => hne ((isEmpty_iff b).mpr e))
  | requestShrink => rfl
  | tryShrink => exact tryShrink_abs b

theorem step_cap_cases (b : TB α) (op : Op α) : (step b op).initCap = b.initCap ∧
    ((step b op).cap = b.cap ∨ ((step b op).cap = b.cap * 2 ∧ b.cap = b.size) ∨
      ((step b op).cap = b.initCap ∧ b.initCap < b.cap)) := by
  cases op with
  | requestShrink => exact ⟨rfl, .inl rfl⟩
  | pop => simp only [step]; split <;> exact ⟨rfl, .inl rfl⟩
  | tryShrink =>
    simp only [step, TB.tryShrink]
    split
    · split
      · exact ⟨rfl, .inr (.inr ⟨rfl, by assumption⟩)⟩
      · exact ⟨rfl, .inl rfl⟩
    · exact ⟨rfl, .inl rfl⟩
  | push x =>
    simp only [step, TB.push]
    split
    · exact ⟨rfl, .inr (.inl ⟨rfl, by assumption⟩)⟩
    · exact ⟨rfl, .inl rfl⟩

/-- what `grown` is for: `TB.init` takes any capacity, the constructor rounds it with `next_power_of_two`
    (`TransitEventBuffer.h:22`), and the `w`-bit ring of `MathUtil/TransitW.lean` needs the capacity to stay a power of two -/
theorem TInv.capPow {b : TB α} (h : TInv b) (hi : ∃ j, b.initCap = 2 ^ j) : ∃ j, b.cap = 2 ^ j := by
  obtain ⟨j, hj⟩ := hi
  obtain ⟨k, hk⟩ := h.grown
  exact ⟨j + k, by rw [hk, hj, Nat.pow_add]⟩

theorem step_cap_le (b : TB α) (op : Op α) (L : Nat) (hs : b.size ≤ L) (hc : b.cap ≤ max b.initCap (2 * L)) :
    (step b op).cap ≤ max b.initCap (2 * L) := by
  rcases (step_cap_cases b op).2 with e | ⟨e, hf⟩ | ⟨e, _⟩ <;> rw [e]
  · exact hc
  · exact Nat.le_trans (by omega) (Nat.le_max_right _ _)
  · exact Nat.le_max_left _ _

end Transit
