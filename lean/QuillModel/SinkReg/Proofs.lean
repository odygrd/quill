import QuillModel.SinkReg.Model
import QuillModel.Util.SortedList
/-!
Invariant of the registry and the step lemmas behind `Props/C17SinkReg.lean`.

`Rel a b` for every pair `a` before `b` in the vector: names ascend, a LATER entry of the same name is expired (within a
name only the first entry may be alive — it is the newest: `_insert_sink` puts a re-created sink in front), identities
differ. Together with "every identity is below the construction counter" this is inductive for lower/lower.
-/
namespace SinkReg

def Rel (a b : Entry) : Prop := a.name ≤ b.name ∧ (a.name = b.name → b.alive = false) ∧ a.id ≠ b.id

structure RInv (s : St) : Prop where
  pw : s.entries.Pairwise Rel
  lt : ∀ e ∈ s.entries, e.id < s.next

theorem rinv_init : RInv {} := ⟨List.Pairwise.nil, by simp⟩

def isAliveOf (n : Nat) (e : Entry) : Bool := e.name == n && e.alive

theorem aliveOf_def (s : St) (n : Nat) : aliveOf s n = (s.entries.find? (isAliveOf n)).map (·.id) := rfl

theorem isAliveOf_iff {n : Nat} {e : Entry} : isAliveOf n e = true ↔ e.name = n ∧ e.alive = true := by
  simp only [isAliveOf, Bool.and_eq_true, beq_iff_eq]

theorem isAliveOf_le {n : Nat} {e : Entry} (h : isAliveOf n e = true) : n ≤ e.name :=
  Nat.le_of_eq (isAliveOf_iff.1 h).1.symm

theorem not_isAliveOf_of_rel {n : Nat} {a b : Entry} (h : Rel a b) (hn : n ≤ a.name) : isAliveOf n b = false := by
  rw [Bool.eq_false_iff, Ne, isAliveOf_iff]
  intro ⟨h1, h2⟩
  rw [h.2.1 (Nat.le_antisymm h.1 (by rw [h1]; exact hn))] at h2
  cases h2

theorem isAliveOf_unique (n : Nat) (a b : Entry) (h : Rel a b) (ha : isAliveOf n a = true) : isAliveOf n b = false :=
  not_isAliveOf_of_rel h (isAliveOf_le ha)

/-- `lower_bound` is the end of the `< n` prefix, so `_find_sink` finds the alive entry of the name, if there is one -/
theorem find_eq_aliveOf (p : Params) (hp : p.OK) (s : St) (hs : RInv s) (n : Nat) : find p s n = aliveOf s n := by
  unfold find bound
  rw [hp.1, aliveOf_def, SortedList.find?_eq_filter_head?_dropWhile Entry.name n hs.pw (isAliveOf n)
    (fun e => isAliveOf_le) (fun a b => not_isAliveOf_of_rel)]
  simp only
  rw [List.getElem?_length_takeWhile]
  cases (s.entries.dropWhile (fun e => decide (e.name < n))).head? with
  | none => rfl
  | some e =>
    simp only [Option.filter_some, isAliveOf_iff]
    split <;> rfl

theorem filter_alive_le_one (l : List Entry) (n : Nat) (h : l.Pairwise Rel) : (l.filter (isAliveOf n)).length ≤ 1 :=
  SortedList.length_filter_le_one h (isAliveOf n) (isAliveOf_unique n)

theorem insert_lower_eq (l : List Entry) (n : Nat) (x : Entry) :
    insertAt l (bound .lower l n) x =
      l.takeWhile (fun e => decide (e.name < n)) ++ x :: l.dropWhile (fun e => decide (e.name < n)) :=
  SortedList.insert_length_takeWhile _ l x

theorem pairwise_insert_lower (l : List Entry) (n i : Nat) (h : l.Pairwise Rel)
    (hdead : ∀ e ∈ l, e.name = n → e.alive = false) (hid : ∀ e ∈ l, e.id < i) :
    (l.takeWhile (fun e => decide (e.name < n)) ++
      { name := n, id := i, alive := true } :: l.dropWhile (fun e => decide (e.name < n))).Pairwise Rel := by
  refine SortedList.pairwise_insert Entry.name n h (fun a b hab => hab.1) _ (fun a ha hlt => ?_) (fun b hb hge => ?_)
  · exact ⟨Nat.le_of_lt hlt, fun hn => absurd hn (Nat.ne_of_lt hlt), Nat.ne_of_lt (hid a ha)⟩
  · exact ⟨hge, fun hn => hdead b hb hn.symm, Nat.ne_of_gt (hid b hb)⟩

theorem aliveOf_none_iff (s : St) (n : Nat) : aliveOf s n = none ↔ ∀ e ∈ s.entries, e.name = n → e.alive = false := by
  rw [aliveOf_def, Option.map_eq_none_iff, List.find?_eq_none]
  simp only [isAliveOf_iff, not_and, Bool.not_eq_true]

/-- the state after a `create_or_get_sink` that found nothing -/
def created (s : St) (n : Nat) : St :=
  { entries := s.entries.takeWhile (fun e => decide (e.name < n)) ++
      { name := n, id := s.next, alive := true } :: s.entries.dropWhile (fun e => decide (e.name < n)),
    next := s.next + 1 }

theorem step_createOrGet (p : Params) (hp : p.OK) (s : St) (hs : RInv s) (n : Nat) :
    step p s (.createOrGet n) =
      match aliveOf s n with
      | some i => (s, .id i)
      | none => (created s n, .id s.next) := by
  rw [step, find_eq_aliveOf p hp s hs n]
  cases aliveOf s n with
  | some i => rfl
  | none =>
    rw [hp.2, insert_lower_eq]
    rfl

theorem step_get (p : Params) (hp : p.OK) (s : St) (hs : RInv s) (n : Nat) :
    step p s (.get n) = (s, match aliveOf s n with | some i => .id i | none => .notFound) := by
  rw [step, find_eq_aliveOf p hp s hs n]
  cases aliveOf s n <;> rfl

theorem rinv_created (s : St) (hs : RInv s) (n : Nat) (hn : aliveOf s n = none) : RInv (created s n) := by
  refine ⟨pairwise_insert_lower s.entries n s.next hs.pw ((aliveOf_none_iff s n).1 hn) hs.lt, ?_⟩
  intro e he
  show e.id < s.next + 1
  rcases (SortedList.mem_takeWhile_cons_dropWhile _ s.entries _ e).1 he with rfl | he
  · exact Nat.lt_succ_self _
  · exact Nat.lt_succ_of_lt (hs.lt e he)

theorem aliveOf_created (s : St) (n m : Nat) :
    aliveOf (created s n) m = if m = n then some s.next else aliveOf s m := by
  rw [aliveOf_def, aliveOf_def]
  by_cases hmn : m = n
  · rw [if_pos hmn, hmn]
    exact congrArg (Option.map (·.id))
      (SortedList.find?_insert_of_pos Entry.name n (isAliveOf n) s.entries (x := ⟨n, s.next, true⟩)
        (isAliveOf_iff.2 ⟨rfl, rfl⟩) (fun e => isAliveOf_le))
  · rw [if_neg hmn]
    exact congrArg (Option.map (·.id))
      (SortedList.find?_insert_of_neg _ (isAliveOf m) s.entries (x := ⟨n, s.next, true⟩)
        (fun h => hmn (isAliveOf_iff.1 h).1.symm))

theorem kill_id (i : Nat) (e : Entry) : (kill i e).id = e.id := by unfold kill; split <;> rfl
theorem kill_name (i : Nat) (e : Entry) : (kill i e).name = e.name := by unfold kill; split <;> rfl

theorem kill_alive (i : Nat) (e : Entry) : (kill i e).alive = (e.alive && decide (e.id ≠ i)) := by
  unfold kill
  by_cases h : e.id = i <;> simp [h]

theorem kill_rel (i : Nat) (a b : Entry) (h : Rel a b) : Rel (kill i a) (kill i b) := by
  unfold Rel
  rw [kill_name, kill_name, kill_id, kill_id, kill_alive]
  exact ⟨h.1, fun hn => by rw [h.2.1 hn]; rfl, h.2.2⟩

theorem rinv_drop (s : St) (hs : RInv s) (i : Nat) : RInv { s with entries := s.entries.map (kill i) } := by
  refine ⟨List.Pairwise.map (kill i) (kill_rel i) hs.pw, ?_⟩
  intro e he
  obtain ⟨a, ha, rfl⟩ := List.mem_map.1 he
  rw [kill_id]
  exact hs.lt a ha

theorem isAliveOf_kill (i m : Nat) (e : Entry) : isAliveOf m (kill i e) = (isAliveOf m e && decide (e.id ≠ i)) := by
  unfold isAliveOf
  rw [kill_name, kill_alive, Bool.and_assoc]

theorem find_kill (l : List Entry) (h : l.Pairwise Rel) (i m : Nat) :
    ((l.map (kill i)).find? (isAliveOf m)).map (·.id) =
      if (l.find? (isAliveOf m)).map (·.id) = some i then none else (l.find? (isAliveOf m)).map (·.id) := by
  have hq : (isAliveOf m ∘ kill i) = fun e => isAliveOf m e && decide (e.id ≠ i) := funext (isAliveOf_kill i m)
  rw [List.find?_map, hq, SortedList.find?_and h (isAliveOf m) (isAliveOf_unique m)]
  cases l.find? (isAliveOf m) with
  | none => rfl
  | some e =>
    simp only [Option.filter_some, Option.map_some, Option.some.injEq, decide_eq_true_eq, ne_eq]
    by_cases hi : e.id = i
    · rw [if_neg (fun h => h hi), if_pos hi]
      rfl
    · rw [if_pos hi, if_neg hi]
      exact congrArg some (kill_id i e)

theorem aliveOf_drop (s : St) (hs : RInv s) (i m : Nat) :
    aliveOf { s with entries := s.entries.map (kill i) } m = if aliveOf s m = some i then none else aliveOf s m :=
  find_kill s.entries hs.pw i m

theorem rinv_cleanup (s : St) (hs : RInv s) : RInv { s with entries := s.entries.filter (fun e => e.alive) } := by
  refine ⟨List.Pairwise.filter _ hs.pw, ?_⟩
  intro e he
  exact hs.lt e (List.mem_filter.1 he).1

theorem aliveOf_cleanup (s : St) (m : Nat) :
    aliveOf { s with entries := s.entries.filter (fun e => e.alive) } m = aliveOf s m := by
  rw [aliveOf_def, aliveOf_def, List.find?_filter]
  congr 2
  funext e
  unfold isAliveOf
  cases e.alive <;> cases (e.name == m) <;> rfl

theorem rinv_step (p : Params) (hp : p.OK) (s : St) (hs : RInv s) (op : Op) : RInv (step p s op).1 := by
  cases op with
  | createOrGet n =>
    rw [step_createOrGet p hp s hs n]
    cases h : aliveOf s n with
    | some i => exact hs
    | none => exact rinv_created s hs n h
  | get n => rw [step_get p hp s hs n]; exact hs
  | drop i => exact rinv_drop s hs i
  | cleanup => exact rinv_cleanup s hs

theorem rinv_run (p : Params) (hp : p.OK) (ops : List Op) (s : St) (hs : RInv s) : RInv (run p s ops) := by
  induction ops generalizing s with
  | nil => exact hs
  | cons op ops ih => exact ih _ (rinv_step p hp s hs op)

theorem aliveOf_some_iff (s : St) (hs : RInv s) (n i : Nat) :
    aliveOf s n = some i ↔ ∃ e ∈ s.entries, e.name = n ∧ e.alive = true ∧ e.id = i := by
  rw [aliveOf_def, SortedList.find?_map_eq_some_iff hs.pw _ (isAliveOf_unique n)]
  simp only [isAliveOf_iff, and_assoc]

theorem run_preserves (p : Params) (hp : p.OK) (P : St → Prop) (ok : Op → Prop)
    (hstep : ∀ s op, RInv s → ok op → P s → P (step p s op).1) (ops : List Op) (hok : ∀ op ∈ ops, ok op) :
    ∀ s, RInv s → P s → RInv (run p s ops) ∧ P (run p s ops) := by
  induction ops with
  | nil => exact fun s hs h => ⟨hs, h⟩
  | cons op rest ih =>
    intro s hs h
    exact ih (fun o ho => hok o (List.mem_cons_of_mem _ ho)) _ (rinv_step p hp s hs op)
      (hstep s op hs (hok op List.mem_cons_self) h)

theorem alive_kept (p : Params) (hp : p.OK) (n i : Nat) (ops : List Op) (hno : ∀ op ∈ ops, op ≠ .drop i) :
    ∀ (s : St), RInv s → aliveOf s n = some i → RInv (run p s ops) ∧ aliveOf (run p s ops) n = some i := by
  refine run_preserves p hp (fun s => aliveOf s n = some i) (· ≠ .drop i) (fun s op hs hop h => ?_) ops hno
  cases op with
  | createOrGet m =>
    rw [step_createOrGet p hp s hs m]
    cases hm : aliveOf s m with
    | some j => exact h
    | none =>
      -- the name created has no alive entry, so it is not `n`
      have : n ≠ m := fun e => nomatch (e ▸ h).symm.trans hm
      exact (aliveOf_created s m n).trans ((if_neg this).trans h)
  | get m => rw [step_get p hp s hs m]; exact h
  | drop j =>
    have hj : aliveOf s n ≠ some j := fun e => hop (congrArg Op.drop (Option.some.inj (h.symm.trans e)).symm)
    exact (aliveOf_drop s hs j n).trans ((if_neg hj).trans h)
  | cleanup => exact (aliveOf_cleanup s n).trans h

end SinkReg
