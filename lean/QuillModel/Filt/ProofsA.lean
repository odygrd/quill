import QuillModel.Filt.Step
/-! Stage A of the invariant of `Filt/Model.lean`: the lock component obeys `Spin.SInv`, the program counters agree with
"who is inside the critical section", and every critical-section access of `_global_filters` is race-free. -/
namespace Filt
open Spin (upd upd_same upd_other forall_upd)

theorem raceFree_of_inv {l : Spin.St} {t : Nat} (h : Spin.SInv l) (ht : l.inCS t = true) : raceFree l t = true := by
  unfold raceFree
  simp only [Bool.and_eq_true, decide_eq_true_eq, List.all_eq_true]
  refine ⟨h.holderSees t ht, ?_⟩
  intro u _
  cases hu : l.inCS u with
  | false => simp
  | true => simp [h.excl u t hu ht]

def FPc.inside (pc : FPc) : Prop := pc.isSetF = true ∨ pc.isUnl = true

structure InvA (s : St) : Prop where
  lk : Spin.SInv s.lock
  nt : 0 < s.lock.nthreads
  bcs : s.lock.inCS 0 = true ↔ (s.bpc = .reset ∨ s.bpc = .unl)
  fcs : ∀ u, 0 < u → (s.lock.inCS u = true ↔ (s.fpc u).inside)
  rc : s.races = 0

attribute [local simp] FPc.inside FPc.isSetF FPc.isUnl

theorem initA (n lvl0 : Nat) : InvA (init n lvl0) := by
  refine { lk := Spin.init_inv _, nt := by simp [init], bcs := by simp [init], fcs := by simp [init], rc := rfl }

theorem InvA.frame {s s' : St} (h : InvA s) (hlk : Spin.SInv s'.lock) (hn : s'.lock.nthreads = s.lock.nthreads)
    (hin : s'.lock.inCS = s.lock.inCS) (hr : s'.races = 0)
    (hb : (s'.bpc = .reset ∨ s'.bpc = .unl) ↔ (s.bpc = .reset ∨ s.bpc = .unl))
    (hf : ∀ u, 0 < u → ((s'.fpc u).inside ↔ (s.fpc u).inside)) : InvA s' :=
  { lk := hlk, nt := hn ▸ h.nt, bcs := by rw [hin, hb]; exact h.bcs,
    fcs := fun u hu => by rw [hin, hf u hu]; exact h.fcs u hu, rc := hr }

theorem inside_upd {fpc : Nat → FPc} {u : Nat} {pc : FPc} (h : pc.inside ↔ (fpc u).inside) :
    ∀ v, (upd fpc u pc v).inside ↔ (fpc v).inside :=
  forall_upd (P := fun v (pc : FPc) => pc.inside ↔ (fpc v).inside) h (fun _ => Iff.rfl)

theorem InvA.lockB {s s' : St} (h : InvA s) (b : Bool) (hlk : Spin.SInv s'.lock) (hn : s'.lock.nthreads = s.lock.nthreads)
    (hin : s'.lock.inCS = upd s.lock.inCS 0 b) (hr : s'.races = 0) (hf : s'.fpc = s.fpc)
    (hb : b = true ↔ (s'.bpc = .reset ∨ s'.bpc = .unl)) : InvA s' :=
  { lk := hlk, nt := hn ▸ h.nt, bcs := by rw [hin, upd_same]; exact hb,
    fcs := fun u hu => by rw [hin, hf, upd_other _ _ _ _ (Nat.ne_of_gt hu)]; exact h.fcs u hu, rc := hr }

theorem InvA.lockF {s s' : St} (h : InvA s) {t : Nat} (ht : 0 < t) (b : Bool) (pc : FPc) (hlk : Spin.SInv s'.lock)
    (hn : s'.lock.nthreads = s.lock.nthreads) (hin : s'.lock.inCS = upd s.lock.inCS t b) (hr : s'.races = 0)
    (hb : s'.bpc = s.bpc) (hf : s'.fpc = upd s.fpc t pc) (hpc : b = true ↔ pc.inside) : InvA s' :=
  { lk := hlk, nt := hn ▸ h.nt, bcs := by rw [hin, hb, upd_other _ _ _ _ (Nat.ne_of_lt ht)]; exact h.bcs,
    fcs := fun u hu => by
      rw [hin, hf]
      by_cases hut : u = t
      · rw [hut, upd_same, upd_same]; exact hpc
      · rw [upd_other _ _ _ _ hut, upd_other _ _ _ _ hut]; exact h.fcs u hu,
    rc := hr }

theorem acquireTouchA (o : Spin.Orders) (ho : Spin.OrdersOK o) (s : St) (t : Nat) (h : InvA s)
    (htn : t < s.lock.nthreads) (hl : s.lock.locked = false) :
    let s1 := touch o (acquire o s t) t
    Spin.SInv s1.lock ∧ s1.lock.inCS = upd s.lock.inCS t true ∧ s1.races = 0 ∧ s1.lock.nthreads = s.lock.nthreads := by
  have i1 := Spin.step_inv o ho s.lock (.attempt t) h.lk ⟨htn, h.lk.free hl t⟩
  have a1 := Spin.attempt_free_inCS o s.lock t hl
  have hin : (Spin.step o s.lock (.attempt t)).inCS t = true := by rw [a1, upd_same]
  have i2 := Spin.step_inv o ho _ (.access t) i1 ⟨by rw [Spin.step_nthreads]; exact htn, hin⟩
  refine ⟨i2, ?_, ?_, ?_⟩
  · show (Spin.step o (Spin.step o s.lock (.attempt t)) (.access t)).inCS = _
    rw [Spin.access_inCS, a1]
  · show (if raceFree (Spin.step o s.lock (.attempt t)) t then s.races else s.races + 1) = 0
    rw [raceFree_of_inv i1 hin]; exact h.rc
  · show (Spin.step o (Spin.step o s.lock (.attempt t)) (.access t)).nthreads = _
    rw [Spin.step_nthreads, Spin.step_nthreads]

theorem InvA.move {p : Params} (ho : Spin.OrdersOK p.lock) (hnt : p.tryLock = false) {s s' : St} (h : InvA s)
    (hm : Move p s s') : InvA s' := by
  induction hm with
  | stay => exact h
  | tryBusy _ ht => rw [hnt] at ht; cases ht
  -- a frontend changes its program counter on the same side of the critical section
  | beginAdd u _ _ hpc | beginLvl u _ _ hpc | storeLvl u _ _ hpc | beginLog u _ _ _ hpc | logStore u _ _ _ hpc
  | setFlag u _ _ hpc =>
    exact h.frame h.lk rfl rfl h.rc Iff.rfl (fun v _ => inside_upd (by simp [hpc]) v)
  -- so does the backend
  | beginPoll _ hb | pollTake _ _ hb _ | pollNone _ hb | lvlFail _ hb _ _ | lvlPass _ hb _ _ | flagSet _ hb _ _ _
  | flagClear _ hb _ _ _ | resetOnly hb _ =>
    exact h.frame h.lk rfl rfl h.rc (by simp [hb, finish]) (fun _ _ => Iff.rfl)
  | lockBReset _ hl _ =>
    have i1 := Spin.step_inv p.lock ho s.lock (.attempt 0) h.lk ⟨h.nt, h.lk.free hl 0⟩
    exact h.lockB true i1 (Spin.step_nthreads ..) (Spin.attempt_free_inCS p.lock s.lock 0 hl) h.rc rfl (by simp)
  | lockBCopy _ hl _ =>
    obtain ⟨i2, c1, c2, c3⟩ := acquireTouchA p.lock ho s 0 h h.nt hl
    exact h.lockB true i2 c3 c1 c2 rfl (by simp)
  | lockF t F ht htn _ hl =>
    obtain ⟨i2, c1, c2, c3⟩ := acquireTouchA p.lock ho s t h htn hl
    exact h.lockF ht true (.setF F) i2 c3 c1 c2 rfl rfl (by simp)
  | unlockB hb =>
    have i1 := Spin.step_inv p.lock ho s.lock (.unlock 0) h.lk ⟨h.nt, h.bcs.mpr (Or.inr hb)⟩
    exact h.lockB false i1 (Spin.step_nthreads ..) (Spin.unlock_inCS p.lock s.lock 0) h.rc rfl (by simp [finish])
  | unlockF t F ht htn hpc =>
    have hin : s.lock.inCS t = true := (h.fcs t ht).mpr (by simp [hpc])
    have i1 := Spin.step_inv p.lock ho s.lock (.unlock t) h.lk ⟨htn, hin⟩
    exact h.lockF ht false .idle i1 (Spin.step_nthreads ..) (Spin.unlock_inCS p.lock s.lock t) h.rc rfl rfl (by simp)
  | resetCopy hb _ =>
    have hin := h.bcs.mpr (Or.inl hb)
    have i2 := Spin.step_inv p.lock ho s.lock (.access 0) h.lk ⟨h.nt, hin⟩
    refine h.frame i2 (Spin.step_nthreads ..) (Spin.access_inCS p.lock s.lock 0) ?_ (by simp [hb, touch]) (fun _ _ => Iff.rfl)
    show (if raceFree s.lock 0 then s.races else s.races + 1) = 0
    rw [raceFree_of_inv h.lk hin]; exact h.rc

end Filt
