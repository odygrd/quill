import QuillModel.Filt.Step
/-! Stage B of the invariant of `Filt/Model.lean`: what a piece of knowledge guarantees.
`hcov j` (length of `_global_filters` when store `j` of `_new_filter` was made) is monotone in `j`; whoever knows that
`add_filter(F)` has returned (`F ∈ K.done`) also has a `_new_filter` floor `K.f` whose store was made when `F` was already
in `_global_filters` (`Cov`). This is the content of "the flag is set inside the critical section, after the push" plus
"knowledge only travels along release/acquire edges". -/
namespace Filt
open Spin (upd upd_same upd_other forall_upd)

def CovC (hcov : Nat → Nat) (glob : List Nat) (j F : Nat) : Prop := ∃ q, q < hcov j ∧ glob[q]? = some F
def KOkC (hlen : Nat) (hcov : Nat → Nat) (glob : List Nat) (K : Know) : Prop :=
  K.f < hlen ∧ ∀ F, F ∈ K.done → CovC hcov glob K.f F

def Cov (s : St) (j F : Nat) : Prop := CovC s.hcov s.glob j F
def KOk (s : St) (K : Know) : Prop := KOkC s.hlen s.hcov s.glob K

theorem CovC.push {hcov glob j F} (G : Nat) (h : CovC hcov glob j F) : CovC hcov (glob ++ [G]) j F := by
  obtain ⟨q, h1, h2⟩ := h
  refine ⟨q, h1, ?_⟩
  have hq : q < glob.length := (List.getElem?_eq_some_iff.mp h2).1
  rw [List.getElem?_append_left hq]; exact h2

theorem KOkC.push {hlen hcov glob K} (G : Nat) (h : KOkC hlen hcov glob K) : KOkC hlen hcov (glob ++ [G]) K :=
  ⟨h.1, fun F hF => (h.2 F hF).push G⟩

theorem CovC.store {hcov glob j F} (n c : Nat) (hj : j < n) (h : CovC hcov glob j F) : CovC (upd hcov n c) glob j F := by
  obtain ⟨q, h1, h2⟩ := h
  refine ⟨q, ?_, h2⟩
  rw [upd_other _ _ _ _ (Nat.ne_of_lt hj)]; exact h1

theorem KOkC.store {hlen hcov glob K} (c : Nat) (h : KOkC hlen hcov glob K) : KOkC (hlen + 1) (upd hcov hlen c) glob K :=
  ⟨Nat.lt_succ_of_lt h.1, fun F hF => (h.2 F hF).store hlen c h.1⟩

theorem CovC.mono {hcov glob i j F} (hm : hcov i ≤ hcov j) (h : CovC hcov glob i F) : CovC hcov glob j F := by
  obtain ⟨q, h1, h2⟩ := h
  exact ⟨q, Nat.lt_of_lt_of_le h1 hm, h2⟩

theorem KOkC.raise {hlen hcov glob} {K : Know} (hmono : ∀ i j, i ≤ j → j < hlen → hcov i ≤ hcov j) (j : Nat)
    (h : KOkC hlen hcov glob K) (h1 : K.f ≤ j) (h2 : j < hlen) : KOkC hlen hcov glob { K with f := j } :=
  ⟨h2, fun F hF => (h.2 F hF).mono (hmono _ _ h1 h2)⟩

theorem KOkC.join {hlen hcov glob} {a b : Know} (hmono : ∀ i j, i ≤ j → j < hlen → hcov i ≤ hcov j)
    (ha : KOkC hlen hcov glob a) (hb : KOkC hlen hcov glob b) : KOkC hlen hcov glob (a.join b) := by
  have hlt : max a.f b.f < hlen := Nat.max_lt.mpr ⟨ha.1, hb.1⟩
  refine ⟨hlt, fun F hF => ?_⟩
  rcases List.mem_append.mp hF with h | h
  · exact (ha.2 F h).mono (hmono _ _ (Nat.le_max_left _ _) hlt)
  · exact (hb.2 F h).mono (hmono _ _ (Nat.le_max_right _ _) hlt)

/-- the writer of a new store of `_new_filter` -/
theorem KOkC.own {hlen hcov glob} {K : Know} (hbound : ∀ j, j < hlen → hcov j ≤ glob.length)
    (h : KOkC hlen hcov glob K) : KOkC (hlen + 1) (upd hcov hlen glob.length) glob { K with f := hlen } := by
  refine ⟨Nat.lt_succ_self _, ?_⟩
  intro F hF
  obtain ⟨q, h1, h2⟩ := h.2 F hF
  refine ⟨q, ?_, h2⟩
  rw [upd_same]; exact Nat.lt_of_lt_of_le h1 (hbound _ h.1)

theorem KOkC.addDone {hlen hcov glob} {K : Know} (F : Nat) (h : KOkC hlen hcov glob K) (hc : CovC hcov glob K.f F) :
    KOkC hlen hcov glob { K with done := F :: K.done } := by
  refine ⟨h.1, ?_⟩
  intro G hG
  have hG' : G ∈ F :: K.done := hG
  rcases List.mem_cons.mp hG' with h1 | h1
  · subst h1; exact hc
  · exact h.2 G h1

theorem KOkC.bot {hlen hcov glob} (h : 0 < hlen) : KOkC hlen hcov glob {} :=
  ⟨h, fun F hF => by cases hF⟩

structure InvB (s : St) : Prop where
  hmono : ∀ i j, i ≤ j → j < s.hlen → s.hcov i ≤ s.hcov j
  hbound : ∀ j, j < s.hlen → s.hcov j ≤ s.glob.length
  kT : ∀ t, KOk s (s.know t)
  kL : KOk s s.lockK
  kQ : ∀ u m, m ∈ s.queue u → KOk s m.kn
  pSet : ∀ u F, s.fpc u = .setF F → F ∈ s.glob
  pUnl : ∀ u F, s.fpc u = .unl F → Cov s (s.know u).f F

theorem initB (n lvl0 : Nat) : InvB (init n lvl0) := by
  refine { hmono := by intros; simp [init], hbound := by intros; simp [init], kT := ?_, kL := ?_, kQ := ?_, pSet := ?_, pUnl := ?_ }
  · intro t; exact KOkC.bot (by simp [init])
  · exact KOkC.bot (by simp [init])
  · intro u m hm; simp [init] at hm
  · intro u F hf; simp [init] at hf
  · intro u F hf; simp [init] at hf

theorem InvB.hpos {s : St} (h : InvB s) : 0 < s.hlen := Nat.zero_lt_of_lt h.kL.1

/-- `InvB` reads only these seven components. With `rfl`s it carries the invariant to another spelling of a state: the
    post-state of a `Move` sets components besides (`bpc`, `started`, …) that the lemmas above do not mention. -/
theorem InvB.frame {s s' : St} (h : InvB s) (e1 : s'.hlen = s.hlen) (e2 : s'.hcov = s.hcov) (e3 : s'.glob = s.glob)
    (e4 : s'.know = s.know) (e5 : s'.lockK = s.lockK) (e6 : s'.queue = s.queue) (e7 : s'.fpc = s.fpc) : InvB s' := by
  refine { hmono := ?_, hbound := ?_, kT := ?_, kL := ?_, kQ := ?_, pSet := ?_, pUnl := ?_ }
  · rw [e1, e2]; exact h.hmono
  · rw [e1, e2, e3]; exact h.hbound
  · unfold KOk; rw [e1, e2, e3, e4]; exact h.kT
  · unfold KOk; rw [e1, e2, e3, e5]; exact h.kL
  · unfold KOk; rw [e1, e2, e3, e6]; exact h.kQ
  · rw [e3, e7]; exact h.pSet
  · unfold Cov; rw [e2, e3, e4, e7]; exact h.pUnl

theorem InvB.setKnow {s : St} (h : InvB s) (t : Nat) (K : Know) (hK : KOk s K) (hf : (s.know t).f ≤ K.f) :
    InvB { s with know := upd s.know t K } :=
  { hmono := h.hmono, hbound := h.hbound, kL := h.kL, kQ := h.kQ, pSet := h.pSet,
    kT := forall_upd (P := fun _ (K : Know) => KOkC s.hlen s.hcov s.glob K) hK h.kT,
    pUnl := forall_upd (P := fun v (K : Know) => ∀ F, s.fpc v = .unl F → CovC s.hcov s.glob K.f F)
      (fun F hv => (h.pUnl t F hv).mono (h.hmono _ _ hf hK.1)) h.pUnl }

theorem InvB.setPc {s : St} (h : InvB s) (u : Nat) (pc : FPc) (h1 : ∀ F, pc = .setF F → F ∈ s.glob)
    (h2 : ∀ F, pc = .unl F → Cov s (s.know u).f F) : InvB { s with fpc := upd s.fpc u pc } :=
  { hmono := h.hmono, hbound := h.hbound, kT := h.kT, kL := h.kL, kQ := h.kQ,
    pSet := forall_upd (P := fun _ (pc : FPc) => ∀ F, pc = .setF F → F ∈ s.glob) h1 h.pSet,
    pUnl := forall_upd (P := fun v (pc : FPc) => ∀ F, pc = .unl F → CovC s.hcov s.glob (s.know v).f F) h2 h.pUnl }

theorem InvB.setPcOut {s : St} (h : InvB s) (u : Nat) (pc : FPc) (h1 : pc.isSetF = false) (h2 : pc.isUnl = false) :
    InvB { s with fpc := upd s.fpc u pc } := by
  refine h.setPc u pc ?_ ?_
  · intro F e; rw [e] at h1; cases h1
  · intro F e; rw [e] at h2; cases h2

theorem InvB.push {s : St} (h : InvB s) (F : Nat) : InvB { s with glob := s.glob ++ [F] } :=
  { hmono := h.hmono, hbound := fun j hj => Nat.le_trans (h.hbound j hj) (by simp),
    kT := fun v => (h.kT v).push F, kL := h.kL.push F, kQ := fun u m hm => (h.kQ u m hm).push F,
    pSet := fun v G hv => List.mem_append_left _ (h.pSet v G hv), pUnl := fun v G hv => (h.pUnl v G hv).push F }

theorem InvB.enqueue {s : St} (h : InvB s) (u : Nat) (m : Msg) (hm : KOk s m.kn) :
    InvB { s with queue := upd s.queue u (s.queue u ++ [m]) } := by
  refine { hmono := h.hmono, hbound := h.hbound, kT := h.kT, kL := h.kL, kQ := ?_, pSet := h.pSet, pUnl := h.pUnl }
  refine forall_upd (P := fun _ (q : List Msg) => ∀ m', m' ∈ q → KOkC s.hlen s.hcov s.glob m'.kn) ?_ h.kQ
  intro m' hm'
  rcases List.mem_append.mp hm' with h1 | h1
  · exact h.kQ u m' h1
  · rw [List.mem_singleton.mp h1]; exact hm

theorem InvB.finish {s : St} (h : InvB s) (r : Bool) : InvB (finish s r) :=
  h.frame rfl rfl rfl rfl rfl rfl rfl

theorem InvB.acquire {s : St} (h : InvB s) (o : Spin.Orders) (t : Nat) : InvB (acquire o s t) := by
  have hk : InvB { s with know := if o.xchg.isAcq then upd s.know t ((s.know t).join s.lockK) else s.know } := by
    split
    · exact h.setKnow t _ (KOkC.join h.hmono (h.kT t) h.kL) (Nat.le_max_left _ _)
    · exact h
  exact hk.frame rfl rfl rfl rfl rfl rfl rfl

theorem InvB.release {s : St} (h : InvB s) (o : Spin.Orders) (t : Nat) : InvB (release o s t) := by
  refine { hmono := h.hmono, hbound := h.hbound, kT := h.kT, kL := ?_, kQ := h.kQ, pSet := h.pSet, pUnl := h.pUnl }
  show KOkC s.hlen s.hcov s.glob (if o.unl.isRel then s.know t else {})
  split
  · exact h.kT t
  · exact KOkC.bot h.hpos

theorem cov_storeFlag (s : St) (t : Nat) (v : Bool) {F : Nat} (hF : F ∈ s.glob) :
    Cov (storeFlag s t v) ((storeFlag s t v).know t).f F := by
  obtain ⟨q, hq⟩ := List.getElem?_of_mem hF
  refine ⟨q, ?_, hq⟩
  show q < upd s.hcov s.hlen s.glob.length (upd s.know t { s.know t with f := s.hlen } t).f
  rw [upd_same, upd_same]; exact (List.getElem?_eq_some_iff.mp hq).1

theorem hcov_store {hlen n : Nat} {hcov : Nat → Nat} (hmono : ∀ i j, i ≤ j → j < hlen → hcov i ≤ hcov j)
    (hbound : ∀ j, j < hlen → hcov j ≤ n) :
    (∀ i j, i ≤ j → j < hlen + 1 → upd hcov hlen n i ≤ upd hcov hlen n j) ∧ (∀ j, j < hlen + 1 → upd hcov hlen n j ≤ n) := by
  have hb : ∀ j, j < hlen + 1 → upd hcov hlen n j ≤ n := by
    intro j hj
    by_cases h1 : j = hlen
    · rw [h1, upd_same]; exact Nat.le_refl _
    · rw [upd_other _ _ _ _ h1]; exact hbound j (Nat.lt_of_le_of_ne (Nat.le_of_lt_succ hj) h1)
  refine ⟨?_, hb⟩
  intro i j hij hj
  by_cases h1 : j = hlen
  · rw [h1, upd_same]; exact hb i (Nat.lt_succ_of_le (h1 ▸ hij))
  · have hjl : j < hlen := Nat.lt_of_le_of_ne (Nat.le_of_lt_succ hj) h1
    rw [upd_other _ _ _ _ h1, upd_other _ _ _ _ (Nat.ne_of_lt (Nat.lt_of_le_of_lt hij hjl))]; exact hmono i j hij hjl

theorem InvB.storeFlag {s : St} (h : InvB s) (t : Nat) (v : Bool) : InvB (storeFlag s t v) := by
  obtain ⟨hm, hb⟩ := hcov_store h.hmono h.hbound
  refine { hmono := hm, hbound := hb, kT := ?_, kL := h.kL.store _, kQ := fun u m hm => (h.kQ u m hm).store _,
           pSet := h.pSet, pUnl := ?_ }
  · exact forall_upd (P := fun _ (K : Know) => KOkC (s.hlen + 1) (upd s.hcov s.hlen s.glob.length) s.glob K)
      (KOkC.own h.hbound (h.kT t)) (fun w => (h.kT w).store _)
  · intro u F hu
    obtain ⟨q, hq1, hq2⟩ := h.pUnl u F hu
    by_cases hut : u = t
    · rw [hut]; exact cov_storeFlag s t v (List.mem_of_getElem? hq2)
    · show CovC (upd s.hcov s.hlen s.glob.length) s.glob (upd s.know t { s.know t with f := s.hlen } u).f F
      rw [upd_other _ _ _ _ hut]; exact CovC.store _ _ (h.kT u).1 ⟨q, hq1, hq2⟩

theorem InvB.move {p : Params} {s s' : St} (h : InvB s) (hm : Move p s s') : InvB s' := by
  induction hm with
  | stay => exact h
  | tryBusy => exact h.finish true
  | beginAdd u F =>
    exact (h.setPcOut u (.lockW F) rfl rfl).frame rfl rfl rfl rfl rfl rfl rfl
  | beginLvl u l => exact h.setPcOut u (.lvl l) rfl rfl
  | beginLog u k lv => exact h.setPcOut u (.log k lv) rfl rfl
  | lockBReset | lockBCopy => exact (h.acquire p.lock 0).frame rfl rfl rfl rfl rfl rfl rfl
  | lockF t F =>
    have h1 : InvB { Filt.acquire p.lock s t with glob := s.glob ++ [F] } := (h.acquire p.lock t).push F
    refine (h1.setPc t (.setF F) ?_ (fun _ => nofun)).frame rfl rfl rfl rfl rfl rfl rfl
    intro G e
    cases e
    exact List.mem_append_right _ (List.mem_singleton_self F)
  | setFlag u F _ hpc =>
    refine (h.storeFlag u true).setPc u (.unl F) (fun _ => nofun) ?_
    intro G e
    cases e
    exact cov_storeFlag s u true (h.pSet u F hpc)
  | unlockB => exact (h.release p.lock 0).finish true
  | unlockF t F _ _ hpc =>
    have h1 := h.release p.lock t
    have hc : Cov (Filt.release p.lock s t) ((Filt.release p.lock s t).know t).f F := h1.pUnl t F hpc
    exact (h1.setKnow t _ ((h1.kT t).addDone F hc) (Nat.le_refl _)).setPcOut t .idle rfl rfl
  | storeLvl u l =>
    have h1 := h.setKnow u { s.know u with l := s.llen } (h.kT u) (Nat.le_refl _)
    exact (h1.setPcOut u .idle rfl rfl).frame rfl rfl rfl rfl rfl rfl rfl
  | logStore u k lv =>
    exact (h.enqueue u { k := k, lv := lv, kn := s.know u } (h.kT u)).setPcOut u .idle rfl rfl
  | beginPoll | pollNone => exact h.frame rfl rfl rfl rfl rfl rfl rfl
  | pollTake u m _ hm =>
    have hK := KOkC.join h.hmono (h.kT 0) (h.kQ u m (List.mem_of_getElem? hm))
    exact (h.setKnow 0 _ hK (Nat.le_max_left _ _)).frame rfl rfl rfl rfl rfl rfl rfl
  | lvlFail j =>
    have h1 := h.setKnow 0 { s.know 0 with l := j } (h.kT 0) (Nat.le_refl _)
    exact (h1.finish false).frame rfl rfl rfl rfl rfl rfl rfl
  | lvlPass j =>
    have h1 := h.setKnow 0 { s.know 0 with l := j } (h.kT 0) (Nat.le_refl _)
    exact h1.frame rfl rfl rfl rfl rfl rfl rfl
  | flagSet j _ hj hjl =>
    exact (h.setKnow 0 _ ((h.kT 0).raise h.hmono j hj hjl) hj).frame rfl rfl rfl rfl rfl rfl rfl
  | flagClear j _ hj hjl => exact (h.setKnow 0 _ ((h.kT 0).raise h.hmono j hj hjl) hj).finish true
  | resetCopy | resetOnly => exact (h.storeFlag 0 false).frame rfl rfl rfl rfl rfl rfl rfl

end Filt
