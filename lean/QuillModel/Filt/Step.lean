import QuillModel.Filt.Model
import QuillModel.Spin.Proofs
/-! What one enabled step of `Filt/Model.lean` does to the state, said once: `Move p s s'` lists the post-states of
`Filt.step` together with what enabledness tells about `s`. The four stages of the invariant (`ProofsA` … `ProofsD`) are
each proved by cases on `Move`, never on `step` (written `induction`, which yields the same cases without first unifying
the post-state with each constructor's, as `cases` does; no induction hypothesis arises). -/
namespace Filt
open Spin (upd upd_same upd_other forall_upd)

theorem front_iff {s : St} {u : Nat} : front s u = true ↔ (0 < u ∧ u < s.lock.nthreads) := by
  simp [front]

/-- `step` leaves the state alone when the thread's program counter does not fit the operation (such a step is not
enabled), for `spin`, and for an `exchange` that finds the lock taken (the backend's under `tryLock` excepted, which is
`tryBusy`): all of these are `stay`. -/
inductive Move (p : Params) (s : St) : St → Prop
  | stay : Move p s s
  | beginAdd (u F : Nat) (hu : 0 < u) (hpc : s.fpc u = .idle) :
      Move p s { s with fpc := upd s.fpc u (.lockW F), started := F :: s.started }
  /-- `tryLock` variant only: the backend gives up on the busy lock and evaluates -/
  | tryBusy (hb : s.bpc = .lockW) (ht : p.tryLock = true) : Move p s (finish s true)
  | lockBReset (hb : s.bpc = .lockW) (hl : s.lock.locked = false) (hr : p.resetBeforeCopy = true) :
      Move p s { acquire p.lock s 0 with bpc := .reset }
  | lockBCopy (hb : s.bpc = .lockW) (hl : s.lock.locked = false) (hr : p.resetBeforeCopy = false) :
      Move p s { touch p.lock (acquire p.lock s 0) 0 with loc := s.glob, bpc := .reset }
  | lockF (t F : Nat) (ht : 0 < t) (htn : t < s.lock.nthreads) (hpc : s.fpc t = .lockW F) (hl : s.lock.locked = false) :
      Move p s { touch p.lock (acquire p.lock s t) t with glob := s.glob ++ [F], fpc := upd s.fpc t (.setF F) }
  | setFlag (u F : Nat) (hu : 0 < u) (hpc : s.fpc u = .setF F) :
      Move p s { storeFlag s u true with fpc := upd s.fpc u (.unl F) }
  | unlockB (hb : s.bpc = .unl) : Move p s (finish (release p.lock s 0) true)
  | unlockF (t F : Nat) (ht : 0 < t) (htn : t < s.lock.nthreads) (hpc : s.fpc t = .unl F) :
      Move p s { release p.lock s t with know := upd s.know t { s.know t with done := F :: (s.know t).done },
                                         fpc := upd s.fpc t .idle }
  | beginLvl (u l : Nat) (hu : 0 < u) (hpc : s.fpc u = .idle) : Move p s { s with fpc := upd s.fpc u (.lvl l) }
  | storeLvl (u l : Nat) (hu : 0 < u) (hpc : s.fpc u = .lvl l) :
      Move p s { s with lval := upd s.lval s.llen l, llen := s.llen + 1, know := upd s.know u { s.know u with l := s.llen },
                        fpc := upd s.fpc u .idle }
  | beginLog (u k lv : Nat) (hu : 0 < u) (hpc : s.fpc u = .idle) : Move p s { s with fpc := upd s.fpc u (.log k lv) }
  | logStore (u k lv : Nat) (hu : 0 < u) (hpc : s.fpc u = .log k lv) :
      Move p s { s with queue := upd s.queue u (s.queue u ++ [{ k := k, lv := lv, kn := s.know u }]), fpc := upd s.fpc u .idle }
  | beginPoll (u : Nat) (hb : s.bpc = .idle) : Move p s { s with bpc := .poll u }
  | pollTake (u : Nat) (m : Msg) (hb : s.bpc = .poll u) (hm : (s.queue u)[s.head u]? = some m) :
      Move p s { s with know := upd s.know 0 ((s.know 0).join m.kn), head := upd s.head u (s.head u + 1), curK := m.k,
                        curLv := m.lv, curDone := ((s.know 0).join m.kn).done, curFloor := ((s.know 0).join m.kn).l,
                        bpc := .lvl }
  | pollNone (u : Nat) (hb : s.bpc = .poll u) : Move p s { s with bpc := .idle }
  | lvlFail (j : Nat) (hb : s.bpc = .lvl) (hj : (s.know 0).l ≤ j) (hlt : s.curLv < s.lval j) :
      Move p s (finish { s with know := upd s.know 0 { s.know 0 with l := j }, curIdx := j, curSink := s.lval j } false)
  | lvlPass (j : Nat) (hb : s.bpc = .lvl) (hj : (s.know 0).l ≤ j) (hge : ¬ s.curLv < s.lval j) :
      Move p s { s with know := upd s.know 0 { s.know 0 with l := j }, curIdx := j, curSink := s.lval j, bpc := .flag }
  | flagSet (j : Nat) (hb : s.bpc = .flag) (hj : (s.know 0).f ≤ j) (hjl : j < s.hlen) (hv : s.hval j = true) :
      Move p s { s with know := upd s.know 0 { s.know 0 with f := j }, loc := [], bpc := .lockW }
  | flagClear (j : Nat) (hb : s.bpc = .flag) (hj : (s.know 0).f ≤ j) (hjl : j < s.hlen) (hv : s.hval j = false) :
      Move p s (finish { s with know := upd s.know 0 { s.know 0 with f := j } } true)
  | resetCopy (hb : s.bpc = .reset) (hr : p.resetBeforeCopy = true) :
      Move p s { touch p.lock { storeFlag s 0 false with bpc := .unl } 0 with loc := s.glob }
  | resetOnly (hb : s.bpc = .reset) (hr : p.resetBeforeCopy = false) : Move p s { storeFlag s 0 false with bpc := .unl }

theorem move_of_step (p : Params) (s : St) (op : Op) (he : Enabled p s op) : Move p s (step p s op) := by
  cases op with
  | beginAdd u F =>
    simp only [Enabled, enabled, Bool.and_eq_true, decide_eq_true_eq, front_iff] at he
    exact .beginAdd u F he.1.1 he.2
  | spin t => exact .stay
  | xchg t =>
    simp only [step]
    by_cases ht : t = 0
    · subst ht
      simp only [Enabled, enabled, if_true, decide_eq_true_eq] at he
      rw [if_pos rfl]
      cases hl : s.lock.locked with
      | true =>
        rw [if_pos rfl]
        cases htl : p.tryLock with
        | true => exact .tryBusy he htl
        | false => exact .stay
      | false =>
        rw [if_neg Bool.false_ne_true]
        cases hr : p.resetBeforeCopy with
        | true => exact .lockBReset he hl hr
        | false => exact .lockBCopy he hl hr
    · simp only [Enabled, enabled, if_neg ht, Bool.and_eq_true, front_iff] at he
      rw [if_neg ht]
      cases hpc : s.fpc t with
      | lockW F =>
        cases hl : s.lock.locked with
        | true => exact .stay
        | false => exact .lockF t F he.1.1 he.1.2 hpc hl
      | _ => exact .stay
  | setFlag u =>
    simp only [Enabled, enabled, Bool.and_eq_true, front_iff] at he
    simp only [step]
    cases hpc : s.fpc u with
    | setF F => exact .setFlag u F he.1.1 hpc
    | _ => exact .stay
  | unlock t =>
    simp only [step]
    by_cases ht : t = 0
    · subst ht
      simp only [Enabled, enabled, if_true, decide_eq_true_eq] at he
      exact .unlockB he
    · simp only [Enabled, enabled, if_neg ht, Bool.and_eq_true, front_iff] at he
      rw [if_neg ht]
      cases hpc : s.fpc t with
      | unl F => exact .unlockF t F he.1.1 he.1.2 hpc
      | _ => exact .stay
  | beginLvl u l =>
    simp only [Enabled, enabled, Bool.and_eq_true, decide_eq_true_eq, front_iff] at he
    exact .beginLvl u l he.1.1 he.2
  | storeLvl u =>
    simp only [Enabled, enabled, Bool.and_eq_true, front_iff] at he
    simp only [step]
    cases hpc : s.fpc u with
    | lvl l => exact .storeLvl u l he.1.1 hpc
    | _ => exact .stay
  | beginLog u k lv =>
    simp only [Enabled, enabled, Bool.and_eq_true, decide_eq_true_eq, front_iff] at he
    exact .beginLog u k lv he.1.1 he.2
  | logStore u =>
    simp only [Enabled, enabled, Bool.and_eq_true, front_iff] at he
    simp only [step]
    cases hpc : s.fpc u with
    | log k lv => exact .logStore u k lv he.1.1 hpc
    | _ => exact .stay
  | beginPoll u =>
    simp only [Enabled, enabled, Bool.and_eq_true, decide_eq_true_eq] at he
    exact .beginPoll u he.2
  | pollLoad n =>
    simp only [step]
    cases hb : s.bpc with
    | poll u =>
      dsimp only
      by_cases hn : s.head u < n
      · rw [if_pos hn]
        cases hm : (s.queue u)[s.head u]? with
        | some m => exact .pollTake u m hb hm
        | none => exact .stay
      · rw [if_neg hn]
        exact .pollNone u hb
    | _ => exact .stay
  | loadLvl j =>
    simp only [Enabled, enabled, Bool.and_eq_true, decide_eq_true_eq] at he
    simp only [step]
    by_cases hlt : s.curLv < s.lval j
    · rw [if_pos hlt]
      exact .lvlFail j he.1.1 he.1.2 hlt
    · rw [if_neg hlt]
      exact .lvlPass j he.1.1 he.1.2 hlt
  | loadFlag j =>
    simp only [Enabled, enabled, Bool.and_eq_true, decide_eq_true_eq] at he
    simp only [step]
    cases hv : s.hval j with
    | true => exact .flagSet j he.1.1 he.1.2 he.2 hv
    | false => exact .flagClear j he.1.1 he.1.2 he.2 hv
  | reset =>
    simp only [Enabled, enabled, decide_eq_true_eq] at he
    simp only [step]
    cases hr : p.resetBeforeCopy with
    | true => exact .resetCopy he hr
    | false => exact .resetOnly he hr
  | tryFail =>
    simp only [Enabled, enabled, Bool.and_eq_true, decide_eq_true_eq] at he
    exact .tryBusy he.1.2 he.1.1

end Filt
