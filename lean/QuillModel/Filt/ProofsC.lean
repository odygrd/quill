import QuillModel.Filt.ProofsA
import QuillModel.Filt.ProofsB
/-! Stage C of the invariant of `Filt/Model.lean`: `_local_filters` is a prefix of `_global_filters`, and — outside the
window between `_local_filters.clear()` and the copy — it covers every reset of `_new_filter`: a `false` in the flag's
history was stored by the backend inside a critical section whose copy contained everything pushed before that store
(`j3`). From the copy to the unlock, nobody else being inside, it is all of `_global_filters` (`csFull`). -/
namespace Filt
open Spin (upd upd_same upd_other)

def window (p : Params) (b : BPc) : Prop := b = .lockW ∨ (b = .reset ∧ p.resetBeforeCopy = true)

structure InvC (p : Params) (s : St) : Prop where
  pre : s.loc <+: s.glob
  j3 : ¬ window p s.bpc → ∀ j, j < s.hlen → s.hval j = false → s.hcov j ≤ s.loc.length
  csFull : (s.bpc = .unl ∨ (s.bpc = .reset ∧ p.resetBeforeCopy = false)) → s.loc = s.glob

theorem initC (p : Params) (n lvl0 : Nat) : InvC p (init n lvl0) := by
  refine { pre := by simp [init], j3 := by intros; simp [init], csFull := by simp [init] }

theorem InvC.frame {p : Params} {s s' : St} (h : InvC p s)
    (e1 : s'.loc = s.loc) (e2 : s'.glob = s.glob) (e3 : s'.hlen = s.hlen) (e4 : s'.hval = s.hval) (e5 : s'.hcov = s.hcov)
    (hw : ¬ window p s'.bpc → ¬ window p s.bpc)
    (hc : (s'.bpc = .unl ∨ (s'.bpc = .reset ∧ p.resetBeforeCopy = false)) → (s.bpc = .unl ∨ (s.bpc = .reset ∧ p.resetBeforeCopy = false))) :
    InvC p s' := by
  refine { pre := by rw [e1, e2]; exact h.pre, j3 := ?_, csFull := ?_ }
  · intro hnw; rw [e1, e3, e4, e5]; exact h.j3 (hw hnw)
  · intro hh; rw [e1, e2]; exact h.csFull (hc hh)

theorem not_window_of_eq {p : Params} {b b0 : BPc} (hb : b = b0) (h1 : b0 ≠ .lockW) (h2 : b0 ≠ .reset) : ¬ window p b := by
  rw [hb]
  intro h
  rcases h with h | ⟨h, _⟩
  · exact h1 h
  · exact h2 h

theorem InvC.outside {p : Params} {s s' : St} (h : InvC p s)
    (e1 : s'.loc = s.loc) (e2 : s'.glob = s.glob) (e3 : s'.hlen = s.hlen) (e4 : s'.hval = s.hval) (e5 : s'.hcov = s.hcov)
    (hw : ¬ window p s.bpc) (b : BPc) (eb : s'.bpc = b) (h1 : b ≠ .unl) (h2 : b ≠ .reset) : InvC p s' := by
  refine h.frame e1 e2 e3 e4 e5 (fun _ => hw) ?_
  rw [eb]
  intro hh
  rcases hh with hh | ⟨hh, _⟩
  · exact absurd hh h1
  · exact absurd hh h2

theorem InvC.move {p : Params} (hnt : p.tryLock = false) {s s' : St} (hA : InvA s) (hB : InvB s) (h : InvC p s)
    (hm : Move p s s') : InvC p s' := by
  induction hm with
  | stay => exact h
  | tryBusy _ ht => rw [hnt] at ht; cases ht
  | beginAdd | beginLvl | storeLvl | beginLog | logStore | unlockF => exact h.frame rfl rfl rfl rfl rfl id id
  | beginPoll u hb => exact h.outside rfl rfl rfl rfl rfl (not_window_of_eq hb nofun nofun) (.poll u) rfl nofun nofun
  | pollTake _ _ hb => exact h.outside rfl rfl rfl rfl rfl (not_window_of_eq hb nofun nofun) .lvl rfl nofun nofun
  | pollNone _ hb => exact h.outside rfl rfl rfl rfl rfl (not_window_of_eq hb nofun nofun) .idle rfl nofun nofun
  | lvlFail _ hb => exact h.outside rfl rfl rfl rfl rfl (not_window_of_eq hb nofun nofun) .idle rfl nofun nofun
  | lvlPass _ hb => exact h.outside rfl rfl rfl rfl rfl (not_window_of_eq hb nofun nofun) .flag rfl nofun nofun
  | flagClear _ hb => exact h.outside rfl rfl rfl rfl rfl (not_window_of_eq hb nofun nofun) .idle rfl nofun nofun
  | lockBReset _ _ hr =>
    refine { pre := h.pre, j3 := fun hnw => absurd (Or.inr ⟨rfl, hr⟩) hnw, csFull := ?_ }
    intro hh
    rcases hh with hh | ⟨_, hh⟩
    · cases hh
    · rw [hr] at hh; cases hh
  | lockBCopy => exact { pre := List.prefix_refl s.glob, j3 := fun _ j hj _ => hB.hbound j hj, csFull := fun _ => rfl }
  | lockF t F _ _ _ hl =>
    refine { pre := List.IsPrefix.trans h.pre (List.prefix_append _ _), j3 := h.j3, csFull := ?_ }
    -- the lock was free, so the backend is not inside
    intro hh
    have hin : s.lock.inCS 0 = true := hA.bcs.mpr (by
      rcases hh with hh | ⟨hh, _⟩
      · exact Or.inr hh
      · exact Or.inl hh)
    rw [hA.lk.free hl 0] at hin; cases hin
  | setFlag u F =>
    refine { pre := h.pre, j3 := ?_, csFull := h.csFull }
    intro hnw j hj hv
    have hv' : upd s.hval s.hlen true j = false := hv
    show upd s.hcov s.hlen s.glob.length j ≤ s.loc.length
    by_cases hjl : j = s.hlen
    · rw [hjl, upd_same] at hv'; cases hv'
    · rw [upd_other _ _ _ _ hjl] at hv' ⊢
      exact h.j3 hnw j (Nat.lt_of_le_of_ne (Nat.le_of_lt_succ hj) hjl) hv'
  | unlockB hb =>
    refine { pre := h.pre, j3 := fun _ => h.j3 (not_window_of_eq hb nofun nofun), csFull := ?_ }
    intro hh
    rcases hh with hh | ⟨hh, _⟩ <;> cases hh
  | flagSet =>
    refine { pre := List.nil_prefix, j3 := fun hnw => absurd (Or.inl rfl) hnw, csFull := ?_ }
    intro hh
    rcases hh with hh | ⟨hh, _⟩ <;> cases hh
  | resetCopy =>
    exact { pre := List.prefix_refl s.glob, j3 := fun _ j hj _ => (hB.storeFlag 0 false).hbound j hj, csFull := fun _ => rfl }
  | resetOnly hb hr =>
    have hfull : s.loc = s.glob := h.csFull (Or.inr ⟨hb, hr⟩)
    refine { pre := h.pre, j3 := ?_, csFull := fun _ => hfull }
    intro _ j hj _
    show upd s.hcov s.hlen s.glob.length j ≤ s.loc.length
    rw [hfull]; exact (hB.storeFlag 0 false).hbound j hj

end Filt
