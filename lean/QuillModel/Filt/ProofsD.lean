import QuillModel.Filt.ProofsC
/-! Stage D of the invariant of `Filt/Model.lean`: every evaluation record satisfies the oracle's statement (`Good`):
DONE ⊆ `_local_filters` used ⊆ STARTED, the verdict is the conjunction over exactly those filters, the sink level
compared is a store at or above the backend's floor at the begin of the evaluation. -/
namespace Filt
open Spin (upd upd_same upd_other forall_upd)

structure InvD (s : St) : Prop where
  gs : ∀ F, F ∈ s.glob → F ∈ s.started
  pLock : ∀ u F, s.fpc u = .lockW F → F ∈ s.started
  cd : ∀ F, F ∈ s.curDone → F ∈ (s.know 0).done
  fl : s.bpc = .lvl → s.curFloor ≤ (s.know 0).l
  lv : (s.bpc = .flag ∨ s.bpc = .lockW ∨ s.bpc = .reset ∨ s.bpc = .unl) → s.curSink ≤ s.curLv ∧ s.curFloor ≤ s.curIdx
  ev : ∀ e, e ∈ s.evals → Good e

theorem initD (n lvl0 : Nat) : InvD (init n lvl0) := by
  refine { gs := by simp [init], pLock := by simp [init], cd := by simp [init], fl := by simp [init], lv := by simp [init], ev := by simp [init] }

theorem mem_of_prefix {loc glob : List Nat} (hp : loc <+: glob) {q F : Nat} (hq : q < loc.length) (hg : glob[q]? = some F) : F ∈ loc := by
  obtain ⟨r, hr⟩ := hp
  rw [← hr, List.getElem?_append_left hq] at hg
  exact List.mem_of_getElem? hg

theorem finishGood {s : St} (hgs : ∀ F, F ∈ s.glob → F ∈ s.started) (hev : ∀ e, e ∈ s.evals → Good e)
    (hpre : s.loc <+: s.glob) (hlv : s.curSink ≤ s.curLv ∧ s.curFloor ≤ s.curIdx) (hdone : ∀ F, F ∈ s.curDone → F ∈ s.loc) :
    ∀ e, e ∈ (finish s true).evals → Good e :=
  List.forall_mem_cons.mpr
    ⟨⟨hlv.2, nofun, fun _ => ⟨hlv.1, Bool.true_and _, hdone, fun F hF => hgs F (hpre.subset hF)⟩⟩, hev⟩

theorem InvD.pcOut {s : St} (h : InvD s) (u : Nat) (pc : FPc) (h1 : pc.isLockW = false) :
    ∀ v F, upd s.fpc u pc v = .lockW F → F ∈ s.started := by
  refine forall_upd (P := fun _ (pc : FPc) => ∀ F, pc = .lockW F → F ∈ s.started) ?_ h.pLock
  intro F e; rw [e] at h1; cases h1

/-- a step of a frontend thread: the clauses about the backend's evaluation in progress (`cd`, `fl`, `lv`, `ev`) carry
    over, `gs` and `pLock` are left to show; `InvD.backend` is the converse -/
theorem InvD.frontend {s s' : St} (h : InvD s) (e1 : s'.know 0 = s.know 0) (e2 : s'.bpc = s.bpc) (e3 : s'.evals = s.evals)
    (e4 : (s'.curDone, s'.curFloor, s'.curSink, s'.curLv, s'.curIdx) = (s.curDone, s.curFloor, s.curSink, s.curLv, s.curIdx))
    (gs : ∀ F, F ∈ s'.glob → F ∈ s'.started) (pLock : ∀ u F, s'.fpc u = .lockW F → F ∈ s'.started) : InvD s' := by
  simp only [Prod.mk.injEq] at e4
  obtain ⟨c1, c2, c3, c4, c5⟩ := e4
  refine { gs := gs, pLock := pLock, cd := ?_, fl := ?_, lv := ?_, ev := ?_ }
  · rw [c1, e1]; exact h.cd
  · rw [e2, c2, e1]; exact h.fl
  · rw [e2, c2, c3, c4, c5]; exact h.lv
  · rw [e3]; exact h.ev

theorem InvD.backend {s s' : St} (h : InvD s) (e1 : s'.glob = s.glob) (e2 : s'.started = s.started) (e3 : s'.fpc = s.fpc)
    (cd : ∀ F, F ∈ s'.curDone → F ∈ (s'.know 0).done) (b : BPc) (eb : s'.bpc = b)
    (fl : b = .lvl → s'.curFloor ≤ (s'.know 0).l)
    (lv : (b = .flag ∨ b = .lockW ∨ b = .reset ∨ b = .unl) → s'.curSink ≤ s'.curLv ∧ s'.curFloor ≤ s'.curIdx)
    (ev : ∀ e, e ∈ s'.evals → Good e) : InvD s' := by
  refine { gs := ?_, pLock := ?_, cd := cd, fl := ?_, lv := ?_, ev := ev }
  · rw [e1, e2]; exact h.gs
  · rw [e2, e3]; exact h.pLock
  · rw [eb]; exact fl
  · rw [eb]; exact lv

theorem know0_upd {know : Nat → Know} {u : Nat} (hu : 0 < u) (K : Know) : upd know u K 0 = know 0 :=
  upd_other _ _ _ _ (Nat.ne_of_lt hu)

theorem acquire_know0 (o : Spin.Orders) (s : St) {t : Nat} (ht : 0 < t) : (acquire o s t).know 0 = s.know 0 := by
  unfold acquire
  split
  · exact know0_upd ht _
  · rfl

theorem InvD.move {p : Params} (hnt : p.tryLock = false) {s s' : St} (hB : InvB s) (hC : InvC p s) (h : InvD s)
    (hm : Move p s s') : InvD s' := by
  -- the backend's DONE survives its own `exchange`
  have hacq : ∀ F, F ∈ s.curDone → F ∈ ((acquire p.lock s 0).know 0).done := by
    intro F hF
    unfold acquire
    split
    · exact List.mem_append_left _ (h.cd F hF)
    · exact h.cd F hF
  induction hm with
  | stay => exact h
  | tryBusy _ ht => rw [hnt] at ht; cases ht
  | beginAdd u F =>
    refine h.frontend rfl rfl rfl rfl (fun G hG => List.mem_cons_of_mem _ (h.gs G hG)) ?_
    refine forall_upd (P := fun _ (pc : FPc) => ∀ G, pc = .lockW G → G ∈ F :: s.started) ?_
      (fun v G hv => List.mem_cons_of_mem _ (h.pLock v G hv))
    intro G e
    cases e
    exact List.mem_cons_self
  | beginLvl u l => exact h.frontend rfl rfl rfl rfl h.gs (h.pcOut u (.lvl l) rfl)
  | beginLog u k lv => exact h.frontend rfl rfl rfl rfl h.gs (h.pcOut u (.log k lv) rfl)
  | logStore u => exact h.frontend rfl rfl rfl rfl h.gs (h.pcOut u .idle rfl)
  | storeLvl u _ hu => exact h.frontend (know0_upd hu _) rfl rfl rfl h.gs (h.pcOut u .idle rfl)
  | setFlag u F hu => exact h.frontend (know0_upd hu _) rfl rfl rfl h.gs (h.pcOut u (.unl F) rfl)
  | unlockF t _ ht => exact h.frontend (know0_upd ht _) rfl rfl rfl h.gs (h.pcOut t .idle rfl)
  | lockF t F ht _ hpc =>
    refine h.frontend (acquire_know0 p.lock s ht) rfl rfl rfl ?_ (h.pcOut t (.setF F) rfl)
    intro G hG
    have hG' : G ∈ s.glob ++ [F] := hG
    rcases List.mem_append.mp hG' with h2 | h2
    · exact h.gs G h2
    · rw [List.mem_singleton.mp h2]; exact h.pLock t F hpc
  | lockBReset hb | lockBCopy hb =>
    exact h.backend rfl rfl rfl hacq .reset rfl nofun (fun _ => h.lv (Or.inr (Or.inl hb))) h.ev
  | unlockB hb =>
    have hfull : s.loc = s.glob := hC.csFull (Or.inl hb)
    refine h.backend rfl rfl rfl h.cd .idle rfl nofun nofun ?_
    refine finishGood h.gs h.ev hC.pre (h.lv (Or.inr (Or.inr (Or.inr hb)))) ?_
    intro F hF
    obtain ⟨q, _, hq⟩ := (hB.kT 0).2 F (h.cd F hF)
    show F ∈ s.loc
    rw [hfull]; exact List.mem_of_getElem? hq
  | beginPoll u => exact h.backend rfl rfl rfl h.cd (.poll u) rfl nofun nofun h.ev
  | pollNone => exact h.backend rfl rfl rfl h.cd .idle rfl nofun nofun h.ev
  | pollTake u m => exact h.backend rfl rfl rfl (fun _ hG => hG) .lvl rfl (fun _ => Nat.le_refl _) nofun h.ev
  | lvlFail j hb hj hlt =>
    refine h.backend rfl rfl rfl h.cd .idle rfl nofun nofun ?_
    exact List.forall_mem_cons.mpr ⟨⟨Nat.le_trans (h.fl hb) hj, fun _ => ⟨hlt, rfl⟩, nofun⟩, h.ev⟩
  | lvlPass j hb hj hge =>
    exact h.backend rfl rfl rfl h.cd .flag rfl nofun (fun _ => ⟨Nat.le_of_not_lt hge, Nat.le_trans (h.fl hb) hj⟩) h.ev
  | flagSet j hb => exact h.backend rfl rfl rfl h.cd .lockW rfl nofun (fun _ => h.lv (Or.inl hb)) h.ev
  | flagClear j hb hj hjl hv =>
    have hcov := hC.j3 (not_window_of_eq hb nofun nofun) j hjl hv
    refine h.backend rfl rfl rfl h.cd .idle rfl nofun nofun ?_
    refine finishGood h.gs h.ev hC.pre (h.lv (Or.inl hb)) ?_
    -- `F` sits below `hcov (know 0).f ≤ hcov j ≤ |loc|`, and `loc` is a prefix of `glob`
    intro F hF
    obtain ⟨q, hq1, hq2⟩ := (hB.kT 0).2 F (h.cd F hF)
    exact mem_of_prefix hC.pre (Nat.lt_of_lt_of_le hq1 (Nat.le_trans (hB.hmono _ _ hj hjl) hcov)) hq2
  | resetCopy hb | resetOnly hb =>
    exact h.backend rfl rfl rfl h.cd .unl rfl nofun (fun _ => h.lv (Or.inr (Or.inr (Or.inl hb)))) h.ev

/-! The invariant of `Filt/Model.lean` (stages A–D together) holds in every reachable state, for every number of
frontend threads, every schedule and every legal (possibly stale) result of the relaxed loads. -/

structure FInv (p : Params) (s : St) : Prop where
  a : InvA s
  b : InvB s
  c : InvC p s
  d : InvD s

theorem init_inv (p : Params) (n lvl0 : Nat) : FInv p (init n lvl0) :=
  ⟨initA n lvl0, initB n lvl0, initC p n lvl0, initD n lvl0⟩

theorem step_inv (p : Params) (ho : Spin.OrdersOK p.lock) (hnt : p.tryLock = false) (s : St) (op : Op)
    (h : FInv p s) (he : Enabled p s op) : FInv p (step p s op) :=
  have hm := move_of_step p s op he
  ⟨h.a.move ho hnt hm, h.b.move hm, h.c.move hnt h.a h.b hm, h.d.move hnt h.b h.c hm⟩

theorem reachable_inv (p : Params) (ho : Spin.OrdersOK p.lock) (hnt : p.tryLock = false) :
    ∀ (ops : List Op) (s : St), FInv p s → Run p s ops → FInv p (run p s ops)
  | [], _, h, _ => h
  | op :: ops, s, h, hr => reachable_inv p ho hnt ops _ (step_inv p ho hnt s op h hr.1) hr.2

end Filt
