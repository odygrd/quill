import QuillModel.Backtrace.Proofs
/-!
History-level consequences of the ring relation (`Rel`) and the backend-level relation (`BRel`) between
`stepEv` (real ring, extracted comparison) and `specStepEv` (specification ring, `≥`).
The property theorems are in `Props/C18.lean`.
-/
namespace Backtrace
variable {α : Type}

/-- the ring-level side conditions on the extracted structure -/
def Params.RingOK (p : Params) : Prop :=
  p.resetsIndexOnFlush = true ∧ p.guardsZeroCapacity = true ∧ p.startsAtIndex = true ∧
  p.clearsOnFlush = true ∧ p.wrapSlack = 1

instance (p : Params) : Decidable p.RingOK := by unfold Params.RingOK; infer_instance

/-- every `store` of the history happens with a capacity ≠ 0 (excludes the class of F2) -/
def storesAvoidCapZero : Spec α → List (Op α) → Bool
  | _, [] => true
  | s, op :: ops =>
    (match op with | .store _ => s.cap != 0 | _ => true) && storesAvoidCapZero (s.step op).1 ops

/-- every `process` of the history happens on a ring that has not wrapped: at most `cap` events pending
    (excludes the class of F1) -/
def flushesUnwrapped : Spec α → List (Op α) → Bool
  | _, [] => true
  | s, op :: ops =>
    (match op with | .process => decide (s.pend.length ≤ s.cap) | _ => true) && flushesUnwrapped (s.step op).1 ops

theorem Rel.run_partial {p : Params} (h3 : p.startsAtIndex = true) (h4 : p.clearsOnFlush = true)
    (h5 : p.wrapSlack = 1) : ∀ (ops : List (Op α)) {r : Ring α} {s : Spec α}, Rel r s →
    (p.guardsZeroCapacity = true ∨ storesAvoidCapZero s ops = true) →
    (p.resetsIndexOnFlush = true ∨ flushesUnwrapped s ops = true) →
    trace p r ops = Spec.trace s ops ∧ Rel (Backtrace.run p r ops) (Spec.run s ops) := by
  intro ops
  induction ops with
  | nil => intro r s h _ _; exact ⟨rfl, h⟩
  | cons op ops ih =>
    intro r s h hg hr
    have hg := hg.imp_right Bool.and_eq_true_iff.mp
    have hr := hr.imp_right Bool.and_eq_true_iff.mp
    have hs : Rel (Backtrace.step p r op).1 (s.step op).1 ∧ (Backtrace.step p r op).2 = (s.step op).2 := by
      cases op with
      | store x => exact ⟨h.store (hg.imp_right fun hh => h.cap ▸ bne_iff_ne.mp hh.1) h5 x, rfl⟩
      | process => exact ⟨h.process h3 h4 (hr.imp_right fun hh => h.idx0 (of_decide_eq_true hh.1)), h.process_out h3⟩
      | setCapacity c => exact ⟨h.setCapacity c, rfl⟩
    have ht := ih hs.1 (hg.imp_right And.right) (hr.imp_right And.right)
    refine ⟨?_, ht.2⟩
    rw [trace, Spec.trace, hs.2, ht.1]

theorem Rel.run {p : Params} (hp : p.RingOK) (ops : List (Op α)) {r : Ring α} {s : Spec α} (h : Rel r s) :
    trace p r ops = Spec.trace s ops ∧ Rel (run p r ops) (Spec.run s ops) :=
  Rel.run_partial hp.2.2.1 hp.2.2.2.1 hp.2.2.2.2 ops h (Or.inl hp.2.1) (Or.inl hp.1)

theorem run_append (p : Params) : ∀ (a b : List (Op α)) (r : Ring α), run p r (a ++ b) = run p (run p r a) b := by
  intro a
  induction a with
  | nil => intro b r; rfl
  | cons op a ih => intro b r; simp only [List.cons_append, run, ih]

theorem Spec.run_append : ∀ (a b : List (Op α)) (s : Spec α), Spec.run s (a ++ b) = Spec.run (Spec.run s a) b
  | [], _, _ => rfl
  | op :: a, b, s => Spec.run_append a b (s.step op).1

theorem Spec.run_stores (xs : List α) : ∀ (s : Spec α),
    Spec.run s (xs.map Op.store) = { s with pend := s.pend ++ xs } := by
  induction xs with
  | nil => intro s; simp [Spec.run]
  | cons x xs ih => intro s; simp [Spec.run, Spec.step, ih]

/-- capacity in force after a history: the argument of the last `set_capacity` (`k` if there is none) -/
def capFrom (k : Nat) (ops : List (Op α)) : Nat :=
  ops.foldl (fun k op => match op with | .setCapacity c => c | _ => k) k

theorem Spec.run_cap : ∀ (ops : List (Op α)) (s : Spec α), (Spec.run s ops).cap = capFrom s.cap ops
  | [], _ => rfl
  | .store _ :: ops, s => Spec.run_cap ops _
  | .process :: ops, s => Spec.run_cap ops _
  | .setCapacity c :: ops, s => by
    rw [Spec.run, Spec.run_cap ops]
    show capFrom (if s.cap = c then s else _).cap ops = capFrom c ops
    split
    · next h => rw [h]
    · rfl

/-- the events passed to `store` during a history, in call order -/
def storedOf : List (Op α) → List α
  | [] => []
  | .store x :: ops => x :: storedOf ops
  | _ :: ops => storedOf ops

theorem Spec.trace_sublist : ∀ (ops : List (Op α)) (s : Spec α),
    (Spec.trace s ops).flatten.Sublist (s.pend ++ storedOf ops)
  | [], s => List.nil_sublist _
  | .store x :: ops, s => by
    have := Spec.trace_sublist ops (s.step (.store x)).1
    rwa [show (s.step (.store x)).1.pend = s.pend ++ [x] from rfl, List.append_assoc] at this
  | .process :: ops, s => (lastN_suffix _ _).sublist.append (Spec.trace_sublist ops _)
  | .setCapacity c :: ops, s => by
    have := Spec.trace_sublist ops (s.step (.setCapacity c)).1
    have hp : (s.step (.setCapacity c)).1.pend.Sublist s.pend := by
      show (if s.cap = c then s else _).pend.Sublist s.pend
      split
      · exact List.Sublist.refl _
      · exact List.nil_sublist _
    exact this.trans (hp.append_right _)

theorem applyAction_none {p : Params} {bt lg : Nat} {a : Action} {w : Write} {s : BSt} (hs : s.ring lg = none) :
    applyAction p bt lg a w s = (s, { writes := if a.write then [w] else [], err := a.store }) := by
  rw [applyAction, hs]

theorem applyAction_some {p : Params} {bt lg : Nat} {a : Action} {w : Write} {s : BSt} {r : Ring Nat}
    (hs : s.ring lg = some r) :
    applyAction p bt lg a w s =
      ({ s with ring := upd s.ring lg (some (if a.flush then (process p (if a.store then store p r w.id else r)).1
                                              else if a.store then store p r w.id else r)) },
       { writes := (if a.write then [w] else []) ++
           if a.flush then (process p (if a.store then store p r w.id else r)).2.map (fun id => ⟨lg, bt, id⟩)
           else [] }) := by
  rw [applyAction, hs]
  cases a.flush
  · simp only [Bool.false_eq_true, if_false, List.append_nil]
  · rfl

theorem applyAction_frame (p : Params) (bt lg : Nat) (a : Action) (w : Write) (s : BSt) (lg' : Nat) (h : lg' ≠ lg)
    (hw : w.lg = lg) :
    (applyAction p bt lg a w s).1.ring lg' = s.ring lg' ∧ ∀ x ∈ (applyAction p bt lg a w s).2.writes, x.lg = lg := by
  have hown : ∀ x ∈ (if a.write then [w] else []), x.lg = lg := by
    intro x hx
    split at hx
    · rw [List.mem_singleton.mp hx]; exact hw
    · exact absurd hx List.not_mem_nil
  cases hs : s.ring lg with
  | none => rw [applyAction_none hs]; exact ⟨rfl, hown⟩
  | some r =>
    rw [applyAction_some hs]
    refine ⟨if_neg h, fun x hx => ?_⟩
    rcases List.mem_append.mp hx with hx | hx
    · exact hown x hx
    · split at hx
      · obtain ⟨i, _, rfl⟩ := List.mem_map.mp hx
        rfl
      · exact absurd hx List.not_mem_nil

/-- per logger: both have no storage, or the ring represents the specification state -/
def BRel (s : BSt) (t : SSt) : Prop :=
  s.flushLvl = t.flushLvl ∧
  ∀ lg, (s.ring lg = none ∧ t.ring lg = none) ∨ ∃ r sp, s.ring lg = some r ∧ t.ring lg = some sp ∧ Rel r sp

theorem BRel.init (n : Nat) : BRel (BSt.init n) (SSt.init n) := ⟨rfl, fun _ => Or.inl ⟨rfl, rfl⟩⟩

theorem BRel.upd {s : BSt} {t : SSt} (h : BRel s t) (lg : Nat) {r : Ring Nat} {sp : Spec Nat} (hr : Rel r sp) :
    BRel { s with ring := upd s.ring lg (some r) } { t with ring := upd t.ring lg (some sp) } := by
  refine ⟨h.1, fun j => ?_⟩
  by_cases hj : j = lg
  · exact Or.inr ⟨r, sp, if_pos hj, if_pos hj, hr⟩
  · simp only [Backtrace.upd, if_neg hj]
    exact h.2 j

theorem BRel.upd_left {s : BSt} {t : SSt} (h : BRel s t) (lg : Nat) {r : Ring Nat} {sp : Spec Nat}
    (ht : t.ring lg = some sp) (hr : Rel r sp) : BRel { s with ring := Backtrace.upd s.ring lg (some r) } t := by
  refine ⟨h.1, fun j => ?_⟩
  by_cases hj : j = lg
  · exact Or.inr ⟨r, sp, if_pos hj, hj ▸ ht, hr⟩
  · simp only [Backtrace.upd, if_neg hj]
    exact h.2 j

/-- the backend side conditions: the ring is the repaired one and the trigger compares with `>=` -/
def Params.OK (p : Params) : Prop := p.RingOK ∧ p.flushCmp = .ge

instance (p : Params) : Decidable p.OK := by unfold Params.OK; infer_instance

theorem good_ok : Params.good.OK := by decide

/-- a logger without storage counts as an empty ring of capacity 0, as `init_backtrace` creates it -/
theorem BRel.getD {s : BSt} {t : SSt} (h : BRel s t) (lg : Nat) : Rel ((s.ring lg).getD {}) ((t.ring lg).getD {}) := by
  rcases h.2 lg with ⟨hs, ht⟩ | ⟨r, sp, hs, ht, hl⟩
  · rw [hs, ht]; exact Rel.init
  · rw [hs, ht]; exact hl

theorem action_log_bt (cmp : Cmp) (bt fl lg id : Nat) :
    action cmp bt fl (.log lg bt id) = ⟨false, true, false⟩ := by
  simp [action]

theorem action_log_ne (cmp : Cmp) {bt lvl : Nat} (h : lvl ≠ bt) (fl lg id : Nat) :
    action cmp bt fl (.log lg lvl id) = ⟨true, false, cmp.holds lvl fl⟩ := by
  simp [action, h]

theorem BRel.step {p : Params} (hp : p.OK) (bt : Nat) {s : BSt} {t : SSt} (h : BRel s t) (e : Ev) :
    BRel (stepEv p bt s e).1 (specStepEv bt t e).1 ∧ (stepEv p bt s e).2 = (specStepEv bt t e).2 := by
  obtain ⟨⟨h1, h2, h3, h4, h5⟩, hc⟩ := hp
  cases e with
  | setFlushLvl lg lvl => exact ⟨⟨congrArg (Backtrace.upd · lg lvl) h.1, h.2⟩, rfl⟩
  | initBt lg cap => exact ⟨h.upd lg ((h.getD lg).setCapacity cap), rfl⟩
  | flushBt lg =>
    rcases h.2 lg with ⟨hs, ht⟩ | ⟨r, sp, hs, ht, hl⟩
    · simp only [stepEv, specStepEv, applyAction_none hs, ht]
      exact ⟨h, rfl⟩
    · simp only [stepEv, specStepEv, action, applyAction_some hs, ht, if_true, Bool.false_eq_true, if_false,
        hl.process_out h3]
      exact ⟨h.upd lg (hl.process h3 h4 (Or.inl h1)), rfl⟩
  | log lg lvl id =>
    have hfl : s.flushLvl lg = t.flushLvl lg := congrFun h.1 lg
    by_cases hb : lvl = bt
    · subst hb
      rcases h.2 lg with ⟨hs, ht⟩ | ⟨r, sp, hs, ht, hl⟩
      · simp only [stepEv, specStepEv, action_log_bt, applyAction_none hs, ht, if_true]
        exact ⟨h, rfl⟩
      · simp only [stepEv, specStepEv, action_log_bt, applyAction_some hs, ht, if_true, Bool.false_eq_true,
          if_false]
        exact ⟨h.upd lg (hl.store (Or.inl h2) h5 id), rfl⟩
    · rcases h.2 lg with ⟨hs, ht⟩ | ⟨r, sp, hs, ht, hl⟩
      · simp only [stepEv, specStepEv, action_log_ne _ hb, applyAction_none hs, ht, hb, if_false, if_true,
          ite_self]
        exact ⟨h, trivial⟩
      · simp only [stepEv, specStepEv, action_log_ne _ hb, hc, Cmp.holds, hfl, applyAction_some hs, ht, hb,
          if_false, if_true, Bool.false_eq_true, decide_eq_true_eq]
        by_cases hf : lvl ≥ t.flushLvl lg
        · simp only [hf, if_true, hl.process_out h3]
          exact ⟨h.upd lg (hl.process h3 h4 (Or.inl h1)), rfl⟩
        · simp only [hf, if_false]
          exact ⟨h.upd_left lg ht hl, rfl⟩

theorem BRel.run {p : Params} (hp : p.OK) (bt : Nat) : ∀ (es : List Ev) {s : BSt} {t : SSt}, BRel s t →
    runEv p bt s es = specRunEv bt t es := by
  intro es
  induction es with
  | nil => intro s t _; rfl
  | cons e es ih =>
    intro s t h
    have hs := h.step hp bt e
    simp only [runEv, specRunEv]
    rw [hs.2, ih hs.1]

end Backtrace
