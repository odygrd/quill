import QuillModel.Backtrace.Model
namespace Backtrace
variable {α : Type}

theorem lastN_length (n : Nat) (l : List α) : (lastN n l).length = min n l.length := by
  rw [lastN, List.length_drop, Nat.sub_sub_eq_min, Nat.min_comm]

theorem lastN_of_le {n : Nat} {l : List α} (h : l.length ≤ n) : lastN n l = l := by
  rw [lastN, Nat.sub_eq_zero_of_le h, List.drop_zero]

theorem lastN_zero (l : List α) : lastN 0 l = [] := List.drop_length

theorem lastN_nil (n : Nat) : lastN n ([] : List α) = [] := List.drop_nil

theorem lastN_suffix (n : Nat) (l : List α) : lastN n l <:+ l := List.drop_suffix _ _

theorem lastN_snoc_lt {n : Nat} {l : List α} (x : α) (h : l.length < n) :
    lastN n (l ++ [x]) = lastN n l ++ [x] := by
  rw [lastN_of_le (Nat.le_of_lt h), lastN_of_le (by rw [List.length_append]; exact h)]

theorem lastN_snoc_ge {n : Nat} {l : List α} (x : α) (hn : 0 < n) (h : n ≤ l.length) :
    lastN n (l ++ [x]) = (lastN n l).tail ++ [x] := by
  rw [lastN, lastN, List.tail_drop, List.length_append, List.length_singleton, Nat.sub_add_comm h,
    List.drop_append_of_le_length (Nat.sub_lt_of_pos_le hn h)]

theorem not_snoc_le {n : Nat} {l : List α} (x : α) (h : n ≤ l.length) : ¬ (l ++ [x]).length ≤ n := by
  rw [List.length_append]; exact Nat.not_le_of_lt (Nat.lt_succ_of_le h)

/-- the vector read cyclically from position `k` -/
def rot (ev : List α) (k : Nat) : List α := ev.drop k ++ ev.take k

theorem rot_zero (ev : List α) : rot ev 0 = ev := List.append_nil ev

theorem rot_nil (k : Nat) : rot ([] : List α) k = [] := by rw [rot, List.drop_nil, List.take_nil]; rfl

theorem rot_length (ev : List α) (k : Nat) : (rot ev k).length = ev.length := by
  rw [rot, List.length_append, Nat.add_comm, ← List.length_append, List.take_append_drop]

theorem rot_cons {ev : List α} {i : Nat} (hi : i < ev.length) :
    rot ev i = ev[i] :: (ev.drop (i + 1) ++ ev.take i) := by
  rw [rot, List.drop_eq_getElem_cons hi, List.cons_append]

/-- the slot after `i` of `n`, wrapping after the last one, as `store` and the walk of `process` compute it -/
theorem next_lt {i n : Nat} (hi : i < n) : (if i < n - 1 then i + 1 else 0) < n := by
  split
  · exact Nat.add_lt_of_lt_sub ‹_›
  · exact Nat.zero_lt_of_lt hi

/-- overwriting slot `i` and moving to the next slot, as `store` does: the oldest event goes, the new one is the
    most recent -/
theorem rot_set_next {ev : List α} {i : Nat} (hi : i < ev.length) (x : α) :
    rot (ev.set i x) (if i < ev.length - 1 then i + 1 else 0) = ev.drop (i + 1) ++ ev.take i ++ [x] := by
  have hsucc : rot (ev.set i x) (i + 1) = ev.drop (i + 1) ++ ev.take i ++ [x] := by
    rw [rot, List.drop_set_of_lt (Nat.lt_succ_self i), List.take_succ_eq_append_getElem (by rwa [List.length_set]),
      List.getElem_set_self, List.take_set_of_le (Nat.le_refl i), List.append_assoc]
  by_cases hw : i < ev.length - 1
  · rw [if_pos hw, hsucc]
  · -- `i` is the last slot: reading from one past the end is reading from the start
    have hl : (ev.set i x).length = i + 1 := by
      rw [List.length_set]
      exact Nat.le_antisymm (Nat.le_add_of_sub_le (Nat.le_of_not_lt hw)) hi
    rw [if_neg hw, ← hsucc, rot_zero, rot, ← hl, List.drop_length, List.take_length, List.nil_append]

/-- the same step without a new event, as the walk of `process` does it -/
theorem rot_next {ev : List α} {i : Nat} (hi : i < ev.length) :
    rot ev (if i < ev.length - 1 then i + 1 else 0) = ev.drop (i + 1) ++ ev.take i ++ [ev[i]] := by
  have := rot_set_next hi ev[i]
  rwa [List.set_getElem_self] at this

theorem walk_rot (ev : List α) : ∀ (n index : Nat), index < ev.length → n ≤ ev.length →
    walk ev n index = ((rot ev index).take n, false) := by
  intro n
  induction n with
  | zero => intro index _ _; rfl
  | succ n ih =>
    intro index hi hn
    have hrest : n ≤ (ev.drop (index + 1) ++ ev.take index).length := by
      rw [← rot_length ev index, rot_cons hi] at hn
      exact Nat.le_of_succ_le_succ hn
    rw [walk, ih _ (next_lt hi) (Nat.le_of_succ_le hn), List.getElem?_eq_getElem hi, rot_next hi, rot_cons hi,
      List.take_succ_cons, List.take_append_of_le_length hrest]

/-- `process` on a ring whose index is in range (or 0 on an empty vector): the rotation, no out-of-range read -/
theorem walk_full (ev : List α) (idx : Nat) (h : idx < ev.length ∨ idx = 0) :
    walk ev ev.length idx = (rot ev idx, false) := by
  cases ev with
  | nil => rw [h.resolve_left (Nat.not_lt_zero idx)]; rfl
  | cons a l =>
    have hi : idx < (a :: l).length := h.elim id (fun h0 => h0 ▸ Nat.zero_lt_succ _)
    rw [walk_rot _ _ _ hi (Nat.le_refl _), List.take_of_length_le (Nat.le_of_eq (rot_length _ _))]

/-- `r` (vector, index, capacity) represents the specification state `s`:
    the vector read cyclically from the index is the last `cap` pending events -/
structure Rel (r : Ring α) (s : Spec α) : Prop where
  cap : r.cap = s.cap
  ub : r.ub = false
  len : r.ev.length ≤ r.cap
  /-- while no more than `cap` events are pending the ring has not wrapped: the index is 0 -/
  idx0 : s.pend.length ≤ s.cap → r.idx = 0
  idxB : r.idx < r.ev.length ∨ r.idx = 0
  eqn : lastN s.cap s.pend = rot r.ev r.idx

theorem Rel.init : Rel ({} : Ring α) ({} : Spec α) :=
  ⟨rfl, rfl, Nat.le_refl _, fun _ => rfl, Or.inr rfl, rfl⟩

theorem Rel.size {r : Ring α} {s : Spec α} (h : Rel r s) : r.ev.length = min s.cap s.pend.length := by
  rw [← rot_length r.ev r.idx, ← h.eqn, lastN_length]

theorem Rel.setCapacity {r : Ring α} {s : Spec α} (h : Rel r s) (c : Nat) :
    Rel (setCapacity r c) (s.step (.setCapacity c)).1 := by
  simp only [Backtrace.setCapacity, Spec.step, ← h.cap]
  split
  · exact h
  · exact ⟨rfl, h.ub, Nat.zero_le _, fun _ => rfl, Or.inr rfl, lastN_nil c⟩

theorem store_cap_zero {p : Params} {r : Ring α} (hg : p.guardsZeroCapacity = true) (hc : r.cap = 0) (x : α) :
    store p r x = r := by
  simp [store, hg, hc]

theorem store_grow {p : Params} {r : Ring α} (h : r.ev.length < r.cap) (x : α) :
    store p r x = { r with ev := r.ev ++ [x] } := by
  simp [store, h, Nat.ne_of_gt (Nat.zero_lt_of_lt h)]

theorem store_full {p : Params} {r : Ring α} (hc : r.cap ≠ 0) (h : r.cap ≤ r.ev.length) (x : α) :
    store p r x = { r with ev := r.ev.set r.idx x,
                           idx := if r.idx < r.cap - p.wrapSlack then r.idx + 1 else 0,
                           ub := r.ub || decide (r.ev.length ≤ r.idx) } := by
  simp [store, hc, Nat.not_lt.mpr h]

theorem Rel.store {p : Params} {r : Ring α} (hg : p.guardsZeroCapacity = true ∨ r.cap ≠ 0) (hs : p.wrapSlack = 1)
    {s : Spec α} (h : Rel r s) (x : α) :
    Rel (store p r x) (s.step (.store x)).1 := by
  by_cases hc : r.cap = 0
  · -- capacity 0: nothing is retained (needs the guard)
    rw [store_cap_zero (hg.resolve_right (fun hn => hn hc)) hc]
    have hs0 : s.cap = 0 := h.cap ▸ hc
    have hev : r.ev = [] := List.eq_nil_of_length_eq_zero (Nat.le_zero.mp (hc ▸ h.len))
    refine ⟨h.cap, h.ub, h.len, fun hh => absurd hh (not_snoc_le x (hs0 ▸ Nat.zero_le _)), h.idxB, ?_⟩
    show lastN s.cap (s.pend ++ [x]) = rot r.ev r.idx
    rw [hs0, lastN_zero, hev, rot_nil]
  · by_cases hlt : r.ev.length < r.cap
    · -- still growing: the index is 0 and the vector is the pending list
      rw [store_grow hlt]
      have hpl : s.pend.length < s.cap :=
        Nat.lt_of_not_le fun hle => Nat.ne_of_lt hlt (by rw [h.size, Nat.min_eq_left hle, h.cap])
      have hi0 := h.idx0 (Nat.le_of_lt hpl)
      refine ⟨h.cap, h.ub, Nat.le_trans (Nat.le_of_eq List.length_append) hlt, fun _ => hi0, Or.inr hi0, ?_⟩
      show lastN s.cap (s.pend ++ [x]) = rot (r.ev ++ [x]) r.idx
      rw [lastN_snoc_lt x hpl, h.eqn, hi0, rot_zero, rot_zero]
    · -- full: the slot at the index holds the oldest event; it is overwritten and the index moves on
      have hfull : r.cap = r.ev.length := Nat.le_antisymm (Nat.le_of_not_lt hlt) h.len
      have hi : r.idx < r.ev.length := h.idxB.elim id (fun h0 => h0 ▸ hfull ▸ Nat.pos_of_ne_zero hc)
      have hpl : s.cap ≤ s.pend.length := by rw [← h.cap, hfull, h.size]; exact Nat.min_le_right _ _
      rw [store_full hc (Nat.le_of_eq hfull), show r.cap - p.wrapSlack = r.ev.length - 1 by rw [hs, hfull]]
      refine ⟨h.cap, Bool.or_eq_false_iff.mpr ⟨h.ub, decide_eq_false (Nat.not_le.mpr hi)⟩,
        Nat.le_trans (Nat.le_of_eq List.length_set) h.len, fun hh => absurd hh (not_snoc_le x hpl),
        Or.inl (Nat.lt_of_lt_of_eq (next_lt hi) List.length_set.symm), ?_⟩
      show lastN s.cap (s.pend ++ [x]) = rot (r.ev.set r.idx x) (if r.idx < r.ev.length - 1 then r.idx + 1 else 0)
      rw [lastN_snoc_ge x (h.cap ▸ Nat.pos_of_ne_zero hc) hpl, h.eqn, rot_cons hi, List.tail_cons, rot_set_next hi]

theorem process_eq {p : Params} (hst : p.startsAtIndex = true) {r : Ring α} (hB : r.idx < r.ev.length ∨ r.idx = 0) :
    process p r = ({ r with ev := if p.clearsOnFlush then [] else r.ev,
                            idx := if p.resetsIndexOnFlush then 0 else r.idx }, rot r.ev r.idx) := by
  simp only [process, hst, if_true, walk_full r.ev r.idx hB, Bool.or_false]

/-- `process` hands the callback exactly the last `cap` pending events, oldest first -/
theorem Rel.process_out {p : Params} (hst : p.startsAtIndex = true) {r : Ring α} {s : Spec α} (h : Rel r s) :
    (process p r).2 = lastN s.cap s.pend := by
  rw [process_eq hst h.idxB, h.eqn]

theorem Rel.process_ub {p : Params} (hst : p.startsAtIndex = true) {r : Ring α} {s : Spec α} (h : Rel r s) :
    (process p r).1.ub = false := by
  rw [process_eq hst h.idxB]; exact h.ub

theorem Rel.process {p : Params} (hst : p.startsAtIndex = true) (hcl : p.clearsOnFlush = true)
    {r : Ring α} (hre : p.resetsIndexOnFlush = true ∨ r.idx = 0) {s : Spec α} (h : Rel r s) :
    Rel (process p r).1 (s.step .process).1 := by
  have hidx : (if p.resetsIndexOnFlush = true then 0 else r.idx) = 0 := by
    cases hre with
    | inl h1 => rw [if_pos h1]
    | inr h1 => rw [h1, ite_self]
  rw [process_eq hst h.idxB, hcl]
  refine ⟨h.cap, h.ub, Nat.zero_le _, fun _ => hidx, Or.inr hidx, ?_⟩
  show lastN s.cap [] = rot [] _
  rw [lastN_nil, rot_nil]

theorem process_ev {p : Params} (hcl : p.clearsOnFlush = true) (r : Ring α) : (process p r).1.ev = [] :=
  show (if p.clearsOnFlush = true then [] else r.ev) = [] from if_pos hcl

/-- the walk of `process` makes as many steps as there are events -/
theorem process_out_nil (p : Params) {r : Ring α} (h : r.ev = []) : (process p r).2 = [] := by
  show (walk r.ev r.ev.length _).1 = []
  rw [h]; rfl

end Backtrace
