import QuillModel.LogReg.Model
import QuillModel.Util.SortedList
/-!
Invariant of the logger registry and the step lemmas behind `Props/C17LogReg.lean`, whose statements use `RInv`,
`created` and `decisions` (the per-entry outcome of the clean-up loop) defined here.

`Rel a b` for every pair `a` before `b` in the vector: names STRICTLY ascend (`create_or_get_logger` inserts only when
`_find_logger` found no entry of the name, valid or not), identities differ. Together with "every identity is below
the construction counter" this is inductive for lower/lower.
-/
namespace LogReg

def Rel (a b : Entry) : Prop := a.name < b.name ∧ a.id ≠ b.id

structure RInv (s : St) : Prop where
  pw : s.entries.Pairwise Rel
  lt : ∀ e ∈ s.entries, e.id < s.next

theorem rinv_init : RInv {} := ⟨List.Pairwise.nil, by simp⟩

def hasName (n : Nat) (e : Entry) : Bool := e.name == n

theorem lookup_def (s : St) (n : Nat) : lookup s n = s.entries.find? (hasName n) := rfl

theorem hasName_iff {n : Nat} {e : Entry} : hasName n e = true ↔ e.name = n := beq_iff_eq

theorem hasName_le {n : Nat} {e : Entry} (h : hasName n e = true) : n ≤ e.name := Nat.le_of_eq (hasName_iff.1 h).symm

theorem not_hasName_of_rel {n : Nat} {a b : Entry} (h : Rel a b) (hn : n ≤ a.name) : hasName n b = false := by
  rw [Bool.eq_false_iff, Ne, hasName_iff]
  intro hb
  exact Nat.lt_irrefl _ (Nat.lt_of_lt_of_le (hb ▸ h.1) hn)

theorem hasName_unique (n : Nat) (a b : Entry) (h : Rel a b) (ha : hasName n a = true) : hasName n b = false :=
  not_hasName_of_rel h (hasName_le ha)

/-- `lower_bound` is the end of the `< n` prefix, so `_find_logger` is the linear search by name -/
theorem find_eq_lookup (p : Params) (hp : p.OK) (s : St) (hs : RInv s) (n : Nat) : find p s n = lookup s n := by
  unfold find bound
  rw [hp.1, lookup_def, SortedList.find?_eq_filter_head?_dropWhile Entry.name n hs.pw (hasName n)
    (fun e => hasName_le) (fun a b => not_hasName_of_rel)]
  simp only
  rw [List.getElem?_length_takeWhile]
  cases (s.entries.dropWhile (fun e => decide (e.name < n))).head? with
  | none => rfl
  | some e => simp only [Option.filter_some, hasName_iff]

theorem filter_name_le_one (l : List Entry) (n : Nat) (h : l.Pairwise Rel) : (l.filter (hasName n)).length ≤ 1 :=
  SortedList.length_filter_le_one h (hasName n) (hasName_unique n)

theorem find_some_of_mem (l : List Entry) (h : l.Pairwise Rel) (e : Entry) (he : e ∈ l) :
    l.find? (hasName e.name) = some e :=
  SortedList.find?_eq_some_of_mem h (hasName e.name) (hasName_unique e.name) he (hasName_iff.2 rfl)

theorem insert_lower_eq (l : List Entry) (n : Nat) (x : Entry) :
    insertAt l (bound .lower l n) x =
      l.takeWhile (fun e => decide (e.name < n)) ++ x :: l.dropWhile (fun e => decide (e.name < n)) :=
  SortedList.insert_length_takeWhile _ l x

theorem pairwise_insert_lower (l : List Entry) (n i : Nat) (v : Bool) (h : l.Pairwise Rel)
    (habs : ∀ e ∈ l, e.name ≠ n) (hid : ∀ e ∈ l, e.id < i) :
    (l.takeWhile (fun e => decide (e.name < n)) ++
      { name := n, id := i, valid := v } :: l.dropWhile (fun e => decide (e.name < n))).Pairwise Rel := by
  refine SortedList.pairwise_insert Entry.name n h (fun a b hab => Nat.le_of_lt hab.1) _
    (fun a ha hlt => ?_) (fun b hb hge => ?_)
  · exact ⟨hlt, Nat.ne_of_lt (hid a ha)⟩
  · exact ⟨Nat.lt_of_le_of_ne hge (habs b hb).symm, Nat.ne_of_gt (hid b hb)⟩

theorem lookup_none_iff (s : St) (n : Nat) : lookup s n = none ↔ ∀ e ∈ s.entries, e.name ≠ n := by
  rw [lookup_def, List.find?_eq_none]
  simp only [hasName, beq_iff_eq, ne_eq]

theorem lookup_some_mem {s : St} {n : Nat} {e : Entry} (h : lookup s n = some e) : e ∈ s.entries ∧ e.name = n := by
  rw [lookup_def] at h
  have := List.find?_some h
  simp only [hasName, beq_iff_eq] at this
  exact ⟨List.mem_of_find?_eq_some h, this⟩

/-- the state after a `create_or_get_logger` that found nothing -/
def created (s : St) (n : Nat) : St :=
  { s with
    entries := s.entries.takeWhile (fun e => decide (e.name < n)) ++
      { name := n, id := s.next, valid := true } :: s.entries.dropWhile (fun e => decide (e.name < n)),
    next := s.next + 1 }

theorem step_createOrGet (p : Params) (hp : p.OK) (s : St) (hs : RInv s) (n : Nat) :
    step p s (.createOrGet n) =
      match lookup s n with
      | some e => (s, if e.valid then .id e.id else .guard)
      | none => (created s n, .id s.next) := by
  rw [step, find_eq_lookup p hp s hs n]
  cases lookup s n with
  | some e => rfl
  | none =>
    rw [hp.2, insert_lower_eq]
    rfl

theorem step_get (p : Params) (hp : p.OK) (s : St) (hs : RInv s) (n : Nat) :
    step p s (.get n) = (s, match lookup s n with
                            | some e => if e.valid then .id e.id else .none
                            | none => .none) := by
  rw [step, find_eq_lookup p hp s hs n]
  cases lookup s n <;> rfl

theorem rinv_created (s : St) (hs : RInv s) (n : Nat) (hn : lookup s n = none) : RInv (created s n) := by
  refine ⟨pairwise_insert_lower s.entries n s.next true hs.pw ((lookup_none_iff s n).1 hn) hs.lt, ?_⟩
  intro e he
  show e.id < s.next + 1
  rcases (SortedList.mem_takeWhile_cons_dropWhile _ s.entries _ e).1 he with rfl | he
  · exact Nat.lt_succ_self _
  · exact Nat.lt_succ_of_lt (hs.lt e he)

theorem lookup_created (s : St) (n m : Nat) :
    lookup (created s n) m = if m = n then some ⟨n, s.next, true⟩ else lookup s m := by
  rw [lookup_def, lookup_def]
  by_cases hmn : m = n
  · rw [if_pos hmn, hmn]
    exact SortedList.find?_insert_of_pos Entry.name n (hasName n) s.entries (hasName_iff.2 rfl) (fun e => hasName_le)
  · rw [if_neg hmn]
    exact SortedList.find?_insert_of_neg _ (hasName m) s.entries (fun h => hmn (hasName_iff.1 h).symm)

theorem validOf_created (s : St) (n m : Nat) :
    validOf (created s n) m = if m = n then some s.next else validOf s m := by
  unfold validOf
  rw [lookup_created]
  by_cases h : m = n <;> simp [h]

theorem inval_id (n : Nat) (e : Entry) : (inval n e).id = e.id := by unfold inval; split <;> rfl
theorem inval_name (n : Nat) (e : Entry) : (inval n e).name = e.name := by unfold inval; split <;> rfl

theorem inval_valid (n : Nat) (e : Entry) : (inval n e).valid = (e.valid && decide (e.name ≠ n)) := by
  unfold inval
  by_cases h : e.name = n <;> by_cases h2 : e.valid = true <;> simp [h, h2]

theorem inval_rel (n : Nat) (a b : Entry) (h : Rel a b) : Rel (inval n a) (inval n b) := by
  unfold Rel
  rw [inval_name, inval_name, inval_id, inval_id]
  exact h

theorem rinv_remove (s : St) (hs : RInv s) (n : Nat) :
    RInv { s with entries := s.entries.map (inval n), flag := true } := by
  refine ⟨List.Pairwise.map (inval n) (inval_rel n) hs.pw, ?_⟩
  intro e he
  simp only [List.mem_map] at he
  obtain ⟨a, ha, rfl⟩ := he
  rw [inval_id]; exact hs.lt a ha

theorem find_map_inval (l : List Entry) (n m : Nat) :
    (l.map (inval n)).find? (hasName m) = (l.find? (hasName m)).map (inval n) := by
  have hq : (hasName m ∘ inval n) = hasName m := funext fun e => by simp only [Function.comp, hasName, inval_name]
  rw [List.find?_map, hq]

theorem lookup_remove (s : St) (n m : Nat) :
    lookup { s with entries := s.entries.map (inval n), flag := true } m = (lookup s m).map (inval n) :=
  find_map_inval s.entries n m

theorem validOf_remove (s : St) (n m : Nat) :
    validOf { s with entries := s.entries.map (inval n), flag := true } m = if m = n then none else validOf s m := by
  unfold validOf
  rw [lookup_remove]
  cases h : lookup s m with
  | none => simp
  | some e =>
    have hn := (lookup_some_mem h).2
    simp only [Option.map_some, inval_valid, inval_id, hn]
    by_cases hmn : m = n <;> simp [hmn]

theorem sweep_cons_valid (e : Entry) (es : List Entry) (ans : List Bool) (h : e.valid = true) :
    sweep (e :: es) ans = { sweep es ans with kept := e :: (sweep es ans).kept } := by
  simp [sweep, h]

theorem sweep_cons_erase (e : Entry) (es : List Entry) (ans : List Bool) (h : e.valid = false)
    (ha : ans.headD true = true) :
    sweep (e :: es) ans = { sweep es ans.tail with names := e.name :: (sweep es ans.tail).names } := by
  simp only [sweep, h, ha, Bool.false_eq_true, if_false, if_true]

theorem sweep_cons_keep (e : Entry) (es : List Entry) (ans : List Bool) (h : e.valid = false)
    (ha : ans.headD true = false) :
    sweep (e :: es) ans = { sweep es ans.tail with kept := e :: (sweep es ans.tail).kept, rearm := true } := by
  simp only [sweep, h, ha, Bool.false_eq_true, if_false]

theorem sweep_sublist (l : List Entry) (ans : List Bool) : (sweep l ans).kept.Sublist l := by
  fun_induction sweep l ans with
  | case1 => exact List.Sublist.refl _
  | case2 x xs ans hx r ih => exact ih.cons_cons x
  | case3 x xs ans hx r ha ih => exact ih.cons x
  | case4 x xs ans hx r ha ih => exact ih.cons_cons x

theorem sweep_valid_kept (l : List Entry) (ans : List Bool) : ∀ e ∈ l, e.valid = true → e ∈ (sweep l ans).kept := by
  fun_induction sweep l ans with
  | case1 => intro e he; cases he
  | case2 x xs ans hx r ih =>
    intro e he hv
    rcases List.mem_cons.1 he with rfl | he
    · exact List.mem_cons_self
    · exact List.mem_cons_of_mem _ (ih e he hv)
  | case3 x xs ans hx r ha ih =>
    intro e he hv
    rcases List.mem_cons.1 he with rfl | he
    · exact absurd hv hx
    · exact ih e he hv
  | case4 x xs ans hx r ha ih =>
    intro e he hv
    rcases List.mem_cons.1 he with rfl | he
    · exact List.mem_cons_self
    · exact List.mem_cons_of_mem _ (ih e he hv)

theorem sweep_names_invalid (l : List Entry) (ans : List Bool) :
    ∀ n ∈ (sweep l ans).names, ∃ e ∈ l, e.name = n ∧ e.valid = false := by
  fun_induction sweep l ans with
  | case1 => intro n hn; cases hn
  | case2 x xs ans hx r ih =>
    intro n hn
    obtain ⟨e, he, h⟩ := ih n hn
    exact ⟨e, List.mem_cons_of_mem _ he, h⟩
  | case3 x xs ans hx r ha ih =>
    intro n hn
    rcases List.mem_cons.1 hn with rfl | hn
    · exact ⟨x, List.mem_cons_self, rfl, Bool.eq_false_iff.2 hx⟩
    · obtain ⟨e, he, h⟩ := ih n hn
      exact ⟨e, List.mem_cons_of_mem _ he, h⟩
  | case4 x xs ans hx r ha ih =>
    intro n hn
    obtain ⟨e, he, h⟩ := ih n hn
    exact ⟨e, List.mem_cons_of_mem _ he, h⟩

theorem sweep_names_subset (l : List Entry) (ans : List Bool) : ∀ n ∈ (sweep l ans).names, n ∈ l.map (·.name) := by
  intro n hn
  obtain ⟨e, he, h1, _⟩ := sweep_names_invalid l ans n hn
  exact List.mem_map.2 ⟨e, he, h1⟩

theorem sweep_find_of_not_mem (l : List Entry) (ans : List Bool) (n : Nat) (hn : n ∉ (sweep l ans).names) :
    (sweep l ans).kept.find? (hasName n) = l.find? (hasName n) := by
  fun_induction sweep l ans with
  | case1 => rfl
  | case2 x xs ans hx r ih => rw [List.find?_cons, List.find?_cons, ih hn]
  | case3 x xs ans hx r ha ih =>
    rw [List.find?_cons_of_neg (fun h => hn (List.mem_cons.2 (.inl (hasName_iff.1 h).symm)))]
    exact ih (fun h => hn (List.mem_cons_of_mem _ h))
  | case4 x xs ans hx r ha ih => rw [List.find?_cons, List.find?_cons, ih hn]

theorem not_hasName_of_mem_names {x : Entry} {xs : List Entry} (h : (x :: xs).Pairwise Rel) {ans : List Bool} {n : Nat}
    (hn : n ∈ (sweep xs ans).names) : ¬ hasName n x = true := by
  obtain ⟨e, he, h1, _⟩ := sweep_names_invalid xs ans n hn
  rw [hasName_iff]
  exact Nat.ne_of_lt (h1 ▸ ((List.pairwise_cons.1 h).1 e he).1)

theorem sweep_find_of_mem (l : List Entry) (hl : l.Pairwise Rel) (ans : List Bool) (n : Nat)
    (hn : n ∈ (sweep l ans).names) : (sweep l ans).kept.find? (hasName n) = none := by
  fun_induction sweep l ans with
  | case1 => cases hn
  | case2 x xs ans hx r ih =>
    rw [List.find?_cons_of_neg (not_hasName_of_mem_names hl hn)]
    exact ih (List.pairwise_cons.1 hl).2 hn
  | case3 x xs ans hx r ha ih =>
    have hp := List.pairwise_cons.1 hl
    rcases List.mem_cons.1 hn with rfl | hn
    · rw [List.find?_eq_none]
      intro e he
      rw [not_hasName_of_rel (hp.1 e ((sweep_sublist xs ans.tail).subset he)) (Nat.le_refl _)]
      exact Bool.false_ne_true
    · exact ih hp.2 hn
  | case4 x xs ans hx r ha ih =>
    rw [List.find?_cons_of_neg (not_hasName_of_mem_names hl hn)]
    exact ih (List.pairwise_cons.1 hl).2 hn

theorem sweep_validOf (s : St) (hs : RInv s) (ans : List Bool) (f : Bool) (n : Nat) :
    validOf { s with entries := (sweep s.entries ans).kept, flag := f } n = validOf s n := by
  unfold validOf
  rw [lookup_def, lookup_def]
  by_cases hn : n ∈ (sweep s.entries ans).names
  · obtain ⟨e, he, h1, h2⟩ := sweep_names_invalid s.entries ans n hn
    rw [sweep_find_of_mem s.entries hs.pw ans n hn, ← h1, find_some_of_mem s.entries hs.pw e he]
    simp only [h2, Bool.false_eq_true, if_false]
  · rw [sweep_find_of_not_mem s.entries ans n hn]

theorem sweep_rearm (l : List Entry) (ans : List Bool) :
    (sweep l ans).rearm = (sweep l ans).kept.any (fun e => !e.valid) := by
  fun_induction sweep l ans with
  | case1 => rfl
  | case2 x xs ans hx r ih => simp only [List.any_cons, hx, Bool.not_true, Bool.false_or, r, ih]
  | case3 x xs ans hx r ha ih => exact ih
  | case4 x xs ans hx r ha ih => simp only [List.any_cons, hx, Bool.not_false, Bool.true_or]

/-- the per-entry decisions of the loop: `true` = erased. A valid entry is never erased and consumes no answer; an
    invalid entry consumes the next answer (`true` once the list is exhausted) -/
def decisions : List Entry → List Bool → List Bool
  | [], _ => []
  | e :: es, ans => if e.valid then false :: decisions es ans else ans.headD true :: decisions es ans.tail

theorem length_decisions (l : List Entry) (ans : List Bool) : (decisions l ans).length = l.length := by
  fun_induction decisions l ans with
  | case1 => rfl
  | case2 e es ans hv ih => exact congrArg (· + 1) ih
  | case3 e es ans hv ih => exact congrArg (· + 1) ih

theorem decisions_cons_valid (e : Entry) (es : List Entry) (ans : List Bool) (h : e.valid = true) :
    decisions (e :: es) ans = false :: decisions es ans := by simp [decisions, h]

theorem decisions_cons_invalid (e : Entry) (es : List Entry) (ans : List Bool) (h : e.valid = false) :
    decisions (e :: es) ans = ans.headD true :: decisions es ans.tail := by simp [decisions, h]

theorem sweep_eq (l : List Entry) (ans : List Bool) :
    sweep l ans =
      { kept := ((l.zip (decisions l ans)).filter (fun x => !x.2)).map (·.1),
        names := ((l.zip (decisions l ans)).filter (fun x => x.2)).map (·.1.name),
        rearm := (l.zip (decisions l ans)).any (fun x => !x.1.valid && !x.2) } := by
  fun_induction sweep l ans with
  | case1 => rfl
  | case2 x xs ans hx r ih => simp [r, ih, decisions_cons_valid x xs ans hx, hx]
  | case3 x xs ans hx r ha ih =>
    rw [decisions_cons_invalid x xs ans (Bool.eq_false_iff.2 hx), ha]
    simp [r, ih]
  | case4 x xs ans hx r ha ih =>
    rw [decisions_cons_invalid x xs ans (Bool.eq_false_iff.2 hx), Bool.eq_false_iff.2 ha]
    simp [r, ih, hx]

theorem sweep_kept_eq (l : List Entry) (ans : List Bool) :
    (sweep l ans).kept = ((l.zip (decisions l ans)).filter (fun x => !x.2)).map (·.1) :=
  congrArg Swept.kept (sweep_eq l ans)

theorem sweep_names_eq (l : List Entry) (ans : List Bool) :
    (sweep l ans).names = ((l.zip (decisions l ans)).filter (fun x => x.2)).map (·.1.name) :=
  congrArg Swept.names (sweep_eq l ans)

theorem sweep_rearm_eq (l : List Entry) (ans : List Bool) :
    (sweep l ans).rearm = (l.zip (decisions l ans)).any (fun x => !x.1.valid && !x.2) :=
  congrArg Swept.rearm (sweep_eq l ans)

theorem decisions_erased_invalid (l : List Entry) (ans : List Bool) :
    ∀ x ∈ l.zip (decisions l ans), x.2 = true → x.1.valid = false := by
  fun_induction decisions l ans with
  | case1 => intro x hx; cases hx
  | case2 e es ans hv ih =>
    intro x hx hd
    rcases List.mem_cons.1 hx with rfl | hx
    · cases hd
    · exact ih x hx hd
  | case3 e es ans hv ih =>
    intro x hx hd
    rcases List.mem_cons.1 hx with rfl | hx
    · exact Bool.eq_false_iff.2 hv
    · exact ih x hx hd

theorem rinv_cleanup (s : St) (hs : RInv s) (ans : List Bool) :
    RInv { s with entries := (sweep s.entries ans).kept, flag := (sweep s.entries ans).rearm } := by
  refine ⟨hs.pw.sublist (sweep_sublist _ _), ?_⟩
  intro e he
  exact hs.lt e ((sweep_sublist _ _).subset he)

theorem rinv_step (p : Params) (hp : p.OK) (s : St) (hs : RInv s) (op : Op) : RInv (step p s op).1 := by
  cases op with
  | createOrGet n =>
    rw [step_createOrGet p hp s hs n]
    cases h : lookup s n with
    | some e => exact hs
    | none => exact rinv_created s hs n h
  | get n => rw [step_get p hp s hs n]; exact hs
  | remove n =>
    rw [step]
    split
    · exact rinv_remove s hs n
    · exact hs
  | cleanup ans =>
    rw [step]
    split
    · exact rinv_cleanup s hs ans
    · exact hs
  | all => exact hs
  | count => exact hs

theorem rinv_run (p : Params) (hp : p.OK) (ops : List Op) (s : St) (hs : RInv s) : RInv (run p s ops) := by
  induction ops generalizing s with
  | nil => exact hs
  | cons op ops ih => exact ih _ (rinv_step p hp s hs op)

/-- the form of `SinkReg.aliveOf` -/
theorem validOf_eq (s : St) (hs : RInv s) (n : Nat) :
    validOf s n = (s.entries.find? (fun e => hasName n e && e.valid)).map (·.id) := by
  rw [SortedList.find?_and hs.pw (hasName n) (hasName_unique n), ← lookup_def]
  unfold validOf
  cases lookup s n with
  | none => rfl
  | some e => cases hv : e.valid <;> simp [Option.filter_some, hv]

theorem validOf_some_iff (s : St) (hs : RInv s) (n i : Nat) :
    validOf s n = some i ↔ ∃ e ∈ s.entries, e.name = n ∧ e.valid = true ∧ e.id = i := by
  rw [validOf_eq s hs, SortedList.find?_map_eq_some_iff hs.pw _
    (fun a b hab ha => by rw [hasName_unique n a b hab (Bool.and_eq_true_iff.1 ha).1]; rfl)]
  simp only [Bool.and_eq_true, hasName_iff, and_assoc]

theorem validOf_none_of (s : St) (n : Nat) (h : ∀ e ∈ s.entries, e.name = n → e.valid = false) : validOf s n = none := by
  unfold validOf
  cases hl : lookup s n with
  | none => rfl
  | some e =>
    have ⟨hm, hn⟩ := lookup_some_mem hl
    simp [h e hm hn]

theorem validOf_none_iff (s : St) (hs : RInv s) (n : Nat) :
    validOf s n = none ↔ ∀ e ∈ s.entries, e.name = n → e.valid = false := by
  rw [validOf_eq s hs, Option.map_eq_none_iff, List.find?_eq_none]
  simp only [Bool.and_eq_true, hasName_iff, not_and, Bool.not_eq_true]

theorem validOf_step_createOrGet (p : Params) (hp : p.OK) (s : St) (hs : RInv s) (m n : Nat) :
    validOf (step p s (.createOrGet m)).1 n = if n = m ∧ lookup s m = none then some s.next else validOf s n := by
  rw [step_createOrGet p hp s hs m]
  cases hl : lookup s m with
  | some e => rw [if_neg (fun h => nomatch h.2)]
  | none => simp only [validOf_created, and_true]

theorem validOf_step_remove (p : Params) (s : St) (m n : Nat) :
    validOf (step p s (.remove m)).1 n = if n = m then none else validOf s n := by
  rw [step]
  split
  · exact validOf_remove s m n
  · rename_i hany
    by_cases hnm : n = m
    · rw [if_pos hnm, hnm]
      apply validOf_none_of
      intro e he hn
      simp only [List.any_eq_true, Bool.and_eq_true, beq_iff_eq, not_exists, not_and] at hany
      simpa using hany e he hn
    · rw [if_neg hnm]

theorem validOf_step_cleanup (p : Params) (s : St) (hs : RInv s) (ans : List Bool) (n : Nat) :
    validOf (step p s (.cleanup ans)).1 n = validOf s n := by
  rw [step]
  split
  · exact sweep_validOf s hs ans _ n
  · rfl

theorem run_preserves (p : Params) (hp : p.OK) (P : St → Prop) (ok : Op → Prop)
    (hstep : ∀ s op, RInv s → ok op → P s → P (step p s op).1) (ops : List Op) (hok : ∀ op ∈ ops, ok op) :
    ∀ s, RInv s → P s → RInv (run p s ops) ∧ P (run p s ops) := by
  induction ops with
  | nil => exact fun s hs h => ⟨hs, h⟩
  | cons op rest ih =>
    intro s hs h
    exact ih (fun o ho => hok o (List.mem_cons_of_mem _ ho)) _ (rinv_step p hp s hs op)
      (hstep s op hs (hok op List.mem_cons_self) h)

theorem step_get_validOf (p : Params) (hp : p.OK) (s : St) (hs : RInv s) (n : Nat) :
    step p s (.get n) = (s, match validOf s n with | some i => .id i | none => .none) := by
  rw [step_get p hp s hs n]
  unfold validOf
  cases lookup s n with
  | none => rfl
  | some e => dsimp only; cases e.valid <;> rfl

theorem step_createOrGet_valid (p : Params) (hp : p.OK) (s : St) (hs : RInv s) (n i : Nat) (h : validOf s n = some i) :
    step p s (.createOrGet n) = (s, .id i) := by
  obtain ⟨e, he, hn, hv, rfl⟩ := (validOf_some_iff s hs n i).1 h
  have hl : lookup s n = some e := by
    rw [lookup_def, ← hn]; exact find_some_of_mem s.entries hs.pw e he
  rw [step_createOrGet p hp s hs n, hl]
  exact congrArg (Prod.mk s) (if_pos hv)

theorem valid_kept (p : Params) (hp : p.OK) (n i : Nat) (ops : List Op) (hno : ∀ op ∈ ops, op ≠ .remove n) :
    ∀ (s : St), RInv s → validOf s n = some i → RInv (run p s ops) ∧ validOf (run p s ops) n = some i := by
  refine run_preserves p hp (fun s => validOf s n = some i) (· ≠ .remove n) (fun s op hs hop h => ?_) ops hno
  cases op with
  | createOrGet m =>
    rw [validOf_step_createOrGet p hp s hs m n, if_neg]
    · exact h
    · rintro ⟨rfl, hl⟩
      unfold validOf at h
      rw [hl] at h
      cases h
  | get m => rw [step_get p hp s hs m]; exact h
  | remove m => rw [validOf_step_remove p s m n, if_neg (fun e => hop (by rw [e]))]; exact h
  | cleanup ans => rw [validOf_step_cleanup p s hs ans n]; exact h
  | all => exact h
  | count => exact h

theorem step_cleanup_flag (p : Params) (s : St) (ans : List Bool) (hf : s.flag = true) :
    step p s (.cleanup ans) =
      ({ s with entries := (sweep s.entries ans).kept, flag := (sweep s.entries ans).rearm },
       .removed (sweep s.entries ans).names (sweep s.entries ans).kept.length (sweep s.entries ans).rearm) := by
  simp only [step, hf, if_true]

theorem none_kept (p : Params) (hp : p.OK) (n : Nat) (ops : List Op) (hno : ∀ op ∈ ops, op ≠ .createOrGet n) :
    ∀ (s : St), RInv s → validOf s n = none → RInv (run p s ops) ∧ validOf (run p s ops) n = none := by
  refine run_preserves p hp (fun s => validOf s n = none) (· ≠ .createOrGet n) (fun s op hs hop h => ?_) ops hno
  cases op with
  | createOrGet m => rw [validOf_step_createOrGet p hp s hs m n, if_neg (fun hh => hop (by rw [hh.1]))]; exact h
  | get m => rw [step_get p hp s hs m]; exact h
  | remove m =>
    rw [validOf_step_remove p s m n]
    split
    · rfl
    · exact h
  | cleanup ans => rw [validOf_step_cleanup p s hs ans n]; exact h
  | all => exact h
  | count => exact h

/-- a clean-up whose callback always answers "queues empty" erases exactly the invalid entries -/
theorem sweep_nil_answers (l : List Entry) :
    sweep l [] = { kept := l.filter (fun e => e.valid), names := (l.filter (fun e => !e.valid)).map (·.name),
                   rearm := false } := by
  induction l with
  | nil => rfl
  | cons x xs ih =>
    by_cases h : x.valid = true
    · rw [sweep_cons_valid x xs [] h, ih]; simp [h]
    · have h' : x.valid = false := by simpa using h
      rw [sweep_cons_erase x xs [] h' rfl]
      simp only [List.tail_nil, ih]
      simp [h']

end LogReg
