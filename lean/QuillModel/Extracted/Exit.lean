import QuillModel.Exit.Stop
/-! GENERATED by tools/extract.py (extractors/exit.py) from the current /repo headers — do not edit. -/
namespace Extracted

/-- control-flow skeleton of `detail::on_signal` (non-Windows build), statement by statement -/
def onSignalProg : Exit.Prog :=
  (.ite .notFirst (.act .park .done) .done (.act .storeSignal (.act .setAlarm (.ite (.or .backendIdZero .onBackendThread) (.ite (.sigIn [.int, .term]) (.act .exitSuccess .done) .done (.ite .shouldReraise (.act .restoreDefault (.act .reraise .done)) .done .done)) (.ite .hasLogger (.act .logNotice (.ite (.sigIn [.int, .term]) (.act .flush (.act .exitSuccess .done)) .done (.ite .shouldReraise (.act .logCritical (.act .flush (.act .restoreDefault (.act .reraise .done)))) (.act .flush .done) .done))) .done .done) .done))))
/-- default `SignalHandlerOptions::catchable_signals` -/
def catchableDefault : List Exit.Sig := [.term, .int, .abrt, .fpe, .ill, .segv]
def signalTimeoutSeconds : Nat := 20
/-- life-cycle facts: `stop_backend_thread` renews the once-flag; `Backend::stop()` and the signal-handler
    overload's `atexit` handler reset the backend thread id cached for the signal handler -/
def lifeParams : Exit.LParams :=
  { renewOnce := true, stopClearsId := true, atexitClearsId := true }
/-- `Backend::stop()` flattened through `stop_backend_thread` and `BackendWorker::stop`: its atomic steps in source order -/
def stopSeq : List Exit.SStep := [.exchangeRunning, .notify, .join, .clearWorkerTid, .renewOnce, .clearCtxId]
/-- the same for the `atexit` handler registered by `start(BackendOptions, SignalHandlerOptions)` -/
def atexitSeq : List Exit.SStep := [.exchangeRunning, .notify, .join, .clearWorkerTid, .renewOnce, .clearCtxId]
/-- structural facts (see tools/extractors/exit.py for the exact shapes) -/
def alarmRestoresThenRaisesStored : Bool := true
def atexitStopsBackendThread : Bool := true
def emptyCheckCoversQueuesAndBuffers : Bool := true
def exitFlushesSinksWhenEmpty : Bool := true
def exitHonoursWaitOption : Bool := true
def exitLoopShape : Bool := true
def flushEndsWhenBackendGone : Bool := false
def initInstallsHandlers : Bool := true
def manualDtorCallsExit : Bool := true
def noticeMacroChecksLevelThenLogs : Bool := true
def onceFlagIsTheCurrentOne : Bool := true
def plainStartSpawnsThenRegistersAtexit : Bool := true
def runPollsThenExits : Bool := true
def runWaitsForRunningFlag : Bool := true
def shStartOrder : Bool := true
def startBackendThreadRuns : Bool := true
def startUsesOnceFlag : Bool := true
def stopBackendThreadStopsWorker : Bool := true
def stopStopsBackendThread : Bool := true
def waitForQueuesDefault : Bool := true
def workerStopShape : Bool := true

def exitFailures : List String := []

end Extracted
