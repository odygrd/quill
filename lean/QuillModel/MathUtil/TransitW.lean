import QuillModel.MathUtil.Ctor
import QuillModel.Transit.Proofs
/-!
`TransitEventBuffer` as the C++ computes it — `size_t` positions that wrap at `2^w`, `pos & _mask`, `_capacity * 2`
and `_capacity - 1` in `w` bits — refines the free-running ring `Transit.TB` that `C03_transit_refines` is about,
from any well-formed state (positions arbitrarily large, so through any number of counter wraps), as long as the
doubled capacity is representable (`cap * 2 < 2^w`).
-/
namespace MathUtil
open Transit
variable {α : Type}

@[ext] structure WB (α : Type) where
  initCap : Nat
  cap : Nat
  mask : Nat
  store : Nat → α
  rpos : Nat
  wpos : Nat
  shrinkReq : Bool

/-- `_capacity - 1` in `w` bits -/
def maskOf (w c : Nat) : Nat := (c + 2 ^ w - 1) % 2 ^ w

def WB.size (w : Nat) (b : WB α) : Nat := sizeW w b.wpos b.rpos
def WB.isEmpty (b : WB α) : Bool := b.rpos == b.wpos
def WB.front (b : WB α) : Option α := if b.rpos = b.wpos then none else some (b.store (slot b.rpos b.mask))
def WB.pop (w : Nat) (b : WB α) : WB α := { b with rpos := incW w b.rpos }

def WB.expand (w : Nat) (b : WB α) : WB α :=
  { b with cap := dblW w b.cap, mask := maskOf w (dblW w b.cap),
           store := fun i => if i < b.size w then b.store (slot ((b.rpos + i) % 2 ^ w) b.mask) else b.store 0,
           wpos := b.size w, rpos := 0 }

def WB.push (w : Nat) (b : WB α) (x : α) : WB α :=
  let b1 := if b.cap = b.size w then b.expand w else b
  { b1 with store := fun i => if i = slot b1.wpos b1.mask then x else b1.store i, wpos := incW w b1.wpos }

def WB.tryShrink (w : Nat) (b : WB α) : WB α :=
  if b.shrinkReq && b.isEmpty then
    if b.initCap < b.cap then
      { b with cap := b.initCap, mask := maskOf w b.initCap, wpos := 0, rpos := 0, shrinkReq := false }
    else { b with shrinkReq := false }
  else b

def stepW (w : Nat) (b : WB α) : Op α → WB α
  | .push x => b.push w x
  | .pop => if b.isEmpty then b else b.pop w
  | .requestShrink => { b with shrinkReq := true }
  | .tryShrink => b.tryShrink w

def toW (w : Nat) (b : TB α) : WB α :=
  { initCap := b.initCap, cap := b.cap, mask := b.cap - 1, store := b.store,
    rpos := b.rpos % 2 ^ w, wpos := b.wpos % 2 ^ w, shrinkReq := b.shrinkReq }

structure WOK (w : Nat) (b : TB α) : Prop where
  inv : TInv b
  capPow : ∃ j, b.cap = 2 ^ j
  dblFits : b.cap * 2 < 2 ^ w

section
variable {w : Nat} {b : TB α}

theorem WOK.capLt (h : WOK w b) : b.cap < 2 ^ w := Nat.lt_of_le_of_lt (Nat.le_mul_of_pos_right _ (by decide)) h.dblFits
theorem WOK.sizeLt (h : WOK w b) : b.wpos - b.rpos < 2 ^ w := Nat.lt_of_le_of_lt h.inv.fits h.capLt

theorem toW_size (h : WOK w b) : (toW w b).size w = b.size := sizeW_eq w _ _ h.inv.le h.sizeLt

/-- `_reader_pos == _writer_pos` on the wrapped positions is the test on the free-running ones -/
theorem toW_pos_eq (h : WOK w b) : (toW w b).rpos = (toW w b).wpos ↔ b.rpos = b.wpos :=
  Eq.comm.trans ((empty_eq w b.wpos b.rpos h.inv.le h.sizeLt).trans Eq.comm)

theorem toW_isEmpty (h : WOK w b) : (toW w b).isEmpty = b.isEmpty :=
  Bool.eq_iff_iff.mpr (by rw [WB.isEmpty, TB.isEmpty, beq_iff_eq, beq_iff_eq]; exact toW_pos_eq h)

/-- the capacity is `2^j` and its double is still below `2^w` -/
theorem WOK.capExp (h : WOK w b) : ∃ j, b.cap = 2 ^ j ∧ j + 1 ≤ w := by
  obtain ⟨j, hj⟩ := h.capPow
  have := h.dblFits
  rw [hj, ← Nat.pow_succ] at this
  exact ⟨j, hj, Nat.le_of_lt ((Nat.pow_lt_pow_iff_right (by decide : 1 < 2)).mp this)⟩

theorem toW_slot (h : WOK w b) (x : Nat) : slot (x % 2 ^ w) (toW w b).mask = x % b.cap := by
  obtain ⟨j, hj, hjw⟩ := h.capExp
  simp only [toW, hj]; exact slot_wrap x (Nat.le_of_succ_le hjw)

theorem toW_front (h : WOK w b) : (toW w b).front = b.front :=
  ite_congr (propext (toW_pos_eq h)) (fun _ => rfl) (fun _ => congrArg (fun i => some (b.store i)) (toW_slot h b.rpos))

theorem toW_expand (h : WOK w b) : (toW w b).expand w = toW w b.expand := by
  have hs := toW_size h
  have hcl := h.capLt
  have hd : dblW w b.cap = b.cap * 2 := Nat.mod_eq_of_lt h.dblFits
  have hfit := h.inv.fits
  apply WB.ext
  · rfl
  · exact hd
  · show maskOf w (dblW w b.cap) = b.cap * 2 - 1
    rw [hd]; exact mask_eq (by have := h.inv.capPos; omega) h.dblFits
  · funext i
    show (if i < (toW w b).size w then b.store (slot ((b.rpos % 2 ^ w + i) % 2 ^ w) (toW w b).mask) else b.store 0) = _
    rw [hs, Nat.mod_add_mod, toW_slot h]; rfl
  · rfl
  · show (toW w b).size w = b.size % 2 ^ w
    rw [hs]; exact (Nat.mod_eq_of_lt (by simp only [TB.size]; omega)).symm
  · rfl

theorem expand_wok (h : WOK w b) (h4 : b.cap * 4 < 2 ^ w) : WOK w b.expand where
  inv := expand_inv b h.inv
  capPow := by obtain ⟨j, hj⟩ := h.capPow; exact ⟨j + 1, by simp only [TB.expand, hj, Nat.pow_succ]⟩
  dblFits := by simp only [TB.expand]; omega

end

theorem stepW_toW (w : Nat) (b : TB α) (op : Op α) (h : WOK w b) : stepW w (toW w b) op = toW w (step b op) := by
  cases op with
  | requestShrink => rfl
  | pop =>
    simp only [stepW, step, toW_isEmpty h]
    split
    · rfl
    · apply WB.ext <;> try rfl
      exact incW_eq w b.rpos
  | tryShrink =>
    simp only [stepW, step, WB.tryShrink, TB.tryShrink, toW_isEmpty h]
    show (if (b.shrinkReq && b.isEmpty) = true then (if b.initCap < b.cap then _ else _) else _) = _
    by_cases hc : (b.shrinkReq && b.isEmpty) = true
    · rw [if_pos hc, if_pos hc]
      by_cases hl : b.initCap < b.cap
      · rw [if_pos hl, if_pos hl]
        apply WB.ext <;> try rfl
        · show maskOf w b.initCap = b.initCap - 1
          exact mask_eq h.inv.initPos (Nat.lt_trans hl h.capLt)
      · rw [if_neg hl, if_neg hl]; rfl
    · rw [if_neg hc, if_neg hc]
  | push x =>
    simp only [stepW, step, WB.push, TB.push, toW_size h]
    by_cases hf : b.cap = b.size
    · have hcap : (toW w b).cap = b.cap := rfl
      rw [hcap, if_pos hf, if_pos hf, toW_expand h]
      -- after the expansion the positions are `size` and `0`; one more slot is written
      obtain ⟨j, hj, hjw⟩ := h.capExp
      have hslot : slot (toW w b.expand).wpos (toW w b.expand).mask = b.expand.wpos % b.expand.cap := by
        show slot (b.size % 2 ^ w) (b.cap * 2 - 1) = b.size % (b.cap * 2)
        rw [hj, ← Nat.pow_succ]; exact slot_wrap _ hjw
      apply WB.ext <;> try rfl
      · funext i; show (if i = slot (toW w b.expand).wpos (toW w b.expand).mask then x else _) = _
        rw [hslot]; rfl
      · exact incW_eq w _
    · have hcap : (toW w b).cap = b.cap := rfl
      rw [hcap, if_neg hf, if_neg hf]
      apply WB.ext <;> try rfl
      · funext i; show (if i = slot (b.wpos % 2 ^ w) (toW w b).mask then x else _) = _
        rw [toW_slot h]; rfl
      · exact incW_eq w _

def CapsOK (w : Nat) : TB α → List (Op α) → Prop
  | b, [] => b.cap * 2 < 2 ^ w
  | b, op :: ops => b.cap * 2 < 2 ^ w ∧ CapsOK w (step b op) ops

/-- Any history, any number of counter wraps: the `w`-bit machine run from the image of a well-formed ring ends in
    the image of the ring's run, and `front()`, `size()`, `empty()` agree at the end -/
theorem runW_toW (w : Nat) : ∀ (ops : List (Op α)) (b : TB α), TInv b → (∃ j, b.initCap = 2 ^ j) →
    CapsOK w b ops →
    ops.foldl (stepW w) (toW w b) = toW w (ops.foldl step b) ∧
    (toW w (ops.foldl step b)).front = (ops.foldl step b).front ∧
    (toW w (ops.foldl step b)).size w = (ops.foldl step b).size ∧
    (toW w (ops.foldl step b)).isEmpty = (ops.foldl step b).isEmpty
  | [], b, hi, hi0, hk => by
    have h : WOK w b := ⟨hi, hi.capPow hi0, hk⟩
    exact ⟨rfl, toW_front h, toW_size h, toW_isEmpty h⟩
  | op :: ops, b, hi, hi0, hk => by
    have h : WOK w b := ⟨hi, hi.capPow hi0, hk.1⟩
    have ih := runW_toW w ops (step b op) (step_inv b op hi) ((step_cap_cases b op).1 ▸ hi0) hk.2
    simp only [List.foldl_cons, stepW_toW w b op h]
    exact ih

/-- every state along the history holds at most `L` events (the backend stops reading a thread's queue at the hard limit) -/
def SizesLE (L : Nat) : TB α → List (Op α) → Prop
  | b, [] => b.size ≤ L
  | b, op :: ops => b.size ≤ L ∧ SizesLE L (step b op) ops

/-- capacity after any history `≤ max(initial, 2·L)`: if that doubled fits `w` bits the refinement applies -/
theorem capsOK_of_sizes (w L : Nat) : ∀ (ops : List (Op α)) (b : TB α), b.cap ≤ max b.initCap (2 * L) →
    max b.initCap (2 * L) * 2 < 2 ^ w → SizesLE L b ops → CapsOK w b ops
  | [], b, hc, hm, _ => by show b.cap * 2 < 2 ^ w; omega
  | op :: ops, b, hc, hm, hs => by
    refine ⟨by omega, ?_⟩
    have h1 := step_cap_le b op L hs.1 hc
    have hi := (step_cap_cases b op).1
    exact capsOK_of_sizes w L ops (step b op) (by rw [hi]; exact h1) (by rw [hi]; exact hm) hs.2

theorem cap_is_init_times_pow (b : TB α) (h : TInv b) : ∃ k, b.cap = b.initCap * 2 ^ k := h.grown

end MathUtil
