import QuillModel.MathUtil.NextPow2
import QuillModel.Spsc.Wrap
/-!
What the constructors make of a requested capacity: `_capacity`, `_mask`, the `2 * capacity` allocation
(`BoundedSPSCQueueImpl`), the doubling loop of `_handle_full_queue` and `shrink` (`UnboundedSPSCQueue`),
mask/size arithmetic on free-running `w`-bit positions (`TransitEventBuffer`, both queues).
-/
namespace MathUtil

/-- `c - 1` computed in `w` bits -/
theorem mask_eq {w c : Nat} (h0 : 0 < c) (hlt : c < 2 ^ w) : (c + 2 ^ w - 1) % 2 ^ w = c - 1 := by
  rw [Nat.sub_add_comm h0, Nat.add_mod_right]
  exact Nat.mod_eq_of_lt (Nat.lt_of_le_of_lt (Nat.sub_le _ _) hlt)

theorem mask_of_pow2 {w k : Nat} (hk : k < w) : (2 ^ k + 2 ^ w - 1) % 2 ^ w = 2 ^ k - 1 :=
  mask_eq (Nat.two_pow_pos k) (Nat.pow_lt_pow_right (by decide) hk)

theorem slot_eq_mod (x k : Nat) : slot x (2 ^ k - 1) = x % 2 ^ k := Nat.and_two_pow_sub_one_eq_mod x k

/-- the masked index of a free-running `w`-bit counter does not notice the wrap of the counter at `2^w`,
    because the capacity divides `2^w` -/
theorem slot_wrap (x : Nat) {k w : Nat} (hk : k ≤ w) : slot (x % 2 ^ w) (2 ^ k - 1) = x % 2 ^ k := by
  rw [slot_eq_mod]; exact Nat.mod_mod_of_dvd x (Nat.pow_dvd_pow 2 hk)

theorem sizeW_eq (w wpos rpos : Nat) (hle : rpos ≤ wpos) (hlt : wpos - rpos < 2 ^ w) :
    sizeW w (wpos % 2 ^ w) (rpos % 2 ^ w) = wpos - rpos :=
  Spsc.subM_eq (2 ^ w) wpos rpos (Nat.two_pow_pos w) hle hlt

theorem incW_eq (w pos : Nat) : incW w (pos % 2 ^ w) = (pos + 1) % 2 ^ w := Nat.mod_add_mod _ _ _

/-- the emptiness test `_reader_pos == _writer_pos` on the wrapped counters is exact -/
theorem empty_eq (w wpos rpos : Nat) (hle : rpos ≤ wpos) (hlt : wpos - rpos < 2 ^ w) :
    wpos % 2 ^ w = rpos % 2 ^ w ↔ wpos = rpos :=
  Spsc.mod_eq_iff (2 ^ w) wpos rpos hle hlt

/-- every request yields a capacity `2^j` with `j ≤ w-1`, the matching mask, and the side conditions of
    `C01_reachable_safe` (`0 < cap`) and `C01_wrap` (`cap ∣ 2^w`, `cap < 2^w`) -/
theorem boundedCtor_ok {w : Nat} (hw : 1 ≤ w) (req pct : Nat) :
    ∃ j, j ≤ w - 1 ∧ (boundedCtor w req pct).capacity = 2 ^ j ∧ (boundedCtor w req pct).mask = 2 ^ j - 1 ∧
      0 < (boundedCtor w req pct).capacity ∧ (boundedCtor w req pct).capacity ∣ 2 ^ w ∧
      (boundedCtor w req pct).capacity < 2 ^ w ∧
      ∀ x, slot x (boundedCtor w req pct).mask = x % (boundedCtor w req pct).capacity := by
  obtain ⟨j, hj, hc⟩ := nextPow2W_pow2 hw req
  refine ⟨j, hj, hc, ?_, ?_, ?_, ?_, ?_⟩
  · simp only [boundedCtor, hc]; exact mask_of_pow2 (by omega)
  · simp only [boundedCtor, hc]; exact Nat.two_pow_pos j
  · simp only [boundedCtor, hc]; exact Nat.pow_dvd_pow 2 (by omega)
  · simp only [boundedCtor, hc]; exact Nat.pow_lt_pow_right (by decide) (by omega)
  · intro x
    simp only [boundedCtor, hc, mask_of_pow2 (show j < w by omega)]
    exact slot_eq_mod x j

theorem alloc_exact_iff (w req pct : Nat) :
    (boundedCtor w req pct).allocBytes = 2 * (boundedCtor w req pct).capacity ↔
      (boundedCtor w req pct).capacity < 2 ^ 63 := by
  simp only [boundedCtor]
  constructor
  · intro h
    have := Nat.mod_lt (2 * nextPow2W w req) (Nat.two_pow_pos 64)
    omega
  · intro h; exact Nat.mod_eq_of_lt (by omega)

/-- a type of at most 63 bits has no capacity `2^63`, the one whose doubled allocation wraps in `size_t` -/
theorem cap_narrow_lt {w : Nat} (hw : 1 ≤ w) (hw63 : w ≤ 63) (req : Nat) : nextPow2W w req < 2 ^ 63 :=
  Nat.lt_of_le_of_lt (nextPow2W_le_max hw req)
    (Nat.pow_lt_pow_right (by decide) (Nat.lt_of_lt_of_le (Nat.sub_lt hw Nat.one_pos) hw63))

theorem alloc_exact_narrow {w : Nat} (hw : 1 ≤ w) (hw63 : w ≤ 63) (req pct : Nat) :
    (boundedCtor w req pct).allocBytes = 2 * (boundedCtor w req pct).capacity :=
  (alloc_exact_iff w req pct).mpr (cap_narrow_lt hw hw63 req)

theorem cap64_lt_iff (req : Nat) : nextPow2W 64 req < 2 ^ 63 ↔ req ≤ 2 ^ 62 := by
  have h : nextPow2W 64 req = 2 ^ 63 ↔ 2 ^ 62 < req := nextPow2W_top_iff (w := 64) (by decide) req
  rw [← Nat.not_lt (a := 2 ^ 62), ← h, Nat.lt_iff_le_and_ne]
  exact and_iff_right (nextPow2W_le_max (w := 64) (by decide) req)

/-- `size_t` (`w = 64`): the allocation is exact iff the request is at most `2^62`; above that the capacity is
    `2^63` and `2ull * capacity` wraps to 0 bytes -/
theorem alloc_exact_64_iff (req pct : Nat) :
    (boundedCtor 64 req pct).allocBytes = 2 * (boundedCtor 64 req pct).capacity ↔ req ≤ 2 ^ 62 := by
  rw [alloc_exact_iff]; exact cap64_lt_iff req

theorem alloc_wraps_to_zero {req pct : Nat} (h : 2 ^ 62 < req) :
    (boundedCtor 64 req pct).capacity = 2 ^ 63 ∧ (boundedCtor 64 req pct).allocBytes = 0 := by
  have hc : nextPow2W 64 req = 2 ^ 63 := (nextPow2W_top_iff (w := 64) (by decide) req).mpr h
  simp only [boundedCtor, hc]
  exact ⟨trivial, by decide⟩

theorem batch_le_cap {w req pct : Nat} (hp : pct ≤ 100)
    (hnw : (boundedCtor w req pct).capacity * pct < 2 ^ prodWidth w) :
    (boundedCtor w req pct).bytesPerBatch ≤ (boundedCtor w req pct).capacity := by
  simp only [boundedCtor] at hnw ⊢
  rw [Nat.mod_eq_of_lt hnw]
  apply Nat.div_le_of_le_mul
  rw [Nat.mul_comm]
  exact Nat.mul_le_mul_right _ hp

theorem half_max64 : (2 ^ 64 - 1) >>> 1 = 2 ^ 63 - 1 := by decide

theorem ctorRejects_iff (w req : Nat) : ctorRejects true w req = true ↔ 2 ^ 63 ≤ nextPow2W w req := by
  simp only [ctorRejects, Bool.true_and, decide_eq_true_eq, half_max64]; omega

theorem ctorRejects_false (w req : Nat) : ctorRejects false w req = false := by simp [ctorRejects]

theorem ctorRejects_64_iff (req : Nat) : ctorRejects true 64 req = true ↔ 2 ^ 62 < req := by
  rw [ctorRejects_iff, ← Nat.not_lt, cap64_lt_iff, Nat.not_le]

theorem ctorRejects_narrow {w : Nat} (hw : 1 ≤ w) (hw63 : w ≤ 63) (req : Nat) : ctorRejects true w req = false :=
  Bool.eq_false_iff.mpr fun h => Nat.not_le.mpr (cap_narrow_lt hw hw63 req) ((ctorRejects_iff w req).mp h)

theorem accepted_alloc_exact {w req pct : Nat} {c : BoundedCtor} (h : boundedCtorR true w req pct = some c) :
    c.allocBytes = 2 * c.capacity := by
  simp only [boundedCtorR] at h
  split at h
  · exact absurd h (by simp)
  · rename_i hr
    have hlt : nextPow2W w req < 2 ^ 63 := by
      apply Nat.lt_of_not_le
      intro hge
      exact hr ((ctorRejects_iff w req).mpr hge)
    simp only [Option.some.injEq] at h
    subst h
    exact (alloc_exact_iff w req pct).mpr hlt

theorem handleFullR_false (cap n maxCap : Nat) : handleFullR false cap n maxCap = handleFull cap n maxCap := by
  unfold handleFullR
  cases handleFull cap n maxCap with
  | alloc c =>
    show (if ctorRejects false 64 c then _ else _) = _
    rw [ctorRejects_false]
    rfl
  | null => rfl
  | throw => rfl
  | hang => rfl

theorem hfLoop_zero (n : Nat) (hn : 0 < n) : ∀ fuel, hfLoop fuel 0 n = none := by
  intro fuel
  induction fuel with
  | zero => rfl
  | succ f ih => simp only [hfLoop, hn, if_true]; exact ih

theorem dbl64_pow {j : Nat} (hj : j < 63) : (2 ^ j * 2) % 2 ^ 64 = 2 ^ (j + 1) := by
  rw [← Nat.pow_succ]
  exact Nat.mod_eq_of_lt (Nat.pow_lt_pow_right (by decide) (Nat.succ_lt_succ hj))

theorem dbl64_top : (2 ^ 63 * 2) % 2 ^ 64 = 0 := by decide

/-- the 64-bit loop is `Uspsc.dbl` as long as `dbl`'s result fits 64 bits: no doubling wraps -/
theorem hfLoop_eq_dbl (n : Nat) : ∀ fuel c, n ≤ Uspsc.dbl fuel c n → Uspsc.dbl fuel c n < 2 ^ 64 →
    hfLoop (fuel + 1) c n = some (Uspsc.dbl fuel c n)
  | 0, c, hg, _ => by simp only [Uspsc.dbl] at hg; simp only [hfLoop, Uspsc.dbl, if_neg (Nat.not_lt.mpr hg)]
  | f + 1, c, hg, h => by
    rw [hfLoop]
    simp only [Uspsc.dbl] at hg h ⊢
    split
    · rename_i hlt
      rw [if_pos hlt] at hg h
      rw [Nat.mod_eq_of_lt (Nat.lt_of_le_of_lt (Uspsc.le_dbl f (c * 2) n) h)]
      exact hfLoop_eq_dbl n f (c * 2) hg h
    · rfl

/-- capacities `2^j`, `j ≤ 62`, records up to `2^63` bytes: `_handle_full_queue` computes the C02 model's value -/
theorem handleFullCap_eq_dbl {j n : Nat} (hj : j ≤ 62) (hn : n ≤ 2 ^ 63) :
    handleFullCap (2 ^ j) n = some (Uspsc.dbl n (2 ^ j * 2) n) := by
  have hpos : 0 < 2 ^ (j + 1) := Nat.two_pow_pos _
  -- `handleFullCap` gives the loop fuel 130, that is 129 doublings after the first test: far more than the at most 62
  -- that take `2^(j+1)` to `n ≤ 2^63`, so the fuel (there only to make `hfLoop` total) never runs out here
  have hfu : n ≤ 2 ^ (j + 1) * 2 ^ 129 :=
    Nat.le_trans hn (by rw [← Nat.pow_add]; exact Nat.pow_le_pow_right (by decide) (by omega))
  have hlt : Uspsc.dbl 129 (2 ^ (j + 1)) n < 2 ^ 64 :=
    Nat.lt_of_le_of_lt (Uspsc.dbl_pow2_le 129 (show j + 1 ≤ 63 by omega) hn) (by decide)
  rw [handleFullCap, dbl64_pow (Nat.lt_succ_of_le hj), ← Nat.pow_succ,
    hfLoop_eq_dbl n 129 _ (Uspsc.dbl_ge _ _ _ hfu) hlt, Uspsc.dbl_fuel hfu (Uspsc.fuel_enough hpos (Nat.le_refl n))]

/-- a record above `2^63` bytes makes the loop spin for ever (`capacity` wraps to 0 and stays there) -/
theorem hfLoop_hangs (n : Nat) (hn : 2 ^ 63 < n) :
    ∀ (fuel j : Nat), j ≤ 63 → hfLoop fuel (2 ^ j) n = none := by
  intro fuel
  induction fuel with
  | zero => intro j _; rfl
  | succ f ih =>
    intro j hj
    have hlt : 2 ^ j < n := Nat.lt_of_le_of_lt (Nat.pow_le_pow_right (by decide) hj) hn
    simp only [hfLoop, hlt, if_true]
    by_cases h63 : j = 63
    · subst h63
      rw [dbl64_top]; exact hfLoop_zero n (Nat.lt_trans (Nat.two_pow_pos 63) hn) f
    · have hj' : j < 63 := Nat.lt_of_le_of_ne hj h63
      rw [dbl64_pow hj']; exact ih (j + 1) hj'

/-- the C02 capacity decision is the C++ one for every node capacity `2^j ≤ 2^62` and record `≤ 2^63` -/
theorem handleFull_eq_growDecision {j n maxCap : Nat} (hj : j ≤ 62) (hn : n ≤ 2 ^ 63) :
    handleFull (2 ^ j) n maxCap =
      match Uspsc.growDecision (2 ^ j) n maxCap with
      | .alloc c => .alloc c
      | .null => .null
      | .throw => .throw := by
  simp only [handleFull, handleFullCap_eq_dbl hj hn, Uspsc.growDecision]
  split
  · split <;> rfl
  · -- the allocated capacity is a power of two `≤ 2^63`: the node constructor keeps it
    obtain ⟨k, hk⟩ := Uspsc.dbl_pow n (2 ^ j * 2) n
    have hle := Uspsc.dbl_pow2_le n (show j + 1 ≤ 63 by omega) hn
    rw [Nat.pow_succ, hk, ← Nat.pow_succ, ← Nat.pow_add] at hle
    rw [hk, ← Nat.pow_succ, ← Nat.pow_add,
      nextPow2W_pow2_self (by decide) ((Nat.pow_le_pow_iff_right (by decide)).mp hle)]

theorem transitCtor_ok {w : Nat} (hw : 1 ≤ w) (req : Nat) :
    ∃ j, j ≤ w - 1 ∧ (transitCtor w req).capacity = 2 ^ j ∧ (transitCtor w req).initialCapacity = 2 ^ j ∧
      (transitCtor w req).mask = 2 ^ j - 1 ∧ 0 < (transitCtor w req).capacity := by
  obtain ⟨j, hj, hc⟩ := nextPow2W_pow2 hw req
  refine ⟨j, hj, hc, hc, ?_, ?_⟩
  · simp only [transitCtor, hc]; exact mask_of_pow2 (by omega)
  · simp only [transitCtor, hc]; exact Nat.two_pow_pos j

end MathUtil
