/-!
# `quill/core/MathUtilities.h` and the constructors that consume it — fixed-width arithmetic model

Anchors: `is_power_of_two`, `max_power_of_two<T>`, `next_power_of_two<T>` (MathUtilities.h);
`BoundedSPSCQueueImpl` constructor (`_capacity`, `_mask`, `_bytes_per_batch`, the `2 * capacity` allocation);
`UnboundedSPSCQueue::_handle_full_queue` (the doubling loop) and `shrink`; `TransitEventBuffer` (constructor,
`_mask`, free-running `size_t` positions).

A `w`-bit unsigned value is a `Nat` below `2^w`; every C++ operation that can wrap is written with an explicit
`% 2^w`. No Mathlib, everything computable: `Drivers/MathUtil.lean` executes exactly these definitions.
-/
namespace MathUtil

/-- `is_power_of_two(uint64_t number)`: `(number != 0) && ((number & (number - 1)) == 0)` -/
def isPow2 (n : Nat) : Bool := (n != 0) && ((n &&& (n - 1)) == 0)

/-- `max_power_of_two<T>()`: `(numeric_limits<T>::max() >> 1) + 1` for a `w`-bit unsigned `T` -/
def maxPow2 (w : Nat) : Nat := ((2 ^ w - 1) >>> 1) + 1

/-- `T result = 1; while (result < n) result <<= 1;` in `w`-bit arithmetic; `fuel` bounds the iterations -/
def npLoop (w : Nat) : Nat → Nat → Nat → Nat
  | 0, r, _ => r
  | fuel + 1, r, n => if r < n then npLoop w fuel ((r <<< 1) % 2 ^ w) n else r

/-- number of iterations the loop makes (for the "terminates within `w` iterations" statement and the driver) -/
def npIters (w : Nat) : Nat → Nat → Nat → Nat
  | 0, _, _ => 0
  | fuel + 1, r, n => if r < n then npIters w fuel ((r <<< 1) % 2 ^ w) n + 1 else 0

/-- `next_power_of_two<T>(n)` for a `w`-bit unsigned `T`, `n < 2^w` -/
def nextPow2W (w n : Nat) : Nat :=
  if n ≥ maxPow2 w then maxPow2 w
  else if isPow2 n then n
  else npLoop w w 1 n

/-- the loop spelled `while (result <= n)` (`le = true`) or `while (result < n)` -/
def npLoopV (le : Bool) (w : Nat) : Nat → Nat → Nat → Nat
  | 0, r, _ => r
  | fuel + 1, r, n => if (if le then r ≤ n else r < n) then npLoopV le w fuel ((r <<< 1) % 2 ^ w) n else r

/-- `next_power_of_two` with the saturation test spelled `n > max` (`strict = true`) or `n >= max`, and either loop test;
    `nextPow2V_eq` (`MathUtil/NextPow2.lean`): all four spellings are the same function -/
def nextPow2V (strict le : Bool) (w n : Nat) : Nat :=
  if (if strict then n > maxPow2 w else n ≥ maxPow2 w) then maxPow2 w
  else if isPow2 n then n
  else npLoopV le w w 1 n

/-- `next_power_of_two<T>(n)` for a `w`-bit *signed* `T` (`w ≤ 64`), `-2^(w-1) ≤ n < 2^(w-1)`:
    `numeric_limits<T>::max() = 2^(w-1) - 1`, the test `is_power_of_two(static_cast<uint64_t>(n))` sees the
    sign-extended value, the loop starts at `1` and is not entered for `n ≤ 1`. -/
def nextPow2S (w : Nat) (n : Int) : Int :=
  if n ≥ (maxPow2 (w - 1) : Nat) then (maxPow2 (w - 1) : Nat)
  else if isPow2 (n % (2 ^ 64 : Nat)).toNat then n
  else (npLoop (w - 1) (w - 1) 1 n.toNat : Nat)

/-! ### `BoundedSPSCQueueImpl<T>` constructor -/

structure BoundedCtor where
  capacity : Nat
  mask : Nat
  bytesPerBatch : Nat
  /-- `2ull * static_cast<uint64_t>(_capacity)`: the byte count handed to `_alloc_aligned` and `memset` -/
  allocBytes : Nat
  deriving Repr, DecidableEq

/-- the product `_capacity * reader_store_percent` is computed in `T` after integer promotion: `int` (no wrap possible
    for 8/16-bit operands) below 32 bits, `T` itself from 32 bits on -/
def prodWidth (w : Nat) : Nat := if w < 32 then 2 * w else w

def boundedCtor (w req pct : Nat) : BoundedCtor :=
  let cap := nextPow2W w req
  { capacity := cap,
    mask := (cap + 2 ^ w - 1) % 2 ^ w,                       -- `_capacity - 1` in `T`
    bytesPerBatch := ((cap * pct) % 2 ^ prodWidth w) / 100,  -- through `double`, exact below 2^53
    allocBytes := (2 * cap) % 2 ^ 64 }

/-- `_checked_capacity` (repair of F32): a capacity whose doubled byte count does not fit 64 bits —
    `static_cast<uint64_t>(c) > (numeric_limits<uint64_t>::max() >> 1)` — is rejected with a `QuillError` before any storage
    exists. `rejectsOversized` is extracted from the header (`false` = the pinned constructor, which never rejects). -/
def ctorRejects (rejectsOversized : Bool) (w req : Nat) : Bool :=
  rejectsOversized && decide (nextPow2W w req > (2 ^ 64 - 1) >>> 1)

/-- the constructor's outcome: `none` = throws before allocating, `some c` = the queue it builds -/
def boundedCtorR (rejectsOversized : Bool) (w req pct : Nat) : Option BoundedCtor :=
  if ctorRejects rejectsOversized w req then none else some (boundedCtor w req pct)

/-- the x86-only constructor guard `if (_capacity < 1024) throw` (compiled only with `QUILL_X86ARCH`) -/
def x86GuardThrows (cap : Nat) : Bool := decide (cap < 1024)

/-! ### `UnboundedSPSCQueue` -/

/-- `size_t capacity = cap * 2ull; while (capacity < nbytes) capacity = capacity * 2ull;` in 64-bit arithmetic.
    `none` = the loop did not finish within the fuel (it never does once `capacity` has wrapped to 0). -/
def hfLoop : Nat → Nat → Nat → Option Nat
  | 0, _, _ => none
  | fuel + 1, c, n => if c < n then hfLoop fuel ((c * 2) % 2 ^ 64) n else some c

def handleFullCap (cap nbytes : Nat) : Option Nat := hfLoop 130 ((cap * 2) % 2 ^ 64) nbytes

inductive HF | alloc (cap : Nat) | null | throw | hang
  deriving Repr, DecidableEq

/-- the capacity decision of `_handle_full_queue` on 64-bit values -/
def handleFull (cap nbytes maxCap : Nat) : HF :=
  match handleFullCap cap nbytes with
  | none => .hang
  | some c => if c > maxCap then (if nbytes > maxCap then .throw else .null) else .alloc (nextPow2W 64 c)

/-- with the repaired bounded constructor a growth to `2^63` throws (the node constructor rejects it) instead of building a node
    without storage -/
def handleFullR (rejectsOversized : Bool) (cap nbytes maxCap : Nat) : HF :=
  match handleFull cap nbytes maxCap with
  | .alloc c => if ctorRejects rejectsOversized 64 c then .throw else .alloc c
  | x => x

/-- `shrink(c)`: `if (c > (capacity >> 1)) return; new Node{c}` -/
def shrinkCap (cap c : Nat) : Option Nat := if c > cap >>> 1 then none else some (nextPow2W 64 c)

/-! ### `TransitEventBuffer`: the index arithmetic on `w`-bit free-running positions -/

structure TCtor where
  initialCapacity : Nat
  capacity : Nat
  mask : Nat
  deriving Repr, DecidableEq

def transitCtor (w req : Nat) : TCtor :=
  let c := nextPow2W w req
  { initialCapacity := c, capacity := c, mask := (c + 2 ^ w - 1) % 2 ^ w }

/-- `_storage[pos & _mask]` -/
def slot (pos mask : Nat) : Nat := pos &&& mask
/-- `size()`: `_writer_pos - _reader_pos` in `w` bits -/
def sizeW (w wpos rpos : Nat) : Nat := (wpos + 2 ^ w - rpos) % 2 ^ w
/-- `++pos` in `w` bits -/
def incW (w pos : Nat) : Nat := (pos + 1) % 2 ^ w
/-- `_capacity * 2` in `w` bits -/
def dblW (w cap : Nat) : Nat := (cap * 2) % 2 ^ w

end MathUtil
