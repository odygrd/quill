import QuillModel.MathUtil.Model
import QuillModel.Uspsc.Capacity
/-!
Lemmas about `is_power_of_two` (the bit trick, both directions; the converse by looking at the top bit) and
`max_power_of_two`; what "next power of two" means (`IsNextPow2`), that the unbounded-queue model's `Uspsc.nextPow2` is it,
and what follows from that alone. Core Lean only.
-/
namespace MathUtil

theorem pow2_and_pred (k : Nat) : 2 ^ k &&& (2 ^ k - 1) = 0 := by
  rw [Nat.and_two_pow_sub_one_eq_mod]; exact Nat.mod_self _

theorem testBit_top {x k : Nat} (h1 : 2 ^ k ≤ x) (h2 : x < 2 ^ (k + 1)) : x.testBit k = true := by
  obtain ⟨i, hi, ht⟩ := Nat.exists_ge_and_testBit_of_ge_two_pow h1
  rcases Nat.lt_or_ge k i with hlt | hge
  · rw [Nat.testBit_lt_two_pow (Nat.lt_of_lt_of_le h2 (Nat.pow_le_pow_right (by decide) hlt))] at ht
    cases ht
  · rw [← Nat.le_antisymm hge hi]; exact ht

theorem and_pred_zero_pow2 : ∀ n : Nat, n ≠ 0 → n &&& (n - 1) = 0 → ∃ k, n = 2 ^ k := by
  intro n hn h
  refine ⟨n.log2, Nat.le_antisymm ?_ (Nat.log2_self_le hn)⟩
  apply Nat.le_of_not_lt
  intro hlt
  -- above its top power of two, `n` shares the top bit with `n - 1`
  have hb := testBit_top (Nat.log2_self_le hn) Nat.lt_log2_self
  have hb' : (n - 1).testBit n.log2 = true :=
    testBit_top (Nat.le_sub_one_of_lt hlt) (Nat.lt_of_le_of_lt (Nat.sub_le n 1) Nat.lt_log2_self)
  have : (n &&& (n - 1)).testBit n.log2 = true := by rw [Nat.testBit_and, hb, hb']; rfl
  rw [h, Nat.zero_testBit] at this
  cases this

theorem isPow2_iff (n : Nat) : isPow2 n = true ↔ ∃ k, n = 2 ^ k := by
  constructor
  · intro h
    simp only [isPow2, Bool.and_eq_true, bne_iff_ne, ne_eq, beq_iff_eq] at h
    exact and_pred_zero_pow2 n h.1 h.2
  · rintro ⟨k, rfl⟩
    simp only [isPow2, Bool.and_eq_true, bne_iff_ne, ne_eq, beq_iff_eq]
    exact ⟨Nat.ne_of_gt (Nat.two_pow_pos k), pow2_and_pred k⟩

theorem not_isPow2_between {k m : Nat} (h1 : 2 ^ k < m) (h2 : m < 2 ^ (k + 1)) : isPow2 m = false := by
  apply Bool.eq_false_iff.mpr
  intro hc
  obtain ⟨j, rfl⟩ := (isPow2_iff _).mp hc
  have a := (Nat.pow_lt_pow_iff_right (by decide : 1 < 2)).mp h1
  have b := (Nat.pow_lt_pow_iff_right (by decide : 1 < 2)).mp h2
  exact absurd b (Nat.not_lt.mpr a)

theorem maxPow2_eq (w : Nat) (hw : 1 ≤ w) : maxPow2 w = 2 ^ (w - 1) := by
  obtain ⟨k, rfl⟩ : ∃ k, w = k + 1 := ⟨w - 1, by omega⟩
  simp only [maxPow2, Nat.shiftRight_eq_div_pow, Nat.add_sub_cancel, Nat.pow_succ, Nat.pow_zero, Nat.one_mul]
  have := Nat.two_pow_pos k
  omega

def IsNextPow2 (n r : Nat) : Prop := (∃ k, r = 2 ^ k) ∧ n ≤ r ∧ ∀ k, n ≤ 2 ^ k → r ≤ 2 ^ k

theorem isNextPow2_unique {n r r' : Nat} (h : IsNextPow2 n r) (h' : IsNextPow2 n r') : r = r' := by
  obtain ⟨⟨k, hk⟩, hn, hm⟩ := h
  obtain ⟨⟨k', hk'⟩, hn', hm'⟩ := h'
  have h1 := hm k' (hk' ▸ hn')
  have h2 := hm' k (hk ▸ hn)
  omega

/-- the Galois property that the statements about `2^62`, `2^63`, `capacity / 2` use -/
theorem IsNextPow2.le_iff {n r : Nat} (h : IsNextPow2 n r) (k : Nat) : r ≤ 2 ^ k ↔ n ≤ 2 ^ k :=
  ⟨Nat.le_trans h.2.1, h.2.2 k⟩

theorem IsNextPow2.self (k : Nat) : IsNextPow2 (2 ^ k) (2 ^ k) := ⟨⟨k, rfl⟩, Nat.le_refl _, fun _ h => h⟩

end MathUtil

namespace Uspsc
open MathUtil (IsNextPow2 isNextPow2_unique)

theorem nextPow2_go_eq_dbl (n : Nat) : ∀ fuel c, nextPow2.go n fuel c = dbl fuel c n
  | 0, _ => rfl
  | f + 1, c => by simp only [nextPow2.go, dbl, nextPow2_go_eq_dbl n f]

theorem nextPow2_eq_dbl (n : Nat) : nextPow2 n = dbl n 1 n := nextPow2_go_eq_dbl n n 1

theorem nextPow2_isNext (n : Nat) : IsNextPow2 n (nextPow2 n) := by
  rw [nextPow2_eq_dbl]
  refine ⟨?_, dbl_ge n 1 n (fuel_enough (by decide) (Nat.le_refl n)), fun k hk => ?_⟩
  · obtain ⟨k, hk⟩ := dbl_pow n 1 n
    exact ⟨k, by rw [hk, Nat.one_mul]⟩
  · have := dbl_le n 1 n k (by rw [Nat.one_mul]; exact hk)
    rwa [Nat.one_mul] at this

theorem nextPow2_le_iff (n k : Nat) : nextPow2 n ≤ 2 ^ k ↔ n ≤ 2 ^ k := (nextPow2_isNext n).le_iff k

theorem nextPow2_pow2 (k : Nat) : nextPow2 (2 ^ k) = 2 ^ k :=
  isNextPow2_unique (nextPow2_isNext _) (IsNextPow2.self k)

theorem nextPow2_succ {n : Nat} (hn : ¬ ∃ k, n = 2 ^ k) : nextPow2 (n + 1) = nextPow2 n := by
  have h := nextPow2_isNext (n + 1)
  refine isNextPow2_unique ⟨h.1, Nat.le_trans (Nat.le_succ n) h.2.1, fun k hk => h.2.2 k ?_⟩ (nextPow2_isNext n)
  exact Nat.lt_of_le_of_ne hk (fun e => hn ⟨k, e⟩)

theorem nextPow2_pos (n : Nat) : 0 < nextPow2 n := by
  obtain ⟨⟨k, hk⟩, _, _⟩ := nextPow2_isNext n
  rw [hk]; exact Nat.two_pow_pos k

theorem nextPow2_go_fuel (n fuel : Nat) (hf : n ≤ fuel) : nextPow2.go n fuel 1 = nextPow2 n := by
  rw [nextPow2_go_eq_dbl, nextPow2_eq_dbl]
  exact dbl_fuel (fuel_enough (by decide) hf) (fuel_enough (by decide) (Nat.le_refl n))

theorem nextPow2_lt_double {n : Nat} (hn : 0 < n) : nextPow2 n < 2 * n := by
  obtain ⟨⟨k, e⟩, _, hm⟩ := nextPow2_isNext n
  rw [e] at hm ⊢
  cases k with
  | zero => show 1 < 2 * n; omega
  | succ k =>
    -- were the power before the result large enough, the result would be at most that power
    apply Nat.lt_of_not_le
    intro hge
    have := hm k (by rw [Nat.pow_succ] at hge; omega)
    exact absurd this (Nat.not_le.mpr (Nat.pow_lt_pow_right (by decide) (Nat.lt_succ_self k)))

theorem nextPow2_lt_cap {cap c : Nat} (h2 : 2 ≤ cap) (hc : c ≤ cap / 2) : nextPow2 c < cap := by
  rcases Nat.eq_zero_or_pos c with rfl | hpos
  · have : nextPow2 0 = 1 := rfl
    omega
  · have := nextPow2_lt_double hpos
    omega

theorem nextPow2_le_half {j c : Nat} (hj : 1 ≤ j) (hc : c ≤ 2 ^ j / 2) : nextPow2 c ≤ 2 ^ j / 2 := by
  obtain ⟨i, rfl⟩ : ∃ i, j = i + 1 := ⟨j - 1, by omega⟩
  rw [Nat.pow_succ, Nat.mul_div_cancel _ (by decide : 0 < 2)] at hc ⊢
  exact (nextPow2_isNext c).2.2 i hc

end Uspsc

namespace MathUtil
/-!
`next_power_of_two<T>` for every width `w ≥ 1` and every `n < 2^w`: power of two, `≥ n` and least below the
saturation point, exactly `2^(w-1)` from there on; the loop never wraps and makes fewer than `w` iterations;
equality with the unbounded-queue model's `Uspsc.nextPow2` on the non-saturating range; the signed instantiations.
-/

open Uspsc (dbl dbl_le dbl_fuel le_dbl nextPow2 nextPow2_eq_dbl nextPow2_isNext nextPow2_le_iff nextPow2_pow2 nextPow2_succ)

/-- the `w`-bit loop is `Uspsc.dbl` as long as `dbl`'s result fits `w` bits (no shift wraps), and it counts `dbl`'s doublings -/
theorem npLoop_eq_dbl (w n : Nat) : ∀ fuel c, dbl fuel c n < 2 ^ w →
    npLoop w fuel c n = dbl fuel c n ∧ dbl fuel c n = c * 2 ^ npIters w fuel c n ∧ npIters w fuel c n ≤ fuel
  | 0, c, _ => ⟨rfl, by simp [dbl, npIters], Nat.le_refl _⟩
  | f + 1, c, h => by
    simp only [npLoop, npIters, dbl] at h ⊢
    split
    · rename_i hlt
      rw [if_pos hlt] at h
      have hsh : (c <<< 1) % 2 ^ w = c * 2 := by
        rw [Nat.shiftLeft_eq, Nat.pow_one]; exact Nat.mod_eq_of_lt (Nat.lt_of_le_of_lt (le_dbl f (c * 2) n) h)
      rw [hsh]
      obtain ⟨a, b, d⟩ := npLoop_eq_dbl w n f (c * 2) h
      exact ⟨a, by rw [b, Nat.pow_succ', Nat.mul_assoc], Nat.succ_le_succ d⟩
    · exact ⟨rfl, by simp, Nat.zero_le _⟩

/-- up to `2^(w-1)` the loop of `next_power_of_two<T>` computes `Uspsc.nextPow2`: no shift leaves the `w` bits because the
    result is `≤ 2^(w-1)`, and `w` iterations are enough -/
theorem npLoop_eq_nextPow2 {w n : Nat} (hw : 1 ≤ w) (h : n ≤ 2 ^ (w - 1)) : npLoop w w 1 n = nextPow2 n := by
  have hnw : n ≤ 1 * 2 ^ w :=
    Nat.le_trans h (by rw [Nat.one_mul]; exact Nat.pow_le_pow_right (by decide) (by omega))
  have hf : dbl w 1 n = nextPow2 n := by
    rw [nextPow2_eq_dbl]; exact dbl_fuel hnw (Uspsc.fuel_enough (by decide) (Nat.le_refl n))
  have hle := (nextPow2_le_iff n _).mpr h
  rw [← hf] at hle ⊢
  exact (npLoop_eq_dbl w n w 1 (Nat.lt_of_le_of_lt hle (Nat.pow_lt_pow_right (by decide) (by omega)))).1

theorem nextPow2W_eq_min {w : Nat} (hw : 1 ≤ w) (n : Nat) : nextPow2W w n = min (nextPow2 n) (2 ^ (w - 1)) := by
  simp only [nextPow2W, maxPow2_eq w hw, ge_iff_le]
  split
  · rename_i hs
    exact (Nat.min_eq_right (Nat.le_trans hs (nextPow2_isNext n).2.1)).symm
  · rename_i hs
    rw [Nat.min_eq_left ((nextPow2_le_iff n _).mpr (Nat.le_of_lt (Nat.lt_of_not_le hs)))]
    split
    · rename_i hp
      obtain ⟨k, rfl⟩ := (isPow2_iff n).mp hp
      exact (nextPow2_pow2 k).symm
    · exact npLoop_eq_nextPow2 hw (Nat.le_of_lt (Nat.lt_of_not_le hs))

theorem nextPow2W_sat {w n : Nat} (hw : 1 ≤ w) (h : 2 ^ (w - 1) ≤ n) : nextPow2W w n = 2 ^ (w - 1) := by
  rw [nextPow2W_eq_min hw]; exact Nat.min_eq_right (Nat.le_trans h (nextPow2_isNext n).2.1)

/-- the C02 model's `nextPow2` is the C++ function wherever the latter does not saturate -/
theorem nextPow2W_eq_uspsc {w n : Nat} (hw : 1 ≤ w) (h : n ≤ 2 ^ (w - 1)) : nextPow2W w n = nextPow2 n := by
  rw [nextPow2W_eq_min hw]; exact Nat.min_eq_left ((nextPow2_le_iff n _).mpr h)

theorem nextPow2W_isNext {w n : Nat} (hw : 1 ≤ w) (h : n ≤ 2 ^ (w - 1)) : IsNextPow2 n (nextPow2W w n) := by
  rw [nextPow2W_eq_uspsc hw h]; exact nextPow2_isNext n

theorem nextPow2W_pow2 {w : Nat} (hw : 1 ≤ w) (n : Nat) : ∃ k, k ≤ w - 1 ∧ nextPow2W w n = 2 ^ k := by
  obtain ⟨k, hk⟩ := (nextPow2_isNext n).1
  rw [nextPow2W_eq_min hw, hk]
  rcases Nat.le_total k (w - 1) with h | h
  · exact ⟨k, h, Nat.min_eq_left (Nat.pow_le_pow_right (by decide) h)⟩
  · exact ⟨w - 1, Nat.le_refl _, Nat.min_eq_right (Nat.pow_le_pow_right (by decide) h)⟩

theorem nextPow2W_le_max {w : Nat} (hw : 1 ≤ w) (n : Nat) : nextPow2W w n ≤ 2 ^ (w - 1) := by
  rw [nextPow2W_eq_min hw]; exact Nat.min_le_right _ _

theorem nextPow2W_pow2_self {w k : Nat} (hw : 1 ≤ w) (hk : k ≤ w - 1) : nextPow2W w (2 ^ k) = 2 ^ k := by
  rw [nextPow2W_eq_uspsc hw (Nat.pow_le_pow_right (by decide) hk), nextPow2_pow2]

theorem nextPow2W_le_iff {w k : Nat} (hw : 1 ≤ w) (hk : k < w - 1) (n : Nat) : nextPow2W w n ≤ 2 ^ k ↔ n ≤ 2 ^ k := by
  have : ¬ 2 ^ (w - 1) ≤ 2 ^ k := Nat.not_le.mpr (Nat.pow_lt_pow_right (by decide) hk)
  rw [nextPow2W_eq_min hw, ← nextPow2_le_iff n k]
  omega

/-- `w = 64`: capacity `2^63` iff the request is above `2^62` -/
theorem nextPow2W_top_iff {w : Nat} (hw : 2 ≤ w) (n : Nat) : nextPow2W w n = 2 ^ (w - 1) ↔ 2 ^ (w - 2) < n := by
  obtain ⟨k, rfl⟩ := Nat.exists_eq_add_of_le' hw
  obtain ⟨j, e⟩ := (nextPow2_isNext n).1
  show nextPow2W (k + 2) n = 2 ^ (k + 1) ↔ 2 ^ k < n
  -- with `nextPow2 n = 2 ^ j` both sides say `k < j`: the cut-off at `2 ^ (k + 1)` is taken iff `k + 1 ≤ j`
  rw [nextPow2W_eq_min (Nat.le_add_left 1 (k + 1)), ← Nat.not_le, ← nextPow2_le_iff n k, Nat.not_le, e,
    Nat.pow_lt_pow_iff_right (by decide)]
  exact ⟨fun h => (Nat.pow_le_pow_iff_right (by decide)).mp (h ▸ Nat.min_le_left _ _),
    fun h => Nat.min_eq_right (Nat.pow_le_pow_right (by decide) h)⟩

theorem nextPow2W_lt_iff {w n : Nat} (hw : 1 ≤ w) : nextPow2W w n < n ↔ 2 ^ (w - 1) < n := by
  have := (nextPow2_isNext n).2.1
  rw [nextPow2W_eq_min hw]; omega

theorem nextPow2W_zero {w : Nat} (hw : 1 ≤ w) : nextPow2W w 0 = 1 := by
  rw [nextPow2W_eq_uspsc hw (Nat.zero_le _)]; rfl

theorem nextPow2W_loop_bound {w n : Nat} (hw : 1 ≤ w) (h : n ≤ 2 ^ (w - 1)) :
    npIters w w 1 n ≤ w - 1 ∧ 2 ^ npIters w w 1 n = npLoop w w 1 n ∧ npLoop w w 1 n < 2 ^ w := by
  have hle := Uspsc.dbl_pow2_le (a := 0) w (Nat.zero_le _) h
  have hlt : dbl w 1 n < 2 ^ w := Nat.lt_of_le_of_lt hle (Nat.pow_lt_pow_right (by decide) (by omega))
  obtain ⟨a, b, _⟩ := npLoop_eq_dbl w n w 1 hlt
  rw [Nat.one_mul] at b
  rw [a]
  refine ⟨?_, b.symm, hlt⟩
  rw [Nat.pow_zero, b] at hle
  exact (Nat.pow_le_pow_iff_right (by decide)).mp hle

/-- `while (result <= n)` is `while (result < n + 1)` -/
theorem npLoopV_true (w n : Nat) : ∀ fuel r, npLoopV true w fuel r n = npLoop w fuel r (n + 1)
  | 0, _ => rfl
  | f + 1, r => by simp only [npLoopV, npLoop, if_true, Nat.lt_succ_iff, npLoopV_true w n f]

theorem npLoopV_false (w n : Nat) : ∀ fuel r, npLoopV false w fuel r n = npLoop w fuel r n
  | 0, _ => rfl
  | f + 1, r => by simp only [npLoopV, npLoop, Bool.false_eq_true, if_false, npLoopV_false w n f]

/-- the spellings `n > max` / `n >= max` and `result <= n` / `result < n` give the same function (the argument `max` is a
    power of two and returns through the early exit; the loop only runs for non-powers) -/
theorem nextPow2V_eq {w : Nat} (hw : 1 ≤ w) (strict le : Bool) (n : Nat) : nextPow2V strict le w n = nextPow2W w n := by
  simp only [nextPow2V, nextPow2W]
  by_cases hge : n ≥ maxPow2 w
  · rw [if_pos hge]
    cases strict
    · simp only [Bool.false_eq_true, if_false, if_pos hge]
    · simp only [if_true]
      by_cases hgt : n > maxPow2 w
      · rw [if_pos hgt]
      · have heq : n = maxPow2 w := by omega
        have hp : isPow2 n = true := (isPow2_iff n).mpr ⟨w - 1, by rw [heq, maxPow2_eq w hw]⟩
        rw [if_neg hgt, if_pos hp, heq]
  · have h1 : ¬ (if strict then n > maxPow2 w else n ≥ maxPow2 w) := by
      cases strict <;> simp <;> omega
    rw [if_neg h1, if_neg hge]
    by_cases hp : isPow2 n = true
    · rw [if_pos hp, if_pos hp]
    · rw [if_neg hp, if_neg hp]
      have hlt : n < 2 ^ (w - 1) := by rw [← maxPow2_eq w hw]; omega
      cases le
      · exact npLoopV_false w n w 1
      · rw [npLoopV_true, npLoop_eq_nextPow2 hw hlt, npLoop_eq_nextPow2 hw (Nat.le_of_lt hlt),
          nextPow2_succ (fun h => hp ((isPow2_iff n).mpr h))]

theorem nextPow2S_nonneg {w : Nat} (hw : 2 ≤ w) (hw64 : w ≤ 64) (n : Nat) (hn : n < 2 ^ (w - 1)) :
    nextPow2S w (n : Int) = (nextPow2W (w - 1) n : Nat) := by
  have hlt : (n : Int) < ((2 ^ 64 : Nat) : Int) := by
    have : 2 ^ (w - 1) ≤ 2 ^ 64 := Nat.pow_le_pow_right (by decide) (by omega)
    exact_mod_cast Nat.lt_of_lt_of_le hn this
  have hmod : ((n : Int) % ((2 ^ 64 : Nat) : Int)).toNat = n := by
    rw [Int.emod_eq_of_lt (Int.natCast_nonneg n) hlt]; rfl
  simp only [nextPow2S, nextPow2W, hmod, Int.toNat_natCast, ge_iff_le, Int.ofNat_le]
  split
  · rfl
  · split <;> rfl

/-- the cast of `-k`, `0 < k ≤ M`, to the unsigned type with `2 * M` values -/
theorem wrap_neg {M k : Nat} (hk : 0 < k) (hkM : k ≤ M) :
    ((-(k : Int)) % ((2 * M : Nat) : Int)).toNat = 2 * M - k := by
  have hle : k ≤ 2 * M := Nat.le_trans hkM (Nat.le_mul_of_pos_left M (by decide))
  have e : -(k : Int) + ((2 * M : Nat) : Int) = ((2 * M - k : Nat) : Int) := by
    rw [Int.ofNat_sub hle, Int.add_comm]; rfl
  rw [← Int.add_emod_right, e, Int.emod_eq_of_lt (Int.natCast_nonneg _) (Int.ofNat_lt.mpr (Nat.sub_lt_of_pos_le hk hle)),
    Int.toNat_natCast]

/-- a negative argument yields `1`, except `INT64_MIN`, whose sign-extended image `2^63` passes
    `is_power_of_two` and is returned unchanged (a negative "power of two") -/
theorem nextPow2S_neg {w : Nat} (hw : 2 ≤ w) (hw64 : w ≤ 64) (n : Int) (hn : n < 0) (hlo : -(2 ^ (w - 1) : Nat) ≤ n) :
    nextPow2S w n = if n = -(2 ^ 63 : Nat) then n else 1 := by
  have hmax : ¬ (n ≥ ((maxPow2 (w - 1) : Nat) : Int)) :=
    fun h => absurd (Int.le_trans (Int.natCast_nonneg _) h) (Int.not_le.mpr hn)
  have hloop : npLoop (w - 1) (w - 1) 1 0 = 1 := by
    cases (w - 1) <;> simp [npLoop]
  -- `n = -k` with `0 < k ≤ 2^(w-1) ≤ 2^63`; seen as `uint64_t` it is `2^64 - k`, in `[2^63, 2^64)`, a power of two only at `k = 2^63`
  obtain ⟨k, rfl⟩ := Int.eq_negSucc_of_lt_zero hn
  have hk : k + 1 ≤ 2 ^ 63 :=
    Nat.le_trans (Int.ofNat_le.mp (Int.neg_le_neg_iff.mp hlo)) (Nat.pow_le_pow_right (by decide) (Nat.sub_le_of_le_add hw64))
  simp only [nextPow2S, hmax, if_false]
  rw [show Int.negSucc k = -((k + 1 : Nat) : Int) from rfl, show (2 ^ 64 : Nat) = 2 * 2 ^ 63 from rfl,
    wrap_neg (Nat.succ_pos k) hk, Int.toNat_eq_zero.mpr (Int.neg_nonpos_of_nonneg (Int.natCast_nonneg _)), hloop]
  by_cases he : k + 1 = 2 ^ 63
  · have e : 2 * 2 ^ 63 - k.succ = 2 ^ 63 := by rw [Nat.succ_eq_add_one, he]
    rw [e, he, if_pos rfl, if_pos ((isPow2_iff _).mpr ⟨63, rfl⟩)]
  · have hlt : k + 1 < 2 ^ 63 := Nat.lt_of_le_of_ne hk he
    have h1 : 2 ^ 63 < 2 * 2 ^ 63 - (k + 1) := Nat.lt_sub_of_add_lt (by rw [Nat.two_mul]; exact Nat.add_lt_add_left hlt _)
    rw [if_neg (fun h => he (Int.ofNat_inj.mp (Int.neg_inj.mp h))),
      not_isPow2_between (k := 63) h1 (Nat.sub_lt (by decide) (Nat.succ_pos k)), if_neg Bool.false_ne_true]
    rfl
end MathUtil
