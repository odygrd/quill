import QuillModel.Util.ListLemmas
/-!
Lists ordered by a key `key : α → Nat`, split at the lower bound of `n`: the prefix `l.takeWhile (key · < n)`, whose
length is what `std::lower_bound` returns on a sorted vector, and the rest `l.dropWhile (key · < n)`. Shared by the two
by-name registries (`LogReg`, `SinkReg`), whose vectors satisfy `l.Pairwise R` for a relation `R` of their own; what a
lemma needs of `R` is a hypothesis (`hR`).
-/
namespace SortedList

variable {α : Type}

/-- `vector::insert` at the position `lower_bound` returns: the new element goes between the prefix and the rest -/
theorem insert_length_takeWhile (q : α → Bool) (l : List α) (x : α) :
    l.take (l.takeWhile q).length ++ x :: l.drop (l.takeWhile q).length = l.takeWhile q ++ x :: l.dropWhile q := by
  rw [List.take_length_takeWhile, List.drop_length_takeWhile]

theorem mem_takeWhile_cons_dropWhile (p : α → Bool) (l : List α) (x e : α) : e ∈ l.takeWhile p ++ x :: l.dropWhile p ↔ e = x ∨ e ∈ l := by
  rw [List.perm_middle.mem_iff, List.mem_cons, List.takeWhile_append_dropWhile]

theorem find?_insert_of_neg (p q : α → Bool) (l : List α) {x : α} (hx : ¬ q x = true) :
    (l.takeWhile p ++ x :: l.dropWhile p).find? q = l.find? q := by
  rw [List.find?_append, List.find?_cons_of_neg hx, ← List.find?_append, List.takeWhile_append_dropWhile]

/-! One element per class (`hR`): among the elements satisfying `q` only the first one counts. -/

section unique
variable {R : α → α → Prop} {l : List α} (h : l.Pairwise R) (q : α → Bool)
  (hR : ∀ a b, R a b → q a = true → q b = false)
include h hR

theorem filter_eq_singleton {e : α} (he : e ∈ l) (hq : q e = true) : l.filter q = [e] := by
  induction l with
  | nil => cases he
  | cons x xs ih =>
    have hx := List.pairwise_cons.1 h
    rcases List.mem_cons.1 he with rfl | he
    · rw [List.filter_cons_of_pos hq, List.filter_eq_nil_iff.2]
      intro b hb
      rw [hR e b (hx.1 b hb) hq]
      exact Bool.false_ne_true
    · have hxq : ¬ q x = true := by
        intro hxq
        rw [hR x e (hx.1 e he) hxq] at hq
        cases hq
      rw [List.filter_cons_of_neg hxq]
      exact ih hx.2 he

theorem length_filter_le_one : (l.filter q).length ≤ 1 := by
  cases hf : l.filter q with
  | nil => exact Nat.zero_le 1
  | cons e es =>
    have he : e ∈ l.filter q := by rw [hf]; exact List.mem_cons_self
    rw [← hf, filter_eq_singleton h q hR (List.mem_filter.1 he).1 (List.mem_filter.1 he).2]
    exact Nat.le_refl 1

theorem find?_eq_some_of_mem {e : α} (he : e ∈ l) (hq : q e = true) : l.find? q = some e := by
  rw [← List.head?_filter, filter_eq_singleton h q hR he hq]
  rfl

theorem find?_map_eq_some_iff {β : Type} (f : α → β) (i : β) :
    (l.find? q).map f = some i ↔ ∃ e ∈ l, q e = true ∧ f e = i := by
  rw [Option.map_eq_some_iff]
  constructor
  · rintro ⟨e, he, rfl⟩
    exact ⟨e, List.mem_of_find?_eq_some he, List.find?_some he, rfl⟩
  · rintro ⟨e, he, hq, rfl⟩
    exact ⟨e, find?_eq_some_of_mem h q hR he hq, rfl⟩

theorem find?_and (p : α → Bool) : l.find? (fun e => q e && p e) = (l.find? q).filter p := by
  induction l with
  | nil => rfl
  | cons x xs ih =>
    have hx := List.pairwise_cons.1 h
    by_cases hqx : q x = true
    · rw [List.find?_cons_of_pos hqx, Option.filter_some]
      by_cases hpx : p x = true
      · rw [if_pos hpx, List.find?_cons_of_pos (by rw [hqx, hpx]; rfl)]
      · rw [if_neg hpx, List.find?_eq_none]
        intro b hb
        rcases List.mem_cons.1 hb with rfl | hb
        · rw [hqx, Bool.true_and]
          exact hpx
        · rw [hR x b (hx.1 b hb) hqx]
          exact Bool.false_ne_true
    · rw [List.find?_cons_of_neg hqx,
        List.find?_cons_of_neg (by rw [Bool.eq_false_iff.2 hqx]; exact Bool.false_ne_true)]
      exact ih hx.2

end unique

variable (key : α → Nat) (n : Nat)

theorem lt_of_mem_takeWhile (l : List α) : ∀ e ∈ l.takeWhile (fun e => decide (key e < n)), key e < n :=
  fun e he => of_decide_eq_true (List.all_eq_true.1 List.all_takeWhile e he)

section sorted
variable {R : α → α → Prop} {l : List α} (h : l.Pairwise R)
include h

theorem le_of_mem_dropWhile (hR : ∀ a b, R a b → key a ≤ key b) :
    ∀ e ∈ l.dropWhile (fun e => decide (key e < n)), n ≤ key e := by
  induction l with
  | nil => intro e he; cases he
  | cons x xs ih =>
    have hx := List.pairwise_cons.1 h
    by_cases hlt : key x < n
    · rw [List.dropWhile_cons, if_pos (decide_eq_true hlt)]
      exact ih hx.2
    · rw [List.dropWhile_cons, if_neg (fun hd => hlt (of_decide_eq_true hd))]
      intro e he
      rcases List.mem_cons.1 he with rfl | he
      · exact Nat.le_of_not_lt hlt
      · exact Nat.le_trans (Nat.le_of_not_lt hlt) (hR x e (hx.1 e he))

/-- the binary search is the linear search -/
theorem find?_eq_filter_head?_dropWhile (q : α → Bool) (hq : ∀ e, q e = true → n ≤ key e)
    (hR : ∀ a b, R a b → n ≤ key a → q b = false) :
    l.find? q = (l.dropWhile (fun e => decide (key e < n))).head?.filter q := by
  induction l with
  | nil => rfl
  | cons x xs ih =>
    have hx := List.pairwise_cons.1 h
    by_cases hlt : key x < n
    · have hqx : ¬ q x = true := fun hqx => Nat.not_le_of_lt hlt (hq x hqx)
      rw [List.find?_cons_of_neg hqx, List.dropWhile_cons, if_pos (decide_eq_true hlt)]
      exact ih hx.2
    · rw [List.dropWhile_cons, if_neg (fun hd => hlt (of_decide_eq_true hd)), List.head?_cons, Option.filter_some]
      by_cases hqx : q x = true
      · rw [List.find?_cons_of_pos hqx, if_pos hqx]
      · rw [List.find?_cons_of_neg hqx, if_neg hqx, List.find?_eq_none]
        intro b hb
        rw [hR x b (hx.1 b hb) (Nat.le_of_not_lt hlt)]
        exact Bool.false_ne_true

theorem pairwise_insert (hR : ∀ a b, R a b → key a ≤ key b) (x : α)
    (hlo : ∀ a ∈ l, key a < n → R a x) (hhi : ∀ b ∈ l, n ≤ key b → R x b) :
    (l.takeWhile (fun e => decide (key e < n)) ++ x :: l.dropWhile (fun e => decide (key e < n))).Pairwise R := by
  have hpw : (l.takeWhile (fun e => decide (key e < n)) ++ l.dropWhile (fun e => decide (key e < n))).Pairwise R := by
    rw [List.takeWhile_append_dropWhile]
    exact h
  rw [List.pairwise_append] at hpw ⊢
  obtain ⟨h1, h2, h3⟩ := hpw
  refine ⟨h1, List.pairwise_cons.2 ⟨fun b hb => ?_, h2⟩, fun a ha b hb => ?_⟩
  · exact hhi b ((List.dropWhile_sublist _).subset hb) (le_of_mem_dropWhile key n h hR b hb)
  · rcases List.mem_cons.1 hb with rfl | hb
    · exact hlo a ((List.takeWhile_sublist _).subset ha) (lt_of_mem_takeWhile key n l a ha)
    · exact h3 a ha b hb

end sorted

theorem find?_insert_of_pos (q : α → Bool) (l : List α) {x : α} (hx : q x = true) (hq : ∀ e, q e = true → n ≤ key e) :
    (l.takeWhile (fun e => decide (key e < n)) ++ x :: l.dropWhile (fun e => decide (key e < n))).find? q = some x := by
  have hnone : (l.takeWhile (fun e => decide (key e < n))).find? q = none := by
    rw [List.find?_eq_none]
    intro e he hqe
    exact Nat.not_le_of_lt (lt_of_mem_takeWhile key n l e he) (hq e hqe)
  rw [List.find?_append, hnone, Option.none_or, List.find?_cons_of_pos hx]

end SortedList
