
/-! Facts about `List.flatMap` that core does not state. -/

theorem flatMap_congr' {α β : Type} {l : List α} {f g : α → List β} (h : ∀ a ∈ l, f a = g a) :
    l.flatMap f = l.flatMap g := by
  rw [List.flatMap_def, List.flatMap_def, List.map_congr_left h]

theorem length_le_length_flatMap {α β : Type} {f : α → List β} (h : ∀ a, f a ≠ []) :
    ∀ (l : List α), l.length ≤ (l.flatMap f).length
  | [] => Nat.le_refl 0
  | a :: l => by
    rw [List.flatMap_cons, List.length_append, List.length_cons, Nat.add_comm]
    exact Nat.add_le_add (List.length_pos_iff.mpr (h a)) (length_le_length_flatMap h l)

/-! Folds and sums over lists, for invariants of state machines whose passes are `List.foldl`s (a relation between two
folds: core's `List.foldl_rel`). -/
namespace List

theorem foldl_inv_mem {σ α} (Q : σ → Prop) (g : σ → α → σ) :
    ∀ (l : List α) (a : σ), (∀ b x, x ∈ l → Q b → Q (g b x)) → Q a → Q (l.foldl g a)
  | [], _, _, ha => ha
  | x :: xs, a, hg, ha =>
    foldl_inv_mem Q g xs _ (fun b y hy => hg b y (mem_cons_of_mem _ hy)) (hg a x mem_cons_self ha)

theorem foldl_inv {σ α} (Q : σ → Prop) (g : σ → α → σ) (hg : ∀ a x, Q a → Q (g a x)) (l : List α) (a : σ) (ha : Q a) :
    Q (l.foldl g a) :=
  foldl_inv_mem Q g l a (fun b x _ => hg b x) ha

theorem foldl_inv_fst {σ α β} (P : σ → Prop) (g : σ × β → α → σ × β) (hg : ∀ acc x, P acc.1 → P (g acc x).1)
    (l : List α) (acc : σ × β) (h : P acc.1) : P (l.foldl g acc).1 :=
  foldl_inv (fun acc => P acc.1) g hg l acc h

theorem sum_map_le {α} (l : List α) (f g : α → Nat) (h : ∀ x ∈ l, f x ≤ g x) : (l.map f).sum ≤ (l.map g).sum := by
  induction l with
  | nil => exact Nat.le_refl _
  | cons x xs ih =>
    simp only [map_cons, sum_cons]
    exact Nat.add_le_add (h x mem_cons_self) (ih (fun y hy => h y (mem_cons_of_mem _ hy)))

theorem sum_range_le (n : Nat) (f g : Nat → Nat) (h : ∀ j, j < n → f j ≤ g j) :
    ((List.range n).map f).sum ≤ ((List.range n).map g).sum :=
  sum_map_le (List.range n) f g (fun j hj => h j (List.mem_range.mp hj))

theorem mem_le_sum : ∀ (l : List Nat) (x : Nat), x ∈ l → x ≤ l.sum
  | [], _, h => by cases h
  | y :: ys, x, h => by
    rcases List.mem_cons.mp h with rfl | h
    · simp
    · have := mem_le_sum ys x h; simp; omega

/-! `takeWhile` and `dropWhile` cut a list at the length of the `takeWhile`. -/

theorem take_length_takeWhile {α} (q : α → Bool) (l : List α) : l.take (l.takeWhile q).length = l.takeWhile q := by
  have h := take_left (l₁ := l.takeWhile q) (l₂ := l.dropWhile q)
  rwa [takeWhile_append_dropWhile] at h

theorem drop_length_takeWhile {α} (q : α → Bool) (l : List α) : l.drop (l.takeWhile q).length = l.dropWhile q := by
  have h := drop_left (l₁ := l.takeWhile q) (l₂ := l.dropWhile q)
  rwa [takeWhile_append_dropWhile] at h

theorem getElem?_length_takeWhile {α} (q : α → Bool) (l : List α) :
    l[(l.takeWhile q).length]? = (l.dropWhile q).head? := by
  rw [← drop_length_takeWhile, head?_drop]

theorem takeWhile_congr {α} {p q : α → Bool} {l : List α} (h : ∀ a ∈ l, p a = q a) : l.takeWhile p = l.takeWhile q := by
  induction l with
  | nil => rfl
  | cons x xs ih =>
    rw [takeWhile_cons, takeWhile_cons, h x mem_cons_self, ih (fun a ha => h a (mem_cons_of_mem _ ha))]

/-! The first occurrence of an element in a list: what `List.idxOf?` says on a hit, from core's `idxOf?_eq_some_iff`. -/

variable {α : Type} [BEq α] [LawfulBEq α] {c : α} {l : List α} {k : Nat}

theorem idxOf?_split (h : l.idxOf? c = some k) : l = l.take k ++ c :: l.drop (k + 1) ∧ c ∉ l.take k := by
  obtain ⟨hk, h1, h2⟩ := idxOf?_eq_some_iff.mp h
  refine ⟨by rw [← h1, ← drop_eq_getElem_cons hk, take_append_drop], fun hm => ?_⟩
  obtain ⟨j, hj, e⟩ := mem_take_iff_getElem.mp hm
  exact h2 j (Nat.lt_of_lt_of_le hj (Nat.min_le_left _ _)) e

theorem idxOf?_append_of_not_mem (a b : List α) (h : c ∉ a) :
    (a ++ b).idxOf? c = (b.idxOf? c).map (· + a.length) := by
  rw [idxOf?, findIdx?_append, ← idxOf?, idxOf?_eq_none_iff.mpr h]
  rfl

theorem idxOf?_append_cons_self (a b : List α) (h : c ∉ a) : (a ++ c :: b).idxOf? c = some a.length := by
  rw [idxOf?_append_of_not_mem a _ h, idxOf?_cons, if_pos (beq_self_eq_true c), Option.map_some, Nat.zero_add]

end List
