/-!
The decimal digits of `n` are `Nat.toDigits 10 n` in every transcription the model has (`Pattern.digits`, `Time.natDigits`,
`Rot.digits`); core Lean knows their length, their characters, their value and that there is one. Here: the few facts
about `Nat.toDigits 10` that core does not state.
-/

namespace Nat

theorem length_toDigits_ten_le {n k : Nat} (hk : 0 < k) (h : n < 10 ^ k) : (Nat.toDigits 10 n).length ≤ k :=
  (Nat.length_toDigits_le_iff (by decide) hk).mpr h

theorem length_toDigits_ten_eq {n k : Nat} (hk : 0 < k) (hlo : 10 ^ (k - 1) ≤ n) (hhi : n < 10 ^ k) :
    (Nat.toDigits 10 n).length = k := by
  refine Nat.le_antisymm (length_toDigits_ten_le hk hhi) ?_
  rcases Nat.lt_or_ge 1 k with h1 | h1
  · have := mt (Nat.length_toDigits_le_iff (b := 10) (n := n) (by decide) (Nat.sub_pos_of_lt h1)).mp (Nat.not_lt.mpr hlo)
    omega
  · exact Nat.le_trans h1 Nat.length_toDigits_pos

theorem toDigits_ten_head {n : Nat} (h0 : 0 < n) :
    ∃ d rest, Nat.toDigits 10 n = d :: rest ∧ d ≠ '0' ∧ d.isDigit = true := by
  induction n using Nat.strongRecOn with
  | _ n ih =>
    rw [Nat.toDigits_eq_if (by decide)]
    split
    · rename_i h
      exact ⟨_, _, rfl, fun e => Nat.ne_of_gt h0 (Nat.digitChar_eq_zero.mp e), by rw [Nat.isDigit_digitChar]; simpa using h⟩
    · obtain ⟨d, rest, he, hd⟩ := ih (n / 10) (by omega) (by omega)
      exact ⟨d, rest ++ [_], by rw [he]; rfl, hd⟩

end Nat
