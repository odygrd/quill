import QuillModel.Reg.Model
import QuillModel.Spin.Proofs
/-! Invariants of the registration protocol (P1) and of the failure counter (P2), for every schedule. Defined here and
used by the statements of `Props/C20Reg.lean`, `Props/C08Counter.lean`: `Reg.RInv`, `Ctr.CfgOK`, `Ctr.getSolo`. -/
namespace Reg
open Spin (upd)
open Spin (upd_same upd_other forall_upd step_nthreads attempt_locked attempt_free_inCS unlock_inCS access_inCS attempt_locked_after
  unlock_locked access_locked attempt_inCS_ne unlock_inCS_ne)

theorem newest_append (h : List Bool) (v : Bool) : newest (h ++ [v]) = v := by simp [newest]

theorem mem_tail_of_ne {α} {a b : α} {l r : List α} (hl : l = b :: r) (hne : a ≠ b) (hm : a ∈ l) : a ∈ r :=
  List.mem_of_ne_of_mem hne (hl ▸ hm)

structure RInv (c : Cfg) (s : St) : Prop where
  spin : Spin.SInv s.lk
  nth : s.lk.nthreads = c.n + 1
  wff : ∀ t, t < c.n → wfF (s.lk.inCS t) (s.fr t).acq (s.fr t).rest = true
  wfb : wfB (s.lk.inCS c.n) s.brest = true
  flAcq : ∀ t, (s.fr t).flagged = true → (s.fr t).acq = true
  flagAhead : ∀ t, t < c.n → (s.fr t).flagged = true ∨ FInstr.setFlag ∈ (s.fr t).rest
  pushAhead : ∀ t, t < c.n → t ∈ s.list ∨ FInstr.push ∈ (s.fr t).rest
  key : ∀ t, t < c.n → (s.fr t).flagged = true → (t ∈ s.list ∨ s.lk.inCS t = true) → t ∉ s.cache →
          newest s.flagHist = true ∨ BInstr.copy ∈ s.brest
  noRace : s.raced = false
  lockTop : newest s.lockHist = s.lk.locked
  batXLock : s.batX = true → s.brest.head? = some BInstr.lock
  csBound : ∀ t, c.n < t → s.lk.inCS t = false

/-! The invariant in two parts, the lock (`LInv`) and one registering thread (`ThOK`), each stated over the components of
the state it reads, so that a step that leaves those components alone keeps it by unfolding. -/

structure LInv (n : Nat) (lk : Spin.St) (lockHist : List Bool) (raced : Bool) : Prop where
  spin : Spin.SInv lk
  nth : lk.nthreads = n + 1
  noRace : raced = false
  lockTop : newest lockHist = lk.locked
  -- the lock has no thread above the backend's index `n`: a lock no thread `≤ n` holds is free (`solo_step`)
  csBound : ∀ t, n < t → lk.inCS t = false

variable {n : Nat} {lk : Spin.St} {lockHist : List Bool} {raced : Bool} {t : Nat}

theorem LInv.attempt (o : Spin.Orders) (ho : Spin.OrdersOK o) (h : LInv n lk lockHist raced) (ht : t ≤ n)
    (hcs : lk.inCS t = false) : LInv n (Spin.step o lk (.attempt t)) (lockHist ++ [true]) raced where
  spin := Spin.step_inv o ho lk _ h.spin ⟨by rw [h.nth]; exact Nat.lt_succ_of_le ht, hcs⟩
  nth := (step_nthreads o lk _).trans h.nth
  noRace := h.noRace
  lockTop := by rw [newest_append, attempt_locked_after]
  csBound u hu := by rw [attempt_inCS_ne o lk (Nat.ne_of_gt (Nat.lt_of_le_of_lt ht hu))]; exact h.csBound u hu

theorem LInv.unlock (o : Spin.Orders) (ho : Spin.OrdersOK o) (h : LInv n lk lockHist raced) (ht : t ≤ n)
    (hcs : lk.inCS t = true) : LInv n (Spin.step o lk (.unlock t)) (lockHist ++ [false]) raced where
  spin := Spin.step_inv o ho lk _ h.spin ⟨by rw [h.nth]; exact Nat.lt_succ_of_le ht, hcs⟩
  nth := (step_nthreads o lk _).trans h.nth
  noRace := h.noRace
  lockTop := by rw [newest_append, unlock_locked]
  csBound u hu := by rw [unlock_inCS_ne o lk (Nat.ne_of_gt (Nat.lt_of_le_of_lt ht hu))]; exact h.csBound u hu

/-- the holder of the lock sees the newest version of the list, so the access does not race -/
theorem LInv.access (o : Spin.Orders) (ho : Spin.OrdersOK o) (h : LInv n lk lockHist raced) (ht : t ≤ n)
    (hcs : lk.inCS t = true) :
    LInv n (Spin.step o lk (.access t)) lockHist (raced || !(lk.seen t == lk.data)) where
  spin := Spin.step_inv o ho lk _ h.spin ⟨by rw [h.nth]; exact Nat.lt_succ_of_le ht, hcs⟩
  nth := (step_nthreads o lk _).trans h.nth
  noRace := by simp [h.noRace, h.spin.holderSees t hcs]
  lockTop := by rw [access_locked]; exact h.lockTop
  csBound := by rw [access_inCS]; exact h.csBound

/-- the clauses about one registering thread: `cs` = it holds the lock, `f` its frame, `inList` / `inCache` = its context
    is in the manager's list / the backend's cache, `pending` = the flag's newest store is `true` or a copy is ahead.
    `key` is what the protocol rests on: a context whose flag store is done and that is in the list (or whose thread
    still holds the lock) but not in the cache is not forgotten, since the backend's next `true` flag load, or the copy
    it has ahead, brings it into the cache. -/
structure ThOK (cs : Bool) (f : FTh) (inList inCache pending : Prop) : Prop where
  wff : wfF cs f.acq f.rest = true
  flagAhead : f.flagged = true ∨ FInstr.setFlag ∈ f.rest
  pushAhead : inList ∨ FInstr.push ∈ f.rest
  key : f.flagged = true → inList ∨ cs = true → ¬ inCache → pending

variable {cs : Bool} {f : FTh} {L C P L' C' P' : Prop}

theorem ThOK.mono (h : ThOK cs f L C P) (hL : L ↔ L') (hP : P → P') : ThOK cs f L' C P' :=
  ⟨h.wff, h.flagAhead, h.pushAhead.imp_left hL.1, fun hf hl hc => hP (h.key hf (hl.imp_left hL.2) hc)⟩

theorem ThOK.pending (h : ThOK cs f L C P) (hP : P') : ThOK cs f L C' P' :=
  ⟨h.wff, h.flagAhead, h.pushAhead, fun _ _ _ => hP⟩

theorem ThOK.atX (h : ThOK cs f L C P) (b : Bool) : ThOK cs { f with atX := b } L C P :=
  ⟨h.wff, h.flagAhead, h.pushAhead, h.key⟩

variable {c : Cfg} {s s' : St}

theorem RInv.linv (h : RInv c s) : LInv c.n s.lk s.lockHist s.raced := ⟨h.spin, h.nth, h.noRace, h.lockTop, h.csBound⟩

theorem RInv.th (h : RInv c s) {u : Nat} (hu : u < c.n) :
    ThOK (s.lk.inCS u) (s.fr u) (u ∈ s.list) (u ∈ s.cache) (newest s.flagHist = true ∨ BInstr.copy ∈ s.brest) :=
  ⟨h.wff u hu, h.flagAhead u hu, h.pushAhead u hu, h.key u hu⟩

theorem RInv.of_parts (l : LInv c.n s.lk s.lockHist s.raced) (wfb : wfB (s.lk.inCS c.n) s.brest = true)
    (batXLock : s.batX = true → s.brest.head? = some BInstr.lock)
    (flAcq : ∀ u, (s.fr u).flagged = true → (s.fr u).acq = true)
    (th : ∀ u, u < c.n →
      ThOK (s.lk.inCS u) (s.fr u) (u ∈ s.list) (u ∈ s.cache) (newest s.flagHist = true ∨ BInstr.copy ∈ s.brest)) :
    RInv c s :=
  { spin := l.spin, nth := l.nth, wff := fun u hu => (th u hu).wff, wfb := wfb, flAcq := flAcq,
    flagAhead := fun u hu => (th u hu).flagAhead, pushAhead := fun u hu => (th u hu).pushAhead,
    key := fun u hu => (th u hu).key, noRace := l.noRace, lockTop := l.lockTop, batXLock := batXLock,
    csBound := l.csBound }

theorem init_inv (c : Cfg) (hc : CfgOK c) : RInv c (init c) := by
  obtain ⟨h1, h2, h3, _, _, _⟩ := hc
  refine RInv.of_parts ⟨Spin.init_inv _, rfl, rfl, rfl, fun _ _ => rfl⟩ rfl (fun hbx => nomatch hbx)
    (fun _ hf => nomatch hf) (fun u _ => ⟨h1, Or.inr ?_, Or.inr ?_, fun hf => nomatch hf⟩)
  · simpa [init] using h2
  · simpa [init] using h3

theorem fin_eq (s : St) : fin s = { s with updates := (fin s).updates } := by unfold fin; split <;> rfl

theorem fin_flagHist (s : St) : (fin s).flagHist = s.flagHist := by rw [fin_eq]

theorem fin_inv (c : Cfg) (s : St) (h : RInv c s) : RInv c (fin s) := by
  rw [fin_eq]; exact RInv.of_parts h.linv h.wfb h.batXLock h.flAcq (fun _ hu => h.th hu)

theorem RInv.batX_false (h : RInv c s) {ins : BInstr} {r : List BInstr} (hb : s.brest = ins :: r)
    (hne : ins ≠ BInstr.lock) : s.batX = false := by
  rw [Bool.eq_false_iff]
  intro hbx
  have := h.batXLock hbx
  rw [hb] at this
  exact hne (Option.some.inj this)

theorem mem_append_single_ne {t u : Nat} {l : List Nat} (h : t ∈ l ++ [u]) (hne : t ≠ u) : t ∈ l := by
  simp only [List.mem_append, List.mem_singleton] at h
  exact h.resolve_right hne

/-- A step of registering thread `t`: it replaces its own frame by `f'`, may append itself to the list, may store `true`
    to the flag, and touches the lock only as thread `t`. What the invariant says about the backend and about the other
    threads carries over; left to show: the lock part and the clauses about `t`. -/
theorem RInv.fstep (h : RInv c s) (ht : t < c.n) (f' : FTh) (hfr : s'.fr = upd s.fr t f')
    (hb : s'.brest = s.brest) (hbx : s'.batX = s.batX) (hcache : s'.cache = s.cache)
    (hlist : s'.list = s.list ∨ s'.list = s.list ++ [t])
    (hflag : newest s.flagHist = true → newest s'.flagHist = true)
    (hl : LInv c.n s'.lk s'.lockHist s'.raced) (hcs : ∀ u, u ≠ t → s'.lk.inCS u = s.lk.inCS u)
    (hfl : f'.flagged = true → f'.acq = true)
    (hth : ThOK (s'.lk.inCS t) f' (t ∈ s'.list) (t ∈ s.cache) (newest s'.flagHist = true ∨ BInstr.copy ∈ s.brest)) :
    RInv c s' := by
  refine RInv.of_parts hl ?_ ?_ ?_ ?_
  · rw [hcs c.n (Nat.ne_of_gt ht), hb]; exact h.wfb
  · rw [hbx, hb]; exact h.batXLock
  · rw [hfr]
    exact forall_upd (P := fun _ (f : FTh) => f.flagged = true → f.acq = true) hfl h.flAcq
  · intro u hu
    rw [hfr, hcache, hb]
    by_cases hut : u = t
    · rw [hut, upd_same]; exact hth
    · rw [upd_other _ _ _ _ hut, hcs u hut]
      refine (h.th hu).mono ?_ (Or.imp_left hflag)
      rcases hlist with e | e
      · rw [e]
      · rw [e]; exact ⟨List.mem_append_left _, fun hm => mem_append_single_ne hm hut⟩

theorem fLockTest_inv (c : Cfg) (s : St) (t i : Nat) (h : RInv c s) (ht : t < c.n) : RInv c (fLockTest s t i) :=
  h.fstep ht { s.fr t with atX := !(valAt s.lockHist i) } rfl rfl rfl rfl (Or.inl rfl) id h.linv (fun _ _ => rfl)
    (h.flAcq t) ((h.th ht).atX _)

theorem fLockFail_inv (c : Cfg) (ho : Spin.OrdersOK c.ord) (s : St) (t : Nat) (r : List FInstr) (h : RInv c s)
    (ht : t < c.n) (hrest : (s.fr t).rest = .lock :: r) (hl : s.lk.locked = true) : RInv c (fLockFail c s t) := by
  have hw := (h.th ht).wff
  simp only [hrest, wfF, Bool.and_eq_true, Bool.not_eq_true'] at hw
  refine h.fstep ht { s.fr t with atX := false } rfl rfl rfl rfl (Or.inl rfl) id
    (h.linv.attempt c.ord ho (Nat.le_of_lt ht) hw.1.1) (fun u hut => attempt_inCS_ne _ _ hut) (h.flAcq t) ?_
  show ThOK ((Spin.step c.ord s.lk (.attempt t)).inCS t) _ _ _ _
  rw [attempt_locked _ _ _ hl]
  exact (h.th ht).atX false

theorem fLockGot_inv (c : Cfg) (ho : Spin.OrdersOK c.ord) (s : St) (t : Nat) (r : List FInstr) (h : RInv c s)
    (ht : t < c.n) (hrest : (s.fr t).rest = .lock :: r) (hl : s.lk.locked = false) : RInv c (fLockGot c s t r) := by
  have hth := h.th ht
  have hw := hth.wff
  simp only [hrest, wfF, Bool.and_eq_true, Bool.not_eq_true'] at hw
  obtain ⟨⟨hheld, hacq⟩, hwr⟩ := hw
  -- the flag store comes after `lock()`: not executed yet
  have hnf : (s.fr t).flagged = false := by
    cases hf : (s.fr t).flagged with
    | false => rfl
    | true => have := h.flAcq t hf; rw [hacq] at this; cases this
  refine h.fstep ht { s.fr t with rest := r, atX := false, acq := true } rfl rfl rfl rfl (Or.inl rfl) id
    (h.linv.attempt c.ord ho (Nat.le_of_lt ht) hheld) (fun u hut => attempt_inCS_ne _ _ hut) (fun _ => rfl) ?_
  show ThOK ((Spin.step c.ord s.lk (.attempt t)).inCS t) _ _ _ _
  rw [attempt_free_inCS _ _ _ hl, upd_same]
  exact { wff := hwr
          flagAhead := hth.flagAhead.imp_right (mem_tail_of_ne hrest nofun)
          pushAhead := hth.pushAhead.imp_right (mem_tail_of_ne hrest nofun)
          key := fun hf => nomatch hnf.symm.trans hf }

theorem fPush_inv (c : Cfg) (ho : Spin.OrdersOK c.ord) (s : St) (t : Nat) (r : List FInstr) (h : RInv c s)
    (ht : t < c.n) (hrest : (s.fr t).rest = .push :: r) : RInv c (fPush c s t r) := by
  have hth := h.th ht
  have hw := hth.wff
  simp only [hrest, wfF, Bool.and_eq_true] at hw
  obtain ⟨hheld, hwr⟩ := hw
  refine h.fstep ht { s.fr t with rest := r } rfl rfl rfl rfl (Or.inr rfl) id
    (h.linv.access c.ord ho (Nat.le_of_lt ht) hheld) (fun u _ => congrFun (access_inCS c.ord s.lk t) u) (h.flAcq t) ?_
  show ThOK ((Spin.step c.ord s.lk (.access t)).inCS t) _ (t ∈ s.list ++ [t]) _ _
  rw [access_inCS]
  -- `t` is in the list from now on; so far it was covered as the holder of the lock
  exact { wff := hwr
          flagAhead := hth.flagAhead.imp_right (mem_tail_of_ne hrest nofun)
          pushAhead := Or.inl (List.mem_append_right _ (List.mem_singleton_self t))
          key := fun hf _ hnc => hth.key hf (Or.inr hheld) hnc }

theorem fUnlock_inv (c : Cfg) (ho : Spin.OrdersOK c.ord) (s : St) (t : Nat) (r : List FInstr) (h : RInv c s)
    (ht : t < c.n) (hrest : (s.fr t).rest = .unlock :: r) : RInv c (fUnlock c s t r) := by
  have hth := h.th ht
  have hw := hth.wff
  simp only [hrest, wfF, Bool.and_eq_true] at hw
  obtain ⟨hheld, hwr⟩ := hw
  refine h.fstep ht { s.fr t with rest := r } rfl rfl rfl rfl (Or.inl rfl) id
    (h.linv.unlock c.ord ho (Nat.le_of_lt ht) hheld)
    (fun u hut => unlock_inCS_ne _ _ hut) (h.flAcq t) ?_
  show ThOK ((Spin.step c.ord s.lk (.unlock t)).inCS t) _ _ _ _
  rw [unlock_inCS, upd_same]
  exact { wff := hwr
          flagAhead := hth.flagAhead.imp_right (mem_tail_of_ne hrest nofun)
          pushAhead := hth.pushAhead.imp_right (mem_tail_of_ne hrest nofun)
          key := fun hf hin hnc => hth.key hf (Or.inl (hin.resolve_right Bool.false_ne_true)) hnc }

theorem fSetFlag_inv (c : Cfg) (s : St) (t : Nat) (r : List FInstr) (h : RInv c s)
    (ht : t < c.n) (hrest : (s.fr t).rest = .setFlag :: r) : RInv c (fSetFlag s t r) := by
  have hth := h.th ht
  have hw := hth.wff
  simp only [hrest, wfF, Bool.and_eq_true] at hw
  refine h.fstep ht { s.fr t with rest := r, flagged := true } rfl rfl rfl rfl (Or.inl rfl)
    (fun _ => newest_append _ _) h.linv (fun _ _ => rfl) (fun _ => hw.1) ?_
  exact { wff := hw.2
          flagAhead := Or.inl rfl
          pushAhead := hth.pushAhead.imp_right (mem_tail_of_ne hrest nofun)
          key := fun _ _ _ => Or.inl (newest_append _ _) }

/-! The backend is thread `c.n` of the lock; it never touches a frame or the list. -/

theorem contains_copy {r : List BInstr} (h : r.contains BInstr.copy = true) : BInstr.copy ∈ r := by
  simpa using h

theorem bLoadTrue_inv (c : Cfg) (hc : CfgOK c) (s : St) (i : Nat) (h : RInv c s) (hb : s.brest = []) :
    RInv c (bLoadTrue c s i) := by
  have hwb := h.wfb
  simp only [hb, wfB, Bool.not_eq_true'] at hwb
  apply fin_inv
  refine RInv.of_parts h.linv ?_ (fun hbx => absurd (h.batXLock hbx) (by simp [hb])) h.flAcq
    (fun u hu => (h.th hu).mono Iff.rfl (Or.imp_right fun hm => nomatch hb ▸ hm))
  show wfB (s.lk.inCS c.n) c.bprog = true
  rw [hwb]; exact hc.2.2.2.1

theorem bLoadFalse_inv (c : Cfg) (s : St) (i : Nat) (h : RInv c s) : RInv c (bLoadFalse s i) :=
  RInv.of_parts h.linv h.wfb h.batXLock h.flAcq (fun _ hu => h.th hu)

theorem RInv.before_copy (h : RInv c s) {x : BInstr} {r : List BInstr} (hb : s.brest = x :: r)
    (hx : x = .reset ∨ x = .clear) :
    BInstr.copy ∈ r ∧ wfB (s.lk.inCS c.n) r = true ∧ s.batX = false := by
  have hwb := h.wfb
  rw [hb] at hwb
  rcases hx with rfl | rfl
  all_goals
    simp only [wfB, Bool.and_eq_true] at hwb
    exact ⟨contains_copy hwb.1, hwb.2, h.batX_false hb nofun⟩

theorem bReset_inv (c : Cfg) (s : St) (r : List BInstr) (h : RInv c s) (hb : s.brest = .reset :: r) :
    RInv c (bReset s r) := by
  obtain ⟨hc, hw, hx⟩ := h.before_copy hb (.inl rfl)
  exact fin_inv c _ (RInv.of_parts h.linv hw (fun hbx => nomatch hx ▸ hbx) h.flAcq
    (fun u hu => (h.th hu).pending (Or.inr hc)))

theorem bClear_inv (c : Cfg) (s : St) (r : List BInstr) (h : RInv c s) (hb : s.brest = .clear :: r) :
    RInv c (bClear s r) := by
  obtain ⟨hc, hw, hx⟩ := h.before_copy hb (.inr rfl)
  exact fin_inv c _ (RInv.of_parts h.linv hw (fun hbx => nomatch hx ▸ hbx) h.flAcq
    (fun u hu => (h.th hu).pending (Or.inr hc)))

theorem bLockTest_inv (c : Cfg) (s : St) (i : Nat) (r : List BInstr) (h : RInv c s) (hb : s.brest = .lock :: r) :
    RInv c (bLockTest c s i) :=
  RInv.of_parts h.linv h.wfb (fun _ => congrArg List.head? hb) h.flAcq (fun _ hu => h.th hu)

theorem bLockFail_inv (c : Cfg) (ho : Spin.OrdersOK c.ord) (s : St) (r : List BInstr) (h : RInv c s)
    (hb : s.brest = .lock :: r) (hl : s.lk.locked = true) : RInv c (bLockFail c s) := by
  have hwb := h.wfb
  simp only [hb, wfB, Bool.and_eq_true, Bool.not_eq_true'] at hwb
  refine RInv.of_parts (h.linv.attempt c.ord ho (Nat.le_refl _) hwb.1) ?_ (fun hbx => nomatch hbx) h.flAcq ?_
  · show wfB ((Spin.step c.ord s.lk (.attempt c.n)).inCS c.n) s.brest = true
    rw [attempt_locked _ _ _ hl]; exact h.wfb
  · intro u hu
    show ThOK ((Spin.step c.ord s.lk (.attempt c.n)).inCS u) _ _ _ _
    rw [attempt_locked _ _ _ hl]; exact h.th hu

theorem bLockGot_inv (c : Cfg) (ho : Spin.OrdersOK c.ord) (s : St) (r : List BInstr) (h : RInv c s)
    (hb : s.brest = .lock :: r) (hl : s.lk.locked = false) : RInv c (bLockGot c s r) := by
  have hwb := h.wfb
  simp only [hb, wfB, Bool.and_eq_true, Bool.not_eq_true'] at hwb
  apply fin_inv
  refine RInv.of_parts (h.linv.attempt c.ord ho (Nat.le_refl _) hwb.1) ?_ (fun hbx => nomatch hbx) h.flAcq ?_
  · show wfB ((Spin.step c.ord s.lk (.attempt c.n)).inCS c.n) r = true
    rw [attempt_free_inCS _ _ _ hl, upd_same]; exact hwb.2
  · intro u hu
    show ThOK ((Spin.step c.ord s.lk (.attempt c.n)).inCS u) _ _ _ (_ ∨ BInstr.copy ∈ r)
    rw [attempt_inCS_ne _ _ (Nat.ne_of_lt hu)]
    exact (h.th hu).mono Iff.rfl (Or.imp_right (mem_tail_of_ne hb nofun))

theorem bCopy_inv (c : Cfg) (ho : Spin.OrdersOK c.ord) (s : St) (r : List BInstr) (h : RInv c s)
    (hb : s.brest = .copy :: r) : RInv c (bCopy c s r) := by
  have hwb := h.wfb
  simp only [hb, wfB, Bool.and_eq_true] at hwb
  obtain ⟨hheld, hwr⟩ := hwb
  apply fin_inv
  refine RInv.of_parts (h.linv.access c.ord ho (Nat.le_refl _) hheld) ?_
    (fun hbx => nomatch (h.batX_false hb nofun).symm.trans hbx) h.flAcq ?_
  · show wfB ((Spin.step c.ord s.lk (.access c.n)).inCS c.n) r = true
    rw [access_inCS]; exact hwr
  · intro u hu
    show ThOK ((Spin.step c.ord s.lk (.access c.n)).inCS u) _ _ (u ∈ s.list) _
    rw [access_inCS]
    have k := h.th hu
    -- the cache now is the list, and the backend holds the lock: no registering thread does
    exact ⟨k.wff, k.flagAhead, k.pushAhead, fun _ hin hnc =>
      hin.elim (fun hm => absurd hm hnc) (fun hcs => absurd (h.spin.excl u c.n hcs hheld) (Nat.ne_of_lt hu))⟩

theorem bUnlock_inv (c : Cfg) (ho : Spin.OrdersOK c.ord) (s : St) (r : List BInstr) (h : RInv c s)
    (hb : s.brest = .unlock :: r) : RInv c (bUnlock c s r) := by
  have hwb := h.wfb
  simp only [hb, wfB, Bool.and_eq_true] at hwb
  obtain ⟨hheld, hwr⟩ := hwb
  apply fin_inv
  refine RInv.of_parts (h.linv.unlock c.ord ho (Nat.le_refl _) hheld) ?_
    (fun hbx => nomatch (h.batX_false hb nofun).symm.trans hbx) h.flAcq ?_
  · show wfB ((Spin.step c.ord s.lk (.unlock c.n)).inCS c.n) r = true
    rw [unlock_inCS, upd_same]; exact hwr
  · intro u hu
    show ThOK ((Spin.step c.ord s.lk (.unlock c.n)).inCS u) _ _ _ (_ ∨ BInstr.copy ∈ r)
    rw [unlock_inCS_ne _ _ (Nat.ne_of_lt hu)]
    exact (h.th hu).mono Iff.rfl (Or.imp_right (mem_tail_of_ne hb nofun))

theorem fstep_inv (c : Cfg) (hc : CfgOK c) (s : St) (t i : Nat) (h : RInv c s) (ht : t < c.n) :
    RInv c (fstep c s t i) := by
  have ho := hc.2.2.2.2.2
  unfold fstep
  cases hrest : (s.fr t).rest with
  | nil => exact h
  | cons ins r =>
    cases ins with
    | lock =>
      cases hx : (s.fr t).atX with
      | false => exact fLockTest_inv c s t i h ht
      | true =>
        cases hl : s.lk.locked with
        | true => exact fLockFail_inv c ho s t r h ht hrest hl
        | false => exact fLockGot_inv c ho s t r h ht hrest hl
    | push => exact fPush_inv c ho s t r h ht hrest
    | unlock => exact fUnlock_inv c ho s t r h ht hrest
    | setFlag => exact fSetFlag_inv c s t r h ht hrest

theorem bstep_inv (c : Cfg) (hc : CfgOK c) (s : St) (i : Nat) (h : RInv c s) : RInv c (bstep c s i) := by
  have ho := hc.2.2.2.2.2
  unfold bstep
  cases hb : s.brest with
  | nil =>
    cases hv : valAt s.flagHist i with
    | true => exact bLoadTrue_inv c hc s i h hb
    | false => exact bLoadFalse_inv c s i h
  | cons ins r =>
    cases ins with
    | reset => exact bReset_inv c s r h hb
    | clear => exact bClear_inv c s r h hb
    | lock =>
      cases hx : s.batX with
      | false => exact bLockTest_inv c s i r h hb
      | true =>
        cases hl : s.lk.locked with
        | true => exact bLockFail_inv c ho s r h hb hl
        | false => exact bLockGot_inv c ho s r h hb hl
    | copy => exact bCopy_inv c ho s r h hb
    | unlock => exact bUnlock_inv c ho s r h hb

theorem step_inv (c : Cfg) (hc : CfgOK c) (s : St) (op : Op) (h : RInv c s) (he : Enabled c s op) :
    RInv c (step c s op) := by
  cases op with
  | f t i => exact fstep_inv c hc s t i h he.1
  | b i => exact bstep_inv c hc s i h

theorem reachable_inv (c : Cfg) (hc : CfgOK c) :
    ∀ (ops : List Op) (s : St), RInv c s → Run c s ops → RInv c (run c s ops)
  | [], _, h, _ => h
  | op :: ops, s, h, hr => reachable_inv c hc ops _ (step_inv c hc s op h hr.1) hr.2

/-- falls with every step of the backend running alone: two per remaining instruction, since `lock()` takes two steps
    (the test load, then the `exchange`), less one between those two (`batX`). Hence the fuel `2 * brest.length` of
    `soloUpdate`. -/
def needSteps (s : St) : Nat := 2 * s.brest.length - (if s.batX then 1 else 0)

theorem needSteps_le (s : St) : needSteps s ≤ 2 * s.brest.length := Nat.sub_le _ _

/-- an instruction done, and not inside a `lock()` (both sides compute: `2 * (k + 1) - 1` is `2 * k + 1`) -/
theorem needSteps_lt_tail {s s1 : St} {ins : BInstr} {r : List BInstr} (hb : s.brest = ins :: r) (h1 : s1.brest = r)
    (hx : s1.batX = false) : needSteps s1 < needSteps s := by
  unfold needSteps
  rw [hb, h1, hx]
  cases s.batX with
  | true => exact Nat.lt_succ_self (2 * r.length)
  | false => exact Nat.lt_succ_of_lt (Nat.lt_succ_self (2 * r.length))

/-- the test loop of `lock()` left for the `exchange` -/
theorem needSteps_lt_test {s s1 : St} (h1 : s1.brest = s.brest) (hne : s.brest ≠ []) (hx : s.batX = false)
    (hx1 : s1.batX = true) : needSteps s1 < needSteps s := by
  unfold needSteps
  rw [h1, hx, hx1]
  cases hb : s.brest with
  | nil => exact absurd hb hne
  | cons a r => exact Nat.lt_succ_self (2 * r.length + 1)

theorem valAt_last (h : List Bool) : valAt h (h.length - 1) = newest h := by
  simp [valAt, newest, List.getLast?_eq_getElem?]

/-- the cache the update in progress ends with when the backend runs alone: the list, if the copy is still ahead -/
def target (s : St) : List Nat := if BInstr.copy ∈ s.brest then s.list else s.cache

theorem target_of_mem {s : St} (h : BInstr.copy ∈ s.brest) : target s = s.list := if_pos h

theorem target_of_nil {s : St} (h : s.brest = []) : target s = s.cache := if_neg (by rw [h]; nofun)

theorem target_of_copied {s : St} (h : s.cache = s.list) : target s = s.list := by
  unfold target; rw [h]; exact ite_self _

theorem target_congr {s s1 : St} (hl : s1.list = s.list) (hc : s1.cache = s.cache)
    (hi : BInstr.copy ∈ s1.brest ↔ BInstr.copy ∈ s.brest) : target s1 = target s := by
  unfold target
  rw [hl, hc]
  simp only [hi]

/-- what one step of the backend does while no registering thread holds the lock and an update is in progress -/
structure SoloStep (c : Cfg) (s s1 : St) : Prop where
  fr : s1.fr = s.fr
  list : s1.list = s.list
  free : ∀ u, u < c.n → s1.lk.inCS u = false
  dec : needSteps s1 < needSteps s
  target : target s1 = target s

theorem SoloStep.fin {c : Cfg} {s s1 : St} (h : SoloStep c s s1) : SoloStep c s (fin s1) := by
  rw [fin_eq]; exact ⟨h.fr, h.list, h.free, h.dec, h.target⟩

theorem solo_step (c : Cfg) (s : St) (h : RInv c s) (hfree : ∀ u, u < c.n → s.lk.inCS u = false)
    (hne : s.brest ≠ []) : SoloStep c s (bstep c s (s.lockHist.length - 1)) := by
  unfold bstep
  cases hb : s.brest with
  | nil => exact absurd hb hne
  | cons ins r =>
    have hwb := h.wfb
    rw [hb] at hwb
    -- a step over `ins ≠ copy` leaves the target alone as soon as it leaves list and cache alone
    have htail : ins ≠ BInstr.copy → (BInstr.copy ∈ r ↔ BInstr.copy ∈ s.brest) := fun hi =>
      ⟨fun hm => hb ▸ List.mem_cons_of_mem _ hm, mem_tail_of_ne hb (Ne.symm hi)⟩
    cases ins with
    | reset | clear =>
      obtain ⟨hc, _, hx⟩ := h.before_copy hb (by simp)
      refine SoloStep.fin { fr := rfl, list := rfl, free := hfree, dec := ?_, target := ?_ }
      · exact needSteps_lt_tail hb rfl hx
      · rw [target_of_mem hc, target_of_mem ((htail nofun).1 hc)]
    | lock =>
      simp only [wfB, Bool.and_eq_true, Bool.not_eq_true'] at hwb
      -- nobody holds the lock: the test load reads `Free` and the `exchange` succeeds
      have hl : s.lk.locked = false := by
        cases hlk : s.lk.locked with
        | false => rfl
        | true =>
          obtain ⟨u, hu⟩ := h.spin.lockedIff.mp hlk
          rcases Nat.lt_trichotomy u c.n with h1 | h1 | h1
          · rw [hfree u h1] at hu; cases hu
          · rw [h1, hwb.1] at hu; cases hu
          · rw [h.csBound u h1] at hu; cases hu
      simp only []
      cases hx : s.batX with
      | true =>
        simp only [hl, if_true, Bool.false_eq_true, if_false]
        refine SoloStep.fin { fr := rfl, list := rfl, free := ?_, dec := ?_, target := ?_ }
        · intro u hu
          show (Spin.step c.ord s.lk (.attempt c.n)).inCS u = false
          rw [attempt_inCS_ne _ _ (Nat.ne_of_lt hu)]; exact hfree u hu
        · exact needSteps_lt_tail hb rfl rfl
        · exact target_congr rfl rfl (htail nofun)
      | false =>
        simp only [Bool.false_eq_true, if_false]
        have hv : valAt s.lockHist (s.lockHist.length - 1) = false := by rw [valAt_last, h.lockTop, hl]
        exact { fr := rfl, list := rfl, free := hfree, target := rfl
                dec := needSteps_lt_test rfl hne hx (by simp only [bLockTest, hv, Bool.not_false]) }
    | copy =>
      have hx : s.batX = false := h.batX_false hb nofun
      show SoloStep c s (bCopy c s r)
      refine SoloStep.fin { fr := rfl, list := rfl, free := ?_, dec := ?_, target := ?_ }
      · show ∀ u, u < c.n → (Spin.step c.ord s.lk (.access c.n)).inCS u = false
        rw [access_inCS]; exact hfree
      · exact needSteps_lt_tail hb rfl hx
      · exact (target_of_copied rfl).trans (target_of_mem (hb ▸ List.mem_cons_self)).symm
    | unlock =>
      have hx : s.batX = false := h.batX_false hb nofun
      show SoloStep c s (bUnlock c s r)
      refine SoloStep.fin { fr := rfl, list := rfl, free := ?_, dec := ?_, target := ?_ }
      · intro u hu
        show (Spin.step c.ord s.lk (.unlock c.n)).inCS u = false
        rw [unlock_inCS_ne _ _ (Nat.ne_of_lt hu)]; exact hfree u hu
      · exact needSteps_lt_tail hb rfl hx
      · exact target_congr rfl rfl (htail nofun)

theorem bstep_nil (c : Cfg) (s : St) (i : Nat) (hb : s.brest = []) :
    bstep c s i = if valAt s.flagHist i then bLoadTrue c s i else bLoadFalse s i := by
  unfold bstep; rw [hb]

theorem finishUpdate_nil (c : Cfg) (fuel : Nat) (s : St) (hb : s.brest = []) : finishUpdate c fuel s = s := by
  cases fuel with
  | zero => rfl
  | succ k => exact if_pos hb

theorem finishUpdate_succ (c : Cfg) (k : Nat) (s : St) (hb : s.brest ≠ []) :
    finishUpdate c (k + 1) s = finishUpdate c k (bstep c s (s.lockHist.length - 1)) := if_neg hb

theorem finishUpdate_spec (c : Cfg) (hc : CfgOK c) (fuel : Nat) (s : St) (h : RInv c s)
    (hfree : ∀ u, u < c.n → s.lk.inCS u = false) (hn : needSteps s ≤ fuel) :
    RInv c (finishUpdate c fuel s) ∧ (finishUpdate c fuel s).brest = [] ∧ (finishUpdate c fuel s).fr = s.fr ∧
      (finishUpdate c fuel s).list = s.list ∧ (∀ u, u < c.n → (finishUpdate c fuel s).lk.inCS u = false) ∧
      (finishUpdate c fuel s).cache = target s := by
  induction fuel generalizing s with
  | zero =>
    -- every step of an update in progress needs fuel
    have hb : s.brest = [] := Decidable.byContradiction fun hb =>
      Nat.not_lt_zero _ (Nat.lt_of_lt_of_le (solo_step c s h hfree hb).dec hn)
    exact ⟨h, hb, rfl, rfl, hfree, (target_of_nil hb).symm⟩
  | succ k ih =>
    by_cases hb : s.brest = []
    · rw [finishUpdate_nil c _ s hb]
      exact ⟨h, hb, rfl, rfl, hfree, (target_of_nil hb).symm⟩
    · have hs := solo_step c s h hfree hb
      rw [finishUpdate_succ c k s hb]
      obtain ⟨i1, i2, i3, i4, i5, i6⟩ :=
        ih _ (bstep_inv c hc s _ h) hs.free (Nat.le_of_lt_succ (Nat.lt_of_lt_of_le hs.dec hn))
      exact ⟨i1, i2, i3.trans hs.fr, i4.trans hs.list, i5, i6.trans hs.target⟩

end Reg

namespace Ctr

def CfgOK (c : Cfg) : Prop := c.incRmw = true ∧ c.resetXchg = true
instance (c : Cfg) : Decidable (CfgOK c) := by unfold CfgOK; infer_instance

theorem newest_append (h : List Nat) (v : Nat) : newest (h ++ [v]) = v := by simp [newest]

theorem valAt_last (h : List Nat) : valAt h (h.length - 1) = newest h := by
  simp [valAt, newest, List.getLast?_eq_getElem?]

/-- conservation: what was handed out plus what is still in the counter is what was counted -/
def CInv (s : St) : Prop := s.returns.sum + newest s.hist = s.incs

theorem init_inv : CInv ({} : St) := by simp [CInv, newest]

theorem reset_inv (c : Cfg) (hc : CfgOK c) (s : St) (v : Nat) (h : CInv s) : CInv (reset c s v) := by
  unfold CInv at *
  simp only [reset, hc.2, if_true, newest_append, List.sum_append, List.sum_cons, List.sum_nil]
  -- the newest value moved from the counter to the returns: `h` up to `+ 0`
  exact h

theorem step_inv (c : Cfg) (hc : CfgOK c) (s : St) (op : Op) (h : CInv s) : CInv (step c s op) := by
  cases op with
  | inc t i =>
    simp only [step, hc.1, if_true]
    unfold CInv at *
    simp only [newest_append]
    exact congrArg (· + 1) h
  | get i =>
    simp only [step]
    split
    · exact reset_inv c hc s _ h
    · split
      · split
        · -- the test load read zero: a zero is returned
          unfold CInv at *
          simp only [List.sum_append, List.sum_cons, List.sum_nil]
          exact h
        · exact h
      · exact reset_inv c hc s 0 h

theorem reachable_inv (c : Cfg) (hc : CfgOK c) :
    ∀ (ops : List Op) (s : St), CInv s → CInv (run c s ops)
  | [], _, h => h
  | op :: ops, s, h => reachable_inv c hc ops _ (step_inv c hc s op h)

/-- the backend alone: one whole call of `get_and_reset_failure_counter` whose load returns the newest store -/
def getSolo (c : Cfg) (s : St) : St :=
  let s1 := step c s (.get (s.hist.length - 1))
  if s1.bpend.isSome then step c s1 (.get 0) else s1

end Ctr
