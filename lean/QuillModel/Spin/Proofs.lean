import QuillModel.Spin.Model
/-! The spinlock's invariant `SInv` along every enabled step, what one step does to the lock's components (read by the
models that embed the lock: `Filt`, `Reg`), and `upd` at and off the updated index. -/
namespace Spin

theorem upd_same {β} (f : Nat → β) (i : Nat) (v : β) : upd f i v i = v := if_pos rfl
theorem upd_other {β} (f : Nat → β) (i k : Nat) (v : β) (h : k ≠ i) : upd f i v k = f k := if_neg h

theorem forall_upd {β} {P : Nat → β → Prop} {f : Nat → β} {u : Nat} {x : β} (hx : P u x) (h : ∀ v, P v (f v)) :
    ∀ v, P v (upd f u x v) := by
  intro v
  by_cases hvu : v = u
  · rw [hvu, upd_same]; exact hx
  · rw [upd_other _ _ _ _ hvu]; exact h v

theorem step_nthreads (o : Orders) (s : St) (op : Op) : (step o s op).nthreads = s.nthreads := by
  cases op with
  | attempt t =>
    cases hl : s.locked with
    | true => simp only [step, hl, if_true]
    | false => simp only [step, hl, Bool.false_eq_true, if_false]
  | unlock t => rfl
  | access t => rfl

theorem attempt_locked (o : Orders) (s : St) (t : Nat) (h : s.locked = true) : step o s (.attempt t) = s := by
  simp [step, h]

theorem attempt_free_inCS (o : Orders) (s : St) (t : Nat) (h : s.locked = false) :
    (step o s (.attempt t)).inCS = upd s.inCS t true := by simp [step, h]

theorem unlock_inCS (o : Orders) (s : St) (t : Nat) : (step o s (.unlock t)).inCS = upd s.inCS t false := rfl

theorem access_inCS (o : Orders) (s : St) (t : Nat) : (step o s (.access t)).inCS = s.inCS := rfl

theorem attempt_locked_after (o : Orders) (s : St) (t : Nat) : (step o s (.attempt t)).locked = true := by
  by_cases h : s.locked = true <;> simp [step, h]

theorem unlock_locked (o : Orders) (s : St) (t : Nat) : (step o s (.unlock t)).locked = false := rfl

theorem access_locked (o : Orders) (s : St) (t : Nat) : (step o s (.access t)).locked = s.locked := rfl

theorem attempt_inCS_ne (o : Orders) (s : St) {t u : Nat} (h : u ≠ t) : (step o s (.attempt t)).inCS u = s.inCS u := by
  cases hl : s.locked with
  | true => rw [attempt_locked o s t hl]
  | false => rw [attempt_free_inCS o s t hl, upd_other _ _ _ _ h]

theorem unlock_inCS_ne (o : Orders) (s : St) {t u : Nat} (h : u ≠ t) : (step o s (.unlock t)).inCS u = s.inCS u := by
  rw [unlock_inCS, upd_other _ _ _ _ h]

theorem init_inv (n : Nat) : SInv ({ nthreads := n } : St) := by
  refine { excl := ?_, lockedIff := ?_, holderSees := ?_, freeCarries := ?_, seenLe := ?_ } <;> simp

theorem SInv.free {s : St} (h : SInv s) (hl : s.locked = false) (t : Nat) : s.inCS t = false := by
  cases ht : s.inCS t with
  | false => rfl
  | true => have := h.lockedIff.mpr ⟨t, ht⟩; rw [hl] at this; cases this

theorem SInv.safe {s : St} (h : SInv s) : ∀ op, Enabled s op → Safe s op
  | .access t, he => h.holderSees t he.2
  | .attempt _, _ => trivial
  | .unlock _, _ => trivial

theorem step_inv (o : Orders) (ho : OrdersOK o) (s : St) (op : Op) (h : SInv s) (he : Enabled s op) :
    SInv (step o s op) := by
  obtain ⟨hacq, hrel⟩ := ho
  cases op with
  | attempt t =>
    simp only [step]
    by_cases hl : s.locked = true
    · simp only [hl, if_true]; exact h
    · have hl' : s.locked = false := by simpa using hl
      simp only [hl', Bool.false_eq_true, if_false, hacq, if_true]
      -- the flag was `Free`: nobody is inside, so afterwards only `t` is
      have only : ∀ a, upd s.inCS t true a = true → a = t := fun a ha => by
        by_cases h1 : a = t
        · exact h1
        · rw [upd_other _ _ _ _ h1] at ha; exact absurd (h.lockedIff.mpr ⟨a, ha⟩) hl
      -- and the release sequence it read from carries the newest version
      have hseen : upd s.seen t (max (s.seen t) s.relView) t = s.data := by
        rw [upd_same, h.freeCarries hl']; exact Nat.max_eq_right (h.seenLe t)
      refine { excl := fun a b ha hb => (only a ha).trans (only b hb).symm
               lockedIff := ⟨fun _ => ⟨t, upd_same ..⟩, fun _ => rfl⟩
               holderSees := fun a ha => by rw [only a ha]; exact hseen
               freeCarries := fun hh => nomatch hh
               seenLe := fun a => ?_ }
      show upd s.seen t _ a ≤ s.data
      by_cases h1 : a = t
      · rw [h1, hseen]; exact Nat.le_refl _
      · rw [upd_other _ _ _ _ h1]; exact h.seenLe a
  | unlock t =>
    obtain ⟨_, hin⟩ := he
    simp only [step, hrel, if_true]
    -- `t` was the only one inside: now nobody is
    have hnone : ∀ a, upd s.inCS t false a = false := fun a => by
      by_cases h1 : a = t
      · rw [h1, upd_same]
      · rw [upd_other _ _ _ _ h1]
        cases hc : s.inCS a with
        | false => rfl
        | true => exact absurd (h.excl a t hc hin) h1
    exact { excl := fun a _ ha => nomatch (hnone a).symm.trans ha
            lockedIff := ⟨fun hh => (nomatch hh), fun ⟨a, ha⟩ => nomatch (hnone a).symm.trans ha⟩
            holderSees := fun a ha => nomatch (hnone a).symm.trans ha
            freeCarries := fun _ => h.holderSees t hin
            seenLe := h.seenLe }
  | access t =>
    obtain ⟨_, hin⟩ := he
    simp only [step]
    refine { excl := h.excl, lockedIff := h.lockedIff, holderSees := ?_, freeCarries := ?_, seenLe := ?_ }
    · intro a ha
      show upd s.seen t (s.data + 1) a = s.data + 1
      rw [h.excl a t ha hin, upd_same]
    · intro hl
      exact nomatch hl.symm.trans (h.lockedIff.mpr ⟨t, hin⟩)
    · intro a
      show upd s.seen t (s.data + 1) a ≤ s.data + 1
      by_cases h1 : a = t
      · rw [h1, upd_same]; exact Nat.le_refl _
      · rw [upd_other _ _ _ _ h1]; exact Nat.le_succ_of_le (h.seenLe a)

theorem reachable_inv (o : Orders) (ho : OrdersOK o) :
    ∀ (ops : List Op) (s : St), SInv s → Run o s ops → SInv (run o s ops)
  | [], _, h, _ => h
  | op :: ops, s, h, hr => reachable_inv o ho ops _ (step_inv o ho s op h hr.1) hr.2

end Spin
