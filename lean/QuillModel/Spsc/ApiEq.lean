import QuillModel.Spsc.Api
/-! The three API calls that may reload a position (`prepare_write`, `empty`, `prepare_read`) written out for any load
result `v`: the resulting state as a record update, and the answer. The wrap-around refinement reads them with the stale
value, the backend model with the newest one. -/
namespace Spsc

theorem run_opt (o : Params) (s : St) (c : Prop) [Decidable c] (op : Op) :
    run o s (if c then [op] else []) = if c then step o s op else s := by
  split <;> rfl

theorem Run_opt (o : Params) (s : St) (c : Prop) [Decidable c] (op : Op) (h : c → Enabled s op) :
    Run o s (if c then [op] else []) := by
  split
  · next hc => exact ⟨h hc, trivial⟩
  · trivial

theorem absApi_prepareWrite (o : Params) (s : St) (n v : Nat) :
    absApi o s (.prepareWrite n v) =
      if s.free < n then
        ({ s with rcache := v, pHb := if o.syncR then max s.pHb v else s.pHb },
          if s.cap - (s.wpos - v) < n then .null else .grant (s.wpos % s.cap))
      else (s, .grant (s.wpos % s.cap)) := by
  unfold absApi
  simp only [apiOps, run_opt]
  split
  · rfl
  · next h => simp only [apiObs, if_neg h]

theorem absApi_empty (o : Params) (s : St) (v : Nat) :
    absApi o s (.empty v) =
      if s.wcache = s.rpos then
        ({ s with wcache := v, cHb := if o.syncW then max s.cHb v else s.cHb }, .isEmpty (decide (v = s.rpos)))
      else (s, .isEmpty false) := by
  unfold absApi
  simp only [apiOps, run_opt]
  split
  · rfl
  · next h => simp only [apiObs, h, decide_false]

theorem absApi_prepareRead (o : Params) (s : St) (v : Nat) :
    absApi o s (.prepareRead v) =
      if s.wcache = s.rpos then
        ({ s with wcache := v, cHb := if o.syncW then max s.cHb v else s.cHb },
          if v = s.rpos then .null else .readAt (s.rpos % s.cap))
      else (s, .readAt (s.rpos % s.cap)) := by
  unfold absApi
  simp only [apiOps, run_opt]
  split
  · rfl
  · next h => simp only [apiObs, if_neg h]

end Spsc
