namespace Spsc

theorem eq_of_mod_eq (M a b : Nat) (hba : b ≤ a) (hlt : a - b < M) (h : a % M = b % M) : a = b := by
  have := Nat.sub_mod_eq_zero_of_mod_eq h
  rw [Nat.mod_eq_of_lt hlt] at this
  exact Nat.le_antisymm (Nat.sub_eq_zero_iff_le.mp this) hba

theorem mod_ne_of_lt (cap r i n : Nat) (hi : i < n) (hn : n < cap) :
    (r + i) % cap ≠ (r + n) % cap := fun h =>
  absurd (eq_of_mod_eq cap (r + n) (r + i) (by omega) (by omega) h.symm) (by omega)

/-- Two records that both lie in a window of at most `cap` free-running positions occupy disjoint
    physical cells, although records never wrap (they spill into the second half of the storage). -/
theorem cells_disjoint (cap a a' w n r : Nat) (hc : 0 < cap) (haw : a' ≤ w)
    (hr : r ≤ a) (hfit : w + n ≤ cap + r) (i j : Nat) (hi : i < a' - a) (hj : j < n) :
    a % cap + i ≠ w % cap + j := by
  -- the two cells hold positions `a + i < w + j` less than `cap` apart: equal cells would make them congruent
  intro heq
  have hlt : a + i < w + j := Nat.lt_of_lt_of_le (Nat.add_lt_of_lt_sub' hi) (Nat.le_trans haw (Nat.le_add_right _ _))
  have hnear : w + j < a + i + cap :=
    Nat.add_comm cap (a + i) ▸ Nat.lt_of_lt_of_le (Nat.add_lt_add_left hj w)
      (Nat.le_trans hfit (Nat.add_le_add_left (Nat.le_trans hr (Nat.le_add_right a i)) cap))
  have h1 : (w + j) % cap = (a + i) % cap := by rw [← Nat.mod_add_mod w cap j, ← Nat.mod_add_mod a cap i, heq]
  exact Nat.ne_of_gt hlt (eq_of_mod_eq cap (w + j) (a + i) (Nat.le_of_lt hlt) (Nat.sub_lt_left_of_lt_add (Nat.le_of_lt hlt) hnear) h1)

theorem cells_outside (cap a a' w n r : Nat) (hc : 0 < cap) (haw : a' ≤ w) (hr : r ≤ a) (hfit : w + n ≤ cap + r)
    (i : Nat) (hi : i < a' - a) : ¬ (w % cap ≤ a % cap + i ∧ a % cap + i < w % cap + n) := fun ⟨h1, h2⟩ =>
  cells_disjoint cap a a' w n r hc haw hr hfit i (a % cap + i - w % cap) hi (Nat.sub_lt_left_of_lt_add h1 h2)
    (Nat.add_sub_cancel' h1).symm

/-- position `x` of a window of length `n` at `a`, carried to the window at `b` and back: cells of a record and the
positions they hold correspond one to one -/
theorem shift_window {a b n x : Nat} (h1 : a ≤ x) (h2 : x < a + n) :
    b ≤ b + (x - a) ∧ b + (x - a) < b + n ∧ a + (b + (x - a) - b) = x :=
  ⟨Nat.le_add_right .., Nat.add_lt_add_left (Nat.sub_lt_left_of_lt_add h1 h2) b,
    by rw [Nat.add_sub_cancel_left, Nat.add_sub_cancel' h1]⟩

theorem phys_in_storage (cap w n r : Nat) (hc : 0 < cap) (hfit : w + n ≤ cap + r) (hr : r ≤ w) :
    w % cap + n ≤ 2 * cap := by
  have := Nat.mod_lt w hc
  omega

end Spsc
