import QuillModel.Spsc.ApiEq
import QuillModel.Spsc.Proofs
/-!
# Wrap-around refinement

The C++ keeps every position in an unsigned integer type `T` of `w` bits and computes distances as
`static_cast<T>(a - b)`, offsets as `pos & (capacity - 1)`. With `M = 2^w`, `cap ∣ M` and `cap < M`
(capacity is a power of two representable in `T`), the implementation-layer machine `modApi` started
from `absM M s` produces exactly the image of what the free-running machine `absApi` produces from `s`,
for every reachable `s` — i.e. through any number of integer wrap-arounds.
-/
namespace Spsc

theorem subM_eq (M a b : Nat) (hM : 0 < M) (hba : b ≤ a) (hlt : a - b < M) :
    subM M (a % M) (b % M) = a - b := by
  unfold subM
  obtain ⟨d, rfl⟩ := Nat.exists_eq_add_of_le hba
  rw [Nat.add_sub_cancel_left] at hlt ⊢
  have hr := Nat.mod_lt b hM
  rw [← Nat.mod_add_mod]
  generalize b % M = r at hr ⊢
  -- `r + d < 2 * M`: the sum wraps at most once
  rcases Nat.lt_or_ge (r + d) M with h | h
  · rw [Nat.mod_eq_of_lt h, show r + d + M - r = d + M by omega, Nat.add_mod_right, Nat.mod_eq_of_lt hlt]
  · rw [Nat.mod_eq_sub_mod h, Nat.mod_eq_of_lt (show r + d - M < M by omega),
      show r + d - M + M - r = d by omega, Nat.mod_eq_of_lt hlt]

theorem mod_eq_iff (M a b : Nat) (hba : b ≤ a) (hlt : a - b < M) :
    a % M = b % M ↔ a = b :=
  ⟨eq_of_mod_eq M a b hba hlt, fun h => by rw [h]⟩

structure WrapOK (M : Nat) (s : St) : Prop where
  mPos : 0 < M
  dvd : s.cap ∣ M
  capLt : s.cap < M
  rcw : s.rcache ≤ s.wpos
  room : s.wpos - s.rcache ≤ s.cap
  rw : s.rpos ≤ s.wcache
  ww : s.wcache ≤ s.wpos
  pubR : s.rHist.headD 0 ≤ s.rpos
  rcPub : s.rcache ≤ s.rHist.headD 0

theorem QInv.wrapOK {s : St} (h : QInv s) (M : Nat) (hd : s.cap ∣ M) (hlt : s.cap < M) : WrapOK M s where
  mPos := Nat.lt_trans h.capPos hlt
  dvd := hd
  capLt := hlt
  rcw := h.rc_le_wpos
  room := h.room
  rw := h.rw
  ww := h.wcache_le_wpos
  pubR := h.rNew
  rcPub := Nat.le_trans h.rcIn h.pHbLe

theorem WrapOK.window {M : Nat} {s : St} (h : WrapOK M s) {a b : Nat} (hb : s.rcache ≤ b) (ha : a ≤ s.wpos) :
    a - b < M :=
  Nat.lt_of_le_of_lt (Nat.le_trans (Nat.le_trans (Nat.sub_le_sub_right ha b) (Nat.sub_le_sub_left hb _)) h.room) h.capLt

theorem free_mod {M : Nat} {s : St} (h : WrapOK M s) :
    s.cap - subM M (s.wpos % M) (s.rcache % M) = s.free := by
  rw [subM_eq M _ _ h.mPos h.rcw (h.window (Nat.le_refl _) (Nat.le_refl _))]; rfl

theorem empty_mod {M : Nat} {s : St} (h : WrapOK M s) :
    (s.wcache % M = s.rpos % M) ↔ (s.wcache = s.rpos) :=
  mod_eq_iff M _ _ h.rw (h.window (Nat.le_trans h.rcPub h.pubR) h.ww)

theorem batch_mod {M : Nat} {s : St} (h : WrapOK M s) :
    subM M (s.rpos % M) (s.rHist.headD 0 % M) = s.rpos - s.rHist.headD 0 :=
  subM_eq M _ _ h.mPos h.pubR (h.window h.rcPub (Nat.le_trans h.rw h.ww))

theorem off_mod {M : Nat} {s : St} (h : WrapOK M s) (x : Nat) : x % M % s.cap = x % s.cap :=
  Nat.mod_mod_of_dvd x h.dvd

/-- what a caller must respect: `finish_write n` after a grant of `n`, `finish_read n` of the record the
    bytes describe after a non-null `prepare_read`, and a legal load result -/
def ApiOK (s : St) : Api → Prop
  | .prepareWrite _ v => v ∈ s.rHist ∧ s.rcache ≤ v
  | .finishWrite n    => 0 < n ∧ n ≤ s.free
  | .commitWrite      => True
  | .empty v          => v ∈ s.wHist ∧ s.wcache ≤ v
  | .prepareRead v    => v ∈ s.wHist ∧ s.wcache ≤ v
  | .finishRead n     => s.rpos < s.wcache ∧ n = s.endOf s.rpos - s.rpos
  | .commitRead       => True

theorem api_run (o : Params) (s : St) (a : Api) (hok : ApiOK s a) : Run o s (apiOps o s a) := by
  cases a with
  | prepareWrite n v => exact Run_opt o s _ _ fun _ => hok
  | empty v => exact Run_opt o s _ _ fun _ => hok
  | prepareRead v => exact Run_opt o s _ _ fun _ => hok
  | finishWrite n => exact ⟨hok, trivial⟩
  | finishRead n => exact ⟨hok, trivial⟩
  | commitWrite => exact ⟨trivial, trivial⟩
  | commitRead => exact ⟨trivial, trivial⟩

theorem api_inv (o : Params) (ho : OrdersOK o) (s : St) (a : Api) (h : QInv s) (hok : ApiOK s a) :
    QInv (absApi o s a).1 :=
  reachable_inv o ho _ s h (api_run o s a hok)

/-- The implementation-layer step from the image of `s` is the image of the free-running step from `s`, with the same
    observation (positions published modulo `M`). -/
theorem wrap_refines (M : Nat) (o : Params) (ho : OrdersOK o) (s : St) (a : Api) (h : QInv s)
    (hd : s.cap ∣ M) (hlt : s.cap < M) (hok : ApiOK s a) :
    modApi M o (absM M s) (a.modM M) = (absM M (absApi o s a).1, (absApi o s a).2.modM M) := by
  have hw := h.wrapOK M hd hlt
  cases a with
  | prepareWrite n v =>
    have hfm := free_mod hw
    have hfm' := free_mod ((step_inv o ho s (.reloadR v) h hok).wrapOK M hd hlt)
    simp only [step, St.free] at hfm'
    rw [absApi_prepareWrite]
    by_cases hfree : s.free < n
    · rw [if_pos hfree]
      simp only [modApi, Api.modM, absM, hfm, if_pos hfree, hfm']
      split <;> simp only [Obs.modM, off_mod hw]
    · rw [if_neg hfree]
      simp only [modApi, Api.modM, absM, hfm, if_neg hfree, Obs.modM, off_mod hw]
  | finishWrite n =>
    simp only [modApi, Api.modM, absM, absApi, apiOps, run, step, apiObs, Obs.modM, Nat.mod_add_mod]
  | commitWrite =>
    simp only [modApi, Api.modM, absM, absApi, apiOps, run, step, apiObs, Obs.modM, List.headD_cons]
  | empty v =>
    have hem := empty_mod hw
    have hem' := empty_mod ((step_inv o ho s (.loadW v) h hok).wrapOK M hd hlt)
    simp only [step] at hem'
    rw [absApi_empty]
    by_cases he : s.wcache = s.rpos
    · rw [if_pos he]
      simp only [modApi, Api.modM, absM, hem, if_pos he, hem', Obs.modM]
    · rw [if_neg he]
      simp only [modApi, Api.modM, absM, hem, he, ↓reduceIte, Obs.modM, decide_false]
  | prepareRead v =>
    have hem := empty_mod hw
    have hem' := empty_mod ((step_inv o ho s (.loadW v) h hok).wrapOK M hd hlt)
    simp only [step] at hem'
    rw [absApi_prepareRead]
    by_cases he : s.wcache = s.rpos
    · rw [if_pos he]
      simp only [modApi, Api.modM, absM, hem, if_pos he, hem']
      split <;> simp only [Obs.modM, off_mod hw]
    · rw [if_neg he]
      simp only [modApi, Api.modM, absM, hem, he, ↓reduceIte, Obs.modM, off_mod hw]
  | finishRead n =>
    simp only [modApi, Api.modM, absM, absApi, apiOps, run, step, apiObs, Obs.modM, Nat.mod_add_mod]
  | commitRead =>
    have hb := batch_mod hw
    have hem := empty_mod hw
    have hdr : (s.rpos % M = s.wcache % M) ↔ (s.rpos = s.wcache) := Eq.comm.trans (hem.trans Eq.comm)
    -- the machine modulo `M` takes the decision of `publishes`
    have hpub : (decide ((absM M s).batch ≤ subM M (absM M s).rpos (absM M s).ar) ||
        (o.drainPublish && decide ((absM M s).rpos = (absM M s).wcache))) = publishes o s := by
      show (decide (s.batch ≤ subM M (s.rpos % M) (s.rHist.headD 0 % M)) ||
        (o.drainPublish && decide (s.rpos % M = s.wcache % M))) = _
      rw [hb]
      simp only [hdr]
      rfl
    show (if (decide _ || _) = true then _ else _) = _
    rw [hpub]
    cases hp : publishes o s
    · simp [absM, absApi, apiOps, run, step, hp, apiObs, Obs.modM]
    · simp only [absM, absApi, apiOps, run, step, hp, apiObs, Obs.modM, List.headD_cons, if_true]

end Spsc
