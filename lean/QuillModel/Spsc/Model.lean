/-!
# Bounded SPSC queue (`quill::detail::BoundedSPSCQueueImpl<T>`) under a release/acquire view semantics

Anchors: `include/quill/core/BoundedSPSCQueue.h` — `prepare_write`, `finish_write`, `commit_write`,
`prepare_read` / `empty`, `finish_read`, `commit_read`.

* Positions are free-running naturals here; `Wrap.lean` relates them to the `2^w`-modular values the C++
  computes with.
* Each of the two atomics has a single writer and carries a monotone counter, so its store history is kept
  as the *set of values ever stored*; a load by the other thread may return any stored value that is not
  older than the last one this thread observed (`v ∈ hist ∧ cache ≤ v`) — the legal results of a C++11
  atomic load on a single-writer location.
* `pHb` / `cHb` are the synchronised frontiers: plain accesses of the other thread to bytes below the
  frontier happen-before my next action. They advance only through an acquire load of a release store.
* Physical memory is modelled: record with free-running start `s` occupies cells
  `[s % cap, s % cap + n)` of a `2·cap` array (quill's records never wrap; they spill into the second half).
* Ghost: `mem` (which absolute byte a cell holds), `startOf`/`endOf` (record extent of an absolute byte —
  "what the bytes say" to the decoding consumer), `recs` (lengths of the records written, oldest first)
  and `nread` (how many records the consumer has finished).
-/
namespace Spsc

inductive MO | relaxed | consume | acquire | release | acqrel | seqcst
  deriving DecidableEq, Repr, Inhabited

def MO.isAcq : MO → Bool | .acquire | .acqrel | .seqcst | .consume => true | _ => false
def MO.isRel : MO → Bool | .release | .acqrel | .seqcst => true | _ => false

/-- What the extraction reads off the header: the memory order of the four cross-thread accesses and
    whether `commit_read` also publishes when the consumer has drained the queue. -/
structure Params where
  wStore : MO   -- commit_write   : `_atomic_writer_pos.store`
  wLoad  : MO   -- empty()        : `_atomic_writer_pos.load`
  rStore : MO   -- commit_read    : `_atomic_reader_pos.store`
  rLoad  : MO   -- prepare_write  : `_atomic_reader_pos.load`
  drainPublish : Bool
  deriving Repr, DecidableEq

def Params.syncW (o : Params) : Bool := o.wStore.isRel && o.wLoad.isAcq
def Params.syncR (o : Params) : Bool := o.rStore.isRel && o.rLoad.isAcq
def OrdersOK (o : Params) : Prop := o.syncW = true ∧ o.syncR = true
instance (o : Params) : Decidable (OrdersOK o) := by unfold OrdersOK; infer_instance

structure St where
  cap : Nat
  batch : Nat
  -- producer private
  wpos : Nat
  rcache : Nat
  pHb : Nat
  -- consumer private
  rpos : Nat
  wcache : Nat
  cHb : Nat
  -- atomics: every value ever stored, newest first
  wHist : List Nat
  rHist : List Nat
  -- ghost
  mem : Nat → Option Nat
  startOf : Nat → Nat
  endOf : Nat → Nat
  recs : List Nat
  nread : Nat

def St.phys (s : St) (x : Nat) : Nat := s.startOf x % s.cap + (x - s.startOf x)

inductive Op
  | reloadR (v : Nat)        -- producer: load of the reader position inside `prepare_write`, result `v`
  | write (n : Nat)          -- producer: granted reservation of `n` bytes, payload stores, `finish_write n`
  | commitW                  -- producer: `commit_write`
  | loadW (v : Nat)          -- consumer: load of the writer position inside `empty()`, result `v`
  | read (n : Nat)           -- consumer: payload loads of the record at `rpos`, `finish_read n`
  | commitR (pub : Bool)     -- consumer: `commit_read`; `pub`: whether it stores the reader position
                             -- (safety holds for every publication policy; the C++ policy is `publishes`)
  deriving Repr

/-- what the C++ tests or its caller guarantees (`0 < n`, the length read) before each step, plus the legality of a load result -/
def Enabled (s : St) : Op → Prop
  | .reloadR v => v ∈ s.rHist ∧ s.rcache ≤ v
  | .write n   => 0 < n ∧ n ≤ s.cap - (s.wpos - s.rcache)
  | .commitW   => True
  | .loadW v   => v ∈ s.wHist ∧ s.wcache ≤ v
  | .read n    => s.rpos < s.wcache ∧ n = s.endOf s.rpos - s.rpos
  | .commitR _ => True

instance (s : St) (op : Op) : Decidable (Enabled s op) := by
  cases op <;> unfold Enabled <;> infer_instance

/-- `commit_read` publishes when the batch threshold is reached or (repaired code) the queue is drained. -/
def publishes (o : Params) (s : St) : Bool :=
  decide (s.batch ≤ s.rpos - s.rHist.headD 0) || (o.drainPublish && decide (s.rpos = s.wcache))

def step (o : Params) (s : St) : Op → St
  | .reloadR v => { s with rcache := v, pHb := if o.syncR then max s.pHb v else s.pHb }
  | .write n   => { s with
      mem := fun c => if s.wpos % s.cap ≤ c ∧ c < s.wpos % s.cap + n
                      then some (s.wpos + (c - s.wpos % s.cap)) else s.mem c,
      startOf := fun x => if s.wpos ≤ x ∧ x < s.wpos + n then s.wpos else s.startOf x,
      endOf := fun x => if s.wpos ≤ x ∧ x < s.wpos + n then s.wpos + n else s.endOf x,
      wpos := s.wpos + n,
      recs := s.recs ++ [n] }
  | .commitW   => { s with wHist := s.wpos :: s.wHist }
  | .loadW v   => { s with wcache := v, cHb := if o.syncW then max s.cHb v else s.cHb }
  | .read n    => { s with rpos := s.rpos + n, nread := s.nread + 1 }
  | .commitR b => if b then { s with rHist := s.rpos :: s.rHist } else s

/-- safety obligations of a step: what must never go wrong -/
def Safe (s : St) : Op → Prop
  | .write n   => (s.wpos % s.cap + n ≤ 2 * s.cap) ∧
                  (∀ c x, s.wpos % s.cap ≤ c → c < s.wpos % s.cap + n → s.mem c = some x → x < s.pHb)
  | .read n    => s.rpos + n ≤ s.cHb ∧
                  (∀ j, j < n → s.mem (s.phys (s.rpos + j)) = some (s.rpos + j))
  | _ => True

/-- executable rendering of `Safe` (used by the driver and by the schedule search) -/
def safeB (s : St) : Op → Bool
  | .write n   => decide (s.wpos % s.cap + n ≤ 2 * s.cap) &&
                  (List.range n).all (fun j => match s.mem (s.wpos % s.cap + j) with
                                               | some x => decide (x < s.pHb) | none => true)
  | .read n    => decide (s.rpos + n ≤ s.cHb) &&
                  (List.range n).all (fun j => s.mem (s.phys (s.rpos + j)) == some (s.rpos + j))
  | _ => true

/-- a boundary never splits a written record -/
def Bnd (s : St) (b : Nat) : Prop := b ≤ s.wpos ∧ ∀ x, x < s.wpos → b ≤ s.startOf x ∨ s.endOf x ≤ b

/-- start position of the `k`-th record -/
def startK (recs : List Nat) (k : Nat) : Nat := (recs.take k).sum

structure QInv (s : St) : Prop where
  capPos : 0 < s.cap
  rh0 : s.rHist ≠ []
  rhLe : ∀ v ∈ s.rHist, v ≤ s.rHist.headD 0
  whLe : ∀ v ∈ s.wHist, v ≤ s.wHist.headD 0
  rcIn : s.rcache ≤ s.pHb
  pHbLe : s.pHb ≤ s.rHist.headD 0
  rNew : s.rHist.headD 0 ≤ s.rpos
  rw : s.rpos ≤ s.wcache
  wcLe : s.wcache ≤ s.cHb
  cHbLe : s.cHb ≤ s.wHist.headD 0
  wNew : s.wHist.headD 0 ≤ s.wpos
  room : s.wpos - s.rcache ≤ s.cap
  ext : ∀ x, x < s.wpos → s.startOf x ≤ x ∧ x < s.endOf x ∧ s.endOf x ≤ s.wpos ∧ s.endOf x - s.startOf x ≤ s.cap
  extS : ∀ x y, x < s.wpos → s.startOf x ≤ y → y < s.endOf x → s.startOf y = s.startOf x ∧ s.endOf y = s.endOf x
  bRc : Bnd s s.rcache
  bRp : Bnd s s.rpos
  bWc : Bnd s s.wcache
  bRh : ∀ v ∈ s.rHist, Bnd s v
  bWh : ∀ v ∈ s.wHist, Bnd s v
  memAt : ∀ c x, s.mem c = some x → c = s.phys x ∧ x < s.wpos
  live : ∀ x, s.rpos ≤ x → x < s.wpos → s.mem (s.phys x) = some x
  -- FIFO ghost
  recPos : ∀ n ∈ s.recs, 0 < n
  wSum : s.wpos = s.recs.sum
  nreadLe : s.nread ≤ s.recs.length
  rSum : s.rpos = startK s.recs s.nread
  recExt : ∀ k, k < s.recs.length → ∀ x, startK s.recs k ≤ x → x < startK s.recs (k + 1) →
             s.startOf x = startK s.recs k ∧ s.endOf x = startK s.recs (k + 1)

def init (cap batch : Nat) : St :=
  { cap, batch, wpos := 0, rcache := 0, pHb := 0, rpos := 0, wcache := 0, cHb := 0,
    wHist := [0], rHist := [0], mem := fun _ => none, startOf := fun _ => 0, endOf := fun _ => 0,
    recs := [], nread := 0 }

/-- a schedule: every op is enabled in the state it is applied to -/
def Run (o : Params) : St → List Op → Prop
  | _, [] => True
  | s, op :: ops => Enabled s op ∧ Run o (step o s op) ops

def run (o : Params) : St → List Op → St
  | s, [] => s
  | s, op :: ops => run o (step o s op) ops

def decRun (o : Params) : (s : St) → (ops : List Op) → Decidable (Run o s ops)
  | _, [] => isTrue trivial
  | s, op :: ops =>
      match (inferInstance : Decidable (Enabled s op)), decRun o (step o s op) ops with
      | isTrue h1, isTrue h2 => isTrue ⟨h1, h2⟩
      | isFalse h1, _ => isFalse (fun h => h1 h.1)
      | _, isFalse h2 => isFalse (fun h => h2 h.2)

instance (o : Params) (s : St) (ops : List Op) : Decidable (Run o s ops) := decRun o s ops

end Spsc
