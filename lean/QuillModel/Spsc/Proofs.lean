import QuillModel.Spsc.Model
import QuillModel.Spsc.Arith
/-! Invariant preservation and step safety for the bounded SPSC model; what the invariant says about the next read and the
next grant; the records written and read over a schedule. -/
namespace Spsc

theorem startK_le_sum (l : List Nat) (k : Nat) : startK l k ≤ l.sum := by
  unfold startK
  induction l generalizing k with
  | nil => simp
  | cons a as ih =>
    cases k with
    | zero => simp
    | succ k => simp only [List.take_succ_cons, List.sum_cons]; have := ih k; omega

theorem startK_succ (l : List Nat) (k : Nat) (hk : k < l.length) :
    startK l (k + 1) = startK l k + l[k] := by
  unfold startK
  induction l generalizing k with
  | nil => simp at hk
  | cons a as ih =>
    cases k with
    | zero => simp
    | succ k =>
      simp only [List.take_succ_cons, List.sum_cons, List.getElem_cons_succ]
      have := ih k (by simpa using hk)
      omega

theorem startK_append_le (l : List Nat) (n k : Nat) (hk : k ≤ l.length) :
    startK (l ++ [n]) k = startK l k := by
  unfold startK
  rw [List.take_append_of_le_length hk]

theorem startK_length (l : List Nat) : startK l l.length = l.sum := by
  unfold startK; rw [List.take_length]

theorem startK_append_last (l : List Nat) (n : Nat) :
    startK (l ++ [n]) (l.length + 1) = l.sum + n := by
  have : startK (l ++ [n]) ((l ++ [n]).length) = (l ++ [n]).sum := startK_length _
  simpa using this

theorem QInv.rc_le_rpos {s : St} (h : QInv s) : s.rcache ≤ s.rpos :=
  Nat.le_trans h.rcIn (Nat.le_trans h.pHbLe h.rNew)

theorem headD_mem {l : List Nat} (h : l ≠ []) : l.headD 0 ∈ l := by
  cases l with
  | nil => exact absurd rfl h
  | cons a t => simp

theorem startK_lt_sum (l : List Nat) (hpos : ∀ n ∈ l, 0 < n) (k : Nat) (hk : k < l.length) :
    startK l k < l.sum := by
  have h1 := startK_succ l k hk
  have h2 := startK_le_sum l (k + 1)
  have h3 := hpos _ (List.getElem_mem hk)
  omega

theorem commitR_q (o : Params) (q : St) (b : Bool) :
    (step o q (.commitR b)).rpos = q.rpos ∧ (step o q (.commitR b)).wcache = q.wcache := by
  cases b <;> exact ⟨rfl, rfl⟩

theorem QInv.wcache_le_wpos {s : St} (h : QInv s) : s.wcache ≤ s.wpos :=
  Nat.le_trans h.wcLe (Nat.le_trans h.cHbLe h.wNew)

theorem QInv.rpos_le_wpos {s : St} (h : QInv s) : s.rpos ≤ s.wpos := Nat.le_trans h.rw h.wcache_le_wpos

theorem QInv.rc_le_wpos {s : St} (h : QInv s) : s.rcache ≤ s.wpos := Nat.le_trans h.rc_le_rpos h.rpos_le_wpos

theorem QInv.write_fits {s : St} (h : QInv s) {n : Nat} (hn : n ≤ s.cap - (s.wpos - s.rcache)) :
    s.wpos + n ≤ s.cap + s.rcache := by
  have := h.room; have := h.rc_le_wpos; omega

theorem QInv.startOf_le {s : St} (h : QInv s) {x : Nat} (hx : x < s.wpos) : s.startOf x ≤ x := (h.ext x hx).1
theorem QInv.lt_endOf {s : St} (h : QInv s) {x : Nat} (hx : x < s.wpos) : x < s.endOf x := (h.ext x hx).2.1
theorem QInv.endOf_le {s : St} (h : QInv s) {x : Nat} (hx : x < s.wpos) : s.endOf x ≤ s.wpos := (h.ext x hx).2.2.1

theorem QInv.bndWpos {s : St} (h : QInv s) : Bnd s s.wpos :=
  ⟨Nat.le_refl _, fun x hx => Or.inr (h.endOf_le hx)⟩

theorem Bnd.le_start {s : St} (h : QInv s) {b x : Nat} (hb : Bnd s b) (hx : x < s.wpos) (hbx : b ≤ x) :
    b ≤ s.startOf x := by
  rcases hb.2 x hx with h1 | h1
  · exact h1
  · exact absurd (Nat.lt_of_lt_of_le (h.lt_endOf hx) (Nat.le_trans h1 hbx)) (Nat.lt_irrefl x)

theorem Bnd.end_le {s : St} (h : QInv s) {b x : Nat} (hb : Bnd s b) (hx : x < s.wpos) (hbx : x < b) :
    s.endOf x ≤ b := by
  rcases hb.2 x hx with h1 | h1
  · exact absurd (Nat.lt_of_lt_of_le hbx (Nat.le_trans h1 (h.startOf_le hx))) (Nat.lt_irrefl x)
  · exact h1

/-- a byte the producer may not yet overwrite lies outside the cells of the next reservation -/
theorem QInv.phys_outside {s : St} (h : QInv s) {n x : Nat} (hfit : s.wpos + n ≤ s.cap + s.rcache)
    (hrx : s.rcache ≤ x) (hx : x < s.wpos) : ¬ (s.wpos % s.cap ≤ s.phys x ∧ s.phys x < s.wpos % s.cap + n) := by
  obtain ⟨e1, e2, e3, _⟩ := h.ext x hx
  exact cells_outside s.cap (s.startOf x) (s.endOf x) s.wpos n s.rcache h.capPos e3 (Bnd.le_start h h.bRc hx hrx) hfit
    (x - s.startOf x) (Nat.sub_lt_sub_right e1 e2)

theorem QInv.read_end {s : St} (h : QInv s) {n : Nat} (he : Enabled s (.read n)) :
    s.rpos < s.wpos ∧ s.rpos + n = s.endOf s.rpos ∧ s.endOf s.rpos ≤ s.wcache ∧ s.endOf s.rpos ≤ s.wpos := by
  obtain ⟨hlt, hn⟩ := he
  have hxw : s.rpos < s.wpos := Nat.lt_of_lt_of_le hlt h.wcache_le_wpos
  exact ⟨hxw, by rw [hn]; exact Nat.add_sub_cancel' (Nat.le_of_lt (h.lt_endOf hxw)), Bnd.end_le h h.bWc hxw hlt,
    h.endOf_le hxw⟩

/-- Every enabled step of either thread is safe: the producer stays inside the storage and overwrites
    only bytes whose reads happen-before; the consumer reads only committed, synchronised, intact bytes. -/
theorem step_safe (s : St) (op : Op) (h : QInv s) (he : Enabled s op) : Safe s op := by
  cases op with
  | write n =>
    obtain ⟨hn0, hn⟩ := he
    have hfit := h.write_fits hn
    refine ⟨phys_in_storage s.cap s.wpos n s.rcache h.capPos hfit h.rc_le_wpos, ?_⟩
    intro c x hc1 hc2 hm
    obtain ⟨hcx, hxw⟩ := h.memAt c x hm
    apply Classical.byContradiction
    intro hnot
    exact h.phys_outside hfit (Nat.le_trans h.rcIn (Nat.le_of_not_lt hnot)) hxw (hcx ▸ ⟨hc1, hc2⟩)
  | read n =>
    obtain ⟨_, hnew, hend, hw⟩ := h.read_end he
    refine ⟨hnew ▸ Nat.le_trans hend h.wcLe, fun j hj => ?_⟩
    exact h.live (s.rpos + j) (Nat.le_add_right ..) (Nat.lt_of_lt_of_le (Nat.add_lt_add_left hj _) (hnew ▸ hw))
  | reloadR v => trivial
  | commitW => trivial
  | loadW v => trivial
  | commitR b => trivial

theorem Bnd.next {s : St} (h : QInv s) {b : Nat} (hb : Bnd s b) (hbw : b < s.wpos) : Bnd s (s.endOf b) := by
  obtain ⟨e1, e2, e3, _⟩ := h.ext b hbw
  refine ⟨e3, fun x hx => ?_⟩
  rcases hb.2 x hx with h1 | h1
  · by_cases h2 : s.startOf x < s.endOf b
    · -- `startOf x` lies in the record of `b` and in that of `x`: one record
      have a := h.extS b (s.startOf x) hbw (Nat.le_trans e1 h1) h2
      have c := h.extS x (s.startOf x) hx (Nat.le_refl _) (Nat.lt_of_le_of_lt (h.startOf_le hx) (h.lt_endOf hx))
      exact Or.inr (Nat.le_of_eq (c.2.symm.trans a.2))
    · exact Or.inl (Nat.le_of_not_lt h2)
  · exact Or.inr (Nat.le_trans h1 (Nat.le_of_lt e2))

theorem startOf_write_old (o : Params) (s : St) (n : Nat) {x : Nat} (hx : x < s.wpos) :
    (step o s (.write n)).startOf x = s.startOf x := if_neg fun h => Nat.not_lt.mpr h.1 hx

theorem endOf_write_old (o : Params) (s : St) (n : Nat) {x : Nat} (hx : x < s.wpos) :
    (step o s (.write n)).endOf x = s.endOf x := if_neg fun h => Nat.not_lt.mpr h.1 hx

theorem startOf_write_new (o : Params) (s : St) {n x : Nat} (h1 : s.wpos ≤ x) (h2 : x < s.wpos + n) :
    (step o s (.write n)).startOf x = s.wpos := if_pos ⟨h1, h2⟩

theorem endOf_write_new (o : Params) (s : St) {n x : Nat} (h1 : s.wpos ≤ x) (h2 : x < s.wpos + n) :
    (step o s (.write n)).endOf x = s.wpos + n := if_pos ⟨h1, h2⟩

theorem mem_write (o : Params) (s : St) (n c : Nat) :
    (step o s (.write n)).mem c =
      if s.wpos % s.cap ≤ c ∧ c < s.wpos % s.cap + n then some (s.wpos + (c - s.wpos % s.cap)) else s.mem c := rfl

theorem phys_write_old (o : Params) (s : St) (n : Nat) {x : Nat} (hx : x < s.wpos) :
    (step o s (.write n)).phys x = s.phys x := by
  unfold St.phys
  rw [startOf_write_old o s n hx]
  rfl

theorem phys_write_new (o : Params) (s : St) {n x : Nat} (h1 : s.wpos ≤ x) (h2 : x < s.wpos + n) :
    (step o s (.write n)).phys x = s.wpos % s.cap + (x - s.wpos) := by
  unfold St.phys
  rw [startOf_write_new o s h1 h2]
  rfl

theorem Bnd.write {o : Params} {s : St} {n b : Nat} (hb : Bnd s b) : Bnd (step o s (.write n)) b := by
  refine ⟨Nat.le_trans hb.1 (Nat.le_add_right ..), fun x hx => ?_⟩
  rcases Nat.lt_or_ge x s.wpos with hx' | hx'
  · rw [startOf_write_old o s n hx', endOf_write_old o s n hx']
    exact hb.2 x hx'
  · rw [startOf_write_new o s hx' hx]
    exact Or.inl hb.1

theorem QInv.read_is_next {s : St} (h : QInv s) (hlt : s.rpos < s.wpos) :
    ∃ hk : s.nread < s.recs.length, s.startOf s.rpos = s.rpos ∧ s.endOf s.rpos = s.rpos + s.recs[s.nread] := by
  have hk : s.nread < s.recs.length := by
    rcases Nat.lt_or_ge s.nread s.recs.length with h1 | h1
    · exact h1
    · have : s.nread = s.recs.length := Nat.le_antisymm h.nreadLe h1
      have h2 := h.rSum; rw [this, startK_length] at h2
      have := h.wSum; omega
  refine ⟨hk, ?_⟩
  have hs := startK_succ s.recs s.nread hk
  have hpos := h.recPos _ (List.getElem_mem hk)
  have := h.recExt s.nread hk s.rpos (by rw [← h.rSum]; exact Nat.le_refl _) (by rw [hs, ← h.rSum]; omega)
  rw [hs, ← h.rSum] at this
  exact this

theorem step_inv (o : Params) (ho : OrdersOK o) (s : St) (op : Op) (h : QInv s) (he : Enabled s op) :
    QInv (step o s op) := by
  obtain ⟨hsW, hsR⟩ := ho
  cases op with
  | reloadR v =>
    obtain ⟨hv, hcoh⟩ := he
    refine { h with rcIn := ?_, pHbLe := ?_, room := ?_, bRc := ?_ } <;> simp only [step, hsR, if_true]
    · exact Nat.le_max_right ..
    · exact Nat.max_le.mpr ⟨h.pHbLe, h.rhLe v hv⟩
    · exact Nat.le_trans (Nat.sub_le_sub_left hcoh _) h.room
    · exact h.bRh v hv
  | commitW =>
    refine { h with whLe := ?_, cHbLe := ?_, wNew := ?_, bWh := ?_ } <;> simp only [step, List.headD_cons]
    · exact List.forall_mem_cons.mpr ⟨Nat.le_refl _, fun v hv => Nat.le_trans (h.whLe v hv) h.wNew⟩
    · exact Nat.le_trans h.cHbLe h.wNew
    · exact Nat.le_refl _
    · exact List.forall_mem_cons.mpr ⟨h.bndWpos, h.bWh⟩
  | loadW v =>
    obtain ⟨hv, hcoh⟩ := he
    refine { h with rw := ?_, wcLe := ?_, cHbLe := ?_, bWc := ?_ } <;> simp only [step, hsW, if_true]
    · exact Nat.le_trans h.rw hcoh
    · exact Nat.le_max_right ..
    · exact Nat.max_le.mpr ⟨h.cHbLe, h.whLe v hv⟩
    · exact h.bWh v hv
  | read n =>
    obtain ⟨hxw, hnew, hend, _⟩ := h.read_end he
    obtain ⟨hk, _, hen⟩ := h.read_is_next hxw
    refine { h with rNew := ?_, rw := ?_, bRp := ?_, live := ?_, nreadLe := ?_, rSum := ?_ } <;> simp only [step]
    · exact Nat.le_trans h.rNew (Nat.le_add_right ..)
    · rw [hnew]; exact hend
    · show Bnd s (s.rpos + n)
      rw [hnew]; exact h.bRp.next h hxw
    · exact fun x hx1 hx2 => h.live x (Nat.le_trans (Nat.le_add_right ..) hx1) hx2
    · exact hk
    · rw [startK_succ _ _ hk, ← h.rSum, hnew]; exact hen
  | commitR b =>
    simp only [step]
    split
    · refine { h with rh0 := ?_, rhLe := ?_, pHbLe := ?_, rNew := ?_, bRh := ?_ } <;> simp only [List.headD_cons]
      · exact List.cons_ne_nil _ _
      · exact List.forall_mem_cons.mpr ⟨Nat.le_refl _, fun v hv => Nat.le_trans (h.rhLe v hv) h.rNew⟩
      · exact Nat.le_trans h.pHbLe h.rNew
      · exact Nat.le_refl _
      · exact List.forall_mem_cons.mpr ⟨h.bRp, h.bRh⟩
    · exact h
  | write n =>
    obtain ⟨hn0, hn⟩ := he
    have hfit := h.write_fits hn
    -- the one step that touches memory and the ghost clauses: below the old `wpos` every clause reads as before
    -- (`*_write_old`), the new record is `*_write_new`, and the bytes at positions `[rcache, wpos)` stay because their
    -- cells are none of the written ones (`phys_outside`, from `hfit`)
    have hncap : n ≤ s.cap := Nat.le_trans hn (Nat.sub_le _ _)
    have hws := h.wSum
    refine { capPos := h.capPos, rh0 := h.rh0, rhLe := h.rhLe, whLe := h.whLe, rcIn := h.rcIn,
             pHbLe := h.pHbLe, rNew := h.rNew, rw := h.rw, wcLe := h.wcLe, cHbLe := h.cHbLe,
             wNew := Nat.le_trans h.wNew (Nat.le_add_right ..), room := Nat.sub_le_iff_le_add.mpr hfit,
             ext := ?_, extS := ?_, bRc := h.bRc.write, bRp := h.bRp.write,
             bWc := h.bWc.write, bRh := fun v hv => (h.bRh v hv).write, bWh := fun v hv => (h.bWh v hv).write,
             memAt := ?_, live := ?_, recPos := ?_, wSum := ?_, nreadLe := ?_, rSum := ?_, recExt := ?_ }
    · intro x hx
      rcases Nat.lt_or_ge x s.wpos with hx' | hx'
      · obtain ⟨e1, e2, e3, e4⟩ := h.ext x hx'
        rw [startOf_write_old o s n hx', endOf_write_old o s n hx']
        exact ⟨e1, e2, Nat.le_trans e3 (Nat.le_add_right ..), e4⟩
      · rw [startOf_write_new o s hx' hx, endOf_write_new o s hx' hx, Nat.add_sub_cancel_left]
        exact ⟨hx', hx, Nat.le_refl _, hncap⟩
    · intro x y hx hy1 hy2
      rcases Nat.lt_or_ge x s.wpos with hx' | hx'
      · rw [startOf_write_old o s n hx'] at hy1 ⊢
        rw [endOf_write_old o s n hx'] at hy2 ⊢
        have hy' : y < s.wpos := Nat.lt_of_lt_of_le hy2 (h.endOf_le hx')
        rw [startOf_write_old o s n hy', endOf_write_old o s n hy']
        exact h.extS x y hx' hy1 hy2
      · rw [startOf_write_new o s hx' hx] at hy1 ⊢
        rw [endOf_write_new o s hx' hx] at hy2 ⊢
        exact ⟨startOf_write_new o s hy1 hy2, endOf_write_new o s hy1 hy2⟩
    · intro c x hm
      rw [mem_write] at hm
      split at hm
      · rename_i hc
        cases hm
        obtain ⟨_, h2, h3⟩ := shift_window (b := s.wpos) hc.1 hc.2
        rw [phys_write_new o s (Nat.le_add_right ..) h2]
        exact ⟨h3.symm, h2⟩
      · obtain ⟨m1, m2⟩ := h.memAt c x hm
        rw [phys_write_old o s n m2]
        exact ⟨m1, Nat.lt_of_lt_of_le m2 (Nat.le_add_right ..)⟩
    · intro x (hx1 : s.rpos ≤ x) (hx2 : x < s.wpos + n)
      rcases Nat.lt_or_ge x s.wpos with hx' | hx'
      · have hrx : s.rcache ≤ x := Nat.le_trans h.rc_le_rpos hx1
        rw [phys_write_old o s n hx', mem_write, if_neg (h.phys_outside hfit hrx hx')]
        exact h.live x hx1 hx'
      · obtain ⟨g1, g2, g3⟩ := shift_window (b := s.wpos % s.cap) hx' hx2
        rw [phys_write_new o s hx' hx2, mem_write, if_pos ⟨g1, g2⟩, g3]
    · intro m hm
      rcases List.mem_append.mp hm with h1 | h1
      · exact h.recPos m h1
      · rw [List.mem_singleton.mp h1]; exact hn0
    · show s.wpos + n = (s.recs ++ [n]).sum
      rw [List.sum_append, hws]; rfl
    · show s.nread ≤ (s.recs ++ [n]).length
      rw [List.length_append]; exact Nat.le_trans h.nreadLe (Nat.le_add_right ..)
    · show s.rpos = startK (s.recs ++ [n]) s.nread
      rw [startK_append_le _ _ _ h.nreadLe]; exact h.rSum
    · intro k (hk : k < (s.recs ++ [n]).length) x (hx1 : startK (s.recs ++ [n]) k ≤ x)
        (hx2 : x < startK (s.recs ++ [n]) (k + 1))
      show (step o s (.write n)).startOf x = startK (s.recs ++ [n]) k ∧
        (step o s (.write n)).endOf x = startK (s.recs ++ [n]) (k + 1)
      rw [List.length_append] at hk
      rcases Nat.lt_or_ge k s.recs.length with hk' | hk'
      · rw [startK_append_le _ _ _ (Nat.le_of_lt hk')] at hx1 ⊢
        rw [startK_append_le s.recs n (k + 1) hk'] at hx2 ⊢
        have hx' : x < s.wpos := Nat.lt_of_lt_of_le hx2 (hws ▸ startK_le_sum s.recs (k + 1))
        rw [startOf_write_old o s n hx', endOf_write_old o s n hx']
        exact h.recExt k hk' x hx1 hx2
      · have hkeq : k = s.recs.length := Nat.le_antisymm (Nat.le_of_lt_succ hk) hk'
        subst hkeq
        rw [startK_append_le _ _ _ (Nat.le_refl _), startK_length, ← hws] at hx1 ⊢
        rw [startK_append_last, ← hws] at hx2 ⊢
        exact ⟨startOf_write_new o s hx1 hx2, endOf_write_new o s hx1 hx2⟩

theorem init_inv (cap batch : Nat) (hc : 0 < cap) : QInv (init cap batch) :=
  have none_written {p : Prop} (x : Nat) (hx : x < (init cap batch).wpos) : p := absurd hx (Nat.not_lt_zero x)
  have b0 : Bnd (init cap batch) 0 := ⟨Nat.le_refl _, fun x hx => none_written x hx⟩
  have only0 {p : Nat → Prop} (h0 : p 0) : ∀ v ∈ [0], p v := fun _ hv => List.mem_singleton.mp hv ▸ h0
  { capPos := hc, rh0 := List.cons_ne_nil _ _, rhLe := only0 (Nat.le_refl _), whLe := only0 (Nat.le_refl _),
    rcIn := Nat.le_refl _, pHbLe := Nat.le_refl _, rNew := Nat.le_refl _, rw := Nat.le_refl _, wcLe := Nat.le_refl _,
    cHbLe := Nat.le_refl _, wNew := Nat.le_refl _, room := Nat.zero_le _,
    ext := fun x hx => none_written x hx, extS := fun x _ hx => none_written x hx,
    bRc := b0, bRp := b0, bWc := b0, bRh := only0 b0, bWh := only0 b0,
    memAt := fun _ _ h => (nomatch h), live := fun x _ hx => none_written x hx,
    recPos := fun _ hn => (nomatch hn), wSum := rfl, nreadLe := Nat.le_refl _, rSum := rfl,
    recExt := fun k hk => absurd hk (Nat.not_lt_zero k) }

theorem reachable_inv (o : Params) (ho : OrdersOK o) :
    ∀ (ops : List Op) (s : St), QInv s → Run o s ops → QInv (run o s ops)
  | [], _, h, _ => h
  | op :: ops, s, h, hr => reachable_inv o ho ops _ (step_inv o ho s op h hr.1) hr.2

theorem step_cap (o : Params) (s : St) (op : Op) : (step o s op).cap = s.cap := by
  cases op with
  | commitR b => cases b <;> rfl
  | _ => rfl

theorem run_cap (o : Params) : ∀ (ops : List Op) (s : St), (run o s ops).cap = s.cap
  | [], _ => rfl
  | op :: ops, s => (run_cap o ops (step o s op)).trans (step_cap o s op)

theorem step_wh (o : Params) (q : St) (op : Op) (h : q.wHist ≠ []) : (step o q op).wHist ≠ [] := by
  cases op with
  | commitW => exact List.cons_ne_nil _ _
  | commitR b => cases b <;> exact h
  | _ => exact h

theorem all_read {q : St} (h : QInv q) (he : q.rpos = q.wpos) : q.nread = q.recs.length := by
  rcases Nat.lt_or_ge q.nread q.recs.length with hlt | hge
  · have := startK_lt_sum q.recs h.recPos q.nread hlt
    have := h.rSum; have := h.wSum; omega
  · have := h.nreadLe; omega

theorem fifo_of_inv (o : Params) (s : St) (h : QInv s) (n : Nat) (he : Enabled s (.read n)) :
    ∃ hk : s.nread < s.recs.length,
      s.rpos = startK s.recs s.nread ∧ n = s.recs[s.nread] ∧
      (step o s (.read n)).nread = s.nread + 1 ∧
      (step o s (.read n)).rpos = startK s.recs (s.nread + 1) := by
  obtain ⟨hlt, hn⟩ := he
  obtain ⟨hk, _, hen⟩ := h.read_is_next (Nat.lt_of_lt_of_le hlt h.wcache_le_wpos)
  have hn' : n = s.recs[s.nread] := by rw [hn, hen, Nat.add_sub_cancel_left]
  refine ⟨hk, h.rSum, hn', rfl, ?_⟩
  show s.rpos + n = _
  rw [startK_succ _ _ hk, ← h.rSum, hn']

theorem grant_of_inv (s : St) (h : QInv s) (n : Nat) (he : Enabled s (.write n)) :
    n ≤ s.cap ∧ s.wpos + n ≤ s.cap + s.rHist.headD 0 ∧ s.rHist.headD 0 ≤ s.rpos := by
  obtain ⟨_, hn⟩ := he
  exact ⟨Nat.le_trans hn (Nat.sub_le _ _),
    Nat.le_trans (h.write_fits hn) (Nat.add_le_add_left (Nat.le_trans h.rcIn h.pHbLe) _), h.rNew⟩

def opW : Op → List Nat | .write n => [n] | _ => []
def opR : Op → List Nat | .read n => [n] | _ => []

theorem step_recs_nread (o : Params) (q : St) (op : Op) :
    (step o q op).recs = q.recs ++ opW op ∧ (step o q op).nread = q.nread + (opR op).length := by
  cases op with
  | write n => exact ⟨rfl, rfl⟩
  | commitR b => cases b <;> exact ⟨(List.append_nil _).symm, rfl⟩
  | _ => exact ⟨(List.append_nil _).symm, rfl⟩

theorem step_taken (o : Params) (s : St) (op : Op) (h : QInv s) (he : Enabled s op) :
    (step o s op).recs.take (step o s op).nread = s.recs.take s.nread ++ opR op := by
  obtain ⟨e1, e2⟩ := step_recs_nread o s op
  rw [e1, e2]
  cases op with
  | read n =>
    obtain ⟨hk, _, hn, _, _⟩ := fifo_of_inv o s h n he
    show (s.recs ++ []).take (s.nread + 1) = _ ++ [n]
    rw [List.append_nil, List.take_succ_eq_append_getElem hk, hn]
  | _ => exact (List.take_append_of_le_length h.nreadLe).trans (List.append_nil _).symm

def writesOf : List Op → List Nat
  | [] => []
  | .write n :: ops => n :: writesOf ops
  | _ :: ops => writesOf ops

def readsOf : List Op → List Nat
  | [] => []
  | .read n :: ops => n :: readsOf ops
  | _ :: ops => readsOf ops

theorem writesOf_cons (op : Op) (ops : List Op) : writesOf (op :: ops) = opW op ++ writesOf ops := by
  cases op <;> rfl

theorem readsOf_cons (op : Op) (ops : List Op) : readsOf (op :: ops) = opR op ++ readsOf ops := by
  cases op <;> rfl

/-- over a schedule the ghost fields follow the trace: `recs` grows by what was written, and the records taken so far
    (the first `nread` of `recs`) grow by what was read -/
theorem trace_fifo_of_inv (o : Params) (ho : OrdersOK o) :
    ∀ (ops : List Op) (s : St), QInv s → Run o s ops →
      (run o s ops).recs = s.recs ++ writesOf ops ∧
      (run o s ops).recs.take (run o s ops).nread = s.recs.take s.nread ++ readsOf ops
  | [], s, _, _ => ⟨(List.append_nil _).symm, (List.append_nil _).symm⟩
  | op :: ops, s, h, hr => by
    rw [writesOf_cons, readsOf_cons, ← List.append_assoc, ← List.append_assoc, ← (step_recs_nread o s op).1,
      ← step_taken o s op h hr.1]
    exact trace_fifo_of_inv o ho ops (step o s op) (step_inv o ho s op h hr.1) hr.2

theorem safeB_iff (s : St) (op : Op) : safeB s op = true ↔ Safe s op := by
  cases op with
  | write n =>
    simp only [safeB, Safe, Bool.and_eq_true, decide_eq_true_eq, List.all_eq_true, List.mem_range]
    constructor
    · rintro ⟨h1, h2⟩
      refine ⟨h1, ?_⟩
      intro c x hc1 hc2 hm
      have := h2 (c - s.wpos % s.cap) (Nat.sub_lt_left_of_lt_add hc1 hc2)
      have e : s.wpos % s.cap + (c - s.wpos % s.cap) = c := Nat.add_sub_cancel' hc1
      rw [e, hm] at this
      simpa using this
    · rintro ⟨h1, h2⟩
      refine ⟨h1, ?_⟩
      intro j hj
      cases hm : s.mem (s.wpos % s.cap + j) with
      | none => rfl
      | some x => simpa using h2 _ x (Nat.le_add_right ..) (Nat.add_lt_add_left hj _) hm
  | read n =>
    simp only [safeB, Safe, Bool.and_eq_true, decide_eq_true_eq, List.all_eq_true, List.mem_range, beq_iff_eq]
  | reloadR v => simp [safeB, Safe]
  | commitW => simp [safeB, Safe]
  | loadW v => simp [safeB, Safe]
  | commitR b => simp [safeB, Safe]

end Spsc
