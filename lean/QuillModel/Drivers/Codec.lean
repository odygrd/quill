import QuillModel.Extracted.Codec
import QuillModel.Drivers.Util
/-!
Correspondence driver for the codec model. Input: the lines printed by `harness/h3_codec.cpp` and `harness/h5_alloc.cpp`
(`case <n> <kind> … a=<value description> => <observation>`); every observation is recomputed with the definitions the
C04/C11 theorems are about (`sizePass`, `encode`, `decode`, `sizeStatement`, `reserved`, `writeRecord`/`readRecord`,
`sanitize`, `stringRelated`, `logCall`) and the container table / frame / predicate extracted from the current headers.
Prints `MISMATCH …` per disagreement, `MODEL-…` when a generated value falls outside the theorems' hypotheses, a
`TRACE` line per case kind and a final `DONE` line.
-/
namespace Drv.Codec
open _root_.Codec

/-! ### parsing the value / shape descriptions -/

def isHex (c : Char) : Bool := (Drv.hexVal c).isSome

def takeHex (cs : List Char) : List Char × List Char := (cs.takeWhile isHex, cs.dropWhile isHex)

def bytesOfHex (cs : List Char) : Option Bytes :=
  (Drv.unhex (String.ofList cs)).map (fun l => l.map UInt8.ofNat)

def takeNat (cs : List Char) : Nat × List Char :=
  let d := cs.takeWhile Char.isDigit
  ((String.ofList d).toNat?.getD 0, cs.dropWhile Char.isDigit)

def primKind : Char → Option PrimKind
  | 'i' => some .arith | 'h' => some .chr | 'n' => some .enum | 'p' => some .ptr | _ => none

def kindName : String → String
  | "vec" => "vector" | "deq" => "deque" | "lst" => "list" | "fwd" => "forward_list" | "set" => "set"
  | "uset" => "unordered_set" | "map" => "map" | "umap" => "unordered_map" | "arr" => "array" | "carr" => "carray"
  | s => s

/-- `spec = false`: the container table as extracted (C04: the model follows the code);
    `spec = true`: the table the C11 budget is stated for (`specKind`; obligation `alloc_count_slots` shows it is the
    extracted one) — the predicted allocations are the property's, not the implementation's -/
def kindOf (spec : Bool) (s : String) : Option KindInfo :=
  (Extracted.kindTable.lookup (kindName s)).map (fun ki => if spec then specKind (kindName s) ki else ki)

mutual
partial def parseShape : List Char → Option (Shape × List Char)
  | 'p' :: k :: cs => do
    let pk ← primKind k
    let (w, r) := takeNat cs
    match r with | '.' :: r' => some (.prim pk w, r') | _ => none
  | 'z' :: cs => some (.cstr, cs)
  | 'a' :: cs =>
    let (n, r) := takeNat cs
    match r with | '.' :: r' => some (.carr n, r') | _ => none
  | 's' :: cs => some (.str, cs)
  | 'q' :: '(' :: cs => do
    let (es, r) ← parseShape cs
    match r with | ')' :: r' => some (.seq es, r') | _ => none
  | 'r' :: cs => do
    let (n, r) := takeNat cs
    match r with
    | '(' :: r1 =>
      let (es, r2) ← parseShape r1
      match r2 with | ')' :: r3 => some (.arr n es, r3) | _ => none
    | _ => none
  | 'o' :: '(' :: cs => do
    let (es, r) ← parseShape cs
    match r with | ')' :: r' => some (.opt es, r') | _ => none
  | 'R' :: '(' :: cs => do
    let (a, r) ← parseShape cs
    match r with
    | ',' :: r1 =>
      let (b, r2) ← parseShape r1
      match r2 with | ')' :: r3 => some (.pair a b, r3) | _ => none
    | _ => none
  | 'T' :: '(' :: cs => do
    let (l, r) ← parseShapes cs
    some (.tuple l, r)
  | 'd' :: cs =>
    let (n, r) := takeNat cs
    match r with | '.' :: r' => some (.pod n, r') | _ => none
  | 'n' :: cs =>
    let (sz, r) := takeNat cs
    match r with
    | ':' :: r1 =>
      let (al, r2) := takeNat r1
      match r2 with | '.' :: r3 => some (.nonpod sz al, r3) | _ => none
    | _ => none
  | 'f' :: cs => some (.direct, cs)
  | 'v' :: cs => some (.sref, cs)
  | 'h' :: cs => some (.path, cs)
  | _ => none
/-- comma separated, up to the closing parenthesis (consumed) -/
partial def parseShapes : List Char → Option (List Shape × List Char)
  | ')' :: cs => some ([], cs)
  | cs => do
    let (s, r) ← parseShape cs
    match r with
    | ',' :: r1 => let (l, r2) ← parseShapes r1; some (s :: l, r2)
    | ')' :: r1 => some ([s], r1)
    | _ => none
end

def hexField (cs : List Char) : Option (Bytes × List Char) :=
  let (h, r) := takeHex cs
  match r with
  | '.' :: r' => (bytesOfHex h).map (fun b => (b, r'))
  | _ => none

mutual
partial def parseArg (spec : Bool) : List Char → Option (Arg × List Char)
  | 'P' :: k :: cs => do
    let pk ← primKind k
    let (b, r) ← hexField cs
    some (.prim pk b, r)
  | 'Z' :: '-' :: cs => some (.cstr none, cs)
  | 'Z' :: cs => do let (b, r) ← hexField cs; some (.cstr (some b), r)
  | 'A' :: cs => do let (b, r) ← hexField cs; some (.carr b, r)
  | 'S' :: '~' :: cs =>
    -- a long std::string given by its length only (content irrelevant to sizes and events)
    let (n, r) := takeNat cs
    match r with | '.' :: r' => some (.str (List.replicate n 113), r') | _ => none
  | 'S' :: cs => do let (b, r) ← hexField cs; some (.str b, r)
  | 'Q' :: cs => do
    let nm := cs.takeWhile (· ≠ '(')
    let ki ← kindOf spec (String.ofList nm)
    match cs.dropWhile (· ≠ '(') with
    | '(' :: r0 =>
      let (es, r1) ← parseShape r0
      match r1 with
      | ';' :: r2 =>
        let (l, r3) ← parseArgs spec r2
        some (.seq ki es l, r3)
      | _ => none
    | _ => none
  | 'O' :: '(' :: cs => do
    let (es, r1) ← parseShape cs
    match r1 with
    | ';' :: '-' :: ')' :: r2 => some (.optNone es, r2)
    | ';' :: r2 =>
      let (a, r3) ← parseArg spec r2
      match r3 with | ')' :: r4 => some (.optSome a, r4) | _ => none
    | _ => none
  | 'R' :: '(' :: cs => do
    let (a, r) ← parseArg spec cs
    match r with
    | ',' :: r1 =>
      let (b, r2) ← parseArg spec r1
      match r2 with | ')' :: r3 => some (.pair a b, r3) | _ => none
    | _ => none
  | 'T' :: '(' :: cs => do
    let (l, r) ← parseArgs spec cs
    some (.tuple l, r)
  | 'D' :: cs => do let (b, r) ← hexField cs; some (.pod b, r)
  | 'N' :: cs => do
    let (al, r) := takeNat cs
    match r with
    | ':' :: '~' :: r1 =>
      let (sz, r2) := takeNat r1
      match r2 with | '.' :: r3 => some (.nonpod al (List.replicate sz 0), r3) | _ => none
    | ':' :: r1 => let (b, r2) ← hexField r1; some (.nonpod al b, r2)
    | _ => none
  | 'F' :: cs => do let (b, r) ← hexField cs; some (.direct b, r)
  | 'V' :: '~' :: ':' :: cs =>
    let (n, r) := takeNat cs
    match r with | '.' :: r' => some (.sref (List.replicate 8 0) n, r') | _ => none
  | 'H' :: cs => do let (b, r) ← hexField cs; some (.path b, r)
  | _ => none
partial def parseArgs (spec : Bool) : List Char → Option (List Arg × List Char)
  | ')' :: cs => some ([], cs)
  | cs => do
    let (a, r) ← parseArg spec cs
    match r with
    | ',' :: r1 => let (l, r2) ← parseArgs spec r1; some (a :: l, r2)
    | ')' :: r1 => some ([a], r1)
    | _ => none
end

/-- `a;b;c` (a statement's arguments), `-` = none -/
partial def parseArgList (s : String) (spec : Bool := false) : Option (List Arg) :=
  if s == "-" then some []
  else
    let rec go (cs : List Char) (acc : List Arg) : Option (List Arg) :=
      match parseArg spec cs with
      | none => none
      | some (a, []) => some (acc ++ [a])
      | some (a, ';' :: r) => go r (acc ++ [a])
      | some _ => none
    go s.toList []

/-! ### printing -/

def hexStr (b : Bytes) : String := Drv.hexOf (b.map (·.toNat))

mutual
partial def showVal : Val → String
  | .prim b => "p" ++ hexStr b ++ "."
  | .text s => "t" ++ hexStr s ++ "."
  | .seq l => "q(" ++ ",".intercalate (showVals l) ++ ")"
  | .optNone => "o-"
  | .optSome v => "o(" ++ showVal v ++ ")"
  | .pair a b => "R(" ++ showVal a ++ "," ++ showVal b ++ ")"
  | .tuple l => "T(" ++ ",".intercalate (showVals l) ++ ")"
  | .obj b => "b" ++ hexStr b ++ "."
  | .ref _ n => "v~:" ++ toString n ++ "."
  | .path s => "h" ++ hexStr s ++ "."
partial def showVals : List Val → List String
  | [] => []
  | v :: vs => showVal v :: showVals vs
end

def showCache (l : List Nat) : String := if l.isEmpty then "-" else ",".intercalate (l.map toString)

def parseCache (s : String) : List Nat := if s == "-" then [] else (s.splitOn ",").map Drv.nat!

/-- the buffer pre-fill of the harness -/
def fill : Mem := fun p => UInt8.ofNat ((p * 37 + 11) % 256)

def kv (ws : List String) (k : String) : String :=
  match ws.find? (fun w => w.startsWith (k ++ "=")) with
  | some w => (w.drop (k.length + 1)).toString
  | none => ""

def hexOrDot (b : Bytes) : String := if b.isEmpty then "." else hexStr b

mutual
partial def depth : Arg → Nat
  | .seq _ _ l => 1 + depthL l
  | .optSome a => 1 + depth a
  | .pair a b => 1 + max (depth a) (depth b)
  | .tuple l => 1 + depthL l
  | _ => 0
partial def depthL : List Arg → Nat
  | [] => 0
  | a :: as => max (depth a) (depthL as)
end

structure Stats where
  cases : Nat := 0
  mismatches : Nat := 0
  problems : Nat := 0
  arg : Nat := 0
  stmt : Nat := 0
  e2e : Nat := 0
  san : Nat := 0
  guard : Nat := 0
  alloc : Nat := 0
  sdrop : Nat := 0
  seq : Nat := 0
  edrop : Nat := 0
  oracle : Nat := 0           -- property violations found by comparing the measurement with the model's prediction
  cachedLens : Nat := 0       -- cases whose value caches at least one length
  nested : Nat := 0           -- nesting depth ≥ 2
  startIdxPos : Nat := 0      -- size pass started on a non-empty cache
  grew : Nat := 0             -- the InlinedVector reallocated during the case
  unaligned : Nat := 0        -- aligned object written at a misaligned address
  nontrivial : Nat := 0

/-- model observation of an `arg` case -/
def obsArg (ws rhs : List String) : Option (String × Arg × Cache × Cache) := do
  let a ← (parseArg false (kv ws "a").toList).bind (fun p => if p.2.isEmpty then some p.1 else none)
  let c0 : Cache := { data := parseCache (kv ws "c0"), cap := Drv.nat! (kv ws "cap0") }
  let off := Drv.nat! (kv ws "off")
  let r := sizePass c0 a
  let wantHex := kv rhs "hex" != "-"
  let wantView := kv rhs "view" != "-"
  match encode fill r.2 c0.data.length off a with
  | none => some (s!"size={r.1} cache={showCache r.2.data} encode-faults", a, c0, r.2)
  | some (bytes, i') =>
    let tail : Bytes := [0xAB, 0, 0xCD]
    let (consumed, vw) := match decode (shapeOf a) off (bytes ++ tail) with
      | none => ("fault", "fault")
      | some (v, rest) => (toString ((bytes ++ tail).length - rest.length), showVal v)
    some (s!"size={r.1} cache={showCache r.2.data} written={bytes.length} idx={i'} hex={if wantHex then hexOrDot bytes else "-"} consumed={consumed} view={if wantView then vw else "-"}",
          a, c0, r.2)

def obsStmt (ws rhs : List String) : Option (String × List Arg × Cache × Cache) := do
  let args ← parseArgList (kv ws "a")
  let c0 : Cache := { data := parseCache (kv ws "c0"), cap := Drv.nat! (kv ws "cap0") }
  let off := Drv.nat! (kv ws "off")
  let r := sizeStatement c0 args
  let wantHex := kv rhs "hex" != "-"
  match encodeL fill r.2 0 off args with
  | none => some (s!"total={r.1} cache={showCache r.2.data} encode-faults", args, c0, r.2)
  | some (bytes, _) =>
    let tail : Bytes := [0xAB, 0, 0xCD]
    let consumed := match decodeL (shapesOf args) off (bytes ++ tail) with
      | none => "fault"
      | some (_, rest) => toString ((bytes ++ tail).length - rest.length)
    some (s!"total={r.1} cache={showCache r.2.data} written={bytes.length} hex={if wantHex then hexOrDot bytes else "-"} consumed={consumed} nargs={args.length}",
          args, c0, r.2)

def obsE2E (ws : List String) : Option (String × List Arg) := do
  let args ← parseArgList (kv ws "a")
  let dyn := kv ws "dyn" == "1"
  let f := Extracted.frame
  let c := Cache.init Extracted.cacheInlineCap
  let res := reserved f c args dyn
  let hdr : Bytes := List.replicate f.header 0
  let lvl : Bytes := if dyn then List.replicate f.lvlBytes 7 else []
  let consumed := match writeRecord fill c 0 hdr args lvl with
    | none => "fault"
    | some record =>
      match readRecord f (shapesOf args) 0 dyn (record ++ [1, 2, 3]) with
      | none => "fault"
      | some (_, _, _, rest) => toString ((record.length + 3) - rest.length)
  some (s!"reserved={res} consumed={consumed}", args)

/-- `h=` field: the thread's earlier statements, `|`-separated, each `L:<args>` (logged) or `D:<args>` (dropped between
    the two passes); `-` = none -/
def parseHistory (s : String) : Option (List StmtOp) :=
  if s == "-" || s == "" then some []
  else (s.splitOn "|").mapM (fun t =>
    if t.startsWith "D:" then (parseArgList (t.drop 2).toString).map StmtOp.dropped
    else if t.startsWith "L:" then (parseArgList (t.drop 2).toString).map StmtOp.logged
    else none)

/-- `sdrop`: the two passes of a statement on the cache an explicit history of logged / dropped statements left
    (`cacheAfter true`: the clear() at the start of the size pass — what `C04_drop_leaves_nothing` is about) -/
def obsSDrop (ws rhs : List String) : Option (String × List Arg × List StmtOp) := do
  let args ← parseArgList (kv ws "a")
  let ops ← parseHistory (kv ws "h")
  let c0 : Cache := { data := parseCache (kv ws "c0"), cap := Drv.nat! (kv ws "cap0") }
  let off := Drv.nat! (kv ws "off")
  let c1 := cacheAfter true c0 ops
  let r := sizeStatement c1 args
  let wantHex := kv rhs "hex" != "-"
  match encodeL fill r.2 0 off args with
  | none => some (s!"total={r.1} cache={showCache r.2.data} encode-faults", args, ops)
  | some (bytes, _) =>
    let tail : Bytes := [0xAB, 0, 0xCD]
    let consumed := match decodeL (shapesOf args) off (bytes ++ tail) with
      | none => "fault"
      | some (_, rest) => toString ((bytes ++ tail).length - rest.length)
    some (s!"total={r.1} cache={showCache r.2.data} written={bytes.length} hex={if wantHex then hexOrDot bytes else "-"} consumed={consumed} nargs={args.length}",
          args, ops)

/-- `edrop`: a real log statement on a bounded dropping queue after the statements of `h=` were attempted on a queue
    with `qused` of `qcap` bytes in use: how many of them the queue refuses, then (queue drained) bytes reserved and
    consumed for the statement itself, written with the cache the history left -/
def obsEDrop (ws : List String) : Option (String × List Arg × List StmtOp) := do
  let args ← parseArgList (kv ws "a")
  let ops ← parseHistory (kv ws "h")
  let dyn := kv ws "dyn" == "1"
  let f := Extracted.frame
  let c0 := Cache.init Extracted.cacheInlineCap
  -- the statements of the history, in order, against the queue (`qmax` = 0: a bounded queue never grows; an unbounded
  -- one refuses — null, or QuillError for a record over the maximum — when doubling would exceed `qmax`)
  let q0 : Queue := { cap := Drv.nat! (kv ws "qcap"), used := Drv.nat! (kv ws "qused"), maxCap := Drv.nat! (kv ws "qmax") }
  let (dropped, _, _) := ops.foldl (fun (acc : Nat × Queue × Cache) op =>
      let (n, q, c) := acc
      let total := reserved f c op.args false
      let c' := (sizeStatement c op.args).2
      match (q.reserve total).2 with
      | none => (n + 1, q, c')
      | some q' => (n, q', c')) (0, q0, c0)
  let c := cacheAfter true c0 ops
  let res := reserved f c args dyn
  -- the backend has drained the queue: the statement is refused only if it exceeds the capacity (and the queue cannot grow)
  if (({ q0 with used := 0 } : Queue).reserve res).2.isNone then some (s!"dropped={dropped} reserved=0 consumed=0", args, ops) else
  let hdr : Bytes := List.replicate f.header 0
  let lvl : Bytes := if dyn then List.replicate f.lvlBytes 7 else []
  let consumed := match writeRecord fill c 0 hdr args lvl with
    | none => "fault"
    | some record =>
      match readRecord f (shapesOf args) 0 dyn (record ++ [1, 2, 3]) with
      | none => "fault"
      | some (_, _, _, rest) => toString ((record.length + 3) - rest.length)
  some (s!"dropped={dropped} reserved={res} consumed={consumed}", args, ops)

/-- `seq`: one statement of a sequence through the real backend, whose single argument store is shared by all
    statements of all threads and loggers. The model decodes the record with `decodeStatement` starting from the store the
    *model* reached after the previous `seq` line (which `C04_store_per_statement` shows to be irrelevant) and reports
    what the store holds when the statement is formatted: number of values and the string-related flag. Fields the
    harness could not observe for this statement (`-`: several statements were polled together) are not compared. -/
def obsSeq (ws rhs : List String) (prev : Store) : Option (String × Store × List Arg) := do
  let args ← parseArgList (kv ws "a")
  let f := Extracted.frame
  let c := Cache.init Extracted.cacheInlineCap
  let res := reserved f c args false
  let hdr : Bytes := List.replicate f.header 0
  let tail : Bytes := [1, 2, 3]
  let dash (k v : String) : String := if kv rhs k == "-" then "-" else v
  match writeRecord fill c 0 hdr args [] with
  | none => some (s!"reserved={res} consumed=fault store=fault", prev, args)
  | some record =>
    match decodeStatement (shapesOf args) f.header (record.drop f.header ++ tail) prev with
    | none => some (s!"reserved={res} consumed=fault store=fault", prev, args)
    | some (st, rest) =>
      let consumed := (record.length + tail.length) - rest.length
      some (s!"reserved={res} consumed={dash "consumed" (toString consumed)} store={dash "store" s!"{st.vals.length},{if st.stringRelated then 1 else 0}"}",
            st, args)

def obsSan (ws : List String) : Option String := do
  let h := kv ws "in"
  let b ← if h == "." then some [] else bytesOfHex h.toList
  -- `ok=<64 hex digits>`: a user supplied `check_printable_char` as a 256-bit table (bit `c % 8` of byte `c / 8`);
  -- without it the default predicate as extracted
  let tbl := kv ws "ok"
  if tbl == "" then some s!"out={hexOrDot (sanitize Extracted.printable b)}"
  else
    let t ← bytesOfHex tbl.toList
    let ok : UInt8 → Bool := fun c => ((t.getD (c.toNat / 8) 0).toNat / (2 ^ (c.toNat % 8))) % 2 == 1
    some s!"out={hexOrDot (sanitizeBy ok b)}"

def obsGuard (ws : List String) : Option String := do
  let args ← parseArgList (kv ws "a")
  some s!"escaped={if (shapesOf args).any stringRelated then 1 else 0}"

/-! ### C11: predicted frontend events of a log call
`case n alloc <name> reg=<0|1> ccap=<cache capacity> qcap=<queue capacity> qused=<bytes in use> qmax=<max> dyn=<0|1> a=… =>
 events=<ctx>,<cachegrow>,<queuegrow>,<temp>,<usercopy>,<format>,<paircopy>`  (counts per kind) -/
def countEv (l : List Event) (p : Event → Bool) : Nat := (l.filter p).length

/-- the model's own state of the calling thread, carried from one `alloc` line to the next: the line of a thread's
    first call (`reg=0`) starts a fresh `Frontend` (inline-capacity cache, empty queue of the configured capacity); every
    later line of that thread is predicted from the state the *model* reached (`logCall`, then `Queue.drain true` when
    the harness had the backend drain the queue: `drained=1`) — the `reg/ccap/qcap/qused` fields the harness measured
    before the call are compared with it, not fed into it. The container table is the budget's (`spec = true`). -/
def allocPre (ws : List String) (tracked : Option Frontend) : Frontend :=
  let fromLine : Frontend :=
    { registered := kv ws "reg" == "1",
      cache := { data := [], cap := Drv.nat! (kv ws "ccap") },
      queue := { cap := Drv.nat! (kv ws "qcap"), used := Drv.nat! (kv ws "qused"), maxCap := Drv.nat! (kv ws "qmax") } }
  if kv ws "reg" == "0" then { fromLine with cache := Cache.init Extracted.cacheInlineCap }
  else tracked.getD fromLine

def showPre (fe : Frontend) : String :=
  s!"reg={if fe.registered then 1 else 0} ccap={fe.cache.cap} qcap={fe.queue.cap} qused={fe.queue.used}"

def eventCounts (ev : List Event) : List Nat :=
  [countEv ev (· == .ctxCreate),
   countEv ev (fun e => match e with | .cacheGrow _ => true | _ => false),
   countEv ev (fun e => match e with | .queueGrow _ => true | _ => false),
   countEv ev (· == .tempString), countEv ev (· == .userCopy), countEv ev (· == .formatCall), countEv ev (· == .pairCopy)]

def obsAlloc (ws : List String) (tracked : Option Frontend) : Option (String × List Nat × Frontend × Frontend) := do
  let args ← parseArgList (kv ws "a") true
  let fe := allocPre ws tracked
  let r := logCall Extracted.frame fe args (kv ws "dyn" == "1")
  let n := eventCounts r.1
  let post := if kv ws "drained" == "0" then r.2 else { r.2 with queue := r.2.queue.drain true Extracted.readerBatchPercent }
  some (s!"events={",".intercalate (n.map toString)} ccap={r.2.cache.cap} qcap={r.2.queue.cap}", n, fe, post)

def run : IO UInt32 := do
  let stdin ← IO.getStdin
  let lines ← Drv.readLines stdin
  let mut st : Stats := {}
  let mut thread : Option Frontend := none   -- C11: the model's state of the calling thread (see `allocPre`)
  let mut bstore : Store := Store.empty      -- C04: the model's state of the backend's shared argument store (`obsSeq`)
  let mut lineNo := 0
  for line in lines do
    lineNo := lineNo + 1
    if line.isEmpty || line.startsWith "#" || line.startsWith "ORACLE" || line.startsWith "STATS" then continue
    let (lhs, rhsS) := Drv.splitArrow line
    let ws := Drv.words lhs
    let rhs := Drv.words rhsS
    match ws with
    | "init" :: "codec" :: rest =>
      let n := Drv.nat! (kv rest "N")
      let hdr := Drv.nat! (kv rest "hdr")
      let lvl := Drv.nat! (kv rest "lvl")
      if n != Extracted.cacheInlineCap || hdr != Extracted.frame.header || lvl != Extracted.frame.lvlBytes then
        IO.println s!"MISMATCH init: impl N={n} hdr={hdr} lvl={lvl} extracted N={Extracted.cacheInlineCap} hdr={Extracted.frame.header} lvl={Extracted.frame.lvlBytes}"
        st := { st with mismatches := st.mismatches + 1 }
    | "case" :: id :: kind :: rest =>
      st := { st with cases := st.cases + 1 }
      let model : Option String ←
        match kind with
        | "arg" =>
          match obsArg rest rhs with
          | none => pure none
          | some (m, a, c0, c1) =>
            st := { st with arg := st.arg + 1 }
            if !(wf a) then
              IO.println s!"MODEL-NOT-WF case={id}: value outside the theorems' hypotheses"
              st := { st with problems := st.problems + 1 }
            let k := (lens a).length
            let nt := k > 0 || depth a ≥ 2
            st := { st with cachedLens := st.cachedLens + (if k > 0 then 1 else 0),
                            nested := st.nested + (if depth a ≥ 2 then 1 else 0),
                            startIdxPos := st.startIdxPos + (if c0.data.length > 0 && k > 0 then 1 else 0),
                            grew := st.grew + (if c1.cap != c0.cap then 1 else 0),
                            nontrivial := st.nontrivial + (if nt then 1 else 0) }
            pure (some m)
        | "stmt" =>
          match obsStmt rest rhs with
          | none => pure none
          | some (m, args, c0, c1) =>
            st := { st with stmt := st.stmt + 1 }
            if !(wfL args) then
              IO.println s!"MODEL-NOT-WF case={id}: value outside the theorems' hypotheses"
              st := { st with problems := st.problems + 1 }
            st := { st with grew := st.grew + (if c1.cap != c0.cap then 1 else 0),
                            cachedLens := st.cachedLens + (if (lensL args).length > 0 then 1 else 0),
                            nontrivial := st.nontrivial + (if (lensL args).length > 0 then 1 else 0) }
            pure (some m)
        | "e2e" =>
          match obsE2E rest with
          | none => pure none
          | some (m, args) =>
            st := { st with e2e := st.e2e + 1, nontrivial := st.nontrivial + (if (lensL args).length > 0 || depthL args ≥ 1 then 1 else 0) }
            pure (some m)
        | "san" => st := { st with san := st.san + 1 }; pure (obsSan rest)
        | "guard" => st := { st with guard := st.guard + 1 }; pure (obsGuard rest)
        | "sdrop" =>
          match obsSDrop rest rhs with
          | none => pure none
          | some (m, args, ops) =>
            st := { st with sdrop := st.sdrop + 1 }
            if !(wfL args) || !(ops.all (fun o => wfL o.args)) then
              IO.println s!"MODEL-NOT-WF case={id}: value outside the theorems' hypotheses"
              st := { st with problems := st.problems + 1 }
            st := { st with nontrivial := st.nontrivial + (if (lensL args).length > 0 then 1 else 0) }
            pure (some m)
        | "seq" =>
          match obsSeq rest rhs bstore with
          | none => pure none
          | some (m, st', args) =>
            bstore := st'
            st := { st with seq := st.seq + 1, nontrivial := st.nontrivial + (if args.isEmpty then 1 else 0) }
            pure (some m)
        | "edrop" =>
          match obsEDrop rest with
          | none => pure none
          | some (m, args, _) =>
            st := { st with edrop := st.edrop + 1, nontrivial := st.nontrivial + (if (lensL args).length > 0 then 1 else 0) }
            pure (some m)
        | "alloc" =>
          match obsAlloc rest thread with
          | none => pure none
          | some (m, predicted, pre, post) =>
            st := { st with alloc := st.alloc + 1 }
            thread := some post
            -- the state the harness measured before the call vs the state the model reached
            let implPre := s!"reg={kv rest "reg"} ccap={kv rest "ccap"} qcap={kv rest "qcap"} qused={kv rest "qused"}"
            if kv rest "reg" == "1" && implPre != showPre pre then
              IO.println s!"MISMATCH case={id} kind=alloc-state {" ".intercalate (rest.take 1)}: impl=[{implPre}] model=[{showPre pre}]"
              st := { st with mismatches := st.mismatches + 1 }
            -- the property itself: the calling thread did something (allocation by kind, formatter call) that the
            -- model — the theorems' `logCall` on the budget's table, queue drained as the history says — does not predict
            let measured := ((kv rhs "events").splitOn ",").map Drv.nat!
            if measured.length == predicted.length && (List.zip measured predicted).any (fun p => p.1 > p.2) then
              IO.println s!"ORACLE allocation-not-predicted case={id} shape={" ".intercalate (rest.take 1)} model-state=[{showPre pre}] predicted-events={",".intercalate (predicted.map toString)} measured-events={kv rhs "events"} (ctx,cachegrow,queuegrow,temp,usercopy,format,paircopy) {" ".intercalate (rhs.drop 3)} a={((kv rest "a").take 300).toString}"
              st := { st with oracle := st.oracle + 1 }
            pure (some m)
        | _ => pure none
      match model with
      | none =>
        IO.println s!"BAD-CASE line {lineNo}: {(line.take 200).toString}"
        st := { st with problems := st.problems + 1 }
      | some m =>
        -- `alloc` lines carry measured fields after the modelled ones; compare the modelled prefix only
        -- C04 compares contents, not the capacity of the size cache (its theorems hold for every capacity; the capacity
        -- and its growth are C11's subject, compared on the `alloc` lines)
        let implS := if kind == "alloc" then " ".intercalate (rhs.take 3)
          else if kind == "arg" || kind == "stmt" || kind == "sdrop" then " ".intercalate (rhs.filter (fun w => !w.startsWith "cap="))
          else rhsS
        if m != implS then
          IO.println s!"MISMATCH case={id} kind={kind} {" ".intercalate (rest.take 1)}: impl=[{(implS.take 600).toString}] model=[{(m.take 600).toString}] a={((kv rest "a").take 400).toString}"
          st := { st with mismatches := st.mismatches + 1 }
    | _ =>
      IO.println s!"BAD-LINE {lineNo}: {(line.take 120).toString}"
      st := { st with problems := st.problems + 1 }
  IO.println s!"TRACE codec arg={st.arg} stmt={st.stmt} e2e={st.e2e} san={st.san} guard={st.guard} alloc={st.alloc} sdrop={st.sdrop} edrop={st.edrop} seq={st.seq} model_oracle_hits={st.oracle} cached_lengths={st.cachedLens} nested={st.nested} start_index_positive={st.startIdxPos} cache_grew={st.grew}"
  IO.println s!"DONE cases={st.cases} mismatches={st.mismatches} problems={st.problems} nontrivial={st.nontrivial}"
  return (if st.mismatches + st.problems == 0 then 0 else 1)

/-- `driver codec run` -/
def main : List String → IO UInt32
  | ["run"] => run
  | _ => do IO.println "usage: driver codec run  (harness lines on stdin)"; return 2

end Drv.Codec
