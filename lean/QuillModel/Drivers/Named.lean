import QuillModel.Extracted.Named
import QuillModel.Drivers.Util
/-!
Correspondence driver for C19. Input: the lines printed by `harness/h3_named.cpp`.

* `scan <hexT> <pieces|-> => <flag> <hexPositional> <keys>` — the real `_contains_named_args` and
  `_process_named_args_format_message` on one template; the driver recomputes all three with `Named.containsNamedArgs`
  / `Named.process`. When the piece structure is given it also checks `render pieces = template`, evaluates the
  class predicates (`wf`, `procOK`, `detectOK`) and re-checks the two theorems' conclusions on that instance; a `CLS`
  line is printed for every template outside one of the good classes.
* `e2e-init <hexSeparator>`, `san b`, `cache-clear`, `log <id> <vals> <hexT> <san> <thr> <fv,…> => msg=… pairs=… hdr=… json=…`,
  `cache-dump => …` — the real backend + recording sink + `JsonFileSink`; the driver runs `Named.backendStep` with its
  own cache and `Named.jsonLine` with the extracted layout.
* `jf-begin <case>`, `jlog <id> <vals> <ok|gen:<k>|write> <hexT> pairs=… hdr=… => wrote=<hex|-> reports=<n>`, `jf-end <case>` —
  a `JsonFileSink` subclass whose `generate_json_message` override throws after `k` bytes of the record, or whose
  `before_write` hook throws; the driver runs `Named.jsonWrite` (the sink's line buffer across statements) with the
  extracted position of `_json_message.clear()` and compares the bytes that reached the file and the reports.
-/
namespace Drv.Named
open _root_.Named

def ofBytes (bs : List Nat) : Str := bs.map Char.ofNat
def strOfHex (h : String) : Option Str := if h == "-" then some [] else (Drv.unhex h).map ofBytes
def hexOfStr (s : Str) : String := Drv.hexOf (s.map Char.toNat)
def hexOrDash (s : Str) : String := if s.isEmpty then "-" else hexOfStr s

def encKeys (ks : List (Str × Str)) : String :=
  if ks.isEmpty then "-" else ",".intercalate (ks.map (fun kv => hexOfStr kv.1 ++ "/" ++ hexOfStr kv.2))

def decPiece (w : String) : Option Piece :=
  if w == "O" then some .escOpen
  else if w == "C" then some .escClose
  else match w.toList with
    | 'T' :: rest =>
      match strOfHex (String.ofList rest) with
      | some [c] => some (.text c)
      | _ => none
    | 'F' :: rest =>
      match (String.ofList rest).splitOn ":" with
      | [n] => (Drv.unhex n).map (fun b => .field (ofBytes b) none)
      | [n, s] => do
        let nb ← Drv.unhex n
        let sb ← Drv.unhex s
        pure (.field (ofBytes nb) (some (ofBytes sb)))
      | _ => none
    | _ => none

def decPieces (s : String) : Option (List Piece) :=
  if s == "-" then some [] else (s.splitOn ",").mapM decPiece

def decPairs (s : String) : Option (List (Str × Str)) :=
  if s == "-" then some []
  else (s.splitOn ",").mapM (fun item =>
    match item.splitOn "/" with
    | [k, v] => do
      let kb ← Drv.unhex k
      let vb ← Drv.unhex v
      pure (ofBytes kb, ofBytes vb)
    | _ => none)

def faultOf (w : String) : Option JFault :=
  if w == "ok" then some .none
  else if w == "write" then some .write
  else match w.splitOn ":" with
    | ["gen", k] => k.toNat?.map .generate
    | _ => none

structure Tot where
  lines : Nat := 0
  mismatches : Nat := 0
  problems : Nat := 0
  scan : Nat := 0
  scanGrammar : Nat := 0
  scanGoodBoth : Nat := 0
  scanBadProc : Nat := 0
  scanBadDetect : Nat := 0
  scanNamed : Nat := 0
  thmChecked : Nat := 0
  logs : Nat := 0
  logsNamed : Nat := 0
  logsErr : Nat := 0
  cacheHits : Nat := 0
  cacheMisses : Nat := 0
  dumps : Nat := 0
  segments : Nat := 0

def b01 (b : Bool) : String := if b then "1" else "0"

/-- one `scan` line; returns model observation and extra output lines -/
def scanLine (lineNo : Nat) (hexT pieces : String) (t : Tot) : Option (String × List String × Tot) := do
  let tm ← strOfHex hexT
  let flag := containsNamedArgs tm
  let r := process tm
  let obs := s!"{b01 flag} {hexOrDash r.1} {encKeys r.2}"
  let mut out : List String := []
  let mut t := { t with scan := t.scan + 1 }
  if pieces != "-" || hexT == "-" then
    match decPieces pieces with
    | none => out := out ++ [s!"BAD-PIECES line {lineNo}: {pieces}"]; t := { t with problems := t.problems + 1 }
    | some ps =>
      t := { t with scanGrammar := t.scanGrammar + 1 }
      if render ps != tm then
        out := out ++ [s!"MISMATCH line={lineNo} render: pieces {pieces} do not render to {hexT}"]
        t := { t with mismatches := t.mismatches + 1 }
      let w := wf ps
      let p := procOK ps
      let d := detectOK ps
      let n := ps.any Piece.isNamed
      if n then t := { t with scanNamed := t.scanNamed + 1 }
      if !w then
        out := out ++ [s!"MISMATCH line={lineNo} wf: pieces {pieces} are not well-formed for the model's grammar"]
        t := { t with mismatches := t.mismatches + 1 }
      if w && p then
        t := { t with thmChecked := t.thmChecked + 1 }
        if r != (render (ps.map Piece.erase), keysOf ps) then
          out := out ++ [s!"THEOREM-INSTANCE-FAILS C19_positional_partial line={lineNo} tmpl={hexT}"]
          t := { t with problems := t.problems + 1 }
      if w && d then
        t := { t with thmChecked := t.thmChecked + 1 }
        if flag != n then
          out := out ++ [s!"THEOREM-INSTANCE-FAILS C19_detect_partial line={lineNo} tmpl={hexT}"]
          t := { t with problems := t.problems + 1 }
      if w && p && d then t := { t with scanGoodBoth := t.scanGoodBoth + 1 }
      else
        if !p then t := { t with scanBadProc := t.scanBadProc + 1 }
        if !d then t := { t with scanBadDetect := t.scanBadDetect + 1 }
        out := out ++ [s!"CLS {hexOrDash tm} wf={b01 w} procOK={b01 p} detectOK={b01 d} named={b01 n}"]
  pure (obs, out, t)

def kvOf (w : String) : String × String :=
  match w.splitOn "=" with
  | [k, v] => (k, v)
  | k :: rest => (k, "=".intercalate rest)
  | [] => ("", "")

def encCache (c : Cache) : String :=
  if c.isEmpty then "-" else
  let ents := c.map (fun e => hexOrDash e.1 ++ ":" ++ hexOrDash e.2.1 ++ ":" ++ encKeys e.2.2)
  " ".intercalate (ents.toArray.qsort (· < ·)).toList

def run : IO UInt32 := do
  let stdin ← IO.getStdin
  let lines ← Drv.readLines stdin
  let mut t : Tot := {}
  let mut sep : Str := Extracted.separator
  let mut cache : Cache := []
  let mut lineNo := 0
  let mut segLogs := 0
  let mut segHits := 0
  -- the throwing JSON sink: its buffer, and per-case counters
  let mut jsink : JSink := {}
  let mut jStmts := 0
  let mut jFaults := 0
  let mut jAfterFault := 0   -- non-faulted statements written right after a fault that left bytes in the buffer
  let mut jLeft := false
  let mut jCases := 0
  let mut jLines := 0
  for line in lines do
    lineNo := lineNo + 1
    if line.isEmpty || line.startsWith "#" || line.startsWith "ORACLE" || line.startsWith "STATS" then continue
    let (opS, obsS) := Drv.splitArrow line
    let ws := Drv.words opS
    match ws with
    | ["scan", hexT, pieces] =>
      t := { t with lines := t.lines + 1 }
      match scanLine lineNo hexT pieces t with
      | none => IO.println s!"BAD-OP line {lineNo}: {line}"; t := { t with problems := t.problems + 1 }
      | some (mobs, out, t') =>
        t := t'
        for o in out do IO.println o
        if mobs != obsS then
          IO.println s!"MISMATCH line={lineNo} scan tmpl={hexT} impl=[{obsS}] model=[{mobs}]"
          t := { t with mismatches := t.mismatches + 1 }
    | ["e2e-init", sh] =>
      match strOfHex sh with
      | some s =>
        sep := s
        if s != Extracted.separator then
          IO.println s!"MISMATCH line={lineNo} separator: compiled {sh} differs from the extracted one {hexOfStr Extracted.separator}"
          t := { t with mismatches := t.mismatches + 1 }
      | none => IO.println s!"BAD-OP line {lineNo}: {line}"; t := { t with problems := t.problems + 1 }
    | ["san", _] => pure ()
    | ["cache-clear"] =>
      if segLogs > 0 then
        IO.println s!"TRACE seg{t.segments} logs={segLogs} cache_hits={segHits} cache_size={cache.length}"
      t := { t with segments := t.segments + 1 }
      segLogs := 0
      segHits := 0
      cache := []
    | ["cache-dump"] =>
      t := { t with lines := t.lines + 1, dumps := t.dumps + 1 }
      let m := encCache cache
      if m != obsS then
        IO.println s!"MISMATCH line={lineNo} cache-dump impl=[{obsS}] model=[{m}]"
        t := { t with mismatches := t.mismatches + 1 }
    | ["jf-begin", _cid] =>
      jsink := {}
      jStmts := 0
      jFaults := 0
      jAfterFault := 0
      jLeft := false
      jCases := jCases + 1
    | ["jf-end", cid] =>
      IO.println s!"TRACE jf{cid} stmts={jStmts} faults={jFaults} written_after_leftover={jAfterFault}"
    | ["jlog", id, _vals, fw, hexT, pairsW, hdrW] =>
      t := { t with lines := t.lines + 1 }
      jLines := jLines + 1
      jStmts := jStmts + 1
      let hdrOpt := (((hdrW.drop 4).toString).splitOn ",").mapM (fun h => (Drv.unhex h).map ofBytes)
      match faultOf fw, strOfHex hexT, decPairs ((pairsW.drop 6).toString), hdrOpt with
      | some f, some tm, some ps, some [ts, file, ln, tid, lg, lvl] =>
        let h : Hdr := { timestamp := ts, fileName := file, line := ln, threadId := tid, logger := lg, logLevel := lvl }
        let record := jsonRecord Extracted.jsonLayout h tm (some ps)
        let s0 : JSink := { jsink with file := [] }
        let s1 := jsonWrite Extracted.jsonSinkParams s0 record f
        let mobs := s!"wrote={hexOrDash s1.file} reports={s1.reports - jsink.reports}"
        if f != .none then jFaults := jFaults + 1
        if f == .none && jLeft then jAfterFault := jAfterFault + 1
        -- what a sink that never clears first would have found in its buffer
        jLeft := match f with
          | .generate k => k > 0 || (jLeft && f != .none)
          | .write => true
          | .none => false
        jsink := s1
        if mobs != obsS then
          IO.println s!"MISMATCH line={lineNo} jlog id={id} fault={fw} impl=[{obsS}] model=[{mobs}]"
          t := { t with mismatches := t.mismatches + 1 }
      | _, _, _, _ => IO.println s!"BAD-OP line {lineNo}: {line}"; t := { t with problems := t.problems + 1 }
    | ["log", id, _vals, hexT, san, thr, fvs] =>
      t := { t with lines := t.lines + 1, logs := t.logs + 1 }
      segLogs := segLogs + 1
      let fvOpt : Option (List Str) := if fvs == "-" then some [] else (fvs.splitOn ",").mapM (fun h => (Drv.unhex (h.drop 1).toString).map ofBytes)
      match strOfHex hexT, fvOpt with
      | some tm, some fv =>
        let hit := (cache.lookup tm).isSome
        let r := backendStep sep (san == "1") (thr == "1") cache tm fv
        cache := r.2
        let named := r.1.pairs.isSome
        if named then
          t := { t with logsNamed := t.logsNamed + 1 }
          if hit then
            t := { t with cacheHits := t.cacheHits + 1 }
            segHits := segHits + 1
          else t := { t with cacheMisses := t.cacheMisses + 1 }
        let mmsg := match r.1.msg with | none => "ERR" | some m => hexOfStr m
        if r.1.msg.isNone then t := { t with logsErr := t.logsErr + 1 }
        let mpairs := match r.1.pairs with | none => "-" | some ps => encKeys ps
        let kvs := (Drv.words obsS).map kvOf
        let get := fun (k : String) => (kvs.lookup k).getD "?"
        if get "msg" != mmsg then
          IO.println s!"MISMATCH line={lineNo} log id={id} tmpl={hexT} msg impl=[{get "msg"}] model=[{mmsg}]"
          t := { t with mismatches := t.mismatches + 1 }
        if get "pairs" != mpairs then
          IO.println s!"MISMATCH line={lineNo} log id={id} tmpl={hexT} pairs impl=[{get "pairs"}] model=[{mpairs}]"
          t := { t with mismatches := t.mismatches + 1 }
        match ((get "hdr").splitOn ",").mapM (fun h => (Drv.unhex h).map ofBytes) with
        | some [ts, file, ln, tid, lg, lvl] =>
          let h : Hdr := { timestamp := ts, fileName := file, line := ln, threadId := tid, logger := lg, logLevel := lvl }
          let mjson := hexOfStr (jsonLine Extracted.jsonLayout h tm r.1.pairs)
          if get "json" != mjson then
            IO.println s!"MISMATCH line={lineNo} log id={id} tmpl={hexT} json impl=[{get "json"}] model=[{mjson}]"
            t := { t with mismatches := t.mismatches + 1 }
        | _ =>
          IO.println s!"MISMATCH line={lineNo} log id={id} tmpl={hexT} observation has no header: [{obsS}]"
          t := { t with mismatches := t.mismatches + 1 }
      | _, _ => IO.println s!"BAD-OP line {lineNo}: {line}"; t := { t with problems := t.problems + 1 }
    | _ => IO.println s!"BAD-OP line {lineNo}: {line}"; t := { t with problems := t.problems + 1 }
  if segLogs > 0 then
    IO.println s!"TRACE seg{t.segments} logs={segLogs} cache_hits={segHits} cache_size={cache.length}"
  if t.scan > 0 then
    IO.println s!"TRACE scan lines={t.scan} in_grammar={t.scanGrammar} good_both={t.scanGoodBoth} outside_procOK={t.scanBadProc} outside_detectOK={t.scanBadDetect} with_named_field={t.scanNamed} theorem_instances_checked={t.thmChecked}"
  if jCases > 0 then
    IO.println s!"TRACE jsonfaults cases={jCases} statements={jLines}"
  IO.println s!"DONE lines={t.lines} mismatches={t.mismatches} problems={t.problems} scan={t.scan} logs={t.logs} logs_named={t.logsNamed} logs_err={t.logsErr} cache_hits={t.cacheHits} cache_misses={t.cacheMisses} cache_dumps={t.dumps} segments={t.segments}"
  return (if t.mismatches + t.problems == 0 then 0 else 1)

end Drv.Named

/-- `driver named` -/
def Drv.Named.main : List String → IO UInt32
  | _ => Drv.Named.run
