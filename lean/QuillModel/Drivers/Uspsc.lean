import QuillModel.Uspsc.ReadPass
import QuillModel.Drivers.Spsc
/-! Correspondence driver for the unbounded queue: replays the trace of `harness/h1_uspsc.cpp` on the model. -/
namespace Drv.Uspsc
open _root_.Spsc _root_.Uspsc Drv.Spsc

structure Ctx where
  o : UParams
  f : Flags
  maxCap : Nat
  s : US
  nlines : Nat := 0
  grows : Nat := 0
  shrinks : Nat := 0
  switches : Nat := 0
  grants : Nat := 0
  denies : Nat := 0
  throws : Nat := 0
  reads : Nat := 0
  stale : Nat := 0
  passes : Nat := 0     -- `rp` lines (whole read passes)
  chained : Nat := 0    -- … that followed the chain through more than one switch
  coh : Bool := false   -- the consumer has observed `next` of its node (possibly only through `empty()`)

def Ctx.summary (c : Ctx) (id : String) : String :=
  s!"TRACE {id} lines={c.nlines} grows={c.grows} shrinks={c.shrinks} switches={c.switches} grants={c.grants} denies={c.denies} throws={c.throws} reads={c.reads} stale={c.stale} passes={c.passes} chained={c.chained}"

def checkUOps (o : UParams) : US → List UOp → List String
  | _, [] => []
  | s, op :: ops =>
    let p1 := if decide (UEnabled o s op) then [] else [s!"MODEL-NOT-ENABLED {repr op}"]
    let p2 := if usafeB s op then [] else [s!"MODEL-UNSAFE {repr op}"]
    p1 ++ p2 ++ checkUOps o (ustep o s op) ops

def weaker (a b : MO) : MO := if a.isRel && b.isRel then a else .relaxed

/-- parse: init id cap max pct wStore wLoad rStore rLoad drain nsGrow nsShrink nLoad rereads commitBeforePublish commitReadBeforeDelete -/
def parseInit : List String → Option (Ctx × String)
  | ["init", id, cap, mx, pct, a, b, c, d, dr, g, sh, nl, rr, cbp, crd] => do
    let q ← parseParams a b c d dr
    let g' ← moOf g; let sh' ← moOf sh; let nl' ← moOf nl
    let o : UParams := { q := q, nextStore := weaker g' sh', nextLoad := nl', rereads := rr == "1" }
    let p := nat! pct
    let batch : Nat → Nat := fun cp => cp * p / 100
    pure ({ o := o, f := { commitBeforePublish := cbp == "1", commitReadBeforeDelete := crd == "1" },
            maxCap := nat! mx, s := uinit (nat! cap) batch }, id)
  | _ => none

/-- one API line → (micro-steps, observation); `follow`: publication decision of `cr` taken from the implementation -/
def apiLine (c : Ctx) (ws : List String) (follow : Option Bool) : Option (List UOp × String) :=
  match ws with
  | ["pw", n, k] =>
    let r := apiPrepareWrite c.o c.f c.maxCap c.s (nat! n) (nat! k); some (r.1, r.2.show)
  | ["fw", n] => some ([.p (.write (nat! n))], "ok")
  | ["cw"] => some ([.p .commitW], s!"pub {c.s.pnode.q.wpos}")
  | ["sh", x] => let r := apiShrink c.s (nat! x); some (r.1, r.2.show)
  | ["pr", k1, k2, k3, k4] =>
    let r := apiPrepareRead c.o c.f c.s c.coh (nat! k1) (nat! k2) (nat! k3) (nat! k4); some (r.1, r.2.show)
  | ["rp", fl] =>
    -- the backend's read of the queue: `prepare_read()`, repeated after a switch into an empty node when `fl` = 1
    let r := apiRead (fl == "1") c.o c.f c.s.n c.s; some (r.1, r.2.show)
  | ["fr", n] => some ([.c (.read (nat! n))], "ok")
  | ["cr"] =>
    let b := match follow with | some b => b | none => publishes c.o.q c.s.cnode.q
    some ([.c (.commitR b)], if b then s!"pub {c.s.cnode.q.rpos}" else "nopub")
  | ["em", k1, k2] => let r := apiEmpty c.o c.s c.coh (nat! k1) (nat! k2); some (r.1, r.2.show)
  | _ => none

def runTrace (followPub : Bool) : IO UInt32 := do
  let stdin ← IO.getStdin
  let lines ← Drv.readLines stdin
  let mut ctx : Option Ctx := none
  let mut traceId := ""
  let mut mism := 0
  let mut probs := 0
  let mut total := 0
  let mut traces := 0
  let mut lineNo := 0
  for line in lines do
    lineNo := lineNo + 1
    if line.isEmpty || line.startsWith "#" || line.startsWith "ORACLE" || line.startsWith "ORDERS-SEEN"
        || line.startsWith "STATS" then continue
    let (opS, obsS) := Drv.splitArrow line
    let ws := Drv.words opS
    if ws.head? == some "init" then
      if let some c := ctx then IO.println (c.summary traceId)
      match parseInit ws with
      | some (c, id) => ctx := some c; traceId := id; traces := traces + 1
      | none => IO.println s!"BAD-INIT line {lineNo}: {line}"; probs := probs + 1; ctx := none
      continue
    match ctx with
    | none => IO.println s!"NO-INIT line {lineNo}"; probs := probs + 1
    | some c =>
      let follow : Option Bool := if followPub then some (obsS.startsWith "pub") else none
      match apiLine c ws follow with
      | none => IO.println s!"BAD-OP line {lineNo}: {line}"; probs := probs + 1
      | some (ops, mobs) =>
        total := total + 1
        for p in checkUOps c.o c.s ops do
          IO.println s!"{p} trace={traceId} line={lineNo}: {opS}"
          probs := probs + 1
        if mobs ≠ obsS then
          IO.println s!"MISMATCH trace={traceId} line={lineNo}: {opS} impl=[{obsS}] model=[{mobs}]"
          mism := mism + 1
        let s' := urun c.o c.s ops
        let isPw := ws.head? == some "pw"
        let staleInc : Nat := if ws.tail.any (fun w => w ≠ "0" && (ws.head? == some "pr" || ws.head? == some "em")) then 1 else 0
        let c' : Ctx :=
          { o := c.o, f := c.f, maxCap := c.maxCap, s := s', nlines := c.nlines + 1,
            grows := c.grows + (if mobs.startsWith "grow" then 1 else 0),
            shrinks := c.shrinks + (if mobs.startsWith "shrunk" then 1 else 0),
            switches := c.switches + (if mobs.startsWith "switch" then 1 else 0),
            grants := c.grants + (if isPw && (mobs.splitOn "grant").length > 1 then 1 else 0),
            denies := c.denies + (if isPw && mobs.endsWith "null" then 1 else 0),
            throws := c.throws + (if mobs == "throw" then 1 else 0),
            reads := c.reads + (if (mobs.splitOn "read ").length > 1 then 1 else 0),
            passes := c.passes + (if ws.head? == some "rp" then 1 else 0),
            chained := c.chained + (if ws.head? == some "rp" && (mobs.splitOn "switch").length > 2 then 1 else 0),
            stale := c.stale + staleInc,
            coh := if ws.head? == some "rp" && ws.tail == ["1"] && mobs.startsWith "switch" && mobs.endsWith "null" then s'.sawNext
                   else if mobs.startsWith "switch" then false
                   else c.coh || s'.sawNext || (ws.head? == some "em" && mobs == "empty 0" &&
                                                 decide (s'.cnode.q.wcache = s'.cnode.q.rpos)) }
        ctx := some c'
  if let some c := ctx then IO.println (c.summary traceId)
  IO.println s!"DONE traces={traces} lines={total} mismatches={mism} problems={probs}"
  return (if mism + probs == 0 then 0 else 1)

/-! ### model-side search for an unsafe schedule (API level, small capacities) -/

structure SS where
  s : US
  grant : Option Nat := none
  reading : Bool := false

def candidates (x : SS) : List (List String) :=
  let p : List (List String) := match x.grant with
    | none => [["pw", "3", "0"], ["pw", "4", "0"], ["pw", "6", "0"]]
    | some n => [["fw", toString n], ["fw", toString n]]
  let c : List (List String) :=
    if x.reading then [["fr", toString (x.s.cnode.q.endOf x.s.cnode.q.rpos - x.s.cnode.q.rpos)]]
    else [["pr", "0", "0", "0", "0"], ["pr", "0", "0", "1", "0"], ["pr", "1", "0", "0", "0"]]
  p ++ [["cw"]] ++ c ++ [["cr"]]

partial def dfs (c0 : Ctx) (depth : Nat) (x : SS) (path : List String) : Option (List String) :=
  if depth = 0 then none else
  (candidates x).firstM (fun ws =>
    let c : Ctx := { c0 with s := x.s }
    match apiLine c ws none with
    | none => none
    | some (ops, mobs) =>
      let line := " ".intercalate ws
      let problems := checkUOps c.o c.s ops
      if problems.any (fun p => p.startsWith "MODEL-UNSAFE") then some ((line :: path).reverse)
      else if !problems.isEmpty then none
      else
        let s' := urun c.o c.s ops
        let x' : SS := match ws with
          | "pw" :: n :: _ => { x with s := s', grant := if (mobs.splitOn "grant").length > 1 then some (nat! n) else none }
          | "fw" :: _ => { x with s := s', grant := none }
          | "pr" :: _ => { x with s := s', reading := (mobs.splitOn "read ").length > 1 }
          | "fr" :: _ => { x with s := s', reading := false }
          | _ => { x with s := s' }
        dfs c0 (depth - 1) x' (line :: path))

def search (args : List String) : IO UInt32 := do
  -- args: cap max pct + 11 params + depth
  match args.reverse with
  | depth :: revInit =>
    let initWs := "init" :: "search" :: revInit.reverse
    match parseInit initWs with
    | none => IO.println "BAD-ARGS"; return 2
    | some (c0, _) =>
      for dep in List.range (nat! depth + 1) do
        match dfs c0 dep { s := c0.s } [] with
        | some path =>
          IO.println s!"UNSAFE-SCHEDULE depth={dep}"
          IO.println (" ".intercalate initWs)
          for l in path do IO.println l
          return 1
        | none => pure ()
      IO.println s!"NO-UNSAFE-SCHEDULE up to depth {depth}"
      return 0
  | [] => IO.println "usage: uspsc search cap max pct <11 params> depth"; return 2

def main : List String → IO UInt32
  | ["trace"] => runTrace false
  | ["anypub"] => runTrace true
  | "search" :: rest => search rest
  | _ => do IO.println "usage: driver uspsc trace|anypub|search …"; return 2

end Drv.Uspsc
