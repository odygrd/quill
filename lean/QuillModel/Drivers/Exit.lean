import QuillModel.Extracted.Exit
import QuillModel.Drivers.Util
/-!
Correspondence driver for C07. Input: the lines printed by `harness/h4_exit.cpp`,

  `case <id> clock=… lvl=… logger=… reraise=… timeout=… limit=… threads=… script=… => status=… … notices=i/c … q=… mask=… cont=n`

`driver exit trace <renewOnce> <stopClearsId> <atexitClearsId>` (the life-cycle facts as extracted). For every case
the script is replayed on the life-cycle machine `Exit.Life.step`; at every signal the handler's context is built
from the machine's state (`Life.ctx`), the call list is computed by `Exit.onSignal`, its effect and the outcome class
by `Exit.exec` (`Life.env`) — the definitions the theorems of `Props/C07.lean` are about. Compared with the
implementation: the wait status (`exit:0` / `sig:<NAME>` / `hang`), the number of Info / Critical notices that
reached the file, how often a raise came back (`cont`), the `Q` observations (running / worker id set / handler's id
set) and the `M` observations (backend thread masked / main thread unmasked).

Run-time glue outside the theorems (stated in MANIFEST as enumerated, not proved): a signal whose handler is not
installed has its default action; when a handler entry has armed the alarm and the process neither ends nor exits
before, `on_alarm` (`Exit.onAlarm`) ends it by the stored signal — unless it runs on the thread that is stuck inside
the handler of that same signal, where the signal is masked (then the process hangs: the second cause of F23).
-/
namespace Drv.Exit
open _root_.Exit

def kvOf (ws : List String) : List (String × String) :=
  ws.filterMap fun w =>
    match w.splitOn "=" with
    | [k, v] => some (k, v)
    | k :: v :: rest => some (k, "=".intercalate (v :: rest))
    | _ => none

def get (kv : List (String × String)) (k : String) : String := (kv.lookup k).getD ""

structure Sim where
  life : Life := {}
  handlers : Bool := false        -- `on_signal` installed (by `H` or `I`)
  entries : Nat := 0              -- handler entries so far (the `lock` counter)
  alarm : Option Sig := none      -- armed alarm: the signal number stored by the first arming entry
  info : Nat := 0                 -- notices that reached the destination
  crit : Nat := 0
  cont : Nat := 0
  qs : List String := []          -- predicted Q observations (oldest first)
  ms : List String := []
  final : Option String := none   -- predicted wait status once the process has ended
  parked : Bool := false          -- the main flow is blocked for ever (only the alarm can end the process)
  parkSig : Option Sig := none    -- … inside the handler entry for this signal
  parkWho : String := ""          -- … on this thread
  classes : List String := []
  acts : List String := []
  unspecified : Bool := false
  gate : String := ""             -- "w": the backend is held inside a write_log; "s": … and then inside the final flush of `_exit`
  conc : Option CS := none        -- another thread is inside `Backend::stop()` / the `atexit` stop: state of `Exit.CS`
  armed : Option Sig := none      -- `tsigx`: an extra thread raises this signal as soon as a stop has been requested

def b01 (b : Bool) : String := if b then "1" else "0"

def countItem (l : List Item) (x : Item) : Nat := (l.filter (· == x)).length

/-- a signal on thread kind `who` ("main" / "extra" / "backend") -/
def Sim.signal (P : LParams) (s : Sim) (sg : Sig) (who : String) (logger reraise infoOn : Bool) : Sim :=
  let _ := P
  if s.final.isSome || s.parked then s else
  if !s.handlers then
    { s with final := some ("sig:" ++ sg.name), classes := s.classes ++ ["sig-default-disposition"] }
  else
    let onBackend := who == "backend"
    let thread : Nat := if onBackend then s.life.ctxTid else 1000000
    let x := s.life.ctx thread sg (s.entries == 0) false logger reraise
    let acts := onSignal x
    let r := exec (s.life.env infoOn true) sg acts false false {}
    let cls :=
      if !x.first then "sig-later-entrant"
      else if onBackend then "sig-on-backend-thread"
      else if !x.backendIdSet then (if s.life.spawned == 0 then "sig-no-backend" else if s.life.running then "sig-plain-cycle" else "sig-after-stop")
      else if !logger then "sig-no-logger"
      else if !reraise then "sig-reraise-off"
      else "sig-frontend"
    let s1 := { s with entries := s.entries + 1, classes := s.classes ++ [cls],
                       acts := s.acts ++ ["+".intercalate (acts.map Action.name)],
                       info := s.info + countItem r.1.written .notice, crit := s.crit + countItem r.1.written .critical }
    let s2 := if acts.contains .setAlarm && s1.alarm.isNone then { s1 with alarm := some sg } else s1
    -- `exit` on the backend thread joins itself: outside the model
    let s3 := if onBackend && sg.graceful then { s2 with unspecified := true } else s2
    match r.2 with
    | .exit0 => { s3 with final := some "exit:0" }
    | .diedBy k => { s3 with final := some ("sig:" ++ k.name) }
    | .continues => { s3 with cont := s3.cont + 1 }
    | .hangs => { s3 with parked := true, parkSig := some sg, parkWho := who }

/-- another thread has entered the stop sequence `seq` and is waiting in `join()` (or has returned, if the backend
    thread could end); where the backend thread is depends on how the harness holds it: with the gate of `Gs`, or with
    `wait_for_queues_to_empty_before_exit` off, it has taken its last look at the queues -/
def Sim.enterStop (s : Sim) (seq : List SStep) (wait : Bool) : CS :=
  let c0 : CS := { idSet := s.life.ctxTid != 0 }
  let evs := List.replicate 6 Ev.stopper ++ (if s.gate == "s" || !wait then [Ev.bgLastCheck] else [])
  c0.run seq wait evs

/-- a handled signal on a frontend thread while the stop sequence is in state `c` (`Exit.signalDuringStop`) -/
def Sim.signalInStop (s : Sim) (c : CS) (wait : Bool) (sg : Sig) (who : String) (infoOn : Bool) : Sim :=
  if s.final.isSome || s.parked then s else
  let r := signalDuringStopG Extracted.flushEndsWhenBackendGone wait infoOn true sg false c c
  let acts := onSignal (c.ctx sg false)
  let cls := if !c.idSet then "sig-inside-stop-id-cleared" else if c.serving then "sig-inside-stop-served" else "sig-inside-stop-after-last-look"
  let s1 := { s with entries := s.entries + 1, classes := s.classes ++ [cls],
                     acts := s.acts ++ ["+".intercalate (acts.map Action.name)],
                     info := s.info + countItem r.1.written .notice, crit := s.crit + countItem r.1.written .critical }
  let s2 := if acts.contains .setAlarm && s1.alarm.isNone then { s1 with alarm := some sg } else s1
  match r.2 with
  | .exit0 => { s2 with final := some "exit:0" }
  | .diedBy k => { s2 with final := some ("sig:" ++ k.name) }
  | .continues => { s2 with cont := s2.cont + 1 }
  | .hangs => { s2 with parked := true, parkSig := some sg, parkWho := who }

def Sim.op (P : LParams) (logger reraise infoOn : Bool) (s : Sim) (op : String) (wait : Bool := true) : Sim :=
  if s.final.isSome || s.parked then s else
  match op.splitOn ":" with
  | ["H"] => { s with life := s.life.step P .startSH, handlers := true }
  | ["S"] => { s with life := s.life.step P .start }
  | ["I"] => { s with handlers := true }
  | ["Gw"] => { s with gate := "w" }
  | ["Gs"] => { s with gate := "s" }
  | ["tstop", _] =>
    if s.life.running then { s with conc := some (s.enterStop Extracted.stopSeq wait), classes := s.classes ++ ["stop-in-another-thread"] } else s
  | ["tsigx", _, nm] => { s with armed := Sig.ofName nm }
  | ["X"] =>
    match s.armed with
    | some sg =>
      if s.life.running then (s.signalInStop (s.enterStop Extracted.stopSeq wait) wait sg "extra" infoOn) else s
    | none => { s with life := s.life.step P .stop, classes := s.classes ++ ["stop"] }
  | ["Q"] => { s with qs := s.qs ++ [b01 s.life.running ++ "/" ++ b01 (s.life.workerTid != 0) ++ "/" ++ b01 (s.life.ctxTid != 0)] }
  | ["M"] => { s with ms := s.ms ++ [b01 (s.life.running && s.life.ctxTid != 0) ++ "/1"] }
  | ["ret"] =>
    match s.armed with
    | some sg =>
      if s.life.running then (s.signalInStop (s.enterStop Extracted.atexitSeq wait) wait sg "extra" infoOn) else s
    | none => { s with life := s.life.step P .exit, final := some "exit:0", classes := s.classes ++ ["return"] }
  | ["exit"] =>
    match s.armed with
    | some sg =>
      if s.life.running then (s.signalInStop (s.enterStop Extracted.atexitSeq wait) wait sg "extra" infoOn) else s
    | none => { s with life := s.life.step P .exit, final := some "exit:0", classes := s.classes ++ ["exit"] }
  | ["texit", _] => { s with life := s.life.step P .exit, final := some "exit:0", classes := s.classes ++ ["exit-from-thread"] }
  | ["park"] => { s with parked := true }
  | ["sig", nm, _] => match Sig.ofName nm with
    | some sg =>
      match s.conc with
      | some c => if logger && reraise then s.signalInStop c wait sg "main" infoOn else s.signal P sg "main" logger reraise infoOn
      | none => s.signal P sg "main" logger reraise infoOn
    | none => s
  | ["ksig", nm, spec] => match Sig.ofName nm with
    -- process-directed: the masks set up by the harness leave one receiver (`m`, `t<k>`, `b`) or nobody (`none`: the
    -- signal stays pending, the script goes on); `any`: the kernel chooses — Linux tries the main thread first
    | some sg =>
      if spec == "none" then { s with cont := s.cont + 1, classes := s.classes ++ ["kill-blocked-everywhere"] }
      else
        let who := if spec == "b" then "backend" else if spec == "m" || spec == "any" then "main" else "extra"
        -- (`Sim.signal` builds the context from the life-cycle state; for a running handler cycle it is `Exit.Receiver.ctx`
        --  of the receiver's class: the same calls for every frontend class, the backend branch on the backend thread)
        let s1 := s.signal P sg who logger reraise infoOn
        { s1 with classes := s1.classes ++ ["kill-" ++ spec.take 1] }
    | none => s
  | ["tsig", _, nm] => match Sig.ofName nm with
    | some sg =>
      let s1 := s.signal P sg "extra" logger reraise infoOn
      -- the main thread waits for the raise to come back; if the raising thread is parked so is the script
      s1
    | none => s
  | ["bsig", nm] => match Sig.ofName nm with
    | some sg =>
      let s1 := s.signal P sg "backend" logger reraise infoOn
      s1
    | none => s
  | _ => s   -- L, F, Z, W: no effect on the life-cycle

/-- the predicted wait status -/
def Sim.status (s : Sim) : String :=
  match s.final with
  | some f => f
  | none =>
    if s.parked then
      match s.alarm with
      | some k =>
        -- `on_alarm` raises the stored signal on the thread it runs on (the main thread, where SIGALRM is deliverable);
        -- if that thread sits inside the handler of that very signal the signal is masked there (glibc `signal()`
        -- semantics) and stays pending for ever
        if s.parkWho == "main" && s.parkSig == some (onAlarm (some k)) then "hang"
        else "sig:" ++ (onAlarm (some k)).name
      | none => "hang"
    else "exit:0"   -- the script ran out: return from main

def parseBool (s : String) : Bool := s == "1" || s == "true"

structure Tally where
  cases : Nat := 0
  mismatches : Nat := 0
  unspecified : Nat := 0

def runTrace (P : LParams) : IO UInt32 := do
  let stdin ← IO.getStdin
  let lines ← Drv.readLines stdin
  let mut t : Tally := {}
  for line in lines do
    if !line.startsWith "case " then continue
    let (lhs, rhs) := Drv.splitArrow line
    let lw := Drv.words lhs
    let id := lw.getD 1 "?"
    let kv := kvOf (lw.drop 2)
    let ob := kvOf (Drv.words rhs)
    let logger := parseBool (get kv "logger")
    let reraise := parseBool (get kv "reraise")
    let infoOn := get kv "lvl" != "warning"
    let script := (get kv "script").splitOn ","
    let wait := get kv "wait" != "0"
    -- two threads raising at once (`dsig`): which one enters first is the schedule's choice — one branch each
    let sims : List Sim := script.foldl (fun bs op =>
      match op.splitOn ":" with
      | "dsig" :: _ :: nt :: nm :: _ =>
        match Sig.ofName nt, Sig.ofName nm with
        | some st, some sm => bs.flatMap fun b => [b.signal P sm "main" logger reraise infoOn, b.signal P st "extra" logger reraise infoOn]
        | _, _ => bs
      | _ => bs.map fun b => Sim.op P logger reraise infoOn b op wait) [{}]
    -- ran out of script without a terminal op = return from main
    let sims := sims.map fun sim => if sim.final.isNone && !sim.parked then { sim with life := sim.life.step P .exit } else sim
    t := { t with cases := t.cases + 1 }
    let check (sim : Sim) : List String := Id.run do
      let mut bad : List String := []
      if !sim.unspecified then
        if sim.status != get ob "status" then
          bad := bad ++ [s!"field=status model={sim.status} impl={get ob "status"}"]
        let nn := s!"{sim.info}/{sim.crit}"
        if nn != get ob "notices" then bad := bad ++ [s!"field=notices model={nn} impl={get ob "notices"}"]
        if toString sim.cont != get ob "cont" then bad := bad ++ [s!"field=cont model={sim.cont} impl={get ob "cont"}"]
      let qm := if sim.qs.isEmpty then "-" else ";".intercalate sim.qs
      if qm != get ob "q" then bad := bad ++ [s!"field=q model={qm} impl={get ob "q"}"]
      let mm := if sim.ms.isEmpty then "-" else ";".intercalate sim.ms
      if mm != get ob "mask" then bad := bad ++ [s!"field=mask model={mm} impl={get ob "mask"}"]
      return bad
    let sim := (sims.find? fun b => (check b).isEmpty).getD (sims.headD {})
    if sim.unspecified then t := { t with unspecified := t.unspecified + 1 }
    let bad := check sim
    for b in bad do
      IO.println s!"MISMATCH case={id} {b}"
    t := { t with mismatches := t.mismatches + bad.length }
    let cls := (if sim.classes.isEmpty then "none" else ",".intercalate sim.classes) ++ (if sims.length > 1 then ",two-entrants" else "")
    let acts := if sim.acts.isEmpty then "-" else ";".intercalate sim.acts
    IO.println s!"TRACE {id} classes={cls} actions={acts} predicted={sim.status} notices={sim.info}/{sim.crit} spawned={sim.life.spawned} joined={sim.life.joined} atexits={sim.life.atexits.length}"
  IO.println s!"DONE cases={t.cases} mismatches={t.mismatches} unspecified={t.unspecified}"
  return 0

/-- model-side search: the shortest script on which the life-cycle machine with the given facts leaves the
    specification (a start after a stop that does not run; a signal that hangs) -/
def search (P : LParams) : IO UInt32 := do
  let scripts : List (List String) := [
    ["S", "L3", "X", "Q", "S", "Q", "L2", "ret"],
    ["H", "L3", "X", "Q", "H", "Q", "L2", "ret"],
    ["H", "L3", "X", "sig:SIGTERM:raise"],
    ["H", "L3", "X", "sig:SIGSEGV:raise"],
    ["H", "L3", "X", "S", "L2", "X", "sig:SIGSEGV:raise"]]
  let mut found := false
  for sc in scripts do
    let sim := sc.foldl (Sim.op P true true true) {}
    let restartBroken := sim.qs.length ≥ 2 && sim.qs.getLast? != some "1/1/1" && sim.qs.getLast? != some "1/1/0"
    if sim.status == "hang" || restartBroken then
      found := true
      IO.println s!"FAILING-SCRIPT predicted={sim.status} q={";".intercalate sim.qs}"
      IO.println ("case m clock=sys lvl=info logger=1 reraise=1 timeout=120 limit=8 threads=- script=" ++ ",".intercalate sc)
  -- the handler as extracted, against the specification of the frontend branch and of the "no backend" branch
  for sg in handled do
    let spec : Fe × Outcome := ({ queue := [], written := [.stmt 0] ++ notices { backendRunning := true } sg },
                               if sg.graceful then .exit0 else .diedBy sg)
    let got := exec { backendRunning := true } sg (Extracted.onSignalProg.actions (Ctx.frontend sg false)) false false
                 { queue := [.stmt 0], written := [] }
    if got != spec then
      found := true
      IO.println s!"FAILING-SCRIPT handler-as-extracted frontend sig={sg.name} calls={"+".intercalate ((Extracted.onSignalProg.actions (Ctx.frontend sg false)).map Action.name)}"
      IO.println s!"case m{sg.name} clock=sys lvl=info logger=1 reraise=1 timeout=120 limit=8 threads=- script=H,L3,L2000,sig:{sg.name}:raise"
    let x0 : Ctx := ⟨sg, true, false, false, false, true, true⟩
    let got0 := (exec { backendRunning := false } sg (Extracted.onSignalProg.actions x0) false false {}).2
    if got0 != (if sg.graceful then Outcome.exit0 else Outcome.diedBy sg) then
      found := true
      IO.println s!"FAILING-SCRIPT handler-as-extracted no-backend sig={sg.name} calls={"+".intercalate ((Extracted.onSignalProg.actions x0).map Action.name)}"
      IO.println s!"case n{sg.name} clock=sys lvl=info logger=1 reraise=1 timeout=120 limit=8 threads=- script=H,L3,X,sig:{sg.name}:raise"
  if !found then IO.println "NO-FAILING-SCRIPT"
  return 0

def paramsOf : List String → Option LParams
  | [a, b, c] => some { renewOnce := parseBool a, stopClearsId := parseBool b, atexitClearsId := parseBool c }
  | _ => none

def main : List String → IO UInt32
  | "trace" :: rest => match paramsOf rest with
    | some P => runTrace P
    | none => do IO.println "usage: driver exit trace <renewOnce> <stopClearsId> <atexitClearsId>"; return 2
  | "search" :: rest => match paramsOf rest with
    | some P => search P
    | none => do IO.println "usage: driver exit search <renewOnce> <stopClearsId> <atexitClearsId>"; return 2
  | _ => do IO.println "usage: driver exit trace|search <renewOnce> <stopClearsId> <atexitClearsId>"; return 2

end Drv.Exit
