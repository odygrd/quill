import QuillModel.Tsc.Model
/-!
# Lemmas about the `RdtscClock` model

Inside the signed window the `uint64` difference reinterpreted as `int64` is the true difference. `ScaleOK sc ε` is what
the theorems need of the scaling (monotone, additive up to `ε`); `scaleExact` has it with `ε = 1` (`scaleExact_mono`,
`scaleExact_add`, from the same two facts about the magnitudes, `magDiv_mono` and `magDiv_add`). With `writeNext = true` a
resync never writes the slot the running call converts against, so the value of `time_since_epoch` is
`convAt sc (cur c) tsc` whatever the reads; along a run, for every parameter record, equal ghost epoch means same base.
-/
namespace Tsc

/-- `t` lies in the window of base tsc `b` in which `(int64)(t - b)` is the true difference -/
def InWin (b t : Nat) : Prop :=
  t < two64 ∧ b < two64 ∧ (t : Int) - b < (two63 : Int) ∧ -(two63 : Int) ≤ (t : Int) - b

instance (b t : Nat) : Decidable (InWin b t) := by unfold InWin; infer_instance

theorem toI64_sub {b t : Nat} (h : InWin b t) : toI64 (subU64 t b) = (t : Int) - b := by
  obtain ⟨ht, hb, h1, h2⟩ := h
  simp only [two64, two63] at ht hb h1 h2
  unfold toI64 subU64
  rw [Nat.mod_eq_of_lt ht, Nat.mod_eq_of_lt hb, Nat.mod_mod]
  split <;> omega

structure ScaleOK (sc : Int → Int) (ε : Int) : Prop where
  mono : ∀ a b, a ≤ b → sc a ≤ sc b
  add_le : ∀ a b, sc (a + b) ≤ sc a + sc b + ε
  le_add : ∀ a b, sc a + sc b ≤ sc (a + b) + ε

theorem conv_mono {sc : Int → Int} {ε : Int} (h : ScaleOK sc ε) (b : Base) {t1 t2 : Nat}
    (w1 : InWin b.tsc t1) (w2 : InWin b.tsc t2) (le : t1 ≤ t2) : convAt sc b t1 ≤ convAt sc b t2 := by
  unfold convAt
  rw [toI64_sub w1, toI64_sub w2]
  have := h.mono ((t1 : Int) - b.tsc) ((t2 : Int) - b.tsc) (by omega)
  omega

/-- How far the old line runs ahead of the new wall-clock reading at the new base point. -/
def drift (sc : Int → Int) (old new : Base) : Int := convAt sc old new.tsc - new.time

/-- Effect of a resync on one tsc value: the two conversions differ by the drift, up to the additivity error. -/
theorem shift_bound {sc : Int → Int} {ε : Int} (h : ScaleOK sc ε) (old new : Base) {t : Nat}
    (wo : InWin old.tsc t) (wn : InWin new.tsc t) (wb : InWin old.tsc new.tsc) :
    convAt sc old t - convAt sc new t ≤ drift sc old new + ε ∧
    drift sc old new - ε ≤ convAt sc old t - convAt sc new t := by
  unfold drift convAt
  rw [toI64_sub wo, toI64_sub wn, toI64_sub wb]
  have e : (t : Int) - old.tsc = ((t : Int) - new.tsc) + ((new.tsc : Int) - old.tsc) := by omega
  have h1 := h.add_le ((t : Int) - new.tsc) ((new.tsc : Int) - old.tsc)
  have h2 := h.le_add ((t : Int) - new.tsc) ((new.tsc : Int) - old.tsc)
  rw [← e] at h1 h2
  constructor <;> omega

/-- truncating division of `|d| * num` by `2^k`, as a function of the magnitude -/
def magDiv (num k n : Nat) : Nat := n * num / 2 ^ k

theorem magDiv_mono (num k : Nat) {a b : Nat} (h : a ≤ b) : magDiv num k a ≤ magDiv num k b :=
  Nat.div_le_div_right (Nat.mul_le_mul_right num h)

theorem div_add_bounds (c x y : Nat) (hp : 0 < c) :
    x / c + y / c ≤ (x + y) / c ∧ (x + y) / c ≤ x / c + y / c + 1 := by
  rw [Nat.add_div hp]
  split
  · exact ⟨Nat.le_add_right .., Nat.le_refl _⟩
  · exact ⟨Nat.le_refl _, Nat.le_add_right ..⟩

theorem magDiv_add (num k a b : Nat) :
    magDiv num k a + magDiv num k b ≤ magDiv num k (a + b) ∧ magDiv num k (a + b) ≤ magDiv num k a + magDiv num k b + 1 := by
  unfold magDiv
  rw [Nat.add_mul]
  exact div_add_bounds (2 ^ k) (a * num) (b * num) (Nat.two_pow_pos k)

theorem magDiv_zero (num k : Nat) : magDiv num k 0 = 0 := by simp [magDiv]

theorem scaleExact_natCast (num k p : Nat) : scaleExact num k p = magDiv num k p := by
  simp [scaleExact, sgnMul, magDiv]

theorem scaleExact_neg (num k : Nat) (d : Int) : scaleExact num k (-d) = -scaleExact num k d := by
  unfold scaleExact sgnMul
  rw [Int.natAbs_neg]
  rcases Int.lt_trichotomy d 0 with h | rfl | h
  · rw [if_pos (by omega), if_neg (by omega), Int.neg_neg]
  · simp
  · rw [if_neg (by omega), if_pos (by omega)]

/-- additivity up to 1 when the summands have opposite signs: `p = r + q` resp. `q = p + r` in magnitudes -/
theorem scaleExact_add_aux (num k p q : Nat) :
    scaleExact num k (p + -(q : Int)) ≤ scaleExact num k p + scaleExact num k (-(q : Int)) + 1 ∧
    scaleExact num k p + scaleExact num k (-(q : Int)) ≤ scaleExact num k (p + -(q : Int)) + 1 := by
  rcases Nat.le_total q p with h | h
  · obtain ⟨r, rfl⟩ := Nat.exists_eq_add_of_le h
    have e : ((q + r : Nat) : Int) + -(q : Int) = (r : Nat) := by omega
    have := magDiv_add num k q r
    rw [e, scaleExact_neg, scaleExact_natCast, scaleExact_natCast, scaleExact_natCast]
    omega
  · obtain ⟨r, rfl⟩ := Nat.exists_eq_add_of_le h
    have e : (p : Int) + -((p + r : Nat) : Int) = -(r : Nat) := by omega
    have := magDiv_add num k p r
    rw [e, scaleExact_neg, scaleExact_neg, scaleExact_natCast, scaleExact_natCast, scaleExact_natCast]
    omega

theorem scaleExact_add (num k : Nat) (a b : Int) :
    scaleExact num k (a + b) ≤ scaleExact num k a + scaleExact num k b + 1 ∧
    scaleExact num k a + scaleExact num k b ≤ scaleExact num k (a + b) + 1 := by
  obtain ⟨p, rfl | rfl⟩ := Int.eq_nat_or_neg a <;> obtain ⟨q, rfl | rfl⟩ := Int.eq_nat_or_neg b
  · have := magDiv_add num k p q
    rw [← Int.natCast_add, scaleExact_natCast, scaleExact_natCast, scaleExact_natCast]
    omega
  · exact scaleExact_add_aux num k p q
  · have := scaleExact_add_aux num k q p
    rw [Int.add_comm]
    omega
  · have := magDiv_add num k p q
    rw [← Int.neg_add, ← Int.natCast_add, scaleExact_neg, scaleExact_neg, scaleExact_neg, scaleExact_natCast,
      scaleExact_natCast, scaleExact_natCast]
    omega

theorem scaleExact_mono (num k : Nat) {a b : Int} (hab : a ≤ b) : scaleExact num k a ≤ scaleExact num k b := by
  obtain ⟨p, rfl | rfl⟩ := Int.eq_nat_or_neg a <;> obtain ⟨q, rfl | rfl⟩ := Int.eq_nat_or_neg b
  · have := magDiv_mono num k (a := p) (b := q) (by omega)
    rw [scaleExact_natCast, scaleExact_natCast]
    omega
  · have hp : p = 0 := by omega
    have hq : q = 0 := by omega
    subst hp hq
    exact Int.le_refl _
  · rw [scaleExact_neg, scaleExact_natCast, scaleExact_natCast]
    omega
  · have := magDiv_mono num k (a := q) (b := p) (by omega)
    rw [scaleExact_neg, scaleExact_neg, scaleExact_natCast, scaleExact_natCast]
    omega

theorem slot_setSlot_other (c : Clock) (i j : Nat) (b : Base) (h : i % 2 ≠ j % 2) : slot (setSlot c i b) j = slot c j := by
  unfold slot setSlot
  by_cases hj : j % 2 = 0
  · rw [if_pos hj, if_pos hj, if_neg (fun hi => h (hi.trans hj.symm))]
  · have hj1 := (Nat.mod_two_eq_zero_or_one j).resolve_left hj
    have hi : i % 2 = 0 := (Nat.mod_two_eq_zero_or_one i).resolve_right fun hi => h (hi.trans hj1.symm)
    rw [if_neg hj, if_neg hj, if_pos hi]

theorem install_slot {p : Params} (hw : p.writeNext = true) (c : Clock) (r : Read) :
    slot (install p c r) c.version = slot c c.version := by
  have hne : (c.version + 1) % 2 ≠ c.version % 2 := by
    rcases Nat.mod_two_eq_zero_or_one c.version with h | h <;> rw [Nat.add_mod, h] <;> decide
  have h := slot_setSlot_other c (c.version + 1) c.version ⟨r.wall, fastAvg r.beg r.fin⟩ hne
  simp only [install, hw, if_true]
  exact h

theorem resyncLoop_cases (p : Params) (lag : Nat) (c : Clock) (n : Nat) (rs : List Read) (u : Nat) :
    ((resyncLoop p lag c n rs u).1 = { c with interval := c.interval * 2 } ∧ (resyncLoop p lag c n rs u).2.1 = false) ∨
    ∃ r, (resyncLoop p lag c n rs u).1 = install p c r ∧ (resyncLoop p lag c n rs u).2.1 = true := by
  induction n generalizing rs u with
  | zero => exact .inl ⟨rfl, rfl⟩
  | succ n ih =>
    cases rs with
    | nil => exact ih [] (u + 1)
    | cons r rs =>
      simp only [resyncLoop]
      split
      · exact .inr ⟨r, rfl, rfl⟩
      · exact ih rs (u + 1)

theorem resyncLoop_slot {p : Params} (hw : p.writeNext = true) (lag : Nat) (c : Clock) (n : Nat) (rs : List Read) (u : Nat) :
    slot (resyncLoop p lag c n rs u).1 c.version = slot c c.version := by
  rcases resyncLoop_cases p lag c n rs u with ⟨e, _⟩ | ⟨r, e, _⟩ <;> rw [e]
  · rfl
  · exact install_slot hw c r

/-- The value of a call never depends on the reads: a conversion answers against the base that was current
    when it was entered, also when it triggers a resync. -/
theorem tse_value {p : Params} (hw : p.writeNext = true) (sc : Int → Int) (c : Clock) (tsc : Nat) (rs : List Read) :
    (timeSinceEpoch p sc c tsc rs).1 = convAt sc (cur c) tsc := by
  unfold timeSinceEpoch cur
  simp only
  split
  · simp only [resync]; rw [resyncLoop_slot hw]
  · rfl

theorem tse_quiet (sc : Int → Int) (c : Clock) (tsc : Nat) (rs : List Read)
    (h : trigger Params.code (toI64 (subU64 tsc (cur c).tsc)) c.interval = false) :
    (timeSinceEpoch Params.code sc c tsc rs).2 = (c, 0) := by
  unfold timeSinceEpoch
  unfold cur at h
  simp [h]

theorem install_epoch (p : Params) (c : Clock) (r : Read) : (install p c r).epoch = c.epoch + 1 := by
  simp only [install, setSlot]

theorem cur_interval (c : Clock) (i : Int) : cur { c with interval := i } = cur c := rfl

theorem resync_epoch (p : Params) (lag : Nat) (c : Clock) (rs : List Read) :
    c.epoch ≤ (resync p lag c rs).1.epoch ∧ ((resync p lag c rs).1.epoch = c.epoch → cur (resync p lag c rs).1 = cur c) := by
  unfold resync
  rcases resyncLoop_cases p lag c p.maxAttempts rs 0 with ⟨e, _⟩ | ⟨r, e, _⟩ <;> rw [e]
  · exact ⟨Nat.le_refl _, fun _ => cur_interval c _⟩
  · rw [install_epoch]; exact ⟨Nat.le_succ _, fun h => absurd h (Nat.succ_ne_self _)⟩

theorem tse_epoch (p : Params) (sc : Int → Int) (c : Clock) (tsc : Nat) (rs : List Read) :
    c.epoch ≤ (timeSinceEpoch p sc c tsc rs).2.1.epoch ∧
    ((timeSinceEpoch p sc c tsc rs).2.1.epoch = c.epoch → cur (timeSinceEpoch p sc c tsc rs).2.1 = cur c) := by
  unfold timeSinceEpoch
  simp only
  split
  · exact resync_epoch p p.convLag c rs
  · exact ⟨Nat.le_refl _, fun _ => rfl⟩

theorem crun_conv (p : Params) (sc : Int → Int) (c : Clock) (tsc : Nat) (rs : List Read) (ops : List COp) :
    crun p sc c (.conv tsc rs :: ops) =
      ⟨tsc, (timeSinceEpoch p sc c tsc rs).1, c.epoch, cur c⟩ :: crun p sc (timeSinceEpoch p sc c tsc rs).2.1 ops := rfl

theorem crun_idle (p : Params) (sc : Int → Int) (c : Clock) (rs : List Read) (ops : List COp) :
    crun p sc c (.idle rs :: ops) = crun p sc (resync p p.idleLag c rs).1 ops := rfl

/-- The projections of an `Obs.mk` reduced over variables: with the terms of a run in their place the kernel unfolds the
    clock terms before it reduces the projections, and runs out of recursion depth. -/
theorem obs_value_mk (sc : Int → Int) (a : Nat) (b : Int) (e : Nat) (d : Base) (h : b = convAt sc d a) :
    (Obs.mk a b e d).value = convAt sc (Obs.mk a b e d).base (Obs.mk a b e d).tsc := h

/-- An observation `o` made from `c'`, seen from a clock `c` that `c'` follows: epochs only grow, and a base is only
    replaced together with a new epoch. -/
theorem since_trans {c c' : Clock} {o : Obs} (he : c.epoch ≤ c'.epoch ∧ (c'.epoch = c.epoch → cur c' = cur c))
    (ho : c'.epoch ≤ o.epoch ∧ (o.epoch = c'.epoch → o.base = cur c')) :
    c.epoch ≤ o.epoch ∧ (o.epoch = c.epoch → o.base = cur c) := by
  refine ⟨Nat.le_trans he.1 ho.1, fun hq => ?_⟩
  have e : c'.epoch = c.epoch := Nat.le_antisymm (hq ▸ ho.1) he.1
  rw [ho.2 (hq.trans e.symm), he.2 e]

/-- One walk of a run: a relation between the starting clock and an observation holds of every observation of the run once
    it holds of the one a conversion makes and goes back over a conversion and over an idle resync. -/
theorem crun_rule (p : Params) (sc : Int → Int) (R : Clock → Obs → Prop)
    (hobs : ∀ c tsc rs, R c ⟨tsc, (timeSinceEpoch p sc c tsc rs).1, c.epoch, cur c⟩)
    (hconv : ∀ c tsc rs o, R (timeSinceEpoch p sc c tsc rs).2.1 o → R c o)
    (hidle : ∀ c rs o, R (resync p p.idleLag c rs).1 o → R c o) (ops : List COp) :
    ∀ (c : Clock) (o : Obs), o ∈ crun p sc c ops → R c o := by
  induction ops with
  | nil => intro c o h; exact absurd h List.not_mem_nil
  | cons op ops ih =>
    intro c o h
    cases op with
    | conv tsc rs =>
      rw [crun_conv, List.mem_cons] at h
      rcases h with h | h
      · subst h
        exact hobs c tsc rs
      · exact hconv c tsc rs o (ih _ o h)
    | idle rs =>
      rw [crun_idle] at h
      exact hidle c rs o (ih _ o h)

theorem crun_since (p : Params) (sc : Int → Int) (ops : List COp) : ∀ (c : Clock) (o : Obs), o ∈ crun p sc c ops →
    c.epoch ≤ o.epoch ∧ (o.epoch = c.epoch → o.base = cur c) :=
  crun_rule p sc (fun c o => c.epoch ≤ o.epoch ∧ (o.epoch = c.epoch → o.base = cur c))
    (fun _ _ _ => ⟨Nat.le_refl _, fun _ => rfl⟩)
    (fun c tsc rs _ => since_trans (tse_epoch p sc c tsc rs))
    (fun c rs _ => since_trans (resync_epoch p p.idleLag c rs)) ops

theorem crun_value {p : Params} (hw : p.writeNext = true) (sc : Int → Int) (ops : List COp) :
    ∀ (c : Clock) (o : Obs), o ∈ crun p sc c ops → o.value = convAt sc o.base o.tsc :=
  crun_rule p sc (fun _ o => o.value = convAt sc o.base o.tsc)
    (fun c tsc rs => obs_value_mk sc _ _ _ _ (tse_value hw sc c tsc rs))
    (fun _ _ _ _ h => h) (fun _ _ _ h => h) ops

theorem crun_same_epoch_same_base (p : Params) (sc : Int → Int) (ops : List COp) : ∀ (c : Clock),
    (crun p sc c ops).Pairwise (fun o1 o2 => o1.epoch = o2.epoch → o1.base = o2.base) := by
  induction ops with
  | nil => intro c; exact List.Pairwise.nil
  | cons op ops ih =>
    intro c
    cases op with
    | conv tsc rs =>
      rw [crun_conv, List.pairwise_cons]
      refine ⟨fun o ho hq => ?_, ih _⟩
      exact ((since_trans (tse_epoch p sc c tsc rs) (crun_since p sc ops _ o ho)).2 (Eq.symm hq)).symm
    | idle rs => rw [crun_idle]; exact ih _

end Tsc
