import QuillModel.Tsc.Model
import QuillModel.Util.ListLemmas
/-! The backend's buffers and the pop rule, for an arbitrary conversion: per-thread FIFO order and conservation
(`accepted = written ++ buffered` per thread) never look at the converted value. -/
namespace Tsc

theorem minFront_front (buf : Nat → List Ev) : ∀ (l : List Nat) (best : Option (Nat × Ev)),
    (∀ bt be, best = some (bt, be) → ∃ r, buf bt = be :: r) →
    ∀ t e, minFront buf l best = some (t, e) → ∃ r, buf t = e :: r := by
  intro l
  induction l with
  | nil => intro best hb t e h; exact hb t e h
  | cons t0 rest ih =>
    intro best hb t e h
    unfold minFront at h
    split at h
    · exact ih best hb t e h
    · rename_i e0 r0 hbuf
      split at h
      · exact ih _ (fun bt be hq => by cases hq; exact ⟨r0, hbuf⟩) t e h
      · rename_i bt be
        split at h
        · exact ih _ (fun bt' be' hq => by cases hq; exact ⟨r0, hbuf⟩) t e h
        · exact ih _ hb t e h

/-- Stated for an arbitrary running minimum `best`, so that the induction over the cache order goes through; the pop rule
    is the case `best = none`. -/
theorem minFront_least (buf : Nat → List Ev) : ∀ (l : List Nat) (best : Option (Nat × Ev)) (t : Nat) (e : Ev),
    minFront buf l best = some (t, e) →
    (∀ bt be, best = some (bt, be) → e.ts ≤ be.ts) ∧ (∀ t' ∈ l, ∀ e' r, buf t' = e' :: r → e.ts ≤ e'.ts) := by
  intro l
  induction l with
  | nil =>
    intro best t e h
    refine ⟨fun bt be hq => ?_, fun t' ht' => absurd ht' List.not_mem_nil⟩
    simp only [minFront] at h
    rw [hq] at h
    cases h
    exact Nat.le_refl _
  | cons t0 rest ih =>
    intro best t e h
    unfold minFront at h
    split at h
    · rename_i hnil
      have ⟨i1, i2⟩ := ih best t e h
      refine ⟨i1, fun t' ht' e' r hb => ?_⟩
      rcases List.mem_cons.mp ht' with rfl | hm
      · rw [hnil] at hb; cases hb
      · exact i2 t' hm e' r hb
    · rename_i e0 r0 hbuf
      -- whichever running minimum goes on, the answer is below the fronts of `rest`; that it is below `e0` is a case each
      have front : (∀ t' ∈ rest, ∀ e' r, buf t' = e' :: r → e.ts ≤ e'.ts) → e.ts ≤ e0.ts →
          ∀ t' ∈ t0 :: rest, ∀ e' r, buf t' = e' :: r → e.ts ≤ e'.ts := by
        intro i2 h0 t' ht' e' r hb
        rcases List.mem_cons.mp ht' with rfl | hm
        · rw [hbuf] at hb; cases hb; exact h0
        · exact i2 t' hm e' r hb
      split at h
      · have ⟨i1, i2⟩ := ih _ t e h
        exact ⟨(fun bt be hq => by cases hq), front i2 (i1 _ _ rfl)⟩
      · rename_i bt be
        split at h
        · rename_i hlt
          have ⟨i1, i2⟩ := ih _ t e h
          have h0 := i1 _ _ rfl
          exact ⟨(fun bt' be' hq => by cases hq; exact Nat.le_trans h0 (Nat.le_of_lt hlt)), front i2 h0⟩
        · rename_i hge
          have ⟨i1, i2⟩ := ih _ t e h
          have h0 := i1 _ _ rfl
          exact ⟨(fun bt' be' hq => by cases hq; exact h0), front i2 (Nat.le_trans h0 (Nat.le_of_not_lt hge))⟩

structure PInv (s : Pipe) : Prop where
  cons : ∀ t, s.written.filter (fun e => e.th = t) ++ s.buf t = s.accepted.filter (fun e => e.th = t)
  own : ∀ t e, e ∈ s.buf t → e.th = t

theorem PInv_clock (s : Pipe) (c : Clock) (h : PInv s) : PInv { s with clock := c } := ⟨h.cons, h.own⟩

theorem PInv_accept (s : Pipe) (e : Ev) (h : PInv s) : PInv (accept s e) := by
  constructor
  · intro t
    simp only [accept, List.filter_append]
    by_cases ht : t = e.th
    · subst ht
      simp only [if_true, List.filter_cons, List.filter_nil, decide_true]
      rw [← List.append_assoc, h.cons]
    · have : ¬ (e.th = t) := fun q => ht q.symm
      simp only [ht, if_false, List.filter_cons, List.filter_nil, this, decide_false, Bool.false_eq_true, List.append_nil]
      exact h.cons t
  · intro t x hx
    simp only [accept] at hx
    by_cases ht : t = e.th
    · simp only [ht, if_true] at hx
      rcases List.mem_append.mp hx with hx | hx
      · rw [ht]; exact h.own _ x hx
      · rw [List.mem_singleton.mp hx, ht]
    · simp only [ht, if_false] at hx
      exact h.own t x hx

theorem PInv_step (p : Params) (sc : Int → Int) (s : Pipe) (op : POp) (h : PInv s) : PInv (pstep p sc s op) := by
  cases op with
  | decode th id tsc tsNow rs =>
    simp only [pstep]
    cases tsNow with
    | none => exact PInv_accept _ _ (PInv_clock s _ h)
    | some now =>
      simp only
      split
      · exact PInv_clock s _ h
      · exact PInv_accept _ _ (PInv_clock s _ h)
  | idle rs => exact PInv_clock s _ h
  | pop =>
    simp only [pstep]
    split
    · exact h
    · rename_i t e hm
      -- the popped event is the front of `buf t` and belongs to thread `t` (`own`): it moves from `buf t` to the `t`-part of `written`
      obtain ⟨r, hr⟩ := minFront_front s.buf s.order none (fun _ _ hq => by cases hq) t e hm
      have he : e.th = t := h.own t e (by rw [hr]; exact List.mem_cons_self)
      constructor
      · intro x
        simp only [List.filter_append]
        by_cases hx : x = t
        · subst hx
          simp only [if_true, List.filter_cons, List.filter_nil, he, decide_true]
          rw [hr, List.drop_one, List.tail_cons, List.append_assoc]
          have := h.cons x
          rw [hr] at this
          exact this
        · have : ¬ (e.th = x) := fun q => hx (q.symm.trans he)
          simp only [hx, if_false, List.filter_cons, List.filter_nil, this, decide_false, Bool.false_eq_true, List.append_nil]
          exact h.cons x
      · intro x y hy
        simp only at hy
        by_cases hx : x = t
        · simp only [hx, if_true] at hy
          rw [hx]; exact h.own t y (List.mem_of_mem_drop hy)
        · simp only [hx, if_false] at hy
          exact h.own x y hy

theorem PInv_run (p : Params) (sc : Int → Int) (ops : List POp) : ∀ s, PInv s → PInv (prun p sc s ops) :=
  List.foldl_inv PInv _ (PInv_step p sc) ops

theorem PInv_init (c : Clock) : PInv { clock := c } := ⟨fun _ => rfl, fun _ _ h => absurd h List.not_mem_nil⟩

end Tsc
