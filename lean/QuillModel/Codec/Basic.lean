import QuillModel.Codec.Model
import QuillModel.Util.ListLemmas
/-! Little-endian integers, the size cache, cache windows (`Window`, the premise of the encode-pass statements), NUL search. -/
namespace Codec

theorem leBytes_length : ∀ (k n : Nat), (leBytes k n).length = k
  | 0, _ => rfl
  | k + 1, n => by simp [leBytes, leBytes_length k]

theorem toNat_ofNat_mod (n : Nat) : (UInt8.ofNat (n % 256)).toNat = n % 256 := by
  rw [UInt8.toNat_ofNat']; exact Nat.mod_mod _ _

theorem leVal_leBytes : ∀ (k n : Nat), leVal (leBytes k n) = n % 256 ^ k
  | 0, n => by simp [leBytes, leVal, Nat.mod_one]
  | k + 1, n => by
    simp only [leBytes, leVal, leVal_leBytes k, toNat_ofNat_mod]
    rw [Nat.pow_succ, Nat.mul_comm (256 ^ k) 256, Nat.mod_mul]

theorem leVal_leBytes_of_lt (k n : Nat) (h : n < 256 ^ k) : leVal (leBytes k n) = n := by
  rw [leVal_leBytes, Nat.mod_eq_of_lt h]

theorem leVal4 (n : Nat) (h : n < U32) : leVal (leBytes 4 n) = n :=
  leVal_leBytes_of_lt 4 n (by simpa [U32] using h)

theorem leVal8 (n : Nat) (h : n < U64) : leVal (leBytes 8 n) = n :=
  leVal_leBytes_of_lt 8 n (by simpa [U64] using h)

theorem nulIdx_le (m : Bytes) : nulIdx m ≤ m.length := (List.takeWhile_sublist nz).length_le

theorem takeWhile_eq_take_nulIdx (m : Bytes) : m.takeWhile nz = m.take (nulIdx m) :=
  (List.take_length_takeWhile nz m).symm

/-- the string before the first NUL contains no NUL -/
theorem nulIdx_takeWhile_append (m rest : Bytes) :
    nulIdx (m.takeWhile nz ++ 0 :: rest) = (m.takeWhile nz).length := by
  unfold nulIdx
  rw [List.takeWhile_append_of_pos (fun a ha => List.all_eq_true.mp List.all_takeWhile a ha),
    List.takeWhile_cons_of_neg (by decide), List.append_nil]

theorem decodeCStr_spec (m rest : Bytes) :
    decodeCStr (m.takeWhile nz ++ [0] ++ rest) = some (.text (m.takeWhile nz), rest) := by
  unfold decodeCStr
  rw [List.append_assoc, List.singleton_append, nulIdx_takeWhile_append m rest,
    if_pos (by rw [List.length_append, List.length_cons]; omega), List.take_left,
    ← List.drop_drop, List.drop_left]
  rfl

theorem decodeLenPrefixed_spec (s rest : Bytes) (h : s.length < U32) :
    decodeLenPrefixed (leBytes 4 s.length ++ s ++ rest) = some (s, rest) := by
  have h4 : (leBytes 4 s.length).length = 4 := leBytes_length _ _
  unfold decodeLenPrefixed
  rw [List.append_assoc, if_neg (by rw [List.length_append, h4]; omega)]
  dsimp only
  rw [List.take_left' h4, List.drop_left' h4, leVal4 _ h, if_neg (by rw [List.length_append]; omega),
    List.take_left, List.drop_left]

theorem push_data (c : Cache) (v : Nat) : (c.push v).data = c.data ++ [v] := by
  unfold Cache.push; split <;> rfl

theorem pushAll_nil (c : Cache) : c.pushAll [] = c := rfl
theorem pushAll_cons (c : Cache) (x : Nat) (xs : List Nat) : c.pushAll (x :: xs) = (c.push x).pushAll xs := rfl

theorem pushAll_append (c : Cache) (xs ys : List Nat) : c.pushAll (xs ++ ys) = (c.pushAll xs).pushAll ys := by
  unfold Cache.pushAll; rw [List.foldl_append]

theorem pushAll_singleton (c : Cache) (x : Nat) : c.pushAll [x] = c.push x := rfl

theorem pushAll_data (c : Cache) (xs : List Nat) : (c.pushAll xs).data = c.data ++ xs := by
  induction xs generalizing c with
  | nil => simp [pushAll_nil]
  | cons x xs ih => rw [pushAll_cons, ih, push_data]; simp

theorem pushAll_congr (xs : List Nat) : ∀ (c1 c2 : Cache), c1.data.length = c2.data.length → c1.cap = c2.cap →
    c1.grown = c2.grown →
    (c1.pushAll xs).cap = (c2.pushAll xs).cap ∧ (c1.pushAll xs).grown = (c2.pushAll xs).grown := by
  induction xs with
  | nil => intro c1 c2 _ h2 h3; exact ⟨h2, h3⟩
  | cons x xs ih =>
    intro c1 c2 h1 h2 h3
    rw [pushAll_cons, pushAll_cons]
    apply ih
    · rw [push_data, push_data]; simp [h1]
    · unfold Cache.push; rw [h1, h2]; split <;> rfl
    · unfold Cache.push; rw [h1, h2, h3]; split <;> rfl

theorem Cache.ext' {c1 c2 : Cache} (h1 : c1.data = c2.data) (h2 : c1.cap = c2.cap) (h3 : c1.grown = c2.grown) :
    c1 = c2 := by
  cases c1; cases c2; simp_all

/-- `forward_list`: push a placeholder, push the elements' lengths, then patch the placeholder -/
theorem pushAll_assign (c : Cache) (n : Nat) (xs : List Nat) :
    ((c.push 0).pushAll xs).assign ((c.push 0).data.length - 1) n = (c.push n).pushAll xs := by
  have hp : (c.push 0).cap = (c.push n).cap ∧ (c.push 0).grown = (c.push n).grown := by
    unfold Cache.push; split <;> exact ⟨rfl, rfl⟩
  have hcg := pushAll_congr xs (c.push 0) (c.push n) (by rw [push_data, push_data, List.length_append, List.length_append]; rfl) hp.1 hp.2
  refine Cache.ext' ?_ hcg.1 hcg.2
  simp only [Cache.assign, pushAll_data, push_data, List.length_append, List.length_singleton, Nat.add_sub_cancel]
  rw [List.append_assoc, List.set_append_right _ _ (Nat.le_refl _)]
  simp

def Window (c : Cache) (i : Nat) (xs : List Nat) : Prop := ∃ post, c.data.drop i = xs ++ post

theorem Window.nil (c : Cache) (i : Nat) : Window c i [] := ⟨_, rfl⟩

theorem Window.head {c : Cache} {i x : Nat} {xs : List Nat} (h : Window c i (x :: xs)) : c.data[i]? = some x := by
  obtain ⟨post, hp⟩ := h
  have := congrArg List.head? hp
  simpa [List.head?_drop] using this

theorem Window.tail {c : Cache} {i x : Nat} {xs : List Nat} (h : Window c i (x :: xs)) : Window c (i + 1) xs := by
  obtain ⟨post, hp⟩ := h
  refine ⟨post, ?_⟩
  have := congrArg List.tail hp
  simpa [List.tail_drop] using this

theorem Window.left {c : Cache} {i : Nat} {xs ys : List Nat} (h : Window c i (xs ++ ys)) : Window c i xs := by
  obtain ⟨post, hp⟩ := h
  exact ⟨ys ++ post, by rw [hp, List.append_assoc]⟩

theorem Window.right {c : Cache} {i : Nat} {xs ys : List Nat} (h : Window c i (xs ++ ys)) :
    Window c (i + xs.length) ys := by
  obtain ⟨post, hp⟩ := h
  refine ⟨post, ?_⟩
  have := congrArg (List.drop xs.length) hp
  rw [List.drop_drop] at this
  rw [this, List.append_assoc, List.drop_left]

/-- right after the size pass the window is in place -/
theorem Window.of_pushAll (c : Cache) (xs : List Nat) : Window (c.pushAll xs) c.data.length xs :=
  ⟨[], by rw [pushAll_data]; simp⟩

/-- a window is a statement about the entries `i … i + |xs| − 1` only -/
theorem window_iff (c : Cache) (i : Nat) (xs : List Nat) :
    Window c i xs ↔ ∀ j, j < xs.length → c.data[i + j]? = xs[j]? := by
  constructor
  · rintro ⟨post, hp⟩ j hj
    have : (c.data.drop i)[j]? = (xs ++ post)[j]? := by rw [hp]
    rw [List.getElem?_drop] at this
    rw [this, List.getElem?_append_left hj]
  · intro h
    refine ⟨c.data.drop (i + xs.length), ?_⟩
    apply List.ext_getElem?
    intro j
    rw [List.getElem?_drop]
    by_cases hj : j < xs.length
    · rw [h j hj, List.getElem?_append_left hj]
    · have hge : xs.length ≤ j := by omega
      rw [List.getElem?_append_right hge, List.getElem?_drop]
      congr 1; omega

end Codec
