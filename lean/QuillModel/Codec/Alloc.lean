import QuillModel.Codec.Statement
/-! For C11: when the size cache reallocates, which arguments run user code on the caller. The classes of arguments the
C11 statements speak of are defined here, each before its lemmas: `slotFree`, `cstrLike`, `countCStr` (slots of the size
cache an argument takes), `listed`, `countDirect` (formatter calls and allocations on the caller), `FOp.wf`. -/
namespace Codec

/-- new capacities produced by pushing `k` entries onto a vector with `len` live entries and capacity `cap` -/
def growSteps : Nat → Nat → Nat → List Nat
  | _, _, 0 => []
  | cap, len, k + 1 => if len = cap then (2 * cap) :: growSteps (2 * cap) (len + 1) k else growSteps cap (len + 1) k

/-- capacity after those pushes -/
def capAfter : Nat → Nat → Nat → Nat
  | cap, _, 0 => cap
  | cap, len, k + 1 => if len = cap then capAfter (2 * cap) (len + 1) k else capAfter cap (len + 1) k

theorem pushAll_grown (xs : List Nat) : ∀ (c : Cache),
    (c.pushAll xs).grown = c.grown ++ growSteps c.cap c.data.length xs.length ∧
    (c.pushAll xs).cap = capAfter c.cap c.data.length xs.length := by
  induction xs with
  | nil => exact fun c => ⟨(List.append_nil _).symm, rfl⟩
  | cons x xs ih =>
    intro c
    rw [pushAll_cons]
    obtain ⟨h1, h2⟩ := ih (c.push x)
    rw [h1, h2, push_data, List.length_append]
    -- both sides branch on `c.data.length = c.cap`, the test `push` makes for `x`
    dsimp only [List.length_cons, List.length_nil, growSteps, capAfter, Cache.push]
    split
    · exact ⟨List.append_assoc _ _ _, rfl⟩
    · exact ⟨rfl, rfl⟩

/-- no reallocation iff the entries fit the current capacity -/
theorem growSteps_eq_nil : ∀ (k cap len : Nat), len ≤ cap → (growSteps cap len k = [] ↔ (k = 0 ∨ len + k ≤ cap))
  | 0, _, _, _ => ⟨fun _ => .inl rfl, fun _ => rfl⟩
  | k + 1, cap, len, h => by
    unfold growSteps
    split
    · -- `len = cap`: the next push reallocates, and `len + (k + 1) ≤ cap` fails
      simp only [List.cons_ne_nil, false_iff]
      omega
    · rw [growSteps_eq_nil k cap (len + 1) (by omega)]
      omega

theorem capAfter_of_fit : ∀ (k cap len : Nat), len + k ≤ cap → capAfter cap len k = cap
  | 0, _, _, _ => rfl
  | k + 1, cap, len, h => by
    unfold capAfter
    rw [if_neg (by omega)]
    exact capAfter_of_fit k cap (len + 1) (by omega)

/-- `0 < cap`: doubling (`_capacity * 2`, `InlinedVector.h:57`) makes room only from a positive capacity; the vector
    starts with `_capacity{N}` (`:163`), `N = 12` for the size cache (`:170`) -/
theorem capAfter_ge : ∀ (k cap len : Nat), 0 < cap → len ≤ cap → cap ≤ capAfter cap len k ∧ len + k ≤ capAfter cap len k
  | 0, _, _, _, h => ⟨Nat.le_refl _, h⟩
  | k + 1, cap, len, hc, h => by
    unfold capAfter
    split
    · have := capAfter_ge k (2 * cap) (len + 1) (by omega) (by omega); omega
    · have := capAfter_ge k cap (len + 1) hc (by omega); omega

mutual
/-- takes no slot of the size cache, at any depth: no C string / `char[N]` / direct-format value inside and no
    container that caches its element count -/
def slotFree : Arg → Bool
  | .cstr _ => false
  | .carr _ => false
  | .direct _ => false
  | .seq ki _ elems => !ki.pushCount && slotFreeL elems
  | .optSome a => slotFree a
  | .pair a b => slotFree a && slotFree b
  | .tuple l => slotFreeL l
  | _ => true
def slotFreeL : List Arg → Bool
  | [] => true
  | a :: as => slotFree a && slotFreeL as
end

/-- a variable-length C-string argument: `char const*` / `char*` (null included) or `char[N]` -/
def cstrLike : Arg → Bool
  | .cstr _ => true
  | .carr _ => true
  | _ => false

def countCStr (args : List Arg) : Nat := (args.filter cstrLike).length

theorem slotFree_lens : ∀ (a : Arg), slotFree a = true → lens a = [] := by
  intro a
  induction a using Arg.rec (motive_2 := fun as => slotFreeL as = true → lensL as = []) with
  | cstr _ | carr _ | direct _ => exact fun h => nomatch h
  | seq ki es elems ih =>
    intro h
    have ⟨hpc, hl⟩ := Bool.and_eq_true_iff.mp h
    dsimp only [lens]
    rw [ih hl, Eq.mp (Bool.not_eq_true' _) hpc]
    cases (ki.fastSize && fastOK ki es) <;> rfl
  | optSome a ih => exact ih
  | pair a b iha ihb =>
    intro h
    have ⟨ha, hb⟩ := Bool.and_eq_true_iff.mp h
    dsimp only [lens]
    rw [iha ha, ihb hb]
    rfl
  | tuple l ih => exact ih
  | nil => rfl
  | cons a as iha ihas =>
    have ⟨ha, has⟩ := Bool.and_eq_true_iff.mp ‹slotFreeL (a :: as) = true›
    dsimp only [lensL]
    rw [iha ha, ihas has]
    rfl
  | _ => exact fun _ => rfl

theorem slotFreeL_lens (as : List Arg) (h : slotFreeL as = true) : lensL as = [] := slotFree_lens (.tuple as) h

theorem cstrLike_lens (a : Arg) (h : cstrLike a = true) : (lens a).length = 1 := by
  cases a with
  | cstr m => cases m <;> rfl
  | carr m => rfl
  | _ => cases h

/-- a statement made of C strings and of arguments that take no slot caches one length per C string -/
theorem budget_length : ∀ (args : List Arg), args.all (fun a => cstrLike a || slotFree a) = true →
    (lensL args).length = countCStr args
  | [], _ => rfl
  | a :: as, h => by
    simp only [List.all_cons, Bool.and_eq_true, Bool.or_eq_true] at h
    have ih := budget_length as h.2
    simp only [countCStr] at ih ⊢
    dsimp only [lensL]
    rw [List.length_append, ih, List.filter_cons]
    cases hc : cstrLike a
    · have hs : slotFree a = true := by simpa [hc] using h.1
      simp [slotFree_lens a hs]
    · simp [cstrLike_lens a hc]; omega

theorem Queue.reserve_events (q : Queue) (n : Nat) :
    (q.reserve n).1 =
      if q.fits n = false ∧ growTo 64 (2 * q.cap) n ≤ q.maxCap then [.queueGrow (growTo 64 (2 * q.cap) n)] else [] := by
  unfold Queue.reserve
  cases q.fits n
  · rw [if_neg Bool.false_ne_true]
    dsimp only
    by_cases hm : growTo 64 (2 * q.cap) n ≤ q.maxCap
    · rw [if_pos hm, if_pos ⟨rfl, hm⟩]
    · rw [if_neg hm, if_neg fun h => hm h.2]
  · rw [if_pos rfl, if_neg fun h => nomatch h.1]

theorem drain_cap (pub : Bool) (pct : Nat) (q : Queue) : (q.drain pub pct).cap = q.cap ∧ (q.drain pub pct).maxCap = q.maxCap := by
  unfold Queue.drain; split <;> simp

theorem drain_publish_used (pct : Nat) (q : Queue) : (q.drain true pct).used = 0 := by
  simp [Queue.drain]

theorem drain_publish_fits (pct : Nat) (q : Queue) (n : Nat) (h : n ≤ (q.drain true pct).cap) :
    (q.drain true pct).fits n = true := by
  unfold Queue.fits
  rw [drain_publish_used, Nat.sub_zero]
  exact decide_eq_true h

theorem run_append (f : Frame) (pub : Bool) (pct : Nat) (fe : Frontend) (ops1 ops2 : List FOp) :
    Frontend.run f pub pct fe (ops1 ++ ops2) = Frontend.run f pub pct (Frontend.run f pub pct fe ops1) ops2 := by
  simp [Frontend.run, List.foldl_append]

/-- after any history that ends with a pass consuming everything (reader position published), the queue grants every
    request up to its capacity -/
theorem fits_after_drain (f : Frame) (pct : Nat) (fe : Frontend) (ops : List FOp) (n : Nat)
    (hfit : n ≤ (Frontend.run f true pct fe (ops ++ [.drain])).queue.cap) :
    (Frontend.run f true pct fe (ops ++ [.drain])).queue.fits n = true := by
  rw [run_append] at hfit ⊢
  exact drain_publish_fits pct _ n hfit

/-- once a thread has logged it stays registered -/
theorem run_registered (f : Frame) (pub : Bool) (pct : Nat) : ∀ (ops : List FOp) (fe : Frontend),
    fe.registered = true → (Frontend.run f pub pct fe ops).registered = true
  | [], fe, h => by simpa [Frontend.run] using h
  | op :: ops, fe, h => by
    have : (Frontend.step f pub pct fe op).registered = true := by
      cases op
      · rfl
      · exact h
    simpa [Frontend.run] using run_registered f pub pct ops _ this

mutual
/-- the argument types C11 lists: no direct-format type, no filesystem path, no non trivially copyable deferred type
    anywhere inside -/
def listed : Arg → Bool
  | .seq ki es elems => !copiesPairs ki es && listedL elems
  | .optSome a => listed a
  | .pair a b => listed a && listed b
  | .tuple l => listedL l
  | .nonpod _ _ => false
  | .direct _ => false
  | .path _ => false
  | _ => true
def listedL : List Arg → Bool
  | [] => true
  | a :: as => listed a && listedL as
end

mutual
def countDirect : Arg → Nat
  | .seq _ _ elems => countDirectL elems
  | .optSome a => countDirect a
  | .pair a b => countDirect a + countDirect b
  | .tuple l => countDirectL l
  | .direct _ => 1
  | _ => 0
def countDirectL : List Arg → Nat
  | [] => 0
  | a :: as => countDirect a + countDirectL as
end

theorem listed_argEvents : ∀ (a : Arg), listed a = true → argEvents a = [] := by
  intro a
  induction a using Arg.rec (motive_2 := fun as => listedL as = true → argEventsL as = []) with
  | nonpod _ _ | direct _ | path _ => exact fun h => nomatch h
  | seq ki es elems ih =>
    intro h
    have ⟨hc, hl⟩ := Bool.and_eq_true_iff.mp h
    dsimp only [argEvents]
    rw [ih hl, Eq.mp (Bool.not_eq_true' _) hc]
    rfl
  | optSome a ih => exact ih
  | pair a b iha ihb =>
    intro h
    have ⟨ha, hb⟩ := Bool.and_eq_true_iff.mp h
    dsimp only [argEvents]
    rw [iha ha, ihb hb]
    rfl
  | tuple l ih => exact ih
  | nil => rfl
  | cons a as iha ihas =>
    have ⟨ha, has⟩ := Bool.and_eq_true_iff.mp ‹listedL (a :: as) = true›
    dsimp only [argEventsL]
    rw [iha ha, ihas has]
    rfl
  | _ => exact fun _ => rfl

theorem listedL_argEvents (as : List Arg) (h : listedL as = true) : argEventsL as = [] := listed_argEvents (.tuple as) h

def isFormat (e : Event) : Bool := e == .formatCall

theorem count_append (l1 l2 : List Event) : ((l1 ++ l2).filter isFormat).length =
    (l1.filter isFormat).length + (l2.filter isFormat).length := by
  simp [List.filter_append]

theorem format_count : ∀ (a : Arg), ((argEvents a).filter isFormat).length = 2 * countDirect a := by
  intro a
  induction a using Arg.rec (motive_2 := fun as => ((argEventsL as).filter isFormat).length = 2 * countDirectL as) with
  | seq ki es elems ih =>
    have hrep : ∀ n, ((List.replicate n Event.pairCopy).filter isFormat).length = 0 := by
      intro n; induction n with
      | zero => rfl
      | succ n ih => simp [List.replicate_succ, isFormat]
    dsimp only [argEvents, countDirect]
    rw [count_append, ih]
    split
    · rw [hrep, Nat.zero_add]
    · exact Nat.zero_add _
  | optSome a ih => exact ih
  | pair a b iha ihb =>
    dsimp only [argEvents, countDirect]
    rw [count_append, iha, ihb, Nat.mul_add]
  | tuple l ih => exact ih
  | nil => rfl
  | cons a as iha ihas =>
    dsimp only [argEventsL, countDirectL]
    rw [count_append, iha, ihas, Nat.mul_add]
  | _ => rfl

theorem format_countL (as : List Arg) : ((argEventsL as).filter isFormat).length = 2 * countDirectL as :=
  format_count (.tuple as)

def FOp.isLog : FOp → Bool | .log _ _ => true | .drain => false
def FOp.wf : FOp → Bool | .log args _ => wfL args | .drain => true

theorem logCall_cache (f : Frame) (fe : Frontend) (args : List Arg) (dyn : Bool) (h : wfL args = true) :
    (logCall f fe args dyn).2.cache = (startCache fe.cache args).pushAll (lensL args) := by
  unfold logCall
  simp only [sizeStatement_spec (fun _ => 0) fe.cache args 0 h]

theorem logCall_cache_cap (f : Frame) (fe : Frontend) (args : List Arg) (dyn : Bool) (h : wfL args = true)
    (hc : 0 < fe.cache.cap) :
    fe.cache.cap ≤ (logCall f fe args dyn).2.cache.cap ∧ (lensL args).length ≤ (logCall f fe args dyn).2.cache.cap := by
  rw [logCall_cache f fe args dyn h, (pushAll_grown _ _).2, (startCache_cap fe.cache args).1]
  rcases startCache_len fe.cache args with h0 | h0
  · rw [h0]
    have := capAfter_ge (lensL args).length fe.cache.cap 0 hc (Nat.zero_le _)
    omega
  · rw [h0]
    exact ⟨Nat.le_refl _, Nat.zero_le _⟩

theorem step_cache_cap (f : Frame) (pub : Bool) (pct : Nat) (fe : Frontend) (op : FOp) (hw : op.wf = true)
    (hc : 0 < fe.cache.cap) : fe.cache.cap ≤ (Frontend.step f pub pct fe op).cache.cap := by
  cases op with
  | drain => exact Nat.le_refl _
  | log args dyn => exact (logCall_cache_cap f fe args dyn hw hc).1

theorem run_cache_cap (f : Frame) (pub : Bool) (pct : Nat) : ∀ (ops : List FOp) (fe : Frontend),
    (∀ op ∈ ops, op.wf = true) → 0 < fe.cache.cap → fe.cache.cap ≤ (Frontend.run f pub pct fe ops).cache.cap
  | [], fe, _, _ => by simp [Frontend.run]
  | op :: ops, fe, hw, hc => by
    have h1 := step_cache_cap f pub pct fe op (hw op (by simp)) hc
    have h2 := run_cache_cap f pub pct ops (Frontend.step f pub pct fe op) (fun o ho => hw o (by simp [ho])) (by omega)
    simp only [Frontend.run, List.foldl_cons] at h2 ⊢
    omega

theorem run_registered_of_log (f : Frame) (pub : Bool) (pct : Nat) : ∀ (ops : List FOp) (fe : Frontend),
    (fe.registered = true ∨ ops.any FOp.isLog = true) → (Frontend.run f pub pct fe ops).registered = true
  | ops, fe, .inl h => run_registered f pub pct ops fe h
  | [], fe, .inr h => by simp at h
  | op :: ops, fe, .inr h => by
    simp only [Frontend.run, List.foldl_cons]
    cases op with
    | log args dyn =>
      exact run_registered f pub pct ops _ rfl
    | drain =>
      have h' : ops.any FOp.isLog = true := by simpa [FOp.isLog] using h
      exact run_registered_of_log f pub pct ops _ (.inr h')

theorem two_mul_mul_two_pow (cap fuel : Nat) : 2 * cap * 2 ^ fuel = cap * 2 ^ (fuel + 1) := by
  rw [Nat.pow_succ]; ac_rfl

theorem growTo_ge : ∀ (fuel cap n : Nat), n ≤ cap * 2 ^ fuel → n ≤ growTo fuel cap n
  | 0, cap, n, h => by rw [Nat.pow_zero, Nat.mul_one] at h; exact h
  | fuel + 1, cap, n, h => by
    unfold growTo
    split
    · exact growTo_ge fuel (2 * cap) n (by rw [two_mul_mul_two_pow]; exact h)
    · omega

end Codec
