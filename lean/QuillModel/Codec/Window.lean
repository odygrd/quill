import QuillModel.Codec.Lemmas
/-! The encode pass needs *every* entry of its window: a cache that ends inside the window makes it fault. Together with
    `encode_spec` (nothing outside the window matters, the index ends one past it) this pins the set of cache entries the
    encode pass consumes to exactly the entries the size pass pushed. -/
namespace Codec

/-- the cache ends strictly inside the window `xs` that should start at index `i` -/
def Short (c : Cache) (i : Nat) (xs : List Nat) : Prop := ∃ m, m < xs.length ∧ c.data.drop i = xs.take m

theorem Short.nil {c : Cache} {i : Nat} : ¬ Short c i [] := by
  rintro ⟨m, hm, _⟩; simp at hm

theorem Short.head_or {c : Cache} {i x : Nat} {xs : List Nat} (h : Short c i (x :: xs)) :
    c.data[i]? = none ∨ (c.data[i]? = some x ∧ Short c (i + 1) xs) := by
  obtain ⟨m, hm, hd⟩ := h
  cases m with
  | zero =>
    left
    have : (c.data.drop i).head? = none := by rw [hd]; rfl
    simpa [List.head?_drop] using this
  | succ m =>
    right
    have h1 : (c.data.drop i).head? = some x := by rw [hd]; rfl
    refine ⟨by simpa [List.head?_drop] using h1, m, by simpa using hm, ?_⟩
    have := congrArg List.tail hd
    simpa [List.tail_drop] using this

theorem Short.append {c : Cache} {i : Nat} {xs ys : List Nat} (h : Short c i (xs ++ ys)) :
    Short c i xs ∨ (Window c i xs ∧ Short c (i + xs.length) ys) := by
  obtain ⟨m, hm, hd⟩ := h
  by_cases hlt : m < xs.length
  · left
    exact ⟨m, hlt, by rw [hd, List.take_append_of_le_length (by omega)]⟩
  · right
    have hge : xs.length ≤ m := by omega
    have htake : (xs ++ ys).take m = xs ++ ys.take (m - xs.length) := by
      rw [List.take_append]
      rw [List.take_of_length_le hge]
    refine ⟨⟨ys.take (m - xs.length), by rw [hd, htake]⟩, m - xs.length, ?_, ?_⟩
    · simp only [List.length_append] at hm; omega
    · have := congrArg (List.drop xs.length) hd
      rw [List.drop_drop] at this
      rw [this, htake, List.drop_left]

theorem Short.single {c : Cache} {i x : Nat} (h : Short c i [x]) : c.data[i]? = none :=
  h.head_or.elim id (fun h' => absurd h'.2 Short.nil)

theorem countRead_short {pc : Bool} {c : Cache} {i n : Nat} {xs : List Nat}
    (hs : Short c i ((if pc = true then [n % U32] else []) ++ xs)) :
    (if pc then (c.data[i]?).map (fun m => (m, i + 1)) else some (n, i)) = none ∨
      ∃ m i0, (if pc then (c.data[i]?).map (fun m => (m, i + 1)) else some (n, i)) = some (m, i0) ∧ Short c i0 xs := by
  cases pc
  · exact .inr ⟨n, i, rfl, hs⟩
  · rcases Short.head_or hs with h0 | ⟨h0, h1⟩
    · left
      rw [if_pos rfl, h0]
      rfl
    · right
      exact ⟨n % U32, i + 1, by rw [if_pos rfl, h0]; rfl, h1⟩

theorem encode_faults (old : Mem) :
    (∀ a, wf a = true → ∀ (c : Cache) (i pos : Nat), Short c i (lens a) → encode old c i pos a = none) ∧
    (∀ as, wfL as = true → ∀ (c : Cache) (i pos : Nat), Short c i (lensL as) → encodeL old c i pos as = none) := by
  apply wf_induct
  case prim | str | optNone | pod | nonpod | sref | path | nil => intros; exact absurd ‹Short _ _ _› Short.nil
  case cstrNull =>
    intro c i pos hs
    dsimp only [encode]
    rw [hs.single]
  case cstr | carr | direct =>
    intro _ _ c i pos hs
    dsimp only [encode]
    rw [hs.single]
  case seq =>
    intro ki es elems _ _ hh ih c i pos hs
    rw [lens_seq hh] at hs
    dsimp only [encode]
    -- either the cached element count is missing, or the elements' window is short
    rcases countRead_short hs with h0 | ⟨n, i0, h0, h1⟩
    · rw [h0]
    · rw [h0]
      dsimp only
      by_cases hfe : (ki.fastEncode && fastOK ki es) = true
      · rw [fast_lensL (Bool.and_eq_true_iff.mp hfe).2 hh] at h1
        exact absurd h1 Short.nil
      · rw [if_neg hfe, ih c i0 _ h1]
  case optSome =>
    intro a ih c i pos hs
    dsimp only [encode]
    rw [ih c i (pos + 1) hs]
  case pair =>
    intro a b ha _ iha ihb c i pos hs
    dsimp only [encode]
    rcases Short.append hs with h1 | ⟨h1, h2⟩
    · rw [iha c i pos h1]
    · rw [encode_spec old a c i pos ha h1]
      dsimp only
      rw [ihb c _ _ h2]
  case tuple => intro l ih c i pos hs; exact ih c i pos hs
  case cons =>
    intro a as ha _ iha ihas c i pos hs
    dsimp only [encodeL]
    rcases Short.append hs with h1 | ⟨h1, h2⟩
    · rw [iha c i pos h1]
    · rw [encode_spec old a c i pos ha h1]
      dsimp only
      rw [ihas c _ _ h2]

theorem encode_short (old : Mem) (a : Arg) (c : Cache) (i pos : Nat) (h : wf a = true) (hs : Short c i (lens a)) :
    encode old c i pos a = none := (encode_faults old).1 a h c i pos hs

theorem encodeL_short (old : Mem) : ∀ (as : List Arg) (c : Cache) (i pos : Nat), wfL as = true → Short c i (lensL as) →
    encodeL old c i pos as = none :=
  fun as c i pos h hs => (encode_faults old).2 as h c i pos hs

end Codec
