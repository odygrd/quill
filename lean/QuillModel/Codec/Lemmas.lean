import QuillModel.Codec.Basic
/-! The three structural inductions behind C04: size pass = spec, encode pass = spec on the cached window,
    decode ∘ encode = documented view. -/
namespace Codec

/-- along the recursion of `Shape.beq`/`Shape.beqL`: the constructor pairs the test compares, and one case each for
    "any other pair", where the test is `false` -/
theorem Shape.beq_sound :
    (∀ a b, Shape.beq a b = true → a = b) ∧ (∀ l l', Shape.beqL l l' = true → l = l') := by
  apply Shape.beq.mutual_induct
  case case1 | case11 =>
    intro _ _ _ _
    dsimp only [Shape.beq]
    simp only [Bool.and_eq_true, decide_eq_true_eq]
    rintro ⟨rfl, rfl⟩
    rfl
  case case3 | case10 =>
    intro _ _
    dsimp only [Shape.beq]
    simp only [decide_eq_true_eq]
    rintro rfl
    rfl
  case case2 | case4 | case12 | case13 | case14 | case16 => intro _; rfl
  case case5 | case7 | case9 => intro a b ih h; rw [ih h]
  case case6 =>
    intro n a n' b ih
    dsimp only [Shape.beq]
    simp only [Bool.and_eq_true, decide_eq_true_eq]
    rintro ⟨rfl, h⟩
    rw [ih h]
  case case8 =>
    intro a b a' b' iha ihb
    dsimp only [Shape.beq]
    simp only [Bool.and_eq_true]
    rintro ⟨h1, h2⟩
    rw [iha h1, ihb h2]
  case case17 =>
    intro a as b bs iha ihb
    dsimp only [Shape.beqL]
    simp only [Bool.and_eq_true]
    rintro ⟨h1, h2⟩
    rw [iha h1, ihb h2]
  case case15 => intros; simp only [Shape.beq, *] at *; contradiction
  case case18 => intros; simp only [Shape.beqL, *] at *; contradiction

theorem Shape.beq_eq : ∀ (a b : Shape), Shape.beq a b = true → a = b := Shape.beq_sound.1

theorem Shape.beqL_eq : ∀ (a b : List Shape), Shape.beqL a b = true → a = b := Shape.beq_sound.2

theorem Shape.beq_refl (a : Shape) : Shape.beq a a = true := by
  induction a using Shape.rec (motive_2 := fun l => Shape.beqL l l = true) with
  | prim _ _ | carr _ | pod _ | nonpod _ _ => dsimp only [Shape.beq]; simp
  | seq a ih | opt a ih | tuple l ih => exact ih
  | arr n a ih => dsimp only [Shape.beq]; rw [ih]; simp
  | pair a b iha ihb => dsimp only [Shape.beq]; rw [iha, ihb]; rfl
  | cons a as iha ihas => dsimp only [Shape.beqL]; rw [iha, ihas]; rfl
  | _ => rfl

theorem Shape.beqL_refl : ∀ (a : List Shape), Shape.beqL a a = true := fun a => Shape.beq_refl (.tuple a)

instance : DecidableEq Shape := fun a b =>
  if h : Shape.beq a b = true then isTrue (Shape.beq_eq a b h)
  else isFalse (fun e => h (e ▸ Shape.beq_refl a))

theorem homog_cons {es : Shape} {a : Arg} {as : List Arg} (h : homog es (a :: as) = true) :
    shapeOf a = es ∧ wf a = true ∧ homog es as = true := by
  simp only [homog, Bool.and_eq_true] at h
  exact ⟨Shape.beq_eq _ _ h.1.1, h.1.2, h.2⟩

theorem homog_wfL {es : Shape} : ∀ {as : List Arg}, homog es as = true → wfL as = true
  | [], _ => rfl
  | a :: as, h => by
    obtain ⟨_, h2, h3⟩ := homog_cons h
    exact Bool.and_eq_true_iff.mpr ⟨h2, homog_wfL h3⟩

theorem shapeOf_prim_inv {a : Arg} {k : PrimKind} {w : Nat} (h : shapeOf a = .prim k w) :
    ∃ b, a = .prim k b ∧ b.length = w := by
  cases a with
  | prim k' b => cases h; exact ⟨b, rfl, rfl⟩
  | seq ki es elems => dsimp only [shapeOf] at h; split at h <;> cases h
  | _ => cases h

theorem shapeOf_pair_inv {a : Arg} {s1 s2 : Shape} (h : shapeOf a = .pair s1 s2) :
    ∃ x y, a = .pair x y ∧ shapeOf x = s1 ∧ shapeOf y = s2 := by
  cases a with
  | pair x y => cases h; exact ⟨x, y, rfl, rfl, rfl⟩
  | seq ki es elems => dsimp only [shapeOf] at h; split at h <;> cases h
  | _ => cases h

/-- an element type that qualifies for the shortcut: every element is a plain object (or a pair of two) -/
inductive FastElem : Shape → Arg → Prop
  | prim (k : PrimKind) (b : Bytes) : FastElem (.prim k b.length) (.prim k b)
  | pair (k1 k2 : PrimKind) (b1 b2 : Bytes) :
      FastElem (.pair (.prim k1 b1.length) (.prim k2 b2.length)) (.pair (.prim k1 b1) (.prim k2 b2))

theorem fastElem_of {ki : KindInfo} {es : Shape} {a : Arg} (hf : fastOK ki es = true) (hs : shapeOf a = es) :
    FastElem es a := by
  revert hf
  fun_cases fastOK ki es
  case case1 k w =>
    obtain ⟨b, rfl, rfl⟩ := shapeOf_prim_inv hs
    exact fun _ => .prim k b
  case case2 k1 w1 k2 w2 =>
    obtain ⟨x, y, rfl, hx, hy⟩ := shapeOf_pair_inv hs
    obtain ⟨b1, rfl, rfl⟩ := shapeOf_prim_inv hx
    obtain ⟨b2, rfl, rfl⟩ := shapeOf_prim_inv hy
    exact fun _ => .pair k1 k2 b1 b2
  case case3 => intro hf; contradiction

theorem FastElem.lens_nil {es : Shape} {a : Arg} (h : FastElem es a) : lens a = [] := by
  cases h <;> rfl

theorem FastElem.enc_length {es : Shape} {a : Arg} (h : FastElem es a) (old : Mem) (pos : Nat) :
    (enc old pos a).length = fastWidth es := by
  cases h
  · rfl
  · dsimp only [enc, fastWidth]
    rw [List.length_append]

theorem fast_lensL {ki : KindInfo} {es : Shape} (hf : fastOK ki es = true) :
    ∀ {as : List Arg}, homog es as = true → lensL as = []
  | [], _ => rfl
  | a :: as, h => by
    obtain ⟨h1, _, h3⟩ := homog_cons h
    rw [lensL, (fastElem_of hf h1).lens_nil, fast_lensL hf h3]
    rfl

theorem fast_width {ki : KindInfo} {es : Shape} (hf : fastOK ki es = true) (old : Mem) :
    ∀ {as : List Arg} (pos : Nat), homog es as = true → fastWidth es * as.length = (encL old pos as).length
  | [], _, _ => rfl
  | a :: as, pos, h => by
    obtain ⟨h1, _, h3⟩ := homog_cons h
    rw [encL, List.length_append, (fastElem_of hf h1).enc_length, ← fast_width hf old _ h3, List.length_cons,
      Nat.mul_succ, Nat.add_comm]

theorem fast_bytes {ki : KindInfo} {es : Shape} (hf : fastOK ki es = true) (hm : ki.mapLike = false) (old : Mem) :
    ∀ {as : List Arg} (pos : Nat), homog es as = true → fastBytes as = encL old pos as
  | [], _, _ => rfl
  | a :: as, pos, h => by
    obtain ⟨h1, _, h3⟩ := homog_cons h
    cases fastElem_of hf h1 with
    | prim k b => rw [fastBytes, encL, enc, fast_bytes hf hm old _ h3]
    | pair => rw [fastOK, hm] at hf; cases hf

theorem cLen_of_lt {n : Nat} (h : n + 1 < u32max) : cLen n = n + 1 := by
  unfold cLen; omega

theorem nulIdx_eq_length (m : Bytes) : (m.takeWhile nz).length = nulIdx m := rfl

theorem memRange_length (old : Mem) (p n : Nat) : (memRange old p n).length = n := by
  simp [memRange]

theorem padOf_lt {al : Nat} (h : 0 < al) (pos : Nat) : padOf al pos < al := Nat.mod_lt _ h

theorem enc_nonpod_length (old : Mem) {al : Nat} (h : 0 < al) (pos : Nat) (obj : Bytes) :
    (enc old pos (.nonpod al obj)).length = obj.length + al - 1 := by
  have := padOf_lt h pos
  dsimp only [enc]
  -- pad + |obj| + (al - 1 - pad), with pad < al
  rw [List.length_append, List.length_append, memRange_length, memRange_length, Nat.add_right_comm,
    Nat.add_sub_cancel' (Nat.le_sub_one_of_lt this), Nat.add_sub_assoc h, Nat.add_comm]

/-- induction over well-formed arguments: every case comes with what `wf` says about it, the recursive ones with
    the statement for their parts; the four structural results about the two passes and the decoder are instances -/
theorem wf_induct {P : Arg → Prop} {Q : List Arg → Prop}
    (prim : ∀ k b, P (.prim k b))
    (cstrNull : P (.cstr none))
    (cstr : ∀ m, nulIdx m + 1 < u32max → P (.cstr (some m)))
    (carr : ∀ m, nulIdx m + 1 < u32max → P (.carr m))
    (str : ∀ s, s.length < U32 → P (.str s))
    (seq : ∀ ki es elems, ki.ok = true → elems.length < U32 → homog es elems = true → Q elems → P (.seq ki es elems))
    (optNone : ∀ es, P (.optNone es))
    (optSome : ∀ a, P a → P (.optSome a))
    (pair : ∀ a b, wf a = true → wf b = true → P a → P b → P (.pair a b))
    (tuple : ∀ l, Q l → P (.tuple l))
    (pod : ∀ obj, P (.pod obj))
    (nonpod : ∀ al obj, 0 < al → P (.nonpod al obj))
    (direct : ∀ text, text.length < U32 → P (.direct text))
    (sref : ∀ ptr len, ptr.length = 8 → len < U64 → P (.sref ptr len))
    (path : ∀ s, s.length < U32 → P (.path s))
    (nil : Q [])
    (cons : ∀ a as, wf a = true → wfL as = true → P a → Q as → Q (a :: as)) :
    (∀ a, wf a = true → P a) ∧ (∀ as, wfL as = true → Q as) := by
  have consL : ∀ a as, (wf a = true → P a) → (wfL as = true → Q as) → wfL (a :: as) = true → Q (a :: as) :=
    fun a as iha ihas h =>
      have ⟨ha, has⟩ := Bool.and_eq_true_iff.mp h
      cons a as ha has (iha ha) (ihas has)
  have arg : ∀ a, wf a = true → P a := by
    intro a
    induction a using Arg.rec (motive_2 := fun as => wfL as = true → Q as) with
    | prim k b => exact fun _ => prim k b
    | cstr m =>
      cases m with
      | none => exact fun _ => cstrNull
      | some m => exact fun h => cstr m (of_decide_eq_true h)
    | carr m => exact fun h => carr m (of_decide_eq_true h)
    | str s => exact fun h => str s (of_decide_eq_true h)
    | seq ki es elems ih =>
      intro h
      have ⟨h1, hh⟩ := Bool.and_eq_true_iff.mp h
      have ⟨hok, hn⟩ := Bool.and_eq_true_iff.mp h1
      exact seq ki es elems hok (of_decide_eq_true hn) hh (ih (homog_wfL hh))
    | optNone es => exact fun _ => optNone es
    | optSome a ih => exact fun h => optSome a (ih h)
    | pair a b iha ihb =>
      intro h
      have ⟨ha, hb⟩ := Bool.and_eq_true_iff.mp h
      exact pair a b ha hb (iha ha) (ihb hb)
    | tuple l ih => exact fun h => tuple l (ih h)
    | pod obj => exact fun _ => pod obj
    | nonpod al obj => exact fun h => nonpod al obj (of_decide_eq_true h)
    | direct text => exact fun h => direct text (of_decide_eq_true h)
    | sref ptr len =>
      intro h
      have ⟨hp, hl⟩ := Bool.and_eq_true_iff.mp h
      exact sref ptr len (of_decide_eq_true hp) (of_decide_eq_true hl)
    | path s => exact fun h => path s (of_decide_eq_true h)
    | nil => exact nil
    | cons a as iha ihas => exact consL a as iha ihas ‹_›
  refine ⟨arg, fun as => ?_⟩
  induction as with
  | nil => exact fun _ => nil
  | cons a as ih => exact consL a as (arg a) ih

theorem sizePass_sound (old : Mem) :
    (∀ a, wf a = true → ∀ (c : Cache) (pos : Nat), sizePass c a = ((enc old pos a).length, c.pushAll (lens a))) ∧
    (∀ as, wfL as = true → ∀ (c : Cache) (pos : Nat), sizePassL c as = ((encL old pos as).length, c.pushAll (lensL as))) := by
  apply wf_induct
  case prim | cstrNull | optNone | pod | nil => intros; rfl
  case cstr | carr =>
    intro m h c pos
    dsimp only [sizePass, enc, lens]
    rw [cLen_of_lt h, List.length_append, nulIdx_eq_length]
    rfl
  case str | direct | path =>
    intro s h c pos
    dsimp only [sizePass, enc, lens]
    rw [Nat.mod_eq_of_lt h, List.length_append, leBytes_length]
    rfl
  case seq =>
    intro ki es elems _ hn hh ih c pos
    have hr : ∀ c0 p, (if (ki.fastSize && fastOK ki es) = true then (fastWidth es * elems.length, c0) else sizePassL c0 elems)
        = ((encL old p elems).length, c0.pushAll (if (ki.fastSize && fastOK ki es) = true then [] else lensL elems)) := by
      intro c0 p
      split
      · rename_i hf
        simp only [Bool.and_eq_true] at hf
        rw [fast_width hf.2 old p hh, pushAll_nil]
      · exact ih c0 p
    dsimp only [sizePass, enc, lens]
    have hpre : (if ki.hasPrefix = true then leBytes 8 elems.length else []).length =
        if ki.hasPrefix = true then 8 else 0 := by
      cases ki.hasPrefix <;> rfl
    rw [hr _ (pos + (if ki.hasPrefix = true then 8 else 0)), List.length_append, hpre]
    cases ki.pushCount
    · rfl
    · exact congrArg (Prod.mk _) (pushAll_assign c _ _)
  case optSome =>
    intro a ih c pos
    dsimp only [sizePass, enc, lens]
    rw [ih c (pos + 1), List.length_cons, Nat.add_comm]
  case pair =>
    intro a b _ _ iha ihb c pos
    dsimp only [sizePass, enc, lens]
    rw [iha c pos, ihb _ (pos + (enc old pos a).length), pushAll_append, List.length_append]
  case tuple => intro l ih c pos; exact ih c pos
  case nonpod =>
    intro al obj h c pos
    dsimp only [sizePass, lens]
    rw [enc_nonpod_length old h]
    rfl
  case sref =>
    intro ptr len hp _ c pos
    dsimp only [sizePass, enc, lens]
    rw [List.length_append, leBytes_length, hp]
    rfl
  case cons =>
    intro a as _ _ iha ihas c pos
    dsimp only [sizePassL, encL, lensL]
    rw [iha c pos, ihas _ (pos + (enc old pos a).length), pushAll_append, List.length_append]

theorem sizePass_spec (old : Mem) (a : Arg) (c : Cache) (pos : Nat) (h : wf a = true) :
    sizePass c a = ((enc old pos a).length, c.pushAll (lens a)) := (sizePass_sound old).1 a h c pos

theorem sizePassL_spec (old : Mem) (as : List Arg) (c : Cache) (pos : Nat) (h : wfL as = true) :
    sizePassL c as = ((encL old pos as).length, c.pushAll (lensL as)) := (sizePass_sound old).2 as h c pos

theorem take_nulIdx_succ : ∀ (m : Bytes), nulIdx m < m.length → m.take (nulIdx m + 1) = m.takeWhile nz ++ [0]
  | [], h => absurd h (Nat.lt_irrefl 0)
  | b :: bs, h => by
    unfold nulIdx at h ⊢
    by_cases hb : nz b = true
    · rw [List.takeWhile_cons_of_pos hb] at h ⊢
      rw [List.length_cons, List.take_succ_cons, List.cons_append, ← take_nulIdx_succ bs (Nat.lt_of_succ_lt_succ h)]
      rfl
    · rw [List.takeWhile_cons_of_neg hb]
      have : b = 0 := by simpa [nz] using hb
      rw [this]
      rfl

/-- a seq's cached lengths: its element count when the family caches it, then its elements' lengths (none on the fast path) -/
theorem lens_seq {ki : KindInfo} {es : Shape} {elems : List Arg} (hh : homog es elems = true) :
    lens (.seq ki es elems) = (if ki.pushCount = true then [elems.length % U32] else []) ++ lensL elems := by
  dsimp only [lens]
  cases hf : (ki.fastSize && fastOK ki es)
  · rfl
  · rw [fast_lensL (Bool.and_eq_true_iff.mp hf).2 hh]
    rfl

/-- what the encode pass of a container starts from, the element count and the next cache index: the count is read
    back from the cache by the families that cache it (`forward_list`) and asked of the container by the others -/
theorem countRead_window {pc : Bool} {c : Cache} {i n : Nat} {xs : List Nat} (hn : n < U32)
    (hw : Window c i ((if pc = true then [n % U32] else []) ++ xs)) :
    ∃ i0, (if pc then (c.data[i]?).map (fun m => (m, i + 1)) else some (n, i)) = some (n, i0) ∧ Window c i0 xs ∧
      i0 + xs.length = i + ((if pc = true then [n % U32] else []) ++ xs).length := by
  cases pc
  · exact ⟨i, rfl, hw, rfl⟩
  · refine ⟨i + 1, ?_, hw.tail, ?_⟩
    · rw [if_pos rfl, hw.head, Nat.mod_eq_of_lt hn]
      rfl
    · simp only [if_true, List.length_append, List.length_singleton]
      omega

theorem encode_sound (old : Mem) :
    (∀ a, wf a = true → ∀ (c : Cache) (i pos : Nat), Window c i (lens a) →
      encode old c i pos a = some (enc old pos a, i + (lens a).length)) ∧
    (∀ as, wfL as = true → ∀ (c : Cache) (i pos : Nat), Window c i (lensL as) →
      encodeL old c i pos as = some (encL old pos as, i + (lensL as).length)) := by
  apply wf_induct
  case prim | optNone | pod | nonpod | sref | nil => intros; rfl
  case cstrNull =>
    intro c i pos hw
    dsimp only [encode]
    rw [hw.head]
    rfl
  case cstr =>
    intro m h c i pos hw
    dsimp only [lens] at hw
    rw [cLen_of_lt h] at hw
    have := nulIdx_le m
    have hn : ¬ (nulIdx m + 1 = 0 ∨ m.length < nulIdx m) := by omega
    dsimp only [encode, enc, lens]
    rw [hw.head]
    simp only [Option.getD_some, Nat.add_sub_cancel, hn, if_false, takeWhile_eq_take_nulIdx, List.length_singleton]
  case carr =>
    intro m h c i pos hw
    dsimp only [lens] at hw
    rw [cLen_of_lt h] at hw
    have hle := nulIdx_le m
    dsimp only [encode, enc, lens]
    rw [hw.head]
    dsimp only
    by_cases hlt : m.length < nulIdx m + 1
    · have he : nulIdx m = m.length := by omega
      rw [if_pos hlt, if_pos (by rw [he]), takeWhile_eq_take_nulIdx, he, List.take_length]
      rfl
    · rw [if_neg hlt, take_nulIdx_succ m (by omega)]
      rfl
  case str | path =>
    intro s h c i pos _
    dsimp only [encode, enc, lens]
    rw [Nat.mod_eq_of_lt h, List.take_length]
    rfl
  case seq =>
    intro ki es elems hok hn hh ih c i pos hw
    rw [lens_seq hh] at hw ⊢
    obtain ⟨i0, h1, h2, h3⟩ := countRead_window hn hw
    dsimp only [encode, enc]
    rw [h1]
    dsimp only
    by_cases hfe : (ki.fastEncode && fastOK ki es) = true
    · have ⟨hfe1, hfe2⟩ := Bool.and_eq_true_iff.mp hfe
      have hm : ki.mapLike = false := by
        unfold KindInfo.ok at hok
        rw [hfe1, Bool.and_true] at hok
        exact (Bool.not_eq_true' _).mp hok
      rw [if_pos hfe, fast_bytes hfe2 hm old (pos + (if ki.hasPrefix = true then 8 else 0)) hh, ← h3,
        fast_lensL hfe2 hh]
      rfl
    · rw [if_neg hfe, ih c i0 _ h2, h3]
      cases ki.hasPrefix <;> rfl
  case optSome =>
    intro a ih c i pos hw
    dsimp only [encode, enc, lens]
    rw [ih c i (pos + 1) hw]
  case pair =>
    intro a b _ _ iha ihb c i pos hw
    dsimp only [encode, enc, lens]
    rw [iha c i pos hw.left]
    dsimp only
    rw [ihb c _ _ hw.right, List.length_append, Nat.add_assoc]
  case tuple => intro l ih c i pos hw; exact ih c i pos hw
  case direct =>
    intro text h c i pos hw
    dsimp only [lens] at hw
    rw [Nat.mod_eq_of_lt h] at hw
    dsimp only [encode, enc, lens]
    rw [hw.head]
    simp only [Nat.lt_irrefl, if_false, List.take_length, List.length_singleton]
  case cons =>
    intro a as _ _ iha ihas c i pos hw
    dsimp only [encodeL, encL, lensL]
    rw [iha c i pos hw.left]
    dsimp only
    rw [ihas c _ _ hw.right, List.length_append, Nat.add_assoc]

theorem encode_spec (old : Mem) (a : Arg) (c : Cache) (i pos : Nat) (h : wf a = true) (hw : Window c i (lens a)) :
    encode old c i pos a = some (enc old pos a, i + (lens a).length) := (encode_sound old).1 a h c i pos hw

theorem encodeL_spec (old : Mem) (as : List Arg) (c : Cache) (i pos : Nat) (h : wfL as = true)
    (hw : Window c i (lensL as)) : encodeL old c i pos as = some (encL old pos as, i + (lensL as).length) :=
  (encode_sound old).2 as h c i pos hw

theorem len_sub (a b : Bytes) : (a ++ b).length - b.length = a.length := by simp
theorem len_sub3 (a b r : Bytes) : (a ++ b ++ r).length - (b ++ r).length = a.length := by
  simp only [List.length_append]; omega

/-- An element list is read in two ways, hence the two conjuncts for lists: a tuple decodes every element by its own
    shape (`decodeL`), a container decodes all of them by its one element shape (`decodeN`, under `homog`). The decoder
    advances its position by the number of bytes the element consumed (`bs.length - r.length`); `len_sub` turns that
    into the length of the element's encoding, which is how the encoder advances. -/
theorem decode_sound (old : Mem) :
    (∀ a, wf a = true → ∀ (pos : Nat) (rest : Bytes),
      decode (shapeOf a) pos (enc old pos a ++ rest) = some (view a, rest)) ∧
    (∀ as, wfL as = true →
      (∀ (pos : Nat) (rest : Bytes), decodeL (shapesOf as) pos (encL old pos as ++ rest) = some (viewL as, rest)) ∧
      (∀ (es : Shape) (pos : Nat) (rest : Bytes), homog es as = true →
        decodeN (decode es) as.length pos (encL old pos as ++ rest) = some (viewL as, rest))) := by
  apply wf_induct
  case prim =>
    intro k b pos rest
    dsimp only [decode, shapeOf, enc, view]
    rw [List.take_left, List.drop_left, if_neg (by simp)]
  case cstrNull => intro pos rest; exact decodeCStr_spec [] rest
  case cstr | carr => intro m _ pos rest; exact decodeCStr_spec m rest
  case str | direct | path =>
    intro s h pos rest
    dsimp only [decode, shapeOf, enc, view]
    rw [decodeLenPrefixed_spec s rest h]
    rfl
  case seq =>
    intro ki es elems _ hn hh ih pos rest
    dsimp only [shapeOf, enc, view]
    cases ki.hasPrefix
    · simp only [Bool.false_eq_true, if_false, List.nil_append, Nat.add_zero]
      dsimp only [decode]
      rw [ih.2 es pos rest hh]
    · have h8 : (leBytes 8 elems.length).length = 8 := leBytes_length _ _
      have hv : leVal (leBytes 8 elems.length) = elems.length := leVal8 _ (by unfold U64; unfold U32 at hn; omega)
      have hnl : ¬ (leBytes 8 elems.length ++ encL old (pos + 8) elems ++ rest).length < 8 := by
        rw [List.append_assoc, List.length_append, h8]; omega
      simp only [if_true]
      dsimp only [decode]
      rw [if_neg hnl, List.append_assoc, List.take_left' h8, List.drop_left' h8, hv, ih.2 es (pos + 8) rest hh]
  case optNone => intros; rfl
  case optSome =>
    intro a ih pos rest
    dsimp only [decode, shapeOf, enc, view]
    rw [List.cons_append]
    dsimp only
    rw [if_neg (by decide), ih (pos + 1) rest]
  case pair =>
    intro a b _ _ iha ihb pos rest
    dsimp only [decode, shapeOf, enc, view]
    rw [List.append_assoc, iha pos _]
    dsimp only
    rw [len_sub, ihb _ rest]
  case tuple =>
    intro l ih pos rest
    dsimp only [decode, shapeOf, enc, view]
    rw [ih.1 pos rest]
  case pod =>
    intro obj pos rest
    dsimp only [decode, shapeOf, enc, view]
    rw [List.take_left, List.drop_left, if_neg (by simp)]
  case nonpod =>
    intro al obj h pos rest
    dsimp only [decode, shapeOf, view]
    rw [← enc_nonpod_length old h pos obj, List.drop_left,
      if_neg (Nat.not_lt.mpr (by rw [List.length_append]; exact Nat.le_add_right _ _))]
    dsimp only [enc]
    rw [List.append_assoc, List.append_assoc, List.drop_left' (memRange_length old pos _), List.take_left]
  case sref =>
    intro ptr len hp hl pos rest
    have h8 : (leBytes 8 len).length = 8 := leBytes_length _ _
    have h16 : (ptr ++ leBytes 8 len).length = 16 := by rw [List.length_append, hp, h8]
    dsimp only [decode, shapeOf, enc, view]
    rw [if_neg (by rw [List.length_append, h16]; omega), List.drop_left' h16, List.append_assoc,
      List.take_left' hp, List.drop_left' hp, List.take_left' h8, leVal8 len hl]
  case nil => exact ⟨fun _ _ => rfl, fun _ _ _ _ => rfl⟩
  case cons =>
    intro a as _ _ iha ihas
    constructor
    · intro pos rest
      dsimp only [decodeL, shapesOf, encL, viewL]
      rw [List.append_assoc, iha pos _]
      dsimp only
      rw [len_sub, ihas.1 _ rest]
    · intro es pos rest h
      obtain ⟨hs, _, hh⟩ := homog_cons h
      dsimp only [decodeN, List.length_cons, encL, viewL]
      rw [List.append_assoc, ← hs, iha pos _]
      dsimp only
      rw [len_sub, hs, ihas.2 es _ rest hh]

theorem decode_spec (old : Mem) (a : Arg) (pos : Nat) (rest : Bytes) (h : wf a = true) :
    decode (shapeOf a) pos (enc old pos a ++ rest) = some (view a, rest) := (decode_sound old).1 a h pos rest

theorem decodeL_spec (old : Mem) (as : List Arg) (pos : Nat) (rest : Bytes) (h : wfL as = true) :
    decodeL (shapesOf as) pos (encL old pos as ++ rest) = some (viewL as, rest) := ((decode_sound old).2 as h).1 pos rest

theorem decodeN_spec (old : Mem) : ∀ (as : List Arg) (es : Shape) (pos : Nat) (rest : Bytes), homog es as = true →
    decodeN (decode es) as.length pos (encL old pos as ++ rest) = some (viewL as, rest) :=
  fun as es pos rest h => ((decode_sound old).2 as (homog_wfL h)).2 es pos rest h

end Codec
