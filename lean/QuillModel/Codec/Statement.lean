import QuillModel.Codec.Lemmas
/-! The cache-clearing rule (`startCache`: the cache a statement's size pass starts from), the two passes of a statement on
any cache, the sanitiser. -/
namespace Codec

theorem noClear_lensL : ∀ (args : List Arg), args.any needsClear = false → lensL args = []
  | [], _ => rfl
  | a :: as, h => by
    have ⟨ha, has⟩ := Bool.or_eq_false_iff.mp h
    have : lens a = [] := by
      revert ha
      fun_cases needsClear a
      · exact fun _ => rfl
      · exact fun _ => rfl
      · intro h; contradiction
    rw [lensL, this, noClear_lensL as has]
    rfl

/-- the cache the size pass of a statement starts from -/
def startCache (c : Cache) (args : List Arg) : Cache := if args.any needsClear then c.clear else c

/-- the cache the size pass starts from has no live entries that matter: it was cleared, or nothing will be pushed -/
theorem startCache_len (c : Cache) (args : List Arg) :
    (startCache c args).data.length = 0 ∨ lensL args = [] := by
  unfold startCache
  cases h : args.any needsClear
  · right; exact noClear_lensL args h
  · left; simp [Cache.clear]

theorem startCache_cap (c : Cache) (args : List Arg) :
    (startCache c args).cap = c.cap ∧ (startCache c args).grown = c.grown := by
  unfold startCache; split <;> simp [Cache.clear]

theorem sizeStatement_spec (old : Mem) (c : Cache) (args : List Arg) (pos : Nat) (h : wfL args = true) :
    sizeStatement c args = ((encL old pos args).length, (startCache c args).pushAll (lensL args)) := by
  unfold sizeStatement startCache
  exact sizePassL_spec old args _ pos h

/-- whatever the cache held before the statement, the encode pass finds this statement's lengths from index 0 -/
theorem window_statement (c : Cache) (args : List Arg) :
    Window ((startCache c args).pushAll (lensL args)) 0 (lensL args) := by
  rcases startCache_len c args with h0 | h0
  · have := Window.of_pushAll (startCache c args) (lensL args)
    rwa [h0] at this
  · rw [h0]
    exact Window.nil _ _

theorem sizeStatementAt_true (c : Cache) (args : List Arg) : sizeStatementAt true c args = sizeStatement c args := by
  simp [sizeStatementAt, sizeStatement]

/-- with the `clear()` at the start of the size pass a dropped statement and a logged one leave the same cache -/
theorem StmtOp.apply_true (c : Cache) (op : StmtOp) : op.apply true c = (sizeStatement c op.args).2 := by
  cases op <;> simp [StmtOp.apply, StmtOp.args, sizeStatementAt_true]

/-- the two passes of a statement on *any* cache: the size pass reserves the length of the specified encoding, the
    encode pass writes exactly it -/
theorem passes_spec (old : Mem) (c : Cache) (args : List Arg) (pos : Nat) (h : wfL args = true) :
    ((sizeStatement c args).1, (encodeL old (sizeStatement c args).2 0 pos args).map (·.1)) =
      ((encL old pos args).length, some (encL old pos args)) := by
  rw [sizeStatement_spec old c args pos h]
  simp only [encodeL_spec old args _ 0 pos h (window_statement c args), Option.map_some]

theorem flatMapBy_id_of_all (ok : UInt8 → Bool) : ∀ (s : Bytes), s.all ok = true → s.flatMap (sanitizeByteBy ok) = s
  | [], _ => rfl
  | b :: bs, h => by
    simp only [List.all_cons, Bool.and_eq_true] at h
    simp only [List.flatMap_cons, sanitizeByteBy, h.1, if_true, List.singleton_append, flatMapBy_id_of_all ok bs h.2]

/-- the early return of the detection loop changes nothing: the rebuilt message would be the same -/
theorem sanitizeBy_eq_flatMap (ok : UInt8 → Bool) (s : Bytes) : sanitizeBy ok s = s.flatMap (sanitizeByteBy ok) := by
  unfold sanitizeBy
  split
  · rename_i h
    exact (flatMapBy_id_of_all ok s h).symm
  · rfl

theorem escape_length (b : UInt8) : (escape b).length = 4 := rfl

theorem flatMapBy_length (ok : UInt8 → Bool) : ∀ (s : Bytes),
    (s.flatMap (sanitizeByteBy ok)).length = s.length + 3 * (s.filter (fun b => !ok b)).length
  | [] => rfl
  | b :: bs => by
    simp only [List.flatMap_cons, List.length_append, List.length_cons, flatMapBy_length ok bs, List.filter_cons]
    cases h : ok b
    · simp only [sanitizeByteBy, h, Bool.false_eq_true, if_false, escape_length, Bool.not_false, if_true, List.length_cons]
      omega
    · simp only [sanitizeByteBy, h, if_true, List.length_singleton, Bool.not_true, Bool.false_eq_true, if_false]
      omega

theorem sanitize_eq_flatMap (p : Printable) (s : Bytes) : sanitize p s = s.flatMap (sanitizeByte p) :=
  sanitizeBy_eq_flatMap p.ok s

theorem flatMap_id_of_all (p : Printable) (s : Bytes) (h : s.all p.ok = true) : s.flatMap (sanitizeByte p) = s :=
  flatMapBy_id_of_all p.ok s h

theorem flatMap_length (p : Printable) (s : Bytes) :
    (s.flatMap (sanitizeByte p)).length = s.length + 3 * (s.filter (fun b => !p.ok b)).length :=
  flatMapBy_length p.ok s

/-- `"0123456789ABCDEF"` -/
def hexDigitsUpper : List UInt8 := [48, 49, 50, 51, 52, 53, 54, 55, 56, 57, 65, 66, 67, 68, 69, 70]

theorem hexUpper_table : ∀ n : Fin 16, hexUpper n.val = hexDigitsUpper[n.val]! := by decide +kernel

end Codec
