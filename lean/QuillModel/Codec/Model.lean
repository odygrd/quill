/-!
# Codec — size pass, encode pass, decode, statement framing, size cache, sanitiser (C04, C11)

Executable model of `quill/core/Codec.h`, `quill/std/*.h`, `DeferredFormatCodec.h`, `DirectFormatCodec.h`,
`StringRef.h`, `core/InlinedVector.h`, the framing of `LoggerImpl::log_statement` and
`BackendWorker::sanitize_non_printable_chars`.  No Mathlib; everything is computable (the driver links it).

The model follows the code that exists:
* the size pass *pushes* a `uint32_t` per C string / `char[N]` / direct-format argument / `forward_list`
  (in argument order, depth first) into the per-thread `InlinedVector<uint32_t, N>`; the encode pass *reads*
  `cache[index++]` — a read past `size()` throws in the C++ (`none` here, never a default);
* the arithmetic fast paths (`sizeof(T) * n`) exist only where the header has them (`KindInfo`, extracted);
* a non trivially copyable deferred-format object is placement-copied at the next `alignof`-aligned address
  and always occupies `sizeof + alignof − 1` bytes; the padding bytes keep the old buffer content (`Mem`);
* lengths are truncated to `uint32_t` exactly where the code does.
-/
namespace Codec

abbrev Bytes := List UInt8

/-- `2^32` -/
def U32 : Nat := 4294967296
/-- `std::numeric_limits<uint32_t>::max()` -/
def u32max : Nat := 4294967295
/-- `2^64` -/
def U64 : Nat := 18446744073709551616

/-- little-endian object representation of `n` in `k` bytes (x86-64, the platform of the harness) -/
def leBytes : Nat → Nat → Bytes
  | 0, _ => []
  | k + 1, n => UInt8.ofNat (n % 256) :: leBytes k (n / 256)

def leVal : Bytes → Nat
  | [] => 0
  | b :: bs => b.toNat + 256 * leVal bs

/-- not the terminator -/
def nz (b : UInt8) : Bool := b != 0

/-- `strnlen(m, m.length)`: index of the first NUL, or the length -/
def nulIdx (m : Bytes) : Nat := (m.takeWhile nz).length

/-! ### `InlinedVector<uint32_t, N>` -/

/-- `data` = the `_size` live entries, `cap` = `_capacity` (starts at the inline capacity `N`, doubles, never
    shrinks: `clear()` only resets `_size`), `grown` = ghost list of heap allocations (`new value_type[new_capacity]`). -/
structure Cache where
  data : List Nat
  cap : Nat
  grown : List Nat := []
  deriving Repr, DecidableEq

def Cache.init (N : Nat) : Cache := { data := [], cap := N }

/-- `push_back`: when `_size == _capacity` allocate `2 * _capacity`, copy, free the old heap block -/
def Cache.push (c : Cache) (v : Nat) : Cache :=
  if c.data.length = c.cap then
    { data := c.data ++ [v], cap := 2 * c.cap, grown := c.grown ++ [2 * c.cap] }
  else { c with data := c.data ++ [v] }

def Cache.clear (c : Cache) : Cache := { c with data := [] }

/-- `assign(index, value)` (throws when `index >= _size`; only used right after a push of that index) -/
def Cache.assign (c : Cache) (i v : Nat) : Cache := { c with data := c.data.set i v }

def Cache.pushAll (c : Cache) (xs : List Nat) : Cache := xs.foldl Cache.push c

/-! ### argument values and static shapes -/

/-- what the generic `Codec<T>` branch `is_arithmetic | is_enum | void const*` distinguishes, plus `char`
    (arithmetic, but a *string related* type for the sanitiser) -/
inductive PrimKind | arith | chr | enum | ptr
  deriving DecidableEq, Repr

/-- per container family (extracted from `quill/std/*.h`) -/
structure KindInfo where
  /-- writes the element count as `size_t` first -/
  hasPrefix : Bool
  /-- `compute_encoded_size` multiplies instead of iterating when the element is arithmetic/enum -/
  fastSize : Bool
  /-- `encode` does one `memcpy` when the element is arithmetic/enum -/
  fastEncode : Bool
  /-- `forward_list`: the element count is pushed to the size cache (before the elements) and read back -/
  pushCount : Bool
  /-- map families: the element is `pair<Key,T>` and the fast-path test is made on `Key` and `T` -/
  mapLike : Bool
  /-- map families (finding F16): the codec hands each `pair<const Key,T>` element to `Codec<pair<Key,T>>`, which takes
      `pair<Key,T> const&` — an implicit converting *copy* of the element in the size pass and again in the encode pass -/
  pairTemp : Bool
  deriving DecidableEq, Repr

/-- a one-`memcpy` encode of `pair<Key,T>` elements would copy the padding of `std::pair`; no std/ codec does that -/
def KindInfo.ok (ki : KindInfo) : Bool := !(ki.mapLike && ki.fastEncode)

inductive Shape where
  | prim (k : PrimKind) (w : Nat)
  | cstr
  | carr (n : Nat)
  | str
  | seq (es : Shape)
  | arr (n : Nat) (es : Shape)
  | opt (es : Shape)
  | pair (a b : Shape)
  | tuple (l : List Shape)
  | pod (sz : Nat)
  | nonpod (sz al : Nat)
  | direct
  | sref
  | path
  deriving Repr

inductive Arg where
  /-- arithmetic / enum / `void const*`: the `sizeof` bytes of the object -/
  | prim (k : PrimKind) (bytes : Bytes)
  /-- `char const*` / `char*`: `none` = null pointer; `some m` = the memory behind the pointer (an implicit NUL
      follows `m`; `m` itself may contain earlier NULs — the C string ends at the first one) -/
  | cstr (mem : Option Bytes)
  /-- `char[N]`, `N = mem.length`, with or without a terminator inside -/
  | carr (mem : Bytes)
  /-- `std::string` / `std::string_view`: arbitrary bytes -/
  | str (s : Bytes)
  /-- vector/deque/list/forward_list/set/map/… (`ki.hasPrefix`) and `std::array` / `T[N]` (no prefix) -/
  | seq (ki : KindInfo) (es : Shape) (elems : List Arg)
  /-- empty `std::optional<T>` -/
  | optNone (es : Shape)
  /-- engaged `std::optional<T>` -/
  | optSome (a : Arg)
  | pair (a b : Arg)
  | tuple (elems : List Arg)
  /-- `DeferredFormatCodec<T>`, `T` trivially copyable and default constructible (also `std::chrono` types) -/
  | pod (obj : Bytes)
  /-- `DeferredFormatCodec<T>`, otherwise: `alignof(T)` and the object representation of the copy -/
  | nonpod (al : Nat) (obj : Bytes)
  /-- `DirectFormatCodec<T>`: `text` = what `fmt::formatter<T>` produces for `"{}"` -/
  | direct (text : Bytes)
  /-- `utility::StringRef`: pointer and length, *not* deep-copied (documented) -/
  | sref (ptr : Bytes) (len : Nat)
  /-- `std::filesystem::path` (encoded like `std::string` through a temporary `arg.string()`) -/
  | path (s : Bytes)
  deriving Repr

/-- what the backend hands to fmt -/
inductive Val where
  | prim (bytes : Bytes)
  | text (s : Bytes)
  | seq (l : List Val)
  | optNone
  | optSome (v : Val)
  | pair (a b : Val)
  | tuple (l : List Val)
  | obj (bytes : Bytes)
  | ref (ptr : Bytes) (len : Nat)
  | path (s : Bytes)
  deriving Repr

mutual
def shapeOf : Arg → Shape
  | .prim k b => .prim k b.length
  | .cstr _ => .cstr
  | .carr m => .carr m.length
  | .str _ => .str
  | .seq ki es elems => if ki.hasPrefix then .seq es else .arr elems.length es
  | .optNone es => .opt es
  | .optSome a => .opt (shapeOf a)
  | .pair a b => .pair (shapeOf a) (shapeOf b)
  | .tuple l => .tuple (shapesOf l)
  | .pod obj => .pod obj.length
  | .nonpod al obj => .nonpod obj.length al
  | .direct _ => .direct
  | .sref _ _ => .sref
  | .path _ => .path
def shapesOf : List Arg → List Shape
  | [] => []
  | a :: as => shapeOf a :: shapesOf as
end

/-! a Boolean equality test on shapes (the deriving handler does not do nested inductives) -/
mutual
def Shape.beq : Shape → Shape → Bool
  | .prim k w, .prim k' w' => decide (k = k') && decide (w = w')
  | .cstr, .cstr => true
  | .carr n, .carr n' => decide (n = n')
  | .str, .str => true
  | .seq a, .seq b => Shape.beq a b
  | .arr n a, .arr n' b => decide (n = n') && Shape.beq a b
  | .opt a, .opt b => Shape.beq a b
  | .pair a b, .pair a' b' => Shape.beq a a' && Shape.beq b b'
  | .tuple l, .tuple l' => Shape.beqL l l'
  | .pod s, .pod s' => decide (s = s')
  | .nonpod s a, .nonpod s' a' => decide (s = s') && decide (a = a')
  | .direct, .direct => true
  | .sref, .sref => true
  | .path, .path => true
  | _, _ => false
def Shape.beqL : List Shape → List Shape → Bool
  | [], [] => true
  | a :: as, b :: bs => Shape.beq a b && Shape.beqL as bs
  | _, _ => false
end

/-- the element types for which the std/ codecs take the `sizeof(T) * n` shortcut: `is_arithmetic || is_enum` -/
def PrimKind.fast : PrimKind → Bool
  | .arith => true | .chr => true | .enum => true | .ptr => false

def fastOK (ki : KindInfo) : Shape → Bool
  | .prim k _ => !ki.mapLike && k.fast
  | .pair (.prim k1 _) (.prim k2 _) => ki.mapLike && k1.fast && k2.fast
  | _ => false

/-- `sizeof(T)` (resp. `sizeof(Key) + sizeof(T)` for the map families) used by the shortcut -/
def fastWidth : Shape → Nat
  | .prim _ w => w
  | .pair (.prim _ w1) (.prim _ w2) => w1 + w2
  | _ => 0

/-- the bytes one `memcpy(buffer, arg.data(), sizeof(T) * n)` moves -/
def fastBytes : List Arg → Bytes
  | [] => []
  | .prim _ b :: as => b ++ fastBytes as
  | _ :: as => fastBytes as

/-! ### size pass (`compute_encoded_size`) -/

/-- `safe_strnlen(arg[, N]) + 1`, clamped to `uint32_t` as the code does -/
def cLen (n : Nat) : Nat := min (n + 1) u32max

mutual
def sizePass (c : Cache) : Arg → Nat × Cache
  | .prim _ b => (b.length, c)
  | .cstr none => (cLen 0, c.push (cLen 0))
  | .cstr (some m) => (cLen (nulIdx m), c.push (cLen (nulIdx m)))
  | .carr m => (cLen (nulIdx m), c.push (cLen (nulIdx m)))
  | .str s => (4 + s.length % U32, c)
  | .seq ki es elems =>
    let c0 := if ki.pushCount then c.push 0 else c
    let r := if ki.fastSize && fastOK ki es then (fastWidth es * elems.length, c0) else sizePassL c0 elems
    let c1 := if ki.pushCount then r.2.assign (c0.data.length - 1) (elems.length % U32) else r.2
    ((if ki.hasPrefix then 8 else 0) + r.1, c1)
  | .optNone _ => (1, c)
  | .optSome a => let r := sizePass c a; (1 + r.1, r.2)
  | .pair a b => let r1 := sizePass c a; let r2 := sizePass r1.2 b; (r1.1 + r2.1, r2.2)
  | .tuple l => sizePassL c l
  | .pod obj => (obj.length, c)
  | .nonpod al obj => (obj.length + al - 1, c)
  | .direct text => (4 + text.length % U32, c.push (text.length % U32))
  | .sref _ _ => (16, c)
  | .path s => (4 + s.length % U32, c)
def sizePassL (c : Cache) : List Arg → Nat × Cache
  | [] => (0, c)
  | a :: as => let r1 := sizePass c a; let r2 := sizePassL r1.2 as; (r1.1 + r2.1, r2.2)
end

/-! ### encode pass -/

/-- pre-existing content of the queue buffer (what a byte the encoder skips keeps) -/
abbrev Mem := Nat → UInt8

def memRange (old : Mem) (pos n : Nat) : Bytes := (List.range n).map (fun i => old (pos + i))

/-- bytes `align_pointer` skips at address `pos` (alignment is a power of two in C++; `0 < al` suffices here) -/
def padOf (al pos : Nat) : Nat := (al - pos % al) % al

mutual
/-- `encode old c i pos a = some (bytes, i')`: the bytes of `[pos, pos + bytes.length)` after `Codec<T>::encode`,
    the cache index after it; `none` = the C++ throws (`index out of bounds`) or reads outside the argument -/
def encode (old : Mem) (c : Cache) : Nat → Nat → Arg → Option (Bytes × Nat)
  | i, _, .prim _ b => some (b, i)
  | i, _, .cstr m =>
    match c.data[i]? with
    | none => none
    | some len =>
      let src := m.getD []
      if len = 0 ∨ src.length < len - 1 then none
      else some (src.take (len - 1) ++ [0], i + 1)
  | i, _, .carr m =>
    match c.data[i]? with
    | none => none
    | some len =>
      if m.length < len then
        (if len = m.length + 1 then some (m ++ [0], i + 1) else none)
      else some (m.take len, i + 1)
  | i, _, .str s => some (leBytes 4 (s.length % U32) ++ s.take (s.length % U32), i)
  | i, pos, .seq ki es elems =>
    match (if ki.pushCount then (c.data[i]?).map (fun n => (n, i + 1)) else some (elems.length, i)) with
    | none => none
    | some (n, i0) =>
      let pre := if ki.hasPrefix then leBytes 8 n else []
      if ki.fastEncode && fastOK ki es then some (pre ++ fastBytes elems, i0)
      else
        match encodeL old c i0 (pos + pre.length) elems with
        | none => none
        | some (b, i1) => some (pre ++ b, i1)
  | i, _, .optNone _ => some ([0], i)
  | i, pos, .optSome a =>
    match encode old c i (pos + 1) a with
    | none => none
    | some (b, i1) => some (1 :: b, i1)
  | i, pos, .pair a b =>
    match encode old c i pos a with
    | none => none
    | some (b1, i1) =>
      match encode old c i1 (pos + b1.length) b with
      | none => none
      | some (b2, i2) => some (b1 ++ b2, i2)
  | i, pos, .tuple l => encodeL old c i pos l
  | i, _, .pod obj => some (obj, i)
  | i, pos, .nonpod al obj =>
    let pad := padOf al pos
    some (memRange old pos pad ++ obj ++ memRange old (pos + pad + obj.length) (al - 1 - pad), i)
  | i, _, .direct text =>
    match c.data[i]? with
    | none => none
    | some len =>
      if text.length < len then none
      else some (leBytes 4 len ++ text.take len, i + 1)
  | i, _, .sref ptr len => some (ptr ++ leBytes 8 len, i)
  | i, _, .path s => some (leBytes 4 (s.length % U32) ++ s.take (s.length % U32), i)
def encodeL (old : Mem) (c : Cache) : Nat → Nat → List Arg → Option (Bytes × Nat)
  | i, _, [] => some ([], i)
  | i, pos, a :: as =>
    match encode old c i pos a with
    | none => none
    | some (b1, i1) =>
      match encodeL old c i1 (pos + b1.length) as with
      | none => none
      | some (b2, i2) => some (b1 ++ b2, i2)
end

/-! ### decode (`decode_arg`), by shape, from the bytes alone -/

def decodeN (f : Nat → Bytes → Option (Val × Bytes)) : Nat → Nat → Bytes → Option (List Val × Bytes)
  | 0, _, bs => some ([], bs)
  | n + 1, pos, bs =>
    match f pos bs with
    | none => none
    | some (v, r) =>
      match decodeN f n (pos + (bs.length - r.length)) r with
      | none => none
      | some (vs, r') => some (v :: vs, r')

/-- a NUL-terminated string at the front of `bs` (`safe_strnlen + 1` bytes); `none` = no terminator in sight -/
def decodeCStr (bs : Bytes) : Option (Val × Bytes) :=
  if nulIdx bs < bs.length then some (.text (bs.take (nulIdx bs)), bs.drop (nulIdx bs + 1)) else none

/-- `uint32_t` length, then that many bytes -/
def decodeLenPrefixed (bs : Bytes) : Option (Bytes × Bytes) :=
  if bs.length < 4 then none
  else
    let len := leVal (bs.take 4)
    let r := bs.drop 4
    if r.length < len then none else some (r.take len, r.drop len)

mutual
def decode : Shape → Nat → Bytes → Option (Val × Bytes)
  | .prim _ w, _, bs => if bs.length < w then none else some (.prim (bs.take w), bs.drop w)
  | .cstr, _, bs => decodeCStr bs
  | .carr _, _, bs => decodeCStr bs
  | .str, _, bs => (decodeLenPrefixed bs).map (fun p => (.text p.1, p.2))
  | .seq es, pos, bs =>
    if bs.length < 8 then none
    else
      match decodeN (decode es) (leVal (bs.take 8)) (pos + 8) (bs.drop 8) with
      | none => none
      | some (vs, r) => some (.seq vs, r)
  | .arr n es, pos, bs =>
    match decodeN (decode es) n pos bs with
    | none => none
    | some (vs, r) => some (.seq vs, r)
  | .opt es, pos, bs =>
    match bs with
    | [] => none
    | b :: r =>
      if b = 0 then some (.optNone, r)
      else
        match decode es (pos + 1) r with
        | none => none
        | some (v, r') => some (.optSome v, r')
  | .pair a b, pos, bs =>
    match decode a pos bs with
    | none => none
    | some (va, r) =>
      match decode b (pos + (bs.length - r.length)) r with
      | none => none
      | some (vb, r') => some (.pair va vb, r')
  | .tuple l, pos, bs =>
    match decodeL l pos bs with
    | none => none
    | some (vs, r) => some (.tuple vs, r)
  | .pod sz, _, bs => if bs.length < sz then none else some (.obj (bs.take sz), bs.drop sz)
  | .nonpod sz al, pos, bs =>
    if bs.length < sz + al - 1 then none
    else some (.obj ((bs.drop (padOf al pos)).take sz), bs.drop (sz + al - 1))
  | .direct, _, bs => (decodeLenPrefixed bs).map (fun p => (.text p.1, p.2))
  | .sref, _, bs =>
    if bs.length < 16 then none
    else some (.ref (bs.take 8) (leVal ((bs.drop 8).take 8)), bs.drop 16)
  | .path, _, bs => (decodeLenPrefixed bs).map (fun p => (.path p.1, p.2))
def decodeL : List Shape → Nat → Bytes → Option (List Val × Bytes)
  | [], _, bs => some ([], bs)
  | s :: ss, pos, bs =>
    match decode s pos bs with
    | none => none
    | some (v, r) =>
      match decodeL ss (pos + (bs.length - r.length)) r with
      | none => none
      | some (vs, r') => some (v :: vs, r')
end

/-! ### specification side: the documented value, the pushed lengths, the encoding as a pure function -/

mutual
/-- the value the backend must see: C string cut at the first NUL (null pointer ↦ empty), `char[N]` cut at NUL
    or `N`, `std::string` all bytes -/
def view : Arg → Val
  | .prim _ b => .prim b
  | .cstr none => .text []
  | .cstr (some m) => .text (m.takeWhile nz)
  | .carr m => .text (m.takeWhile nz)
  | .str s => .text s
  | .seq _ _ elems => .seq (viewL elems)
  | .optNone _ => .optNone
  | .optSome a => .optSome (view a)
  | .pair a b => .pair (view a) (view b)
  | .tuple l => .tuple (viewL l)
  | .pod obj => .obj obj
  | .nonpod _ obj => .obj obj
  | .direct text => .text text
  | .sref ptr len => .ref ptr len
  | .path s => .path s
def viewL : List Arg → List Val
  | [] => []
  | a :: as => view a :: viewL as
end

mutual
/-- the lengths the size pass caches for `a`, in push order -/
def lens : Arg → List Nat
  | .cstr none => [cLen 0]
  | .cstr (some m) => [cLen (nulIdx m)]
  | .carr m => [cLen (nulIdx m)]
  | .seq ki es elems =>
    (if ki.pushCount then [elems.length % U32] else []) ++
      (if ki.fastSize && fastOK ki es then [] else lensL elems)
  | .optSome a => lens a
  | .pair a b => lens a ++ lens b
  | .tuple l => lensL l
  | .direct text => [text.length % U32]
  | _ => []
def lensL : List Arg → List Nat
  | [] => []
  | a :: as => lens a ++ lensL as
end

mutual
/-- the encoding as a function of the value (and, for aligned objects, of the address) -/
def enc (old : Mem) : Nat → Arg → Bytes
  | _, .prim _ b => b
  | _, .cstr none => [0]
  | _, .cstr (some m) => m.takeWhile nz ++ [0]
  | _, .carr m => m.takeWhile nz ++ [0]
  | _, .str s => leBytes 4 s.length ++ s
  | pos, .seq ki _ elems =>
    (if ki.hasPrefix then leBytes 8 elems.length else []) ++
      encL old (pos + (if ki.hasPrefix then 8 else 0)) elems
  | _, .optNone _ => [0]
  | pos, .optSome a => 1 :: enc old (pos + 1) a
  | pos, .pair a b => enc old pos a ++ enc old (pos + (enc old pos a).length) b
  | pos, .tuple l => encL old pos l
  | _, .pod obj => obj
  | pos, .nonpod al obj =>
    memRange old pos (padOf al pos) ++ obj ++
      memRange old (pos + padOf al pos + obj.length) (al - 1 - padOf al pos)
  | _, .direct text => leBytes 4 text.length ++ text
  | _, .sref ptr len => ptr ++ leBytes 8 len
  | _, .path s => leBytes 4 s.length ++ s
def encL (old : Mem) : Nat → List Arg → Bytes
  | _, [] => []
  | pos, a :: as => enc old pos a ++ encL old (pos + (enc old pos a).length) as
end

mutual
/-- well-formed value: lengths representable where the code truncates, containers homogeneous -/
def wf : Arg → Bool
  | .prim _ _ => true
  | .cstr none => true
  | .cstr (some m) => decide (nulIdx m + 1 < u32max)
  | .carr m => decide (nulIdx m + 1 < u32max)
  | .str s => decide (s.length < U32)
  | .seq ki es elems => ki.ok && decide (elems.length < U32) && homog es elems
  | .optNone _ => true
  | .optSome a => wf a
  | .pair a b => wf a && wf b
  | .tuple l => wfL l
  | .pod _ => true
  | .nonpod al _ => decide (0 < al)
  | .direct text => decide (text.length < U32)
  | .sref ptr len => decide (ptr.length = 8) && decide (len < U64)
  | .path s => decide (s.length < U32)
def wfL : List Arg → Bool
  | [] => true
  | a :: as => wf a && wfL as
/-- every element well-formed and of the container's element type -/
def homog (es : Shape) : List Arg → Bool
  | [] => true
  | a :: as => Shape.beq (shapeOf a) es && wf a && homog es as
end

/-! ### statement framing (`LoggerImpl::log_statement`, `_populate_transit_event_from_frontend_queue`) -/

/-- `compute_encoded_size_and_cache_string_lengths` clears the cache unless *every* argument is arithmetic, enum,
    `void const*`, `std::string` or `std::string_view` -/
def needsClear : Arg → Bool
  | .prim _ _ => false
  | .str _ => false
  | _ => true

def sizeStatement (c : Cache) (args : List Arg) : Nat × Cache :=
  sizePassL (if args.any needsClear then c.clear else c) args

/-- layout constants of the record header and the trailing dynamic level (extracted) -/
structure Frame where
  tsBytes : Nat
  ptrBytes : Nat
  nPtrs : Nat
  lvlBytes : Nat
  deriving Repr, DecidableEq

def Frame.header (f : Frame) : Nat := f.tsBytes + f.ptrBytes * f.nPtrs

/-- `total_size` passed to `prepare_write` and to `finish_and_commit_write` -/
def reserved (f : Frame) (c : Cache) (args : List Arg) (dyn : Bool) : Nat :=
  f.header + (sizeStatement c args).1 + (if dyn then f.lvlBytes else 0)

/-- the record as written: header bytes (timestamp + three pointers, opaque here), arguments, optional level.
    `pos` = address of the record start. -/
def writeRecord (old : Mem) (c : Cache) (pos : Nat) (hdr : Bytes) (args : List Arg) (lvl : Bytes) : Option Bytes :=
  match encodeL old (sizeStatement c args).2 0 (pos + hdr.length) args with
  | none => none
  | some (b, _) => some (hdr ++ b ++ lvl)

/-- the backend side: header, arguments through the stored decoder (= `decodeL` at the statement's shapes),
    then `f.lvlBytes` bytes of dynamic level (when `dyn`) -/
def readRecord (f : Frame) (shapes : List Shape) (pos : Nat) (dyn : Bool) (bs : Bytes) :
    Option (Bytes × List Val × Bytes × Bytes) :=
  if bs.length < f.header then none
  else
    match decodeL shapes (pos + f.header) (bs.drop f.header) with
    | none => none
    | some (vs, r) =>
      let k := if dyn then f.lvlBytes else 0
      if r.length < k then none else some (bs.take f.header, vs, r.take k, r.drop k)

/-! ### histories of statements on one thread's size cache: logged and dropped statements -/

/-- what happened to an earlier statement of the thread between its two passes -/
inductive StmtOp where
  /-- size pass, `prepare_write` granted, encode pass -/
  | logged (args : List Arg)
  /-- size pass only: `prepare_write` refused (`BoundedDropping` / `UnboundedDropping` queue full: the statement is
      dropped and `log_statement` returns `false`) or `_handle_full_queue` threw (record over
      `unbounded_queue_max_capacity`) — the encode pass never runs -/
  | dropped (args : List Arg)
  deriving Repr

def StmtOp.args : StmtOp → List Arg
  | .logged a => a
  | .dropped a => a

/-- the size pass with the `clear()` at its start (`clearAtStart = true`: the code, what the extraction looks for) or
    without it (`false`: the alternative placement "clear after the encode pass", kept only to show what goes wrong) -/
def sizeStatementAt (clearAtStart : Bool) (c : Cache) (args : List Arg) : Nat × Cache :=
  sizePassL (if clearAtStart && args.any needsClear then c.clear else c) args

/-- the size cache after one earlier statement. With the `clear()` at the start of the size pass the encode pass
    (which takes the cache by `const&`) changes nothing, so a dropped statement and a logged one leave the same cache;
    with the `clear()` after the encode pass a dropped statement leaves its lengths behind. -/
def StmtOp.apply (clearAtStart : Bool) (c : Cache) : StmtOp → Cache
  | .logged args =>
    let c1 := (sizeStatementAt clearAtStart c args).2
    if !clearAtStart && args.any needsClear then c1.clear else c1
  | .dropped args => (sizeStatementAt clearAtStart c args).2

/-- the size cache a thread's history of statements leaves behind -/
def cacheAfter (clearAtStart : Bool) (c : Cache) (ops : List StmtOp) : Cache :=
  ops.foldl (StmtOp.apply clearAtStart) c

/-- bytes reserved and bytes the encode pass writes (`none` = it faults) for a statement issued after `ops` -/
def passesAfter (clearAtStart : Bool) (old : Mem) (c : Cache) (ops : List StmtOp) (pos : Nat) (args : List Arg) :
    Nat × Option Bytes :=
  let r := sizeStatementAt clearAtStart (cacheAfter clearAtStart c ops) args
  (r.1, (encodeL old r.2 0 pos args).map (·.1))

/-! ### sanitiser -/

/-- `check_printable_char` of `BackendOptions`: `(c >= lo && c <= hi) || c == extra…` (on `char`; for the default
    bounds `< 0x80` the signed comparison and this unsigned one agree) -/
structure Printable where
  lo : Nat
  hi : Nat
  extra : List Nat
  deriving Repr, DecidableEq

def Printable.ok (p : Printable) (b : UInt8) : Bool :=
  (decide (p.lo ≤ b.toNat) && decide (b.toNat ≤ p.hi)) || p.extra.contains b.toNat

/-- `"0123456789ABCDEF"[n]` -/
def hexUpper (n : Nat) : UInt8 := if n < 10 then UInt8.ofNat (48 + n) else UInt8.ofNat (55 + n)

/-- `\xHH` -/
def escape (b : UInt8) : Bytes := [92, 120, hexUpper (b.toNat / 16), hexUpper (b.toNat % 16)]

/-- for ANY `check_printable_char` (`BackendOptions` takes a `std::function<bool(char)>`; the default is one instance) -/
def sanitizeByteBy (ok : UInt8 → Bool) (b : UInt8) : Bytes := if ok b then [b] else escape b

/-- `sanitize_non_printable_chars`: a detection loop that asks the predicate about EVERY byte; only when some byte
    fails it the message is rebuilt, asking the predicate about every byte again -/
def sanitizeBy (ok : UInt8 → Bool) (s : Bytes) : Bytes :=
  if s.all ok then s else s.flatMap (sanitizeByteBy ok)

def sanitizeByte (p : Printable) (b : UInt8) : Bytes := sanitizeByteBy p.ok b

/-- the sanitiser under the default predicate shape (`lo`/`hi`/`extra`, extracted) -/
def sanitize (p : Printable) (s : Bytes) : Bytes := sanitizeBy p.ok s

/-- the variant whose DETECTION loop skips the predicate for bytes in `' '..'~'` (the rewrite loop unchanged) — kept
    only to show what goes wrong with a predicate stricter than the default inside printable ASCII -/
def sanitizeDetectShortcut (ok : UInt8 → Bool) (s : Bytes) : Bytes :=
  if s.all (fun b => (decide (32 ≤ b.toNat) && decide (b.toNat ≤ 126)) || ok b) then s else s.flatMap (sanitizeByteBy ok)

/-- `DynamicFormatArgStore::has_string_related_type` by shape (fmt's `char`, string, C string and custom types) -/
def stringRelated : Shape → Bool
  | .prim k _ => k == .chr
  | _ => true

/-- the sink text of a statement given the text fmt produced from the decoded values -/
def finalText (p : Option Printable) (shapes : List Shape) (formatted : Bytes) : Bytes :=
  match p with
  | some q => if shapes.any stringRelated then sanitize q formatted else formatted
  | none => formatted

/-! ### the backend's argument store: one per backend, shared by all statements of all threads and loggers -/

/-- `DynamicFormatArgStore _format_args_store`: the decoded values handed to fmt and the
    `has_string_related_type` flag that gates the sanitiser -/
structure Store where
  vals : List Val
  stringRelated : Bool
  deriving Repr

def Store.empty : Store := { vals := [], stringRelated := false }

/-- `detail::decode_and_store_args<Args...>(buffer, store)`, the decoder whose address is in every record header.
    `clearFirst = true` (the code; what the extraction looks for): `store.clear()` unconditionally, then the arguments
    are decoded into it — the result does not depend on `prev`. `clearFirst = false`: the variant that skips the reset
    (and the decode) when the statement has no arguments — kept only to show what goes wrong. -/
def decodeStatementAt (clearFirst : Bool) (shapes : List Shape) (pos : Nat) (bs : Bytes) (prev : Store) :
    Option (Store × Bytes) :=
  if !clearFirst && shapes.isEmpty then some (prev, bs)
  else
    match decodeL shapes pos bs with
    | none => none
    | some (vs, r) => some ({ vals := vs, stringRelated := shapes.any stringRelated }, r)

def decodeStatement : List Shape → Nat → Bytes → Store → Option (Store × Bytes) := decodeStatementAt true

/-- the store the backend is left with after decoding a sequence of records (any threads, any loggers); a record that
    cannot be decoded leaves the store as it was -/
def storeAfter (clearFirst : Bool) (s0 : Store) (hist : List (List Shape × Nat × Bytes)) : Store :=
  hist.foldl (fun st r => ((decodeStatementAt clearFirst r.1 r.2.1 r.2.2 st).map (·.1)).getD st) s0

/-- `_populate_formatted_log_message`: the text handed to the sinks and the number of error-notifier reports.
    `fmt` = libfmt on the run-time format string and the stored values (`none` = it throws, e.g. "argument not found");
    on success the text is sanitised iff the store holds a string related argument; on failure the text is the
    "[Could not format log statement …]" message `err fmtStr` and it is reported once. -/
def storeText (p : Option Printable) (fmt : Bytes → List Val → Option Bytes) (err : Bytes → Bytes) (fmtStr : Bytes)
    (st : Store) : Bytes × Nat :=
  match fmt fmtStr st.vals with
  | some t =>
    ((match p with
      | some q => if st.stringRelated then sanitize q t else t
      | none => t), 0)
  | none => (err fmtStr, 1)

/-! ### frontend events of one log call (C11) -/

inductive Event
  /-- `get_local_thread_context`: the `ThreadContext` and its queue are created on the first call of a thread -/
  | ctxCreate
  /-- `InlinedVector::push_back` with `_size == _capacity` -/
  | cacheGrow (newCap : Nat)
  /-- `UnboundedSPSCQueue::_handle_full_queue` allocates the next node -/
  | queueGrow (newCap : Nat)
  /-- `fs::path::string()` temporary (twice: size pass and encode pass) — documented exclusion -/
  | tempString
  /-- copy constructor of a non trivially copyable deferred-format type — user code, documented exclusion -/
  | userCopy
  /-- a `fmt::formatter` runs on the calling thread (direct-format types only) -/
  | formatCall
  /-- converting copy of a non trivially copyable `pair<const Key,T>` map element (allocates whenever `Key`/`T` do) -/
  | pairCopy
  deriving Repr, DecidableEq

/-- copying an object of this type runs no user code and cannot allocate (`Shape.str` stands for `std::string` as
    well as `std::string_view`, so it counts as not trivially copyable — an over-approximation for the latter) -/
def trivCopy : Shape → Bool
  | .prim _ _ => true
  | .cstr => true
  | .carr _ => true
  | .pair a b => trivCopy a && trivCopy b
  | .pod _ => true
  | .sref => true
  | _ => false

/-- does the codec of this container copy its elements into temporaries that may allocate? -/
def copiesPairs (ki : KindInfo) (es : Shape) : Bool := ki.pairTemp && !trivCopy es

mutual
/-- user-visible work the two passes do on the caller besides copying bytes, in order -/
def argEvents : Arg → List Event
  | .seq ki es elems =>
    (if copiesPairs ki es then List.replicate (2 * elems.length) Event.pairCopy else []) ++ argEventsL elems
  | .optSome a => argEvents a
  | .pair a b => argEvents a ++ argEvents b
  | .tuple l => argEventsL l
  | .nonpod _ _ => [.userCopy]
  | .direct _ => [.formatCall, .formatCall]
  | .path _ => [.tempString, .tempString]
  | _ => []
def argEventsL : List Arg → List Event
  | [] => []
  | a :: as => argEvents a ++ argEventsL as
end

/-- the producer's view of its queue -/
structure Queue where
  /-- capacity of the current node -/
  cap : Nat
  /-- bytes the producer must assume in use: `_writer_pos − _atomic_reader_pos` (what `prepare_write` sees after its
      reload of the reader position the consumer last published) -/
  used : Nat
  /-- `unbounded_queue_max_capacity`; `0` = bounded queue (never grows) -/
  maxCap : Nat
  deriving Repr, DecidableEq

/-- `_handle_full_queue`: double until it fits -/
def growTo (fuel cap n : Nat) : Nat :=
  match fuel with
  | 0 => cap
  | fuel + 1 => if cap < n then growTo fuel (2 * cap) n else cap

def Queue.fits (q : Queue) (n : Nat) : Bool := decide (n ≤ q.cap - q.used)

/-- events of `prepare_write(n)` and the queue afterwards (`none` = refused: blocked or dropped) -/
def Queue.reserve (q : Queue) (n : Nat) : List Event × Option Queue :=
  if q.fits n then ([], some { q with used := q.used + n })
  else
    let nc := growTo 64 (2 * q.cap) n
    if nc ≤ q.maxCap then ([.queueGrow nc], some { q with cap := nc, used := n })
    else ([], none)

structure Frontend where
  registered : Bool
  cache : Cache
  queue : Queue
  deriving Repr

/-- one `log_statement` on the calling thread: its events grouped by source (context, size cache, queue, then each
    argument's events of both passes together — not the interleaving of the run), frontend state afterwards -/
def logCall (f : Frame) (fe : Frontend) (args : List Arg) (dyn : Bool) : List Event × Frontend :=
  let e0 : List Event := if fe.registered then [] else [.ctxCreate]
  let sz := sizeStatement fe.cache args
  let eCache := (sz.2.grown.drop fe.cache.grown.length).map Event.cacheGrow
  let total := f.header + sz.1 + (if dyn then f.lvlBytes else 0)
  let rq := fe.queue.reserve total
  (e0 ++ eCache ++ rq.1 ++ argEventsL args,
   { registered := true, cache := sz.2, queue := rq.2.getD fe.queue })

/-! ### the thread's queue between log calls: backend passes (C11) -/

/-- `_bytes_per_batch`: the consumer publishes its position after this many consumed bytes -/
def batchBytes (cap pct : Nat) : Nat := cap * pct / 100

/-- one backend pass over the thread's queue that consumes *everything* the producer committed
    (`_read_and_decode_frontend_queue` until `prepare_read` returns null) followed by its single `commit_read()`.
    `Queue.used` counts from the reader position the consumer last *published* (what the producer sees after its
    reload in `prepare_write`), so the pass frees the bytes only if `commit_read` publishes: always when
    `publishOnDrain` (the clause `_reader_pos == _writer_pos_cache` of `commit_read`), otherwise only when the
    unpublished bytes reach the batch threshold. -/
def Queue.drain (publishOnDrain : Bool) (pct : Nat) (q : Queue) : Queue :=
  if publishOnDrain || decide (batchBytes q.cap pct ≤ q.used) then { q with used := 0 } else q

/-- what happens on one thread between two observations: a log call, or a backend pass that drains its queue -/
inductive FOp where
  | log (args : List Arg) (dyn : Bool)
  | drain
  deriving Repr

def Frontend.step (f : Frame) (publishOnDrain : Bool) (pct : Nat) (fe : Frontend) : FOp → Frontend
  | .log args dyn => (logCall f fe args dyn).2
  | .drain => { fe with queue := fe.queue.drain publishOnDrain pct }

def Frontend.run (f : Frame) (publishOnDrain : Bool) (pct : Nat) (fe : Frontend) (ops : List FOp) : Frontend :=
  ops.foldl (Frontend.step f publishOnDrain pct) fe

/-- the documented budget of the size cache (C11: "up to twelve variable-length C-string arguments per statement"):
    besides C strings, `char[N]` and direct-format arguments only `std::forward_list` takes a slot (its element count,
    which it cannot ask the container for). `specKind` is the container table the budget is stated for; the obligation
    `alloc_count_slots` shows that it is the extracted one. -/
def specPushCount (name : String) : Bool := name == "forward_list"

def specKind (name : String) (ki : KindInfo) : KindInfo := { ki with pushCount := specPushCount name }

end Codec
