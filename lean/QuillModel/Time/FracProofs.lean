import QuillModel.Time.Cache
import QuillModel.Util.Digits
/-!
# Digits, padding, and the fraction writer

`writeFrac w v` (zeros appended, then the decimal digits of `v` copied so that they end at the end of the
buffer) is the zero-padded `w`-digit rendering of `v`, for every `v < 10^w` and `1 ≤ w ≤ 20` (`natDigits` produces at most
20 digits); lengths of padded numbers.
-/
namespace Time

theorem digitChar_zero : digitChar 0 = '0' := by decide

theorem fixedDigits_zero (w : Nat) : fixedDigits w 0 = List.replicate w '0' := by
  induction w with
  | zero => rfl
  | succ w ih =>
    simp only [fixedDigits, Nat.zero_div, ih, digitChar_zero]
    rw [List.replicate_succ']

theorem fixedDigits_length (w n : Nat) : (fixedDigits w n).length = w := by
  induction w generalizing n with
  | zero => rfl
  | succ w ih => simp [fixedDigits, ih]

theorem digitChar_eq (n : Nat) : digitChar n = Nat.digitChar (n % 10) := by
  have : ∀ d, d < 10 → Char.ofNat (48 + d) = Nat.digitChar d := by decide
  exact this _ (Nat.mod_lt n (by decide))

theorem digitsF_eq : ∀ (f n : Nat), f ≠ 0 → n < 10 ^ f → digitsF f n = Nat.toDigits 10 n
  | 0, _, h, _ => absurd rfl h
  | f + 1, n, _, hn => by
    rw [digitsF, Nat.toDigits_eq_if (by decide), digitChar_eq]
    by_cases h : n < 10
    · rw [if_pos h, if_pos h, Nat.mod_eq_of_lt h]
    · have hf : f ≠ 0 := fun e => h (by simpa [e] using hn)
      rw [if_neg h, if_neg h, digitsF_eq f (n / 10) hf
        (Nat.div_lt_of_lt_mul (by rw [Nat.mul_comm, ← Nat.pow_succ]; exact hn))]

theorem natDigits_eq {w n : Nat} (hw : w ≤ 20) (h : n < 10 ^ w) : natDigits n = Nat.toDigits 10 n :=
  digitsF_eq 20 n (by decide) (Nat.lt_of_lt_of_le h (Nat.pow_le_pow_right (by decide) hw))

theorem fixedDigits_toDigits : ∀ (k n : Nat), 1 ≤ k → n < 10 ^ k →
    fixedDigits k n = List.replicate (k - (Nat.toDigits 10 n).length) '0' ++ Nat.toDigits 10 n
  | 0, _, h, _ => absurd h (by decide)
  | k + 1, n, _, hn => by
    rw [fixedDigits, digitChar_eq, Nat.toDigits_eq_if (by decide)]
    by_cases h10 : n < 10
    · rw [if_pos h10, Nat.div_eq_of_lt h10, fixedDigits_zero, Nat.mod_eq_of_lt h10]
      rfl
    · have hk : 1 ≤ k := Nat.pos_of_ne_zero fun e => h10 (by simpa [e] using hn)
      have hdiv : n / 10 < 10 ^ k := Nat.div_lt_of_lt_mul (by rw [Nat.mul_comm, ← Nat.pow_succ]; exact hn)
      have hlen := Nat.length_toDigits_ten_le hk hdiv
      rw [if_neg h10, fixedDigits_toDigits k (n / 10) hk hdiv, List.length_append, List.length_singleton, List.append_assoc,
        show k + 1 - ((Nat.toDigits 10 (n / 10)).length + 1) = k - (Nat.toDigits 10 (n / 10)).length by omega]

theorem overwrite_replicate_tail (w : Nat) (c : Char) (ds : List Char) (h : ds.length ≤ w) :
    overwrite (List.replicate w c) ((List.replicate w c).length - ds.length) ds =
      List.replicate (w - ds.length) c ++ ds := by
  simp only [overwrite, List.length_replicate, List.take_replicate, List.drop_replicate]
  have : w - (w - ds.length + ds.length) = 0 := by omega
  rw [this, Nat.min_eq_left (by omega)]
  simp

theorem writeFrac_eq (w v : Nat) (hw1 : 1 ≤ w) (hw : w ≤ 20) (hv : v < 10 ^ w) :
    writeFrac w v = fixedDigits w v := by
  rw [writeFrac, natDigits_eq hw hv, overwrite_replicate_tail w '0' _ (Nat.length_toDigits_ten_le hw1 hv),
    fixedDigits_toDigits w v hw1 hv]

theorem writeFrac_frac (k : Frac) (ns : Nat) (h : ns < 1000000000) :
    writeFrac k.width (k.value ns) = renderFrac k ns := by
  unfold renderFrac
  cases k
  · exact writeFrac_eq 3 _ (by decide) (by decide) (by simp only [Frac.value]; omega)
  · exact writeFrac_eq 6 _ (by decide) (by decide) (by simp only [Frac.value]; omega)
  · exact writeFrac_eq 9 _ (by decide) (by decide) (by simp only [Frac.value]; omega)

theorem padNum_length (c : Char) (w n : Nat) (hw1 : 1 ≤ w) (hw : w ≤ 20) (hn : n < 10 ^ w) :
    (padNum c w n).length = w := by
  have hlen := Nat.length_toDigits_ten_le hw1 hn
  rw [padNum, padLeft, natDigits_eq hw hn, List.length_append, List.length_replicate]
  omega

theorem natDigits_length {k n : Nat} (hk : 0 < k) (hk20 : k ≤ 20) (hlo : 10 ^ (k - 1) ≤ n) (hhi : n < 10 ^ k) :
    (natDigits n).length = k := by
  rw [natDigits_eq hk20 hhi]
  exact Nat.length_toDigits_ten_eq hk hlo hhi

/-- a number that fills the field is not padded -/
theorem padNum_full (c : Char) {k n : Nat} (hk : 0 < k) (hk20 : k ≤ 20) (hlo : 10 ^ (k - 1) ≤ n) (hhi : n < 10 ^ k) :
    padNum c k n = natDigits n := by
  rw [padNum, padLeft, natDigits_length hk hk20 hlo hhi, Nat.sub_self]
  rfl

end Time
