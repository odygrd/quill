import QuillModel.Time.WindowProofs
/-!
# The cache invariant of `StringFromTime`

`SInv`: either nothing has been formatted yet, or the pre-formatted string is the rendering of the parts at the
cached instant, the recorded positions are those of the modifier fields, the cached seconds are the second of the
day of the cached instant and the next recalculation point is the end of the cached instant's window.
`SFT.step_spec`: from any state satisfying `SInv`, for any instant of the property's range (earlier, equal or
later than the cached one), the output is plain `strftime` of the pattern at that instant, and `SInv` holds again.
-/
namespace Time

/-- instants the property quantifies over (for the pattern at hand): `tMin ≤ t < tMax`, and from 2001-09-09 on when the
    pattern has `%s` — the `%s` field is cached as the last 10 characters of its part (`StringFromTime.h:279`) and patched
    with `"{:10}"` (`:170`), which is what `strftime` writes only for epochs of ten digits -/
def Good (toks : List Tok) (t : Nat) : Prop :=
  978307200 ≤ t ∧ t < 4133980800 ∧ (Tok.conv 's' ∈ toks → 1000000000 ≤ t)

/-- `Good` in the words of the property's statement (`tMin`, `tMax`, `usesEpoch`) -/
theorem good_iff (toks : List Tok) (t : Nat) :
    Good toks t ↔ tMin ≤ t ∧ t < tMax ∧ (usesEpoch toks = true → 1000000000 ≤ t) := by
  simp only [Good, tMin, tMax, usesEpoch, List.contains_iff_mem]

theorem Good.lo {toks : List Tok} {t : Nat} (h : Good toks t) : 978307200 ≤ t := h.1

theorem Good.ten_digits {toks : List Tok} {t : Nat} (h : Good toks t) (hs : Tok.conv 's' ∈ toks) :
    1000000000 ≤ t ∧ t < 10000000000 :=
  ⟨h.2.2 hs, Nat.lt_trans h.2.1 (by decide)⟩

/-- only the presence of `%s` matters -/
theorem Good.mono {toks sub : List Tok} {t : Nat} (h : Good toks t) (hs : Tok.conv 's' ∈ sub → Tok.conv 's' ∈ toks) :
    Good sub t :=
  ⟨h.1, h.2.1, fun hm => h.2.2 (hs hm)⟩

/-- the cached data describe instant `c` -/
structure Cached (P : Nat) (tz : Nat → ZInfo) (loc : Bool) (toks : List Tok) (s : SFT) (c : Nat) : Prop where
  good : Good toks c
  ts : s.cachedTs = c
  pre : s.pre = renderParts (tmOf loc tz c) s.parts
  idx : s.idx = idxOf (tmOf loc tz c) s.parts 0
  secs : s.cachedSecs = (tmOf loc tz c).sod
  next : s.nextRecalc = (c / Wd loc P + 1) * Wd loc P

structure SInv (P : Nat) (tz : Nat → ZInfo) (loc : Bool) (toks : List Tok) (s : SFT) : Prop where
  fmt : s.fmt = charsOf toks
  parts : s.parts = populateParts (charsOf toks)
  mode : s.localTime = loc
  state : (s.nextRecalc = 0 ∧ s.cachedTs = 0) ∨ ∃ c, Cached P tz loc toks s c

/-- what the machine needs of the pattern it runs on, which is the pattern after `init`'s rewrites (`patOK_rw3`):
    supported, and every token a modifier or static (before the rewrites `%r`, `%R`, `%T` are neither) -/
structure PatOK (P : Nat) (tz : Nat → ZInfo) (loc : Bool) (toks : List Tok) : Prop where
  sup : supportedToks toks = true
  cls : ∀ t ∈ toks, hitMod t = true ∨ isStaticTok t = true
  zone : loc = true → ZoneOK P tz

/-- the part of `format_timestamp` after the fallback test and the recalculation -/
def SFT.tail (s1 : SFT) (t : Nat) : SFT × List Char :=
  if s1.idx = [] then (s1, s1.pre)
  else if s1.cachedTs = t then (s1, s1.pre)
  else
    let diff := t - s1.cachedTs
    let cs := (s1.cachedSecs + diff % 4294967296) % 4294967296
    let hours := cs / 3600
    let minutes := (cs - hours * 3600) / 60
    let seconds := cs - hours * 3600 - minutes * 60
    let pre' := patchAll hours minutes seconds t s1.idx s1.pre
    ({ s1 with cachedTs := t, cachedSecs := cs, pre := pre' }, pre')

theorem SFT.step_eq (P : Nat) (tz : Nat → ZInfo) (s : SFT) (t : Nat) :
    s.step P tz t =
      if t < s.cachedTs then (s, safeStrftime s.fmt (tmOf s.localTime tz t))
      else SFT.tail (if s.nextRecalc ≤ t then s.recalc P tz t else s) t := rfl

/-- the patching branch, with the updated `_cached_seconds` named -/
theorem SFT.tail_patch (s1 : SFT) (t : Nat) (hidx : s1.idx ≠ []) (hne : s1.cachedTs ≠ t) (sod : Nat)
    (hcs : (s1.cachedSecs + (t - s1.cachedTs) % 4294967296) % 4294967296 = sod) :
    SFT.tail s1 t =
      ({ s1 with cachedTs := t, cachedSecs := sod,
                 pre := patchAll (sod / 3600) (sod % 3600 / 60) (sod % 60) t s1.idx s1.pre },
       patchAll (sod / 3600) (sod % 3600 / 60) (sod % 60) t s1.idx s1.pre) := by
  unfold SFT.tail
  simp only [hidx, hne, if_false, hcs]
  rw [(hms_decompose sod).2, (hms_decompose sod).1]

theorem SFT.tail_nil (s1 : SFT) (t : Nat) (hidx : s1.idx = []) : SFT.tail s1 t = (s1, s1.pre) := by
  unfold SFT.tail; simp only [hidx, if_true]

theorem SFT.tail_same (s1 : SFT) (t : Nat) (hidx : s1.idx ≠ []) (h : s1.cachedTs = t) :
    SFT.tail s1 t = (s1, s1.pre) := by
  unfold SFT.tail; simp only [hidx, if_false, h, if_true]

section
variable {P : Nat} {tz : Nat → ZInfo} {loc : Bool} {toks : List Tok}

theorem parts_render (h : PatOK P tz loc toks) (tm : Tm) :
    renderParts tm (populateParts (charsOf toks)) = toks.flatMap (renderTokPlain tm) :=
  (populateParts_spec toks h.sup h.cls).1 tm

theorem parts_ok (h : PatOK P tz loc toks) : ∀ p ∈ populateParts (charsOf toks), PartOK toks p :=
  (populateParts_spec toks h.sup h.cls).2

/-- the hypotheses of `patchAll_renderParts` for two instants of one window -/
theorem window_parts (h : PatOK P tz loc toks) (c t : Nat) (hc : Good toks c) (ht : Good toks t) (hct : c ≤ t)
    (hw : t / Wd loc P = c / Wd loc P) :
    (∀ p ∈ populateParts (charsOf toks), partType p = none →
        safeStrftime p (tmOf loc tz c) = safeStrftime p (tmOf loc tz t)) ∧
    (∀ p ∈ populateParts (charsOf toks), ∀ ft, partType p = some ft →
        (safeStrftime p (tmOf loc tz c)).length = ft.back ∧
        safeStrftime p (tmOf loc tz t) =
          patchText ft (tmOf loc tz t).hour (tmOf loc tz t).min (tmOf loc tz t).sec t ∧
        (patchText ft (tmOf loc tz t).hour (tmOf loc tz t).min (tmOf loc tz t).sec t).length = ft.back) := by
  obtain ⟨hd, hp, hz, _⟩ := same_window loc P tz h.zone c t hc.lo hct hw
  constructor
  · intro p hp' hnone
    cases parts_ok h p hp' with
    | field ft _ => rw [(partType_eq_some _ ft).2 rfl] at hnone; cases hnone
    | static a _ hok hst => exact static_part_stable a hok hst _ _ hd hp hz
  · intro p hp' ft hsome
    cases parts_ok h p hp' with
    | field ft' hmem =>
      obtain rfl : ft' = ft := by
        rw [(partType_eq_some _ ft').2 rfl] at hsome; cases hsome; rfl
      have hs : ∀ u, Good toks u → ft' = .s → 1000000000 ≤ (tmOf loc tz u).epoch ∧ (tmOf loc tz u).epoch < 10000000000 := by
        intro u hu e; subst e
        rw [tmOf_epoch]
        exact hu.ten_digits hmem
      obtain ⟨r0, l0⟩ := field_render ft' (tmOf loc tz c) (tmOf_sod_lt loc tz c) (hs c hc)
      obtain ⟨r1, l1⟩ := field_render ft' (tmOf loc tz t) (tmOf_sod_lt loc tz t) (hs t ht)
      rw [tmOf_epoch] at r1 l1
      refine ⟨?_, ?_, l1⟩
      · rw [safeStrftime_field, r0, l0]
      · rw [safeStrftime_field, r1]
    | static a hn _ _ => rw [hn] at hsome; cases hsome

/-- the state right after `_populate_pre_formatted_string_and_cached_indexes (t)` -/
theorem recalc_cached (h : PatOK P tz loc toks) (s : SFT) (hi : SInv P tz loc toks s) (t : Nat) (ht : Good toks t) :
    Cached P tz loc toks (s.recalc P tz t) t ∧ (s.recalc P tz t).fmt = s.fmt ∧ (s.recalc P tz t).parts = s.parts ∧
    (s.recalc P tz t).localTime = s.localTime := by
  refine ⟨?_, rfl, rfl, rfl⟩
  have hl := hi.mode
  constructor
  · exact ht
  · rfl
  · simp only [SFT.recalc, populatePre_eq, List.nil_append, hl]
  · simp only [SFT.recalc, populatePre_eq, List.nil_append, List.length_nil, hl]
  · simp only [SFT.recalc, cachedSecs_eq, hl]
  · simp only [SFT.recalc, hl]
    cases loc with
    | false => simp only [Bool.false_eq_true, if_false, nextNoonOrMidnight_eq, Wd]
    | true => simp only [if_true, nextQuarterHour, Wd, Nat.succ_mul]

/-- one window, one cache: patching the text pre-formatted for `c` with the fields of an instant `t` of the same
    window gives what a recalculation at `t` would give -/
theorem window_patch (h : PatOK P tz loc toks) (c t : Nat) (hc : Good toks c) (ht : Good toks t) (hct : c ≤ t)
    (hw : t / Wd loc P = c / Wd loc P) :
    patchAll (tmOf loc tz t).hour (tmOf loc tz t).min (tmOf loc tz t).sec t
        (idxOf (tmOf loc tz c) (populateParts (charsOf toks)) 0)
        (renderParts (tmOf loc tz c) (populateParts (charsOf toks))) =
      renderParts (tmOf loc tz t) (populateParts (charsOf toks)) ∧
    idxOf (tmOf loc tz c) (populateParts (charsOf toks)) 0 = idxOf (tmOf loc tz t) (populateParts (charsOf toks)) 0 := by
  obtain ⟨hstat, hfield⟩ := window_parts h c t hc ht hct hw
  refine ⟨by simpa using patchAll_renderParts _ _ _ _ _ t _ [] hstat hfield, idxOf_congr _ _ _ 0 fun p hp => ?_⟩
  cases hpt : partType p with
  | none => rw [hstat p hp hpt]
  | some ft => obtain ⟨l0, r1, l1⟩ := hfield p hp ft hpt; rw [l0, r1, l1]

theorem tail_spec (h : PatOK P tz loc toks) (s1 : SFT) (c t : Nat)
    (hfmt : s1.fmt = charsOf toks) (hparts : s1.parts = populateParts (charsOf toks)) (hloc : s1.localTime = loc)
    (hc : Cached P tz loc toks s1 c) (ht : Good toks t) (hct : c ≤ t) (hw : t / Wd loc P = c / Wd loc P) :
    (SFT.tail s1 t).2 = toks.flatMap (renderTokPlain (tmOf loc tz t)) ∧ SInv P tz loc toks (SFT.tail s1 t).1 := by
  obtain ⟨hpatch, hidx⟩ := window_patch h c t hc.good ht hct hw
  rw [← hparts, ← hc.idx, ← hc.pre] at hpatch
  rw [← hparts, ← hc.idx] at hidx
  have hrender : renderParts (tmOf loc tz t) s1.parts = toks.flatMap (renderTokPlain (tmOf loc tz t)) := by
    rw [hparts]; exact parts_render h _
  have hinv1 : SInv P tz loc toks s1 := ⟨hfmt, hparts, hloc, Or.inr ⟨c, hc⟩⟩
  by_cases hi : s1.idx = []
  · -- no field: patching changes nothing
    rw [SFT.tail_nil s1 t hi]
    rw [hi, patchAll_nil] at hpatch
    exact ⟨hpatch.trans hrender, hinv1⟩
  · by_cases hsame : s1.cachedTs = t
    · rw [SFT.tail_same s1 t hi hsame]
      obtain rfl : c = t := hc.ts.symm.trans hsame
      exact ⟨by rw [hc.pre, hrender], hinv1⟩
    · obtain ⟨_, _, _, hsod⟩ := same_window loc P tz h.zone c t hc.good.lo hct hw
      have hcs : (s1.cachedSecs + (t - s1.cachedTs) % 4294967296) % 4294967296 = (tmOf loc tz t).sod := by
        have := tmOf_sod_lt loc tz t
        rw [hc.secs, hc.ts, hsod]; omega
      rw [SFT.tail_patch s1 t hi hsame _ hcs]
      exact ⟨hpatch.trans hrender,
        hfmt, hparts, hloc, Or.inr ⟨t, ht, rfl, hpatch, hidx, rfl, hc.next.trans (by rw [hw])⟩⟩

theorem SFT.step_spec (h : PatOK P tz loc toks) (s : SFT) (hi : SInv P tz loc toks s) (t : Nat) (ht : Good toks t) :
    (s.step P tz t).2 = toks.flatMap (renderTokPlain (tmOf loc tz t)) ∧ SInv P tz loc toks (s.step P tz t).1 := by
  rw [SFT.step_eq]
  by_cases hback : t < s.cachedTs
  · -- an earlier instant: plain strftime, cache untouched
    simp only [hback, if_true]
    refine ⟨?_, hi⟩
    rw [hi.fmt, hi.mode, safeStrftime_charsOf toks (supported_ok toks h.sup)]
  · simp only [hback, if_false]
    by_cases hre : s.nextRecalc ≤ t
    · simp only [hre, if_true]
      obtain ⟨hc, hf, hp, hl⟩ := recalc_cached h s hi t ht
      exact tail_spec h _ t t (hf.trans hi.fmt) (hp.trans hi.parts) (hl.trans hi.mode) hc ht (Nat.le_refl t) rfl
    · simp only [hre, if_false]
      rcases hi.state with ⟨h0, _⟩ | ⟨c, hc⟩
      · omega
      · have hct : c ≤ t := by rw [← hc.ts]; omega
        have hlt : t < (c / Wd loc P + 1) * Wd loc P := by rw [← hc.next]; omega
        exact tail_spec h s c t hi.fmt hi.parts hi.mode hc ht hct (window_of_bounds _ c t hct hlt)

theorem SFT.run_spec (h : PatOK P tz loc toks) : ∀ (ts : List Nat) (s : SFT), SInv P tz loc toks s →
    (∀ t ∈ ts, Good toks t) →
    SFT.run P tz s ts = ts.map (fun t => toks.flatMap (renderTokPlain (tmOf loc tz t))) := by
  intro ts
  induction ts with
  | nil => intro s _ _; rfl
  | cons t rest ih =>
    intro s hi hg
    obtain ⟨ho, hi'⟩ := SFT.step_spec h s hi t (hg t (by simp))
    simp only [SFT.run, List.map_cons, ho]
    rw [ih _ hi' (fun u hu => hg u (by simp [hu]))]

end

end Time
