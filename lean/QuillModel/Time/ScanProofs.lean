import QuillModel.Time.LexProofs
/-!
# The substring searches of the C++ seen through the tokens

`findAt pred` (the model of `std::string::find("%…")`) applied to the character form of a *supported* token
list finds exactly the first token that is a hit — it can neither match inside a token nor across two tokens,
because the only token ending in `'%'` is `%%` and the supported patterns forbid the letters that matter after it.
-/
namespace Time

theorem findAt_cons (pred : List Char → Bool) (c : Char) (rest : List Char) :
    findAt pred (c :: rest) =
      if c = '%' ∧ pred rest = true then some ([], rest)
      else (findAt pred rest).map (fun ab => (c :: ab.1, ab.2)) := by
  rw [findAt]
  split
  · rfl
  · cases findAt pred rest with
    | none => rfl
    | some ab => cases ab; rfl

theorem findAt_cons_ne (pred : List Char → Bool) (c : Char) (rest : List Char) (h : c ≠ '%') :
    findAt pred (c :: rest) = (findAt pred rest).map (fun ab => (c :: ab.1, ab.2)) := by
  rw [findAt_cons]; simp [h]

theorem findAt_pct_miss (pred : List Char → Bool) (rest : List Char) (h : pred rest = false) :
    findAt pred ('%' :: rest) = (findAt pred rest).map (fun ab => ('%' :: ab.1, ab.2)) := by
  rw [findAt_cons]; simp [h]

theorem findAt_pct_hit (pred : List Char → Bool) (rest : List Char) (h : pred rest = true) :
    findAt pred ('%' :: rest) = some ([], rest) := by
  rw [findAt_cons]; simp [h]

theorem findAt_some_decomp (pred : List Char → Bool) : ∀ (s a b : List Char), findAt pred s = some (a, b) →
    s = a ++ '%' :: b := by
  intro s
  induction s with
  | nil => intro a b h; simp [findAt] at h
  | cons c rest ih =>
    intro a b h
    rw [findAt_cons] at h
    by_cases hc : c = '%' ∧ pred rest = true
    · rw [if_pos hc] at h
      simp only [Option.some.injEq, Prod.mk.injEq] at h
      obtain ⟨rfl, rfl⟩ := h
      simp [hc.1]
    · rw [if_neg hc] at h
      cases hf : findAt pred rest with
      | none => simp [hf] at h
      | some ab =>
        obtain ⟨a', b'⟩ := ab
        simp only [hf, Option.map_some, Option.some.injEq, Prod.mk.injEq] at h
        obtain ⟨rfl, rfl⟩ := h
        simp [ih a' b' hf]

theorem findAt_skip_plain (pred : List Char → Bool) : ∀ (cs rest : List Char), (∀ c ∈ cs, c ≠ '%') →
    findAt pred (cs ++ rest) = (findAt pred rest).map (fun ab => (cs ++ ab.1, ab.2)) := by
  intro cs
  induction cs with
  | nil => intro rest _; simp
  | cons c cs ih =>
    intro rest h
    rw [List.cons_append, findAt_cons_ne _ _ _ (h c (by simp)), ih rest (fun x hx => h x (by simp [hx]))]
    cases findAt pred rest <;> simp

/-- the next character is not one of the letters the searches look for after a `'%'` -/
def headSafe : List Char → Bool
  | [] => true
  | c :: _ => !badAfterPct.contains c

theorem tok_chars_ne_nil (t : Tok) : t.chars ≠ [] := by cases t <;> simp [Tok.chars]

theorem charsOf_eq_nil (toks : List Tok) : charsOf toks = [] ↔ toks = [] := by
  cases toks with
  | nil => simp
  | cons t ts => simp [tok_chars_ne_nil t]

theorem headSafe_of_adj (rest : List Tok) (h : adjOK .pct rest = true) (hs : supportedToks rest = true) :
    headSafe (charsOf rest) = true := by
  cases rest with
  | nil => rfl
  | cons t ts =>
    rw [supported_cons] at hs
    cases t with
    | lit c => simpa [adjOK, headSafe, Tok.chars] using h
    | stray => simp [okTok] at hs
    | pct => simp [headSafe, Tok.chars, badAfterPct]
    | conv c => simp [headSafe, Tok.chars, badAfterPct]
    | mod m c => simp [headSafe, Tok.chars, badAfterPct]
    | frac k => simp [headSafe, Tok.chars, badAfterPct]

/-- a search predicate that can only fire on one of the `badAfterPct` letters -/
def PredSafe (pred : List Char → Bool) : Prop := ∀ rest, headSafe rest = true → pred rest = false

theorem tok_shape (tok : Tok) (hok : okTok tok = true) :
    (∀ c ∈ tok.chars, c ≠ '%') ∨ tok = .pct ∨ ∃ tail, tok ≠ .pct ∧ tok.chars = '%' :: tail ∧ ∀ c ∈ tail, c ≠ '%' := by
  cases tok with
  | lit c => exact .inl (by simpa [Tok.chars] using okTok_lit c hok)
  | pct => exact .inr (.inl rfl)
  | conv c =>
    simp only [okTok, Bool.and_eq_true] at hok
    exact .inr (.inr ⟨[c], nofun, rfl, by simpa using isConv_ne_pct c hok.1⟩)
  | mod m c =>
    simp only [okTok, Bool.and_eq_true] at hok
    obtain ⟨hm, hc, _⟩ := isModConv_cases m c hok.1
    have h1 : m ≠ '%' := by rcases hm with rfl | rfl <;> decide
    exact .inr (.inr ⟨[m, c], nofun, rfl, by simp [h1, hc]⟩)
  | frac k => exact .inr (.inr ⟨['Q', k.letter, 's'], nofun, rfl, by cases k <;> decide⟩)
  | stray => simp [okTok] at hok

theorem findAt_skip_tok (pred : List Char → Bool) (hp : PredSafe pred) (tok : Tok) (rest : List Char)
    (hok : okTok tok = true) (hadj : tok = .pct → headSafe rest = true)
    (hmiss : ∀ tail, tok ≠ .pct → tok.chars = '%' :: tail → pred (tail ++ rest) = false) :
    findAt pred (tok.chars ++ rest) = (findAt pred rest).map (fun ab => (tok.chars ++ ab.1, ab.2)) := by
  rcases tok_shape tok hok with hpl | rfl | ⟨tail, hne, hc, hpl⟩
  · exact findAt_skip_plain pred _ rest hpl
  · have h1 : pred ('%' :: rest) = false := hp _ (by simp [headSafe, badAfterPct])
    have h2 : pred rest = false := hp _ (hadj rfl)
    simp only [Tok.chars, List.cons_append, List.nil_append]
    rw [findAt_pct_miss _ _ h1, findAt_pct_miss _ _ h2]
    cases findAt pred rest <;> simp
  · rw [hc, List.cons_append, findAt_pct_miss _ _ (hmiss tail hne hc), findAt_skip_plain pred tail rest hpl]
    cases findAt pred rest <;> simp

def splitHit (hit : Tok → Bool) : List Tok → Option (List Tok × Tok × List Tok)
  | [] => none
  | t :: rest =>
    if hit t then some ([], t, rest)
    else (splitHit hit rest).map (fun r => (t :: r.1, r.2.1, r.2.2))

theorem splitHit_some (hit : Tok → Bool) : ∀ (toks a : List Tok) (x : Tok) (b : List Tok),
    splitHit hit toks = some (a, x, b) → toks = a ++ x :: b ∧ hit x = true ∧ ∀ t ∈ a, hit t = false := by
  intro toks
  induction toks with
  | nil => intro a x b h; simp [splitHit] at h
  | cons t ts ih =>
    intro a x b h
    simp only [splitHit] at h
    by_cases ht : hit t = true
    · simp only [ht, if_true, Option.some.injEq, Prod.mk.injEq] at h
      obtain ⟨rfl, rfl, rfl⟩ := h
      simp [ht]
    · simp only [ht, Bool.false_eq_true, if_false, Option.map_eq_some_iff] at h
      obtain ⟨⟨a', x', b'⟩, hs, he⟩ := h
      simp only [Prod.mk.injEq] at he
      obtain ⟨rfl, rfl, rfl⟩ := he
      obtain ⟨h1, h2, h3⟩ := ih a' x' b' hs
      refine ⟨by simp [h1], h2, ?_⟩
      intro u hu
      simp only [List.mem_cons] at hu
      rcases hu with rfl | hu
      · simpa using ht
      · exact h3 u hu

theorem splitHit_none (hit : Tok → Bool) : ∀ (toks : List Tok),
    splitHit hit toks = none → ∀ t ∈ toks, hit t = false := by
  intro toks
  induction toks with
  | nil => intro _ t ht; simp at ht
  | cons t ts ih =>
    intro h u hu
    simp only [splitHit] at h
    by_cases ht : hit t = true
    · simp [ht] at h
    · simp only [ht, Bool.false_eq_true, if_false, Option.map_eq_none_iff] at h
      simp only [List.mem_cons] at hu
      rcases hu with rfl | hu
      · simpa using ht
      · exact ih h u hu

theorem splitHit_isSome_iff (hit : Tok → Bool) (toks : List Tok) :
    (splitHit hit toks).isSome = true ↔ ∃ t ∈ toks, hit t = true := by
  cases hs : splitHit hit toks with
  | none =>
    have hn := splitHit_none hit toks hs
    simp only [Option.isSome_none, Bool.false_eq_true, false_iff]
    rintro ⟨t, ht, h⟩
    rw [hn t ht] at h; cases h
  | some r =>
    obtain ⟨a, x, b⟩ := r
    obtain ⟨rfl, hx, _⟩ := splitHit_some hit toks a x b hs
    exact ⟨fun _ => ⟨x, by simp, hx⟩, fun _ => rfl⟩

theorem splitHit_of_none_mem (hit : Tok → Bool) : ∀ (toks : List Tok),
    (∀ t ∈ toks, hit t = false) → splitHit hit toks = none := by
  intro toks
  induction toks with
  | nil => intro _; rfl
  | cons t ts ih =>
    intro h
    simp [splitHit, h t (by simp), ih (fun u hu => h u (by simp [hu]))]

theorem splitHit_append (hit : Tok → Bool) : ∀ (a : List Tok) (x : Tok) (b : List Tok),
    (∀ t ∈ a, hit t = false) → hit x = true → splitHit hit (a ++ x :: b) = some (a, x, b) := by
  intro a
  induction a with
  | nil => intro x b _ hx; simp [splitHit, hx]
  | cons t ts ih =>
    intro x b h hx
    simp [splitHit, h t (by simp), ih x b (fun u hu => h u (by simp [hu])) hx]

/-- what makes `hit` the token-level reading of `pred` -/
structure HitSpec (pred : List Char → Bool) (hit : Tok → Bool) : Prop where
  safe : PredSafe pred
  miss : ∀ (tok : Tok) (tail rest : List Char), okTok tok = true → tok ≠ .pct → hit tok = false →
    tok.chars = '%' :: tail → pred (tail ++ rest) = false
  fire : ∀ (tok : Tok), hit tok = true → ∃ tail, tok.chars = '%' :: tail ∧ ∀ rest, pred (tail ++ rest) = true

theorem findAt_toks (pred : List Char → Bool) (hit : Tok → Bool) (hs : HitSpec pred hit) :
    ∀ (toks : List Tok), supportedToks toks = true →
    findAt pred (charsOf toks) =
      (splitHit hit toks).map (fun r => (charsOf r.1, r.2.1.chars.tail ++ charsOf r.2.2)) := by
  intro toks
  induction toks with
  | nil => intro _; simp [splitHit, findAt]
  | cons t ts ih =>
    intro h
    rw [supported_cons] at h
    obtain ⟨hok, hadj, hrest⟩ := h
    simp only [charsOf_cons, splitHit]
    by_cases ht : hit t = true
    · obtain ⟨tail, htail, hfire⟩ := hs.fire t ht
      simp only [ht, if_true, Option.map_some, charsOf_nil]
      rw [htail, List.cons_append, findAt_pct_hit _ _ (hfire _)]
      simp
    · have ht' : hit t = false := by simpa using ht
      simp only [ht', Bool.false_eq_true, if_false, Option.map_map]
      rw [findAt_skip_tok pred hs.safe t (charsOf ts) hok
        (fun e => by subst e; exact headSafe_of_adj ts hadj hrest)
        (fun tail hne hc => hs.miss t tail _ hok hne ht' hc), ih hrest]
      cases splitHit hit ts <;> simp [Function.comp]

def hitMod : Tok → Bool
  | .conv c => isModifier c
  | _ => false

def hitFrac (k : Frac) : Tok → Bool
  | .frac k' => k == k'
  | _ => false

def predMod : List Char → Bool := fun r => match r with | c :: _ => isModifier c | [] => false

theorem splitOnce_def (fmt : List Char) :
    splitOnce fmt = match findAt predMod fmt with
      | some (p1, d :: r) => (FT.ofChar d).map (fun ft => (p1, ft, r))
      | _ => none := rfl

theorem FT.ofChar_eq_some (c : Char) (ft : FT) : FT.ofChar c = some ft ↔ ft.char = c := by
  constructor
  · intro h
    unfold FT.ofChar at h
    -- one step per letter of the chain of tests
    repeat (rcases ite_some h with ⟨rfl, rfl⟩ | ⟨-, h⟩; · rfl)
    cases h
  · rintro rfl; cases ft <;> rfl

theorem FT.ofChar_char (ft : FT) : FT.ofChar ft.char = some ft := (FT.ofChar_eq_some _ ft).2 rfl

theorem isModifier_bad (c : Char) (h : isModifier c = true) : badAfterPct.contains c = true := by
  obtain ⟨ft, hft⟩ := Option.isSome_iff_exists.mp h
  obtain rfl := (FT.ofChar_eq_some c ft).1 hft
  cases ft <;> decide

theorem pctTok_cases (tok : Tok) (tail : List Char) (hok : okTok tok = true) (hne : tok ≠ .pct)
    (hc : tok.chars = '%' :: tail) :
    (∃ c, tok = .conv c ∧ tail = [c]) ∨ (∃ m c, tok = .mod m c ∧ (m = 'E' ∨ m = 'O') ∧ tail = [m, c]) ∨
      ∃ k, tok = .frac k ∧ tail = ['Q', k.letter, 's'] := by
  cases tok with
  | lit c => simp [Tok.chars] at hc; exact absurd hc.1 (okTok_lit c hok)
  | pct => exact absurd rfl hne
  | conv c => exact .inl ⟨c, rfl, (List.cons.inj hc).2.symm⟩
  | mod m c =>
    simp only [okTok, Bool.and_eq_true] at hok
    exact .inr (.inl ⟨m, c, rfl, (isModConv_cases m c hok.1).1, (List.cons.inj hc).2.symm⟩)
  | frac k => exact .inr (.inr ⟨k, rfl, (List.cons.inj hc).2.symm⟩)
  | stray => simp [okTok] at hok

theorem hitSpec_mod : HitSpec predMod hitMod where
  safe := by
    intro rest h
    cases rest with
    | nil => rfl
    | cons c r =>
      simp only [headSafe, Bool.not_eq_true'] at h
      simp only [predMod]
      cases hm : isModifier c with
      | false => rfl
      | true => rw [isModifier_bad c hm] at h; cases h
  miss := by
    intro tok tail rest hok hne hh hc
    rcases pctTok_cases tok tail hok hne hc with ⟨c, rfl, rfl⟩ | ⟨m, c, rfl, hm, rfl⟩ | ⟨k, rfl, rfl⟩
    · simpa [predMod, hitMod] using hh
    · rcases hm with rfl | rfl <;> simp [predMod] <;> decide
    · simp [predMod]; decide
  fire := by
    intro tok h
    cases tok with
    | conv c => exact ⟨[c], rfl, fun rest => by simpa [predMod, hitMod] using h⟩
    | _ => simp [hitMod] at h

theorem hitSpec_frac (k : Frac) : HitSpec (startsWith ['Q', k.letter, 's']) (hitFrac k) where
  safe := by
    intro rest h
    cases rest with
    | nil => rfl
    | cons c r =>
      simp only [headSafe, Bool.not_eq_true'] at h
      simp only [startsWith, List.isPrefixOf, Bool.and_eq_false_imp, beq_iff_eq]
      intro e; subst e; exact absurd h (by decide)
  miss := by
    intro tok tail rest hok hne hh hc
    rcases pctTok_cases tok tail hok hne hc with ⟨c, rfl, rfl⟩ | ⟨m, c, rfl, hm, rfl⟩ | ⟨k', rfl, rfl⟩
    · simp only [okTok, Bool.and_eq_true] at hok
      have : c ≠ 'Q' := by intro e; subst e; revert hok; decide
      simp [startsWith, List.isPrefixOf, Ne.symm this]
    · rcases hm with rfl | rfl <;> simp [startsWith, List.isPrefixOf]
    · simp only [hitFrac, beq_eq_false_iff_ne] at hh
      have hl : k.letter ≠ k'.letter := fun e =>
        hh (Option.some.inj (by rw [← Frac.ofLetter_letter k, e, Frac.ofLetter_letter k']))
      simp [startsWith, List.isPrefixOf, hl]
  fire := by
    intro tok h
    cases tok with
    | frac k' =>
      simp only [hitFrac, beq_iff_eq] at h; subst h
      exact ⟨['Q', k.letter, 's'], rfl, fun rest => by simp [startsWith, List.isPrefixOf]⟩
    | _ => simp [hitFrac] at h

theorem first_frac (toks : List Tok) (hf : 1 ≤ fracCount toks) :
    ∃ k a b, toks = a ++ Tok.frac k :: b ∧ (∀ t ∈ a, isFracTok t = false) ∧ fracCount toks = 1 + fracCount b := by
  cases hs : splitHit isFracTok toks with
  | none => have := (fracCount_eq_zero_iff toks).2 (splitHit_none _ toks hs); omega
  | some r =>
    obtain ⟨a, x, b⟩ := r
    obtain ⟨rfl, hx, ha⟩ := splitHit_some _ toks a x b hs
    cases x with
    | frac k =>
      refine ⟨k, a, b, rfl, ha, ?_⟩
      rw [fracCount_append, fracCount_cons, (fracCount_eq_zero_iff a).2 ha]
      simp [isFracTok]
    | _ => simp [isFracTok] at hx

theorem mem_frac_of_fracCount_pos (toks : List Tok) (hf : 1 ≤ fracCount toks) : ∃ k, Tok.frac k ∈ toks := by
  obtain ⟨k, a, b, rfl, -, -⟩ := first_frac toks hf
  exact ⟨k, by simp⟩

/-- at most one fractional token: none, or the pattern splits around the one -/
theorem fracCount_le_one (toks : List Tok) (hf : fracCount toks ≤ 1) :
    (∀ t ∈ toks, isFracTok t = false) ∨
    ∃ k a b, toks = a ++ Tok.frac k :: b ∧ (∀ t ∈ a, isFracTok t = false) ∧ (∀ t ∈ b, isFracTok t = false) := by
  rcases Nat.lt_or_ge (fracCount toks) 1 with h0 | h1
  · exact .inl ((fracCount_eq_zero_iff toks).1 (by omega))
  · obtain ⟨k, a, b, rfl, ha, hc⟩ := first_frac toks h1
    exact .inr ⟨k, a, b, rfl, ha, (fracCount_eq_zero_iff b).1 (by omega)⟩

theorem hitFrac_iff (k : Frac) (t : Tok) : hitFrac k t = true ↔ t = .frac k := by
  cases t with
  | frac k' => simp only [hitFrac, beq_iff_eq, Tok.frac.injEq]; exact eq_comm
  | _ => simp [hitFrac]

theorem hitFrac_false_of_not_frac (k : Frac) (t : Tok) (h : isFracTok t = false) : hitFrac k t = false := by
  cases t <;> simp_all [isFracTok, hitFrac]

end Time
