import QuillModel.Time.MachineProofs
/-!
# `StringFromTime::init` and `TimestampFormatter`

`init` rejects exactly the patterns with a `%X` conversion and otherwise establishes the cache invariant for the
rewritten pattern; the formatter's constructor finds the fractional specifier token, throws for two different
kinds, and splits the pattern into two cached parts around it; one call renders part 1, the fraction, part 2.
-/
namespace Time

theorem findAt_X (toks : List Tok) (h : supportedToks toks = true) :
    (findAt (startsWith ['X']) (charsOf toks)).isSome = hasX toks := by
  rw [findAt_toks _ _ (hitSpec_conv 'X' (by decide) (by decide)) toks h, Option.isSome_map, splitHit_conv_isSome]
  rfl

theorem SFT.init_reject (toks : List Tok) (loc : Bool) (h : supportedToks toks = true) (hx : hasX toks = true) :
    SFT.init (charsOf toks) loc = .error .percentX := by
  simp [SFT.init, findAt_X toks h, hx]

/-- the state `init` leaves -/
def SFT.fresh (toks : List Tok) (loc : Bool) : SFT :=
  { fmt := charsOf (rw3 toks), parts := populateParts (charsOf (rw3 toks)), localTime := loc }

theorem SFT.init_accept (toks : List Tok) (loc : Bool) (h : supportedToks toks = true) (hx : hasX toks = false) :
    SFT.init (charsOf toks) loc = .ok (SFT.fresh toks loc) := by
  simp [SFT.init, findAt_X toks h, hx, rewrite_toks toks h, SFT.fresh]

theorem SFT.init_inv (P : Nat) (tz : Nat → ZInfo) (toks : List Tok) (loc : Bool) :
    SInv P tz loc (rw3 toks) (SFT.fresh toks loc) :=
  -- `rfl` for the first two fields would have the elaborator unfold `populateParts` before `SFT.fresh`
  ⟨by simp only [SFT.fresh], by simp only [SFT.fresh], rfl, Or.inl ⟨rfl, rfl⟩⟩

theorem patOK_rw3 (P : Nat) (tz : Nat → ZInfo) (loc : Bool) (toks : List Tok) (h : supportedToks toks = true)
    (hx : hasX toks = false) (hz : loc = true → ZoneOK P tz) : PatOK P tz loc (rw3 toks) :=
  ⟨rw3_supported toks h, rw3_tokens toks h hx, hz⟩

theorem SFT.step_spec_rw3 (P : Nat) (tz : Nat → ZInfo) (loc : Bool) (toks : List Tok) (h : supportedToks toks = true)
    (hx : hasX toks = false) (hz : loc = true → ZoneOK P tz) (s : SFT) (hi : SInv P tz loc (rw3 toks) s) (t : Nat)
    (ht : Good toks t) :
    (s.step P tz t).2 = toks.flatMap (renderTokPlain (tmOf loc tz t)) ∧ SInv P tz loc (rw3 toks) (s.step P tz t).1 := by
  obtain ⟨h1, h2⟩ := SFT.step_spec (patOK_rw3 P tz loc toks h hx hz) s hi t (ht.mono (mem_rw3_s toks))
  exact ⟨by rw [h1, rw3_render], h2⟩

theorem findFrac_toks (k : Frac) (toks : List Tok) (h : supportedToks toks = true) :
    findFrac k (charsOf toks) = (splitHit (hitFrac k) toks).map (fun r => (charsOf r.1, charsOf r.2.2)) := by
  unfold findFrac
  rw [findAt_toks _ _ (hitSpec_frac k) toks h]
  cases hs : splitHit (hitFrac k) toks with
  | none => rfl
  | some r =>
    obtain ⟨a, x, b⟩ := r
    have hx := (splitHit_some _ toks a x b hs).2.1
    cases x with
    | frac k' => simp [Tok.chars]
    | _ => simp [hitFrac] at hx

theorem findFrac_none (k : Frac) (toks : List Tok) (h : supportedToks toks = true)
    (hn : ∀ t ∈ toks, hitFrac k t = false) : findFrac k (charsOf toks) = none := by
  rw [findFrac_toks k toks h, splitHit_of_none_mem _ toks hn]; rfl

theorem findFrac_some (k : Frac) (a b : List Tok) (h : supportedToks (a ++ .frac k :: b) = true)
    (hn : ∀ t ∈ a, hitFrac k t = false) :
    findFrac k (charsOf (a ++ .frac k :: b)) = some (charsOf a, charsOf b) := by
  rw [findFrac_toks k _ h, splitHit_append _ a (.frac k) b hn (by simp [hitFrac])]; rfl

theorem TF.init_findFrac_none (rr : Bool) (fmt : List Char) (loc : Bool) (h : ∀ k, findFrac k fmt = none) :
    TF.init rr fmt loc = (SFT.init fmt loc).map (fun p1 => { spec := none, p1 := p1, p2 := none }) := by
  simp only [TF.init, h]
  cases SFT.init fmt loc <;> rfl

theorem TF.init_findFrac_one (rr : Bool) (fmt : List Char) (loc : Bool) (k : Frac) (a b : List Char)
    (hk : findFrac k fmt = some (a, b)) (ho : ∀ k', k' ≠ k → findFrac k' fmt = none) :
    TF.init rr fmt loc =
      (SFT.init a loc).bind (fun p1 =>
        if rr = true ∧ ((findFrac .ms b).isSome ∨ (findFrac .us b).isSome ∨ (findFrac .ns b).isSome) then .error .repeated
        else if b = [] then .ok { spec := some k, p1 := p1, p2 := none }
        else (SFT.init b loc).map (fun p2 => { spec := some k, p1 := p1, p2 := some p2 })) := by
  have tail : ∀ p1 : SFT,
      (if b = [] then (pure { spec := some k, p1 := p1, p2 := none } : Except InitError TF)
        else do
          let p2 ← SFT.init b loc
          pure { spec := some k, p1 := p1, p2 := some p2 }) =
      (if b = [] then .ok { spec := some k, p1 := p1, p2 := none }
        else (SFT.init b loc).map (fun p2 => { spec := some k, p1 := p1, p2 := some p2 })) := by
    intro p1
    by_cases hb : b = []
    · simp [hb, pure, Except.pure]
    · simp only [hb, if_false, bind, pure, Except.pure]
      cases SFT.init b loc <;> simp [Except.map, Except.bind]
  have hall : ∀ k', findFrac k' fmt = if k' = k then some (a, b) else none := by
    intro k'
    split
    · next e => rw [e, hk]
    · next e => exact ho k' e
  cases k
  all_goals
    simp only [TF.init, hall, reduceCtorEq, if_true, if_false, Option.isSome_none, Option.isSome_some,
      Bool.false_eq_true, and_false, false_and, or_false, false_or]
    cases SFT.init a loc with
    | error e => rfl
    | ok p1 =>
      simp only [bind, Except.bind]
      by_cases hc : rr = true ∧ ((findFrac .ms b).isSome = true ∨ (findFrac .us b).isSome = true ∨ (findFrac .ns b).isSome = true)
      · rw [if_pos hc, if_pos hc]
      · rw [if_neg hc, if_neg hc]; exact tail p1

theorem TF.init_findFrac_two (rr : Bool) (fmt : List Char) (loc : Bool) (k1 k2 : Frac) (hne : k1 ≠ k2)
    (h1 : (findFrac k1 fmt).isSome = true) (h2 : (findFrac k2 fmt).isSome = true) :
    TF.init rr fmt loc = .error .exclusive := by
  cases k1 <;> cases k2
  case ms.ms | us.us | ns.ns => exact absurd rfl hne
  -- `h1` and `h2` decide the two tests of the constructor: `ms ∧ us`, then `(ms ∨ us) ∧ ns`
  all_goals
    simp only [TF.init, h1, h2]
    simp

theorem renderTok_plain (tm : Tm) (ns : Nat) (t : Tok) (h : isFracTok t = false) :
    renderTok tm ns t = renderTokPlain tm t := by
  cases t <;> first | rfl | simp [isFracTok] at h

theorem flatMap_renderTok_plain (tm : Tm) (ns : Nat) (toks : List Tok) (h : ∀ t ∈ toks, isFracTok t = false) :
    toks.flatMap (renderTok tm ns) = toks.flatMap (renderTokPlain tm) :=
  flatMap_congr' fun t ht => renderTok_plain tm ns t (h t ht)

theorem findFrac_isSome_iff (k : Frac) (toks : List Tok) (h : supportedToks toks = true) :
    (findFrac k (charsOf toks)).isSome = true ↔ Tok.frac k ∈ toks := by
  rw [findFrac_toks k toks h, Option.isSome_map, splitHit_isSome_iff]
  simp only [hitFrac_iff, exists_eq_right]

theorem TF.init_no_frac (rr : Bool) (loc : Bool) (toks : List Tok) (h : supportedToks toks = true)
    (hn : ∀ t ∈ toks, isFracTok t = false) :
    TF.init rr (charsOf toks) loc = (SFT.init (charsOf toks) loc).map (fun p1 => { spec := none, p1 := p1, p2 := none }) :=
  TF.init_findFrac_none rr _ loc fun k => findFrac_none k toks h fun t ht => hitFrac_false_of_not_frac k t (hn t ht)

/-- the constructor on a pattern with one kind of fractional specifier: split at the first, part 1 initialised,
    then (repaired header) the test for a second one -/
theorem TF.init_first_frac (rr : Bool) (loc : Bool) (k : Frac) (a b : List Tok)
    (h : supportedToks (a ++ .frac k :: b) = true) (ha : ∀ t ∈ a, isFracTok t = false)
    (hb : ∀ k', Tok.frac k' ∈ b → k' = k) :
    TF.init rr (charsOf (a ++ .frac k :: b)) loc =
      (SFT.init (charsOf a) loc).bind (fun p1 =>
        if rr = true ∧ Tok.frac k ∈ b then .error .repeated
        else if charsOf b = [] then .ok { spec := some k, p1 := p1, p2 := none }
        else (SFT.init (charsOf b) loc).map (fun p2 => { spec := some k, p1 := p1, p2 := some p2 })) := by
  have hk := findFrac_some k a b h (fun t ht => hitFrac_false_of_not_frac k t (ha t ht))
  have ho : ∀ k', k' ≠ k → findFrac k' (charsOf (a ++ .frac k :: b)) = none := by
    intro k' hne
    apply Option.not_isSome_iff_eq_none.1
    rw [findFrac_isSome_iff k' _ h]
    simp only [List.mem_append, List.mem_cons, Tok.frac.injEq]
    rintro (hm | e | hm)
    · have := ha _ hm; simp [isFracTok] at this
    · exact hne e
    · exact hne (hb k' hm)
  have hcond : ((findFrac .ms (charsOf b)).isSome = true ∨ (findFrac .us (charsOf b)).isSome = true ∨
      (findFrac .ns (charsOf b)).isSome = true) ↔ Tok.frac k ∈ b := by
    simp only [findFrac_isSome_iff _ b (supported_split h).2]
    constructor
    · rintro (hm | hm | hm) <;> exact hb _ hm ▸ hm
    · intro hm; cases k <;> simp [hm]
  rw [TF.init_findFrac_one rr _ loc k _ _ hk ho]
  simp only [hcond]

theorem TF.init_single_frac (rr : Bool) (loc : Bool) (k : Frac) (a b : List Tok)
    (h : supportedToks (a ++ .frac k :: b) = true) (ha : ∀ t ∈ a, isFracTok t = false)
    (hb : ∀ t ∈ b, isFracTok t = false) :
    TF.init rr (charsOf (a ++ .frac k :: b)) loc =
      (SFT.init (charsOf a) loc).bind (fun p1 =>
        if charsOf b = [] then .ok { spec := some k, p1 := p1, p2 := none }
        else (SFT.init (charsOf b) loc).map (fun p2 => { spec := some k, p1 := p1, p2 := some p2 })) := by
  have hnb : ∀ k', Tok.frac k' ∉ b := fun k' hm => by have := hb _ hm; simp [isFracTok] at this
  rw [TF.init_first_frac rr loc k a b h ha (fun k' hm => absurd hm (hnb k'))]
  simp only [hnb k, and_false, if_false]

/-- the formatter's state for the pattern `toks`: without a fractional token one cache for all of it; with one, the
    pattern splits around it into `a` and `b`, a cache for `a` and, unless `b` is empty, one for `b` -/
inductive TInv (P : Nat) (tz : Nat → ZInfo) (loc : Bool) (toks : List Tok) (f : TF) : Prop
  | plain (hn : ∀ t ∈ toks, isFracTok t = false) (hs : f.spec = none) (h2 : f.p2 = none)
      (h1 : SInv P tz loc (rw3 toks) f.p1)
  | split (k : Frac) (a b : List Tok) (ht : toks = a ++ Tok.frac k :: b) (ha : ∀ t ∈ a, isFracTok t = false)
      (hb : ∀ t ∈ b, isFracTok t = false) (hs : f.spec = some k) (h1 : SInv P tz loc (rw3 a) f.p1)
      (h2 : (b = [] ∧ f.p2 = none) ∨ ∃ p2, f.p2 = some p2 ∧ SInv P tz loc (rw3 b) p2)

theorem TF.init_spec (rr : Bool) (P : Nat) (tz : Nat → ZInfo) (loc : Bool) (toks : List Tok)
    (h : supportedToks toks = true) (hx : hasX toks = false) (hf : fracCount toks ≤ 1) :
    ∃ f, TF.init rr (charsOf toks) loc = .ok f ∧ TInv P tz loc toks f := by
  rcases fracCount_le_one toks hf with hn | ⟨k, a, b, rfl, ha, hb⟩
  · rw [TF.init_no_frac rr loc toks h hn, SFT.init_accept toks loc h hx]
    exact ⟨{ spec := none, p1 := SFT.fresh toks loc, p2 := none }, rfl,
      TInv.plain hn rfl rfl (SFT.init_inv P tz toks loc)⟩
  · obtain ⟨hsa, hsb⟩ := supported_split h
    obtain ⟨hxa, hxb⟩ := hasX_split hx
    rw [TF.init_single_frac rr loc k a b h ha hb, SFT.init_accept a loc hsa hxa]
    simp only [Except.bind]
    by_cases hbe : b = []
    · subst hbe
      exact ⟨{ spec := some k, p1 := SFT.fresh a loc, p2 := none }, by simp,
        TInv.split k a [] rfl ha hb rfl (SFT.init_inv P tz a loc) (Or.inl ⟨rfl, rfl⟩)⟩
    · have hce : charsOf b ≠ [] := fun e => hbe ((charsOf_eq_nil b).1 e)
      rw [SFT.init_accept b loc hsb hxb]
      exact ⟨{ spec := some k, p1 := SFT.fresh a loc, p2 := some (SFT.fresh b loc) },
        by simp [hce, Except.map],
        TInv.split k a b rfl ha hb rfl (SFT.init_inv P tz a loc) (Or.inr ⟨_, rfl, SFT.init_inv P tz b loc⟩)⟩

theorem TF.step_spec (P : Nat) (tz : Nat → ZInfo) (loc : Bool) (toks : List Tok) (h : supportedToks toks = true)
    (hx : hasX toks = false) (hz : loc = true → ZoneOK P tz) (f : TF) (hi : TInv P tz loc toks f) (ns : Nat)
    (hg : Good toks (ns / 1000000000)) :
    (f.step P tz ns).2 = toks.flatMap (renderTok (tmOf loc tz (ns / 1000000000)) (ns % 1000000000)) ∧
    TInv P tz loc toks (f.step P tz ns).1 := by
  have hex := sub_div_mul ns 1000000000
  cases hi with
  | plain hn hs h2 h1 =>
    obtain ⟨o1, i1⟩ := SFT.step_spec_rw3 P tz loc toks h hx hz f.p1 h1 _ hg
    simp only [TF.step, hs, h2, List.append_nil]
    refine ⟨by rw [o1, flatMap_renderTok_plain _ _ toks hn], TInv.plain hn rfl rfl i1⟩
  | split k a b ht ha hb hs h1 h2 =>
    subst ht
    obtain ⟨hsa, hsb⟩ := supported_split h
    obtain ⟨hxa, hxb⟩ := hasX_split hx
    have hga : Good a (ns / 1000000000) := hg.mono fun hm => by simp [hm]
    have hgb : Good b (ns / 1000000000) := hg.mono fun hm => by simp [hm]
    obtain ⟨o1, i1⟩ := SFT.step_spec_rw3 P tz loc a hsa hxa hz f.p1 h1 _ hga
    have hmid : writeFrac k.width (k.value (ns - ns / 1000000000 * 1000000000)) = renderFrac k (ns % 1000000000) := by
      rw [hex]; exact writeFrac_frac k _ (by omega)
    have hsplit : (a ++ Tok.frac k :: b).flatMap (renderTok (tmOf loc tz (ns / 1000000000)) (ns % 1000000000)) =
        a.flatMap (renderTokPlain (tmOf loc tz (ns / 1000000000))) ++ renderFrac k (ns % 1000000000) ++
          b.flatMap (renderTokPlain (tmOf loc tz (ns / 1000000000))) := by
      rw [List.flatMap_append, List.flatMap_cons, flatMap_renderTok_plain _ _ a ha, flatMap_renderTok_plain _ _ b hb]
      simp [renderTok]
    rcases h2 with ⟨hbe, hp2⟩ | ⟨p2, hp2, i2⟩
    · subst hbe
      simp only [TF.step, hs, hp2, hmid]
      refine ⟨by rw [hsplit, o1]; simp, TInv.split k a [] rfl ha hb rfl i1 (Or.inl ⟨rfl, rfl⟩)⟩
    · obtain ⟨o2, i2'⟩ := SFT.step_spec_rw3 P tz loc b hsb hxb hz p2 i2 _ hgb
      simp only [TF.step, hs, hp2, hmid]
      refine ⟨by rw [hsplit, o1, o2], TInv.split k a b rfl ha hb rfl i1 (Or.inr ⟨_, rfl, i2'⟩)⟩

theorem TF.run_spec (P : Nat) (tz : Nat → ZInfo) (loc : Bool) (toks : List Tok) (h : supportedToks toks = true)
    (hx : hasX toks = false) (hz : loc = true → ZoneOK P tz) : ∀ (nss : List Nat) (f : TF), TInv P tz loc toks f →
    (∀ ns ∈ nss, Good toks (ns / 1000000000)) →
    TF.run P tz f nss =
      nss.map (fun ns => toks.flatMap (renderTok (tmOf loc tz (ns / 1000000000)) (ns % 1000000000))) := by
  intro nss
  induction nss with
  | nil => intro f _ _; rfl
  | cons ns rest ih =>
    intro f hi hg
    obtain ⟨ho, hi'⟩ := TF.step_spec P tz loc toks h hx hz f hi ns (hg ns (by simp))
    simp only [TF.run, List.map_cons, ho]
    rw [ih _ hi' (fun u hu => hg u (by simp [hu]))]

theorem TF.init_exclusive (rr : Bool) (toks : List Tok) (loc : Bool) (h : supportedToks toks = true)
    (hk : 2 ≤ kindCount toks) : TF.init rr (charsOf toks) loc = .error .exclusive := by
  obtain ⟨k1, k2, hne, h1, h2⟩ := (two_le_kindCount_iff toks).1 hk
  exact TF.init_findFrac_two rr _ loc k1 k2 hne ((findFrac_isSome_iff k1 toks h).2 h1) ((findFrac_isSome_iff k2 toks h).2 h2)

theorem TF.init_repeated (toks : List Tok) (loc : Bool) (h : supportedToks toks = true) (hk : kindCount toks ≤ 1)
    (hf : 2 ≤ fracCount toks) :
    TF.init true (charsOf toks) loc = .error .repeated ∨ TF.init true (charsOf toks) loc = .error .percentX := by
  obtain ⟨k, a, b, rfl, ha, hc⟩ := first_frac toks (by omega)
  have hb := one_kind hk
  -- a second fractional token, of the same kind, after the first
  obtain ⟨k', hk'⟩ := mem_frac_of_fracCount_pos b (by omega)
  obtain rfl := hb k' hk'
  rw [TF.init_first_frac true loc k' a b h ha hb]
  cases hA : hasX a with
  | true => right; rw [SFT.init_reject a loc (supported_split h).1 hA]; rfl
  | false =>
    left
    rw [SFT.init_accept a loc (supported_split h).1 hA]
    simp only [Except.bind, hk', and_self, if_true]

theorem TF.init_percentX_single_frac (rr : Bool) (k : Frac) (a b : List Tok) (loc : Bool)
    (h : supportedToks (a ++ .frac k :: b) = true) (ha : ∀ t ∈ a, isFracTok t = false)
    (hb : ∀ t ∈ b, isFracTok t = false) (hx : hasX (a ++ .frac k :: b) = true) :
    TF.init rr (charsOf (a ++ .frac k :: b)) loc = .error .percentX := by
  obtain ⟨hsa, hsb⟩ := supported_split h
  rw [TF.init_single_frac rr loc k a b h ha hb]
  cases hA : hasX a with
  | true => rw [SFT.init_reject a loc hsa hA]; rfl
  | false =>
    have hB : hasX b = true := by
      rw [← List.singleton_append, hasX_append, hasX_append, hA] at hx
      simpa [hasX] using hx
    have hbe : charsOf b ≠ [] := by
      intro e
      obtain rfl := (charsOf_eq_nil b).1 e
      cases hB
    rw [SFT.init_accept a loc hsa hA, SFT.init_reject b loc hsb hB]
    simp only [Except.bind, if_neg hbe, Except.map]

theorem TF.init_percentX (rr : Bool) (toks : List Tok) (loc : Bool) (hs : supportedToks toks = true)
    (hf : fracCount toks ≤ 1) (hx : hasX toks = true) : TF.init rr (charsOf toks) loc = .error .percentX := by
  rcases fracCount_le_one toks hf with hn | ⟨k, a, b, rfl, ha, hb⟩
  · rw [TF.init_no_frac rr loc toks hs hn, SFT.init_reject toks loc hs hx]; rfl
  · exact TF.init_percentX_single_frac rr k a b loc hs ha hb hx

/-- the hypotheses of the C13 theorems on a supported pattern (no `%X`, at most one fractional specifier) are exactly
    the patterns the repaired constructor accepts: `TF.init_spec` one way, the three rejections the other -/
theorem TF.init_ok_iff (toks : List Tok) (loc : Bool) (h : supportedToks toks = true) :
    (∃ f, TF.init true (charsOf toks) loc = .ok f) ↔ hasX toks = false ∧ fracCount toks ≤ 1 := by
  constructor
  · rintro ⟨f, hf⟩
    have hfc : fracCount toks ≤ 1 := by
      apply Nat.le_of_not_lt
      intro h2
      rcases Nat.lt_or_ge (kindCount toks) 2 with hk | hk
      · rcases TF.init_repeated toks loc h (by omega) h2 with e | e <;> rw [e] at hf <;> cases hf
      · rw [TF.init_exclusive true toks loc h hk] at hf; cases hf
    refine ⟨?_, hfc⟩
    cases hx : hasX toks with
    | false => rfl
    | true => rw [TF.init_percentX true toks loc h hfc hx] at hf; cases hf
  · rintro ⟨hx, hf⟩
    obtain ⟨f, hf, -⟩ := TF.init_spec true 0 (fun _ => gmtZ) loc toks h hx hf
    exact ⟨f, hf⟩

end Time
