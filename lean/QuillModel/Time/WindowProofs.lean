import QuillModel.Time.PartsProofs
import QuillModel.Time.CivilProofs
/-!
# Recalculation windows

Between two recalculation points (half days in GMT mode, periods of `P` seconds in local-time mode) the civil
day, AM/PM and the zone data of the broken-down time do not change and the second of the day advances with the
instant — in local-time mode under the explicit zone premise `ZoneOK`. Static tokens render the same throughout
a window; the seven modifier fields render to what the patch switch writes.
-/
namespace Time

/-- the zone premise of the local-time theorem: the recalculation period divides a half day, the zone data
    is constant on every period `[kP, (k+1)P)` and every offset is a multiple of the period (and not below
    minus thirty-one years, so that local time is not negative in the range of the property) -/
structure ZoneOK (P : Nat) (tz : Nat → ZInfo) : Prop where
  pos : 0 < P
  div : 43200 % P = 0
  const : ∀ t t', t / P = t' / P → tz t = tz t'
  aligned : ∀ t, (tz t).off % (P : Int) = 0
  lower : ∀ t, -(978307200 : Int) ≤ (tz t).off

/-- width of the recalculation window -/
def Wd (loc : Bool) (P : Nat) : Nat := if loc then P else 43200

theorem tmOf_gmt (tz : Nat → ZInfo) (t : Nat) :
    (tmOf false tz t).days = t / 86400 ∧ (tmOf false tz t).sod = t % 86400 ∧ (tmOf false tz t).zi = gmtZ ∧
    (tmOf false tz t).epoch = t :=
  ⟨gmtime_days t, gmtime_sod t, rfl, rfl⟩

theorem tmOf_local (tz : Nat → ZInfo) (t : Nat) :
    (tmOf true tz t).days = ((t : Int) + (tz t).off).toNat / 86400 ∧
    (tmOf true tz t).sod = ((t : Int) + (tz t).off).toNat % 86400 ∧ (tmOf true tz t).zi = tz t ∧
    (tmOf true tz t).epoch = t := by
  simp [tmOf, mkTm]

theorem tmOf_sod_lt (loc : Bool) (tz : Nat → ZInfo) (t : Nat) : (tmOf loc tz t).sod < 86400 := by
  cases loc
  · rw [(tmOf_gmt tz t).2.1]; omega
  · rw [(tmOf_local tz t).2.1]; omega

theorem tmOf_epoch (loc : Bool) (tz : Nat → ZInfo) (t : Nat) : (tmOf loc tz t).epoch = t := by
  cases loc
  · exact (tmOf_gmt tz t).2.2.2
  · exact (tmOf_local tz t).2.2.2

/-- Adding an offset that is a multiple of `P` maps the `P`-windows onto `P`-windows (`dP`), and a `P`-window lies
    inside one half day because `P` divides 43200. -/
theorem local_same_halfday (P : Nat) (hP : 0 < P) (hdiv : 43200 % P = 0) (off : Int) (hoff : off % (P : Int) = 0)
    (c t : Nat) (hc : 0 ≤ (c : Int) + off) (hct : c ≤ t) (hw : t / P = c / P) :
    ((t : Int) + off).toNat / 43200 = ((c : Int) + off).toNat / 43200 ∧
    ((t : Int) + off).toNat = ((c : Int) + off).toNat + (t - c) := by
  obtain ⟨k, hk⟩ : ∃ k : Int, off = (P : Int) * k := Int.dvd_of_emod_eq_zero hoff
  have hPi : (P : Int) ≠ 0 := by omega
  have e2 : ((t : Int) + off).toNat = ((c : Int) + off).toNat + (t - c) := by
    obtain ⟨n, rfl⟩ : ∃ n, t = c + n := ⟨t - c, (Nat.add_sub_cancel' hct).symm⟩
    rw [Nat.add_sub_cancel_left, Int.natCast_add, Int.add_right_comm, Int.toNat_add hc (Int.natCast_nonneg n),
      Int.toNat_natCast]
  refine ⟨?_, e2⟩
  have dP : ∀ x : Nat, 0 ≤ (x : Int) + off → ((((x : Int) + off).toNat / P : Nat) : Int) = ((x / P : Nat) : Int) + k := by
    intro x hx
    rw [Int.natCast_ediv, Int.toNat_of_nonneg hx, hk, Int.add_mul_ediv_left _ _ hPi, Int.natCast_ediv]
  have ht : 0 ≤ (t : Int) + off := by omega
  have e1 : ((t : Int) + off).toNat / P = ((c : Int) + off).toNat / P := by
    have h1 := dP t ht
    have h2 := dP c hc
    rw [hw] at h1
    omega
  obtain ⟨q, hq⟩ : ∃ q, 43200 = P * q := ⟨43200 / P, by
    have := Nat.div_add_mod 43200 P; omega⟩
  rw [hq, ← Nat.div_div_eq_div_mul, ← Nat.div_div_eq_div_mul, e1]

theorem halfday_fields {a b n : Nat} (h : a / 43200 = b / 43200) (hab : a = b + n) :
    a / 86400 = b / 86400 ∧ decide (43200 ≤ a % 86400) = decide (43200 ≤ b % 86400) ∧ a % 86400 = b % 86400 + n := by
  have h : a / 86400 = b / 86400 ∧ (43200 ≤ a % 86400 ↔ 43200 ≤ b % 86400) ∧ a % 86400 = b % 86400 + n := by omega
  exact ⟨h.1, decide_eq_decide.mpr h.2.1, h.2.2⟩

theorem same_window (loc : Bool) (P : Nat) (tz : Nat → ZInfo) (hz : loc = true → ZoneOK P tz) (c t : Nat)
    (hc : 978307200 ≤ c) (hct : c ≤ t) (hw : t / Wd loc P = c / Wd loc P) :
    (tmOf loc tz t).days = (tmOf loc tz c).days ∧ (tmOf loc tz t).pm = (tmOf loc tz c).pm ∧
    (tmOf loc tz t).zi = (tmOf loc tz c).zi ∧ (tmOf loc tz t).sod = (tmOf loc tz c).sod + (t - c) := by
  cases loc with
  | false =>
    obtain ⟨d1, s1, z1, _⟩ := tmOf_gmt tz t
    obtain ⟨d0, s0, z0, _⟩ := tmOf_gmt tz c
    obtain ⟨hd, hp, hs⟩ := halfday_fields hw (Nat.add_sub_cancel' hct).symm
    simp only [Tm.pm, d1, s1, z1, d0, s0, z0]
    exact ⟨hd, hp, trivial, hs⟩
  | true =>
    have z := hz rfl
    have hlow := z.lower c
    have hpos : 0 ≤ (c : Int) + (tz c).off := by omega
    obtain ⟨d1, s1, z1, _⟩ := tmOf_local tz t
    obtain ⟨d0, s0, z0, _⟩ := tmOf_local tz c
    have hzi : tz t = tz c := z.const t c hw
    obtain ⟨h1, h2⟩ := local_same_halfday P z.pos z.div (tz c).off (z.aligned c) c t hpos hct hw
    obtain ⟨hd, hp, hs⟩ := halfday_fields h1 h2
    simp only [Tm.pm, d1, s1, z1, d0, s0, z0, hzi]
    exact ⟨hd, hp, trivial, hs⟩

theorem window_of_bounds (W c t : Nat) (hct : c ≤ t) (hlt : t < (c / W + 1) * W) : t / W = c / W := by
  rcases Nat.eq_zero_or_pos W with h0 | hW
  · subst h0; simp
  · apply Nat.div_eq_of_lt_le
    · exact Nat.le_trans (Nat.div_mul_le_self c W) hct
    · exact hlt

theorem lt_next_window (W t : Nat) (hW : 0 < W) : t < (t / W + 1) * W := by
  rw [Nat.mul_comm]; exact Nat.lt_mul_div_succ t hW

theorem static_not_time : ∀ c, staticConvs.contains c = true → timeConvs.contains c = false := by
  have h : staticConvs.all (fun c => !timeConvs.contains c) = true := by decide +kernel
  intro c hc
  rw [List.all_eq_true] at h
  have := h c (by simpa using hc)
  simpa using this

theorem renderConv_static (c : Char) (hc : staticConvs.contains c = true) (tm : Tm) :
    renderConv c tm = renderStatic c tm.days tm.pm tm.zi := by
  simp only [renderConv, static_not_time c hc, Bool.false_eq_true, if_false]

theorem renderTokPlain_static (t : Tok) (hs : isStaticTok t = true) (tm0 tm1 : Tm)
    (hd : tm1.days = tm0.days) (hp : tm1.pm = tm0.pm) (hz : tm1.zi = tm0.zi) :
    renderTokPlain tm1 t = renderTokPlain tm0 t := by
  cases t with
  | conv c => simp only [renderTokPlain, renderConv_static c hs, hd, hp, hz]
  | mod m c => simp only [renderTokPlain, renderConv_static c hs, hd, hp, hz]
  | _ => rfl

theorem static_part_stable (a : List Tok) (hok : okToks a = true) (hs : ∀ t ∈ a, isStaticTok t = true) (tm0 tm1 : Tm)
    (hd : tm1.days = tm0.days) (hp : tm1.pm = tm0.pm) (hz : tm1.zi = tm0.zi) :
    safeStrftime (charsOf a) tm0 = safeStrftime (charsOf a) tm1 := by
  rw [safeStrftime_charsOf a hok, safeStrftime_charsOf a hok]
  apply flatMap_congr'
  intro t ht
  exact (renderTokPlain_static t (hs t ht) tm0 tm1 hd hp hz).symm

theorem Tm.hour_lt (tm : Tm) (h : tm.sod < 86400) : tm.hour < 24 := by simp only [Tm.hour]; omega
theorem Tm.min_lt (tm : Tm) : tm.min < 60 := by simp only [Tm.min]; omega
theorem Tm.sec_lt (tm : Tm) : tm.sec < 60 := by simp only [Tm.sec]; omega

theorem hour12_le (h : Nat) : hour12 h ≤ 12 := by unfold hour12; split <;> omega

theorem field_render (ft : FT) (tm : Tm) (hsod : tm.sod < 86400)
    (hs : ft = .s → 1000000000 ≤ tm.epoch ∧ tm.epoch < 10000000000) :
    renderConv ft.char tm = patchText ft tm.hour tm.min tm.sec tm.epoch ∧
    (patchText ft tm.hour tm.min tm.sec tm.epoch).length = ft.back := by
  have hh := Tm.hour_lt tm hsod
  have hm := Tm.min_lt tm
  have hsec := Tm.sec_lt tm
  have h12 := hour12_le tm.hour
  cases ft with
  | s =>
    obtain ⟨h1, h2⟩ := hs rfl
    simp only [patchText, padNum_full _ (k := 10) (by decide) (by decide) h1 h2]
    exact ⟨by simp [FT.char, renderConv, renderTime, timeConvs], natDigits_length (k := 10) (by decide) (by decide) h1 h2⟩
  | _ =>
    simp only [patchText, hour12_eq tm.hour hh]
    exact ⟨by simp [FT.char, renderConv, renderTime, timeConvs], padNum_length _ 2 _ (by decide) (by decide) (by omega)⟩

end Time
