import QuillModel.Time.FracProofs
/-!
# Digit patching

`populatePre` lays the rendered parts side by side and records where the modifier fields start; `patchAll`
overwrites exactly those fields. If the static parts render the same for two broken-down times and every field
part renders, for the second one, to what `patchText` writes (same width), then patching the string pre-formatted
for the first time yields the string pre-formatted for the second. Plus the arithmetic of the fields:
`cached seconds + difference` decomposed into hours / minutes / seconds is the broken-down time of day.
-/
namespace Time

theorem overwrite_mid (pre seg suf w : List Char) (h : w.length = seg.length) :
    overwrite (pre ++ seg ++ suf) pre.length w = pre ++ w ++ suf := by
  simp only [overwrite, List.append_assoc]
  rw [List.take_left', h]
  · congr 2
    rw [← List.append_assoc, List.drop_left' (by simp)]
  · rfl

/-- the positions recorded for the modifier parts, when the text so far has length `off` -/
def idxOf (tm : Tm) : List (List Char) → Nat → List (Nat × FT)
  | [], _ => []
  | p :: ps, off =>
    (match partType p with
      | some ft => [(off + (safeStrftime p tm).length - ft.back, ft)]
      | none => []) ++ idxOf tm ps (off + (safeStrftime p tm).length)

def renderParts (tm : Tm) (parts : List (List Char)) : List Char := parts.flatMap (fun p => safeStrftime p tm)

theorem renderParts_cons (tm : Tm) (p : List Char) (ps : List (List Char)) :
    renderParts tm (p :: ps) = safeStrftime p tm ++ renderParts tm ps := by
  simp [renderParts]

theorem renderParts_append (tm : Tm) (x y : List (List Char)) :
    renderParts tm (x ++ y) = renderParts tm x ++ renderParts tm y := by
  simp [renderParts]

theorem populatePre_eq (tm : Tm) : ∀ (parts : List (List Char)) (acc : List Char) (idx : List (Nat × FT)),
    populatePre tm parts acc idx = (acc ++ renderParts tm parts, idx ++ idxOf tm parts acc.length) := by
  intro parts
  induction parts with
  | nil => intro acc idx; simp [populatePre, renderParts, idxOf]
  | cons p ps ih =>
    intro acc idx
    simp only [populatePre, ih, renderParts_cons, idxOf, List.length_append, List.append_assoc]
    cases partType p <;> simp

theorem idxOf_nil_iff (tm : Tm) : ∀ (parts : List (List Char)) (off : Nat),
    idxOf tm parts off = [] ↔ ∀ p ∈ parts, partType p = none := by
  intro parts
  induction parts with
  | nil => intro off; simp [idxOf]
  | cons p ps ih =>
    intro off
    simp only [idxOf, List.append_eq_nil_iff, ih, List.mem_cons, forall_eq_or_imp]
    cases partType p <;> simp

theorem idxOf_congr (tm0 tm1 : Tm) : ∀ (parts : List (List Char)) (off : Nat),
    (∀ p ∈ parts, (safeStrftime p tm0).length = (safeStrftime p tm1).length) →
    idxOf tm0 parts off = idxOf tm1 parts off := by
  intro parts
  induction parts with
  | nil => intros; rfl
  | cons p ps ih =>
    intro off h
    have hp := h p (by simp)
    simp only [idxOf, hp]
    rw [ih _ (fun q hq => h q (by simp [hq]))]

theorem patchAll_cons (h m s ts : Nat) (e : Nat × FT) (es : List (Nat × FT)) (pre : List Char) :
    patchAll h m s ts (e :: es) pre = patchAll h m s ts es (overwrite pre e.1 (patchText e.2 h m s ts)) := by
  simp [patchAll]

theorem patchAll_nil (h m s ts : Nat) (pre : List Char) : patchAll h m s ts [] pre = pre := by
  simp [patchAll]

theorem patchAll_renderParts (tm0 tm1 : Tm) (h m s ts : Nat) : ∀ (parts : List (List Char)) (pre : List Char),
    (∀ p ∈ parts, partType p = none → safeStrftime p tm0 = safeStrftime p tm1) →
    (∀ p ∈ parts, ∀ ft, partType p = some ft →
        (safeStrftime p tm0).length = ft.back ∧ safeStrftime p tm1 = patchText ft h m s ts ∧
        (patchText ft h m s ts).length = ft.back) →
    patchAll h m s ts (idxOf tm0 parts pre.length) (pre ++ renderParts tm0 parts) = pre ++ renderParts tm1 parts := by
  intro parts
  induction parts with
  | nil => intro pre _ _; simp [idxOf, renderParts, patchAll_nil]
  | cons p ps ih =>
    intro pre hs hf
    have hs' : ∀ q ∈ ps, partType q = none → safeStrftime q tm0 = safeStrftime q tm1 :=
      fun q hq => hs q (by simp [hq])
    have hf' : ∀ q ∈ ps, ∀ ft, partType q = some ft →
        (safeStrftime q tm0).length = ft.back ∧ safeStrftime q tm1 = patchText ft h m s ts ∧
        (patchText ft h m s ts).length = ft.back := fun q hq => hf q (by simp [hq])
    simp only [idxOf, renderParts_cons]
    cases hpt : partType p with
    | none =>
      have e := hs p (by simp) hpt
      simp only [List.nil_append]
      have := ih (pre ++ safeStrftime p tm0) hs' hf'
      simp only [List.length_append, List.append_assoc] at this
      rw [this, e]
    | some ft =>
      obtain ⟨h0, h1, h2⟩ := hf p (by simp) ft hpt
      simp only [List.singleton_append, patchAll_cons]
      have e0 : pre.length + (safeStrftime p tm0).length - ft.back = pre.length := by omega
      rw [e0]
      have ow : overwrite (pre ++ (safeStrftime p tm0 ++ renderParts tm0 ps)) pre.length (patchText ft h m s ts) =
          pre ++ patchText ft h m s ts ++ renderParts tm0 ps := by
        rw [← List.append_assoc]
        exact overwrite_mid pre _ _ _ (by omega)
      rw [ow]
      have := ih (pre ++ patchText ft h m s ts) hs' hf'
      simp only [List.length_append, List.append_assoc] at this ⊢
      rw [h0, ← h2, this, h1]

/-- a remainder computed the way the C++ does it -/
theorem sub_div_mul (a k : Nat) : a - a / k * k = a % k := by rw [Nat.mod_def, Nat.mul_comm]

/-- the decomposition `format_timestamp` performs on the updated `_cached_seconds` -/
theorem hms_decompose (cs : Nat) :
    (cs - cs / 3600 * 3600) / 60 = cs % 3600 / 60 ∧
    cs - cs / 3600 * 3600 - (cs - cs / 3600 * 3600) / 60 * 60 = cs % 60 := by
  rw [sub_div_mul]
  exact ⟨rfl, by rw [sub_div_mul, Nat.mod_mod_of_dvd _ (by decide : 60 ∣ 3600)]⟩

/-- the seconds cached at a recalculation are the second of the day -/
theorem cachedSecs_eq (tm : Tm) : tm.hour * 3600 + tm.min * 60 + tm.sec = tm.sod := by
  simp only [Tm.hour, Tm.min, Tm.sec]; omega

/-- the 12-hour form of the patch switch is glibc's -/
theorem hour12_eq (h : Nat) (hh : h < 24) :
    (if h = 0 then 12 else if h > 12 then h - 12 else h) = hour12 h := by
  unfold hour12
  by_cases h0 : h = 0
  · subst h0; rfl
  · by_cases h1 : h > 12
    · have : ¬ (h % 12 = 0) ∨ h = 24 := by omega
      simp only [h0, if_false, h1, if_true]
      split <;> omega
    · simp only [h0, if_false, h1]
      split <;> omega

end Time
