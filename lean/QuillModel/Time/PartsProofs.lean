import QuillModel.Time.RewriteProofs
import QuillModel.Time.PatchProofs
import QuillModel.Util.ListLemmas
/-!
# The initial parts

`populateParts` applied to the (rewritten) pattern yields parts that are either one of the seven modifiers
(`"%H"` …) or the character form of a run of static tokens, and rendering the parts one after the other is
rendering the pattern.
-/
namespace Time

theorem FT.char_ne_pct (ft : FT) : ft.char ≠ '%' := by cases ft <;> decide

theorem isModifier_char (ft : FT) : isModifier ft.char = true := by simp [isModifier, FT.ofChar_char]

theorem partType_eq_some (p : List Char) (ft : FT) : partType p = some ft ↔ p = ['%', ft.char] := by
  constructor
  · intro h
    unfold partType at h
    split at h
    · rename_i c
      rw [(FT.ofChar_eq_some c ft).1 h]
    · cases h
  · intro h; subst h; simp [partType, FT.ofChar_char]

theorem safeStrftime_charsOf (a : List Tok) (hok : okToks a = true) (tm : Tm) :
    safeStrftime (charsOf a) tm = a.flatMap (renderTokPlain tm) := by
  unfold safeStrftime
  split
  · rename_i h
    have : a = [] := (charsOf_eq_nil a).1 h
    subst this
    rfl
  · simp only [strftimePlain, lex_charsOf a hok]

theorem safeStrftime_field (ft : FT) (tm : Tm) : safeStrftime ['%', ft.char] tm = renderConv ft.char tm := by
  have : ['%', ft.char] = charsOf [.conv ft.char] := by simp [Tok.chars]
  rw [this, safeStrftime_charsOf _ (by cases ft <;> decide)]
  simp [renderTokPlain]

theorem static_partType_none (a : List Tok) (hok : okToks a = true) (hs : ∀ t ∈ a, hitMod t = false) :
    partType (charsOf a) = none := by
  cases hp : partType (charsOf a) with
  | none => rfl
  | some ft =>
    exfalso
    -- the part reads "%H" …: lexing it back, the run is the one modifier token
    have ha := lex_charsOf a hok
    rw [(partType_eq_some _ ft).1 hp, lex_conv _ _ (FT.char_ne_pct ft) (by cases ft <;> decide), lex_nil] at ha
    have := hs (.conv ft.char) (by rw [← ha]; simp)
    rw [hitMod, isModifier_char] at this
    cases this

/-- a part of the pattern `toks`: one of the seven modifiers, which the patch loop overwrites, or the text of a run of
    static tokens, which renders the same throughout a window -/
inductive PartOK (toks : List Tok) : List Char → Prop
  | field (ft : FT) (hm : Tok.conv ft.char ∈ toks) : PartOK toks ['%', ft.char]
  | static (a : List Tok) (hn : partType (charsOf a) = none) (hok : okToks a = true)
      (hs : ∀ t ∈ a, isStaticTok t = true) : PartOK toks (charsOf a)

theorem PartOK.mono {sub toks : List Tok} {p : List Char} (h : PartOK sub p) (hsub : ∀ t ∈ sub, t ∈ toks) :
    PartOK toks p := by
  cases h with
  | field ft hm => exact .field ft (hsub _ hm)
  | static a hn hok hs => exact .static a hn hok hs

theorem okToks_append (a b : List Tok) : okToks (a ++ b) = true ↔ okToks a = true ∧ okToks b = true := by
  induction a with
  | nil => simp [okToks]
  | cons t ts ih => simp [okToks, ih, and_assoc]

theorem charsOf_length_ge (toks : List Tok) : toks.length ≤ (charsOf toks).length :=
  length_le_length_flatMap tok_chars_ne_nil toks

/-- `_split_timestamp_format_once` on tokens -/
theorem splitOnce_toks (toks : List Tok) (h : supportedToks toks = true) :
    splitOnce (charsOf toks) =
      match splitHit hitMod toks with
      | some (a, .conv c, b) => (FT.ofChar c).map (fun ft => (charsOf a, ft, charsOf b))
      | _ => none := by
  rw [splitOnce_def, findAt_toks predMod hitMod hitSpec_mod toks h]
  cases hs : splitHit hitMod toks with
  | none => rfl
  | some r =>
    obtain ⟨a, x, b⟩ := r
    have hx := (splitHit_some hitMod toks a x b hs).2.1
    cases x with
    | conv c => simp [Tok.chars]
    | _ => simp [hitMod] at hx

/-- the text between two modifiers (or all of it when there is none), kept as a part unless it is empty -/
theorem staticPart_spec (toks a : List Tok) (hok : okToks a = true) (hmiss : ∀ t ∈ a, hitMod t = false)
    (hcls : ∀ t ∈ a, hitMod t = true ∨ isStaticTok t = true) :
    (∀ tm, renderParts tm (if charsOf a = [] then [] else [charsOf a]) = a.flatMap (renderTokPlain tm)) ∧
    ∀ p ∈ (if charsOf a = [] then [] else [charsOf a]), PartOK toks p := by
  by_cases he : charsOf a = []
  · obtain rfl : a = [] := (charsOf_eq_nil a).1 he
    simp [renderParts]
  · simp only [he, if_false, List.mem_singleton, forall_eq]
    refine ⟨fun tm => by simp [renderParts, safeStrftime_charsOf a hok],
      .static a (static_partType_none a hok hmiss) hok ?_⟩
    exact fun t ht => (hcls t ht).resolve_left (by rw [hmiss t ht]; exact Bool.false_ne_true)

theorem populatePartsF_spec : ∀ (fuel : Nat) (toks : List Tok), toks.length < fuel →
    supportedToks toks = true → (∀ t ∈ toks, hitMod t = true ∨ isStaticTok t = true) →
    (∀ tm, renderParts tm (populatePartsF fuel (charsOf toks)) = toks.flatMap (renderTokPlain tm)) ∧
    ∀ p ∈ populatePartsF fuel (charsOf toks), PartOK toks p := by
  intro fuel
  induction fuel with
  | zero => intro toks h; omega
  | succ f ih =>
    intro toks hlen hsup hcls
    simp only [populatePartsF]
    rw [splitOnceCpp_eq, splitOnce_toks toks hsup]
    cases hs : splitHit hitMod toks with
    | none => exact staticPart_spec toks toks (supported_ok toks hsup) (splitHit_none hitMod toks hs) hcls
    | some r =>
      obtain ⟨a, x, b⟩ := r
      obtain ⟨rfl, hx, ha⟩ := splitHit_some hitMod toks a x b hs
      cases x with
      | conv c =>
        simp only [hitMod, isModifier] at hx
        obtain ⟨ft, hft⟩ := Option.isSome_iff_exists.mp hx
        have hc := (FT.ofChar_eq_some c ft).1 hft
        simp only [hft, Option.map_some]
        obtain ⟨hsa, hsb⟩ := supported_split hsup
        -- the static text before the modifier, the modifier, and the parts of what follows
        obtain ⟨e1, p1⟩ := staticPart_spec (a ++ .conv c :: b) a (supported_ok a hsa) ha
          (fun t ht => hcls t (by simp [ht]))
        obtain ⟨ihr, ihp⟩ := ih b (by simp at hlen; omega) hsb (fun t ht => hcls t (by simp [ht]))
        constructor
        · intro tm
          have e2 : renderParts tm [['%', ft.char]] = renderConv c tm := by
            rw [← hc]; simp [renderParts, safeStrftime_field]
          rw [renderParts_append, renderParts_append, e1, e2, ihr]
          simp [renderTokPlain]
        · intro p hp
          simp only [List.mem_append, List.mem_singleton] at hp
          rcases hp with (hp | rfl) | hp
          · exact p1 p hp
          · exact .field ft (by simp [hc])
          · exact (ihp p hp).mono fun t ht => by simp [ht]
      | _ => simp [hitMod] at hx

theorem populateParts_spec (toks : List Tok) (hsup : supportedToks toks = true)
    (hcls : ∀ t ∈ toks, hitMod t = true ∨ isStaticTok t = true) :
    (∀ tm, renderParts tm (populateParts (charsOf toks)) = toks.flatMap (renderTokPlain tm)) ∧
    ∀ p ∈ populateParts (charsOf toks), PartOK toks p :=
  populatePartsF_spec _ toks (by have := charsOf_length_ge toks; omega) hsup hcls

end Time
