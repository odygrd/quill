import QuillModel.Time.ScanProofs
/-!
# `_split_timestamp_format_once` as written = the first modifier in reading order

The C++ searches each of the seven modifiers separately, collects the hits in a `std::map` keyed by position and
cuts at the smallest position (`splitOnceCpp`). That is the first position at which a `'%'` is followed by a
modifier letter (`splitOnce`), which is what the other proofs work with: `splitOnceCpp_eq`. Likewise the
find / replace / skip loop of `_replace_all` computes the one-pass rewrite `replaceAll`: `replaceAllCpp_eq`.
-/
namespace Time

def minStep (acc : Option (Nat × FT)) (e : Nat × FT) : Option (Nat × FT) :=
  match acc with
  | none => some e
  | some a => if e.1 < a.1 then some e else some a

theorem minEntry_eq (found : List (Nat × FT)) : minEntry found = found.foldl minStep none := rfl

theorem foldl_minStep_some (l : List (Nat × FT)) : ∀ (a : Nat × FT),
    ∃ m, l.foldl minStep (some a) = some m ∧ (m = a ∨ m ∈ l) ∧ m.1 ≤ a.1 ∧ ∀ e ∈ l, m.1 ≤ e.1 := by
  induction l with
  | nil => intro a; exact ⟨a, rfl, Or.inl rfl, Nat.le_refl _, by simp⟩
  | cons e es ih =>
    intro a
    simp only [List.foldl_cons, minStep]
    by_cases h : e.1 < a.1
    · simp only [h, if_true]
      obtain ⟨m, hm, hmem, hle, hall⟩ := ih e
      refine ⟨m, hm, Or.inr ?_, by omega, List.forall_mem_cons.2 ⟨hle, hall⟩⟩
      rcases hmem with rfl | hmem
      · simp
      · simp [hmem]
    · simp only [h, if_false]
      obtain ⟨m, hm, hmem, hle, hall⟩ := ih a
      exact ⟨m, hm, hmem.imp_right (List.mem_cons_of_mem e), hle, List.forall_mem_cons.2 ⟨by omega, hall⟩⟩

/-- `begin()` of the map: a member with the smallest position -/
theorem minEntry_spec (l : List (Nat × FT)) :
    (l = [] ∧ minEntry l = none) ∨ ∃ m, minEntry l = some m ∧ m ∈ l ∧ ∀ e ∈ l, m.1 ≤ e.1 := by
  cases l with
  | nil => exact Or.inl ⟨rfl, rfl⟩
  | cons a es =>
    right
    obtain ⟨m, hm, hmem, hle, hall⟩ := foldl_minStep_some es a
    refine ⟨m, by simpa [minEntry_eq, minStep] using hm, ?_, ?_⟩
    · rcases hmem with rfl | hmem
      · simp
      · simp [hmem]
    · intro x hx
      simp only [List.mem_cons] at hx
      rcases hx with rfl | hx
      · exact hle
      · exact hall x hx

def shiftE (e : Nat × FT) : Nat × FT := (e.1 + 1, e.2)

theorem foldl_minStep_shift (found : List (Nat × FT)) : ∀ (acc : Option (Nat × FT)),
    (found.map shiftE).foldl minStep (acc.map shiftE) = (found.foldl minStep acc).map shiftE := by
  induction found with
  | nil => intro acc; rfl
  | cons e es ih =>
    intro acc
    simp only [List.map_cons, List.foldl_cons]
    cases acc with
    | none => exact ih (some e)
    | some a =>
      simp only [Option.map_some, shiftE, minStep]
      by_cases h : e.1 < a.1
      · have h' : e.1 + 1 < a.1 + 1 := by omega
        simp only [h, h', if_true]
        exact ih (some e)
      · have h' : ¬ (e.1 + 1 < a.1 + 1) := by omega
        simp only [h, h', if_false]
        exact ih (some a)

theorem minEntry_shift (found : List (Nat × FT)) : minEntry (found.map shiftE) = (minEntry found).map shiftE :=
  foldl_minStep_shift found none

def allFT : List FT := [FT.H, FT.M, FT.S, FT.I, FT.k, FT.l, FT.s]

def foundOf (fmt : List Char) : List (Nat × FT) :=
  allFT.filterMap (fun ft => (findPct ft.char fmt).map (fun i => (i, ft)))

theorem splitOnceCpp_def (fmt : List Char) :
    splitOnceCpp fmt = match minEntry (foundOf fmt) with
      | none => none
      | some (i, ft) => some (fmt.take i, ft, fmt.drop (i + 2)) := rfl

theorem findPct_cons (x c : Char) (rest : List Char) :
    findPct x (c :: rest) =
      if c = '%' ∧ startsWith [x] rest = true then some 0 else (findPct x rest).map (· + 1) := by
  simp only [findPct, findAt_cons]
  split
  · rfl
  · cases findAt (startsWith [x]) rest <;> simp

theorem startsWith_single (x : Char) (rest : List Char) :
    startsWith [x] rest = true ↔ ∃ r, rest = x :: r := by
  cases rest with
  | nil => simp [startsWith, List.isPrefixOf]
  | cons d r =>
    simp only [startsWith, List.isPrefixOf, Bool.and_true, beq_iff_eq, List.cons.injEq]
    constructor
    · intro h; exact ⟨r, h.symm, rfl⟩
    · rintro ⟨r', h1, _⟩; exact h1.symm

theorem FT.char_inj (a b : FT) (h : a.char = b.char) : a = b :=
  Option.some.inj (by rw [← FT.ofChar_char a, h, FT.ofChar_char b])

theorem mem_allFT (ft : FT) : ft ∈ allFT := by cases ft <;> simp [allFT]

theorem foundOf_cons_miss (c : Char) (rest : List Char)
    (h : ∀ ft : FT, ¬ (c = '%' ∧ startsWith [ft.char] rest = true)) :
    foundOf (c :: rest) = (foundOf rest).map shiftE := by
  simp only [foundOf, List.map_filterMap]
  congr 1
  funext ft
  rw [findPct_cons, if_neg (h ft)]
  cases findPct ft.char rest <;> simp [shiftE]

theorem splitOnceCpp_eq : ∀ (fmt : List Char), splitOnceCpp fmt = splitOnce fmt := by
  intro fmt
  induction fmt with
  | nil => rfl
  | cons c rest ih =>
    by_cases hhit : c = '%' ∧ predMod rest = true
    · -- a modifier right here
      obtain ⟨hc, hp⟩ := hhit
      subst hc
      cases rest with
      | nil => simp [predMod] at hp
      | cons d r =>
        simp only [predMod, isModifier] at hp
        obtain ⟨ft0, hft0⟩ := Option.isSome_iff_exists.mp hp
        have hd : ft0.char = d := (FT.ofChar_eq_some d ft0).1 hft0
        rw [splitOnce_def, findAt_pct_hit _ _ (by simpa [predMod, isModifier] using hp)]
        simp only [hft0, Option.map_some]
        rw [splitOnceCpp_def]
        -- (0, ft0) is found, every other entry is at a later position
        have hmem : (0, ft0) ∈ foundOf ('%' :: d :: r) := by
          simp only [foundOf, List.mem_filterMap]
          refine ⟨ft0, mem_allFT ft0, ?_⟩
          rw [findPct_cons, if_pos ⟨rfl, (startsWith_single _ _).2 ⟨r, by rw [hd]⟩⟩]
          rfl
        have hzero : ∀ e ∈ foundOf ('%' :: d :: r), e.1 = 0 → e = (0, ft0) := by
          intro e he h0
          simp only [foundOf, List.mem_filterMap] at he
          obtain ⟨ft, _, hft⟩ := he
          rw [findPct_cons] at hft
          by_cases hs : ('%' : Char) = '%' ∧ startsWith [ft.char] (d :: r) = true
          · rw [if_pos hs] at hft
            obtain ⟨r', hr'⟩ := (startsWith_single _ _).1 hs.2
            have : ft.char = d := by cases hr'; rfl
            have : ft = ft0 := FT.char_inj _ _ (by rw [this, hd])
            subst this
            simpa using hft.symm
          · rw [if_neg hs] at hft
            cases hf : findPct ft.char (d :: r) with
            | none => simp [hf] at hft
            | some i =>
              simp only [hf, Option.map_some, Option.some.injEq] at hft
              rw [← hft] at h0; simp at h0
        rcases minEntry_spec (foundOf ('%' :: d :: r)) with ⟨he, _⟩ | ⟨m, hm, hmm, hmin⟩
        · rw [he] at hmem; simp at hmem
        · have h0 : m.1 = 0 := by have := hmin _ hmem; simp at this; omega
          have := hzero m hmm h0
          subst this
          simp [hm]
    · -- no modifier here: both sides recurse
      have hmiss : ∀ ft : FT, ¬ (c = '%' ∧ startsWith [ft.char] rest = true) := by
        intro ft hh
        apply hhit
        refine ⟨hh.1, ?_⟩
        obtain ⟨r, hr⟩ := (startsWith_single _ _).1 hh.2
        subst hr
        simp [predMod, isModifier, (FT.ofChar_eq_some ft.char ft).2 rfl]
      -- on both sides the result for `rest` gets `c` in front of its first component
      have hL : splitOnceCpp (c :: rest) = (splitOnceCpp rest).map (fun x => (c :: x.1, x.2)) := by
        rw [splitOnceCpp_def, splitOnceCpp_def, foundOf_cons_miss c rest hmiss, minEntry_shift]
        cases minEntry (foundOf rest) <;> rfl
      have hR : splitOnce (c :: rest) = (splitOnce rest).map (fun x => (c :: x.1, x.2)) := by
        rw [splitOnce_def (c :: rest), splitOnce_def rest, findAt_cons, if_neg hhit]
        cases findAt predMod rest with
        | none => rfl
        | some ab =>
          obtain ⟨a, _ | ⟨d, r⟩⟩ := ab
          · rfl
          · simp only [Option.map_some]
            cases FT.ofChar d <;> rfl
      rw [hL, hR, ih]

theorem replaceAll_nil (c : Char) (new : List Char) : replaceAll c new [] = [] := by rw [replaceAll.eq_def]

/-- the one-pass rewrite satisfies the loop equation of the C++ -/
theorem replaceAll_find (c : Char) (new : List Char) : ∀ (s : List Char),
    replaceAll c new s =
      match findAt (startsWith [c]) s with
      | none => s
      | some (a, b) => a ++ new ++ replaceAll c new (b.drop 1) := by
  intro s
  induction s with
  | nil => simp [findAt, replaceAll_nil]
  | cons x rest ih =>
    rw [findAt_cons]
    by_cases hx : x = '%' ∧ startsWith [c] rest = true
    · obtain ⟨hx1, hx2⟩ := hx
      obtain ⟨r, hr⟩ := (startsWith_single _ _).1 hx2
      subst hx1; subst hr
      rw [if_pos ⟨rfl, hx2⟩, replaceAll.eq_def]
      simp
    · rw [if_neg hx]
      have hstep : replaceAll c new (x :: rest) = x :: replaceAll c new rest := by
        rw [replaceAll.eq_def]
        cases rest with
        | nil => simp [replaceAll_nil]
        | cons b r =>
          have : ¬ (x = '%' ∧ b = c) := by
            intro hh
            exact hx ⟨hh.1, (startsWith_single _ _).2 ⟨r, by rw [hh.2]⟩⟩
          simp [this]
      rw [hstep, ih]
      cases findAt (startsWith [c]) rest with
      | none => rfl
      | some ab => obtain ⟨a, b⟩ := ab; simp

theorem replaceAllCppF_eq (c : Char) (new : List Char) : ∀ (f : Nat) (s : List Char), s.length ≤ f →
    replaceAllCppF f c new s = replaceAll c new s := by
  intro f
  induction f with
  | zero =>
    intro s h
    have : s = [] := List.eq_nil_of_length_eq_zero (by omega)
    subst this
    simp [replaceAllCppF, replaceAll_nil]
  | succ f ih =>
    intro s h
    rw [replaceAll_find c new s]
    simp only [replaceAllCppF]
    cases hf : findAt (startsWith [c]) s with
    | none => rfl
    | some ab =>
      obtain ⟨a, b⟩ := ab
      have hd := findAt_some_decomp _ s a b hf
      have hlen : (b.drop 1).length ≤ f := by
        have : s.length = a.length + 1 + b.length := by rw [hd]; simp; omega
        simp only [List.length_drop]; omega
      simp only [ih _ hlen]

theorem replaceAllCpp_eq (c : Char) (new : List Char) (s : List Char) : replaceAllCpp c new s = replaceAll c new s :=
  replaceAllCppF_eq c new s.length s (Nat.le_refl _)

end Time
