import QuillModel.Time.Cache
/-!
# Civil-date round trip and the GMT recalculation point

`daysFromCivil (civilFromDays z) = z` for every day number (so `timegm ∘ gmtime` is the identity on the date
part), field ranges of `civilFromDays`, and `_next_noon_or_midnight_timestamp t = (t / 43200 + 1) * 43200`:
the next recalculation point in GMT mode is the end of the half day that contains `t`.
-/
namespace Time

/-- A 400-year era is four centuries of 36524 days, the last one a day longer; a century is 25 four-year cycles of
    1461 days, the last one a day shorter unless the century is the fourth; a cycle is four years of 365 days, the
    last one a day longer. -/
theorem doe_parts (doe : Nat) (h : doe < 146097) :
    ∃ c q k d, c ≤ 3 ∧ q ≤ 24 ∧ k ≤ 3 ∧ (d < 365 ∨ (d = 365 ∧ k = 3)) ∧ (365 * k + d < 1460 ∨ q < 24 ∨ c = 3) ∧
      doe = 36524 * c + (1461 * q + (365 * k + d)) := by
  obtain ⟨c, r, hc, hr, rfl⟩ : ∃ c r, c ≤ 3 ∧ (r < 36524 ∨ (r = 36524 ∧ c = 3)) ∧ doe = 36524 * c + r :=
    ⟨min (doe / 36524) 3, doe - 36524 * min (doe / 36524) 3, by omega⟩
  clear h
  obtain ⟨q, s, hq, hs, rfl⟩ : ∃ q s, q ≤ 24 ∧ (s < 1460 ∨ (s = 1460 ∧ (q < 24 ∨ c = 3))) ∧ r = 1461 * q + s :=
    ⟨r / 1461, r % 1461, by omega⟩
  clear hr
  obtain ⟨k, d, hk, hd, rfl⟩ : ∃ k d, k ≤ 3 ∧ (d < 365 ∨ (d = 365 ∧ k = 3)) ∧ s = 365 * k + d :=
    ⟨min (s / 365) 3, s - 365 * min (s / 365) 3, by omega⟩
  exact ⟨c, q, k, d, hc, hq, hk, hd, hs.imp id And.right, rfl⟩

/-- `doe / 36524 - doe / 146096` is the century: the second quotient takes back the 4 that the first gives on the
    last day of the era -/
theorem century_eq {c r : Nat} (hc : c ≤ 3) (hr : r < 36524 ∨ (r = 36524 ∧ c = 3)) :
    (36524 * c + r) / 36524 - (36524 * c + r) / 146096 = c ∧
      (36524 * c + r) / 146096 ≤ (36524 * c + r) / 36524 := by
  rcases hr with hr | ⟨rfl, rfl⟩
  · have h1 : (36524 * c + r) / 146096 = 0 := Nat.div_eq_of_lt (by omega)
    have h2 : (36524 * c + r) / 36524 = c := Nat.div_eq_of_lt_le (by omega) (by omega)
    omega
  · decide

/-- the estimate of the year of era, on day `d` of year `k` of cycle `q` of century `c` -/
theorem yoe_of_parts {c q k d : Nat} (hc : c ≤ 3) (hq : q ≤ 24) (hk : k ≤ 3)
    (hd : d < 365 ∨ (d = 365 ∧ k = 3)) (hs : 365 * k + d < 1460 ∨ q < 24 ∨ c = 3) :
    let doe := 36524 * c + (1461 * q + (365 * k + d))
    (doe - doe / 1460 + doe / 36524 - doe / 146096) / 365 = 100 * c + 4 * q + k := by
  intro doe
  -- 36524 = 25 * 1460 + 24 and 1461 = 1460 + 1: the quotient by 1460 is `25 * c + q` cycles and `g` more, 0 or 1.
  -- Taking the cycles off `doe` leaves `365 * (100 * c + 4 * q + k) + d - g`, and `g` is 0 on the first day of a year
  -- and 1 on the 366th, so that `d - g` stays within 0..364.
  have hce := century_eq hc (r := 1461 * q + (365 * k + d)) (by omega)
  -- `omega` takes in every hypothesis: each call below sees only what it needs
  clear hs
  obtain ⟨g, hg0, hg1, ha⟩ : ∃ g, g ≤ d ∧ d ≤ 364 + g ∧ doe / 1460 = 25 * c + q + g := by
    clear hce
    exact ⟨(24 * c + q + 365 * k + d) / 1460, by omega, by omega, by omega⟩
  rw [Nat.add_sub_assoc hce.2, hce.1, ha]
  clear ha hce hd
  omega

/-- year of era: the estimate is exact -/
theorem yoe_bounds (doe : Nat) (h : doe < 146097) :
    let yoe := (doe - doe / 1460 + doe / 36524 - doe / 146096) / 365
    365 * yoe + yoe / 4 - yoe / 100 ≤ doe ∧ doe - (365 * yoe + yoe / 4 - yoe / 100) ≤ 365 ∧ yoe ≤ 399 := by
  obtain ⟨c, q, k, d, hc, hq, hk, hd, hs, rfl⟩ := doe_parts doe h
  simp only [yoe_of_parts hc hq hk hd hs]
  clear hs
  have h4 : (100 * c + 4 * q + k) / 4 = 25 * c + q := by omega
  have h100 : (100 * c + 4 * q + k) / 100 = c := by omega
  rw [h4, h100]
  omega

theorem doy_roundtrip {doy mp : Nat} (h : doy ≤ 365) (hmp : mp = (5 * doy + 2) / 153) :
    mp ≤ 11 ∧ doy - (153 * mp + 2) / 5 + 1 ≤ 31 ∧ (153 * mp + 2) / 5 + (doy - (153 * mp + 2) / 5 + 1) - 1 = doy := by
  omega

theorem civilFromDays_spec (z : Nat) :
    ∃ era yoe doy mp : Nat,
      z + 719468 = era * 146097 + (365 * yoe + yoe / 4 - yoe / 100 + doy) ∧ yoe ≤ 399 ∧ doy ≤ 365 ∧
      mp = (5 * doy + 2) / 153 ∧
      civilFromDays z =
        { year := if (if mp < 10 then mp + 3 else mp - 9) ≤ 2 then yoe + era * 400 + 1 else yoe + era * 400,
          mon := if mp < 10 then mp + 3 else mp - 9,
          day := doy - (153 * mp + 2) / 5 + 1 } := by
  unfold civilFromDays
  extract_lets z' era doe yoe doy mp d m y
  have hy := yoe_bounds doe (Nat.mod_lt _ (by decide))
  refine ⟨era, yoe, doy, mp, ?_, hy.2.2, hy.2.1, rfl, rfl⟩
  rw [show 365 * yoe + yoe / 4 - yoe / 100 + doy = doe from Nat.add_sub_cancel' hy.1]
  exact (Nat.div_add_mod' _ _).symm

/-- March to December (`mp` 0..9) keep the year, January and February (10, 11) belong to the March-based year
    before; the tests of `daysFromCivil` on the month undo those of `civilFromDays` -/
theorem month_shift {mp : Nat} (hm : mp ≤ 11) :
    (mp < 10 ∧ ¬ mp + 3 ≤ 2 ∧ mp + 3 > 2) ∨ (¬ mp < 10 ∧ mp - 9 ≤ 2 ∧ ¬ mp - 9 > 2 ∧ mp - 9 + 9 = mp) := by
  omega

/-- civil round trip: `timegm` of the date `gmtime` produced is the day it came from -/
theorem daysFromCivil_civilFromDays (z : Nat) :
    daysFromCivil (civilFromDays z).year (civilFromDays z).mon (civilFromDays z).day = z := by
  obtain ⟨era, yoe, doy, mp, hz, hy, hd, hmp, hc⟩ := civilFromDays_spec z
  obtain ⟨hm, -, hdoy⟩ := doy_roundtrip hd hmp
  have hy4 : yoe < 400 := Nat.lt_succ_of_le hy
  have e1 : (yoe + era * 400) / 400 = era := by
    rw [Nat.add_mul_div_right _ _ (by decide), Nat.div_eq_of_lt hy4, Nat.zero_add]
  have e2 : (yoe + era * 400) % 400 = yoe := by rw [Nat.add_mul_mod_self_right, Nat.mod_eq_of_lt hy4]
  rw [hc]
  unfold daysFromCivil
  dsimp only
  rcases month_shift hm with ⟨hlt, h1, h2⟩ | ⟨hlt, h1, h2, h3⟩
  · simp only [hlt, if_true, h1, if_false, h2, Nat.add_sub_cancel, e1, e2, hdoy, Nat.mul_comm yoe 365, ← hz]
  · simp only [hlt, if_false, h1, if_true, h2, Nat.add_sub_cancel, e1, e2, h3, hdoy, Nat.mul_comm yoe 365, ← hz]

theorem civilFromDays_ranges (z : Nat) :
    1 ≤ (civilFromDays z).mon ∧ (civilFromDays z).mon ≤ 12 ∧ 1 ≤ (civilFromDays z).day ∧ (civilFromDays z).day ≤ 31 := by
  obtain ⟨era, yoe, doy, mp, hz, hy, hd, hmp, hc⟩ := civilFromDays_spec z
  obtain ⟨hm, hday, -⟩ := doy_roundtrip hd hmp
  rw [hc]
  clear hz hc hmp
  have hmon : 1 ≤ (if mp < 10 then mp + 3 else mp - 9) ∧ (if mp < 10 then mp + 3 else mp - 9) ≤ 12 := by
    split <;> omega
  exact ⟨hmon.1, hmon.2, Nat.le_add_left 1 _, hday⟩

theorem gmtime_days (t : Nat) : (gmtime t).days = t / 86400 := by
  simp [gmtime, mkTm, gmtZ]

theorem gmtime_sod (t : Nat) : (gmtime t).sod = t % 86400 := by
  simp [gmtime, mkTm, gmtZ]

/-- `_next_noon_or_midnight_timestamp` (gmtime, set 11:59:59 / 23:59:59, timegm, + 1) is the end of the
    half day containing `t` -/
theorem nextNoonOrMidnight_eq (t : Nat) : nextNoonOrMidnight t = (t / 43200 + 1) * 43200 := by
  simp only [nextNoonOrMidnight, yearOf, monOf, mdayOf, daysFromCivil_civilFromDays, gmtime_days, Tm.hour, gmtime_sod]
  split <;> omega

theorem nextNoonOrMidnight_gt (t : Nat) : t < nextNoonOrMidnight t := by
  rw [nextNoonOrMidnight_eq]
  omega

end Time
