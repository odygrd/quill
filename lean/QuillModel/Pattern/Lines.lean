import QuillModel.Pattern.Basic
/-! Multi-line dispatch: the `while (start < msg.size())` loop of `_process_multi_line_message` equals
`List.splitOn '\n'` of the message with at most one trailing newline removed. -/
namespace Pattern

theorem splitOn_of_not_mem {s : Str} (h : '\n' ∉ s) : s.splitOn '\n' = [s] := by
  rw [List.splitOn_eq_splitOnP]
  apply List.splitOnP_eq_singleton
  intro x hx
  simp only [beq_eq_false_iff_ne, ne_eq]
  intro e; exact h (e ▸ hx)

theorem splitOn_append_nl {l r : Str} (h : '\n' ∉ l) : (l ++ '\n' :: r).splitOn '\n' = l :: r.splitOn '\n' := by
  rw [List.splitOn_eq_splitOnP, List.splitOn_eq_splitOnP]
  apply List.splitOnP_append_cons_of_forall_mem
  · intro x hx
    simp only [beq_eq_false_iff_ne, ne_eq]
    intro e; exact h (e ▸ hx)
  · simp

theorem stripOneNl_of_not_mem {s : Str} (h : '\n' ∉ s) : stripOneNl s = s := by
  unfold stripOneNl
  split
  · rename_i hl
    exact absurd (List.mem_of_getLast? hl) h
  · rfl

theorem stripOneNl_append_nl_cons (l : Str) (c : Char) (r : Str) :
    stripOneNl (l ++ '\n' :: c :: r) = l ++ '\n' :: stripOneNl (c :: r) := by
  have h1 : (l ++ '\n' :: c :: r).getLast? = (c :: r).getLast? := by
    rw [show l ++ '\n' :: c :: r = (l ++ ['\n']) ++ (c :: r) by simp]
    rw [List.getLast?_append]
    simp [List.getLast?_eq_some_getLast (l := c :: r) (by simp)]
  unfold stripOneNl
  rw [h1]
  split
  · rw [show l ++ '\n' :: c :: r = (l ++ ['\n']) ++ (c :: r) by simp, List.dropLast_append_of_ne_nil (by simp)]
    simp
  · rfl

theorem stripOneNl_append_nl (l : Str) : stripOneNl (l ++ ['\n']) = l := by
  unfold stripOneNl
  simp

theorem mlLoop_eq : ∀ (fuel : Nat) (rest : Str), rest.length < fuel → rest ≠ [] →
    mlLoop fuel rest = (stripOneNl rest).splitOn '\n' := by
  intro fuel
  induction fuel with
  | zero => intro rest h; omega
  | succ fuel ih =>
    intro rest hlen hne
    simp only [mlLoop, hne, if_false]
    cases hs : splitAtChar '\n' rest with
    | none =>
      have hn := splitAtChar_none.mp hs
      simp only [stripOneNl_of_not_mem hn, splitOn_of_not_mem hn]
    | some pr =>
      obtain ⟨l, r⟩ := pr
      obtain ⟨e, hn⟩ := splitAtChar_some hs
      simp only
      subst e
      cases r with
      | nil =>
        have : mlLoop fuel [] = [] := by cases fuel <;> simp [mlLoop]
        rw [this, stripOneNl_append_nl, splitOn_of_not_mem hn]
      | cons c r =>
        rw [stripOneNl_append_nl_cons, splitOn_append_nl hn]
        congr 1
        apply ih
        · simp at hlen ⊢; omega
        · simp

theorem multiLine_eq_splitOn (msg : Str) : multiLine msg = (stripOneNl msg).splitOn '\n' := by
  unfold multiLine
  split
  · rename_i h; subst h; rfl
  · rename_i h; exact mlLoop_eq _ _ (by omega) h

end Pattern
