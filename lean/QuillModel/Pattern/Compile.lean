import QuillModel.Pattern.Slots
/-! What the constructor computes for a well-formed item list, what `format()` then puts into the slots, and the outcome
of one call on a printed pattern. -/
namespace Pattern

/-- the tables the scan starts from: `order_index.fill(ATTR_NR_ITEMS - 1)` (`PatternFormatter.h:359`) and an empty
    `_is_set_in_pattern`; abbreviations, so that `rw` recognises them in the unfolded `construct` -/
abbrev order0 : List Nat := List.replicate nrItems (nrItems - 1)
abbrev isSet0 : List Bool := List.replicate nrItems false

def compiledOf (p : List Item) : Compiled :=
  { empty := (printPattern p).isEmpty
    fmt := fmtOf p ++ ['\n']
    order := assign (attrsOf p) 0 order0
    isSet := mark (attrsOf p) isSet0
    args := setArgs (assign (attrsOf p) 0 order0) }

theorem generate_clean (fuel : Nat) (pat : Str) (o : List Nat) (s : List Bool) (k nf : Nat) (h : Clean pat) :
    generate fuel pat o s k nf = .ok ⟨pat, o, s, nf⟩ := by
  unfold Clean at h
  cases fuel <;> simp [generate, h]

theorem mem_formatOrder (a : Attr) : a ∈ formatOrder :=
  (by decide +kernel : ∀ a ∈ Attr.all, a ∈ formatOrder) a (mem_all a)

theorem attrs_length_le (as : List Attr) (h : as.Nodup) : as.length ≤ 16 :=
  h.length_le_of_subset (l₂ := Attr.all) (fun a _ => mem_all a)

theorem attrs_length_le_of_no_message (as : List Attr) (h : as.Nodup) (hm : Attr.message ∉ as) : as.length ≤ 15 :=
  h.length_le_of_subset (l₂ := Attr.all.erase .message) fun a ha =>
    (List.mem_erase_of_ne (fun (e : a = .message) => hm (e ▸ ha))).mpr (mem_all a)

theorem attrs_length_le_print : ∀ (p : List Item), (attrsOf p).length ≤ (printPattern p).length := by
  intro p
  induction p with
  | nil => simp [attrsOf]
  | cons it p ih =>
    cases it with
    | lit s => simp only [attrsOf, printPattern, List.flatMap_cons, List.length_append] at ih ⊢; omega
    | field a spec =>
      simp only [attrsOf, printPattern, List.flatMap_cons, List.length_append, List.length_cons, print_field] at ih ⊢
      omega

/-- the constructor's scan of `printPattern p ++ tail`, `p` well-formed: the loop rewrites the fields of `p`, assigns their
    slots and stands before `tail` with fuel to spare -/
theorem generate_printed (p : List Item) (tail : Str) (hwf : ∀ it ∈ p, it.wf = true) (hadj : noAdjLits p = true)
    (hlen : (attrsOf p).length ≤ 16) :
    generate ((printPattern p ++ tail).length + 1) (printPattern p ++ tail ++ ['\n']) order0 isSet0 0 0 =
      generate ((printPattern p ++ tail).length - (attrsOf p).length + 1) (fmtOf p ++ (tail ++ ['\n']))
        (assign (attrsOf p) 0 order0) (mark (attrsOf p) isSet0) (attrsOf p).length (attrsOf p).length ∧
    Clean (fmtOf p) := by
  have hlp : (attrsOf p).length ≤ (printPattern p ++ tail).length := by
    have := attrs_length_le_print p; rw [List.length_append]; omega
  have hg := generate_items p ((printPattern p ++ tail).length + 1) [] (tail ++ ['\n']) order0 isSet0 0 0 hwf hadj clean_nil
    (Or.inl (by simp)) (by omega) (by omega)
  simp only [List.nil_append, Nat.zero_add] at hg
  rw [List.append_assoc, hg.1, Nat.sub_add_comm hlp]
  exact ⟨rfl, hg.2⟩

/-- at most sixteen fields, duplicates included -/
theorem construct_items' (p : List Item) (hwf : ∀ it ∈ p, it.wf = true) (hadj : noAdjLits p = true)
    (hlen : (attrsOf p).length ≤ 16) : construct (printPattern p) = .ok (compiledOf p) := by
  have hg := generate_printed p [] hwf hadj hlen
  have hcl : Clean (fmtOf p ++ ['\n']) := clean_append hg.2 (show findField ['\n'] = none by decide) (Or.inr (by decide))
  simp only [List.append_nil, List.nil_append] at hg
  unfold construct
  rw [hg.1, generate_clean _ _ _ _ _ _ hcl]
  have : ¬ (attrsOf p).length > nrItems := by simp [nrItems]; omega
  simp only [this, if_false, compiledOf]

/-- after a well-formed prefix the scanner stands at the next `%(`, on a clean rewritten prefix: if the iteration on that
    field fails, the constructor fails with the same error -/
theorem construct_error_after_items (p : List Item) (tail : Str) (e : CtorErr) (hwf : ∀ it ∈ p, it.wf = true)
    (hadj : noAdjLits p = true) (hlen : (attrsOf p).length ≤ 16)
    (hstep : Clean (fmtOf p) →
      ∀ n o s k nf, generate (n + 1) (fmtOf p ++ '%' :: '(' :: (tail ++ ['\n'])) o s k nf = .error e) :
    construct (printPattern p ++ '%' :: '(' :: tail) = .error e := by
  have hg := generate_printed p ('%' :: '(' :: tail) hwf hadj hlen
  unfold construct
  rw [hg.1, List.cons_append, List.cons_append, hstep hg.2]

theorem construct_items (p : List Item) (h : WF p) : construct (printPattern p) = .ok (compiledOf p) :=
  construct_items' p h.1 h.2.1 (attrs_length_le _ h.2.2)

theorem setArgs_eq (order : List Nat) :
    setArgs order = Attr.all.foldl (writeStep (fun a => some (order.getD a.idx (nrItems - 1), some a.name)))
      (List.replicate nrItems none) := by
  unfold setArgs
  congr 1

theorem setArgs_length (order : List Nat) : (setArgs order).length = 16 := by
  rw [setArgs_eq, foldl_write_length]
  rfl

/-- the `_set_arg_val` writes as `writeStep`s -/
def fillWrite (c : Compiled) (vals : Attr → Str) (b : Attr) : Option (Nat × Option Str) :=
  if c.isSet.getD b.idx false || b == .message then some (c.order.getD b.idx (nrItems - 1), some (vals b)) else none

theorem fillArgs_eq (c : Compiled) (vals : Attr → Str) :
    fillArgs c vals = formatOrder.foldl (writeStep (fillWrite c vals)) c.args := by
  unfold fillArgs
  congr 1
  funext args b
  unfold writeStep fillWrite
  split <;> rfl

theorem assign_append : ∀ (a b : List Attr) (k : Nat) (o : List Nat),
    assign (a ++ b) k o = assign b (k + a.length) (assign a k o) := by
  intro a
  induction a with
  | nil => intro b k o; simp [assign]
  | cons x a ih =>
    intro b k o
    simp only [List.cons_append, assign, ih, List.length_cons]
    congr 1; omega

/-- the slot of an attribute is the position of its LAST occurrence -/
theorem order_get_last (pre post : List Attr) (b : Attr) (hb : b ∉ post) :
    (assign (pre ++ b :: post) 0 order0).getD b.idx (nrItems - 1) = pre.length := by
  rw [assign_append]
  simp only [assign, Nat.zero_add]
  have h1 := assign_get_not_mem post (pre.length + 1) ((assign pre 0 order0).set b.idx pre.length) b hb
  have hlen : (assign pre 0 order0).length = 16 := by rw [assign_length]; rfl
  have hlt := idx_lt b
  rw [List.getD_eq_getElem?_getD, h1]
  simp [hlen, hlt]

theorem order_get_mem (as : List Attr) (hnd : as.Nodup) (j : Nat) (a : Attr) (hj : as[j]? = some a) :
    (assign as 0 order0).getD a.idx (nrItems - 1) = j := by
  obtain ⟨hlt, e⟩ := List.getElem?_eq_some_iff.mp hj
  have hs : as.take j ++ a :: as.drop (j + 1) = as := by
    rw [← e, ← List.drop_eq_getElem_cons hlt, List.take_append_drop]
  have hl : (as.take j).length = j := by rw [List.length_take]; omega
  generalize as.take j = pre at hs hl
  generalize as.drop (j + 1) = post at hs
  subst hs hl
  exact order_get_last pre post a (List.nodup_cons.mp (List.nodup_append.mp hnd).2.1).1

theorem order_get_not_mem (as : List Attr) (b : Attr) (hb : b ∉ as) :
    (assign as 0 order0).getD b.idx (nrItems - 1) = 15 := by
  have := assign_get_not_mem as 0 order0 b hb
  have h0 : order0[b.idx]? = some 15 := by cases b <;> rfl
  rw [List.getD_eq_getElem?_getD, this, h0]; rfl

theorem isSet_get_mem (as : List Attr) (b : Attr) (hb : b ∈ as) : (mark as isSet0).getD b.idx false = true := by
  have := mark_get_mem as isSet0 b (by simp [isSet0, nrItems]) hb
  simp [List.getD_eq_getElem?_getD, this]

theorem isSet_get_not_mem (as : List Attr) (b : Attr) (hb : b ∉ as) : (mark as isSet0).getD b.idx false = false := by
  have := mark_get_not_mem as isSet0 b hb
  have h0 : isSet0[b.idx]? = some false := by cases b <;> rfl
  rw [List.getD_eq_getElem?_getD, this, h0]; rfl

theorem fillArgs_get (p : List Item) (vals : Attr → Str) (hnd : (attrsOf p).Nodup) (j : Nat) (a : Attr)
    (hj : (attrsOf p)[j]? = some a) : getArg (fillArgs (compiledOf p) vals) j = some (vals a) := by
  have hjlt : j < (attrsOf p).length := (List.getElem?_eq_some_iff.mp hj).1
  have ha_mem : a ∈ attrsOf p := List.mem_of_getElem? hj
  rw [fillArgs_eq]
  have key := foldl_write_get (fillWrite (compiledOf p) vals) j (some (vals a)) formatOrder (compiledOf p).args ?hall
  case hall =>
    intro b _ w hw
    unfold fillWrite at hw
    split at hw
    · rename_i hcond
      simp only [Option.some.injEq, Prod.mk.injEq] at hw
      obtain ⟨hslot, rfl⟩ := hw
      by_cases hb : b ∈ attrsOf p
      · obtain ⟨j', hj'⟩ := List.mem_iff_getElem?.mp hb
        have := order_get_mem _ hnd j' b hj'
        simp only [compiledOf] at hslot
        rw [this] at hslot
        subst hslot
        rw [hj] at hj'
        simp only [Option.some.injEq] at hj'
        rw [hj']
      · -- an attribute the pattern does not name keeps the default slot 15 and is written only if it is `message`;
        -- the pattern then names at most 15 attributes, so slot 15 is not the slot `j` of one of them
        exfalso
        simp only [compiledOf] at hslot hcond
        rw [order_get_not_mem _ b hb] at hslot
        rw [isSet_get_not_mem _ b hb] at hcond
        simp only [Bool.false_or, beq_iff_eq] at hcond
        subst hcond
        have := attrs_length_le_of_no_message _ hnd hb
        omega
    · simp at hw
  have hres := key.2 (by simp only [compiledOf, setArgs_length]; have := attrs_length_le _ hnd; omega)
    ⟨a, mem_formatOrder a, some (vals a), by
      unfold fillWrite
      simp only [compiledOf, isSet_get_mem _ a ha_mem, Bool.true_or, if_true, order_get_mem _ hnd j a hj]⟩
  simp [getArg, hres]

def resultOf : Except FErr Str → Result
  | .ok s => .line s
  | .error .format => .formatError
  | .error .unsupported => .unsupported

theorem formatPattern_of_construct {pattern : Str} {c : Compiled} (h : construct pattern = .ok c) (vals : Attr → Str) :
    formatPattern pattern vals = resultOf (format c vals) := by
  simp only [formatPattern, h]
  cases format c vals with
  | ok s => rfl
  | error e => cases e <;> rfl

/-- a pattern printed from well-formed items (braces in literal text allowed): the constructor's result is known,
    what is left to compute is `format` on it -/
theorem formatPattern_items (p : List Item) (vals : Attr → Str) (hwf : ∀ it ∈ p, it.wf = true) (hadj : noAdjLits p = true)
    (hlen : (attrsOf p).length ≤ 16) : formatPattern (printPattern p) vals = resultOf (format (compiledOf p) vals) :=
  formatPattern_of_construct (construct_items' p hwf hadj hlen) vals

/-- a printed pattern without braces in literal text, attributes distinct or not: the outcome is that of the slots -/
theorem formatPattern_slots (p : List Item) (vals : Attr → Str) (hwf : ∀ it ∈ p, it.wf = true)
    (hadj : noAdjLits p = true) (hnb : NoBrace p) (hlen : (attrsOf p).length ≤ 16) (hne : printPattern p ≠ []) :
    formatPattern (printPattern p) vals =
      match slots (fillArgs (compiledOf p) vals) p 0 with
      | none => .formatError
      | some o => .line (o ++ ['\n']) := by
  have hempty : (compiledOf p).empty = false := List.isEmpty_eq_false_iff.mpr hne
  rw [formatPattern_items p vals hwf hadj hlen, format, hempty, vformat,
    show (compiledOf p).fmt = fmtOf p ++ ['\n'] from rfl, vfmt_walk _ p 0 _ hwf hnb]
  cases slots (fillArgs (compiledOf p) vals) p 0 with
  | none => rfl
  | some o => simp [after, vfmt, Except.map, resultOf]

end Pattern
