import QuillModel.Pattern.Basic
import QuillModel.Util.Digits
/-! Decimal printing (`digits`) against fmt's `parse_nonnegative_int` (`parseNat`). -/
namespace Pattern

theorem digitChar_eq : ∀ d, d < 10 → digitChar d = Nat.digitChar d := by decide

theorem digitsAux_eq : ∀ (fuel n : Nat) (acc : Str), digitsAux fuel n acc = Nat.toDigitsCore 10 fuel n acc
  | 0, _, _ => rfl
  | fuel + 1, n, acc => by
    rw [digitsAux, Nat.toDigitsCore]
    by_cases h : n < 10
    · rw [if_pos h, if_pos (Nat.div_eq_of_lt h), Nat.mod_eq_of_lt h, digitChar_eq n h]
    · rw [if_neg h, if_neg (by omega), digitsAux_eq, digitChar_eq _ (Nat.mod_lt n (by decide))]

theorem digits_eq (n : Nat) : digits n = Nat.toDigits 10 n := digitsAux_eq _ _ _

theorem isDigit_eq (c : Char) : isDigit c = c.isDigit := by
  simp only [isDigit, Char.isDigit, Char.le_def, ge_iff_le, Bool.decide_and, UInt32.le_iff_toNat_le]

theorem valOfDigits_eq_ofDigitChars (ds : Str) : valOfDigits ds = Nat.ofDigitChars 10 ds 0 := by
  rw [Nat.ofDigitChars_eq_foldl, valOfDigits]
  congr 1
  funext acc c
  rw [Nat.mul_comm]
  rfl

theorem valOfDigits_digits (n : Nat) : valOfDigits (digits n) = n := by
  rw [digits_eq, valOfDigits_eq_ofDigitChars, Nat.ofDigitChars_ten_toDigits]

theorem digits_all (n : Nat) : ∀ c ∈ digits n, isDigit c = true := by
  intro c hc
  rw [isDigit_eq]
  exact Nat.isDigit_of_mem_toDigits (by decide) (by decide) (digits_eq n ▸ hc)

theorem digits_length_le (n : Nat) (h : n ≤ intMax) : (digits n).length ≤ 10 :=
  digits_eq n ▸ Nat.length_toDigits_ten_le (by decide) (Nat.lt_of_le_of_lt h (by decide))

theorem digits_head (n : Nat) (h0 : 0 < n) : ∃ d rest, digits n = d :: rest ∧ d ≠ '0' ∧ isDigit d = true := by
  obtain ⟨d, rest, he, hd, hi⟩ := Nat.toDigits_ten_head h0
  exact ⟨d, rest, (digits_eq n).trans he, hd, (isDigit_eq d).trans hi⟩

theorem digits_ne_nil (n : Nat) : digits n ≠ [] := digits_eq n ▸ Nat.toDigits_ne_nil

theorem parseNat_digits (n : Nat) (h : n ≤ intMax) : parseNat (digits n) = some n := by
  unfold parseNat
  have hl := digits_length_le n h
  rw [valOfDigits_digits]
  split
  · rfl
  · rename_i h9
    have : (digits n).length = 10 := by omega
    simp [this, h]

theorem takeWhile_digits (n : Nat) (rest : Str) (hr : ∀ c, rest.head? = some c → isDigit c = false) :
    (digits n ++ rest).takeWhile isDigit = digits n ∧ (digits n ++ rest).dropWhile isDigit = rest := by
  have hall := digits_all n
  constructor
  · rw [List.takeWhile_append_of_pos hall]
    cases rest with
    | nil => simp
    | cons c r => simp [hr c rfl]
  · rw [List.dropWhile_append_of_pos hall]
    cases rest with
    | nil => simp
    | cons c r => simp [hr c rfl]

/-! fmt's spec parser reads back every printed spec of the modelled subset: `parseSpec sp.print = ok sp`. -/

def Spec.precText (p : Option Nat) : Str := match p with | some n => '.' :: digits n | none => []
def Spec.widthText (w : Nat) : Str := if w = 0 then [] else digits w
def Spec.faText (f : Option Char) (a : Option Align) : Str :=
  (match f with | some c => [c] | none => []) ++ (match a with | some a => [a.char] | none => [])

theorem Spec.print_eq (sp : Spec) :
    sp.print = Spec.faText sp.fill sp.align ++ (Spec.widthText sp.width ++ Spec.precText sp.prec) := by
  simp only [Spec.print, Spec.faText, Spec.widthText, Spec.precText, List.append_assoc]
  rfl

theorem digits_cons (n : Nat) : ∃ d rest, digits n = d :: rest ∧ isDigit d = true := by
  cases h : digits n with
  | nil => exact absurd h (digits_ne_nil n)
  | cons d rest => exact ⟨d, rest, rfl, digits_all n d (by simp [h])⟩

theorem parseSpecPrec_print (s0 : Spec) (p : Option Nat) (hp : ∀ n, p = some n → n ≤ intMax)
    (h0 : s0.prec = none) : parseSpecPrec s0 (Spec.precText p) = .ok { s0 with prec := p } := by
  cases p with
  | none =>
    simp only [Spec.precText, parseSpecPrec]
    cases s0; simp_all
  | some n =>
    obtain ⟨d, rest, hd, hdig⟩ := digits_cons n
    have htw := takeWhile_digits n [] (by simp)
    simp only [List.append_nil] at htw
    simp only [Spec.precText, parseSpecPrec, if_true]
    rw [hd]
    simp only [hdig, if_true]
    rw [← hd, htw.1, htw.2, parseNat_digits n (hp n rfl)]
    simp [parseSpecEnd]

theorem precText_head (p : Option Nat) : ∀ c, (Spec.precText p).head? = some c → isDigit c = false := by
  intro c h
  cases p with
  | none => simp [Spec.precText] at h
  | some n => simp [Spec.precText] at h; subst h; decide

theorem parseSpecWidth_print (s0 : Spec) (w : Nat) (p : Option Nat) (hw : w ≤ intMax)
    (hp : ∀ n, p = some n → n ≤ intMax) (h0 : s0.prec = none) (hw0 : s0.width = 0) :
    parseSpecWidth s0 (Spec.widthText w ++ Spec.precText p) = .ok { s0 with width := w, prec := p } := by
  by_cases hz : w = 0
  · subst hz
    simp only [Spec.widthText, if_true, List.nil_append]
    have hP := parseSpecPrec_print s0 p hp h0
    cases hpt : Spec.precText p with
    | nil =>
      rw [hpt] at hP
      simp only [parseSpecWidth]
      simp only [parseSpecPrec] at hP
      cases s0; simp_all
    | cons c r =>
      have hc : isDigit c = false := precText_head p c (by simp [hpt])
      rw [hpt] at hP
      simp only [parseSpecWidth, hc, Bool.false_eq_true, false_and, if_false, hP]
      cases s0; simp_all
  · obtain ⟨d, rest, hd, hne, hdig⟩ := digits_head w (by omega)
    have htw := takeWhile_digits w (Spec.precText p) (precText_head p)
    simp only [Spec.widthText, hz, if_false]
    have hP := parseSpecPrec_print { s0 with width := w } p hp h0
    rw [hd] at htw ⊢
    simp only [List.cons_append, parseSpecWidth, hdig, hne, ne_eq, not_false_eq_true, and_self, if_true]
    rw [show d :: (rest ++ Spec.precText p) = (d :: rest) ++ Spec.precText p by simp, htw.1, htw.2, ← hd,
      parseNat_digits w hw]
    simp only [hP]

/-- characters that occur in the width/precision part -/
def numChar (c : Char) : Bool := isDigit c || c == '.'

/-- every character outside that class differs from each one in it -/
theorem numChar_ne {c x : Char} (h : numChar c = true) (hx : numChar x = false) : c ≠ x := by
  intro e
  rw [e, hx] at h
  cases h

theorem numChar_alignOf {c : Char} (h : numChar c = true) : alignOf c = none := by
  unfold alignOf
  rw [if_neg (numChar_ne h (by decide)), if_neg (numChar_ne h (by decide)), if_neg (numChar_ne h (by decide))]

theorem numChar_ascii {c : Char} (h : numChar c = true) : c.toNat < 128 := by
  simp only [numChar, isDigit, Bool.or_eq_true, decide_eq_true_eq, beq_iff_eq] at h
  rcases h with ⟨_, h2⟩ | rfl
  · have h2' : c.toNat ≤ 57 := UInt32.le_iff_toNat_le.mp (Char.le_def.mp h2)
    omega
  · decide

theorem widthPrec_numChar (w : Nat) (p : Option Nat) : ∀ c ∈ Spec.widthText w ++ Spec.precText p, numChar c = true := by
  intro c hc
  rcases List.mem_append.mp hc with h | h
  · unfold Spec.widthText at h
    split at h
    · simp at h
    · simp [numChar, digits_all w c h]
  · cases p with
    | none => simp [Spec.precText] at h
    | some n =>
      simp only [Spec.precText, List.mem_cons] at h
      rcases h with rfl | h
      · decide
      · simp [numChar, digits_all n c h]

theorem alignOf_char (a : Align) : alignOf a.char = some a := by cases a <;> rfl

theorem align_char_ne (a : Align) {x : Char} (hx : alignOf x = none) : a.char ≠ x := by
  intro e
  rw [← e, alignOf_char] at hx
  cases hx

theorem align_char_ascii (a : Align) : a.char.toNat < 128 := by cases a <;> decide

theorem widthPrec_eq_nil (w : Nat) (p : Option Nat) (h : Spec.widthText w ++ Spec.precText p = []) : w = 0 ∧ p = none := by
  simp only [List.append_eq_nil_iff] at h
  constructor
  · by_cases hz : w = 0
    · exact hz
    · simp [Spec.widthText, hz, digits_ne_nil] at h
  · cases p with
    | none => rfl
    | some n => simp [Spec.precText] at h

theorem Spec.mem_print {sp : Spec} {c : Char} (hc : c ∈ sp.print) :
    sp.fill = some c ∨ (∃ a, sp.align = some a ∧ c = a.char) ∨ numChar c = true := by
  rw [Spec.print_eq] at hc
  rcases List.mem_append.mp hc with h | h
  · simp only [Spec.faText] at h
    rcases List.mem_append.mp h with h | h
    · cases hf : sp.fill with
      | none => simp [hf] at h
      | some f =>
        simp only [hf, List.mem_singleton] at h
        exact Or.inl (by rw [h])
    · cases ha : sp.align with
      | none => simp [ha] at h
      | some a =>
        simp only [ha, List.mem_singleton] at h
        exact Or.inr (Or.inl ⟨a, rfl, h⟩)
  · exact Or.inr (Or.inr (widthPrec_numChar _ _ c h))

theorem Spec.valid_fill {sp : Spec} (hv : sp.valid = true) {c : Char} (hf : sp.fill = some c) :
    sp.align.isSome = true ∧ c ≠ '{' ∧ c ≠ '}' ∧ c ≠ ')' ∧ c.toNat < 128 := by
  simp only [Spec.valid, hf, Bool.and_eq_true, bne_iff_ne, ne_eq, decide_eq_true_eq, and_assoc] at hv
  obtain ⟨h1, h2, h3, h4, h5, _⟩ := hv
  exact ⟨h1, h2, h3, h4, h5⟩

theorem Spec.valid_width {sp : Spec} (hv : sp.valid = true) : sp.width ≤ intMax := by
  simp only [Spec.valid, Bool.and_eq_true, decide_eq_true_eq] at hv
  exact hv.1.2

theorem Spec.valid_prec {sp : Spec} (hv : sp.valid = true) {n : Nat} (hp : sp.prec = some n) : n ≤ intMax := by
  simp only [Spec.valid, hp, Bool.and_eq_true, decide_eq_true_eq] at hv
  exact hv.2

theorem print_ascii (sp : Spec) (hv : sp.valid = true) : sp.print.any (fun c => c.toNat ≥ 128) = false := by
  rw [List.any_eq_false]
  intro c hc
  simp only [ge_iff_le, decide_eq_true_eq, Nat.not_le]
  rcases Spec.mem_print hc with hf | ⟨a, _, rfl⟩ | hn
  · obtain ⟨_, _, _, _, h⟩ := Spec.valid_fill hv hf
    exact h
  · exact align_char_ascii a
  · exact numChar_ascii hn

theorem parseSpec_print (sp : Spec) (hv : sp.valid = true) : parseSpec sp.print = .ok sp := by
  have hasc := print_ascii sp hv
  obtain ⟨fill, align, w, p⟩ := sp
  have hvw : w ≤ intMax := Spec.valid_width hv
  have hvp : ∀ n, p = some n → n ≤ intMax := fun n hn => Spec.valid_prec hv hn
  unfold parseSpec
  rw [hasc]
  simp only [Bool.false_eq_true, if_false]
  rw [Spec.print_eq]
  simp only [Spec.faText]
  -- the parser looks for an alignment sign in the first two characters: without a fill these belong to the width or
  -- precision text, and a `numChar` is no alignment sign (`numChar_alignOf`)
  have hrest := widthPrec_numChar w p
  generalize hR : Spec.widthText w ++ Spec.precText p = R at hrest
  cases fill with
  | some c =>
    cases align with
    | none => cases (Spec.valid_fill hv rfl).1
    | some a =>
      obtain ⟨_, hc, _⟩ := Spec.valid_fill hv rfl
      simp only [List.cons_append, List.nil_append, alignOf_char, hc, if_false]
      rw [← hR, parseSpecWidth_print _ w p hvw hvp rfl rfl]
  | none =>
    cases align with
    | some a =>
      simp only [List.nil_append, List.singleton_append]
      cases R with
      | nil =>
        obtain ⟨rfl, rfl⟩ := widthPrec_eq_nil w p hR
        simp [alignOf_char]
      | cons b r =>
        have hb := numChar_alignOf (hrest b (by simp))
        simp only [hb, alignOf_char]
        rw [← hR, parseSpecWidth_print _ w p hvw hvp rfl rfl]
    | none =>
      simp only [List.nil_append]
      cases R with
      | nil =>
        obtain ⟨rfl, rfl⟩ := widthPrec_eq_nil w p hR
        rfl
      | cons a r =>
        have ha := numChar_alignOf (hrest a (by simp))
        cases r with
        | nil =>
          simp only [ha]
          rw [← hR, parseSpecWidth_print _ w p hvw hvp rfl rfl]
        | cons b r' =>
          have hb := numChar_alignOf (hrest b (by simp))
          simp only [ha, hb]
          rw [← hR, parseSpecWidth_print _ w p hvw hvp rfl rfl]

end Pattern
