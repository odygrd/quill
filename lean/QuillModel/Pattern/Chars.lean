import QuillModel.Pattern.Scan
/-!
The constructor read through `Attr.chars`. Evaluating `construct` on a concrete pattern decodes the string literals of
`Attr.name` at every name lookup and again in `setArgs` (the kernel decodes a literal in quadratic time and shares nothing
between lookups); `constructC` is the same function over the written-out characters, and concrete patterns are evaluated
through it after rewriting with `construct_eq`.
-/
namespace Pattern

def generateW (look : Str → Option Attr) : Nat → Str → List Nat → List Bool → Nat → Nat → Except CtorErr Gen
  | 0, pat, order, isSet, _, nf =>
    match findField pat with
    | none => .ok ⟨pat, order, isSet, nf⟩
    | some _ => .error .fuel
  | fuel + 1, pat, order, isSet, argIdx, nf =>
    match findField pat with
    | none => .ok ⟨pat, order, isSet, nf⟩
    | some (pre, rest) =>
      match splitAtChar ')' rest with
      | none => .error .unterminated
      | some (body, post) =>
        match look (fieldParts body).1 with
        | none => .error (.unknownAttr (fieldParts body).1)
        | some a =>
          generateW look fuel (pre ++ ((fieldParts body).2 ++ post)) (order.set a.idx argIdx) (isSet.set a.idx true)
            ((argIdx + 1) % 256) (nf + 1)

theorem generate_eq : ∀ (fuel : Nat) (pat : Str) (order : List Nat) (isSet : List Bool) (argIdx nf : Nat),
    generate fuel pat order isSet argIdx nf = generateW attrOfName fuel pat order isSet argIdx nf
  | 0, _, _, _, _, _ => rfl
  | fuel + 1, pat, order, isSet, argIdx, nf => by
    simp only [generate, generateW, generate_eq fuel]
    rfl

def constructC (pattern : Str) : Except CtorErr Compiled :=
  match generateW attrOfChars (pattern.length + 1) (pattern ++ ['\n']) (List.replicate nrItems (nrItems - 1))
      (List.replicate nrItems false) 0 0 with
  | .error e => .error e
  | .ok g =>
    if g.nfields > nrItems then .error .tooManyFields
    else .ok { empty := pattern.isEmpty, fmt := g.fmt, order := g.order, isSet := g.isSet,
               args := Attr.all.foldl (fun args a => args.set (g.order.getD a.idx (nrItems - 1)) (some a.chars))
                 (List.replicate nrItems none) }

theorem construct_eq (pattern : Str) : construct pattern = constructC pattern := by
  have h : attrOfName = attrOfChars := funext attrOfName_chars
  simp only [construct, constructC, generate_eq, h, setArgs, Attr.name_eq_chars]
  cases generateW attrOfChars (pattern.length + 1) (pattern ++ ['\n']) (List.replicate nrItems (nrItems - 1))
      (List.replicate nrItems false) 0 0 <;> rfl

def Item.printC : Item → Str
  | .lit s => s
  | .field a none => '%' :: '(' :: (a.chars ++ [')'])
  | .field a (some sp) => '%' :: '(' :: (a.chars ++ ':' :: (sp.print ++ [')']))

theorem printPattern_chars (p : List Item) : printPattern p = p.flatMap Item.printC := by
  have h : Item.print = Item.printC := by
    funext it
    cases it with
    | lit s => rfl
    | field a spec => cases spec <;> simp only [Item.print, Item.printC, Attr.name_eq_chars]
  rw [printPattern, h]

/-- reading a pattern literal as a printed item list: the literal is taken as `String.ofList` of its characters and the
    names are compared as characters, so that nothing is decoded -/
theorem toList_eq_printPattern {cs : Str} {p : List Item} (h : cs = p.flatMap Item.printC) :
    (String.ofList cs).toList = printPattern p := by
  rw [String.toList_ofList, printPattern_chars, h]

def formatPatternC (pattern : Str) (vals : Attr → Str) : Result :=
  match constructC pattern with
  | .error e => .ctorError e
  | .ok c =>
    match format c vals with
    | .ok s => .line s
    | .error .format => .formatError
    | .error .unsupported => .unsupported

theorem formatPattern_chars (pattern : Str) (vals : Attr → Str) : formatPattern pattern vals = formatPatternC pattern vals := by
  rw [formatPattern, formatPatternC, construct_eq]
  rfl

end Pattern
