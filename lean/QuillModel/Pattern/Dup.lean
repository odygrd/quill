import QuillModel.Pattern.Compile
/-! "The same attribute cannot be used twice" (`core/PatternFormatterOptions.h:63`): what the code does when it is. The
constructor accepts the pattern; the slot of the earlier occurrence stays an empty `basic_format_arg`, so every statement
throws at format time. -/
namespace Pattern

theorem exists_last_occurrence {α : Type} {b : α} : ∀ {l : List α}, b ∈ l → ∃ pre post, l = pre ++ b :: post ∧ b ∉ post := by
  intro l
  induction l with
  | nil => intro h; simp at h
  | cons x l ih =>
    intro h
    by_cases hin : b ∈ l
    · obtain ⟨pre, post, e, hn⟩ := ih hin
      exact ⟨x :: pre, post, by simp [e], hn⟩
    · have : b = x := (List.mem_cons.mp h).resolve_right hin
      subst this
      exact ⟨[], l, rfl, hin⟩

/-- if the attribute at position `i` occurs again later, no write ever targets slot `i` -/
theorem slot_ne_of_later_duplicate (as : List Attr) (hlen : as.length ≤ 16) (i j : Nat) (a : Attr) (hij : i < j)
    (hi : as[i]? = some a) (hj : as[j]? = some a) (b : Attr) :
    (assign as 0 order0).getD b.idx (nrItems - 1) ≠ i := by
  have hjlt : j < as.length := (List.getElem?_eq_some_iff.mp hj).1
  by_cases hb : b ∈ as
  · obtain ⟨pre, post, e, hn⟩ := exists_last_occurrence hb
    rw [e, order_get_last pre post b hn]
    intro hpre
    subst hpre
    have hb_eq : b = a := by
      rw [e] at hi
      simp at hi
      exact hi
    subst hb_eq
    apply hn
    rw [e] at hj
    obtain ⟨m, rfl⟩ : ∃ m, j = pre.length + 1 + m := ⟨j - pre.length - 1, by omega⟩
    have : (pre ++ b :: post)[pre.length + 1 + m]? = post[m]? := by
      rw [List.getElem?_append_right (by omega), show pre.length + 1 + m - pre.length = m + 1 by omega,
        List.getElem?_cons_succ]
    rw [this] at hj
    exact List.mem_of_getElem? hj
  · rw [order_get_not_mem as b hb]; omega

theorem getArg_none_of_later_duplicate (p : List Item) (vals : Attr → Str) (hlen : (attrsOf p).length ≤ 16)
    (i j : Nat) (a : Attr) (hij : i < j) (hi : (attrsOf p)[i]? = some a) (hj : (attrsOf p)[j]? = some a) :
    getArg (fillArgs (compiledOf p) vals) i = none := by
  have hne := slot_ne_of_later_duplicate (attrsOf p) hlen i j a hij hi hj
  have hjlt : j < (attrsOf p).length := (List.getElem?_eq_some_iff.mp hj).1
  rw [fillArgs_eq]
  unfold getArg
  rw [foldl_write_untouched]
  · simp only [compiledOf, setArgs_eq]
    rw [foldl_write_untouched]
    · have hi16 : i < 16 := by omega
      have : (List.replicate nrItems (none : Option Str))[i]? = some none := by
        rw [List.getElem?_replicate]; simp [nrItems, hi16]
      rw [this]; rfl
    · intro b _ k w hw
      simp only [Option.some.injEq, Prod.mk.injEq] at hw
      rw [← hw.1]; exact hne b
  · intro b _ k w hw
    unfold fillWrite at hw
    split at hw
    · simp only [Option.some.injEq, Prod.mk.injEq] at hw
      rw [← hw.1]; exact hne b
    · simp at hw

theorem exists_duplicate_of_not_nodup {α : Type} {l : List α} (h : ¬ l.Nodup) :
    ∃ (i j : Nat) (a : α), i < j ∧ l[i]? = some a ∧ l[j]? = some a := by
  induction l with
  | nil => exact absurd List.nodup_nil h
  | cons x l ih =>
    rw [List.nodup_cons] at h
    by_cases hx : x ∈ l
    · obtain ⟨j, hj⟩ := List.mem_iff_getElem?.mp hx
      exact ⟨0, j + 1, x, Nat.succ_pos j, by simp, by simpa using hj⟩
    · have hl : ¬ l.Nodup := fun hn => h ⟨hx, hn⟩
      obtain ⟨i, j, a, hij, hi, hj⟩ := ih hl
      exact ⟨i + 1, j + 1, a, Nat.succ_lt_succ hij, by simpa using hi, by simpa using hj⟩

end Pattern
