/-!
# `quill::PatternFormatter`, `MacroMetadata`, multi-line dispatch, runtime metadata (property C12)

Anchors: `include/quill/backend/PatternFormatter.h` (`_generate_fmt_format_string`, `_set_pattern`, `format`),
`include/quill/core/MacroMetadata.h`, `include/quill/backend/BackendWorker.h`
(`_dispatch_transit_event_to_sinks`, `_process_multi_line_message`, `_apply_runtime_metadata`),
`include/quill/bundled/fmt/base.h` (`parse_format_string`, `parse_replacement_field`, `parse_format_specs`),
`include/quill/bundled/fmt/format.h` (`write(out, string_view, specs)`, `write_padded`).

Strings are `List Char`; the drivers map one byte to one `Char` (`Char.ofNat b`). fmt's width is by code point,
so the spec model is claimed for ASCII only (bytes `< 128`).

The model follows the code, quirks included:
* the scanner appends `"\n"`, repeatedly finds the first `%(`, takes everything up to the first `)`, splits at the first
  `:`, replaces the field by `{}` / `{:spec}` **in the pattern string** and rescans from the start;
  unterminated `%(` and unknown names throw; `order_index[id] = arg_idx++` (a duplicate attribute overwrites its
  earlier slot, which then stays an empty `basic_format_arg`); `arg_idx` is a `uint8_t`;
* `_set_arg` stores every attribute's *name* at `_args[order_index[a]]` (unused attributes all share slot 15);
* `format` overwrites the slots of the attributes present in the pattern (and always `Message`) and calls `vformat_to`
  on the rewritten string — so whatever literal text the user wrote is interpreted by fmt (`{{`, `}}`, `{0}`, `{x}` …);
* an empty pattern formats to the empty string (no newline).
-/
namespace Pattern

abbrev Str := List Char

/-! ## Attributes (enum `PatternFormatter::Attribute`) -/

inductive Attr
  | time | fileName | callerFunction | logLevel | logLevelShortCode | lineNumber | logger | fullPath
  | threadId | threadName | processId | sourceLocation | shortSourceLocation | message | tags | namedArgs
  deriving DecidableEq, Repr, Inhabited

/-- enum order -/
def Attr.all : List Attr :=
  [.time, .fileName, .callerFunction, .logLevel, .logLevelShortCode, .lineNumber, .logger, .fullPath,
   .threadId, .threadName, .processId, .sourceLocation, .shortSourceLocation, .message, .tags, .namedArgs]

def Attr.idx : Attr → Nat
  | .time => 0 | .fileName => 1 | .callerFunction => 2 | .logLevel => 3 | .logLevelShortCode => 4
  | .lineNumber => 5 | .logger => 6 | .fullPath => 7 | .threadId => 8 | .threadName => 9 | .processId => 10
  | .sourceLocation => 11 | .shortSourceLocation => 12 | .message => 13 | .tags => 14 | .namedArgs => 15

def Attr.name : Attr → Str
  | .time => "time".toList | .fileName => "file_name".toList | .callerFunction => "caller_function".toList
  | .logLevel => "log_level".toList | .logLevelShortCode => "log_level_short_code".toList
  | .lineNumber => "line_number".toList | .logger => "logger".toList | .fullPath => "full_path".toList
  | .threadId => "thread_id".toList | .threadName => "thread_name".toList | .processId => "process_id".toList
  | .sourceLocation => "source_location".toList | .shortSourceLocation => "short_source_location".toList
  | .message => "message".toList | .tags => "tags".toList | .namedArgs => "named_args".toList

/-- `ATTR_NR_ITEMS` -/
def nrItems : Nat := 16

/-- the order in which `format()` executes its `_set_arg_val<Attribute::X>` statements -/
def formatOrder : List Attr :=
  [.time, .fileName, .callerFunction, .logLevel, .logLevelShortCode, .lineNumber, .logger, .fullPath,
   .threadId, .threadName, .processId, .sourceLocation, .shortSourceLocation, .namedArgs, .tags, .message]

/-- name lookup of `_generate_fmt_format_string` (the `"name"_a` list, id = position) and of
    `_attribute_from_string`; the two C++ tables are extracted and proved equal to this one in `Obligations/Pattern` -/
def attrOfName (n : Str) : Option Attr := Attr.all.find? (fun a => a.name == n)

/-! ## Stage 1: the constructor (`_set_pattern` / `_generate_fmt_format_string`) -/

/-- first occurrence of `%(`: text before it and text after it -/
def findField : Str → Option (Str × Str)
  | [] => none
  | c :: rest =>
    if c = '%' ∧ rest.head? = some '(' then some ([], rest.tail)
    else (findField rest).map fun pr => (c :: pr.1, pr.2)

/-- first occurrence of the character `x`: text before it and text after it -/
def splitAtChar (x : Char) : Str → Option (Str × Str)
  | [] => none
  | c :: rest =>
    if c = x then some ([], rest) else (splitAtChar x rest).map fun pr => (c :: pr.1, pr.2)

inductive CtorErr
  | unterminated                -- `QuillError{"Invalid format pattern"}`
  | unknownAttr (name : Str)    -- `Invalid format pattern, attribute with name "…" is invalid`
  | tooManyFields               -- > 16 fields: `_args[_order_index[I]]` is written out of bounds (undefined behaviour)
  | fuel                        -- never produced (see `generate_never_fuel`); not a result of the C++
  deriving DecidableEq, Repr

structure Gen where
  fmt : Str
  order : List Nat
  isSet : List Bool
  nfields : Nat
  deriving DecidableEq, Repr

/-- `%(body)` ↦ attribute name and the replacement text -/
def fieldParts (body : Str) : Str × Str :=
  match splitAtChar ':' body with
  | some (n, spec) => (n, '{' :: ':' :: (spec ++ ['}']))
  | none => (body, ['{', '}'])

/-- the `while (arg_identifier_pos != npos)` loop; one unit of fuel per replaced field -/
def generate : Nat → Str → List Nat → List Bool → Nat → Nat → Except CtorErr Gen
  | 0, pat, order, isSet, _, nf =>
    match findField pat with
    | none => .ok ⟨pat, order, isSet, nf⟩
    | some _ => .error .fuel
  | fuel + 1, pat, order, isSet, argIdx, nf =>
    match findField pat with
    | none => .ok ⟨pat, order, isSet, nf⟩
    | some (pre, rest) =>
      match splitAtChar ')' rest with
      | none => .error .unterminated
      | some (body, post) =>
        match attrOfName (fieldParts body).1 with
        | none => .error (.unknownAttr (fieldParts body).1)
        | some a =>
          generate fuel (pre ++ ((fieldParts body).2 ++ post)) (order.set a.idx argIdx) (isSet.set a.idx true)
            ((argIdx + 1) % 256) (nf + 1)

structure Compiled where
  empty : Bool                  -- `_options.format_pattern.empty()`
  fmt : Str                     -- `_fmt_format`
  order : List Nat              -- `_order_index`
  isSet : List Bool             -- `_is_set_in_pattern`
  args : List (Option Str)      -- `_args` after the sixteen `_set_arg` calls (`none` = empty `basic_format_arg`)
  deriving DecidableEq, Repr

/-- the sixteen `_set_arg<Attribute::X>(name)` calls of `_set_pattern`, in enum order -/
def setArgs (order : List Nat) : List (Option Str) :=
  Attr.all.foldl (fun args a => args.set (order.getD a.idx (nrItems - 1)) (some a.name)) (List.replicate nrItems none)

def construct (pattern : Str) : Except CtorErr Compiled :=
  match generate (pattern.length + 1) (pattern ++ ['\n']) (List.replicate nrItems (nrItems - 1))
      (List.replicate nrItems false) 0 0 with
  | .error e => .error e
  | .ok g =>
    if g.nfields > nrItems then .error .tooManyFields
    else .ok { empty := pattern.isEmpty, fmt := g.fmt, order := g.order, isSet := g.isSet, args := setArgs g.order }

/-! ## fmt: format specs for string arguments -/

inductive Align | left | right | center
  deriving DecidableEq, Repr

/-- `[[fill]align][width][.precision]`; `width = 0` = absent (as in `format_specs`) -/
structure Spec where
  fill : Option Char := none
  align : Option Align := none
  width : Nat := 0
  prec : Option Nat := none
  deriving DecidableEq, Repr

def alignOf (c : Char) : Option Align :=
  if c = '<' then some .left else if c = '>' then some .right else if c = '^' then some .center else none

def Align.char : Align → Char | .left => '<' | .right => '>' | .center => '^'

def intMax : Nat := 2147483647

def isDigit (c : Char) : Bool := '0' ≤ c ∧ c ≤ '9'

def digitVal (c : Char) : Nat := c.toNat - 48

def valOfDigits (ds : Str) : Nat := ds.foldl (fun acc c => acc * 10 + digitVal c) 0

/-- `parse_nonnegative_int`: at most 9 digits, or 10 digits with value ≤ INT_MAX; otherwise "number is too big" -/
def parseNat (ds : Str) : Option Nat :=
  if ds.length ≤ 9 then some (valOfDigits ds)
  else if ds.length = 10 ∧ valOfDigits ds ≤ intMax then some (valOfDigits ds)
  else none

inductive FErr
  | format        -- a `fmtquill::format_error` is thrown
  | unsupported   -- accepted (or possibly accepted) by fmt but outside the modelled subset: no claim
  deriving DecidableEq, Repr

/-- presentation types fmt accepts for (c)string arguments (`s`, `?`, `p`) and dynamic width/precision: not modelled -/
def unmodelledStart (c : Char) : Bool := c = 's' ∨ c = '?' ∨ c = 'p' ∨ c = '{'

/-- after the precision -/
def parseSpecEnd (sp : Spec) : Str → Except FErr Spec
  | [] => .ok sp
  | c :: _ => if unmodelledStart c then .error .unsupported else .error .format

/-- `[.precision]` -/
def parseSpecPrec (sp : Spec) : Str → Except FErr Spec
  | [] => .ok sp
  | c :: r =>
    if c = '.' then
      match r with
      | [] => .error .format
      | d :: _ =>
        if isDigit d then
          match parseNat (r.takeWhile isDigit) with
          | none => .error .format
          | some p => parseSpecEnd { sp with prec := some p } (r.dropWhile isDigit)
        else if d = '{' then .error .unsupported
        else .error .format
    else if unmodelledStart c then .error .unsupported
    else .error .format

/-- `[width][.precision]` -/
def parseSpecWidth (sp : Spec) : Str → Except FErr Spec
  | [] => .ok sp
  | c :: r =>
    if isDigit c ∧ c ≠ '0' then
      match parseNat ((c :: r).takeWhile isDigit) with
      | none => .error .format
      | some w => parseSpecPrec { sp with width := w } ((c :: r).dropWhile isDigit)
    else parseSpecPrec sp (c :: r)

/-- `parse_format_specs` for an argument of string type on the text between `:` and the closing `}` -/
def parseSpec (s : Str) : Except FErr Spec :=
  if s.any (fun c => c.toNat ≥ 128) then .error .unsupported else
  match s with
  | a :: b :: r =>
    match alignOf b with
    | some al => if a = '{' then .error .format else parseSpecWidth { fill := some a, align := some al } r
    | none =>
      match alignOf a with
      | some al => parseSpecWidth { align := some al } (b :: r)
      | none => parseSpecWidth {} s
  | [a] =>
    match alignOf a with
    | some al => .ok { align := some al }
    | none => parseSpecWidth {} s
  | [] => .ok {}

/-- `write(out, string_view, specs)` + `write_padded` (default alignment left) for ASCII text -/
def applySpec (sp : Spec) (v : Str) : Str :=
  let v' := match sp.prec with | some p => v.take p | none => v
  let pad := sp.width - v'.length
  let left := match sp.align with | some .right => pad | some .center => pad / 2 | _ => 0
  let f := sp.fill.getD ' '
  List.replicate left f ++ v' ++ List.replicate (pad - left) f

/-! ## fmt: `vformat_to` on the rewritten string -/

/-- `parse_context::next_arg_id_`: `auto n` = n automatic ids handed out, `manual` = -1 -/
inductive ArgIdx | auto (n : Nat) | manual
  deriving DecidableEq, Repr

def isNameStart (c : Char) : Bool := ('a' ≤ c ∧ c ≤ 'z') ∨ ('A' ≤ c ∧ c ≤ 'Z') ∨ c = '_'

def getArg (args : List (Option Str)) (i : Nat) : Option Str := (args[i]?).join

/-- apply the optional spec text (after the `:`) to the argument -/
def renderArg (v : Str) : Option Str → Except FErr Str
  | none => .ok v
  | some spec => (parseSpec spec).map fun sp => applySpec sp v

/-- the text between `{` and the first `}` ↦ rendered argument and the new indexing state -/
def interpField (args : List (Option Str)) (ix : ArgIdx) (content : Str) : Except FErr (Str × ArgIdx) :=
  let autoArg (spec : Option Str) : Except FErr (Str × ArgIdx) :=
    match ix with
    | .manual => .error .format                  -- cannot switch from manual to automatic argument indexing
    | .auto n =>
      match getArg args n with
      | none => .error .format                   -- argument not found
      | some v => (renderArg v spec).map fun t => (t, .auto (n + 1))
  let manualArg (i : Nat) (spec : Option Str) : Except FErr (Str × ArgIdx) :=
    match ix with
    | .auto (_ + 1) => .error .format            -- cannot switch from automatic to manual argument indexing
    | _ =>
      match getArg args i with
      | none => .error .format
      | some v => (renderArg v spec).map fun t => (t, .manual)
  match content with
  | [] => autoArg none
  | c :: r =>
    if c = ':' then autoArg (some r)
    else if c = '0' then
      match r with
      | [] => manualArg 0 none
      | d :: r' => if d = ':' then manualArg 0 (some r') else .error .format
    else if isDigit c then
      let i := valOfDigits (content.takeWhile isDigit)
      match content.dropWhile isDigit with
      | [] => manualArg i none
      | d :: r' => if d = ':' then manualArg i (some r') else .error .format
    else .error .format                          -- named argument (never found: no named args are passed) or junk

/-- scanner state of `parse_format_string` -/
inductive PS
  | text                  -- literal text
  | opened                -- just read `{`
  | field (acc : Str)     -- inside a replacement field; `acc` = its text so far, reversed
  | closed                -- just read `}` in literal text
  deriving DecidableEq, Repr

/-- `parse_format_string` with `format_handler`. (For every field that fmt accepts without dynamic width/precision
    the field ends at the first `}` after its `{`; `{{` and `}}` are the escapes.) -/
def vfmt (args : List (Option Str)) : Str → ArgIdx → PS → Except FErr Str
  | [], _, .text => .ok []
  | [], _, _ => .error .format
  | c :: rest, ix, .text =>
    if c = '{' then vfmt args rest ix .opened
    else if c = '}' then vfmt args rest ix .closed
    else (vfmt args rest ix .text).map (c :: ·)
  | c :: rest, ix, .opened =>
    if c = '{' then (vfmt args rest ix .text).map ('{' :: ·)
    else if c = '}' then
      match interpField args ix [] with
      | .ok (v, ix') => (vfmt args rest ix' .text).map (v ++ ·)
      | .error e => .error e
    else vfmt args rest ix (.field [c])
  | c :: rest, ix, .field acc =>
    if c = '}' then
      match interpField args ix acc.reverse with
      | .ok (v, ix') => (vfmt args rest ix' .text).map (v ++ ·)
      | .error e => .error e
    else vfmt args rest ix (.field (c :: acc))
  | c :: rest, ix, .closed =>
    if c = '}' then (vfmt args rest ix .text).map ('}' :: ·) else .error .format

def vformat (fmt : Str) (args : List (Option Str)) : Except FErr Str := vfmt args fmt (.auto 0) .text

/-! ## Stage 2: `PatternFormatter::format` -/

/-- the `_set_arg_val` statements of `format()`: attributes present in the pattern, and always `Message` -/
def fillArgs (c : Compiled) (vals : Attr → Str) : List (Option Str) :=
  formatOrder.foldl (fun args a =>
    if c.isSet.getD a.idx false || a == .message then args.set (c.order.getD a.idx (nrItems - 1)) (some (vals a))
    else args) c.args

def format (c : Compiled) (vals : Attr → Str) : Except FErr Str :=
  if c.empty then .ok [] else vformat c.fmt (fillArgs c vals)

inductive Result
  | line (s : Str)
  | ctorError (e : CtorErr)
  | formatError
  | unsupported
  deriving DecidableEq, Repr

/-- construct a formatter for `pattern`, format one statement -/
def formatPattern (pattern : Str) (vals : Attr → Str) : Result :=
  match construct pattern with
  | .error e => .ctorError e
  | .ok c =>
    match format c vals with
    | .ok s => .line s
    | .error .format => .formatError
    | .error .unsupported => .unsupported

/-! ## Patterns as data: literal chunks and `%(attr[:spec])` fields -/

inductive Item
  | lit (s : Str)
  | field (a : Attr) (spec : Option Spec)
  deriving DecidableEq, Repr

def digitChar (d : Nat) : Char := Char.ofNat (48 + d)

/-- decimal digits, most significant first (`fuel` ≥ number of digits) -/
def digitsAux : Nat → Nat → Str → Str
  | 0, _, acc => acc
  | fuel + 1, n, acc => if n < 10 then digitChar n :: acc else digitsAux fuel (n / 10) (digitChar (n % 10) :: acc)

def digits (n : Nat) : Str := digitsAux (n + 1) n []

def Spec.print (sp : Spec) : Str :=
  (match sp.fill with | some c => [c] | none => []) ++
  (match sp.align with | some a => [a.char] | none => []) ++
  (if sp.width = 0 then [] else digits sp.width) ++
  (match sp.prec with | some p => '.' :: digits p | none => [])

def Item.print : Item → Str
  | .lit s => s
  | .field a none => '%' :: '(' :: (a.name ++ [')'])
  | .field a (some sp) => '%' :: '(' :: (a.name ++ ':' :: (sp.print ++ [')']))

def printPattern (p : List Item) : Str := p.flatMap Item.print

/-- direct substitution -/
def render (vals : Attr → Str) : Item → Str
  | .lit s => s
  | .field a none => vals a
  | .field a (some sp) => applySpec sp (vals a)

def Item.isLit : Item → Bool | .lit _ => true | _ => false

def attrsOf : List Item → List Attr
  | [] => []
  | .lit _ :: p => attrsOf p
  | .field a _ :: p => a :: attrsOf p

/-- specs in the modelled subset: a fill needs an alignment, is ASCII and is none of `{ } )`; bounds of `int` -/
def Spec.valid (sp : Spec) : Bool :=
  (match sp.fill with
   | some c => sp.align.isSome && c != '{' && c != '}' && c != ')' && decide (c.toNat < 128)
   | none => true) &&
  decide (sp.width ≤ intMax) &&
  (match sp.prec with | some p => decide (p ≤ intMax) | none => true)

/-- no two literal chunks side by side (merge them: `render` is a concatenation) -/
def noAdjLits : List Item → Bool
  | [] => true
  | it :: p => (match it, p with | .lit _, .lit _ :: _ => false | _, _ => true) && noAdjLits p

def Item.wf : Item → Bool
  | .lit s => (findField s).isNone
  | .field _ none => true
  | .field _ (some sp) => sp.valid

/-- well-formed pattern: literal chunks contain no `%(`, specs valid, every attribute at most once -/
def WF (p : List Item) : Prop := (∀ it ∈ p, it.wf = true) ∧ noAdjLits p = true ∧ (attrsOf p).Nodup

/-- F7 hypothesis: no `{` or `}` in literal text -/
def Item.noBrace : Item → Bool
  | .lit s => !s.contains '{' && !s.contains '}'
  | .field _ _ => true

def NoBrace (p : List Item) : Prop := ∀ it ∈ p, it.noBrace = true

instance (p : List Item) : Decidable (WF p) := by unfold WF; infer_instance
instance (p : List Item) : Decidable (NoBrace p) := by unfold NoBrace; infer_instance

/-! ## `MacroMetadata` : views of `"path:line"` -/

/-- `_calc_colon_separator_pos` : `rfind(':')` -/
def rfindColon (src : Str) : Option Nat :=
  let rec go : Str → Nat → Option Nat → Option Nat
    | [], _, last => last
    | c :: cs, i, last => go cs (i + 1) (if c = ':' then some i else last)
  go src 0 none

/-- `_calc_file_name_pos` : index after the last `/` (0 if none) -/
def fileNamePos (src : Str) : Nat :=
  let rec go : Str → Nat → Nat → Nat
    | [], _, file => file
    | c :: cs, i, file => go cs (i + 1) (if c = '/' then i + 1 else file)
  go src 0 0

structure MetaView where
  fileName : Str
  fullPath : Str
  line : Str
  shortSourceLocation : Str
  sourceLocation : Str
  deriving DecidableEq, Repr

/-- both positions are stored as `uint16_t`. `none`: the C++ would read outside the string
    (no `:` at all, or the truncated file-name position lies behind the truncated colon position). -/
def metaView (src : Str) : Option MetaView :=
  match rfindColon src with
  | none => none
  | some colon =>
    let c16 := colon % 65536
    let f16 := fileNamePos src % 65536
    if f16 > c16 then none
    else some {
      fileName := (src.drop f16).take (c16 - f16)
      fullPath := src.take c16
      line := src.drop (c16 + 1)
      shortSourceLocation := src.drop f16
      sourceLocation := src }

/-- `%(named_args)`: `k: v, k: v` -/
def joinNamed : List (Str × Str) → Str
  | [] => []
  | [(k, v)] => k ++ ':' :: ' ' :: v
  | (k, v) :: rest => k ++ ':' :: ' ' :: (v ++ ',' :: ' ' :: joinNamed rest)

/-- what `BackendWorker::_write_log_statement` passes to `format` -/
structure Stmt where
  time : Str
  threadId : Str
  threadName : Str
  processId : Str
  logger : Str
  levelDesc : Str
  levelShort : Str
  src : Str                                  -- `MacroMetadata::source_location()`
  caller : Str
  tags : Option Str                          -- may be `nullptr`
  named : Option (List (Str × Str))          -- may be `nullptr`
  deriving Repr

def valuation (s : Stmt) (mv : MetaView) (msg : Str) : Attr → Str
  | .time => s.time | .fileName => mv.fileName | .callerFunction => s.caller | .logLevel => s.levelDesc
  | .logLevelShortCode => s.levelShort | .lineNumber => mv.line | .logger => s.logger | .fullPath => mv.fullPath
  | .threadId => s.threadId | .threadName => s.threadName | .processId => s.processId
  | .sourceLocation => mv.sourceLocation | .shortSourceLocation => mv.shortSourceLocation
  | .message => msg | .tags => s.tags.getD [] | .namedArgs => joinNamed (s.named.getD [])

/-! ## Multi-line dispatch (`_dispatch_transit_event_to_sinks`, `_process_multi_line_message`) -/

/-- "if the log_message ends with \n we should exclude it" -/
def stripOneNl (msg : Str) : Str := if msg.getLast? = some '\n' then msg.dropLast else msg

/-- the `while (start < msg.size())` loop on the suffix `msg[start..]` -/
def mlLoop : Nat → Str → List Str
  | 0, _ => []
  | fuel + 1, rest =>
    if rest = [] then []
    else match splitAtChar '\n' rest with
      | none => [rest]
      | some (l, r) => l :: mlLoop fuel r

def multiLine (msg : Str) : List Str := if msg = [] then [[]] else mlLoop (msg.length + 1) msg

/-- the message pieces that are formatted, each as one statement -/
def dispatch (addMetadata : Bool) (namedEmpty : Bool) (msg : Str) : List Str :=
  if addMetadata && namedEmpty then multiLine msg else [stripOneNl msg]

/-- the statements one log call hands to a sink (`_write_log_statement` per piece) -/
def statements (pattern : Str) (st : Stmt) (mv : MetaView) (addMetadata : Bool) (msg : Str) : List Result :=
  (dispatch addMetadata (st.named.getD []).isEmpty msg).map fun piece => formatPattern pattern (valuation st mv piece)

/-! ## Runtime metadata (`_apply_runtime_metadata`) -/

/-- `QUILL_MAGIC_SEPARATOR` -/
def magicSep : Str := [Char.ofNat 1, Char.ofNat 2, Char.ofNat 3]

/-- `string_view::find(delimiter)`: text before and after the first occurrence -/
def splitSep (sep : Str) : Str → Option (Str × Str)
  | [] => none
  | c :: cs =>
    if sep.isPrefixOf (c :: cs) then some ([], (c :: cs).drop sep.length)
    else (splitSep sep cs).map fun pr => (c :: pr.1, pr.2)

structure RuntimeMeta where
  message : Str
  fileline : Str
  function : Str
  deriving DecidableEq, Repr

/-- `message SEP file SEP line SEP function`; `none` when fewer than three separators are present (the C++ then
    computes with `npos`; the macro always supplies three) -/
def applyRuntimeMeta (formatted : Str) : Option RuntimeMeta :=
  match splitSep magicSep formatted with
  | none => none
  | some (m, r1) =>
    match splitSep magicSep r1 with
    | none => none
    | some (file, r2) =>
      match splitSep magicSep r2 with
      | none => none
      | some (line, fn) => some { message := m, fileline := file ++ ':' :: line, function := fn }

end Pattern
