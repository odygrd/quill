import QuillModel.Pattern.Model
/-!
# Which pattern a sink's line is formatted with (logger pattern vs. sink override)

`BackendWorker::_dispatch_transit_event_to_sinks` makes sure the logger has a `PatternFormatter` — on the logger's first
dispatch it *shares* the formatter of any other logger with equal `PatternFormatterOptions`, else creates one — and
`_write_log_statement` then, **per sink**, uses the sink's override formatter when the sink carries
`_override_pattern_formatter_options` (creating it on first use), else the logger's statement.

The rule is `patternFor`. The backend's memory between dispatches (which loggers hold a formatter, with which options:
the "formatter cache" `for_each_logger` searches; which sinks already own their override formatter) is modelled as
`BState`, so that "independent of the dispatch history" is a statement about all states. `hoisted = true` is the variant
that creates the override formatters only inside the "no existing formatter found, create one" block and tests the
formatter pointer on the write path: its outcome depends on which logger was dispatched first.
-/
namespace Pattern

/-- `PatternFormatterOptions` as far as `operator==` can tell two of them apart in the cases considered (timestamp
    pattern and time zone are the same everywhere): format pattern and `add_metadata_to_multi_line_logs` -/
structure FmtOpts where
  pattern : Str
  ml : Bool
  deriving DecidableEq, Repr

structure SinkCfg where
  override : Option FmtOpts          -- `Sink::_override_pattern_formatter_options`
  deriving DecidableEq, Repr

structure LoggerCfg where
  opts : FmtOpts                     -- `LoggerBase::pattern_formatter_options`
  sinks : List Nat                   -- `LoggerBase::sinks`, as indices into the sink table
  deriving DecidableEq, Repr

structure Config where
  loggers : List LoggerCfg
  sinks : List SinkCfg
  deriving DecidableEq, Repr

/-- the rule: the sink's override if it has one, else its logger's pattern -/
def patternFor (sink : SinkCfg) (logger : LoggerCfg) : Str := (sink.override.getD logger.opts).pattern

/-- what the backend remembers between dispatches -/
structure BState where
  loggerFmt : List (Nat × FmtOpts)   -- loggers that hold a formatter, with its options (what `for_each_logger` finds)
  sinkFmt : List Nat                 -- sinks whose `_override_pattern_formatter` exists
  deriving DecidableEq, Repr

def BState.init : BState := { loggerFmt := [], sinkFmt := [] }

def hasOverride (cfg : Config) (k : Nat) : Bool := ((cfg.sinks[k]?).bind (·.override)).isSome

/-- first part of `_dispatch_transit_event_to_sinks`: `if (!logger->pattern_formatter) { search; if (!found) create }` -/
def ensureLogger (hoisted : Bool) (cfg : Config) (st : BState) (l : Nat) (lg : LoggerCfg) : BState :=
  if st.loggerFmt.any (·.1 == l) then st
  else if st.loggerFmt.any (·.2 == lg.opts) then
    { st with loggerFmt := (l, lg.opts) :: st.loggerFmt }                           -- shares an existing formatter
  else
    { loggerFmt := (l, lg.opts) :: st.loggerFmt                                      -- creates one …
      sinkFmt := (if hoisted then lg.sinks.filter (fun k => hasOverride cfg k && !st.sinkFmt.contains k) else [])
                   ++ st.sinkFmt }                                                   -- … (variant: and the overrides)

/-- `_write_log_statement`: the pattern each sink of the logger is served with -/
def sinkPatterns (hoisted : Bool) (cfg : Config) (st : BState) (lg : LoggerCfg) : List (Nat × Str) :=
  lg.sinks.filterMap fun k => (cfg.sinks[k]?).map fun sk =>
    (k, if hoisted then (if st.sinkFmt.contains k then patternFor sk lg else lg.opts.pattern)   -- `if (sink->_override_pattern_formatter)`
        else patternFor sk lg)                                  -- `if (sink->_override_pattern_formatter_options) { create if missing; use }`

/-- … and the override formatters that exist afterwards (pinned code: created on first use) -/
def afterWrite (hoisted : Bool) (cfg : Config) (st : BState) (lg : LoggerCfg) : BState :=
  if hoisted then st
  else { st with sinkFmt := lg.sinks.filter (fun k => hasOverride cfg k && !st.sinkFmt.contains k) ++ st.sinkFmt }

/-- one statement of logger `l` dispatched: new backend state, (sink, pattern) for each of the logger's sinks -/
def dispatch1 (hoisted : Bool) (cfg : Config) (st : BState) (l : Nat) : BState × List (Nat × Str) :=
  match cfg.loggers[l]? with
  | none => (st, [])
  | some lg =>
    let st1 := ensureLogger hoisted cfg st l lg
    (afterWrite hoisted cfg st1 lg, sinkPatterns hoisted cfg st1 lg)

/-- a history of dispatches (logger indices, in backend order) -/
def runHistory (hoisted : Bool) (cfg : Config) : BState → List Nat → List (List (Nat × Str))
  | _, [] => []
  | st, l :: ls => (dispatch1 hoisted cfg st l).2 :: runHistory hoisted cfg (dispatch1 hoisted cfg st l).1 ls

/-- the rule, per logger: what `patternFor` says for each of its sinks -/
def ruleFor (cfg : Config) (l : Nat) : List (Nat × Str) :=
  match cfg.loggers[l]? with
  | none => []
  | some lg => lg.sinks.filterMap fun k => (cfg.sinks[k]?).map fun sk => (k, patternFor sk lg)

/-- the statements each sink of logger `l` receives for one log call (message `msg`): the logger's multi-line flag
    decides the split, every piece is formatted with the sink's pattern -/
def callLines (hoisted : Bool) (cfg : Config) (st : BState) (l : Nat) (stmt : Stmt) (mv : MetaView) (msg : Str) :
    List (Nat × List Result) :=
  match cfg.loggers[l]? with
  | none => []
  | some lg => (dispatch1 hoisted cfg st l).2.map fun kp => (kp.1, statements kp.2 stmt mv lg.opts.ml msg)

theorem dispatch1_pinned (cfg : Config) (st : BState) (l : Nat) : (dispatch1 false cfg st l).2 = ruleFor cfg l := by
  unfold dispatch1 ruleFor
  cases cfg.loggers[l]? with
  | none => rfl
  | some lg => simp [sinkPatterns]

theorem runHistory_pinned (cfg : Config) : ∀ (ls : List Nat) (st : BState),
    runHistory false cfg st ls = ls.map (ruleFor cfg) := by
  intro ls
  induction ls with
  | nil => intro _; rfl
  | cons l ls ih => intro st; simp only [runHistory, List.map_cons, dispatch1_pinned, ih]

end Pattern
