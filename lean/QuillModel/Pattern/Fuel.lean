import QuillModel.Pattern.Scan
/-! The fuel of `generate` is never exhausted: every iteration removes one `)` from the pattern. -/
namespace Pattern

theorem fieldParts_value_count (body : Str) (h : ')' ∉ body) : (fieldParts body).2.count ')' = 0 := by
  unfold fieldParts
  cases hs : splitAtChar ':' body with
  | none => rfl
  | some pr =>
    obtain ⟨n, spec⟩ := pr
    obtain ⟨e, _⟩ := splitAtChar_some hs
    have hspec : ')' ∉ spec := by
      intro hm; apply h; rw [e]; simp [hm]
    apply List.count_eq_zero.2
    simp only [List.mem_cons, List.mem_append, not_or]
    exact ⟨by decide, by decide, hspec, by decide⟩

theorem generate_never_fuel : ∀ (fuel : Nat) (pat : Str) (o : List Nat) (s : List Bool) (k nf : Nat),
    pat.count ')' < fuel → generate fuel pat o s k nf ≠ .error .fuel := by
  intro fuel
  induction fuel with
  | zero => intro pat o s k nf h; omega
  | succ fuel ih =>
    intro pat o s k nf h
    simp only [generate]
    cases hf : findField pat with
    | none => simp
    | some pr =>
      obtain ⟨pre, rest⟩ := pr
      simp only
      cases hs : splitAtChar ')' rest with
      | none => simp
      | some pr2 =>
        obtain ⟨body, post⟩ := pr2
        simp only
        cases ha : attrOfName (fieldParts body).1 with
        | none => simp
        | some a =>
          simp only
          apply ih
          have e1 := findField_some hf
          obtain ⟨e2, hb⟩ := splitAtChar_some hs
          have hv := fieldParts_value_count body hb
          -- `pat = pre ++ "%(" ++ body ++ ")" ++ post`: the `)` shown is the one this iteration removes
          rw [e1, e2, List.count_append, List.count_cons_of_ne (by decide), List.count_cons_of_ne (by decide),
            List.count_append, List.count_cons_self, List.count_eq_zero.2 hb] at h
          rw [List.count_append, List.count_append, hv]
          omega

/-- the constructor model fails only as the C++ constructor does: unterminated `%(`, unknown attribute name —
    or it reports the undefined-behaviour case of more than sixteen fields -/
theorem construct_error_kinds (pattern : Str) (e : CtorErr) (h : construct pattern = .error e) :
    e = .unterminated ∨ (∃ n, e = .unknownAttr n) ∨ e = .tooManyFields := by
  unfold construct at h
  have hfuel : (pattern ++ ['\n']).count ')' < pattern.length + 1 := by
    rw [List.count_append, List.count_cons_of_ne (by decide), List.count_nil]
    exact Nat.lt_succ_of_le List.count_le_length
  have hnf := generate_never_fuel (pattern.length + 1) (pattern ++ ['\n']) (List.replicate nrItems (nrItems - 1))
    (List.replicate nrItems false) 0 0 hfuel
  cases hg : generate (pattern.length + 1) (pattern ++ ['\n']) (List.replicate nrItems (nrItems - 1))
      (List.replicate nrItems false) 0 0 with
  | error e' =>
    rw [hg] at h hnf
    simp only [Except.error.injEq] at h
    subst h
    cases e' with
    | unterminated => left; rfl
    | unknownAttr n => right; left; exact ⟨n, rfl⟩
    | tooManyFields => right; right; rfl
    | fuel => exact absurd rfl hnf
  | ok g =>
    rw [hg] at h
    simp only at h
    split at h
    · simp only [Except.error.injEq] at h; right; right; exact h.symm
    · simp at h

end Pattern
