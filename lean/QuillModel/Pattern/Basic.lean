import QuillModel.Pattern.Model
import QuillModel.Util.ListLemmas
/-! `splitAtChar` is a split at the first occurrence (`List.idxOf?`). -/
namespace Pattern

theorem splitAtChar_eq (x : Char) : ∀ (s : Str), splitAtChar x s = (s.idxOf? x).map fun k => (s.take k, s.drop (k + 1))
  | [] => rfl
  | c :: rest => by
    rw [splitAtChar, List.idxOf?_cons, splitAtChar_eq x rest]
    by_cases h : c = x
    · rw [if_pos h, if_pos (beq_iff_eq.mpr h)]; rfl
    · rw [if_neg h, if_neg (fun e => h (beq_iff_eq.mp e)), Option.map_map, Option.map_map]; rfl

theorem splitAtChar_none {x : Char} {s : Str} : splitAtChar x s = none ↔ x ∉ s := by
  rw [splitAtChar_eq, Option.map_eq_none_iff, List.idxOf?_eq_none_iff]

theorem splitAtChar_some {x : Char} {s l r : Str} (h : splitAtChar x s = some (l, r)) : s = l ++ x :: r ∧ x ∉ l := by
  rw [splitAtChar_eq, Option.map_eq_some_iff] at h
  obtain ⟨k, hk, e⟩ := h
  obtain ⟨rfl, rfl⟩ := Prod.mk.inj e
  exact List.idxOf?_split hk

theorem splitAtChar_append {x : Char} (l r : Str) (h : x ∉ l) : splitAtChar x (l ++ x :: r) = some (l, r) := by
  rw [splitAtChar_eq, List.idxOf?_append_cons_self l r h, Option.map_some, List.take_left' rfl, ← List.drop_drop,
    List.drop_left' rfl]
  rfl

end Pattern
