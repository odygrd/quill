import QuillModel.Pattern.Stage2
/-! Slot bookkeeping: `_order_index`, `_is_set_in_pattern`, and the `_set_arg_val` writes of `format()`. -/
namespace Pattern

def writeStep {α β : Type} (f : β → Option (Nat × α)) (l : List α) (b : β) : List α :=
  match f b with
  | some (k, v) => l.set k v
  | none => l

theorem writeStep_length {α β : Type} (f : β → Option (Nat × α)) (l : List α) (b : β) :
    (writeStep f l b).length = l.length := by
  unfold writeStep; split <;> simp

theorem foldl_write_length {α β : Type} (f : β → Option (Nat × α)) : ∀ (bs : List β) (l : List α),
    (bs.foldl (writeStep f) l).length = l.length := by
  intro bs
  induction bs with
  | nil => intro l; rfl
  | cons b bs ih => intro l; simp only [List.foldl_cons, ih, writeStep_length]

theorem foldl_write_untouched {α β : Type} (f : β → Option (Nat × α)) (j : Nat) : ∀ (bs : List β) (l : List α),
    (∀ b ∈ bs, ∀ k w, f b = some (k, w) → k ≠ j) → (bs.foldl (writeStep f) l)[j]? = l[j]? := by
  intro bs
  induction bs with
  | nil => intro l _; rfl
  | cons b bs ih =>
    intro l h
    simp only [List.foldl_cons]
    rw [ih _ (fun b' hb' => h b' (List.mem_cons_of_mem _ hb'))]
    unfold writeStep
    split
    · rename_i k w hf
      exact List.getElem?_set_ne (h b (by simp) k w hf)
    · rfl

theorem foldl_write_congr {α β : Type} (f : β → Option (Nat × α)) : ∀ (bs : List β) (l l' : List α),
    l.length = l'.length → (∀ j, (∀ b ∈ bs, ∀ w, f b ≠ some (j, w)) → l[j]? = l'[j]?) →
    bs.foldl (writeStep f) l = bs.foldl (writeStep f) l' := by
  intro bs
  induction bs with
  | nil =>
    intro l l' _ h
    exact List.ext_getElem? (fun j => h j (fun b hb => absurd hb (by simp)))
  | cons b bs ih =>
    intro l l' hlen h
    rw [List.foldl_cons, List.foldl_cons]
    apply ih
    · rw [writeStep_length, writeStep_length, hlen]
    · intro j hj
      unfold writeStep
      split
      · rename_i k w hf
        rw [List.getElem?_set, List.getElem?_set, hlen]
        split
        · rfl
        · rename_i hk
          apply h j
          intro b' hb' w' hf'
          rcases List.mem_cons.mp hb' with rfl | hb''
          · rw [hf] at hf'
            simp only [Option.some.injEq, Prod.mk.injEq] at hf'
            exact hk hf'.1
          · exact hj b' hb'' w' hf'
      · rename_i hf
        apply h j
        intro b' hb' w' hf'
        rcases List.mem_cons.mp hb' with rfl | hb''
        · rw [hf] at hf'; exact absurd hf' (by simp)
        · exact hj b' hb'' w' hf'

/-- the first half (a slot that holds `v` keeps it) carries the induction; the second is the one used -/
theorem foldl_write_get {α β : Type} (f : β → Option (Nat × α)) (j : Nat) (v : α) : ∀ (bs : List β) (l : List α),
    (∀ b ∈ bs, ∀ w, f b = some (j, w) → w = v) →
    (l[j]? = some v → (bs.foldl (writeStep f) l)[j]? = some v) ∧
    (j < l.length → (∃ b ∈ bs, ∃ w, f b = some (j, w)) → (bs.foldl (writeStep f) l)[j]? = some v) := by
  intro bs
  induction bs with
  | nil =>
    intro l _
    exact ⟨fun h => h, fun _ ⟨b, hb, _⟩ => absurd hb (by simp)⟩
  | cons b bs ih =>
    intro l hall
    have hall' : ∀ b' ∈ bs, ∀ w, f b' = some (j, w) → w = v := fun b' hb' => hall b' (List.mem_cons_of_mem _ hb')
    have keep : l[j]? = some v → (writeStep f l b)[j]? = some v := by
      intro hl
      unfold writeStep
      split
      · rename_i k w hf
        rw [List.getElem?_set]
        split
        · rename_i hk
          subst hk
          have hw := hall b (by simp) w hf
          have hlt : k < l.length := (List.getElem?_eq_some_iff.mp hl).1
          simp [hlt, hw]
        · exact hl
      · exact hl
    constructor
    · intro hl
      simp only [List.foldl_cons]
      exact (ih _ hall').1 (keep hl)
    · intro hlt ⟨b', hb', w, hf⟩
      simp only [List.foldl_cons]
      rcases List.mem_cons.mp hb' with rfl | hb'
      · apply (ih _ hall').1
        have hw := hall b' (by simp) w hf
        unfold writeStep
        rw [hf]
        simp [hlt, hw]
      · exact (ih _ hall').2 (by rw [writeStep_length]; exact hlt) ⟨b', hb', w, hf⟩

theorem assign_length : ∀ (as : List Attr) (k : Nat) (o : List Nat), (assign as k o).length = o.length := by
  intro as
  induction as with
  | nil => intros; rfl
  | cons a as ih => intro k o; simp [assign, ih]

/-- `_is_set_in_pattern` is filled by writes of the same kind as `format()`'s -/
theorem mark_eq : ∀ (as : List Attr) (s : List Bool), mark as s = as.foldl (writeStep fun a => some (a.idx, true)) s
  | [], _ => rfl
  | _ :: as, _ => mark_eq as _

theorem mark_length : ∀ (as : List Attr) (s : List Bool), (mark as s).length = s.length := by
  intro as s
  rw [mark_eq, foldl_write_length]

theorem assign_get_not_mem : ∀ (as : List Attr) (k : Nat) (o : List Nat) (b : Attr), b ∉ as →
    (assign as k o)[b.idx]? = o[b.idx]? := by
  intro as
  induction as with
  | nil => intros; rfl
  | cons a as ih =>
    intro k o b hb
    simp only [List.mem_cons, not_or] at hb
    have hne : a.idx ≠ b.idx := fun e => hb.1 (idx_inj e).symm
    simp only [assign, ih _ _ b hb.2, List.getElem?_set_ne hne]

theorem mark_get_not_mem (as : List Attr) (s : List Bool) (b : Attr) (hb : b ∉ as) : (mark as s)[b.idx]? = s[b.idx]? := by
  rw [mark_eq]
  refine foldl_write_untouched _ b.idx as s fun a ha k w hf e => hb ?_
  obtain ⟨rfl, _⟩ := Prod.mk.inj (Option.some.inj hf)
  exact idx_inj e ▸ ha

theorem mark_get_mem (as : List Attr) (s : List Bool) (b : Attr) (hlen : s.length = 16) (hb : b ∈ as) :
    (mark as s)[b.idx]? = some true := by
  rw [mark_eq]
  exact (foldl_write_get _ b.idx true as s fun _ _ w hf => (Prod.mk.inj (Option.some.inj hf)).2.symm).2
    (hlen ▸ idx_lt b) ⟨b, hb, true, rfl⟩

end Pattern
