import QuillModel.Pattern.Stage1
/-! Stage 2: fmt's `vformat_to` on the rewritten string `fmtOf p` with automatic argument indexing. -/
namespace Pattern

theorem emap_nil (x : Except FErr Str) : x.map (fun y => ([] : Str) ++ y) = x := by cases x <;> rfl

theorem emap_map (x : Except FErr Str) (f g : Str → Str) : (x.map f).map g = x.map (fun y => g (f y)) := by
  cases x <;> rfl

theorem vfmt_lit (args : List (Option Str)) : ∀ (l t : Str) (ix : ArgIdx), '{' ∉ l → '}' ∉ l →
    vfmt args (l ++ t) ix .text = (vfmt args t ix .text).map (l ++ ·) := by
  intro l
  induction l with
  | nil => intro t ix _ _; simp only [List.nil_append]; exact (emap_nil _).symm
  | cons c l ih =>
    intro t ix h1 h2
    simp only [List.mem_cons, not_or] at h1 h2
    have hc1 : ¬ c = '{' := fun e => h1.1 e.symm
    have hc2 : ¬ c = '}' := fun e => h2.1 e.symm
    simp only [List.cons_append, vfmt, hc1, hc2, if_false, ih t ix h1.2 h2.2, emap_map]

theorem vfmt_field_acc (args : List (Option Str)) : ∀ (s acc t : Str) (ix : ArgIdx), '}' ∉ s →
    vfmt args (s ++ '}' :: t) ix (.field acc) =
      (match interpField args ix (acc.reverse ++ s) with
       | .ok (v, ix') => (vfmt args t ix' .text).map (v ++ ·)
       | .error e => .error e) := by
  intro s
  induction s with
  | nil => intro acc t ix _; simp only [List.nil_append, vfmt, if_true, List.append_nil]; rfl
  | cons c s ih =>
    intro acc t ix h
    simp only [List.mem_cons, not_or] at h
    have hc : ¬ c = '}' := fun e => h.1 e.symm
    simp only [List.cons_append, vfmt, hc, if_false, ih (c :: acc) t ix h.2]
    simp

theorem vfmt_open_spec (args : List (Option Str)) (s : Str) (ix : ArgIdx) :
    vfmt args ('{' :: ':' :: s) ix .text = vfmt args s ix (.field [':']) := by
  simp [vfmt]

/-- the text the fields of `p` render to from the automatic arguments `n, n+1, …`; `none` at the first empty one -/
def slots (args : List (Option Str)) : List Item → Nat → Option Str
  | [], _ => some []
  | .lit s :: p, n => (slots args p n).map (s ++ ·)
  | .field a spec :: p, n =>
    match getArg args n with
    | none => none
    | some v => (slots args p (n + 1)).map (render (fun _ => v) (.field a spec) ++ ·)

/-- the outcome of formatting the rest `t` after text `o`, or after an empty slot (an empty `basic_format_arg`: fmt
    throws) -/
def after (args : List (Option Str)) (t : Str) (ix : ArgIdx) : Option Str → Except FErr Str
  | none => .error .format
  | some o => (vfmt args t ix .text).map (o ++ ·)

theorem after_map (args : List (Option Str)) (t : Str) (ix : ArgIdx) (l : Str) (o : Option Str) :
    (after args t ix o).map (l ++ ·) = after args t ix (o.map (l ++ ·)) := by
  cases o with
  | none => rfl
  | some o => simp only [after, Option.map_some, emap_map, List.append_assoc]

theorem vfmt_slot (args : List (Option Str)) (a : Attr) (spec : Option Spec) (t : Str) (n : Nat)
    (hwf : (Item.field a spec).wf = true) :
    vfmt args ((Item.field a spec).fmtText ++ t) (.auto n) .text =
      after args t (.auto (n + 1)) ((getArg args n).map fun v => render (fun _ => v) (.field a spec)) := by
  cases spec with
  | none => cases hv : getArg args n <;> simp [Item.fmtText, render, vfmt, interpField, hv, renderArg, Except.map, after]
  | some sp =>
    have hsp : sp.valid = true := hwf
    rw [show (Item.field a (some sp)).fmtText ++ t = '{' :: ':' :: (sp.print ++ '}' :: t) by simp [Item.fmtText],
      vfmt_open_spec, vfmt_field_acc args _ _ _ _ (spec_print_not_mem sp hsp).2]
    cases hv : getArg args n <;>
      simp [interpField, hv, renderArg, parseSpec_print sp hsp, Except.map, render, after]

/-- for any argument table: the automatic arguments are read in order, and `slots` decides the outcome -/
theorem vfmt_walk (args : List (Option Str)) : ∀ (p : List Item) (n : Nat) (t : Str),
    (∀ it ∈ p, it.wf = true) → NoBrace p →
    vfmt args (fmtOf p ++ t) (.auto n) .text = after args t (.auto (n + (attrsOf p).length)) (slots args p n)
  | [], n, t, _, _ => (emap_nil _).symm
  | .lit s :: p, n, t, hwf, hnb => by
    have hb := hnb (.lit s) (by simp)
    simp only [Item.noBrace, Bool.and_eq_true, Bool.not_eq_true', List.contains_eq_mem, decide_eq_false_iff_not] at hb
    rw [fmtOf, List.flatMap_cons, List.append_assoc]
    exact (vfmt_lit args s _ _ hb.1 hb.2).trans ((congrArg _ (vfmt_walk args p n t
      (fun x hx => hwf x (List.mem_cons_of_mem _ hx)) (fun x hx => hnb x (List.mem_cons_of_mem _ hx)))).trans
      (after_map ..))
  | .field a spec :: p, n, t, hwf, hnb => by
    rw [fmtOf, List.flatMap_cons, List.append_assoc, vfmt_slot args a spec _ n (hwf _ (by simp)), slots, attrsOf,
      List.length_cons, ← Nat.add_assoc, Nat.add_right_comm]
    cases getArg args n with
    | none => rfl
    | some v =>
      exact (congrArg _ (vfmt_walk args p (n + 1) t (fun x hx => hwf x (List.mem_cons_of_mem _ hx))
        (fun x hx => hnb x (List.mem_cons_of_mem _ hx)))).trans (after_map ..)

theorem slots_filled (args : List (Option Str)) (vals : Attr → Str) : ∀ (p : List Item) (n : Nat),
    (∀ j a, (attrsOf p)[j]? = some a → getArg args (n + j) = some (vals a)) →
    slots args p n = some (p.flatMap (render vals))
  | [], _, _ => rfl
  | .lit s :: p, n, h => by rw [slots, slots_filled args vals p n h]; rfl
  | .field a spec :: p, n, h => by
    rw [slots, show getArg args n = some (vals a) from h 0 a rfl,
      slots_filled args vals p (n + 1) (fun j b hj => by rw [Nat.add_right_comm]; exact h (j + 1) b hj)]
    cases spec <;> rfl

theorem vfmt_items (args : List (Option Str)) (vals : Attr → Str) (p : List Item) (n : Nat) (t : Str)
    (hwf : ∀ it ∈ p, it.wf = true) (hnb : NoBrace p)
    (hargs : ∀ j a, (attrsOf p)[j]? = some a → getArg args (n + j) = some (vals a)) :
    vfmt args (fmtOf p ++ t) (.auto n) .text =
      (vfmt args t (.auto (n + (attrsOf p).length)) .text).map (p.flatMap (render vals) ++ ·) := by
  rw [vfmt_walk args p n t hwf hnb, slots_filled args vals p n hargs]
  rfl

theorem slots_missing (args : List (Option Str)) : ∀ (p : List Item) (n i : Nat), i < (attrsOf p).length →
    getArg args (n + i) = none → slots args p n = none
  | .lit s :: p, n, i, hi, h => by rw [slots, slots_missing args p n i hi h]; rfl
  | .field a spec :: p, n, 0, _, h => by rw [slots, show getArg args n = none from h]
  | .field a spec :: p, n, i + 1, hi, h => by
    rw [slots, slots_missing args p (n + 1) i (Nat.lt_of_succ_lt_succ hi) (by rw [Nat.add_right_comm]; exact h)]
    cases getArg args n <;> rfl

end Pattern
