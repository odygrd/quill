import QuillModel.Pattern.Basic
import QuillModel.NamedArgs.Split
/-! `MacroMetadata` views of `"path:line"` and the runtime-metadata split. -/
namespace Pattern

theorem rfindColon_go_append (a b : Str) : ∀ (i : Nat) (last : Option Nat),
    rfindColon.go (a ++ b) i last = rfindColon.go b (i + a.length) (rfindColon.go a i last) := by
  induction a with
  | nil => intro i last; simp [rfindColon.go]
  | cons c a ih =>
    intro i last
    simp only [List.cons_append, rfindColon.go, ih, List.length_cons]
    congr 1; omega

theorem rfindColon_go_of_not_mem : ∀ (s : Str) (i : Nat) (last : Option Nat), ':' ∉ s → rfindColon.go s i last = last := by
  intro s
  induction s with
  | nil => intros; rfl
  | cons c s ih =>
    intro i last h
    simp only [List.mem_cons, not_or] at h
    have hc : ¬ c = ':' := fun e => h.1 e.symm
    simp [rfindColon.go, hc, ih _ _ h.2]

theorem rfindColon_eq (p line : Str) (h : ':' ∉ line) : rfindColon (p ++ ':' :: line) = some p.length := by
  unfold rfindColon
  rw [rfindColon_go_append]
  simp [rfindColon.go, rfindColon_go_of_not_mem _ _ _ h]

theorem fileNamePos_go_append (a b : Str) : ∀ (i f : Nat),
    fileNamePos.go (a ++ b) i f = fileNamePos.go b (i + a.length) (fileNamePos.go a i f) := by
  induction a with
  | nil => intro i f; simp [fileNamePos.go]
  | cons c a ih =>
    intro i f
    simp only [List.cons_append, fileNamePos.go, ih, List.length_cons]
    congr 1; omega

theorem fileNamePos_go_of_not_mem : ∀ (s : Str) (i f : Nat), '/' ∉ s → fileNamePos.go s i f = f := by
  intro s
  induction s with
  | nil => intros; rfl
  | cons c s ih =>
    intro i f h
    simp only [List.mem_cons, not_or] at h
    have hc : ¬ c = '/' := fun e => h.1 e.symm
    simp [fileNamePos.go, hc, ih _ _ h.2]

theorem fileNamePos_eq (dir rest : Str) (hd : dir = [] ∨ dir.getLast? = some '/') (hr : '/' ∉ rest) :
    fileNamePos (dir ++ rest) = dir.length := by
  unfold fileNamePos
  rw [fileNamePos_go_append, fileNamePos_go_of_not_mem _ _ _ hr]
  rcases hd with rfl | hd
  · rfl
  · obtain ⟨d', rfl⟩ : ∃ d', dir = d' ++ ['/'] := by
      have hne : dir ≠ [] := by intro e; simp [e] at hd
      refine ⟨dir.dropLast, ?_⟩
      have := List.dropLast_concat_getLast hne
      rw [List.getLast?_eq_some_getLast hne] at hd
      simp only [Option.some.injEq] at hd
      rw [hd] at this; exact this.symm
    rw [fileNamePos_go_append]
    simp [fileNamePos.go]

/-- the separator has no border, so an occurrence that starts inside `c :: m` in `c :: m ++ sep ++ r` lies inside `c :: m`
    (`Named.prefix_inside`, the fact behind C19's split loop, for the same `QUILL_MAGIC_SEPARATOR`) -/
theorem magicSep_not_prefix (c : Char) (m r : Str) (h : ¬ magicSep <:+: (c :: m)) :
    magicSep.isPrefixOf (c :: (m ++ (magicSep ++ r))) = false :=
  Bool.eq_false_iff.mpr fun hb =>
    h (Named.prefix_inside (w := c :: m) (by decide) (List.cons_ne_nil _ _) (List.isPrefixOf_iff_prefix.mp hb)).isInfix

theorem splitSep_magic : ∀ (m r : Str), ¬ magicSep <:+: m → splitSep magicSep (m ++ (magicSep ++ r)) = some (m, r) := by
  intro m
  induction m with
  | nil => intro r _; simp [splitSep, magicSep]
  | cons c m ih =>
    intro r h
    have h' : ¬ magicSep <:+: m := fun hi => h (hi.trans (List.infix_cons_iff.mpr (Or.inr (List.infix_refl _))))
    simp only [List.cons_append, splitSep, magicSep_not_prefix c m r h, Bool.false_eq_true, if_false, ih r h']
    rfl

end Pattern
