import QuillModel.Pattern.SpecLemmas
/-! Texts without `%(` (`Clean`) under the scanner of `_generate_fmt_format_string`; facts about the attribute tables. -/
namespace Pattern

def Clean (s : Str) : Prop := findField s = none

instance (s : Str) : Decidable (Clean s) := by unfold Clean; infer_instance

theorem clean_nil : Clean [] := rfl

theorem clean_cons {c : Char} {s : Str} :
    Clean (c :: s) ↔ ¬ (c = '%' ∧ s.head? = some '(') ∧ Clean s := by
  unfold Clean
  simp only [findField]
  by_cases h : c = '%' ∧ s.head? = some '('
  · simp [h]
  · simp [h]

theorem clean_cons_of_tail_no_paren : ∀ {s : Str} {c : Char}, '(' ∉ s → Clean (c :: s)
  | [], _, _ => clean_cons.mpr ⟨fun h => (nomatch h.2), rfl⟩
  | d :: s, _, h =>
    clean_cons.mpr ⟨fun hh => h (by rw [Option.some.inj hh.2]; exact List.mem_cons_self ..),
      clean_cons_of_tail_no_paren fun hm => h (List.mem_cons_of_mem _ hm)⟩

theorem clean_of_no_paren : ∀ {s : Str}, '(' ∉ s → Clean s
  | [], _ => rfl
  | _ :: _, h => clean_cons_of_tail_no_paren fun hm => h (List.mem_cons_of_mem _ hm)

theorem clean_cons_of_ne {c : Char} {s : Str} (hc : c ≠ '%') (h : Clean s) : Clean (c :: s) := by
  rw [clean_cons]; exact ⟨fun hh => hc hh.1, h⟩

theorem findField_some : ∀ {s pre rest : Str}, findField s = some (pre, rest) → s = pre ++ '%' :: '(' :: rest := by
  intro s
  induction s with
  | nil => intro pre rest h; simp [findField] at h
  | cons c s ih =>
    intro pre rest h
    simp only [findField] at h
    by_cases hc : c = '%' ∧ s.head? = some '('
    · simp only [hc, and_self, if_true, Option.some.injEq, Prod.mk.injEq] at h
      obtain ⟨rfl, rfl⟩ := h
      cases s with
      | nil => simp at hc
      | cons d s => simp at hc; simp [hc.1, hc.2]
    · simp only [hc, if_false, Option.map_eq_some_iff] at h
      obtain ⟨⟨p', r'⟩, h1, h2⟩ := h
      simp only [Prod.mk.injEq] at h2
      obtain ⟨rfl, rfl⟩ := h2
      simp [ih h1]

theorem findField_append_field : ∀ {a : Str} (r : Str), Clean a → findField (a ++ '%' :: '(' :: r) = some (a, r) := by
  intro a
  induction a with
  | nil => intro r _; simp [findField]
  | cons c a ih =>
    intro r h
    rw [clean_cons] at h
    have hcond : ¬ (c = '%' ∧ (a ++ '%' :: '(' :: r).head? = some '(') := by
      rintro ⟨hc, hh⟩
      cases a with
      | nil => simp at hh
      | cons d a => exact h.1 ⟨hc, by simpa using hh⟩
    simp only [List.cons_append, findField, hcond, if_false, ih r h.2]
    rfl

theorem clean_append : ∀ {a b : Str}, Clean a → Clean b → (a.getLast? ≠ some '%' ∨ b.head? ≠ some '(') → Clean (a ++ b) := by
  intro a
  induction a with
  | nil => intro b _ hb _; simpa using hb
  | cons c a ih =>
    intro b ha hb hj
    rw [clean_cons] at ha
    rw [List.cons_append, clean_cons]
    constructor
    · rintro ⟨hc, hh⟩
      cases a with
      | nil =>
        simp only [List.nil_append] at hh
        rcases hj with hj | hj
        · simp [hc] at hj
        · exact hj hh
      | cons d a => exact ha.1 ⟨hc, by simpa using hh⟩
    · apply ih ha.2 hb
      cases a with
      | nil => left; simp
      | cons d a =>
        rcases hj with hj | hj
        · left; simpa [List.getLast?_cons_cons] using hj
        · right; exact hj

theorem all_idx (a : Attr) : Attr.all[a.idx]? = some a := by cases a <;> rfl

theorem mem_all (a : Attr) : a ∈ Attr.all := List.mem_of_getElem? (all_idx a)

theorem idx_lt (a : Attr) : a.idx < 16 := (List.getElem?_eq_some_iff.mp (all_idx a)).1

theorem idx_inj {a b : Attr} (h : a.idx = b.idx) : a = b :=
  Option.some.inj (by rw [← all_idx a, h, all_idx b])

/-- `Attr.name` with the characters written out: the kernel decodes a string literal in time quadratic in its length,
    and every evaluation of `attrOfName` decodes the whole table -/
def Attr.chars : Attr → Str
  | .time => ['t', 'i', 'm', 'e']
  | .fileName => ['f', 'i', 'l', 'e', '_', 'n', 'a', 'm', 'e']
  | .callerFunction => ['c', 'a', 'l', 'l', 'e', 'r', '_', 'f', 'u', 'n', 'c', 't', 'i', 'o', 'n']
  | .logLevel => ['l', 'o', 'g', '_', 'l', 'e', 'v', 'e', 'l']
  | .logLevelShortCode =>
    ['l', 'o', 'g', '_', 'l', 'e', 'v', 'e', 'l', '_', 's', 'h', 'o', 'r', 't', '_', 'c', 'o', 'd', 'e']
  | .lineNumber => ['l', 'i', 'n', 'e', '_', 'n', 'u', 'm', 'b', 'e', 'r']
  | .logger => ['l', 'o', 'g', 'g', 'e', 'r']
  | .fullPath => ['f', 'u', 'l', 'l', '_', 'p', 'a', 't', 'h']
  | .threadId => ['t', 'h', 'r', 'e', 'a', 'd', '_', 'i', 'd']
  | .threadName => ['t', 'h', 'r', 'e', 'a', 'd', '_', 'n', 'a', 'm', 'e']
  | .processId => ['p', 'r', 'o', 'c', 'e', 's', 's', '_', 'i', 'd']
  | .sourceLocation => ['s', 'o', 'u', 'r', 'c', 'e', '_', 'l', 'o', 'c', 'a', 't', 'i', 'o', 'n']
  | .shortSourceLocation =>
    ['s', 'h', 'o', 'r', 't', '_', 's', 'o', 'u', 'r', 'c', 'e', '_', 'l', 'o', 'c', 'a', 't', 'i', 'o', 'n']
  | .message => ['m', 'e', 's', 's', 'a', 'g', 'e']
  | .tags => ['t', 'a', 'g', 's']
  | .namedArgs => ['n', 'a', 'm', 'e', 'd', '_', 'a', 'r', 'g', 's']

/-- each literal is read as `String.ofList` of its characters: no literal is decoded -/
theorem Attr.name_eq_chars (a : Attr) : a.name = a.chars := by
  cases a <;> exact String.toList_ofList

def attrOfChars (n : Str) : Option Attr := Attr.all.find? (fun a => a.chars == n)

theorem attrOfName_chars (n : Str) : attrOfName n = attrOfChars n := by
  simp only [attrOfName, attrOfChars, Attr.name_eq_chars]

/-- the three facts in one sweep over the sixteen names -/
theorem name_facts : ∀ a ∈ Attr.all, attrOfName a.name = some a ∧ ':' ∉ a.name ∧ ')' ∉ a.name := by
  simp only [attrOfName_chars, Attr.name_eq_chars]
  decide +kernel

theorem attrOfName_name (a : Attr) : attrOfName a.name = some a := (name_facts a (mem_all a)).1

theorem name_no_colon (a : Attr) : ':' ∉ a.name := (name_facts a (mem_all a)).2.1

theorem name_no_close (a : Attr) : ')' ∉ a.name := (name_facts a (mem_all a)).2.2

theorem name_inj {a b : Attr} (h : a.name = b.name) : a = b :=
  Option.some.inj (by rw [← attrOfName_name a, h, attrOfName_name b])

end Pattern
