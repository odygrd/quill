import QuillModel.Pattern.Scan
/-! Stage 1 on item lists: `generate` rewrites `printPattern p` into `fmtOf p` and assigns slots in order. -/
namespace Pattern

def Item.fmtText : Item → Str
  | .lit s => s
  | .field _ none => ['{', '}']
  | .field _ (some sp) => '{' :: ':' :: (sp.print ++ ['}'])

/-- the fmt format string the constructor produces (without the final newline) -/
def fmtOf (p : List Item) : Str := p.flatMap Item.fmtText

def fieldBody (a : Attr) : Option Spec → Str
  | none => a.name
  | some sp => a.name ++ ':' :: sp.print

/-- `order_index[id] = arg_idx++` for the fields in order -/
def assign : List Attr → Nat → List Nat → List Nat
  | [], _, o => o
  | a :: as, k, o => assign as (k + 1) (o.set a.idx k)

def mark : List Attr → List Bool → List Bool
  | [], s => s
  | a :: as, s => mark as (s.set a.idx true)

theorem print_field (a : Attr) (spec : Option Spec) :
    (Item.field a spec).print = '%' :: '(' :: (fieldBody a spec ++ [')']) := by
  cases spec <;> simp [Item.print, fieldBody]

theorem spec_print_not_mem (sp : Spec) (hv : sp.valid = true) : ')' ∉ sp.print ∧ '}' ∉ sp.print := by
  have key : ∀ c ∈ sp.print, c ≠ ')' ∧ c ≠ '}' := by
    intro c hc
    rcases Spec.mem_print hc with hf | ⟨a, _, rfl⟩ | hn
    · obtain ⟨_, _, hbrace, hparen, _⟩ := Spec.valid_fill hv hf
      exact ⟨hparen, hbrace⟩
    · exact ⟨align_char_ne a (by decide), align_char_ne a (by decide)⟩
    · exact ⟨numChar_ne hn (by decide), numChar_ne hn (by decide)⟩
  exact ⟨fun h => (key _ h).1 rfl, fun h => (key _ h).2 rfl⟩

theorem body_no_close (a : Attr) (spec : Option Spec) (hv : (Item.field a spec).wf = true) :
    ')' ∉ fieldBody a spec := by
  cases spec with
  | none => exact name_no_close a
  | some sp =>
    simp only [fieldBody, List.mem_append, List.mem_cons, not_or]
    exact ⟨name_no_close a, by decide, (spec_print_not_mem sp hv).1⟩

theorem fieldParts_name {name : Str} (h : ':' ∉ name) : fieldParts name = (name, ['{', '}']) := by
  simp only [fieldParts, splitAtChar_none.mpr h]

theorem fieldParts_spec {name : Str} (spec : Str) (h : ':' ∉ name) :
    fieldParts (name ++ ':' :: spec) = (name, '{' :: ':' :: (spec ++ ['}'])) := by
  simp only [fieldParts, splitAtChar_append _ _ h]

theorem fieldParts_body (a : Attr) (spec : Option Spec) :
    fieldParts (fieldBody a spec) = (a.name, (Item.field a spec).fmtText) := by
  cases spec with
  | none => exact fieldParts_name (name_no_colon a)
  | some sp => exact fieldParts_spec sp.print (name_no_colon a)

/-- one iteration of the `while` loop: the first `%(` stands after a clean prefix, its body runs to the first `)` -/
theorem generate_step (fuel : Nat) (done body post : Str) (order : List Nat) (isSet : List Bool) (k nf : Nat)
    (hd : Clean done) (hb : ')' ∉ body) :
    generate (fuel + 1) (done ++ '%' :: '(' :: (body ++ ')' :: post)) order isSet k nf =
      match attrOfName (fieldParts body).1 with
      | none => .error (.unknownAttr (fieldParts body).1)
      | some a =>
        generate fuel (done ++ ((fieldParts body).2 ++ post)) (order.set a.idx k) (isSet.set a.idx true) ((k + 1) % 256)
          (nf + 1) := by
  simp only [generate, findField_append_field _ hd, splitAtChar_append _ _ hb]
  rfl

theorem clean_fmtText_field (a : Attr) (spec : Option Spec) (hv : (Item.field a spec).wf = true) :
    Clean (Item.field a spec).fmtText := by
  cases spec with
  | none => show findField ['{', '}'] = none; decide
  | some sp =>
    simp only [Item.fmtText]
    apply clean_cons_of_ne (by decide)
    apply clean_cons_of_ne (by decide)
    -- after a fill character, if any, come the alignment sign, digits, a dot and the closing brace: no `'('`
    have hsplit : sp.print = (match sp.fill with | some c => [c] | none => []) ++ { sp with fill := none }.print := by
      simp only [Spec.print, List.append_assoc, List.nil_append]
      rfl
    have hrest : '(' ∉ { sp with fill := none }.print ++ ['}'] := by
      intro h
      rcases List.mem_append.mp h with h | h
      · rcases Spec.mem_print h with hf | ⟨a, _, ha⟩ | hn
        · cases hf
        · exact align_char_ne a (by decide) ha.symm
        · exact numChar_ne hn (by decide) rfl
      · cases List.mem_singleton.mp h
    rw [hsplit, List.append_assoc]
    cases sp.fill with
    | some f => exact clean_cons_of_tail_no_paren hrest
    | none => exact clean_of_no_paren hrest

theorem fmtText_field_head (a : Attr) (spec : Option Spec) : (Item.field a spec).fmtText.head? = some '{' := by
  cases spec <;> rfl

theorem fmtText_field_last (a : Attr) (spec : Option Spec) : (Item.field a spec).fmtText.getLast? = some '}' := by
  cases spec with
  | none => rfl
  | some sp =>
    simp only [Item.fmtText]
    rw [show '{' :: ':' :: (sp.print ++ ['}']) = ('{' :: ':' :: sp.print) ++ ['}'] by simp, List.getLast?_append]
    simp

theorem generate_field (fuel : Nat) (done rest : Str) (a : Attr) (spec : Option Spec) (order : List Nat)
    (isSet : List Bool) (k nf : Nat) (hd : Clean done) (hv : (Item.field a spec).wf = true) :
    generate (fuel + 1) (done ++ ((Item.field a spec).print ++ rest)) order isSet k nf =
      generate fuel ((done ++ (Item.field a spec).fmtText) ++ rest) (order.set a.idx k) (isSet.set a.idx true)
        ((k + 1) % 256) (nf + 1) := by
  rw [print_field, List.cons_append, List.cons_append, List.append_assoc, List.singleton_append,
    generate_step fuel done _ rest order isSet k nf hd (body_no_close a spec hv), fieldParts_body, attrOfName_name,
    List.append_assoc]

/-- no `%(` arises across the seam: `done` does not end in `%`, or no literal (which may start with `(`) follows -/
def junction (done : Str) (p : List Item) : Prop :=
  done.getLast? ≠ some '%' ∨ (match p with | .lit _ :: _ => False | _ => True)

theorem noAdjLits_tail {it : Item} {p : List Item} (h : noAdjLits (it :: p) = true) : noAdjLits p = true := by
  simp only [noAdjLits, Bool.and_eq_true] at h; exact h.2

/-- The constructor's loop over a printed pattern, item by item. `done` is the part already rewritten: it holds no `%(`
    (`Clean`) and none arises where the next item is attached (`junction`), so the search for the next field starts in
    what is still unread. The bound 255 keeps the slot counter (`uint8_t arg_idx`, `PatternFormatter.h:363`) from wrapping. -/
theorem generate_items : ∀ (p : List Item) (fuel : Nat) (done rest : Str) (order : List Nat) (isSet : List Bool) (k nf : Nat),
    (∀ it ∈ p, it.wf = true) → noAdjLits p = true → Clean done → junction done p →
    k + (attrsOf p).length ≤ 255 → (attrsOf p).length ≤ fuel →
    generate fuel (done ++ (printPattern p ++ rest)) order isSet k nf =
      generate (fuel - (attrsOf p).length) ((done ++ fmtOf p) ++ rest) (assign (attrsOf p) k order)
        (mark (attrsOf p) isSet) (k + (attrsOf p).length) (nf + (attrsOf p).length)
    ∧ Clean (done ++ fmtOf p) := by
  intro p
  induction p with
  | nil =>
    intro fuel done rest order isSet k nf _ _ hd _ _ _
    simp [printPattern, fmtOf, attrsOf, assign, mark, hd]
  | cons it p ih =>
    intro fuel done rest order isSet k nf hwf hadj hd hj hk hf
    have hwf' : ∀ it ∈ p, it.wf = true := fun x hx => hwf x (List.mem_cons_of_mem _ hx)
    have hadj' := noAdjLits_tail hadj
    cases it with
    | lit s =>
      have hs : Clean s := Option.isNone_iff_eq_none.mp (hwf (.lit s) List.mem_cons_self)
      have hlast : done.getLast? ≠ some '%' := by
        rcases hj with h | h
        · exact h
        · exact absurd h (by simp)
      have hd' : Clean (done ++ s) := clean_append hd hs (Or.inl hlast)
      have hj' : junction (done ++ s) p := by
        right
        cases p with
        | nil => trivial
        | cons it2 p2 =>
          cases it2 with
          | lit s2 => simp [noAdjLits] at hadj
          | field _ _ => trivial
      have := ih fuel (done ++ s) rest order isSet k nf hwf' hadj' hd' hj' hk hf
      simp only [printPattern, fmtOf, List.flatMap_cons, Item.print, Item.fmtText, attrsOf, List.append_assoc] at this ⊢
      exact this
    | field a spec =>
      have hv : (Item.field a spec).wf = true := hwf _ List.mem_cons_self
      simp only [attrsOf, List.length_cons] at hk hf
      obtain ⟨f, rfl⟩ : ∃ f, fuel = f + 1 := ⟨fuel - 1, by omega⟩
      have hd' : Clean (done ++ (Item.field a spec).fmtText) :=
        clean_append hd (clean_fmtText_field a spec hv) (Or.inr (by rw [fmtText_field_head]; decide))
      have hj' : junction (done ++ (Item.field a spec).fmtText) p := by
        left
        rw [List.getLast?_append, fmtText_field_last]
        simp
      have hstep := generate_field f done (printPattern p ++ rest) a spec order isSet k nf hd hv
      have hmod : (k + 1) % 256 = k + 1 := Nat.mod_eq_of_lt (by omega)
      rw [hmod] at hstep
      have := ih f (done ++ (Item.field a spec).fmtText) rest (order.set a.idx k) (isSet.set a.idx true) (k + 1) (nf + 1)
        hwf' hadj' hd' hj' (by omega) (by omega)
      simp only [printPattern, fmtOf, List.flatMap_cons, attrsOf, List.length_cons, assign, mark,
        List.append_assoc] at this hstep ⊢
      rw [hstep]
      refine ⟨?_, this.2⟩
      have e : ∀ x, x + ((attrsOf p).length + 1) = x + 1 + (attrsOf p).length := fun x => by omega
      rw [this.1, Nat.add_sub_add_right, e k, e nf]

end Pattern
