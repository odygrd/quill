import QuillModel.Pattern.Compile
/-!
# One `PatternFormatter` instance over a sequence of `format()` calls

`Pattern.format` (Model.lean) describes one call. A formatter lives as long as its logger and handles every statement:
`_args` is a member and keeps, between two calls, whatever the previous call (or, before the first call, `_set_pattern`:
the attribute's own *name*) put into it. This file models the instance as a state machine over calls and proves that
for the pinned code this state is invisible: the outcome of a call is a function of that call alone — in particular the
text substituted for `%(time)` is `TimestampFormatter::format_timestamp` of the call's own timestamp, whatever the
earlier calls were.

`memo = true` is the variant of `format()` that refreshes the `%(time)` slot only `if (timestamp != _last_timestamp)`
with `_last_timestamp{0}`: for it the statement is false (witness in `Props/C12.lean`): the first calls with timestamp 0
print the placeholder `time`. `memo = false` is the pinned code.
-/
namespace Pattern

/-- which slots `format()` writes depends on the pattern only, not on the statement -/
theorem fillWrite_same_slots (c : Compiled) (v1 v2 : Attr → Str) (b : Attr) (j : Nat) :
    (∀ w, fillWrite c v2 b ≠ some (j, w)) → ∀ w, fillWrite c v1 b ≠ some (j, w) := by
  intro h w hw
  unfold fillWrite at h hw
  split at hw
  · rename_i hc
    simp only [Option.some.injEq, Prod.mk.injEq] at hw
    apply h (some (v2 b))
    simp only [hc, if_true, hw.1]
  · exact absurd hw (by simp)

/-- no carry-over between statements: what an earlier call left in `_args` is overwritten or was never written -/
theorem fill_persist (c : Compiled) (v1 v2 : Attr → Str) (l : List (Option Str)) :
    formatOrder.foldl (writeStep (fillWrite c v2)) (formatOrder.foldl (writeStep (fillWrite c v1)) l) =
      formatOrder.foldl (writeStep (fillWrite c v2)) l := by
  apply foldl_write_congr
  · rw [foldl_write_length]
  · intro j hj
    exact foldl_write_untouched _ j _ _ (fun b hb k w hw hk => fillWrite_same_slots c v1 v2 b j (hj b hb) w (hk ▸ hw))

/-- one `format()` call as the backend issues it -/
structure Call where
  ts : Nat                -- the statement's timestamp (ns since the epoch)
  vals : Attr → Str       -- the values of every other attribute (the `time` entry is not looked at)

/-- the valuation of a call: `%(time)` is `tf ts`, `tf` = `TimestampFormatter::format_timestamp` (C13's subject) -/
def Call.valuation (tf : Nat → Str) (k : Call) : Attr → Str := fun a => if a = .time then tf k.ts else k.vals a

/-- a formatter between two calls: `_args` persists; `lastTs` is the `_last_timestamp` of the memoised variant
    (the pinned code has no such member: with `memo = false` it is carried along unused) -/
structure Inst where
  c : Compiled
  args : List (Option Str)
  lastTs : Nat
  deriving Repr

/-- after the constructor: `_args` hold the attribute names, `_last_timestamp{0}` -/
def Inst.new (c : Compiled) : Inst := { c := c, args := c.args, lastTs := 0 }

/-- the `_set_arg_val` statements of one call. `memo = true`: the `Time` statement is additionally guarded by
    `timestamp != _last_timestamp`. -/
def Inst.fill (memo : Bool) (tf : Nat → Str) (i : Inst) (k : Call) : List (Option Str) :=
  formatOrder.foldl (fun args a =>
    if (i.c.isSet.getD a.idx false || a == .message) && !(memo && a == .time && k.ts == i.lastTs) then
      args.set (i.c.order.getD a.idx (nrItems - 1)) (some (k.valuation tf a))
    else args) i.args

/-- `format()` as a step of the instance -/
def Inst.step (memo : Bool) (tf : Nat → Str) (i : Inst) (k : Call) : Inst × Except FErr Str :=
  if i.c.empty then (i, .ok [])
  else
    let args' := i.fill memo tf k
    let last' := if memo && i.c.isSet.getD Attr.time.idx false && k.ts != i.lastTs then k.ts else i.lastTs
    ({ i with args := args', lastTs := last' }, vformat i.c.fmt args')

def Inst.run (memo : Bool) (tf : Nat → Str) : Inst → List Call → List (Except FErr Str)
  | _, [] => []
  | i, k :: ks => (i.step memo tf k).2 :: Inst.run memo tf (i.step memo tf k).1 ks

/-- construct a formatter for `pattern`, send `calls` through it: the outcome of every call -/
def formatCalls (memo : Bool) (pattern : Str) (tf : Nat → Str) (calls : List Call) : List Result :=
  match construct pattern with
  | .error e => calls.map fun _ => .ctorError e
  | .ok c => (Inst.run memo tf (Inst.new c) calls).map resultOf

/-- … and the outcome of the last one (what the harness observes): `pre` are the earlier calls -/
def formatLast (pattern : Str) (tf : Nat → Str) (pre : List Call) (k : Call) : Result :=
  ((formatCalls false pattern tf (pre ++ [k])).getLast?).getD .unsupported

theorem fill_false_eq (tf : Nat → Str) (i : Inst) (k : Call) :
    i.fill false tf k = formatOrder.foldl (writeStep (fillWrite i.c (k.valuation tf))) i.args := by
  unfold Inst.fill
  congr 1
  funext args b
  unfold writeStep fillWrite
  simp only [Bool.false_and, Bool.not_false, Bool.and_true]
  split <;> rfl

/-- the state after any number of calls: the constructor's `_args`, or one fill on top of them -/
def Inst.Reach (c : Compiled) (i : Inst) : Prop :=
  i.c = c ∧ (i.args = c.args ∨ ∃ v, i.args = formatOrder.foldl (writeStep (fillWrite c v)) c.args)

theorem step_false (tf : Nat → Str) (c : Compiled) (i : Inst) (k : Call) (h : i.Reach c) :
    (i.step false tf k).2 = format c (k.valuation tf) ∧ (i.step false tf k).1.Reach c := by
  obtain ⟨hc, hargs⟩ := h
  subst hc
  unfold Inst.step format
  by_cases he : i.c.empty = true
  · rw [if_pos he, if_pos he]
    exact ⟨rfl, rfl, hargs⟩
  · simp only [he, Bool.false_eq_true, if_false]
    have hfill : i.fill false tf k = fillArgs i.c (k.valuation tf) := by
      rw [fill_false_eq, fillArgs_eq]
      rcases hargs with h0 | ⟨v, hv⟩
      · rw [h0]
      · rw [hv, fill_persist]
    refine ⟨by rw [hfill], rfl, Or.inr ⟨k.valuation tf, ?_⟩⟩
    simp only [hfill, fillArgs_eq]

/-- every call of a formatter instance, whatever the earlier calls, gives what a fresh formatter gives for that call
    alone -/
theorem run_false (tf : Nat → Str) (c : Compiled) : ∀ (calls : List Call) (i : Inst), i.Reach c →
    Inst.run false tf i calls = calls.map fun k => format c (k.valuation tf) := by
  intro calls
  induction calls with
  | nil => intro i _; rfl
  | cons k ks ih =>
    intro i h
    have hs := step_false tf c i k h
    simp only [Inst.run, List.map_cons, hs.1, ih _ hs.2]

theorem formatCalls_eq (pattern : Str) (tf : Nat → Str) (calls : List Call) :
    formatCalls false pattern tf calls = calls.map fun k => formatPattern pattern (k.valuation tf) := by
  unfold formatCalls
  cases hc : construct pattern with
  | error e => simp only [formatPattern, hc]
  | ok c =>
    simp only [run_false tf c calls (Inst.new c) ⟨rfl, Or.inl rfl⟩, List.map_map]
    apply List.map_congr_left
    intro k _
    exact (formatPattern_of_construct hc _).symm

theorem formatLast_eq (pattern : Str) (tf : Nat → Str) (pre : List Call) (k : Call) :
    formatLast pattern tf pre k = formatPattern pattern (k.valuation tf) := by
  unfold formatLast
  rw [formatCalls_eq, List.map_append]
  simp

end Pattern
