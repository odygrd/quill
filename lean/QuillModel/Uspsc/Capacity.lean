import QuillModel.Uspsc.Api
/-! The capacity decision of `_handle_full_queue`. -/
namespace Uspsc

theorem le_dbl (fuel c n : Nat) : c ≤ dbl fuel c n := by
  induction fuel generalizing c with
  | zero => exact Nat.le_refl c
  | succ f ih =>
    simp only [dbl]
    split
    · exact Nat.le_trans (Nat.le_mul_of_pos_right c (by decide)) (ih (c * 2))
    · exact Nat.le_refl c

theorem dbl_ge (fuel c n : Nat) (hf : n ≤ c * 2 ^ fuel) : n ≤ dbl fuel c n := by
  induction fuel generalizing c with
  | zero => simpa [dbl] using hf
  | succ f ih =>
    simp only [dbl]
    split
    · exact ih (c * 2) (by rw [Nat.mul_assoc, ← Nat.pow_succ']; exact hf)
    · omega

theorem fuel_enough {c n f : Nat} (hc : 0 < c) (hf : n ≤ f) : n ≤ c * 2 ^ f :=
  Nat.le_trans hf (Nat.le_trans (Nat.le_of_lt Nat.lt_two_pow_self) (Nat.le_mul_of_pos_left _ hc))

theorem dbl_pow (fuel c n : Nat) : ∃ k, dbl fuel c n = c * 2 ^ k := by
  induction fuel generalizing c with
  | zero => exact ⟨0, by simp [dbl]⟩
  | succ f ih =>
    simp only [dbl]
    split
    · obtain ⟨k, hk⟩ := ih (c * 2)
      exact ⟨k + 1, by rw [hk, Nat.mul_assoc, ← Nat.pow_succ']⟩
    · exact ⟨0, by simp⟩

/-- the loop stops at the first doubling that is large enough -/
theorem dbl_le (fuel c n j : Nat) (hj : n ≤ c * 2 ^ j) : dbl fuel c n ≤ c * 2 ^ j := by
  induction fuel generalizing c j with
  | zero => exact Nat.le_mul_of_pos_right c (Nat.two_pow_pos j)
  | succ f ih =>
    simp only [dbl]
    split
    · rename_i hlt
      cases j with
      | zero => omega
      | succ j => rw [Nat.pow_succ', ← Nat.mul_assoc] at hj ⊢; exact ih (c * 2) j hj
    · exact Nat.le_mul_of_pos_right c (Nat.two_pow_pos j)

theorem dbl_pow2_le {a b n : Nat} (fuel : Nat) (hab : a ≤ b) (hn : n ≤ 2 ^ b) : dbl fuel (2 ^ a) n ≤ 2 ^ b := by
  have e : 2 ^ a * 2 ^ (b - a) = 2 ^ b := by rw [← Nat.pow_add, Nat.add_sub_cancel' hab]
  exact e ▸ dbl_le fuel (2 ^ a) n (b - a) (e ▸ hn)

theorem dbl_fuel {f1 f2 c n : Nat} (h1 : n ≤ c * 2 ^ f1) (h2 : n ≤ c * 2 ^ f2) : dbl f1 c n = dbl f2 c n := by
  obtain ⟨k1, e1⟩ := dbl_pow f1 c n
  obtain ⟨k2, e2⟩ := dbl_pow f2 c n
  have g1 := dbl_ge f1 c n h1
  have g2 := dbl_ge f2 c n h2
  exact Nat.le_antisymm (e2 ▸ dbl_le f1 c n k2 (e2 ▸ g2)) (e1 ▸ dbl_le f2 c n k1 (e1 ▸ g1))

theorem grow_throw_iff {cap n maxCap : Nat} (hcap : 0 < cap) :
    growDecision cap n maxCap = .throw ↔ n > maxCap := by
  unfold growDecision
  simp only
  have hge := dbl_ge n (cap * 2) n (fuel_enough (by omega) (Nat.le_refl n))
  constructor
  · intro h
    split at h
    · split at h
      · assumption
      · simp at h
    · simp at h
  · intro h
    have : dbl n (cap * 2) n > maxCap := by omega
    simp [this, h]

theorem grow_null {cap n maxCap : Nat} (h : growDecision cap n maxCap = .null) :
    n ≤ maxCap ∧ dbl n (cap * 2) n > maxCap := by
  unfold growDecision at h
  simp only at h
  split at h
  · split at h
    · simp at h
    · exact ⟨by omega, by assumption⟩
  · simp at h

/-- with power-of-two capacities a refusal to grow means the current node already has the maximum
    capacity — so the record fits the current node and the bounded-queue progress lemma applies -/
theorem grow_null_pow2 {a b n : Nat} (hab : a ≤ b) (hn : n ≤ 2 ^ b)
    (h : growDecision (2 ^ a) n (2 ^ b) = .null) : a = b := by
  obtain ⟨_, hgt⟩ := grow_null h
  apply Nat.le_antisymm hab
  apply Nat.le_of_not_lt
  intro hlt
  -- `2^b` is itself one of the doublings of `2^(a+1)`, so the loop would have stopped there
  have := dbl_pow2_le n (show a + 1 ≤ b from hlt) hn
  rw [Nat.pow_succ] at this
  omega

theorem shrink_allocates_iff (cap c : Nat) : shrinkAllocates cap c = true ↔ c ≤ cap / 2 := by
  simp [shrinkAllocates]

end Uspsc
