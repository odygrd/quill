import QuillModel.Uspsc.Proofs
/-!
# Unbounded queue: the stream of records over a whole schedule (helper for `C02_trace_fifo`)

`writesOfU ops` / `readsOfU ops` are the record lengths written by the producer / read by the consumer during a schedule,
in schedule order, across all nodes; `TI` relates them to the per-node ghost fields of the chain model.
In `ti_step` the `switch` case is where "every record of the old node was read" (`ustep_safe`) is used; what the
consumer's node has read so far grows as in the bounded queue (`Spsc.step_taken`, the per-node FIFO).
-/
namespace Uspsc
open Spsc

def writesOfU : List UOp → List Nat
  | [] => []
  | .p (.write n) :: ops => n :: writesOfU ops
  | _ :: ops => writesOfU ops

def readsOfU : List UOp → List Nat
  | [] => []
  | .c (.read n) :: ops => n :: readsOfU ops
  | _ :: ops => readsOfU ops

def wOf : UOp → List Nat | .p op => opW op | _ => []
def rOf : UOp → List Nat | .c op => opR op | _ => []

theorem writesOfU_cons (op : UOp) (ops : List UOp) : writesOfU (op :: ops) = wOf op ++ writesOfU ops := by
  cases op with
  | p o => cases o <;> rfl
  | _ => rfl
theorem readsOfU_cons (op : UOp) (ops : List UOp) : readsOfU (op :: ops) = rOf op ++ readsOfU ops := by
  cases op with
  | c o => cases o <;> rfl
  | _ => rfl

theorem writesOfU_append : ∀ (a b : List UOp), writesOfU (a ++ b) = writesOfU a ++ writesOfU b
  | [], _ => rfl
  | x :: a, b => by
    rw [List.cons_append, writesOfU_cons, writesOfU_cons, writesOfU_append a b, List.append_assoc]

theorem readsOfU_append : ∀ (a b : List UOp), readsOfU (a ++ b) = readsOfU a ++ readsOfU b
  | [], _ => rfl
  | x :: a, b => by
    rw [List.cons_append, readsOfU_cons, readsOfU_cons, readsOfU_append a b, List.append_assoc]

def recsOf (f : Nat → Node) (m : Nat) : List Nat := ((List.range m).map (fun k => (f k).q.recs)).flatten

theorem recsOf_succ (f : Nat → Node) (m : Nat) : recsOf f (m + 1) = recsOf f m ++ (f m).q.recs := by
  simp [recsOf, List.range_succ]

theorem recsOf_congr (f g : Nat → Node) : ∀ m, (∀ k, k < m → (g k).q.recs = (f k).q.recs) → recsOf g m = recsOf f m
  | 0, _ => rfl
  | m + 1, h => by
    rw [recsOf_succ, recsOf_succ, recsOf_congr f g m (fun k hk => h k (by omega)), h m (by omega)]

theorem recsOf_prefix (f : Nat → Node) (a : Nat) : ∀ d, recsOf f a <+: recsOf f (a + d)
  | 0 => List.prefix_refl _
  | d + 1 => by
    rw [show a + (d + 1) = (a + d) + 1 by omega, recsOf_succ]
    exact (recsOf_prefix f a d).trans (List.prefix_append _ _)

/-- trace invariant: `W` = everything written (nodes `0 … pi`), `R` = everything read (nodes below `ci` completely,
    the first `nread` records of node `ci`), and the consumer has read nothing of the nodes ahead of it -/
structure TI (s : US) (W R : List Nat) : Prop where
  w : W = recsOf s.nodes (s.pi + 1)
  r : R = recsOf s.nodes s.ci ++ s.cnode.q.recs.take s.cnode.q.nread
  z : ∀ k, s.ci < k → (s.nodes k).q.nread = 0

theorem wOf_not_addressed {s : US} {k : Nat} {op : UOp} (h : ¬ addressed s k op) (hk : k = s.pi) : wOf op = [] := by
  cases op with
  | p bop => exact absurd hk h
  | _ => rfl

theorem rOf_not_addressed {s : US} {k : Nat} {op : UOp} (h : ¬ addressed s k op) (hk : k = s.ci) : rOf op = [] := by
  cases op with
  | c bop => exact absurd hk h
  | _ => rfl

theorem opR_producer {bop : Op} (h : isProducerOp bop = true) : opR bop = [] := by cases bop <;> first | rfl | cases h
theorem opW_consumer {bop : Op} (h : isConsumerOp bop = true) : opW bop = [] := by cases bop <;> first | rfl | cases h

theorem node_recs_nread (o : UParams) (s : US) (op : UOp) (he : UEnabled o s op) (k : Nat) :
    (k = s.n ∧ ((ustep o s op).nodes k).q.recs = [] ∧ ((ustep o s op).nodes k).q.nread = 0) ∨
    (((ustep o s op).nodes k).q.recs = (s.nodes k).q.recs ++ (if k = s.pi then wOf op else []) ∧
     (k ≠ s.ci → ((ustep o s op).nodes k).q.nread = (s.nodes k).q.nread)) := by
  have hm := nodeMove o s op k
  generalize (ustep o s op).nodes k = nd at hm ⊢
  induction hm with
  | same h =>
    refine .inr ⟨?_, fun _ => rfl⟩
    split
    · next hk => rw [wOf_not_addressed h hk, List.append_nil]
    · rw [List.append_nil]
  | sameSee | sealed | floor => exact .inr ⟨by simp only [wOf, ite_self, List.append_nil], fun _ => rfl⟩
  | prod bop hk =>
    obtain ⟨e1, e2⟩ := step_recs_nread o.q (s.nodes k).q bop
    exact .inr ⟨by rw [if_pos hk]; exact e1, fun _ => by rw [e2, opR_producer he.1]; rfl⟩
  | cons bop hk =>
    refine .inr ⟨?_, fun hne => absurd hk hne⟩
    show (step o.q (s.nodes k).q bop).recs = (s.nodes k).q.recs ++ (if k = s.pi then [] else [])
    rw [ite_self, (step_recs_nread o.q (s.nodes k).q bop).1, opW_consumer he.1]
  | fresh c hk => exact .inl ⟨hk, rfl, rfl⟩

theorem recsOf_below (o : UParams) (s : US) (op : UOp) (h : UInv o s) (he : UEnabled o s op) (m : Nat) (hm : m ≤ s.pi) :
    recsOf (ustep o s op).nodes m = recsOf s.nodes m := by
  refine recsOf_congr _ _ m (fun k hk => ?_)
  have hkp : k < s.pi := Nat.lt_of_lt_of_le hk hm
  rcases node_recs_nread o s op he k with ⟨e, _⟩ | ⟨e, _⟩
  · exact absurd e (Nat.ne_of_lt (Nat.lt_trans hkp h.pi_lt))
  · rw [e, if_neg (Nat.ne_of_lt hkp), List.append_nil]

theorem ti_step (o : UParams) (ho : UOrdersOK o) (s : US) (op : UOp) (h : UInv o s) (he : UEnabled o s op)
    (W R : List Nat) (t : TI s W R) : TI (ustep o s op) (W ++ wOf op) (R ++ rOf op) := by
  have hpiLt := h.pi_lt
  have hciLt := h.ci_lt
  have hW : W ++ wOf op = recsOf (ustep o s op).nodes (s.pi + 1) := by
    rcases node_recs_nread o s op he s.pi with ⟨e, _⟩ | ⟨e, _⟩
    · exact absurd e (Nat.ne_of_lt hpiLt)
    · rw [recsOf_succ, recsOf_below o s op h he s.pi (Nat.le_refl _), e, if_pos rfl, t.w, recsOf_succ, List.append_assoc]
  have hC : ((s.nodes s.ci).q.recs.take (s.nodes s.ci).q.nread) ++ rOf op =
      ((ustep o s op).nodes s.ci).q.recs.take ((ustep o s op).nodes s.ci).q.nread := by
    have hq := h.qinv s.ci hciLt
    have hm := nodeMove o s op s.ci
    generalize (ustep o s op).nodes s.ci = nd at hm ⊢
    induction hm with
    | same hna => rw [rOf_not_addressed hna rfl, List.append_nil]
    | sameSee | sealed | floor => exact List.append_nil _
    | prod bop hk =>
      show _ ++ [] = _
      rw [step_taken o.q _ bop hq (hk ▸ he.2), opR_producer he.1]
    | cons bop => exact (step_taken o.q _ bop hq he.2.1).symm
    | fresh c hk => exact absurd hk (Nat.ne_of_lt hciLt)
  have hZ : ∀ k, s.ci < k → ((ustep o s op).nodes k).q.nread = 0 := by
    intro k hk
    rcases node_recs_nread o s op he k with ⟨_, _, e⟩ | ⟨_, e⟩
    · exact e
    · rw [e (Nat.ne_of_gt hk)]; exact t.z k hk
  by_cases hsw : op = .switch
  · subst hsw
    obtain ⟨hall, _, hlt⟩ := ustep_safe o ho s .switch h he
    refine ⟨hW, ?_, fun k hk => t.z k (Nat.lt_of_succ_lt hk)⟩
    show R ++ [] = recsOf s.nodes (s.ci + 1) ++ (s.nodes (s.ci + 1)).q.recs.take (s.nodes (s.ci + 1)).q.nread
    rw [recsOf_succ, t.z (s.ci + 1) (Nat.lt_succ_self _), t.r, hall]
    simp [US.cnode]
  · have hci : (ustep o s op).ci = s.ci := by cases op <;> first | rfl | exact absurd rfl hsw
    refine ⟨?_, ?_, fun k hk => hZ k (hci ▸ hk)⟩
    · rcases ustep_n_pi o s op with ⟨⟨c, rfl⟩, _, e⟩ | ⟨_, _, e⟩
      · -- `publish`: one more node, empty
        have hnew : ((ustep o s (.publish c)).nodes (s.pi + 1)).q.recs = [] := by
          rw [← h.len]
          show (setNode _ s.n _ s.n).q.recs = []
          rw [setNode_same]; rfl
        rw [e, h.len, recsOf_succ, ← hW, hnew, List.append_nil]
      · rw [e]; exact hW
    · show R ++ rOf op = recsOf (ustep o s op).nodes (ustep o s op).ci ++ _
      rw [US.cnode, hci, recsOf_below o s op h he s.ci h.cp, t.r, List.append_assoc, ← hC]
      rfl

theorem ti_run (o : UParams) (ho : UOrdersOK o) :
    ∀ (ops : List UOp) (s : US) (W R : List Nat), UInv o s → URun o s ops → TI s W R →
      TI (urun o s ops) (W ++ writesOfU ops) (R ++ readsOfU ops)
  | [], s, W, R, _, _, t => by simpa [urun, writesOfU, readsOfU] using t
  | op :: ops, s, W, R, h, hr, t => by
    have := ti_run o ho ops (ustep o s op) _ _ (ustep_inv o ho s op h hr.1) hr.2 (ti_step o ho s op h hr.1 W R t)
    rw [writesOfU_cons, readsOfU_cons, ← List.append_assoc, ← List.append_assoc]
    exact this

theorem ti_init (cap : Nat) (batch : Nat → Nat) : TI (uinit cap batch) [] [] :=
  ⟨rfl, rfl, fun _ _ => rfl⟩

theorem TI.prefix {o : UParams} {s : US} {W R : List Nat} (t : TI s W R) (h : UInv o s) : R <+: W := by
  obtain ⟨d, hd⟩ : ∃ d, s.pi + 1 = s.ci + 1 + d := Nat.exists_eq_add_of_le (Nat.succ_le_succ h.cp)
  rw [t.w, t.r, hd]
  refine List.IsPrefix.trans ?_ (recsOf_prefix s.nodes (s.ci + 1) d)
  rw [recsOf_succ]
  exact (List.prefix_append_right_inj _).mpr (List.take_prefix _ _)

end Uspsc
