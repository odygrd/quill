import QuillModel.Spsc.Model
/-!
# Unbounded SPSC queue (`quill::detail::UnboundedSPSCQueue`): a chain of bounded queues

Anchors: `include/quill/core/UnboundedSPSCQueue.h` — `prepare_write` / `_handle_full_queue`, `shrink`,
`prepare_read` / `_read_next_queue`, `empty`.

A state is the list of nodes ever allocated (index = allocation order), the producer's node `pi`, the
consumer's node `ci` (nodes below `ci` have been deleted), and what the consumer knows about the `next`
pointer of its node. Inside a node the two threads perform the micro-steps of the bounded model; on top:

* `publish cap'`  producer: allocate a node of capacity `cap'`, store it into `next` of the current node,
                  move to it (`_handle_full_queue` after its `commit_write`, or `shrink`);
* `seeNext`       consumer: the load of `next` in `prepare_read` returns non-null;
* `switch`        consumer: after the re-read of the old node said "empty": `commit_read`, `delete`, move on.

`next` is written once, so its view semantics is simple: if publication is release and observation is
acquire (`syncNext`), then everything the producer did to the old node happens-before the consumer's
following accesses. Consequences modelled: (1) coherence — later loads of the old node's writer position
cannot return anything older than its final value (`wFloor`); (2) the consumer's `delete` is ordered
after the producer's last access. Without the synchronisation neither holds, and the model can reach a
`switch` that loses records or races with the producer (`USafe` fails).
-/
namespace Uspsc
open Spsc

structure UParams where
  q : Params                 -- orders inside each bounded node
  nextStore : MO             -- `next.store` in `_handle_full_queue` / `shrink`
  nextLoad : MO              -- `next.load` in `prepare_read`
  rereads : Bool             -- `_read_next_queue` tries the old node once more before switching
  deriving Repr, DecidableEq

def UParams.syncNext (o : UParams) : Bool := o.nextStore.isRel && o.nextLoad.isAcq
def UOrdersOK (o : UParams) : Prop := OrdersOK o.q ∧ o.syncNext = true ∧ o.rereads = true
instance (o : UParams) : Decidable (UOrdersOK o) := by unfold UOrdersOK; infer_instance

structure Node where
  q : St
  published : Bool := false     -- `next` of this node has been stored (points to the node after it)
  wFloor : Nat := 0             -- consumer loads of this node's writer position may not return less

structure US where
  nodes : Nat → Node            -- node `k` = the `k`-th node ever allocated (meaningful for `k < n`)
  n : Nat
  pi : Nat
  ci : Nat
  sawNext : Bool                -- consumer has observed `next ≠ nullptr` of node `ci`
  sawSync : Bool                -- … and that observation synchronised with the publication
  reread : Bool                 -- … and has loaded the old node's writer position again since
  batch : Nat → Nat             -- batch threshold as a function of a node's capacity (5 % in the C++)

def US.pnode (s : US) : Node := s.nodes s.pi
def US.cnode (s : US) : Node := s.nodes s.ci

inductive UOp
  | p (op : Op)                 -- producer micro-step on its node: `reloadR`, `write`, `commitW`
  | c (op : Op)                 -- consumer micro-step on its node: `loadW`, `read`, `commitR`
  | publish (cap' : Nat)
  | seeNext
  | switch
  deriving Repr

def isProducerOp : Op → Bool | .reloadR _ | .write _ | .commitW => true | _ => false
def isConsumerOp : Op → Bool | .loadW _ | .read _ | .commitR _ => true | _ => false

def floorOK (nd : Node) : Op → Prop
  | .loadW v => nd.wFloor ≤ v
  | _ => True

instance (nd : Node) (op : Op) : Decidable (floorOK nd op) := by
  cases op <;> unfold floorOK <;> infer_instance

def UEnabled (o : UParams) (s : US) : UOp → Prop
  | .p op => isProducerOp op = true ∧ Enabled s.pnode.q op
  | .c op => isConsumerOp op = true ∧ Enabled s.cnode.q op ∧ floorOK s.cnode op
  | .publish cap' => 0 < cap' ∧ s.pnode.q.wHist.headD 0 = s.pnode.q.wpos   -- everything committed first
  | .seeNext => s.cnode.published = true
  | .switch => s.sawNext = true ∧ s.cnode.q.rpos = s.cnode.q.wcache ∧      -- the (re-)read said "empty"
               (o.rereads = true → s.reread = true)

instance (o : UParams) (s : US) (op : UOp) : Decidable (UEnabled o s op) := by
  cases op <;> unfold UEnabled <;> infer_instance

def setNode (f : Nat → Node) (i : Nat) (nd : Node) : Nat → Node := fun k => if k = i then nd else f k

def isLoadW : Op → Bool | .loadW _ => true | _ => false

def ustep (o : UParams) (s : US) : UOp → US
  | .p op => { s with nodes := setNode s.nodes s.pi { s.pnode with q := step o.q s.pnode.q op } }
  | .c op => { s with nodes := setNode s.nodes s.ci { s.cnode with q := step o.q s.cnode.q op },
                      reread := s.reread || (s.sawNext && isLoadW op) }
  | .publish cap' =>
      { s with nodes := setNode (setNode s.nodes s.pi { s.pnode with published := true }) s.n
                          { q := init cap' (s.batch cap') },
               n := s.n + 1, pi := s.n }
  | .seeNext =>
      { s with sawNext := true, sawSync := o.syncNext, reread := false,
               nodes := if o.syncNext
                        then setNode s.nodes s.ci { s.cnode with wFloor := s.cnode.q.wpos }
                        else s.nodes }
  | .switch => { s with ci := s.ci + 1, sawNext := false, sawSync := false, reread := false }

/-- what must never go wrong -/
def USafe (s : US) : UOp → Prop
  | .p op => s.ci ≤ s.pi ∧ Safe s.pnode.q op            -- the producer's node is alive; bounded safety
  | .c op => Safe s.cnode.q op
  | .switch => s.cnode.q.nread = s.cnode.q.recs.length ∧  -- every record of the old node has been read
               s.sawSync = true ∧                          -- the delete happens-after the producer's last access
               s.ci < s.pi                                 -- the producer has left the node being deleted
  | _ => True

def usafeB (s : US) : UOp → Bool
  | .p op => decide (s.ci ≤ s.pi) && safeB s.pnode.q op
  | .c op => safeB s.cnode.q op
  | .switch => decide (s.cnode.q.nread = s.cnode.q.recs.length) && s.sawSync && decide (s.ci < s.pi)
  | _ => true

def uinit (cap : Nat) (batch : Nat → Nat) : US :=
  { nodes := fun _ => { q := init cap (batch cap) }, n := 1, pi := 0, ci := 0,
    sawNext := false, sawSync := false, reread := false, batch }

def URun (o : UParams) : US → List UOp → Prop
  | _, [] => True
  | s, op :: ops => UEnabled o s op ∧ URun o (ustep o s op) ops

def urun (o : UParams) : US → List UOp → US
  | s, [] => s
  | s, op :: ops => urun o (ustep o s op) ops

def decURun (o : UParams) : (s : US) → (ops : List UOp) → Decidable (URun o s ops)
  | _, [] => isTrue trivial
  | s, op :: ops =>
      match (inferInstance : Decidable (UEnabled o s op)), decURun o (ustep o s op) ops with
      | isTrue h1, isTrue h2 => isTrue ⟨h1, h2⟩
      | isFalse h1, _ => isFalse (fun h => h1 h.1)
      | _, isFalse h2 => isFalse (fun h => h2 h.2)

instance (o : UParams) (s : US) (ops : List UOp) : Decidable (URun o s ops) := decURun o s ops

/-! ### capacity decision of `_handle_full_queue` -/

inductive Grow | alloc (cap : Nat) | null | throw
  deriving Repr, DecidableEq

/-- `while (capacity < nbytes) capacity *= 2` with fuel (enough: `fuel = nbytes`) -/
def dbl : Nat → Nat → Nat → Nat
  | 0, c, _ => c
  | fuel + 1, c, n => if c < n then dbl fuel (c * 2) n else c

def growDecision (cap n maxCap : Nat) : Grow :=
  let c := dbl n (cap * 2) n
  if c > maxCap then (if n > maxCap then .throw else .null) else .alloc c

/-- `shrink(c)` allocates iff `c ≤ capacity / 2` -/
def shrinkAllocates (cap c : Nat) : Bool := !(decide (c > cap / 2))

end Uspsc
