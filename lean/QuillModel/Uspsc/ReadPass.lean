import QuillModel.Uspsc.Proofs
import QuillModel.Uspsc.Api
/-!
# The backend's read of one unbounded frontend queue (`BackendWorker::_read_unbounded_frontend_queue`)

`apiRead follow` = call `prepare_read()`; when it reports that it switched to the next buffer and found that buffer
empty (`.switch … .null`) and `follow` holds, call it again (the repair of finding F25; `follow = false` is the code as
found). Loads return the newest value (the statement below is about what is visible at this instant; a stale load
only delays visibility). Fuel: one unit per buffer switch — the number of nodes suffices.

Main result (`apiRead_spec`): from every state satisfying the chain invariant, `apiRead true` is a legal run of
micro-steps, it answers `null` only if NO node from the consumer's node to the producer's node holds a committed unread
record, and when it answers a record, that record is at the reader position of the FIRST such node (every node before
it is drained): FIFO across nodes.
-/
namespace Uspsc
open Spsc

def UObs.final : UObs → UObs
  | .switch _ _ t => t.final
  | x => x

def UObs.isNull : UObs → Bool
  | .null => true
  | _ => false

def UObs.readsAt : UObs → Option (Nat × Nat)
  | .readAt nd off => some (nd, off)
  | _ => none

/-- `_read_unbounded_frontend_queue`: `prepare_read()`, repeated while a switch found the new buffer empty (if `follow`) -/
def apiRead (follow : Bool) (o : UParams) (f : Flags) : Nat → US → List UOp × UObs
  | 0, _ => ([], .null)
  | fuel + 1, s =>
    let r := apiPrepareRead o f s false 0 0 0 0
    match r.2 with
    | .switch p n .null =>
      if follow then
        let t := apiRead follow o f fuel (urun o s r.1)
        (r.1 ++ t.1, .switch p n t.2)
      else r
    | _ => r

/-- node `k` holds a committed record the consumer has not read -/
def pend (s : US) (k : Nat) : Prop := (s.nodes k).q.rpos < (s.nodes k).q.wHist.headD 0
instance (s : US) (k : Nat) : Decidable (pend s k) := by unfold pend; infer_instance

theorem pickF_newest (hist : List Nat) (cache floor : Nat) (hne : hist ≠ [])
    (hc : cache ≤ hist.headD 0) (hf : floor ≤ hist.headD 0) : pickF hist cache floor 0 = hist.headD 0 := by
  cases hist with
  | nil => exact absurd rfl hne
  | cons h t =>
    simp only [List.headD_cons] at hc hf
    unfold pickF
    simp only [List.filter_cons, hc, hf, decide_true, Bool.and_self, if_true, List.eraseDups_cons, List.headD_cons]
    simp

structure Keeps (s s' : US) : Prop where
  n : s'.n = s.n
  pi : s'.pi = s.pi
  rpos : ∀ k, (s'.nodes k).q.rpos = (s.nodes k).q.rpos
  wHist : ∀ k, (s'.nodes k).q.wHist = (s.nodes k).q.wHist
  cap : ∀ k, (s'.nodes k).q.cap = (s.nodes k).q.cap

theorem Keeps.refl (s : US) : Keeps s s := ⟨rfl, rfl, fun _ => rfl, fun _ => rfl, fun _ => rfl⟩
theorem Keeps.trans {a b c : US} (h1 : Keeps a b) (h2 : Keeps b c) : Keeps a c :=
  ⟨h2.n.trans h1.n, h2.pi.trans h1.pi, fun k => (h2.rpos k).trans (h1.rpos k), fun k => (h2.wHist k).trans (h1.wHist k),
    fun k => (h2.cap k).trans (h1.cap k)⟩

theorem Keeps.pend {s s' : US} (h : Keeps s s') (k : Nat) : pend s' k ↔ pend s k := by
  unfold Uspsc.pend; rw [h.rpos k, h.wHist k]

/-- the steps of a read other than `read` itself -/
def readAux : UOp → Prop
  | .c (.loadW _) | .c (.commitR _) | .seeNext | .switch => True
  | _ => False

theorem keeps_ustep (o : UParams) (s : US) (op : UOp) (hop : readAux op) : Keeps s (ustep o s op) := by
  rcases ustep_n_pi o s op with ⟨⟨c, rfl⟩, _⟩ | ⟨_, en, ep⟩
  · cases hop
  · suffices node : ∀ k, ((ustep o s op).nodes k).q.rpos = (s.nodes k).q.rpos ∧
        ((ustep o s op).nodes k).q.wHist = (s.nodes k).q.wHist ∧ ((ustep o s op).nodes k).q.cap = (s.nodes k).q.cap from
      ⟨en, ep, fun k => (node k).1, fun k => (node k).2.1, fun k => (node k).2.2⟩
    intro k
    have hm := nodeMove o s op k
    generalize (ustep o s op).nodes k = nd at hm ⊢
    induction hm with
    | same | sameSee | sealed | floor => exact ⟨rfl, rfl, rfl⟩
    | prod | fresh => cases hop
    | cons bop =>
      cases bop with
      | loadW v => exact ⟨rfl, rfl, rfl⟩
      | commitR b => exact ⟨(commitR_q o.q _ b).1, (consumer_frame o.q _ _ rfl).wHist, step_cap ..⟩
      | _ => cases hop

theorem urun_append (o : UParams) : ∀ (a b : List UOp) (s : US), urun o s (a ++ b) = urun o (urun o s a) b
  | [], _, _ => rfl
  | x :: a, b, s => urun_append o a b (ustep o s x)

theorem URun_append (o : UParams) : ∀ (a b : List UOp) (s : US), URun o s a → URun o (urun o s a) b → URun o s (a ++ b)
  | [], _, _, _, h => h
  | _ :: a, b, _, h1, h2 => ⟨h1.1, URun_append o a b _ h1.2 h2⟩

theorem URun_split (o : UParams) : ∀ (a b : List UOp) (s : US), URun o s (a ++ b) → URun o s a ∧ URun o (urun o s a) b
  | [], _, _, h => ⟨trivial, h⟩
  | x :: a, b, s, h => by
    obtain ⟨h1, h2⟩ := URun_split o a b (ustep o s x) h.2
    exact ⟨⟨h.1, h1⟩, h2⟩

/-- A read is put together from legs with `Leg.trans`, which yields its legality, its end state and what it keeps at once. -/
structure Leg (o : UParams) (s : US) (ops : List UOp) (s' : US) : Prop where
  run : URun o s ops
  eq : urun o s ops = s'
  keeps : Keeps s s'

namespace Leg
variable {o : UParams} {a b c : US} {x y : List UOp}

theorem nil (o : UParams) (s : US) : Leg o s [] s := ⟨trivial, rfl, Keeps.refl s⟩

theorem one {op : UOp} (he : UEnabled o a op) (hop : readAux op) : Leg o a [op] (ustep o a op) :=
  ⟨⟨he, trivial⟩, rfl, keeps_ustep o a op hop⟩

theorem trans (h1 : Leg o a x b) (h2 : Leg o b y c) : Leg o a (x ++ y) c := by
  obtain ⟨r1, rfl, k1⟩ := h1
  obtain ⟨r2, rfl, k2⟩ := h2
  exact ⟨URun_append o x y a r1 r2, urun_append o x y a, k1.trans k2⟩

theorem inv (ho : UOrdersOK o) (h : UInv o a) (l : Leg o a x b) : UInv o b := l.eq ▸ ureachable_inv o ho x a h l.run

theorem self (l : Leg o a x b) : Leg o a x (urun o a x) := l.eq ▸ l

end Leg

/-- what the bounded `prepare_read` on the consumer's node does with a newest load -/
structure BR (o : UParams) (s : US) (ops : List UOp) (s1 : US) : Prop where
  leg : Leg o s ops s1
  ci : s1.ci = s.ci
  saw : s1.sawNext = s.sawNext
  test : s1.cnode.q.wcache ≠ s1.cnode.q.rpos ↔ pend s s.ci
  rr : s.sawNext = true → ¬ pend s s.ci → s1.reread = true

theorem br_spec (o : UParams) (s : US) (h : UInv o s) : BR o s (boundedRead s 0) (urun o s (boundedRead s 0)) := by
  have hciLt := h.ci_lt
  have hq := h.qinv s.ci hciLt
  have hle : s.cnode.q.wcache ≤ s.cnode.q.wHist.headD 0 := Nat.le_trans hq.wcLe hq.cHbLe
  have hrw : s.cnode.q.rpos ≤ s.cnode.q.wcache := hq.rw
  by_cases he : s.cnode.q.wcache = s.cnode.q.rpos
  · have hv : pickF s.cnode.q.wHist s.cnode.q.wcache s.cnode.wFloor 0 = s.cnode.q.wHist.headD 0 :=
      pickF_newest _ _ _ (h.wh s.ci) hle (h.floorLe s.ci hciLt)
    have hops : boundedRead s 0 = [.c (.loadW (s.cnode.q.wHist.headD 0))] := by
      unfold boundedRead; dsimp only; rw [if_pos he, hv]
    have hen : UEnabled o s (.c (.loadW (s.cnode.q.wHist.headD 0))) :=
      ⟨rfl, ⟨headD_mem (h.wh s.ci), hle⟩, h.floorLe s.ci hciLt⟩
    rw [hops]
    refine ⟨Leg.one hen trivial, rfl, rfl, ?_, ?_⟩
    · simp only [urun, ustep, US.cnode, setNode_same, step, Uspsc.pend]
      simp only [US.cnode] at he hle
      rw [← he]
      exact ⟨fun hne => Nat.lt_of_le_of_ne hle (Ne.symm hne), fun hlt => Ne.symm (Nat.ne_of_lt hlt)⟩
    · intro hs _
      simp only [urun, ustep, hs, isLoadW, Bool.and_self, Bool.or_true]
  · have hops : boundedRead s 0 = [] := by unfold boundedRead; dsimp only; rw [if_neg he]
    have hp : pend s s.ci := by
      simp only [US.cnode] at he hle hrw
      exact Nat.lt_of_lt_of_le (Nat.lt_of_le_of_ne hrw (Ne.symm he)) hle
    rw [hops]
    exact ⟨Leg.nil o s, rfl, rfl, ⟨fun _ => hp, fun _ => he⟩, fun _ hnp => absurd hp hnp⟩

/-- `prepare_read` is a legal leg with one of three outcomes: a record is pending in the consumer's node and is handed out;
    nothing is pending and there is no next node: null; nothing is pending and there is a next node: the consumer moves
    there and the same test is made on that node -/
structure PRSpec (o : UParams) (s : US) (r : List UOp × UObs) : Prop where
  leg : Leg o s r.1 (urun o s r.1)
  out :
    (pend s s.ci ∧ r.2 = .readAt s.ci ((s.nodes s.ci).q.rpos % (s.nodes s.ci).q.cap) ∧ (urun o s r.1).ci = s.ci) ∨
    (¬ pend s s.ci ∧ s.ci = s.pi ∧ r.2 = .null ∧ (urun o s r.1).ci = s.ci) ∨
    (¬ pend s s.ci ∧ s.ci < s.pi ∧ (urun o s r.1).ci = s.ci + 1 ∧
      ∃ p n, r.2 = .switch p n (if pend s (s.ci + 1) then
        .readAt (s.ci + 1) ((s.nodes (s.ci + 1)).q.rpos % (s.nodes (s.ci + 1)).q.cap) else .null))

theorem switch_leg (o : UParams) (f : Flags) (s : US) (hsaw : s.sawNext = true) (heq : s.cnode.q.rpos = s.cnode.q.wcache)
    (hrr : s.reread = true) (ops : List UOp)
    (hops : ops = (if f.commitReadBeforeDelete = true then [UOp.c (.commitR (publishes o.q s.cnode.q))] else []) ++ [.switch]) :
    Leg o s ops (urun o s ops) ∧ (urun o s ops).ci = s.ci + 1 := by
  subst hops
  split
  · have e1 : UEnabled o s (.c (.commitR (publishes o.q s.cnode.q))) := ⟨rfl, trivial, trivial⟩
    have e2 : UEnabled o (ustep o s (.c (.commitR (publishes o.q s.cnode.q)))) .switch := by
      refine ⟨hsaw, ?_, fun _ => ?_⟩
      · simp only [ustep, US.cnode, setNode_same]
        rw [(commitR_q o.q _ _).1, (commitR_q o.q _ _).2]; exact heq
      · simp [ustep, hrr]
    exact ⟨(Leg.one e1 trivial).trans (Leg.one e2 trivial), rfl⟩
  · exact ⟨Leg.one ⟨hsaw, heq, fun _ => hrr⟩ trivial, rfl⟩

theorem prepareRead_spec (o : UParams) (ho : UOrdersOK o) (f : Flags) (s : US) (h : UInv o s) :
    PRSpec o s (apiPrepareRead o f s false 0 0 0 0) := by
  have b1 := br_spec o s h
  unfold apiPrepareRead
  dsimp only
  generalize urun o s (boundedRead s 0) = s1 at b1 ⊢
  have l1 := b1.leg
  have i1 := l1.inv ho h
  have hci1 := i1.ci_lt
  by_cases hp : pend s s.ci
  · rw [if_pos (b1.test.mpr hp)]
    refine ⟨l1.self, Or.inl ⟨hp, ?_, by rw [l1.eq]; exact b1.ci⟩⟩
    simp only [US.cnode, b1.ci, l1.keeps.rpos, l1.keeps.cap]
  · rw [if_neg (fun hh => hp (b1.test.mp hh))]
    by_cases hpub : s1.cnode.published = true
    · -- the producer has left this node: follow `next`
      rw [if_neg (fun hh => hh ⟨hpub, Or.inl rfl⟩), ho.2.2]
      simp only [if_true]
      have l2 : Leg o s1 [.seeNext] (ustep o s1 .seeNext) := Leg.one hpub trivial
      have hsaw2 : (ustep o s1 .seeNext).sawNext = true := rfl
      have hci2 : (ustep o s1 .seeNext).ci = s1.ci := rfl
      generalize ustep o s1 .seeNext = s2 at l2 hsaw2 hci2 ⊢
      have i2 := l2.inv ho i1
      have b3 := br_spec o s2 i2
      have hnp2 : ¬ pend s2 s2.ci := by rw [hci2, l2.keeps.pend, b1.ci, l1.keeps.pend]; exact hp
      generalize urun o s2 (boundedRead s2 0) = s3 at b3 ⊢
      have l3 := b3.leg
      have ht3 : ¬ (s3.cnode.q.wcache ≠ s3.cnode.q.rpos) := fun hh => hnp2 (b3.test.mp hh)
      rw [if_neg ht3]
      obtain ⟨l4, hci4⟩ := switch_leg o f s3 (b3.saw.trans hsaw2) (Decidable.not_not.mp ht3).symm (b3.rr hsaw2 hnp2) _ rfl
      generalize (if f.commitReadBeforeDelete = true then [UOp.c (.commitR (publishes o.q s3.cnode.q))] else []) ++ [UOp.switch]
        = ops4 at l4 hci4 ⊢
      generalize urun o s3 ops4 = s4 at l4 hci4 ⊢
      have l14 := ((l1.trans l2).trans l3).trans l4
      have b5 := br_spec o s4 (l14.inv ho h)
      generalize urun o s4 (boundedRead s4 0) = s5 at b5 ⊢
      have L := l14.trans b5.leg
      have hci5 : s5.ci = s.ci + 1 := by rw [b5.ci, hci4, b3.ci, hci2, b1.ci]
      refine ⟨L.self, Or.inr (Or.inr ⟨hp, ?_, by rw [L.eq]; exact hci5, s3.cnode.q.cap, s5.cnode.q.cap, ?_⟩)⟩
      · rw [← b1.ci, ← l1.keeps.pi]; exact (i1.pub s1.ci hci1).mp hpub
      · show UObs.switch _ _ _ = _
        congr 1
        have htest : s5.cnode.q.wcache ≠ s5.cnode.q.rpos ↔ pend s (s.ci + 1) := by
          rw [b5.test, hci4, b3.ci, hci2, b1.ci, l14.keeps.pend]
        by_cases hp2 : pend s (s.ci + 1)
        · rw [if_pos (htest.mpr hp2), if_pos hp2]
          simp only [US.cnode, hci5, L.keeps.rpos, L.keeps.cap]
        · rw [if_neg (fun hh => hp2 (htest.mp hh)), if_neg hp2]
    · rw [if_pos (fun hh => hpub hh.1)]
      refine ⟨l1.self, Or.inr (Or.inl ⟨hp, ?_, rfl, by rw [l1.eq]; exact b1.ci⟩)⟩
      have hnlt : ¬ s1.ci < s1.pi := fun hh => hpub ((i1.pub s1.ci hci1).mpr hh)
      have := i1.cp
      rw [b1.ci, l1.keeps.pi] at hnlt this
      omega

theorem apiRead_follow (o : UParams) (f : Flags) (fuel : Nat) (s : US) (p n : Nat)
    (h : (apiPrepareRead o f s false 0 0 0 0).2 = .switch p n .null) :
    apiRead true o f (fuel + 1) s =
      ((apiPrepareRead o f s false 0 0 0 0).1 ++
          (apiRead true o f fuel (urun o s (apiPrepareRead o f s false 0 0 0 0).1)).1,
        .switch p n (apiRead true o f fuel (urun o s (apiPrepareRead o f s false 0 0 0 0).1)).2) := by
  rw [apiRead]
  dsimp only
  rw [h]
  rfl

theorem apiRead_stop (follow : Bool) (o : UParams) (f : Flags) (fuel : Nat) (s : US)
    (h : ∀ p n, (apiPrepareRead o f s false 0 0 0 0).2 ≠ .switch p n .null) :
    apiRead follow o f (fuel + 1) s = apiPrepareRead o f s false 0 0 0 0 := by
  rw [apiRead]
  dsimp only
  split
  · next p n heq => exact absurd heq (h p n)
  · rfl

theorem apiRead_nofollow (o : UParams) (f : Flags) (fuel : Nat) (s : US) :
    apiRead false o f (fuel + 1) s = apiPrepareRead o f s false 0 0 0 0 := by
  rw [apiRead]
  dsimp only
  split <;> rfl

structure ReadSpec (o : UParams) (s : US) (r : List UOp × UObs) : Prop where
  leg : Leg o s r.1 (urun o s r.1)
  out :
    (r.2.final = .null ∧ ∀ k, s.ci ≤ k → k ≤ s.pi → ¬ pend s k) ∨
    (∃ nd, r.2.final = .readAt nd ((s.nodes nd).q.rpos % (s.nodes nd).q.cap) ∧ s.ci ≤ nd ∧ nd ≤ s.pi ∧ pend s nd ∧
      ∀ k, s.ci ≤ k → k < nd → ¬ pend s k)

theorem apiRead_spec (o : UParams) (ho : UOrdersOK o) (f : Flags) :
    ∀ (fuel : Nat) (s : US), UInv o s → s.pi - s.ci < fuel → ReadSpec o s (apiRead true o f fuel s)
  | 0, _, _, hf => absurd hf (Nat.not_lt_zero _)
  | fuel + 1, s, h, hf => by
    have sp := prepareRead_spec o ho f s h
    rcases sp.out with ⟨hp, hobs, _⟩ | ⟨hp, hcp, hobs, _⟩ | ⟨hp, hlt, hci', p, n, hobs⟩
    · rw [apiRead_stop true o f fuel s (by intro p n; rw [hobs]; exact fun hh => by cases hh)]
      refine ⟨sp.leg, Or.inr ⟨s.ci, ?_, Nat.le_refl _, h.cp, hp, fun k h1 h2 => absurd (Nat.lt_of_le_of_lt h1 h2) (Nat.lt_irrefl _)⟩⟩
      rw [hobs]; rfl
    · rw [apiRead_stop true o f fuel s (by intro p n; rw [hobs]; exact fun hh => by cases hh)]
      refine ⟨sp.leg, Or.inl ⟨by rw [hobs]; rfl, fun k h1 h2 => ?_⟩⟩
      rw [Nat.le_antisymm (hcp ▸ h2) h1]; exact hp
    · by_cases hp2 : pend s (s.ci + 1)
      · rw [if_pos hp2] at hobs
        rw [apiRead_stop true o f fuel s (by intro p' n'; rw [hobs]; exact fun hh => by cases hh)]
        refine ⟨sp.leg, Or.inr ⟨s.ci + 1, by rw [hobs]; rfl, Nat.le_succ _, hlt, hp2, fun k h1 h2 => ?_⟩⟩
        rw [Nat.le_antisymm (Nat.le_of_lt_succ h2) h1]; exact hp
      · rw [if_neg hp2] at hobs
        rw [apiRead_follow o f fuel s p n hobs]
        have l := sp.leg
        generalize urun o s (apiPrepareRead o f s false 0 0 0 0).1 = s' at l hci' ⊢
        have hk := l.keeps
        have ih := apiRead_spec o ho f fuel s' (l.inv ho h) (by rw [hk.pi, hci']; omega)
        have hnext {k : Nat} (hk1 : s.ci ≤ k) (hkc : k ≠ s.ci) : s'.ci ≤ k := by
          rw [hci']; exact Nat.lt_of_le_of_ne hk1 (Ne.symm hkc)
        refine ⟨(l.trans ih.leg).self, ?_⟩
        rcases ih.out with ⟨hn, hall⟩ | ⟨nd, hr, h1, h2, h3, h4⟩
        · refine Or.inl ⟨hn, fun k hk1 hk2 => ?_⟩
          by_cases hkc : k = s.ci
          · rw [hkc]; exact hp
          · rw [← hk.pend]; exact hall k (hnext hk1 hkc) (by rw [hk.pi]; exact hk2)
        · refine Or.inr ⟨nd, ?_, Nat.le_of_succ_le (by rw [hci'] at h1; exact h1), by rw [← hk.pi]; exact h2, (hk.pend nd).mp h3, fun k hk1 hk2 => ?_⟩
          · show (apiRead true o f fuel s').2.final = _
            rw [hr, hk.rpos nd, hk.cap nd]
          · by_cases hkc : k = s.ci
            · rw [hkc]; exact hp
            · rw [← hk.pend]; exact h4 k (hnext hk1 hkc) hk2

end Uspsc
