import QuillModel.Uspsc.NodeStep
/-! Invariant of the node chain and safety of every enabled step. -/
namespace Uspsc
open Spsc

structure UInv (o : UParams) (s : US) : Prop where
  len : s.n = s.pi + 1
  cp : s.ci ≤ s.pi
  qinv : ∀ k, k < s.n → QInv (s.nodes k).q
  pub : ∀ k, k < s.n → ((s.nodes k).published = true ↔ k < s.pi)
  sealK : ∀ k, k < s.pi → (s.nodes k).q.wHist.headD 0 = (s.nodes k).q.wpos
  floorLe : ∀ k, k < s.n → (s.nodes k).wFloor ≤ (s.nodes k).q.wHist.headD 0
  saw : s.sawNext = true → s.ci < s.pi
  sawEq : s.sawNext = true → s.sawSync = o.syncNext
  sync : s.sawSync = true → s.sawNext = true ∧ s.cnode.wFloor = s.cnode.q.wpos
  rr : s.reread = true → s.sawNext = true ∧ (s.sawSync = true → s.cnode.q.wcache = s.cnode.q.wpos)
  /-- `QInv` has `rHist ≠ []` only; the newest load of a writer position needs the same of `wHist`, of every node -/
  wh : ∀ k, (s.nodes k).q.wHist ≠ []

theorem producer_head (o : Params) (q : St) (op : Op) (hq : QInv q) (h : isProducerOp op = true) :
    q.wHist.headD 0 ≤ (step o q op).wHist.headD 0 := by
  cases op with
  | reloadR v => exact Nat.le_refl _
  | write n => exact Nat.le_refl _
  | commitW => exact hq.wNew
  | _ => simp [isProducerOp] at h

theorem uinit_inv (o : UParams) (cap : Nat) (batch : Nat → Nat) (hc : 0 < cap) : UInv o (uinit cap batch) :=
  { len := rfl, cp := Nat.le_refl _, qinv := fun _ _ => init_inv cap (batch cap) hc,
    pub := fun k _ => ⟨fun h => (nomatch h), fun h => absurd h (Nat.not_lt_zero k)⟩,
    sealK := fun k hk => absurd hk (Nat.not_lt_zero k), floorLe := fun _ _ => Nat.zero_le _,
    saw := fun h => (nomatch h), sawEq := fun h => (nomatch h), sync := fun h => (nomatch h),
    rr := fun h => (nomatch h), wh := fun _ => List.cons_ne_nil _ _ }

theorem UInv.pi_lt {o : UParams} {s : US} (h : UInv o s) : s.pi < s.n := h.len ▸ Nat.lt_succ_self _
theorem UInv.ci_lt {o : UParams} {s : US} (h : UInv o s) : s.ci < s.n := Nat.lt_of_le_of_lt h.cp h.pi_lt
theorem UInv.lt_pi {o : UParams} {s : US} (h : UInv o s) {k : Nat} (hk : k < s.n) (hne : k ≠ s.pi) : k < s.pi :=
  Nat.lt_of_le_of_ne (Nat.le_of_lt_succ (h.len ▸ hk : k < s.pi + 1)) hne

/-- what the chain invariant says of node `k` while the producer is on node `pi` -/
structure NodeOK (pi k : Nat) (nd : Node) : Prop where
  qinv : QInv nd.q
  pub : nd.published = true ↔ k < pi
  sealK : k < pi → nd.q.wHist.headD 0 = nd.q.wpos
  floorLe : nd.wFloor ≤ nd.q.wHist.headD 0

section
variable {o : UParams} {s : US}

theorem UInv.node (h : UInv o s) {k : Nat} (hk : k < s.n) : NodeOK s.pi k (s.nodes k) :=
  ⟨h.qinv k hk, h.pub k hk, h.sealK k, h.floorLe k hk⟩

theorem UInv.of_node (len : s.n = s.pi + 1) (cp : s.ci ≤ s.pi) (node : ∀ k, k < s.n → NodeOK s.pi k (s.nodes k))
    (saw : s.sawNext = true → s.ci < s.pi) (sawEq : s.sawNext = true → s.sawSync = o.syncNext)
    (sync : s.sawSync = true → s.sawNext = true ∧ s.cnode.wFloor = s.cnode.q.wpos)
    (rr : s.reread = true → s.sawNext = true ∧ (s.sawSync = true → s.cnode.q.wcache = s.cnode.q.wpos))
    (wh : ∀ k, (s.nodes k).q.wHist ≠ []) : UInv o s :=
  { len, cp, saw, sawEq, sync, rr, wh, qinv := fun k hk => (node k hk).qinv, pub := fun k hk => (node k hk).pub,
    sealK := fun k hk => (node k (Nat.lt_trans hk (len ▸ Nat.lt_succ_self _))).sealK hk,
    floorLe := fun k hk => (node k hk).floorLe }

/-- every node that exists after the step is in order: a node of the chain behaves as a bounded queue (`step_inv`), the
node the producer leaves is sealed because `publish` requires everything committed, the fresh node is `init` -/
theorem nodeOK_ustep (ho : UOrdersOK o) (op : UOp) (h : UInv o s) (he : UEnabled o s op) (k : Nat)
    (hk : k < (ustep o s op).n) : NodeOK (ustep o s op).pi k ((ustep o s op).nodes k) := by
  obtain ⟨hoq, hsync, _⟩ := ho
  have hm := nodeMove o s op k
  generalize (ustep o s op).nodes k = nd at hm ⊢
  induction hm with
  | @same op' hna =>
    rcases ustep_n_pi o s op' with ⟨⟨c, rfl⟩, en, ep⟩ | ⟨_, en, ep⟩
    · -- a `publish` elsewhere: the node is below the producer's old node
      rw [ep]; rw [en] at hk
      have hk' : k < s.n := Nat.lt_of_le_of_ne (Nat.le_of_lt_succ hk) (fun e => hna (.inr e))
      have hlt : k < s.pi := h.lt_pi hk' (fun e => hna (.inl e))
      have n := h.node hk'
      exact ⟨n.qinv, ⟨fun _ => hk', fun _ => n.pub.mpr hlt⟩, fun _ => n.sealK hlt, n.floorLe⟩
    · rw [ep]; exact h.node (en ▸ hk)
  | sameSee _ hs => rw [hs] at hsync; cases hsync
  | prod bop hkp =>
    have n := h.node (k := k) hk
    exact ⟨step_inv o.q hoq _ bop n.qinv (hkp ▸ he.2), n.pub, fun hlt => absurd hkp (Nat.ne_of_lt hlt),
      Nat.le_trans n.floorLe (producer_head o.q _ bop n.qinv he.1)⟩
  | cons bop hkc =>
    have n := h.node (k := k) hk
    have f := consumer_frame o.q (s.nodes k).q bop he.1
    refine ⟨step_inv o.q hoq _ bop n.qinv (hkc ▸ he.2.1), n.pub, fun hlt => ?_, ?_⟩
    · show (step o.q (s.nodes k).q bop).wHist.headD 0 = (step o.q (s.nodes k).q bop).wpos
      rw [f.wHist, f.wpos]; exact n.sealK hlt
    · show _ ≤ (step o.q (s.nodes k).q bop).wHist.headD 0
      rw [f.wHist]; exact n.floorLe
  | sealed c hkp hkn =>
    have hlt : k < s.n := hkp ▸ h.pi_lt
    have n := h.node hlt
    exact ⟨n.qinv, ⟨fun _ => hlt, fun _ => rfl⟩, fun _ => hkp ▸ he.2, n.floorLe⟩
  | fresh c hkn =>
    exact ⟨init_inv c _ he.1, ⟨fun hp => (nomatch hp), fun hlt => absurd hkn (Nat.ne_of_lt hlt)⟩,
      fun hlt => absurd hkn (Nat.ne_of_lt hlt), Nat.zero_le _⟩
  | floor hkc =>
    have n := h.node (k := k) hk
    exact ⟨n.qinv, n.pub, n.sealK, Nat.le_of_eq (n.sealK (n.pub.mp (hkc ▸ he))).symm⟩

end

theorem ustep_inv (o : UParams) (ho : UOrdersOK o) (s : US) (op : UOp) (h : UInv o s)
    (he : UEnabled o s op) : UInv o (ustep o s op) := by
  -- the clauses about each node are `nodeOK_ustep`; what remains in every case are `sync` and `rr`, about the consumer's node
  have node := nodeOK_ustep ho op h he
  have hwh : ∀ k, ((ustep o s op).nodes k).q.wHist ≠ [] := fun k =>
    ustep_q_pred (P := fun q => q.wHist ≠ []) o s op k (fun q bop => step_wh o.q q bop) (fun _ _ => List.cons_ne_nil _ _) (h.wh k)
  obtain ⟨hoq, hsync, _⟩ := ho
  have hpiLt := h.pi_lt
  have hciLt := h.ci_lt
  cases op with
  | p op =>
    have hcn (hsn : s.sawNext = true) : (ustep o s (.p op)).cnode = s.cnode :=
      setNode_other _ _ (Nat.ne_of_lt (h.saw hsn))
    refine UInv.of_node h.len h.cp node h.saw h.sawEq (fun hs => ?_) (fun hr => ?_) hwh
    · have ⟨hsn, hfl⟩ := h.sync hs
      exact ⟨hsn, (hcn hsn).symm ▸ hfl⟩
    · have ⟨hsn, hw⟩ := h.rr hr
      exact ⟨hsn, fun hs => (hcn hsn).symm ▸ hw hs⟩
  | c op =>
    obtain ⟨hcons, hen, hfloor⟩ := he
    have hq := h.qinv s.ci hciLt
    have kw := (consumer_frame o.q s.cnode.q op hcons).wpos
    have hcn : (ustep o s (.c op)).cnode = { s.cnode with q := step o.q s.cnode.q op } := setNode_same ..
    refine UInv.of_node h.len h.cp node h.saw h.sawEq (fun hs => ?_) (fun hr => ?_) hwh
    · have ⟨hsn, hfl⟩ := h.sync hs
      refine ⟨hsn, ?_⟩
      rw [hcn]
      show s.cnode.wFloor = (step o.q s.cnode.q op).wpos
      rw [kw]; exact hfl
    · have hr : (s.reread || (s.sawNext && isLoadW op)) = true := hr
      have hsn : s.sawNext = true := by
        rcases Bool.or_eq_true _ _ |>.mp hr with h1 | h1
        · exact (h.rr h1).1
        · exact (Bool.and_eq_true _ _ |>.mp h1).1
      refine ⟨hsn, fun hs => ?_⟩
      have ⟨_, hfl⟩ := h.sync hs
      rw [hcn]
      show (step o.q s.cnode.q op).wcache = (step o.q s.cnode.q op).wpos
      rw [kw]
      cases op with
      | loadW v =>
        -- the floor makes the load return the final writer position
        exact Nat.le_antisymm (Nat.le_trans (hq.whLe v hen.1) hq.wNew) (hfl ▸ hfloor)
      | read n =>
        have hold : s.reread = true := by simpa [isLoadW] using hr
        exact (h.rr hold).2 hs
      | commitR b =>
        have hold : s.reread = true := by simpa [isLoadW] using hr
        rw [(commitR_q o.q s.cnode.q b).2]
        exact (h.rr hold).2 hs
      | reloadR v => simp [isConsumerOp] at hcons
      | write n => simp [isConsumerOp] at hcons
      | commitW => simp [isConsumerOp] at hcons
  | publish cap' =>
    have hcn : (ustep o s (.publish cap')).cnode =
        setNode s.nodes s.pi { s.pnode with published := true } s.ci := setNode_other _ _ (Nat.ne_of_lt hciLt)
    refine UInv.of_node rfl (Nat.le_trans h.cp (Nat.le_of_lt hpiLt)) node (fun hs => Nat.lt_trans (h.saw hs) hpiLt)
      h.sawEq (fun hs => ?_) (fun hr => ?_) hwh
    · have ⟨hsn, hfl⟩ := h.sync hs
      refine ⟨hsn, ?_⟩
      rw [hcn]
      exact setNode_cases (P := fun nd => nd.wFloor = nd.q.wpos) _ _ s.ci _ (fun e => by rw [US.cnode, e] at hfl; exact hfl) (fun _ => hfl)
    · have ⟨hsn, hw⟩ := h.rr hr
      refine ⟨hsn, fun hs => ?_⟩
      rw [hcn]
      exact setNode_cases (P := fun nd => nd.q.wcache = nd.q.wpos) _ _ s.ci _ (fun e => by have := hw hs; rw [US.cnode, e] at this; exact this) (fun _ => hw hs)
  | seeNext =>
    have hlt : s.ci < s.pi := (h.pub s.ci hciLt).mp he
    refine UInv.of_node h.len h.cp node (fun _ => hlt) (fun _ => rfl) (fun _ => ⟨rfl, ?_⟩) (fun hr => nomatch hr) hwh
    simp [ustep, hsync, US.cnode, setNode_same]
  | switch =>
    refine UInv.of_node h.len (h.saw he.1) node ?_ ?_ ?_ ?_ hwh <;> simp [ustep]

theorem ustep_safe (o : UParams) (ho : UOrdersOK o) (s : US) (op : UOp) (h : UInv o s)
    (he : UEnabled o s op) : USafe s op := by
  obtain ⟨_, hsync, hrr⟩ := ho
  cases op with
  | p op => exact ⟨h.cp, step_safe _ op (h.qinv s.pi h.pi_lt) he.2⟩
  | c op => exact step_safe _ op (h.qinv s.ci h.ci_lt) he.2.1
  | publish c => trivial
  | seeNext => trivial
  | switch =>
    obtain ⟨hsn, hrw, hre⟩ := he
    have hss : s.sawSync = true := by rw [h.sawEq hsn]; exact hsync
    have hwc := (h.rr (hre hrr)).2 hss
    refine ⟨all_read (h.qinv s.ci h.ci_lt) (hrw.trans hwc), hss, h.saw hsn⟩

theorem ureachable_inv (o : UParams) (ho : UOrdersOK o) :
    ∀ (ops : List UOp) (s : US), UInv o s → URun o s ops → UInv o (urun o s ops)
  | [], _, h, _ => h
  | op :: ops, s, h, hr => ureachable_inv o ho ops _ (ustep_inv o ho s op h hr.1) hr.2

theorem usafeB_iff (s : US) (op : UOp) : usafeB s op = true ↔ USafe s op := by
  cases op <;> simp [usafeB, USafe, safeB_iff, and_assoc]

end Uspsc
