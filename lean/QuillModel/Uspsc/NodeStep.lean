import QuillModel.Uspsc.Model
import QuillModel.Spsc.Proofs
/-! What one step of the chain does to one node (`NodeMove`, `nodeMove`): a node is
left alone, takes a bounded micro-step of the producer (only node `pi`) or of the consumer (only node `ci`), is sealed
or freshly allocated by a `publish`, or gets its floor raised by `seeNext`. A fact about every node `k` of `ustep` is a
case analysis over `NodeMove` (`ustep_q_rel`, `ustep_q_pred` where only the queue matters); the flags and the nodes
`cnode`/`pnode` themselves are read off `ustep`/`setNode` directly. -/
namespace Uspsc
open Spsc

/-- `q'` has what the producer owns of `q`. A consumer step changes none of it, and no step at all once the producer has
    left the node. -/
structure ProducerSame (q q' : St) : Prop where
  recs : q'.recs = q.recs
  wpos : q'.wpos = q.wpos
  wHist : q'.wHist = q.wHist
  cap : q'.cap = q.cap

theorem ProducerSame.refl (q : St) : ProducerSame q q := ⟨rfl, rfl, rfl, rfl⟩

theorem ProducerSame.trans {a b c : St} (h : ProducerSame a b) (h' : ProducerSame b c) : ProducerSame a c :=
  ⟨h'.recs.trans h.recs, h'.wpos.trans h.wpos, h'.wHist.trans h.wHist, h'.cap.trans h.cap⟩

theorem consumer_frame (o : Params) (q : St) (op : Op) (h : isConsumerOp op = true) : ProducerSame q (step o q op) := by
  cases op with
  | loadW v => exact ⟨rfl, rfl, rfl, rfl⟩
  | read n => exact ⟨rfl, rfl, rfl, rfl⟩
  | commitR b => cases b <;> exact ⟨rfl, rfl, rfl, rfl⟩
  | _ => cases h

theorem setNode_same (f : Nat → Node) (i : Nat) (nd : Node) : setNode f i nd i = nd := if_pos rfl
theorem setNode_other (f : Nat → Node) {i k : Nat} (nd : Node) (h : k ≠ i) : setNode f i nd k = f k := if_neg h

theorem setNode_cases {P : Node → Prop} (f : Nat → Node) (i k : Nat) (nd : Node)
    (h1 : k = i → P nd) (h2 : k ≠ i → P (f k)) : P (setNode f i nd k) := by
  by_cases hk : k = i
  · rw [hk, setNode_same]; exact h1 hk
  · rw [setNode_other f nd hk]; exact h2 hk

def addressed (s : US) (k : Nat) : UOp → Prop
  | .p _ => k = s.pi
  | .c _ => k = s.ci
  | .publish _ => k = s.pi ∨ k = s.n
  | .seeNext => k = s.ci
  | .switch => False

inductive NodeMove (o : UParams) (s : US) (k : Nat) : UOp → Node → Prop
  | same {op : UOp} (h : ¬ addressed s k op) : NodeMove o s k op (s.nodes k)
  | sameSee (hk : k = s.ci) (hs : o.syncNext = false) : NodeMove o s k .seeNext (s.nodes k)
  | prod (bop : Op) (hk : k = s.pi) : NodeMove o s k (.p bop) { s.nodes k with q := step o.q (s.nodes k).q bop }
  | cons (bop : Op) (hk : k = s.ci) : NodeMove o s k (.c bop) { s.nodes k with q := step o.q (s.nodes k).q bop }
  | sealed (c : Nat) (hk : k = s.pi) (h2 : k ≠ s.n) : NodeMove o s k (.publish c) { s.nodes k with published := true }
  | fresh (c : Nat) (hk : k = s.n) : NodeMove o s k (.publish c) { q := init c (s.batch c) }
  | floor (hk : k = s.ci) : NodeMove o s k .seeNext { s.nodes k with wFloor := (s.nodes k).q.wpos }

theorem nodeMove (o : UParams) (s : US) (op : UOp) (k : Nat) : NodeMove o s k op ((ustep o s op).nodes k) := by
  cases op with
  | p bop => exact setNode_cases (P := NodeMove o s k _) _ _ k _ (fun e => by subst e; exact .prod bop rfl) (fun h => .same h)
  | c bop => exact setNode_cases (P := NodeMove o s k _) _ _ k _ (fun e => by subst e; exact .cons bop rfl) (fun h => .same h)
  | publish c =>
    refine setNode_cases (P := NodeMove o s k _) _ _ k _ (.fresh c) (fun h2 => ?_)
    exact setNode_cases (P := NodeMove o s k _) _ _ k _ (fun e => by subst e; exact .sealed c rfl h2)
      (fun h1 => .same (fun h => h.elim h1 h2))
  | seeNext =>
    cases hs : o.syncNext with
    | true =>
      simp only [ustep, hs, if_true]
      exact setNode_cases (P := NodeMove o s k _) _ _ k _ (fun e => by subst e; exact .floor rfl) (fun h => .same h)
    | false =>
      simp only [ustep, hs, Bool.false_eq_true, if_false]
      by_cases hk : k = s.ci
      · exact .sameSee hk hs
      · exact .same hk
  | switch => exact .same id

theorem ustep_n_pi (o : UParams) (s : US) (op : UOp) :
    ((∃ c, op = .publish c) ∧ (ustep o s op).n = s.n + 1 ∧ (ustep o s op).pi = s.n) ∨
    ((∀ c, op ≠ .publish c) ∧ (ustep o s op).n = s.n ∧ (ustep o s op).pi = s.pi) := by
  cases op with
  | publish c => exact .inl ⟨⟨c, rfl⟩, rfl, rfl⟩
  | _ => exact .inr ⟨nofun, rfl, rfl⟩

theorem ustep_q_rel {R : St → St → Prop} (o : UParams) (s : US) (op : UOp) (k : Nat) (hk : k < s.n)
    (refl : R (s.nodes k).q (s.nodes k).q)
    (hp : ∀ bop, op = .p bop → k = s.pi → R (s.nodes k).q (step o.q (s.nodes k).q bop))
    (hc : ∀ bop, op = .c bop → k = s.ci → R (s.nodes k).q (step o.q (s.nodes k).q bop)) :
    R (s.nodes k).q ((ustep o s op).nodes k).q := by
  have hm := nodeMove o s op k
  generalize (ustep o s op).nodes k = nd at hm ⊢
  induction hm with
  | same | sameSee | sealed | floor => exact refl
  | prod bop hkp => exact hp bop rfl hkp
  | cons bop hkc => exact hc bop rfl hkc
  | fresh c hkn => exact absurd hkn (Nat.ne_of_lt hk)

theorem ustep_q_pred {P : St → Prop} (o : UParams) (s : US) (op : UOp) (k : Nat)
    (hstep : ∀ q bop, P q → P (step o.q q bop)) (hinit : ∀ c b, P (init c b)) (h : P (s.nodes k).q) :
    P ((ustep o s op).nodes k).q := by
  have hm := nodeMove o s op k
  generalize (ustep o s op).nodes k = nd at hm ⊢
  induction hm with
  | same | sameSee | sealed | floor => exact h
  | prod bop | cons bop => exact hstep _ bop h
  | fresh c => exact hinit _ _

end Uspsc
