import QuillModel.Uspsc.Trace
import QuillModel.Uspsc.ReadPass
import QuillModel.MathUtil.NextPow2
/-!
# Unbounded queue: `shrink` (helpers for `Props/C20Shrink.lean`)

Anchors: `include/quill/core/UnboundedSPSCQueue.h` — `shrink(capacity)`, `producer_capacity()` (what
`Frontend::get_thread_local_queue_capacity()` reports), `capacity()` (consumer side), `_read_next_queue`.

A node the producer has left is frozen: no later step changes its records, its final writer position or its capacity,
and the producer never returns to it. (`nextPow2`: `MathUtil/NextPow2.lean`.)
-/
namespace Uspsc
open Spsc

/-- `producer_capacity()`: capacity of the node the producer writes to (reported to the logging thread) -/
def producerCapacity (s : US) : Nat := s.pnode.q.cap
/-- `capacity()`: capacity of the node the consumer reads from -/
def consumerCapacity (s : US) : Nat := s.cnode.q.cap

theorem apiShrink_alloc (s : US) (c : Nat) (hc : c ≤ s.pnode.q.cap / 2) :
    apiShrink s c = ([.publish (nextPow2 c)], .shrunk (nextPow2 c)) := by
  simp only [apiShrink, (shrink_allocates_iff _ _).mpr hc, if_true]

theorem apiShrink_noop (s : US) (c : Nat) (hc : s.pnode.q.cap / 2 < c) : apiShrink s c = ([], .noshrink) := by
  have : shrinkAllocates s.pnode.q.cap c = false := by
    cases h : shrinkAllocates s.pnode.q.cap c
    · rfl
    · have := (shrink_allocates_iff _ _).mp h; omega
  simp only [apiShrink, this]
  rfl

theorem publish_pnode (o : UParams) (s : US) (c : Nat) :
    (ustep o s (.publish c)).pnode = { q := init c (s.batch c) } := by
  simp [ustep, US.pnode, setNode]

theorem publish_old (o : UParams) (s : US) (c : Nat) (h : s.pi ≠ s.n) :
    ((ustep o s (.publish c)).nodes s.pi).q = s.pnode.q ∧ ((ustep o s (.publish c)).nodes s.pi).published = true := by
  simp [ustep, US.pnode, setNode, h]

theorem ustep_left_frozen (o : UParams) (s : US) (op : UOp) (h : UInv o s) (he : UEnabled o s op) (k : Nat)
    (hk : k < s.pi) : ProducerSame (s.nodes k).q ((ustep o s op).nodes k).q ∧ s.pi ≤ (ustep o s op).pi := by
  refine ⟨?_, ?_⟩
  · -- the producer is elsewhere
    refine ustep_q_rel (R := ProducerSame) o s op k (Nat.lt_trans hk h.pi_lt) (.refl _)
      (fun _ _ hkp => absurd hkp (Nat.ne_of_lt hk)) (fun bop e _ => ?_)
    subst e
    exact consumer_frame o.q (s.nodes k).q bop he.1
  · rcases ustep_n_pi o s op with ⟨_, _, e⟩ | ⟨_, _, e⟩ <;> rw [e]
    · exact Nat.le_of_lt h.pi_lt
    · exact Nat.le_refl _

theorem urun_left_frozen (o : UParams) (ho : UOrdersOK o) : ∀ (ops : List UOp) (s : US), UInv o s → URun o s ops →
    ∀ k, k < s.pi → ProducerSame (s.nodes k).q ((urun o s ops).nodes k).q ∧ s.pi ≤ (urun o s ops).pi
  | [], _, _, _, _, _ => ⟨.refl _, Nat.le_refl _⟩
  | op :: ops, s, h, hr, k, hk => by
    obtain ⟨a, hp⟩ := ustep_left_frozen o s op h hr.1 k hk
    obtain ⟨b, hp'⟩ := urun_left_frozen o ho ops (ustep o s op) (ustep_inv o ho s op h hr.1) hr.2 k
      (Nat.lt_of_lt_of_le hk hp)
    exact ⟨a.trans b, Nat.le_trans hp hp'⟩

theorem ustep_cap_frozen (o : UParams) (s : US) (op : UOp) (k : Nat) (hk : k < s.n) :
    ((ustep o s op).nodes k).q.cap = (s.nodes k).q.cap ∧ s.n ≤ (ustep o s op).n := by
  refine ⟨ustep_q_rel (R := fun q q' => q'.cap = q.cap) o s op k hk rfl (fun _ _ _ => step_cap ..) (fun _ _ _ => step_cap ..), ?_⟩
  rcases ustep_n_pi o s op with ⟨_, e, _⟩ | ⟨_, e, _⟩ <;> rw [e]
  · exact Nat.le_succ _
  · exact Nat.le_refl _

theorem urun_cap_frozen (o : UParams) : ∀ (ops : List UOp) (s : US) (k : Nat), k < s.n →
    ((urun o s ops).nodes k).q.cap = (s.nodes k).q.cap ∧ s.n ≤ (urun o s ops).n
  | [], _, _, _ => ⟨rfl, Nat.le_refl _⟩
  | op :: ops, s, k, hk => by
    obtain ⟨a, hn⟩ := ustep_cap_frozen o s op k hk
    obtain ⟨b, hn'⟩ := urun_cap_frozen o ops (ustep o s op) k (Nat.lt_of_lt_of_le hk hn)
    exact ⟨b.trans a, Nat.le_trans hn hn'⟩

/-- A node the producer left by a `publish`, at the moment the consumer is about to free it: `post` cannot write to a node
    left of the producer (`urun_left_frozen`) nor change the capacity of a node once it is allocated (`urun_cap_frozen`), so
    the consumer's node holds what it held at the publication; the enabled `switch` says all of it has been read
    (`ustep_safe`), and the node the consumer moves to has the published capacity. -/
theorem left_node_drained (o : UParams) (ho : UOrdersOK o) (s0 : US) (h0 : UInv o s0) (c : Nat)
    (hpub : UEnabled o s0 (.publish c)) (post : List UOp) (hpost : URun o (ustep o s0 (.publish c)) post)
    (hsw : UEnabled o (urun o (ustep o s0 (.publish c)) post) .switch)
    (hci : (urun o (ustep o s0 (.publish c)) post).ci = s0.pi) :
    (urun o (ustep o s0 (.publish c)) post).cnode.q.recs = s0.pnode.q.recs ∧
    (urun o (ustep o s0 (.publish c)) post).cnode.q.nread = s0.pnode.q.recs.length ∧
    (urun o (ustep o s0 (.publish c)) post).cnode.q.rpos = s0.pnode.q.wpos ∧
    (urun o (ustep o s0 (.publish c)) post).sawSync = true ∧
    (urun o (ustep o s0 (.publish c)) post).ci < (urun o (ustep o s0 (.publish c)) post).pi ∧
    consumerCapacity (ustep o (urun o (ustep o s0 (.publish c)) post) .switch) = c := by
  have h1 := ustep_inv o ho s0 _ h0 hpub
  have hE := ureachable_inv o ho post _ h1 hpost
  obtain ⟨hall, hss, hlt⟩ := ustep_safe o ho _ .switch hE hsw
  obtain ⟨hq1, _⟩ := publish_old o s0 c (Nat.ne_of_lt h0.pi_lt)
  obtain ⟨f, _⟩ := urun_left_frozen o ho post _ h1 hpost s0.pi h0.pi_lt
  have f1 := f.recs
  have f2 := f.wpos
  obtain ⟨fc, _⟩ := urun_cap_frozen o post (ustep o s0 (.publish c)) s0.n (Nat.lt_succ_self _)
  generalize urun o (ustep o s0 (.publish c)) post = sE at *
  obtain ⟨hsn, hrw, hre⟩ := hsw
  have hwc := (hE.rr (hre ho.2.2)).2 hss
  have hcn : sE.cnode = sE.nodes s0.pi := by rw [US.cnode, hci]
  rw [hcn] at hall hrw hwc ⊢
  rw [hq1] at f1 f2
  refine ⟨f1, by rw [hall, f1], by rw [hrw, hwc, f2], hss, hlt, ?_⟩
  show (sE.nodes (sE.ci + 1)).q.cap = c
  rw [hci, ← h0.len, fc]
  exact congrArg (·.q.cap) (publish_pnode o s0 c)

end Uspsc
