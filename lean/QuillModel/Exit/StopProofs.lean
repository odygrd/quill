import QuillModel.Exit.Stop
import QuillModel.Exit.Proofs
/-! Lemmas for the "signal while another thread is inside `stop()`" model: invariant for any order of the stop sequence, conservation, the handler inside `stop()`. -/
namespace Exit

theorem CS.ctx_frontend (a : CS) (s : Sig) (pr : Bool) (hid : a.idSet = true) : a.ctx s pr = Ctx.frontend s pr := by
  simp only [CS.ctx, Ctx.frontend, hid]

theorem CS.ok_init (f : Fe) : (CS.init f).ok = true := rfl

theorem CS.ok_iff (c : CS) : c.ok = true ↔
    c.pc ≤ 6 ∧ c.idSet = decide (c.pc < 6) ∧ c.running = decide (c.pc = 0) ∧ (c.ended = false ∨ c.serving = false) ∧
    (c.pc < 3 ∨ c.ended = true) ∧ (c.running = false ∨ c.serving = true) := by
  simp only [CS.ok, Bool.and_eq_true, Bool.or_eq_true, decide_eq_true_eq, beq_iff_eq, Bool.not_eq_true', and_assoc]

theorem mem_take_succ {α} {l : List α} {n : Nat} {x : α} (h : l[n]? = some x) (y : α) :
    y ∈ l.take (n + 1) ↔ y ∈ l.take n ∨ y = x := by
  rw [List.take_add_one, h]; simp

structure CS.Inv (seq : List SStep) (c : CS) : Prop where
  idSet : c.idSet = false ↔ SStep.clearCtxId ∈ seq.take c.pc
  joined : SStep.join ∈ seq.take c.pc → c.ended = true
  ended : c.ended = true → c.serving = false
  served : c.serving = false → c.running = false

theorem CS.inv_init (seq : List SStep) (f : Fe) : (CS.init f).Inv seq :=
  ⟨by simp [CS.init], by simp [CS.init], fun h => (nomatch h), fun h => (nomatch h)⟩

theorem CS.inv_step (seq : List SStep) (wait : Bool) (c : CS) (ev : Ev) (h : c.Inv seq) : (c.step seq wait ev).Inv seq := by
  obtain ⟨h1, h2, h3, h4⟩ := h
  cases ev with
  | stopper =>
    simp only [CS.step]
    -- the step at `seq[c.pc]?`: none left, `clearCtxId`, `exchangeRunning`, `join`, any other
    split
    · exact ⟨h1, h2, h3, h4⟩
    · rename_i hx
      exact ⟨by simp [mem_take_succ hx], fun hj => h2 (by simpa [mem_take_succ hx] using hj), h3, h4⟩
    · rename_i hx
      exact ⟨by simpa [mem_take_succ hx] using h1, fun hj => h2 (by simpa [mem_take_succ hx] using hj), h3, fun _ => rfl⟩
    · rename_i hx
      split
      · rename_i he
        exact ⟨by simpa [mem_take_succ hx] using h1, fun _ => he, h3, h4⟩
      · exact ⟨h1, h2, h3, h4⟩
    · rename_i x n1 _ n3 hx
      -- a step that changes no flag the invariant speaks of
      have e1 : SStep.clearCtxId ≠ x := fun e => n1 e.symm
      have e3 : SStep.join ≠ x := fun e => n3 e.symm
      exact ⟨by simpa [mem_take_succ hx, e1] using h1, fun hj => h2 (by simpa [mem_take_succ hx, e3] using hj), h3, h4⟩
  | bgWrite k => simp only [CS.step]; split <;> exact ⟨h1, h2, h3, h4⟩
  | bgLastCheck =>
    simp only [CS.step]; split
    · rename_i hc
      simp only [Bool.and_eq_true, Bool.not_eq_true'] at hc
      exact ⟨h1, h2, fun _ => rfl, fun _ => hc.1.2⟩
    · exact ⟨h1, h2, h3, h4⟩
  | bgEnd =>
    simp only [CS.step]; split
    · rename_i hc
      simp only [Bool.and_eq_true, Bool.not_eq_true'] at hc
      exact ⟨h1, fun _ => rfl, fun _ => hc.1, h4⟩
    · exact ⟨h1, h2, h3, h4⟩
  | log id => exact ⟨h1, h2, h3, h4⟩

theorem CS.inv_run (seq : List SStep) (wait : Bool) (evs : List Ev) (c : CS) (h : c.Inv seq) : (c.run seq wait evs).Inv seq :=
  List.foldl_inv (·.Inv seq) _ (fun c ev h => CS.inv_step seq wait c ev h) evs c h

/-- Any order in which the id is cleared only after the join: the handler sees "no backend" only when the backend
    thread has ended -/
theorem CS.id_cleared_after_end (seq : List SStep) (hseq : ∀ n, SStep.clearCtxId ∈ seq.take n → SStep.join ∈ seq.take n)
    (wait : Bool) (f : Fe) (evs : List Ev) :
    ((CS.init f).run seq wait evs).idSet = false → ((CS.init f).run seq wait evs).ended = true :=
  fun hi => have h := CS.inv_run seq wait evs _ (CS.inv_init seq f); h.joined (hseq _ (h.idSet.mp hi))

/-- in the current order `join` is step 3 and `clearCtxId` the last, step 6 -/
theorem stopSeqCurrent_taken (n : Nat) :
    (SStep.clearCtxId ∈ stopSeqCurrent.take n ↔ 6 ≤ n) ∧ (SStep.join ∈ stopSeqCurrent.take n ↔ 3 ≤ n) := by
  obtain _ | _ | _ | _ | _ | _ | n := n
  iterate 6 exact by decide
  rw [List.take_of_length_le (Nat.le_add_left 6 n)]
  exact ⟨by simp [stopSeqCurrent], by simp [stopSeqCurrent]⟩

theorem CS.idSet_iff_pc (wait : Bool) (f : Fe) (evs : List Ev) :
    ((CS.init f).run stopSeqCurrent wait evs).idSet = true ↔ ((CS.init f).run stopSeqCurrent wait evs).pc < 6 := by
  rw [← Bool.not_eq_false, (CS.inv_run stopSeqCurrent wait evs _ (CS.inv_init _ f)).idSet, (stopSeqCurrent_taken _).1,
    Nat.not_le]

/-- The one statement behind the `C07_signal_during_stop_*` family: for ANY two states `a` (phase A) and `b`
    (phase B) — reachable or not, any order of the stop sequence —, if the id is still set at A the handler does what
    the frontend branch does in the environment of B (`exec_frontend_env` says what that is) -/
theorem signalDuringStopG_of_idSet (gu wait info crit : Bool) (s : Sig) (pr : Bool) (a b : CS) (hid : a.idSet = true) :
    signalDuringStopG gu wait info crit s pr a b =
      exec { backendRunning := b.serving, infoOn := info, critOn := crit, waitOnExit := wait, flushGivesUp := gu } s
        (onSignal (Ctx.frontend s pr)) false false b.fe := by
  rw [signalDuringStopG, a.ctx_frontend s pr hid]

theorem signalDuringStop_of_idSet (wait info crit : Bool) (s : Sig) (pr : Bool) (a b : CS) (hid : a.idSet = true) :
    signalDuringStop wait info crit s pr a b =
      exec { backendRunning := b.serving, infoOn := info, critOn := crit, waitOnExit := wait } s
        (onSignal (Ctx.frontend s pr)) false false b.fe :=
  signalDuringStopG_of_idSet false wait info crit s pr a b hid

theorem CS.run_append (seq : List SStep) (wait : Bool) (c : CS) (a b : List Ev) :
    c.run seq wait (a ++ b) = (c.run seq wait a).run seq wait b := by
  simp [CS.run, List.foldl_append]

theorem loggedEv_append (a b : List Ev) : loggedEv (a ++ b) = loggedEv a ++ loggedEv b := by
  induction a with
  | nil => rfl
  | cons x a ih => cases x <;> simp [loggedEv, ih]

theorem loggedEv_of_noLog : ∀ evs : List Ev, noLogEv evs = true → loggedEv evs = []
  | [], _ => rfl
  | e :: evs, hn => by
    have h := List.all_cons.symm.trans hn
    rw [Bool.and_eq_true] at h
    cases e with
    | log id => exact absurd h.1 Bool.false_ne_true
    | stopper => exact loggedEv_of_noLog evs h.2
    | bgWrite k => exact loggedEv_of_noLog evs h.2
    | bgLastCheck => exact loggedEv_of_noLog evs h.2
    | bgEnd => exact loggedEv_of_noLog evs h.2

theorem CS.step_stopper (seq : List SStep) (wait : Bool) (c : CS) :
    (c.step seq wait .stopper).fe = c.fe ∧ (c.step seq wait .stopper).serving = c.serving := by
  simp only [CS.step]
  split
  · exact ⟨rfl, rfl⟩
  · exact ⟨rfl, rfl⟩
  · exact ⟨rfl, rfl⟩
  · split <;> exact ⟨rfl, rfl⟩
  · exact ⟨rfl, rfl⟩

theorem CS.step_conservation (seq : List SStep) (wait : Bool) (c : CS) (ev : Ev) :
    (c.step seq wait ev).fe.written ++ (c.step seq wait ev).fe.queue = c.fe.written ++ c.fe.queue ++ loggedEv [ev] := by
  cases ev with
  | stopper =>
    rw [(CS.step_stopper seq wait c).1]
    exact (List.append_nil _).symm
  | bgWrite k =>
    simp only [CS.step]; split
    · simp [Fe.write, loggedEv, List.append_assoc]
    · simp [loggedEv]
  | bgLastCheck => simp only [CS.step]; split <;> simp [loggedEv]
  | bgEnd => simp only [CS.step]; split <;> simp [loggedEv]
  | log id => simp [CS.step, Fe.log, loggedEv]

theorem CS.run_conservation (seq : List SStep) (wait : Bool) (evs : List Ev) (c : CS) :
    (c.run seq wait evs).fe.written ++ (c.run seq wait evs).fe.queue = c.fe.written ++ c.fe.queue ++ loggedEv evs := by
  induction evs generalizing c with
  | nil => simp [CS.run, loggedEv]
  | cons ev evs ih =>
    have e : c.run seq wait (ev :: evs) = (c.step seq wait ev).run seq wait evs := rfl
    rw [e, ih, CS.step_conservation]
    have : loggedEv (ev :: evs) = loggedEv [ev] ++ loggedEv evs := loggedEv_append [ev] evs
    rw [this]; simp [List.append_assoc]

/-- with the option on the backend's last look found the observed thread's queue empty; while that thread logs nothing
    more it stays empty -/
theorem CS.step_queue_empty (seq : List SStep) (c : CS) (ev : Ev) (hn : noLogEv [ev] = true)
    (h : c.serving = false → c.fe.queue = []) :
    (c.step seq true ev).serving = false → (c.step seq true ev).fe.queue = [] := by
  cases ev with
  | stopper =>
    rw [(CS.step_stopper seq true c).1, (CS.step_stopper seq true c).2]
    exact h
  | bgWrite k =>
    simp only [CS.step]; split
    · rename_i hs
      intro h2
      rw [show ({ c with fe := c.fe.write k } : CS).serving = c.serving from rfl, hs] at h2
      cases h2
    · exact h
  | bgLastCheck =>
    simp only [CS.step]; split
    · rename_i hc
      intro _
      simp only [Bool.and_eq_true, Bool.or_eq_true, List.isEmpty_iff, Bool.not_eq_true', Bool.true_eq_false, false_or] at hc
      exact hc.2
    · exact h
  | bgEnd => simp only [CS.step]; split <;> exact h
  | log id => simp [noLogEv] at hn

theorem CS.run_queue_empty (seq : List SStep) (evs : List Ev) (c : CS) (hn : noLogEv evs = true)
    (h : c.serving = false → c.fe.queue = []) :
    (c.run seq true evs).serving = false → (c.run seq true evs).fe.queue = [] := by
  induction evs generalizing c with
  | nil => exact h
  | cons ev evs ih =>
    have h1 : noLogEv [ev] = true ∧ noLogEv evs = true := by
      simp only [noLogEv, List.all_cons, Bool.and_eq_true] at hn ⊢
      exact ⟨⟨hn.1, by simp⟩, hn.2⟩
    exact ih _ h1.2 (CS.step_queue_empty seq c ev h1.1 h)

end Exit
