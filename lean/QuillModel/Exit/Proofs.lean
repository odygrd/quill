import QuillModel.Exit.Model
import QuillModel.Util.ListLemmas
/-!
Helper lemmas for C07: the context enumeration is complete, a handler program reads the signal only through its
membership tests (`Prog.run_sig`), the effect of the handler's call lists, and the life-cycle machine as a machine with
three kinds of state (`Abs`), from which `LInv` is read off.
-/
namespace Exit

theorem Sig.mem_all (s : Sig) : s ∈ Sig.all := by cases s <;> decide

theorem mem_allCtx (x : Ctx) : x ∈ allCtx := by
  obtain ⟨s, a, b, c, d, e, f⟩ := x
  simp only [allCtx, List.mem_flatMap, List.mem_map]
  refine ⟨s, Sig.mem_all s, a, by cases a <;> simp, b, by cases b <;> simp, c, by cases c <;> simp,
    d, by cases d <;> simp, e, by cases e <;> simp, f, by cases f <;> simp, rfl⟩

def Cond.sigLists : Cond → List (List Sig)
  | .sigIn l => [l]
  | .or a b => a.sigLists ++ b.sigLists
  | _ => []

def Prog.sigLists : Prog → List (List Sig)
  | .done => []
  | .act _ k => k.sigLists
  | .ite c t e k => c.sigLists ++ (t.sigLists ++ (e.sigLists ++ k.sigLists))

abbrev SameIn (ls : List (List Sig)) (s s' : Sig) : Prop := ∀ l ∈ ls, l.contains s' = l.contains s

theorem SameIn.left {a b : List (List Sig)} {s s' : Sig} (h : SameIn (a ++ b) s s') : SameIn a s s' :=
  fun l hl => h l (List.mem_append_left _ hl)
theorem SameIn.right {a b : List (List Sig)} {s s' : Sig} (h : SameIn (a ++ b) s s') : SameIn b s s' :=
  fun l hl => h l (List.mem_append_right _ hl)

theorem Cond.eval_sig (x : Ctx) (s' : Sig) : ∀ c : Cond, SameIn c.sigLists x.sig s' → c.eval { x with sig := s' } = c.eval x
  | .sigIn l, h => h l (List.mem_singleton.mpr rfl)
  | .or a b, h => by
    show (a.eval _ || b.eval _) = (a.eval x || b.eval x)
    rw [Cond.eval_sig x s' a h.left, Cond.eval_sig x s' b h.right]
  | .notFirst, _ | .backendIdZero, _ | .onBackendThread, _ | .shouldReraise, _ | .hasLogger, _ => rfl

/-- a program looks at the signal only through the membership tests it contains -/
theorem Prog.run_sig (x : Ctx) (s' : Sig) : ∀ p : Prog, SameIn p.sigLists x.sig s' → p.run { x with sig := s' } = p.run x
  | .done, _ => rfl
  | .act a k, h => by
    show (if stopsFlow x a then _ else _) = (if stopsFlow x a then _ else _)
    rw [Prog.run_sig x s' k h]
  | .ite c t e k, h => by
    show (let r := if c.eval { x with sig := s' } then t.run _ else e.run _; if r.2 then r else _) = _
    rw [Cond.eval_sig x s' c h.left, Prog.run_sig x s' t h.right.left, Prog.run_sig x s' e h.right.right.left,
      Prog.run_sig x s' k h.right.right.right]
    rfl

theorem onSignal_frontend (s : Sig) (pr : Bool) :
    onSignal (Ctx.frontend s pr) =
      if s.graceful then [.storeSignal, .setAlarm, .logNotice, .flush, .exitSuccess]
      else [.storeSignal, .setAlarm, .logNotice, .logCritical, .flush, .restoreDefault, .reraise, .ret] := by
  unfold onSignal Ctx.frontend
  cases s.graceful <;> rfl

theorem drain_log_log (f : Fe) (a b : Item) :
    ((f.log a).log b).drain = { queue := [], written := f.written ++ f.queue ++ [a, b] } := by
  simp [Fe.log, Fe.drain, List.append_assoc]

theorem drain_log (f : Fe) (a : Item) :
    (f.log a).drain = { queue := [], written := f.written ++ f.queue ++ [a] } := by
  simp [Fe.log, Fe.drain, List.append_assoc]

theorem drain_drain (f : Fe) : f.drain.drain = f.drain := by simp [Fe.drain]

def Fe.logs (f : Fe) (l : List Item) : Fe := { f with queue := f.queue ++ l }

theorem Fe.drain_logs (f : Fe) (l : List Item) :
    (f.logs l).drain = { queue := [], written := f.written ++ f.queue ++ l } := by
  simp [Fe.logs, Fe.drain, List.append_assoc]

/-- the frontend branch as "notices, flush, ending" -/
theorem onSignal_frontend_parts (s : Sig) (pr : Bool) :
    onSignal (Ctx.frontend s pr) =
      .storeSignal :: .setAlarm :: .logNotice :: ((if s.graceful then [] else [.logCritical]) ++
        .flush :: (if s.graceful then [.exitSuccess] else [.restoreDefault, .reraise, .ret])) := by
  rw [onSignal_frontend]; cases s.graceful <;> rfl

theorem exec_notice_calls (e : Env) (s : Sig) (rest : List Action) (r p : Bool) (f : Fe) :
    exec e s (.storeSignal :: .setAlarm :: .logNotice :: ((if s.graceful then [] else [.logCritical]) ++ rest)) r p f =
      exec e s rest r p (f.logs (notices e s)) := by
  cases hg : s.graceful <;> cases hi : e.infoOn <;> cases hc : e.critOn <;>
    simp [exec, notices, hg, hi, hc, Fe.log, Fe.logs]

/-- the flush is served (everything queued is written) or not (the handler hangs, or gives up), then the ending -/
theorem exec_flush_ending (e : Env) (s : Sig) (f : Fe) :
    exec e s (.flush :: (if s.graceful then [.exitSuccess] else [.restoreDefault, .reraise, .ret])) false false f =
      if e.backendRunning then (f.drain, if s.graceful then .exit0 else .diedBy s)
      else (f, if e.flushGivesUp then (if s.graceful then .exit0 else .diedBy s) else .hangs) := by
  cases hg : s.graceful <;> cases hr : e.backendRunning <;> cases hu : e.flushGivesUp <;>
    simp [exec, hr, hu, drain_drain]

theorem exec_frontend_env (e : Env) (s : Sig) (pr : Bool) (f : Fe) :
    exec e s (onSignal (Ctx.frontend s pr)) false false f =
      if e.backendRunning then
        ({ queue := [], written := f.written ++ f.queue ++ notices e s }, if s.graceful then .exit0 else .diedBy s)
      else (f.logs (notices e s), if e.flushGivesUp then (if s.graceful then .exit0 else .diedBy s) else .hangs) := by
  rw [onSignal_frontend_parts, exec_notice_calls, exec_flush_ending, Fe.drain_logs]

theorem exec_frontend (e : Env) (s : Sig) (pr : Bool) (f : Fe) (hrun : e.backendRunning = true) :
    exec e s (onSignal (Ctx.frontend s pr)) false false f =
      ({ queue := [], written := f.written ++ f.queue ++ notices e s },
       if s.graceful then .exit0 else .diedBy s) := by
  rw [exec_frontend_env, if_pos hrun]

/-- a first entrant on a thread other than the one whose id the handler has cached sees the frontend context -/
theorem Life.ctx_frontend (st : Life) (thread : Nat) (s : Sig) (pr : Bool) (hctx : st.ctxTid ≠ 0)
    (hthr : thread ≠ st.ctxTid) : st.ctx thread s true pr true true = Ctx.frontend s pr := by
  simp only [Life.ctx, Ctx.frontend, Ctx.mk.injEq, true_and, and_true, bne_iff_ne, ne_eq, beq_eq_false_iff_ne]
  exact ⟨hctx, hthr⟩

theorem Life.stopBackendThread_exited (P : LParams) (s : Life) : (s.stopBackendThread P).exited = s.exited := by
  unfold Life.stopBackendThread Life.stopWorker
  split <;> split <;> rfl

theorem Life.step_not_exited (P : LParams) (s : Life) (o : LOp) (ho : o ≠ .exit) (h : s.exited = false) :
    (s.step P o).exited = false := by
  cases o with
  | start =>
    simp only [Life.step]
    split <;> exact h
  | startSH =>
    simp only [Life.step]
    split <;> exact h
  | stop =>
    simp only [Life.step, h, Bool.false_eq_true, ↓reduceIte]
    split
    · exact (Life.stopBackendThread_exited P s).trans h
    · exact (Life.stopBackendThread_exited P s).trans h
  | exit => exact absurd rfl ho

/-- holds of every state the life-cycle machine reaches under `R` (`Abs.linv`). `ctx` is the clause the signal handler
    rests on: the thread id it has cached is that of a backend thread that runs (no stale id, F23). -/
structure LInv (s : Life) : Prop where
  once : s.onceDone = s.running
  tidRun : s.running = true → s.workerTid ≠ 0
  tidStop : s.running = false → s.workerTid = 0
  tidLt : s.workerTid < s.nextTid
  nextPos : 0 < s.nextTid
  count : s.spawned = s.joined + (if s.running then 1 else 0)
  atexitCount : s.atexits.length = s.spawned
  ctx : s.ctxTid ≠ 0 → s.running = true ∧ s.ctxTid = s.workerTid ∧ s.atexits.head? = some true
  exitedStopped : s.exited = true → s.running = false ∧ s.ctxTid = 0
  drains : s.finalDrains = if s.exited then 1 else 0

abbrev R := LParams.repaired

@[simp] theorem R_wait : R.waitOnExit = true := rfl

structure Stopped (s : Life) : Prop where
  inv : LInv s
  notRunning : s.running = false
  notExited : s.exited = false

theorem foldl_fixed {σ α} {f : σ → α → σ} {s : σ} {l : List α} (h : ∀ a ∈ l, f s a = s) : l.foldl f s = s :=
  List.foldl_inv_mem (· = s) f l s (fun _ x hx hb => hb ▸ h x hx) rfl

theorem Life.run_append (P : LParams) (s : Life) (a b : List LOp) : s.run P (a ++ b) = (s.run P a).run P b := by
  simp [Life.run, List.foldl_append]

/-- Under `R` every reachable state is of one of three kinds and, within its kind, determined by the `atexit` handlers
    registered so far (newest first): no backend thread; a backend thread, started by the newest registration `sh`; the
    process has exited. -/
inductive Abs
  | stopped (l : List Bool)
  | running (sh : Bool) (l : List Bool)
  | exited (l : List Bool)

/-- thread ids are handed out 1, 2, …: the `n`-th backend thread has id `n`, and there are as many `atexit` handlers as
    threads were spawned -/
def Abs.life : Abs → Life
  | .stopped l =>
    { handlers := l.contains true, atexits := l, nextTid := l.length + 1, spawned := l.length, joined := l.length }
  | .running sh l =>
    { onceDone := true, running := true, workerTid := l.length + 1, ctxTid := if sh then l.length + 1 else 0,
      handlers := (sh :: l).contains true, atexits := sh :: l, nextTid := l.length + 2, spawned := l.length + 1,
      joined := l.length }
  | .exited l =>
    { handlers := l.contains true, atexits := l, nextTid := l.length + 1, spawned := l.length, joined := l.length,
      exited := true, finalDrains := 1 }

def Abs.step : Abs → LOp → Abs
  | .stopped l, .start => .running false l
  | .stopped l, .startSH => .running true l
  | .stopped l, .stop => .stopped l
  | .stopped l, .exit => .exited l
  | .running sh l, .stop => .stopped (sh :: l)
  | .running sh l, .exit => .exited (sh :: l)
  | .running sh l, _ => .running sh l
  | .exited l, _ => .exited l

def Abs.run (a : Abs) (ops : List LOp) : Abs := ops.foldl Abs.step a

theorem runAtexit_stopped (l : List Bool) (b : Bool) : Life.runAtexit R (Abs.stopped l).life b = (Abs.stopped l).life := by
  cases b <;> rfl

theorem Abs.life_step (a : Abs) (op : LOp) : a.life.step R op = (a.step op).life := by
  -- every case is a computation on a record of literals and `l`; only the `atexit` fold needs a lemma
  cases a with
  | stopped l =>
    -- a start is effective; `stop` finds nothing to do; no `atexit` handler finds anything to do
    cases op
    · rfl
    · rfl
    · rfl
    · exact congrArg (fun s : Life => { s with exited := true, finalDrains := s.finalDrains + 1 })
        (foldl_fixed fun b _ => runAtexit_stopped l b)
  | running sh l =>
    -- a start does nothing; `stop` joins the one thread; so does the newest `atexit` handler, the others find nothing
    cases op
    · rfl
    · rfl
    · rfl
    · have h1 : Life.runAtexit R (Abs.running sh l).life sh = (Abs.stopped (sh :: l)).life := by cases sh <;> rfl
      exact congrArg (fun s : Life => { s with exited := true, finalDrains := s.finalDrains + 1 })
        ((congrArg (l.foldl (Life.runAtexit R)) h1).trans (foldl_fixed fun b _ => runAtexit_stopped (sh :: l) b))
  | exited l => cases op <;> rfl

theorem Abs.run_append (a : Abs) (o p : List LOp) : a.run (o ++ p) = (a.run o).run p := List.foldl_append ..

theorem Abs.life_run (a : Abs) (ops : List LOp) : a.life.run R ops = (a.run ops).life :=
  List.foldl_rel (r := fun l (a : Abs) => l = a.life) rfl (fun op _ _ a h => h ▸ Abs.life_step a op)

theorem Life.run_eq (ops : List LOp) : Life.run R {} ops = (Abs.run (.stopped []) ops).life :=
  Abs.life_run (.stopped []) ops

theorem Life.reach (ops : List LOp) :
    ∃ a : Abs, Life.run R {} ops = a.life ∧ ∀ op, Life.run R {} (ops ++ [op]) = (a.step op).life :=
  ⟨_, Life.run_eq ops, fun op => by rw [Life.run_eq, Abs.run_append]; rfl⟩

theorem Abs.linv (a : Abs) : LInv a.life := by
  cases a with
  | stopped l => exact
    { once := rfl, tidRun := fun h => (nomatch h), tidStop := fun _ => rfl, tidLt := Nat.succ_pos _, nextPos := Nat.succ_pos _,
      count := rfl, atexitCount := rfl, ctx := fun hc => absurd rfl hc, exitedStopped := fun _ => ⟨rfl, rfl⟩, drains := rfl }
  | running sh l => exact
    { once := rfl, tidRun := fun _ => Nat.succ_ne_zero _, tidStop := fun h => (nomatch h), tidLt := Nat.lt_succ_self _,
      nextPos := Nat.succ_pos _, count := rfl, atexitCount := rfl,
      ctx := by cases sh; exact fun hc => absurd rfl hc; exact fun _ => ⟨rfl, rfl, rfl⟩,
      exitedStopped := fun h => (nomatch h), drains := rfl }
  | exited l => exact
    { once := rfl, tidRun := fun h => (nomatch h), tidStop := fun _ => rfl, tidLt := Nat.succ_pos _, nextPos := Nat.succ_pos _,
      count := rfl, atexitCount := rfl, ctx := fun hc => absurd rfl hc, exitedStopped := fun _ => ⟨rfl, rfl⟩, drains := rfl }

theorem Abs.stop_stop (a : Abs) : (a.step .stop).step .stop = a.step .stop := by
  cases a <;> rfl

theorem Abs.run_fixed {a : Abs} {ops : List LOp} (h : ∀ op ∈ ops, a.step op = a) : a.run ops = a := foldl_fixed h

theorem Abs.run_replicate {a : Abs} {op : LOp} (h : a.step op = a) (n : Nat) : a.run (List.replicate n op) = a :=
  Abs.run_fixed fun o ho => by rw [List.eq_of_mem_replicate ho, h]

theorem Abs.run_cycle (l : List Bool) (c : Cycle) : Abs.run (.stopped l) c.ops = .stopped (c.sh :: l) := by
  unfold Cycle.ops
  have h1 : Abs.step (.stopped l) (if c.sh then .startSH else .start) = .running c.sh l := by cases c.sh <;> rfl
  show Abs.run (Abs.step _ _) (List.replicate c.extraStarts LOp.start ++ LOp.stop :: List.replicate c.extraStops LOp.stop) = _
  rw [h1, Abs.run_append, Abs.run_replicate rfl]
  exact Abs.run_replicate (a := .stopped (c.sh :: l)) rfl _

theorem Abs.run_cycles (cs : List Cycle) (l : List Bool) :
    Abs.run (.stopped l) (cs.flatMap Cycle.ops) = .stopped ((cs.map (·.sh)).reverse ++ l) := by
  induction cs generalizing l with
  | nil => rfl
  | cons c cs ih =>
    rw [List.flatMap_cons, Abs.run_append, Abs.run_cycle, ih, List.map_cons, List.reverse_cons, List.append_assoc]
    rfl

/-- a signal on a thread other than the backend's while the handler has the backend's thread id (`ctxTid ≠ 0`, so the
    backend runs, `LInv.ctx`): the flush is served, so everything queued and the notices are written before the process
    ends as the signal says -/
theorem LInv.signal {st : Life} (h : LInv st) (hctx : st.ctxTid ≠ 0) (thread : Nat) (hthr : thread ≠ st.workerTid)
    (s : Sig) (pr info crit : Bool) (f : Fe) :
    exec (st.env info crit) s (onSignal (st.ctx thread s true pr true true)) false false f =
      ({ queue := [], written := f.written ++ f.queue ++ notices (st.env info crit) s },
       if s.graceful then .exit0 else .diedBy s) := by
  obtain ⟨hrun, hid, _⟩ := h.ctx hctx
  rw [st.ctx_frontend thread s pr hctx (hid ▸ hthr), exec_frontend _ s pr f (show (st.env info crit).backendRunning = true from hrun)]

end Exit
