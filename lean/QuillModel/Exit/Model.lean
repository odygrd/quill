/-!
# Signal handler, start/stop life-cycle and exit paths of quill (C07) — executable model, no proofs

Anchors: `backend/SignalHandler.h` (`detail::on_signal`, `detail::on_alarm`, `detail::init_signal_handler`,
`SignalHandlerContext`, `SignalHandlerOptions`), `Backend.h` (`start`, `start<TFrontendOptions>(BackendOptions,
SignalHandlerOptions)`, `stop`, the `std::atexit` registration), `backend/BackendManager.h`
(`start_backend_thread`, `stop_backend_thread`, the once-flag), `backend/BackendWorker.h` (`run`, `stop`; `_exit`
itself is `Backend.exitLoop` of the end-to-end model), `backend/ManualBackendWorker.h` (`~ManualBackendWorker`).

Three layers:

* `onSignal` — the handler as a pure decision function: context ↦ the calls it makes, in order. `Prog` is the
  control-flow skeleton of the C++ body as *extracted* from the header; `Prog.actions` interprets it and
  `Obligations/Exit.lean` proves that it agrees with `onSignal` on every context.
* `exec` — what those calls do to the calling thread's queue and to the process: a notice is appended to the
  *caller's own* queue (behind everything that thread enqueued before: per-thread FIFO, C03); `flush` has the
  contract of `flush_log` (C06: returns only after everything the caller enqueued earlier is written and the
  sinks flushed) when a backend thread runs and never returns otherwise; `exit` runs the `atexit` handler
  (`stop` → `_exit` drain → join); re-raising with the default action restored ends the process by that signal.
* `Life` — the start/stop state machine: once-flag, running flag, worker thread id, the id cached in the
  `SignalHandlerContext`, the registered `atexit` handlers.

What is *not* here (run-time behaviour, enumerated by harness H4 only): wait statuses, the order in which
`atexit` handlers and static destructors run, the signal mask inherited by the backend thread, the `alarm`
time-out, `pause()`.
-/
namespace Exit

/-! ## signals -/

/-- the signals the model distinguishes; `usr1` stands for any other signal a user may list in
    `catchable_signals` whose default action terminates the process -/
inductive Sig
  | segv | abrt | fpe | ill | int | term | alrm | usr1
  deriving DecidableEq, Repr, Inhabited

def Sig.all : List Sig := [.segv, .abrt, .fpe, .ill, .int, .term, .alrm, .usr1]

def Sig.name : Sig → String
  | .segv => "SIGSEGV" | .abrt => "SIGABRT" | .fpe => "SIGFPE" | .ill => "SIGILL"
  | .int => "SIGINT" | .term => "SIGTERM" | .alrm => "SIGALRM" | .usr1 => "SIGUSR1"

def Sig.ofName (s : String) : Option Sig := Sig.all.find? (fun x => x.name == s)

/-- Linux numbering (what `WTERMSIG` reports in the harness) -/
def Sig.num : Sig → Nat
  | .segv => 11 | .abrt => 6 | .fpe => 8 | .ill => 4 | .int => 2 | .term => 15 | .alrm => 14 | .usr1 => 10

/-- the signals property C07 speaks about -/
def handled : List Sig := [.segv, .abrt, .fpe, .ill, .int, .term]

/-- `signal_number == SIGINT || signal_number == SIGTERM` -/
def Sig.graceful (s : Sig) : Bool := s == .int || s == .term

/-! ## the handler as a decision function -/

/-- the calls `on_signal` can make -/
inductive Action
  | park            -- `pause()` (a later entrant)
  | storeSignal     -- `signal_number.store(signal_number)`
  | setAlarm        -- `alarm(timeout)`
  | logNotice       -- `QUILL_SIGNAL_HANDLER_LOG(logger, LogLevel::Info, "Received signal: …")`
  | logCritical     -- `QUILL_SIGNAL_HANDLER_LOG(logger, LogLevel::Critical, "Program terminated unexpectedly …")`
  | flush           -- `logger->flush_log(0)`
  | exitSuccess     -- `std::exit(EXIT_SUCCESS)` (does not return)
  | restoreDefault  -- `std::signal(signal_number, SIG_DFL)`
  | reraise         -- `std::raise(signal_number)`
  | ret             -- control reaches the end of the handler
  deriving DecidableEq, Repr, Inhabited

def Action.name : Action → String
  | .park => "park" | .storeSignal => "storeSignal" | .setAlarm => "setAlarm" | .logNotice => "logNotice"
  | .logCritical => "logCritical" | .flush => "flush" | .exitSuccess => "exitSuccess"
  | .restoreDefault => "restoreDefault" | .reraise => "reraise" | .ret => "return"

/-- what the handler can see -/
structure Ctx where
  sig : Sig
  first : Bool          -- `lock.fetch_add(1)` returned 0
  parkReturns : Bool    -- environment: `pause()` came back (a handler ran on the parked thread and returned)
  backendIdSet : Bool   -- `SignalHandlerContext::backend_thread_id != 0`
  onBackend : Bool      -- `get_thread_id() == backend_thread_id`
  hasLogger : Bool      -- `SignalHandlerContext::get_logger() != nullptr`
  reraise : Bool        -- `should_reraise_signal`
  deriving DecidableEq, Repr, Inhabited

/-- `detail::on_signal`, branch by branch -/
def onSignal (x : Ctx) : List Action :=
  if !x.first && !x.parkReturns then [.park]
  else
    (if x.first then [] else [.park]) ++ [.storeSignal, .setAlarm] ++
    (if !x.backendIdSet || x.onBackend then
      -- "backend worker thread is not running or the signal handler is called in the backend worker thread"
      if x.sig.graceful then [.exitSuccess]
      else if x.reraise then [.restoreDefault, .reraise, .ret]
      else [.ret]
    else if !x.hasLogger then [.ret]
    else if x.sig.graceful then [.logNotice, .flush, .exitSuccess]
    else if x.reraise then [.logNotice, .logCritical, .flush, .restoreDefault, .reraise, .ret]
    else [.logNotice, .flush, .ret])

/-- the frontend branch: first entrant, backend id published, not the backend thread, a logger exists, re-raise on -/
def Ctx.frontend (s : Sig) (parkReturns : Bool) : Ctx :=
  { sig := s, first := true, parkReturns := parkReturns, backendIdSet := true, onBackend := false,
    hasLogger := true, reraise := true }

/-! ### the extracted control-flow skeleton and its interpreter -/

/-- the conditions `on_signal` tests -/
inductive Cond
  | notFirst              -- `lock != 0`
  | backendIdZero         -- `backend_thread_id == 0`
  | onBackendThread       -- `current_thread_id == backend_thread_id`
  | sigIn (l : List Sig)  -- `signal_number == A || signal_number == B …`
  | shouldReraise         -- `should_reraise_signal`
  | hasLogger             -- `logger_base`
  | or (a b : Cond)
  deriving Repr, Inhabited

/-- statement list with structured `if`: `act a k` = call `a`, then `k`; `ite c t e k` = `if (c) {t} else {e}`, then `k` -/
inductive Prog
  | done
  | act (a : Action) (k : Prog)
  | ite (c : Cond) (t e k : Prog)
  deriving Repr, Inhabited

def Cond.eval (x : Ctx) : Cond → Bool
  | .notFirst => !x.first
  | .backendIdZero => !x.backendIdSet
  | .onBackendThread => x.onBackend
  | .sigIn l => l.contains x.sig
  | .shouldReraise => x.reraise
  | .hasLogger => x.hasLogger
  | .or a b => a.eval x || b.eval x

/-- a call after which control does not come back to the handler -/
def stopsFlow (x : Ctx) (a : Action) : Bool :=
  a == .exitSuccess || (a == .park && !x.parkReturns)

/-- (calls made, control flow ended inside) -/
def Prog.run (x : Ctx) : Prog → List Action × Bool
  | .done => ([], false)
  | .act a k =>
    if stopsFlow x a then ([a], true)
    else let r := k.run x; (a :: r.1, r.2)
  | .ite c t e k =>
    let r := if c.eval x then t.run x else e.run x
    if r.2 then r
    else let r2 := k.run x; (r.1 ++ r2.1, r2.2)

def Prog.actions (p : Prog) (x : Ctx) : List Action :=
  let r := p.run x
  if r.2 then r.1 else r.1 ++ [.ret]

/-- every context (`mem_allCtx`) -/
def allCtx : List Ctx :=
  Sig.all.flatMap fun s =>
  [true, false].flatMap fun a => [true, false].flatMap fun b => [true, false].flatMap fun c =>
  [true, false].flatMap fun d => [true, false].flatMap fun e => [true, false].map fun f =>
    { sig := s, first := a, parkReturns := b, backendIdSet := c, onBackend := d, hasLogger := e, reraise := f }

/-- `detail::on_alarm`: (stored signal number or none) ↦ the signal it restores the default action of and raises -/
def onAlarm (stored : Option Sig) : Sig := stored.getD .alrm

/-! ## effect of the calls on the calling thread's queue and on the process -/

inductive Item
  | stmt (id : Nat) | notice | critical
  deriving DecidableEq, Repr, Inhabited

/-- one frontend thread as the destination sees it -/
structure Fe where
  queue : List Item := []     -- enqueued by this thread, not yet written (oldest first)
  written : List Item := []   -- this thread's lines in the destination, in file order
  deriving DecidableEq, Repr, Inhabited

inductive Outcome
  | exit0                -- `exit(EXIT_SUCCESS)`: `WIFEXITED`, status 0
  | diedBy (s : Sig)     -- default action of `s`: `WIFSIGNALED`, `WTERMSIG = s`
  | continues            -- the handler returned and the program goes on
  | hangs                -- blocked for ever (until something else ends the process)
  deriving DecidableEq, Repr, Inhabited

structure Env where
  backendRunning : Bool        -- a backend thread is serving the queues
  infoOn : Bool := true        -- the logger's level lets `Info` through
  critOn : Bool := true        -- … `Critical`
  waitOnExit : Bool := true    -- `wait_for_queues_to_empty_before_exit`
  /-- the handler's wait for its flush request ends when the backend thread is gone (candidate repair of F27,
      `findings/F27_candidate_repair.diff`; extracted: `flushEndsWhenBackendGone`; the current code waits for ever) -/
  flushGivesUp : Bool := false
  deriving DecidableEq, Repr, Inhabited

def Fe.log (f : Fe) (x : Item) : Fe := { f with queue := f.queue ++ [x] }

/-- contract of `flush_log` (C06) / of the exit drain (`exitLoop`): everything enqueued is written, in queue order -/
def Fe.drain (f : Fe) : Fe := { queue := [], written := f.written ++ f.queue }

/-- run the handler's calls. `restored`: the default action is in force; `pending`: the signal was raised while
    blocked (glibc `std::signal` installs the handler with the signal itself masked) and fires on return. -/
def exec (e : Env) (sig : Sig) : List Action → (restored pending : Bool) → Fe → Fe × Outcome
  | [], _, _, f => (f, .continues)
  | .park :: rest, r, p, f => if rest.isEmpty then (f, .hangs) else exec e sig rest r p f
  | .storeSignal :: rest, r, p, f => exec e sig rest r p f
  | .setAlarm :: rest, r, p, f => exec e sig rest r p f
  | .logNotice :: rest, r, p, f => exec e sig rest r p (if e.infoOn then f.log .notice else f)
  | .logCritical :: rest, r, p, f => exec e sig rest r p (if e.critOn then f.log .critical else f)
  | .flush :: rest, r, p, f =>
    if e.backendRunning then exec e sig rest r p f.drain
    else if e.flushGivesUp then exec e sig rest r p f   -- nobody serves it: the request stays queued, the handler goes on
    else (f, .hangs)
  | .exitSuccess :: _, _, _, f =>
    -- `exit` → the `atexit` handler → `stop_backend_thread` → `_exit` drain (if enabled) → join
    (if e.backendRunning && e.waitOnExit then f.drain else f, .exit0)
  | .restoreDefault :: rest, _, p, f => exec e sig rest true p f
  | .reraise :: rest, r, _, f => exec e sig rest r true f
  | .ret :: _, r, p, f =>
    if p then
      -- the pending signal is delivered: default action, or the handler again (now a later entrant: parks)
      (f, if r then .diedBy sig else .hangs)
    else (f, .continues)

/-- the handler's notices, as far as the logger's level lets them through -/
def notices (e : Env) (s : Sig) : List Item :=
  (if e.infoOn then [.notice] else []) ++ (if s.graceful || !e.critOn then [] else [.critical])

/-! ## a process-directed signal (`kill(pid, sig)`) with several threads

The kernel hands a process-directed signal to *one* thread that does not block it (Linux tries the main thread
first; any other choice is allowed). The handler distinguishes the receiving thread only by
`get_thread_id() == backend_thread_id`; whether that thread has a thread context (has logged or preallocated) is
invisible to it — its first log call creates the context inside the handler. -/

/-- class of the thread the handler runs on -/
inductive Receiver
  | logged        -- a frontend thread that has logged before (the premise of the property)
  | neverLogged   -- a frontend thread without a thread context: nothing of it is queued or written
  | backend       -- the backend thread
  deriving DecidableEq, Repr, Inhabited

structure Thr where
  cls : Receiver
  blocked : Bool      -- the signal is blocked in this thread's mask
  deriving DecidableEq, Repr, Inhabited

/-- the threads the kernel may choose -/
def candidates (ts : List Thr) : List Receiver := (ts.filter fun t => !t.blocked).map (·.cls)

/-- what the handler sees on a thread of class `r` while a backend started with the handler runs (first entrant,
    a logger exists, re-raise on) -/
def Receiver.ctx (r : Receiver) (s : Sig) (pr : Bool) : Ctx :=
  { sig := s, first := true, parkReturns := pr, backendIdSet := true, onBackend := r == .backend, hasLogger := true, reraise := true }

/-- the handler on the receiving thread; `own`: that thread's queue and lines -/
def killOutcome (e : Env) (s : Sig) (pr : Bool) (r : Receiver) (own : Fe) : Fe × Outcome :=
  exec e s (onSignal (r.ctx s pr)) false false own

/-! ## start / stop life-cycle -/

/-- structural facts read from the headers -/
structure LParams where
  renewOnce : Bool         -- `stop_backend_thread` installs a fresh `std::once_flag`
  stopClearsId : Bool      -- `Backend::stop()` resets `SignalHandlerContext::backend_thread_id` (repair of F23)
  atexitClearsId : Bool    -- so does the `atexit` handler registered by the signal-handler overload of `start`
  /-- not a fact of the headers but the run-time option `BackendOptions::wait_for_queues_to_empty_before_exit` the
      backend is started with (its default is extracted: `waitForQueuesDefault`). With it off `BackendWorker::_exit`
      leaves at its first test: no queue is read any more, the failure counter is reported and the sinks are flushed -/
  waitOnExit : Bool := true
  deriving DecidableEq, Repr, Inhabited

/-- the code as repaired -/
def LParams.repaired : LParams := { renewOnce := true, stopClearsId := true, atexitClearsId := true }

inductive LOp
  | start      -- `Backend::start(options)`
  | startSH    -- `Backend::start<TFrontendOptions>(options, signal_handler_options)`
  | stop       -- `Backend::stop()`
  | exit       -- normal process exit: `atexit` handlers (newest first), then static destructors
  deriving DecidableEq, Repr, Inhabited

structure Life where
  onceDone : Bool := false      -- the current once-flag has fired
  running : Bool := false       -- `_is_worker_running`
  workerTid : Nat := 0          -- `BackendWorker::_worker_thread_id`
  ctxTid : Nat := 0             -- `SignalHandlerContext::backend_thread_id`
  handlers : Bool := false      -- `on_signal` / `on_alarm` installed
  atexits : List Bool := []     -- registered `atexit` handlers, newest first (`true`: registered by `startSH`)
  nextTid : Nat := 1            -- thread ids are fresh and non-zero
  spawned : Nat := 0            -- backend threads created
  joined : Nat := 0             -- backend threads that ran `_exit` and were joined
  exited : Bool := false
  finalDrains : Nat := 0        -- `~ManualBackendWorker` → `_exit()` during static destruction
  deriving DecidableEq, Repr, Inhabited

/-- `BackendWorker::stop`: nothing when not running; else clear the flag, wake, join (after `_exit`), forget the id -/
def Life.stopWorker (s : Life) : Life :=
  if s.running then { s with running := false, workerTid := 0, joined := s.joined + 1 } else s

/-- `BackendManager::stop_backend_thread` -/
def Life.stopBackendThread (P : LParams) (s : Life) : Life :=
  let s1 := s.stopWorker
  if P.renewOnce then { s1 with onceDone := false } else s1

/-- `BackendWorker::run`: spawn, wait until the thread has set the running flag -/
def Life.spawn (s : Life) : Life :=
  { s with running := true, workerTid := s.nextTid, nextTid := s.nextTid + 1, spawned := s.spawned + 1 }

/-- one registered `atexit` handler -/
def Life.runAtexit (P : LParams) (s : Life) (fromSH : Bool) : Life :=
  let s1 := s.stopBackendThread P
  if fromSH && P.atexitClearsId then { s1 with ctxTid := 0 } else s1

def Life.step (P : LParams) (s : Life) : LOp → Life
  | .start =>
    if s.exited || s.onceDone then s
    else
      let s1 := ({ s with onceDone := true } : Life).spawn
      { s1 with atexits := false :: s1.atexits }
  | .startSH =>
    if s.exited || s.onceDone then s
    else
      -- block every signal; install the handlers; spawn (the thread inherits the mask); publish its id;
      -- restore the mask; register the exit handler
      let s1 := ({ s with onceDone := true, handlers := true } : Life).spawn
      { s1 with ctxTid := s1.workerTid, atexits := true :: s1.atexits }
  | .stop =>
    if s.exited then s
    else
      let s1 := s.stopBackendThread P
      if P.stopClearsId then { s1 with ctxTid := 0 } else s1
  | .exit =>
    if s.exited then s
    else
      let s1 := s.atexits.foldl (Life.runAtexit P) s
      { s1 with exited := true, finalDrains := s1.finalDrains + 1 }

def Life.run (P : LParams) (s : Life) (ops : List LOp) : Life := ops.foldl (Life.step P) s

/-- one start/stop cycle as a program may write it: a start of either kind, `a` redundant starts, a stop,
    `b` redundant stops -/
structure Cycle where
  sh : Bool
  extraStarts : Nat
  extraStops : Nat
  deriving DecidableEq, Repr, Inhabited

def Cycle.ops (c : Cycle) : List LOp :=
  (if c.sh then LOp.startSH else LOp.start) :: List.replicate c.extraStarts LOp.start ++
    LOp.stop :: List.replicate c.extraStops LOp.stop

/-- what the handler sees when `sig` hits thread `thread` in life-cycle state `s` -/
def Life.ctx (s : Life) (thread : Nat) (sig : Sig) (first parkReturns hasLogger reraise : Bool) : Ctx :=
  { sig := sig, first := first, parkReturns := parkReturns, backendIdSet := s.ctxTid != 0,
    onBackend := thread == s.ctxTid, hasLogger := hasLogger, reraise := reraise }

def Life.env (s : Life) (infoOn critOn : Bool) : Env :=
  { backendRunning := s.running, infoOn := infoOn, critOn := critOn }

/-! ## a whole program: one logging thread, the life-cycle, the backend working in the background -/

/-- what the program's main thread (and the backend, in the background) can do -/
inductive POp
  | log (id : Nat)            -- a log statement (its call completes)
  | bg (k : Nat)              -- the running backend thread writes the `k` oldest queued items (any time, any amount)
  | life (op : LOp)           -- start / start with handler / stop / normal exit
  deriving DecidableEq, Repr, Inhabited

structure Sys where
  life : Life := {}
  fe : Fe := {}
  deriving DecidableEq, Repr, Inhabited

/-- the backend writes the `k` oldest queued items, in queue order -/
def Fe.write (f : Fe) (k : Nat) : Fe := { queue := f.queue.drop k, written := f.written ++ f.queue.take k }

def Sys.step (P : LParams) (s : Sys) : POp → Sys
  | .log id => if s.life.exited then s else { s with fe := s.fe.log (.stmt id) }
  | .bg k => if s.life.running then { s with fe := s.fe.write k } else s
  | .life .stop =>
    -- `_exit` runs on the backend thread before the join: the drain (contract of `exitLoop`)
    -- with the option off `_exit` reads nothing more: what is still queued stays queued (a later `start` serves it)
    { life := s.life.step P .stop, fe := if s.life.running && !s.life.exited && P.waitOnExit then s.fe.drain else s.fe }
  | .life .exit =>
    -- `atexit` handlers stop a running backend (drain + join); then `~ManualBackendWorker` runs `_exit()` once more
    -- (`_options` of the worker are those of the last `start`; a worker that was never started has the defaults: drains)
    { life := s.life.step P .exit, fe := if s.life.exited then s.fe else if P.waitOnExit || s.life.spawned == 0 then s.fe.drain else s.fe }
  | .life op => { s with life := s.life.step P op }

def Sys.run (P : LParams) (s : Sys) (ops : List POp) : Sys := ops.foldl (Sys.step P) s

/-- the statements whose log call completed, in program order -/
def logged : List POp → List Item
  | [] => []
  | .log id :: rest => .stmt id :: logged rest
  | _ :: rest => logged rest

/-- no operation of the program is the process exit -/
def noExit (ops : List POp) : Bool := ops.all (fun o => o != .life .exit)

end Exit
