import QuillModel.Exit.Proofs
/-! Program-level lemmas for C07: a logging thread, the life-cycle and the backend working in the background. -/
namespace Exit

def lifeOps : List POp → List LOp
  | [] => []
  | .life op :: rest => op :: lifeOps rest
  | _ :: rest => lifeOps rest

theorem Sys.step_life (P : LParams) (s : Sys) (op : POp) :
    (s.step P op).life = match op with | .life o => s.life.step P o | _ => s.life := by
  cases op with
  | log id => simp only [Sys.step]; split <;> rfl
  | bg k => simp only [Sys.step]; split <;> rfl
  | life o => cases o <;> rfl

theorem Sys.run_life (P : LParams) (ops : List POp) (s : Sys) :
    (s.run P ops).life = s.life.run P (lifeOps ops) := by
  induction ops generalizing s with
  | nil => rfl
  | cons op ops ih =>
    show ((s.step P op).run P ops).life = _
    rw [ih, Sys.step_life]
    cases op with
    | log id => rfl
    | bg k => rfl
    | life o => rfl

theorem Sys.run_append (P : LParams) (s : Sys) (a b : List POp) : s.run P (a ++ b) = (s.run P a).run P b := by
  simp [Sys.run, List.foldl_append]

theorem logged_append (a b : List POp) : logged (a ++ b) = logged a ++ logged b := by
  induction a with
  | nil => rfl
  | cons x a ih => cases x <;> simp [logged, ih]

theorem noExit_cons (x : POp) (l : List POp) : noExit (x :: l) = true ↔ x ≠ .life .exit ∧ noExit l = true := by
  simp [noExit]

theorem Sys.conservation (P : LParams) (ops : List POp) (s : Sys) (hx : s.life.exited = false) (hne : noExit ops = true) :
    (s.run P ops).fe.written ++ (s.run P ops).fe.queue = s.fe.written ++ s.fe.queue ++ logged ops ∧
    (s.run P ops).life.exited = false := by
  induction ops generalizing s with
  | nil => simp [Sys.run, logged, hx]
  | cons op ops ih =>
    obtain ⟨h1, h2⟩ := (noExit_cons op ops).mp hne
    have key : (s.step P op).fe.written ++ (s.step P op).fe.queue =
        s.fe.written ++ s.fe.queue ++ logged [op] ∧ (s.step P op).life.exited = false := by
      cases op with
      | log id => simp [Sys.step, hx, Fe.log, logged]
      | bg k =>
        simp only [Sys.step]
        split
        · simp [Fe.write, logged, hx, List.append_assoc]
        · simp [logged, hx]
      | life o =>
        cases o with
        | start => exact ⟨by simp [Sys.step, logged], Life.step_not_exited P _ _ (by simp) hx⟩
        | startSH => exact ⟨by simp [Sys.step, logged], Life.step_not_exited P _ _ (by simp) hx⟩
        | stop =>
          refine ⟨?_, Life.step_not_exited P _ _ (by simp) hx⟩
          simp only [Sys.step, logged]
          split <;> simp [Fe.drain]
        | exit => exact absurd rfl h1
    obtain ⟨k1, k2⟩ := key
    obtain ⟨i1, i2⟩ := ih (s.step P op) k2 h2
    refine ⟨?_, i2⟩
    show ((s.step P op).run P ops).fe.written ++ ((s.step P op).run P ops).fe.queue = _
    rw [i1, k1]
    have : logged (op :: ops) = logged [op] ++ logged ops := logged_append [op] ops
    rw [this]; simp [List.append_assoc]

theorem Sys.conservation_init (P : LParams) (ops : List POp) (hne : noExit ops = true) :
    (Sys.run P {} ops).fe.written ++ (Sys.run P {} ops).fe.queue = logged ops :=
  (Sys.conservation P ops {} rfl hne).1

/-- `Backend::stop()` at any point of any program, whatever the parameters: a running backend with the option on leaves
    exactly the completed statements written; otherwise nothing moves -/
theorem Sys.stop_fe (P : LParams) (ops : List POp) (hne : noExit ops = true) :
    (Sys.run P {} (ops ++ [.life .stop])).fe =
      if (Sys.run P {} ops).life.running && P.waitOnExit then { queue := [], written := logged ops } else (Sys.run P {} ops).fe := by
  have hx := (Sys.conservation P ops {} rfl hne).2
  have hc := Sys.conservation_init P ops hne
  rw [Sys.run_append]
  generalize Sys.run P {} ops = t at hx hc
  show (if t.life.running && !t.life.exited && P.waitOnExit then t.fe.drain else t.fe) = _
  rw [hx, Bool.not_false, Bool.and_true, Fe.drain, hc]

theorem Sys.exit_fe (P : LParams) (ops : List POp) (hne : noExit ops = true) :
    (Sys.run P {} (ops ++ [.life .exit])).fe =
      if P.waitOnExit || (Sys.run P {} ops).life.spawned == 0 then { queue := [], written := logged ops } else (Sys.run P {} ops).fe := by
  have hx := (Sys.conservation P ops {} rfl hne).2
  have hc := Sys.conservation_init P ops hne
  rw [Sys.run_append]
  generalize Sys.run P {} ops = t at hx hc
  show (if t.life.exited then t.fe else if P.waitOnExit || t.life.spawned == 0 then t.fe.drain else t.fe) = _
  rw [hx, Fe.drain, hc]; rfl

theorem Sys.life_after (ops : List POp) (o : LOp) :
    (Sys.run R {} (ops ++ [.life o])).life = ((Abs.run (.stopped []) (lifeOps ops)).step o).life := by
  rw [Sys.run_append]
  show ((Sys.run R {} ops).step R (.life o)).life = _
  rw [Sys.step_life]
  show (Sys.run R {} ops).life.step R o = _
  rw [Sys.run_life, Life.run_eq, Abs.life_step]

end Exit
