import QuillModel.Time.FormatterProofs
/-!
# C13 — rendered time = `strftime` of the instant + exact fractional digits

"For every supported strftime-style timestamp pattern, in GMT or local time (across daylight-saving changes),
and for any sequence of timestamps — increasing, repeated or going backwards — the rendered text equals what
strftime produces for that instant, with %Qms, %Qus or %Qns replaced by the zero-padded milli-, micro- or
nanosecond fraction. Caching of the previously formatted string never lets a later timestamp show stale or wrong
fields; using more than one fractional specifier, or %X, is rejected."

Model: `Time.TF` / `Time.SFT` (`Time/Cache.lean`) — the character-level machine of `TimestampFormatter.h` and
`StringFromTime.h`; reference: `Time.strftimeRef` (`Time/Strftime.lean`) — the C-locale `strftime` of the broken-down
instant (`Time.gmtime`, `Time.mkTm`) with the fraction rendered.

* `C13_gmt`, `C13_local`: the full statement for every supported pattern (`supportedToks (lex p)`, no `%X`, at most
  one fractional specifier), every history of instants of 2001–2100 in any order; GMT unconditionally, local time
  for every zone function satisfying the explicit premise `ZoneOK P tz` (`P` = recalculation period of the header).
* `C13_rejects`: `%X`, two different fractional specifiers and (F21, repaired by a `fix:` commit; the flag `rr` is
  extracted from the header) a repeated fractional specifier throw; `C13_dupfrac_unrepaired_accepted` is the witness
  for the unrepaired constructor.
* The statement is **false of the pinned code** outside these hypotheses, with proved witnesses:
  `C13_F8_stale` (`%c %Ec %EX %OH %OI %OM %OS`: accepted, cached, stale — DESIGN §7 F8),
  `C13_pctpct_miswritten` (F20: a literal `%%` directly before `r R T X Q`, beyond the `H M S I k l s` the property
  itself excludes),
  `C13_offgrid_transition_stale` (F22 — local time: a zone transition that is not on the quarter-hour grid — the premise
  `ZoneOK` is not met by America/St_Johns 2001–2011 — leaves hour and offset stale).
* The core pieces of the proof, stated at full generality: `C13_frac_writer`, `C13_patch_fields`,
  `C13_recalc_points`, `C13_civil_roundtrip`.

The statement without the three exclusions —
  `∀ p accepted by the constructor, ∀ tz from the tz database, ∀ history, renderAll … = some (history.map (strftimeRef p …))` —
is what the property asks for and is refuted by the witnesses; the hypotheses `supportedToks (lex p)` (decidable,
evaluated by the correspondence driver on every generated pattern) and `ZoneOK P tz` (checked per zone by the harness)
exclude exactly the classes F8 / F20 and F22. The machine is the code as written: per-modifier `find`s with the cut at
the lowest position (`splitOnceCpp_eq`), the `_replace_all` loop (`replaceAllCpp_eq`), 32-bit `_cached_seconds`.
-/
namespace Time

/-- the texts rendered for a history of instants (nanoseconds since the epoch); `none` when the constructor throws -/
def renderAll (rr : Bool) (P : Nat) (tz : Nat → ZInfo) (p : List Char) (loc : Bool) (nss : List Nat) :
    Option (List (List Char)) :=
  match TF.init rr p loc with
  | .ok f => some (TF.run P tz f nss)
  | .error _ => none

/-- instants the property quantifies over: 2001-01-01 ≤ t < 2101-01-01, and ten-digit epochs when `%s` is used -/
def InRange (p : List Char) (ns : Nat) : Prop :=
  tMin ≤ ns / 1000000000 ∧ ns / 1000000000 < tMax ∧ (usesEpoch (lex p) = true → 1000000000 ≤ ns / 1000000000)

theorem good_of_inRange (p : List Char) (ns : Nat) (h : InRange p ns) : Good (lex p) (ns / 1000000000) :=
  (good_iff (lex p) (ns / 1000000000)).2 h

/-- common core of the two mode theorems -/
theorem C13_core (rr : Bool) (P : Nat) (tz : Nat → ZInfo) (loc : Bool) (hz : loc = true → ZoneOK P tz) (p : List Char)
    (hs : supportedToks (lex p) = true) (hx : hasX (lex p) = false) (hf : fracCount (lex p) ≤ 1)
    (nss : List Nat) (hr : ∀ ns ∈ nss, InRange p ns) :
    renderAll rr P tz p loc nss =
      some (nss.map (fun ns => strftimeRef p (tmOf loc tz (ns / 1000000000)) (ns % 1000000000))) := by
  obtain ⟨f, hinit, hinv⟩ := TF.init_spec rr P tz loc (lex p) hs hx hf
  rw [charsOf_lex] at hinit
  simp only [renderAll, hinit]
  rw [TF.run_spec P tz loc (lex p) hs hx hz nss f hinv (fun ns hns => good_of_inRange p ns (hr ns hns))]
  rfl

/-- **C13, GMT mode.** Every supported pattern, every history of instants in range — increasing, repeated,
    going backwards, jumping — renders, at every call, exactly `strftime` of `gmtime` of that instant with the
    fractional specifier replaced by the zero-padded fraction. (`tz` and `P` are irrelevant in this mode; `rr` —
    whether the constructor has the F21 repair — is irrelevant for accepted patterns.) -/
theorem C13_gmt (rr : Bool) (P : Nat) (tz : Nat → ZInfo) (p : List Char)
    (hs : supportedToks (lex p) = true) (hx : hasX (lex p) = false) (hf : fracCount (lex p) ≤ 1)
    (nss : List Nat) (hr : ∀ ns ∈ nss, InRange p ns) :
    renderAll rr P tz p false nss =
      some (nss.map (fun ns => strftimeRef p (gmtime (ns / 1000000000)) (ns % 1000000000))) := by
  have := C13_core rr P tz false (fun e => by cases e) p hs hx hf nss hr
  simpa [tmOf] using this

/-- **C13, local-time mode**, for every zone function that meets the premise `ZoneOK P tz`: zone data constant
    on the recalculation windows `[kP, (k+1)P)` the code uses and offsets multiples of `P`. -/
theorem C13_local (rr : Bool) (P : Nat) (tz : Nat → ZInfo) (hz : ZoneOK P tz) (p : List Char)
    (hs : supportedToks (lex p) = true) (hx : hasX (lex p) = false) (hf : fracCount (lex p) ≤ 1)
    (nss : List Nat) (hr : ∀ ns ∈ nss, InRange p ns) :
    renderAll rr P tz p true nss =
      some (nss.map (fun ns =>
        strftimeRef p (mkTm (ns / 1000000000) (tz (ns / 1000000000))) (ns % 1000000000))) := by
  have := C13_core rr P tz true (fun _ => hz) p hs hx hf nss hr
  simpa [tmOf] using this

/-- non-vacuity: a pattern with every kind of token meets the hypotheses; instants of the range exist; a
    constant-offset zone (Asia/Kolkata) and a zone with a DST change on the grid meet the zone premise -/
example : supportedToks (lex "%a %d %b %Y [%%] %H:%M:%S.%Qus %p %I|%k|%l %r %R %T %EY %Od %z %Z %s".toList) = true ∧
    hasX (lex "%a %d %b %Y [%%] %H:%M:%S.%Qus %p %I|%k|%l %r %R %T %EY %Od %z %Z %s".toList) = false ∧
    fracCount (lex "%a %d %b %Y [%%] %H:%M:%S.%Qus %p %I|%k|%l %r %R %T %EY %Od %z %Z %s".toList) ≤ 1 := by
  -- evaluating `toList` of a literal is quadratic in its length; as a list of characters it is linear
  rw [String.toList_ofList]
  decide +kernel
example : InRange "%s %H".toList 1700000000123456789 ∧ InRange "%H".toList 978307200000000000 := by
  refine ⟨⟨by decide +kernel, by decide +kernel, fun _ => by decide +kernel⟩,
    ⟨by decide +kernel, by decide +kernel, fun h => ?_⟩⟩
  revert h; decide +kernel
example : ZoneOK 900 (fun _ => ⟨19800, false, "IST".toList⟩) :=
  ⟨by decide, by decide, fun _ _ _ => rfl, fun _ => by decide, fun _ => by decide⟩
example : ZoneOK 900 (fun t => if t / 900 < 1111111 then ⟨3600, false, "CET".toList⟩ else ⟨7200, true, "CEST".toList⟩) :=
  ⟨by decide, by decide, fun t t' h => by simp only [h], fun t => by split <;> decide, fun t => by split <;> decide⟩

/-- **C13, rejections.** For every supported pattern: two different fractional specifiers throw the exclusivity
    error; the same specifier used more than once throws (F21 repair; the `%X` error if the text before the first
    specifier has a `%X`, the "only once" error otherwise); with at most one specifier a `%X` conversion throws the
    `%X` error. -/
theorem C13_rejects (rr : Bool) (p : List Char) (loc : Bool) (hs : supportedToks (lex p) = true) :
    (2 ≤ kindCount (lex p) → TF.init rr p loc = .error .exclusive) ∧
    (kindCount (lex p) ≤ 1 → 2 ≤ fracCount (lex p) →
      TF.init true p loc = .error .repeated ∨ TF.init true p loc = .error .percentX) ∧
    (fracCount (lex p) ≤ 1 → hasX (lex p) = true → TF.init rr p loc = .error .percentX) := by
  have h1 := TF.init_exclusive rr (lex p) loc hs
  have h2 := TF.init_repeated (lex p) loc hs
  have h3 := TF.init_percentX rr (lex p) loc hs
  rw [charsOf_lex] at h1 h2 h3
  exact ⟨h1, h2, h3⟩

example : supportedToks (lex "%H:%M.%Qms %Qus".toList) = true ∧ 2 ≤ kindCount (lex "%H:%M.%Qms %Qus".toList) := by
  decide +kernel
example : supportedToks (lex "%d %X.%Qms".toList) = true ∧ fracCount (lex "%d %X.%Qms".toList) ≤ 1 ∧
    hasX (lex "%d %X.%Qms".toList) = true := by decide +kernel
example : supportedToks (lex "%S.%Qms %Qms".toList) = true ∧ kindCount (lex "%S.%Qms %Qms".toList) ≤ 1 ∧
    2 ≤ fracCount (lex "%S.%Qms %Qms".toList) := by decide +kernel

/-- **fraction writer**: for every instant and every specifier, the zeros-then-right-aligned-digits writer produces
    the zero-padded fixed-width fraction of the sub-second part -/
theorem C13_frac_writer (k : Frac) (ns : Nat) :
    writeFrac k.width (k.value (ns - ns / 1000000000 * 1000000000)) = fixedDigits k.width (k.value (ns % 1000000000)) := by
  rw [sub_div_mul]; exact writeFrac_frac k _ (Nat.mod_lt _ (by decide))

/-- **digit patching**: the cache holds second-of-day `sod0`; `d` seconds later (same day: `sod0 + d < 86400`, which
    the recalculation points guarantee) the hours/minutes/seconds computed by `format_timestamp` from the 32-bit sum
    are those of second-of-day `sod0 + d`, and each patched field is the text `strftime` gives, of the field's width
    (two characters, ten for `%s`) -/
theorem C13_patch_fields (sod0 d : Nat) (h : sod0 + d < 86400) (tm : Tm) (htm : tm.sod = sod0 + d) (ft : FT)
    (hs : ft = .s → 1000000000 ≤ tm.epoch ∧ tm.epoch < 10000000000) :
    let cs := (sod0 + d % 4294967296) % 4294967296
    patchText ft (cs / 3600) ((cs - cs / 3600 * 3600) / 60) (cs - cs / 3600 * 3600 - (cs - cs / 3600 * 3600) / 60 * 60)
        tm.epoch = renderConv ft.char tm ∧
      (renderConv ft.char tm).length = ft.back := by
  intro cs
  have hcs : cs = tm.sod := by simp only [cs]; omega
  obtain ⟨hmin, hsec⟩ := hms_decompose tm.sod
  obtain ⟨r, l⟩ := field_render ft tm (by omega) hs
  rw [hcs, hsec, hmin]
  exact ⟨r.symm, by rw [r]; exact l⟩

example : ∃ tm : Tm, tm.sod = 43199 + 1 ∧ (43199 : Nat) + 1 < 86400 := ⟨gmtime 43200, by decide +kernel, by decide⟩

/-- **recalculation points**: the GMT point computed through `gmtime`/`timegm` is the end of the current half day,
    the local point the end of the current period; both lie after the instant, and every instant before them (and
    not before the cached one) has the cached instant's civil day and AM/PM in GMT -/
theorem C13_recalc_points (t : Nat) :
    nextNoonOrMidnight t = (t / 43200 + 1) * 43200 ∧ t < nextNoonOrMidnight t ∧
    (∀ P, 0 < P → nextQuarterHour P t = (t / P + 1) * P ∧ t < nextQuarterHour P t) ∧
    (∀ u, t ≤ u → u < nextNoonOrMidnight t →
      (gmtime u).days = (gmtime t).days ∧ (gmtime u).pm = (gmtime t).pm ∧ (gmtime u).sod = (gmtime t).sod + (u - t)) := by
  refine ⟨nextNoonOrMidnight_eq t, nextNoonOrMidnight_gt t, ?_, ?_⟩
  · intro P hP
    have e : nextQuarterHour P t = (t / P + 1) * P := by simp only [nextQuarterHour, Nat.succ_mul]
    exact ⟨e, by rw [e]; exact lt_next_window P t hP⟩
  · intro u htu hu
    rw [nextNoonOrMidnight_eq] at hu
    simp only [gmtime_days, gmtime_sod, Tm.pm]
    exact halfday_fields (window_of_bounds 43200 t u htu hu) (by omega)

/-- **civil round trip**: `timegm (gmtime t)` is `t`, and the civil fields are in range -/
theorem C13_civil_roundtrip (t : Nat) :
    daysFromCivil (yearOf (gmtime t).days) (monOf (gmtime t).days) (mdayOf (gmtime t).days) * 86400 +
        (gmtime t).hour * 3600 + (gmtime t).min * 60 + (gmtime t).sec = t ∧
    1 ≤ monOf (gmtime t).days ∧ monOf (gmtime t).days ≤ 12 ∧ 1 ≤ mdayOf (gmtime t).days ∧ mdayOf (gmtime t).days ≤ 31 := by
  have hr := civilFromDays_ranges (gmtime t).days
  refine ⟨?_, hr⟩
  rw [Nat.add_assoc, Nat.add_assoc, ← Nat.add_assoc (_ * 3600), cachedSecs_eq]
  simp only [yearOf, monOf, mdayOf, daysFromCivil_civilFromDays, gmtime_days, gmtime_sod]
  exact Nat.div_add_mod' t 86400

/-- **F8** — `%OS` (likewise `%c %Ec %EX %OH %OI %OM`) is accepted, cached as static text and rendered stale: one
    second later the formatter still prints `20` where `strftime` prints `21`. -/
theorem C13_F8_stale :
    renderAll true 900 (fun _ => gmtZ) "%OS".toList false [1700000000000000000, 1700000001000000000] =
      some ["20".toList, "20".toList] ∧
    strftimeRef "%OS".toList (gmtime 1700000001) 0 = "21".toList ∧
    f8Tok (.mod 'O' 'S') = true ∧ supportedToks (lex "%OS".toList) = false := by decide +kernel

/-- **`%%` before `T`** (likewise `r R`; `X` → spurious rejection; `Q?s` → fraction inserted): the substring
    rewrite turns the literal `%%T` into `%%H:%M:%S`. -/
theorem C13_pctpct_miswritten :
    renderAll true 900 (fun _ => gmtZ) "%%T".toList false [1700000000000000000] = some ["%22:13:20".toList] ∧
    strftimeRef "%%T".toList (gmtime 1700000000) 0 = "%T".toList ∧
    renderAll true 900 (fun _ => gmtZ) "%%X".toList false [1700000000000000000] = none ∧
    strftimeRef "%%X".toList (gmtime 1700000000) 0 = "%X".toList ∧
    renderAll true 900 (fun _ => gmtZ) "%%Qms".toList false [1700000000123000000] = some ["%123".toList] ∧
    supportedToks (lex "%%T".toList) = false := by decide +kernel

/-- **F21 (repaired)** — without the second search of the constructor (`rr = false`, the pinned tree) the same
    fractional specifier twice is not rejected and the second one is handed to `strftime`; with it, it throws. -/
theorem C13_dupfrac_unrepaired_accepted :
    renderAll false 900 (fun _ => gmtZ) "%Qms%Qms".toList false [1700000000123000000] = some ["123%Qms".toList] ∧
    renderAll true 900 (fun _ => gmtZ) "%Qms%Qms".toList false [1700000000123000000] = none ∧
    fracCount (lex "%Qms%Qms".toList) = 2 ∧ kindCount (lex "%Qms%Qms".toList) = 1 := by decide +kernel

/-- America/St_Johns around 2001-04-01 00:01 local (03:31:00 UTC), as a zone function -/
def stJohns2001 (t : Nat) : ZInfo :=
  if t < 986095860 then ⟨-12600, false, "NST".toList⟩ else ⟨-9000, true, "NDT".toList⟩

/-- **a zone transition off the quarter-hour grid**: the cache keeps offset and hour of 03:30:59 UTC until 03:45. -/
theorem C13_offgrid_transition_stale :
    renderAll true 900 stJohns2001 "%H:%M:%S %z".toList true [986095859000000000, 986095860000000000] =
      some ["00:00:59 -0330".toList, "00:01:00 -0330".toList] ∧
    strftimeRef "%H:%M:%S %z".toList (mkTm 986095860 (stJohns2001 986095860)) 0 = "01:01:00 -0230".toList ∧
    986095859 / 900 = 986095860 / 900 ∧ stJohns2001 986095859 ≠ stJohns2001 986095860 := by decide +kernel

end Time
