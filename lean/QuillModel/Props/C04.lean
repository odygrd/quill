import QuillModel.Codec.Statement
import QuillModel.Codec.Window
/-!
# C04 — async-formatted message = call-site formatting; deep copy; reserved = written = consumed bytes

Property theorems only (helper lemmas: `QuillModel/Codec/*`). Quantifiers: every argument value `a : Arg`
(arithmetic/enum/pointer, C string incl. null, `char[N]` with or without terminator, `std::string`/`string_view`
with arbitrary bytes, every std/ container incl. the arithmetic shortcuts and `forward_list`, optional, pair, tuple,
deferred-format POD and aligned non-POD, direct-format, `StringRef`, filesystem path) *nested arbitrarily*
(structural induction over `Arg` and over argument lists), every argument list, every prior content and capacity of
the size cache, every buffer address `pos` and prior buffer content `old`.

`wf a` (decidable) excludes only what the C++ truncates: a string of `2^32 − 2` bytes or more, a container of `2^32`
elements or more, and heterogeneous "containers" (which have no C++ counterpart); `ki.ok` is discharged for the
extracted container table in `Obligations/Codec.lean`.

What is **not** proved (libfmt is not modelled): that `fmtquill::vformat` on the decoded values produces the same
text as `fmtquill::format` on the original arguments. `C04_text_partial` proves the statement up to "fmt is a function
of the format string and of the documented values"; the harness oracle (`h3_codec`, `ORACLE text …`) tests that step
on the real code, after the arguments were overwritten and destroyed.
-/
namespace Codec

/-- **reserved = written (one argument, any nesting), and the cache hand-over.**
    After the size pass of `a` on any cache `c`, the encode pass started at the index where the size pass began
    succeeds (no out-of-range cache read, no read outside the argument), writes exactly as many bytes as the size
    pass reserved, and ends at the index one past the last length the size pass pushed. -/
theorem C04_reserved_eq_written (old : Mem) (a : Arg) (c : Cache) (pos : Nat) (h : wf a = true) :
    ∃ bytes, encode old (sizePass c a).2 c.data.length pos a = some (bytes, c.data.length + (lens a).length) ∧
      (sizePass c a).1 = bytes.length ∧ (sizePass c a).2.data = c.data ++ lens a := by
  refine ⟨enc old pos a, ?_, ?_, ?_⟩
  · rw [sizePass_spec old a c pos h]
    exact encode_spec old a _ _ pos h (Window.of_pushAll c (lens a))
  · rw [sizePass_spec old a c pos h]
  · rw [sizePass_spec old a c pos h]; exact pushAll_data c (lens a)

/-- the same for an argument list (a tuple's members, a statement's arguments) -/
theorem C04_reserved_eq_written_list (old : Mem) (as : List Arg) (c : Cache) (pos : Nat) (h : wfL as = true) :
    ∃ bytes, encodeL old (sizePassL c as).2 c.data.length pos as = some (bytes, c.data.length + (lensL as).length) ∧
      (sizePassL c as).1 = bytes.length ∧ (sizePassL c as).2.data = c.data ++ lensL as :=
  C04_reserved_eq_written old (.tuple as) c pos h

/-- **index alignment.** (1) the size pass appends exactly `lens a` — one entry per C string / `char[N]` /
    direct-format argument / `forward_list`, depth first, in argument order — after whatever the cache held, whatever
    its capacity (heap growth keeps the entries); (2) the encode pass, started at *any* index `i` of *any* cache whose
    entries from `i` on begin with `lens a`, succeeds, produces the specified bytes and stops at `i + |lens a|`: it
    consumes exactly that window (every read is `cache[index++]`) and nothing else of the cache influences it. -/
theorem C04_index_alignment (old : Mem) (a : Arg) (h : wf a = true) :
    (∀ c : Cache, (sizePass c a).2.data = c.data ++ lens a) ∧
    (∀ (c' : Cache) (i pos : Nat), Window c' i (lens a) →
        encode old c' i pos a = some (enc old pos a, i + (lens a).length)) :=
  ⟨fun c => by rw [sizePass_spec old a c 0 h]; exact pushAll_data c (lens a),
   fun c' i pos hw => encode_spec old a c' i pos h hw⟩

/-- **exactly those entries.** For the encode pass of `a` started at index `i`: (a) only the entries
    `i … i + |lens a| − 1` matter — any cache agreeing with a good one on that range gives the same bytes and the same
    end index; (b) every one of them is needed — a cache that ends anywhere inside the range makes the pass fault
    (`none`: the C++ `operator[]` throws `index out of bounds`). With `C04_index_alignment` (the pass ends at
    `i + |lens a|`, and the size pass wrote `lens a` at exactly that range) the entries consumed by `encode` are exactly
    those pushed by `compute_encoded_size`, in order. -/
theorem C04_window_exact (old : Mem) (a : Arg) (h : wf a = true) (c1 c2 : Cache) (i pos : Nat) :
    (Window c1 i (lens a) → (∀ j, j < (lens a).length → c2.data[i + j]? = c1.data[i + j]?) →
        encode old c2 i pos a = encode old c1 i pos a) ∧
    (Short c1 i (lens a) → encode old c1 i pos a = none) := by
  refine ⟨fun hw heq => ?_, fun hs => encode_short old a c1 i pos h hs⟩
  have hw2 : Window c2 i (lens a) := by
    rw [window_iff] at hw ⊢
    intro j hj; rw [heq j hj, hw j hj]
  rw [encode_spec old a c1 i pos h hw, encode_spec old a c2 i pos h hw2]

/-- an empty optional caches nothing (and an engaged one exactly what its value caches) -/
theorem C04_optional_alignment (es : Shape) (a : Arg) : lens (.optNone es) = [] ∧ lens (.optSome a) = lens a :=
  ⟨rfl, rfl⟩

/-- a container that takes the arithmetic shortcut in the size pass caches nothing for its elements, and its
    elements would not have cached anything on the slow path either (so the encode pass, fast or slow, agrees) -/
theorem C04_fast_path_alignment (ki : KindInfo) (es : Shape) (elems : List Arg)
    (hf : fastOK ki es = true) (hh : homog es elems = true) :
    lensL elems = [] ∧ lens (.seq ki es elems) = (if ki.pushCount then [elems.length % U32] else []) := by
  have h0 := fast_lensL hf hh
  exact ⟨h0, by rw [lens_seq hh, h0, List.append_nil]⟩

/-- more than `N` cached lengths: the entries survive every reallocation of the `InlinedVector` -/
theorem C04_growth_keeps_entries (c : Cache) (xs : List Nat) : (c.pushAll xs).data = c.data ++ xs :=
  pushAll_data c xs

/-- **bytes consumed = bytes written, and the decoded value is the documented one.**
    Decoding at the statement's static shape, at the address the record was written to, consumes exactly the bytes
    the encoder wrote (whatever follows is returned untouched) and yields `view a`: C string cut at the first NUL
    (null pointer ↦ empty text), `char[N]` cut at NUL or `N`, `std::string` all bytes incl. NUL, containers
    element-wise, POD / aligned objects bit-for-bit. -/
theorem C04_decode_encode (old : Mem) (a : Arg) (c : Cache) (pos : Nat) (rest : Bytes) (h : wf a = true) :
    ∃ bytes i', encode old (sizePass c a).2 c.data.length pos a = some (bytes, i') ∧
      decode (shapeOf a) pos (bytes ++ rest) = some (view a, rest) := by
  refine ⟨enc old pos a, c.data.length + (lens a).length, ?_, decode_spec old a pos rest h⟩
  rw [sizePass_spec old a c pos h]
  exact encode_spec old a _ _ pos h (Window.of_pushAll c (lens a))

/-- **deep copy.** The value the backend sees is determined by the encoded bytes alone: two arguments of the same
    static type whose encodings agree are seen as the same value — so nothing outside the record (the caller's
    memory after the call returned) can change it. (`StringRef` is seen as pointer + length, as documented.) -/
theorem C04_bytes_determine_view (old old' : Mem) (a a' : Arg) (pos : Nat) (h : wf a = true) (h' : wf a' = true)
    (hs : shapeOf a = shapeOf a') (he : enc old pos a = enc old' pos a') : view a = view a' := by
  have h1 := decode_spec old a pos [] h
  have h2 := decode_spec old' a' pos [] h'
  rw [hs, he, h2] at h1
  exact ((Prod.mk.inj (Option.some.inj h1)).1).symm

/-- **framing.** For every argument list, prior cache and header/level bytes of the extracted widths: the record is
    written without a cache fault, its length is the `total_size` reserved (`header + Σ sizes + 1 if dynamic`), and
    the backend — header, stored decoder at the statement's shapes, trailing level — consumes exactly those bytes and
    sees the header, the documented values and the level. -/
theorem C04_framing (old : Mem) (f : Frame) (c : Cache) (args : List Arg) (pos : Nat) (dyn : Bool)
    (hdr lvl rest : Bytes) (h : wfL args = true) (hh : hdr.length = f.header)
    (hl : lvl.length = if dyn then f.lvlBytes else 0) :
    ∃ record, writeRecord old c pos hdr args lvl = some record ∧
      record.length = reserved f c args dyn ∧
      readRecord f (shapesOf args) pos dyn (record ++ rest) = some (hdr, viewL args, lvl, rest) := by
  have hs := sizeStatement_spec old c args (pos + hdr.length) h
  have he := encodeL_spec old args ((startCache c args).pushAll (lensL args)) 0 (pos + hdr.length) h
    (window_statement c args)
  refine ⟨hdr ++ encL old (pos + hdr.length) args ++ lvl, ?_, ?_, ?_⟩
  · unfold writeRecord; rw [hs]; simp only [he]
  · unfold reserved; rw [hs]; simp only [List.length_append, hh, hl]
  · unfold readRecord
    rw [List.append_assoc, List.append_assoc, hh, if_neg (by rw [List.length_append, hh]; omega),
      List.drop_left' hh, List.take_left' hh, decodeL_spec old args (pos + f.header) (lvl ++ rest) h]
    dsimp only
    rw [if_neg (by rw [List.length_append, hl]; omega), List.take_left' hl, List.drop_left' hl]

/-- **a dropped statement leaves nothing behind.** Whatever the thread did before — any number of statements,
    each either logged (size pass + encode pass) or *dropped / rejected between the two passes* (size pass only: a
    full `BoundedDropping` / `UnboundedDropping` queue, or a record over the unbounded maximum), with any arguments,
    starting from any cache — the next statement behaves as on a thread that never logged: (1) its size pass
    reserves, and its encode pass writes, exactly the specified encoding `encL` (no fault, reserved = written);
    (2) that is literally what a fresh cache of any inline capacity `N` gives; (3) if the statement uses the cache at
    all, the size pass leaves exactly its own lengths in it — the same entries as on a fresh cache. This is what the
    `clear()` at the *start* of `compute_encoded_size_and_cache_string_lengths` buys (obligation `codec_clear_position`
    pins it there and pins `detail::encode` to a `const&` cache). -/
theorem C04_drop_leaves_nothing (old : Mem) (c : Cache) (ops : List StmtOp) (args : List Arg) (pos N : Nat)
    (h : wfL args = true) :
    passesAfter true old c ops pos args = ((encL old pos args).length, some (encL old pos args)) ∧
    passesAfter true old c ops pos args = passesAfter true old (Cache.init N) [] pos args ∧
    (args.any needsClear = true →
      (sizeStatement (cacheAfter true c ops) args).2.data = lensL args ∧
      (sizeStatement (cacheAfter true c ops) args).2.data = (sizeStatement (Cache.init N) args).2.data) := by
  have key : ∀ c' : Cache, passesAfter true old c' [] pos args = ((encL old pos args).length, some (encL old pos args)) := by
    intro c'
    simp only [passesAfter, cacheAfter, List.foldl_nil, sizeStatementAt_true]
    exact passes_spec old c' args pos h
  have h1 : passesAfter true old c ops pos args = passesAfter true old (cacheAfter true c ops) [] pos args := by
    simp [passesAfter, cacheAfter]
  refine ⟨by rw [h1, key], by rw [h1, key, key], fun hc => ?_⟩
  have hd : ∀ c' : Cache, (sizeStatement c' args).2.data = lensL args := by
    intro c'
    rw [sizeStatement_spec old c' args pos h, pushAll_data]
    simp [startCache, hc, Cache.clear]
  exact ⟨hd _, by rw [hd, hd]⟩

/-- the same at record level: after any history of logged and dropped statements the record is written without a
    fault, has the reserved length and is read back as the documented values (`C04_framing` on the cache the history
    left) -/
theorem C04_framing_after_drops (old : Mem) (f : Frame) (c : Cache) (ops : List StmtOp) (args : List Arg) (pos : Nat)
    (dyn : Bool) (hdr lvl rest : Bytes) (h : wfL args = true) (hh : hdr.length = f.header)
    (hl : lvl.length = if dyn then f.lvlBytes else 0) :
    ∃ record, writeRecord old (cacheAfter true c ops) pos hdr args lvl = some record ∧
      record.length = reserved f (cacheAfter true c ops) args dyn ∧
      reserved f (cacheAfter true c ops) args dyn = reserved f c args dyn ∧
      readRecord f (shapesOf args) pos dyn (record ++ rest) = some (hdr, viewL args, lvl, rest) := by
  obtain ⟨record, h1, h2, h3⟩ := C04_framing old f (cacheAfter true c ops) args pos dyn hdr lvl rest h hh hl
  refine ⟨record, h1, h2, ?_, h3⟩
  unfold reserved
  rw [sizeStatement_spec old _ args pos h, sizeStatement_spec old c args pos h]

/-- **the position of the `clear()` matters** (why the obligation pins it): were the cache cleared *after* the encode
    pass instead (`clearAtStart = false`) — indistinguishable as long as every statement is encoded — one dropped
    statement would leave its lengths behind and the next statement would be encoded with them: here a direct-format
    text of 5 bytes after a dropped one of 1 byte is written as 4 + 1 bytes although 4 + 5 were reserved; with the
    `clear()` at the start the same history is harmless. -/
theorem C04_clear_position_matters :
    passesAfter false (fun _ => 0) (Cache.init 12) [.dropped [.direct [97]]] 0 [.direct [100, 100, 100, 100, 100]] =
      (9, some [1, 0, 0, 0, 100]) ∧
    passesAfter false (fun _ => 0) (Cache.init 12) [.logged [.direct [97]]] 0 [.direct [100, 100, 100, 100, 100]] =
      (9, some [5, 0, 0, 0, 100, 100, 100, 100, 100]) ∧
    passesAfter true (fun _ => 0) (Cache.init 12) [.dropped [.direct [97]]] 0 [.direct [100, 100, 100, 100, 100]] =
      (9, some [5, 0, 0, 0, 100, 100, 100, 100, 100]) := by decide +kernel

/-- **every statement is formatted from its own decoded arguments only.** The backend has ONE argument store for all
    statements of all threads and loggers. Whatever was decoded before — any history `hist` of records (any shapes,
    any bytes, decodable or not) starting from any store `s0` — decoding statement `n` (`decode_and_store_args`, which
    clears the store first *whatever the argument count*) yields the store a fresh backend would hold, and hence the same
    sink text and the same number of error reports for every `fmt`, format string, error text and printable predicate:
    they are a function of statement `n`'s shapes and bytes alone. For a well-formed argument list written by the
    encode pass that store holds exactly the documented values `viewL args` and the string-related flag of the
    statement's own shapes — for the empty argument list: no value at all (so a format string with a placeholder cannot
    be satisfied by someone else's argument) and no sanitising. -/
theorem C04_store_per_statement (old : Mem) (s0 : Store) (hist : List (List Shape × Nat × Bytes)) (shapes : List Shape)
    (pos : Nat) (bs : Bytes) (p : Option Printable) (fmt : Bytes → List Val → Option Bytes) (err : Bytes → Bytes)
    (fmtStr : Bytes) :
    decodeStatement shapes pos bs (storeAfter true s0 hist) = decodeStatement shapes pos bs Store.empty ∧
    ((decodeStatement shapes pos bs (storeAfter true s0 hist)).map (fun r => storeText p fmt err fmtStr r.1) =
      (decodeStatement shapes pos bs Store.empty).map (fun r => storeText p fmt err fmtStr r.1)) ∧
    (∀ (args : List Arg) (rest : Bytes), wfL args = true →
      decodeStatement (shapesOf args) pos (encL old pos args ++ rest) (storeAfter true s0 hist) =
        some ({ vals := viewL args, stringRelated := (shapesOf args).any stringRelated }, rest)) ∧
    decodeStatement [] pos bs (storeAfter true s0 hist) = some (Store.empty, bs) := by
  have indep : ∀ (sh : List Shape) (b : Bytes) (prev : Store),
      decodeStatement sh pos b prev = decodeStatement sh pos b Store.empty := by
    intro sh b prev; simp [decodeStatement, decodeStatementAt]
  refine ⟨indep _ _ _, by rw [indep], fun args rest h => ?_, ?_⟩
  · simp [decodeStatement, decodeStatementAt, decodeL_spec old args pos rest h]
  · rfl

/-- **why the reset must not depend on the argument count** (the variant `clearFirst = false`, which skips
    `clear()` for a statement without arguments, refuted by a concrete witness): after a record carrying the `int32_t`
    4242 and the C string "a", a zero-argument statement still finds both in the store and the string-related flag set;
    with a `fmt` that needs one argument (a format string with one placeholder) it is written as that foreign value
    instead of the error text, nothing is reported, and a tab in an argument-less message would be sanitised. With the
    unconditional `clear()` the same history gives the empty store, the error text and one report. -/
theorem C04_store_reset_skipped_leaks :
    let prev := storeAfter false Store.empty [([.prim .arith 4, .cstr], 0, [146, 16, 0, 0, 97, 0])]
    let fmt : Bytes → List Val → Option Bytes := fun _ vs => match vs with | .prim b :: _ => some b | _ => none
    let err : Bytes → Bytes := fun _ => [69]
    (decodeStatementAt false [] 0 [] prev).map (fun r => (r.1.vals.length, r.1.stringRelated)) = some (2, true) ∧
    (decodeStatementAt false [] 0 [] prev).map (fun r => storeText none fmt err [] r.1) = some ([146, 16, 0, 0], 0) ∧
    (decodeStatementAt true [] 0 [] prev).map (fun r => (r.1.vals.length, r.1.stringRelated)) = some (0, false) ∧
    (decodeStatementAt true [] 0 [] prev).map (fun r => storeText none fmt err [] r.1) = some ([69], 1) := by decide +kernel

/-- **sanitiser, for EVERY predicate.** `BackendOptions::check_printable_char` is any `bool(char)` the user supplies.
    For every such `ok` and every message: the sink text is the message with exactly the bytes failing `ok` replaced by
    `\xHH` (backslash, `x`, two upper-case hex digits of the byte), every other byte kept, order kept — wherever in the
    byte range the rejected bytes lie (inside printable ASCII too); it is the identity exactly on the messages all of
    whose bytes pass `ok`; and it grows the message by three bytes per replaced byte. -/
theorem C04_sanitize_any_predicate (ok : UInt8 → Bool) (s : Bytes) :
    sanitizeBy ok s = s.flatMap (fun b => if ok b then [b] else [92, 120, hexUpper (b.toNat / 16), hexUpper (b.toNat % 16)]) ∧
    (sanitizeBy ok s = s ↔ s.all ok = true) ∧
    (sanitizeBy ok s).length = s.length + 3 * (s.filter (fun b => !ok b)).length := by
  refine ⟨sanitizeBy_eq_flatMap ok s, ⟨fun h => ?_, fun h => by unfold sanitizeBy; simp [h]⟩, ?_⟩
  · have hl := flatMapBy_length ok s
    rw [← sanitizeBy_eq_flatMap, h] at hl
    have h0 : (s.filter (fun b => !ok b)).length = 0 := by omega
    have hnil := List.eq_nil_of_length_eq_zero h0
    rw [List.all_eq_true]
    intro b hb
    cases hc : ok b with
    | true => rfl
    | false =>
      have : b ∈ s.filter (fun b => !ok b) := List.mem_filter.mpr ⟨hb, by simp [hc]⟩
      rw [hnil] at this; exact absurd this List.not_mem_nil
  · rw [sanitizeBy_eq_flatMap]; exact flatMapBy_length ok s

/-- **why the detection loop may not shortcut printable ASCII** (the variant `sanitizeDetectShortcut`, refuted by a
    concrete witness): with a predicate that also rejects `|`, the message `a|b` must become `a\x7Cb`; the variant, which
    does not ask the predicate about bytes in `' '..'~'` while looking for something to escape, leaves it alone — and
    escapes the very same `|` as soon as a control byte is present too. -/
theorem C04_sanitize_shortcut_misses :
    let ok : UInt8 → Bool := fun b => decide (32 ≤ b.toNat) && decide (b.toNat ≤ 126) && b != 124
    sanitizeBy ok [97, 124, 98] = [97, 92, 120, 55, 67, 98] ∧
    sanitizeDetectShortcut ok [97, 124, 98] = [97, 124, 98] ∧
    sanitizeDetectShortcut ok [97, 124, 9] = [97, 92, 120, 55, 67, 92, 120, 48, 57] := by decide +kernel

/-- the same three facts for the default predicate shape (`lo ≤ c ≤ hi` or one of `extra`, extracted): the sink text is
    the message with exactly the bytes failing the printable predicate replaced by `\xHH`; … -/
theorem C04_sanitize_spec (p : Printable) (s : Bytes) :
    sanitize p s = s.flatMap (fun b => if p.ok b then [b] else [92, 120, hexUpper (b.toNat / 16), hexUpper (b.toNat % 16)]) :=
  (C04_sanitize_any_predicate p.ok s).1

/-- … it is the identity on a message whose bytes are all printable, and only on those; … -/
theorem C04_sanitize_id (p : Printable) (s : Bytes) : sanitize p s = s ↔ s.all p.ok = true :=
  (C04_sanitize_any_predicate p.ok s).2.1

/-- … and it grows the message by three bytes per replaced byte. -/
theorem C04_sanitize_length (p : Printable) (s : Bytes) :
    (sanitize p s).length = s.length + 3 * (s.filter (fun b => !p.ok b)).length :=
  (C04_sanitize_any_predicate p.ok s).2.2

/-- **a set is seen in the order it was encoded.** The codec of `std::set` / `std::multiset` writes the elements in the
    container's iteration order — the order of ITS comparator, default or not — and the backend must see them in that
    order (it rebuilds the container with the rebound comparator: obligation `codec_set_order`): the view of a decoded
    sequence container of any family is the list of its elements' views in encode order, never re-sorted. -/
theorem C04_set_view_in_encode_order (old : Mem) (ki : KindInfo) (es : Shape) (elems : List Arg) (pos : Nat) (rest : Bytes)
    (h : wf (.seq ki es elems) = true) :
    decode (shapeOf (.seq ki es elems)) pos (enc old pos (.seq ki es elems) ++ rest) = some (.seq (viewL elems), rest) :=
  decode_spec old (.seq ki es elems) pos rest h

/-- the arithmetic values of a decoded sequence, in the order the backend sees them -/
def primSeq : Val → List Nat
  | .seq l => l.filterMap (fun v => match v with | .prim b => some (leVal b) | _ => none)
  | _ => []

/-- ascending insertion sort (structural, so that `decide` can run it) -/
def sortAsc : List Nat → List Nat
  | [] => []
  | x :: xs => (sortAsc xs).takeWhile (· < x) ++ x :: (sortAsc xs).dropWhile (· < x)

/-- witness: a `std::set<int32_t, std::greater<>>` holding 3, 2, 1 is seen as 3, 2, 1; a decode that re-sorts
    ascending (`sortAsc`) would show 1, 2, 3 — not what the call site formats -/
theorem C04_resorting_decode_differs :
    let a : Arg := .seq { hasPrefix := true, fastSize := true, fastEncode := false, pushCount := false, mapLike := false, pairTemp := false }
      (.prim .arith 4) [.prim .arith [3, 0, 0, 0], .prim .arith [2, 0, 0, 0], .prim .arith [1, 0, 0, 0]]
    (decode (shapeOf a) 0 (enc (fun _ => 0) 0 a)).map (fun r => primSeq r.1) = some [3, 2, 1] ∧
    primSeq (view a) = [3, 2, 1] ∧
    (decode (shapeOf a) 0 (enc (fun _ => 0) 0 a)).map (fun r => sortAsc (primSeq r.1)) = some [1, 2, 3] := by decide +kernel

/-- **text = call-site formatting — partial.** Full statement (not provable here, libfmt is not modelled):
    `sinkText = sanitize (fmtquill::format fmtStr args…)`. Proved: for *every* function `fmt` of the format string and
    the decoded values, the text the backend produces from the record equals `finalText` of `fmt` applied to the
    documented values `viewL args` — i.e. the two sides agree provided call-site formatting of an argument is a
    function of its documented value (what the harness oracle checks on the real libfmt). -/
theorem C04_text_partial (old : Mem) (f : Frame) (c : Cache) (args : List Arg) (pos : Nat) (dyn : Bool)
    (hdr lvl rest : Bytes) (h : wfL args = true) (hh : hdr.length = f.header)
    (hl : lvl.length = if dyn then f.lvlBytes else 0)
    (fmt : Bytes → List Val → Bytes) (fmtStr : Bytes) (p : Option Printable) :
    ∃ record, writeRecord old c pos hdr args lvl = some record ∧
      (readRecord f (shapesOf args) pos dyn (record ++ rest)).map
          (fun r => finalText p (shapesOf args) (fmt fmtStr r.2.1)) =
        some (finalText p (shapesOf args) (fmt fmtStr (viewL args))) := by
  obtain ⟨record, hw, _, hr⟩ := C04_framing old f c args pos dyn hdr lvl rest h hh hl
  exact ⟨record, hw, by rw [hr]; rfl⟩

/-! Non-vacuity: concrete, non-trivial inputs meet the hypotheses and exercise the branches -/

def kiVector : KindInfo := { hasPrefix := true, fastSize := true, fastEncode := true, pushCount := false, mapLike := false, pairTemp := false }
def kiList : KindInfo := { hasPrefix := true, fastSize := true, fastEncode := false, pushCount := false, mapLike := false, pairTemp := false }
def kiFwd : KindInfo := { hasPrefix := true, fastSize := false, fastEncode := false, pushCount := true, mapLike := false, pairTemp := false }
def kiMap : KindInfo := { hasPrefix := true, fastSize := true, fastEncode := false, pushCount := false, mapLike := true, pairTemp := true }
def kiArray : KindInfo := { hasPrefix := false, fastSize := true, fastEncode := true, pushCount := false, mapLike := false, pairTemp := false }

/-- `"ab\0cd"` behind a `char const*`, an unterminated `char[3]`, a `std::string` with an embedded NUL, a
    `forward_list<optional<char const*>>` with an empty member, a `vector<int16>` (shortcut), a `map<u8,u16>`,
    an aligned non-POD, a direct-format text, a null C string -/
def sampleArgs : List Arg :=
  [ .cstr (some [97, 98, 0, 99, 100]), .carr [120, 121, 122], .str [1, 0, 2],
    .seq kiFwd (.opt .cstr) [.optSome (.cstr (some [65])), .optNone .cstr, .optSome (.cstr none)],
    .seq kiVector (.prim .arith 2) [.prim .arith [1, 0], .prim .arith [255, 127]],
    .seq kiMap (.pair (.prim .arith 1) (.prim .arith 2)) [.pair (.prim .arith [7]) (.prim .arith [1, 2])],
    .nonpod 8 [9, 9, 9, 9, 9, 9, 9, 9, 9, 9, 9, 9], .direct [104, 105], .cstr none,
    .tuple [.prim .ptr [0, 0, 0, 0, 0, 0, 0, 0], .seq kiArray .str [.str [], .str [33]]] ]

example : wfL sampleArgs = true := by decide +kernel
/-- the seven cached lengths of `sampleArgs` are all needed: with six of them the encode pass faults -/
example : encodeL (fun _ => 0) { data := [3, 4, 3, 2, 1, 2], cap := 12 } 0 0 sampleArgs = none := by decide +kernel
example : (encodeL (fun _ => 0) { data := [3, 4, 3, 2, 1, 2, 1, 99], cap := 12 } 0 0 sampleArgs).map (·.2) = some 7 := by
  decide +kernel
example : lensL sampleArgs = [3, 4, 3, 2, 1, 2, 1] := by decide +kernel
example : (sizeStatement (Cache.init 12) sampleArgs).1 = 94 := by decide +kernel
/-- thirteen C strings in one statement: the cache grows once (12 → 24) and keeps all thirteen lengths -/
example : (sizeStatement (Cache.init 12) (List.replicate 13 (.cstr (some [65, 66])))).2 =
    { data := List.replicate 13 3, cap := 24, grown := [24] } := by decide +kernel
/-- a stale cache is cleared by a statement that caches, and left alone (and unread) by one that does not -/
example : (sizeStatement { data := [7, 7], cap := 12 } [.cstr none]).2.data = [1] ∧
    (sizeStatement { data := [7, 7], cap := 12 } [.str [1], .prim .arith [2]]).2.data = [7, 7] := by decide +kernel
/-- the record of `sampleArgs` written at an odd address over a buffer full of `0xAA`, decoded in place -/
example : decodeL (shapesOf sampleArgs) 3 (encL (fun _ => 170) 3 sampleArgs ++ [1, 2]) = some (viewL sampleArgs, [1, 2]) :=
  rfl
example : (encL (fun _ => 170) 3 sampleArgs).length = 94 := by decide +kernel
example : sanitize { lo := 32, hi := 126, extra := [10] } [97, 9, 200, 10] = [97, 92, 120, 48, 57, 92, 120, 67, 56, 10] := by
  decide +kernel

/-- `C04_drop_leaves_nothing` on a real history: two dropped statements (C strings of other lengths, a
    `forward_list`) and a logged one, then `sampleArgs` — the cache holds exactly `sampleArgs`' seven lengths -/
example : (sizeStatement (cacheAfter true { data := [9, 9, 9], cap := 12 }
      [.dropped [.cstr (some [97, 97, 97, 97, 97]), .cstr (some [98])],
       .logged [.str [1, 2, 3], .prim .arith [1]],
       .dropped [.seq kiFwd .cstr [.cstr (some [65, 66]), .cstr none]]]) sampleArgs).2.data = [3, 4, 3, 2, 1, 2, 1] ∧
    (cacheAfter true { data := [9, 9, 9], cap := 12 }
      [.dropped [.cstr (some [97, 97, 97, 97, 97]), .cstr (some [98])]]).data = [6, 2] := by decide +kernel

end Codec
