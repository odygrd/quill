import QuillModel.Props.C08Log
import QuillModel.Backend.LiftObsRet0
/-!
# C08 (trace level) — the outcome and accounting theorems on the OBSERVABLE strings of whole runs

`Props/C08.lean` states "refused ⇔ `ret=0`" for one call (`C08_log_call_outcome`) and the accounting with ghost counters.
Here the same facts are read off what the harness prints: the observation text of every top-level operation
(`runObs`, which keeps what `runOps` drops; `runObs_fst`) and the result text recorded in the `Ev.inj site k op res`
event of every operation injected at a hook site inside a poll (`PC.injT log` lists the `res` texts).

Classifiers (on `String.toList`, `Backend/LiftObsDefs.lean`): `isDropObs t` — `t` ends with ` ev=1 bytes=0` (the line of a
refused ordinary log call: `id=<n> ret=0 ev=1 bytes=0` for LOG_DYNAMIC, `id=<n> ev=1 bytes=0` for the static macros);
`isRet0Obs t` — ends with ` ret=0 ev=1 bytes=0`; `isAttemptObs t` — ends with ` ev=1 bytes=<digits>` (an ordinary log call
that reached the reservation, accepted or refused). `C08_obs_classification` classifies every format `applyFront` can
print (`PC.Quiet` lists the twelve formats that are no attempt line).

Premises of the run theorems: dropping queue; `Started s0` (no context yet); empty history; `NoCallInFlight s0` — no
actor of the initial state owns a context or is parked in a call (true when there is no actor yet, `Fresh`). The last one
is needed: an actor of an arbitrary initial state could carry a context index that does not exist (its refused call
prints `ret=0` and no counter moves) or a parked empty statement (accepted, prints `bytes=0`).

Helper lemmas: `Backend/LiftObs{Defs,View,Step,Front,Str,Run,Ret0}.lean`.
-/
namespace Backend
open Backend.PA Backend.PC

/-- the result texts of the injected operations, as a `filterMap` over the history -/
theorem C08_injT_eq_filterMap : ∀ l : List Ev,
    injT l = l.filterMap (fun e => match e with | .inj _ _ _ r => some r | _ => none)
  | [] => rfl
  | e :: l => by
    cases e <;> simp only [injT, List.filterMap_cons, C08_injT_eq_filterMap l]

/-- **Every observation format, classified.** A quiet format is no drop, no `ret=0`, no attempt line; the accept line of an
    ordinary statement (`cont` 0 = LOG_DYNAMIC, 5 = static macro; non-empty record) is an attempt line and no drop line; the
    two refusal lines are attempt and drop lines, and only LOG_DYNAMIC's is a `ret=0` line; a `ret=0` line is a drop line. -/
theorem C08_obs_classification :
    (∀ t, Quiet t → isDropObs t = false ∧ isRet0Obs t = false ∧ isAttemptObs t = false) ∧
    (∀ (st : Stmt) (c : Nat), c = 0 ∨ c = 5 → 0 < st.size →
      isDropObs (obsLog st c (some true) st.size) = false ∧ isRet0Obs (obsLog st c (some true) st.size) = false ∧
      isAttemptObs (obsLog st c (some true) st.size) = true) ∧
    (∀ n : Nat, isDropObs s!"id={n} ret=0 ev=1 bytes=0" = true ∧ isRet0Obs s!"id={n} ret=0 ev=1 bytes=0" = true ∧
      isAttemptObs s!"id={n} ret=0 ev=1 bytes=0" = true) ∧
    (∀ n : Nat, isDropObs s!"id={n} ev=1 bytes=0" = true ∧ isRet0Obs s!"id={n} ev=1 bytes=0" = false ∧
      isAttemptObs s!"id={n} ev=1 bytes=0" = true) ∧
    (∀ t, isRet0Obs t = true → isDropObs t = true) :=
  ⟨fun _ h => quiet_cls h, acc_cls, drop0_cls, drop5_cls, ret0_drop⟩

/-- **What one frontend operation prints and what it does to the counters** (dropping queue, well-formed actors — every
    state of a run from `NoCallInFlight`): the text is a quiet format and neither Σ `discarded` nor the number of accepted
    ordinary statements moves; or it is an accept line and exactly one ordinary statement was accepted; or it is a refusal
    line and Σ `discarded` grew by exactly one (`PC.Out`, with the continuation `PC.contOf s f` the call ran with). -/
theorem C08_front_outcome_on_text (s : BSt) (hd : s.cfg.dropping = true) (ha : AOK s) (f : FOp) :
    Out (contOf s f) (dsum s) (asum s) (dsum (applyFront s f).1) (asum (applyFront s f).1) (applyFront s f).2 :=
  (front_step s f hd ha).out

/-- **A LOG_DYNAMIC call prints `ret=0` exactly when it was refused** (`applyFront` level, any state of a run): the
    observation of `L_a_g_lvl_len` is a `ret=0` line iff Σ `discarded` grew by one, and is no `ret=0` line iff
    Σ `discarded` is unchanged. -/
theorem C08_ret0_iff_discarded (s : BSt) (hd : s.cfg.dropping = true) (ha : AOK s) (a g lvl len : Nat) :
    (isRet0Obs (applyFront s (.log a g lvl len true)).2 = true ↔
      ((ctrs (applyFront s (.log a g lvl len true)).1).map (fun c => c.2.1)).sum = ((ctrs s).map (fun c => c.2.1)).sum + 1) ∧
    (isRet0Obs (applyFront s (.log a g lvl len true)).2 = false ↔
      ((ctrs (applyFront s (.log a g lvl len true)).1).map (fun c => c.2.1)).sum = ((ctrs s).map (fun c => c.2.1)).sum) := by
  rw [← C08_dsum_eq_ctrs, ← C08_dsum_eq_ctrs]
  exact ret0_iff_of_out (front_step s (.log a g lvl len true) hd ha).out

/-- the same for a LOG_DYNAMIC call that was stalled after reading its timestamp and is resumed (`R_a`) -/
theorem C08_ret0_iff_discarded_resumed (s : BSt) (hd : s.cfg.dropping = true) (ha : AOK s) (a : Nat) (x : Actor) (st : Stmt)
    (hx : s.actor a = some x) (hp : x.pend = .stall st 0) :
    (isRet0Obs (applyFront s (.resume a)).2 = true ↔
      ((ctrs (applyFront s (.resume a)).1).map (fun c => c.2.1)).sum = ((ctrs s).map (fun c => c.2.1)).sum + 1) ∧
    (isRet0Obs (applyFront s (.resume a)).2 = false ↔
      ((ctrs (applyFront s (.resume a)).1).map (fun c => c.2.1)).sum = ((ctrs s).map (fun c => c.2.1)).sum) := by
  rw [← C08_dsum_eq_ctrs, ← C08_dsum_eq_ctrs]
  have h := (front_step s (.resume a) hd ha).out
  have hc : contOf s (.resume a) = 0 := by simp [contOf, hx, hp]
  rw [hc] at h
  exact ret0_iff_of_out h

/-- the well-formedness of the actors that the two call-level theorems assume holds in every state of a run -/
theorem C08_actors_wf_along_run (s0 : BSt) (hd : s0.cfg.dropping = true) (hs : Started s0) (hl : s0.log = [])
    (hn : NoCallInFlight s0) (ops : List Op) : (runOps s0 ops).cfg.dropping = true ∧ AOK (runOps s0 ops) :=
  have h := Pd.run stepOK_drop (fun _ h => (quiet_cls h).1) ops 0 s0 (pd_start rfl s0 hd hs hl hn)
  ⟨h.1, h.2.1⟩

/-- **Every discarded statement is one drop line of the trace, and vice versa.** Over every schedule (frontend
    operations at top level and injected at every hook site of every poll and of the exit loop): Σ over all contexts of
    `discarded` = number of drop lines among the top-level observations + number of drop lines among the result texts of
    the `Ev.inj` events of the history. -/
theorem C08_drops_are_observed (s0 : BSt) (hd : s0.cfg.dropping = true) (hs : Started s0) (hl : s0.log = [])
    (hn : NoCallInFlight s0) (ops : List Op) :
    ((ctrs (runOps s0 ops)).map (fun c => c.2.1)).sum =
      (runObs s0 ops).2.countP isDropObs + (injT (runOps s0 ops).log).countP isDropObs := by
  rw [← C08_dsum_eq_ctrs]
  exact countP_of_cntT (Pd.run stepOK_drop (fun _ h => (quiet_cls h).1) ops 0 s0 (pd_start rfl s0 hd hs hl hn)).2.2

/-- **`ret=0` lines never exceed the discarded statements**: every `ret=0` line is a drop line
    (`C08_obs_classification`), so their number in the trace is at most Σ `discarded`. -/
theorem C08_ret0_lines_le_discarded (s0 : BSt) (hd : s0.cfg.dropping = true) (hs : Started s0) (hl : s0.log = [])
    (hn : NoCallInFlight s0) (ops : List Op) :
    (runObs s0 ops).2.countP isRet0Obs + (injT (runOps s0 ops).log).countP isRet0Obs ≤
      ((ctrs (runOps s0 ops)).map (fun c => c.2.1)).sum := by
  rw [C08_drops_are_observed s0 hd hs hl hn ops, ← C08_cntT_eq_countP, ← C08_cntT_eq_countP, ← C08_cntT_eq_countP,
    ← C08_cntT_eq_countP]
  have h1 := cntT_mono ret0_drop (runObs s0 ops).2
  have h2 := cntT_mono ret0_drop (injT (runOps s0 ops).log)
  omega

/-- **attempted = accepted + discarded**, on the trace: the number of attempt lines (`ev=1`; top level + injected) =
    Σ over contexts of the ordinary statements ever accepted + Σ `discarded`. -/
theorem C08_attempted_eq_accepted_discarded (s0 : BSt) (hd : s0.cfg.dropping = true) (hs : Started s0) (hl : s0.log = [])
    (hn : NoCallInFlight s0) (ops : List Op) :
    (runObs s0 ops).2.countP isAttemptObs + (injT (runOps s0 ops).log).countP isAttemptObs =
      (((runOps s0 ops).ths.map (fun t => (t.accepted.filter (fun x => isLogKind x.kind)).length)).sum) +
      ((ctrs (runOps s0 ops)).map (fun c => c.2.1)).sum := by
  rw [← C08_dsum_eq_ctrs, ← asum_ths, Nat.add_comm (asum _)]
  exact (countP_of_cntT
    (Pd.run stepOK_attempt (fun _ h => (quiet_cls h).2.2) ops 0 s0 (pd_start rfl s0 hd hs hl hn)).2.2).symm

/-- **attempted = delivered + pending + discarded**, on the trace, from a freshly started system (`Fresh`, nothing
    reported yet): the number of attempt lines = Σ ordinary statements popped from the transit buffers (processed by the
    backend) + Σ ordinary statements still in a transit buffer or a queue + Σ `discarded` (uses `C03_conservation`). -/
theorem C08_attempted_eq_delivered_discarded_pending (s0 : BSt) (hd : s0.cfg.dropping = true) (hf : Fresh s0)
    (hs : Started s0) (ops : List Op) :
    (runObs s0 ops).2.countP isAttemptObs + (injT (runOps s0 ops).log).countP isAttemptObs =
      (((runOps s0 ops).ths.map (fun t => (t.popped.filter (fun x => isLogKind x.kind)).length)).sum) +
      (((runOps s0 ops).ths.map (fun t => ((t.buf ++ t.qStmts).filter (fun x => isLogKind x.kind)).length)).sum) +
      ((ctrs (runOps s0 ops)).map (fun c => c.2.1)).sum := by
  rw [C08_attempted_eq_accepted_discarded s0 hd hs hf.log (C08_no_actor_no_call s0 hf.actors) ops,
    ← sum_map_add]
  congr 1
  refine congrArg List.sum (List.map_congr_left ?_)
  intro t ht
  obtain ⟨i, _, rfl⟩ := mem_ths _ ht
  rw [((hf.inv.run ops).a.th i).cons]
  simp only [List.filter_append, List.length_append, List.append_assoc]

/-! `f23Sched` under the repaired flags exercises the run theorems: thread 2's second 300-byte statement is refused at top
level (`id=2 ret=0 ev=1 bytes=0`), and thread 1's 5000-byte statement is refused inside the third poll, injected at hook
site 8 (`Ev.inj 8 1 "L_1_0_4_5000" "id=3 ret=0 ev=1 bytes=0"`) -/

theorem c08Init_fresh (rep keep : Bool) : Fresh (c08Init rep keep) :=
  Fresh.of_no_rings (by decide : 0 < 32) rfl rfl rfl rfl (List.forall_mem_singleton.mpr rfl)

/-- What the four witnesses below read off the run of `f23Sched`, in one evaluation: the machine runs once and each
    observation text is classified once (separate evaluations repeat both, and `String.toList` is slow in the kernel). -/
theorem f23_trace_facts :
    (((ctrs (runOps (c08Init true true) f23Sched)).map (fun c => c.2.1)).sum = 2 ∧
    (runObs (c08Init true true) f23Sched).2.countP isDropObs = 1 ∧
    (injT (runOps (c08Init true true) f23Sched).log).countP isDropObs = 1 ∧
    (runObs (c08Init true true) f23Sched).2 =
      ["ok", "ok", "id=0 ret=1 ev=1 bytes=48", "id=1 ret=1 ev=1 bytes=338", "id=2 ret=0 ev=1 bytes=0", "ev", "ev", "ev"] ∧
    injT (runOps (c08Init true true) f23Sched).log = ["ok", "id=3 ret=0 ev=1 bytes=0"]) ∧
    ((runObs (c08Init true true) f23Sched).2.countP isRet0Obs = 1 ∧
    (injT (runOps (c08Init true true) f23Sched).log).countP isRet0Obs = 1 ∧
    isRet0Obs (applyFront (runOps (c08Init true true) (f23Sched.take 4)) (.log 2 0 4 300 true)).2 = true ∧
    ((ctrs (applyFront (runOps (c08Init true true) (f23Sched.take 4)) (.log 2 0 4 300 true)).1).map (fun c => c.2.1)).sum =
      ((ctrs (runOps (c08Init true true) (f23Sched.take 4))).map (fun c => c.2.1)).sum + 1 ∧
    isRet0Obs (applyFront (runOps (c08Init true true) (f23Sched.take 3)) (.log 2 0 4 300 true)).2 = false ∧
    ((ctrs (applyFront (runOps (c08Init true true) (f23Sched.take 3)) (.log 2 0 4 300 true)).1).map (fun c => c.2.1)).sum =
      ((ctrs (runOps (c08Init true true) (f23Sched.take 3))).map (fun c => c.2.1)).sum) ∧
    ((runObs (c08Init true true) f23Sched).2.countP isAttemptObs = 3 ∧
    (injT (runOps (c08Init true true) f23Sched).log).countP isAttemptObs = 1 ∧
    (((runOps (c08Init true true) f23Sched).ths.map (fun t => (t.accepted.filter (fun x => isLogKind x.kind)).length)).sum) = 2 ∧
    (((runOps (c08Init true true) f23Sched).ths.map (fun t => (t.popped.filter (fun x => isLogKind x.kind)).length)).sum) = 2 ∧
    (((runOps (c08Init true true) f23Sched).ths.map
      (fun t => ((t.buf ++ t.qStmts).filter (fun x => isLogKind x.kind)).length)).sum) = 0) := by
  decide +kernel

/-- the premises hold, two statements are discarded, one drop line at top level and one in an `Ev.inj` result -/
example : (c08Init true true).cfg.dropping = true ∧ Started (c08Init true true) ∧ (c08Init true true).log = [] ∧
    NoCallInFlight (c08Init true true) ∧
    ((ctrs (runOps (c08Init true true) f23Sched)).map (fun c => c.2.1)).sum = 2 ∧
    (runObs (c08Init true true) f23Sched).2.countP isDropObs = 1 ∧
    (injT (runOps (c08Init true true) f23Sched).log).countP isDropObs = 1 ∧
    (runObs (c08Init true true) f23Sched).2 =
      ["ok", "ok", "id=0 ret=1 ev=1 bytes=48", "id=1 ret=1 ev=1 bytes=338", "id=2 ret=0 ev=1 bytes=0", "ev", "ev", "ev"] ∧
    injT (runOps (c08Init true true) f23Sched).log = ["ok", "id=3 ret=0 ev=1 bytes=0"] :=
  ⟨rfl, c08Init_started true true, rfl, C08_no_actor_no_call _ rfl, f23_trace_facts.1⟩

/-- `ret=0` lines: one at top level, one injected, both discarded; and the call-level equivalence is exercised in both
    directions: the second 300-byte call of thread 2 prints `ret=0` and Σ `discarded` grows, the first prints `ret=1` and
    it does not -/
example :
    (runObs (c08Init true true) f23Sched).2.countP isRet0Obs = 1 ∧
    (injT (runOps (c08Init true true) f23Sched).log).countP isRet0Obs = 1 ∧
    isRet0Obs (applyFront (runOps (c08Init true true) (f23Sched.take 4)) (.log 2 0 4 300 true)).2 = true ∧
    ((ctrs (applyFront (runOps (c08Init true true) (f23Sched.take 4)) (.log 2 0 4 300 true)).1).map (fun c => c.2.1)).sum =
      ((ctrs (runOps (c08Init true true) (f23Sched.take 4))).map (fun c => c.2.1)).sum + 1 ∧
    isRet0Obs (applyFront (runOps (c08Init true true) (f23Sched.take 3)) (.log 2 0 4 300 true)).2 = false ∧
    ((ctrs (applyFront (runOps (c08Init true true) (f23Sched.take 3)) (.log 2 0 4 300 true)).1).map (fun c => c.2.1)).sum =
      ((ctrs (runOps (c08Init true true) (f23Sched.take 3))).map (fun c => c.2.1)).sum :=
  f23_trace_facts.2.1

/-- attempt lines: three at top level (ids 0, 1, 2), one injected (id 3) = two accepted (both popped by the polls, nothing
    pending) + two discarded; `Fresh` holds of the initial state -/
example : Fresh (c08Init true true) ∧
    (runObs (c08Init true true) f23Sched).2.countP isAttemptObs = 3 ∧
    (injT (runOps (c08Init true true) f23Sched).log).countP isAttemptObs = 1 ∧
    (((runOps (c08Init true true) f23Sched).ths.map (fun t => (t.accepted.filter (fun x => isLogKind x.kind)).length)).sum) = 2 ∧
    (((runOps (c08Init true true) f23Sched).ths.map (fun t => (t.popped.filter (fun x => isLogKind x.kind)).length)).sum) = 2 ∧
    (((runOps (c08Init true true) f23Sched).ths.map
      (fun t => ((t.buf ++ t.qStmts).filter (fun x => isLogKind x.kind)).length)).sum) = 0 :=
  ⟨c08Init_fresh true true, f23_trace_facts.2.2⟩

/-- **`ret=0` lines = discarded statements.** In a run without static-macro log operations (`PC.opOK`: no `LOG_<LEVEL>`,
    no named `LOG_INFO`, no `LOG_BACKTRACE`, neither at top level nor in an injection table — a decidable premise on
    `ops`) every discarded statement is a `ret=0` line of the trace and vice versa: the number of `ret=0` lines =
    Σ `discarded`. -/
theorem C08_ret0_count_eq_discarded (s0 : BSt) (hd : s0.cfg.dropping = true) (hs : Started s0) (hl : s0.log = [])
    (hn : NoCallInFlight s0) (ops : List Op) (hok : ∀ o ∈ ops, opOK o = true) :
    (runObs s0 ops).2.countP isRet0Obs + (injT (runOps s0 ops).log).countP isRet0Obs =
      ((ctrs (runOps s0 ops)).map (fun c => c.2.1)).sum := by
  have hn5 : N5 s0 := fun x hx => by rw [(hn x hx).2]; simp [pendCont]
  rw [← C08_dsum_eq_ctrs]
  exact (countP_of_cntT (P0.run ops 0 s0 hok ⟨pd_start rfl s0 hd hs hl hn, hn5⟩).1.2.2).symm

/-- non-vacuity: `f23Sched` has no static-macro log operation; two `ret=0` lines, two statements discarded -/
example : (∀ o ∈ f23Sched, opOK o = true) ∧
    (runObs (c08Init true true) f23Sched).2.countP isRet0Obs + (injT (runOps (c08Init true true) f23Sched).log).countP isRet0Obs = 2 ∧
    ((ctrs (runOps (c08Init true true) f23Sched)).map (fun c => c.2.1)).sum = 2 := by
  refine ⟨by decide +kernel, ?_, f23_trace_facts.1.1⟩
  rw [f23_trace_facts.2.1.1, f23_trace_facts.2.1.2.1]

/-- the premise is needed: a refused static-macro call is discarded without a `ret=0` line (`id=2 ev=1 bytes=0`) -/
example :
    (runObs (c08Init true true) [.front (.tstart 2), .front (.log 2 0 4 300 true), .front (.log 2 0 4 300 false)]).2 =
      ["ok", "id=0 ret=1 ev=1 bytes=338", "id=1 ev=1 bytes=0"] ∧
    ((ctrs (runOps (c08Init true true) [.front (.tstart 2), .front (.log 2 0 4 300 true), .front (.log 2 0 4 300 false)])).map
      (fun c => c.2.1)).sum = 1 := by
  decide +kernel

end Backend
