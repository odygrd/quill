import QuillModel.Props.C14
/-!
# C14 — Date / DateAndTime schemes through restarts with configuration changes

`Props/C14.lean` has the dated invariant for one run (`C14_dated_run_partial`) and one restart
(`C14_dated_restart_partial`). Here: **every** sequence of writes and restarts — any limit, `max_backup_files`, overwrite
flag, frequency, open mode `a` or `w` with clean-up, the naming scheme kept — that satisfies the explicit decidable premise
`DatedHistOK`: the civil suffix (day / second in the sink's zone) of each record is not below the open file's (the F14
premise: non-decreasing timestamps in a zone of constant offset), and each restart starts on a later-or-equal day (Date) /
a **strictly** later second (DateAndTime — nothing is recovered, so a start in the second in which the current file was
opened reuses the name of a file it does not track: the recovery gap F15, witness below) than the open file's suffix.
Proved: the invariant (`DatedInv`: all tracked files exist, deque order = name order of the scheme, untracked dated files
strictly older), hence no rename lands on a retained file, every statement is in exactly one file, and — for append-mode
restarts — the retained tracked sequence is the written one minus a prefix. NOT provable (false of the code, F15): the
backup bound across restarts and "the deleted file is the oldest on disk" — the files of earlier days / runs leave the
bookkeeping at a restart; `C14_dated_restart_leaves_files` states exactly that they stay on disk untouched by the start.
-/
namespace Rot

/-- **Invariant, every history** (premise `DatedHistOK`). -/
theorem C14_dated_invariant (P : Params) (z : Nat → Int) : ∀ (ops : List Op) (w : World), DatedInv z w →
    DatedHistOK P z w ops → DatedInv z (run P z w ops) :=
  fun ops w h hok => (run_dated_hist P z ops w h hok).1

/-- … from a fresh start on any directory whose dated files are not from the future (`DirDated`) -/
theorem C14_dated_invariant_from_start (P : Params) (z : Nat → Int) (fs0 : FS) (c0 : Cfg) (start0 : Nat)
    (hs : c0.scheme ≠ .index) (hmode : c0.append = true ∨ c0.removeOld = true) (hd : DirDated z c0.scheme fs0 start0)
    (ops : List Op) (hok : DatedHistOK P z (restart z fs0 c0 start0) ops) :
    DatedInv z (run P z (restart z fs0 c0 start0) ops) :=
  C14_dated_invariant P z ops _ (restart_dated_inv z fs0 c0 start0 hs hmode hd) hok

/-- **No clobbering after any such history**: every rename target of the next rotation is absent or is the source of a
    rename performed earlier in the same loop. -/
theorem C14_dated_no_clobber_run (P : Params) (z : Nat → Int) (w : World) (h : DatedInv z w) (ops : List Op)
    (hok : DatedHistOK P z w ops) :
    let w' := run P z w ops
    ∀ m ∈ w'.sink.created.filterMap (moveOf w'.sink.cfg.scheme (newSuffix z w'.sink.cfg.scheme w'.sink.openTs)),
      w'.fs.get m.2 = none ∨
        m.2 ∈ (w'.sink.created.filterMap (moveOf w'.sink.cfg.scheme (newSuffix z w'.sink.cfg.scheme w'.sink.openTs))).map (·.1) :=
  (C14_dated_no_clobber_partial z _ (C14_dated_invariant P z ops w h hok)).1

/-- **Exactly one file** (dated schemes): if the statements on disk in tracked files and the new one are pairwise
    distinct, after the write every statement occurs once in the tracked files and the new one ends the current file. -/
theorem C14_dated_exactly_one_file (P : Params) (z : Nat → Int) (w : World) (st : Stmt) (ts : Nat) (h : DatedInv z w)
    (hop : DatedOpOK z w (.write st ts)) (hn : (diskSeq w ++ [st]).Nodup) :
    (diskSeq (write P z w st ts)).Nodup ∧ ∃ pre, (write P z w st ts).fs.get curName = some (pre ++ [st]) := by
  obtain ⟨pre, h1, _⟩ := write_cur P z w st ts h.curInv
  exact ⟨(write_dated_diskSeq P z w st ts h hop).nodup hn, pre, h1⟩

/-- **Nothing is deleted when overwriting is off** (dated schemes, one write): the tracked sequence only grows. -/
theorem C14_dated_write_keeps_all_without_overwrite (P : Params) (z : Nat → Int) (w : World) (st : Stmt) (ts : Nat)
    (h : DatedInv z w) (hop : DatedOpOK z w (.write st ts)) (how : w.sink.cfg.overwrite = false) :
    diskSeq (write P z w st ts) = diskSeq w ++ [st] :=
  (write_dated_diskSeq P z w st ts h hop).keeps_all (Or.inl how)

/-- **An append-mode start touches no file** (any scheme): the directory is the same afterwards, except that the current
    file exists. In particular the dated files that leave the bookkeeping at a restart (other days / every earlier run:
    F15) stay on disk with their content — they are lost to the *count*, not to the reader. -/
theorem C14_dated_restart_leaves_files (z : Nat → Int) (fs : FS) (c : Cfg) (start : Nat) (ha : c.append = true) (n : Name)
    (hn : n ≠ curName ∨ (fs.get curName).isSome) : (restart z fs c start).fs.get n = fs.get n :=
  restart_get_append z fs c start ha n hn

/-- **Order and completeness, dated schemes, every history** (premise `DatedHistOK`, append-mode restarts with any other
    settings). The tracked files read oldest → newest (which by `DatedInv` is the order of the names) give the sequence on
    disk at the beginning followed by every statement written, minus a prefix. What leaves at the front is (a) whole files
    deleted as the oldest tracked one by a rotation with overwriting on and the backup limit reached
    (`write_dated_diskSeq`), or (b) at a restart, whole files that leave the bookkeeping but stay on disk untouched
    (`C14_dated_restart_leaves_files`, `C14_dated_untracked_untouched`) — the recovery gap F15, which is why the backup
    bound fails across restarts while nothing is lost to the reader. -/
theorem C14_dated_sequence (P : Params) (z : Nat → Int) : ∀ (ops : List Op) (w : World), DatedInv z w →
    DatedHistOK P z w ops → AppendOnly ops → diskSeq (run P z w ops) <:+ diskSeq w ++ written ops :=
  fun ops w h hok => (run_dated_hist P z ops w h hok).2

/-- **A dated file the sink does not track is never touched by a write** (dated schemes, any timestamp): it keeps its
    content — it is no rename source (untracked), no rename target (targets carry the open file's suffix, untracked files
    are strictly older: `DatedInv.ghosts`), not deleted (only tracked files are) — and it stays untracked. Together with
    `C14_dated_restart_leaves_files` (a start in append mode changes no file): what leaves `_created_files` at a restart
    stays on disk for ever — never lost, never counted against `max_backup_files`, never deleted (F15). -/
theorem C14_dated_untracked_untouched (P : Params) (z : Nat → Int) (w : World) (st : Stmt) (ts : Nat) (h : DatedInv z w)
    (d : Int) (k : Nat) (c : List Stmt) (hc : w.fs.get (.file (some d) k) = some c)
    (hu : (⟨some d, k⟩ : FileInfo) ∉ w.sink.created) :
    (write P z w st ts).fs.get (.file (some d) k) = some c ∧ (⟨some d, k⟩ : FileInfo) ∉ (write P z w st ts).sink.created := by
  have hne : Name.file (some d) k ≠ curName := by simp [curName]
  show ((prepare P z w st.size ts).fs.put curName _).get _ = _ ∧ _ ∉ (prepare P z w st.size ts).sink.created
  rw [FS.get_put]
  simp only [hne, ↓reduceIte]
  rcases prepare_cases P z w st.size ts with hs | hs
  · rw [hs.fs, hs.created]; exact ⟨hc, hu⟩
  · rw [hs.fs, hs.created]; exact rotate_dated_untracked P z w ts h d k c hc hu

/-- **Same-second restart (DateAndTime), excluded by the strict `<`.** Overwriting off, no backup limit: run 1 rotates
    twice in second 7 (statements 2 and 3, in the files of second 7 with index 1 and 0) and opens its last current file in
    that second; the restarted process (append) starts in second 7 too, tracks nothing, and its rotations name files after
    second 7 — the names of files of run 1. Statements 2 and 3 are gone although nothing may be deleted. (The recovery gap
    F15.) -/
theorem C14_dated_same_second_restart_clobbers :
    let c : Cfg := { scheme := .dateTime, limit := 10, overwrite := false, append := true }
    let w1 := run Params.repaired zGmt (restart zGmt [] c (5 * NS))
      [.write ⟨1, 8⟩ (5 * NS), .write ⟨2, 8⟩ (7 * NS), .write ⟨3, 8⟩ (7 * NS + 1), .write ⟨4, 8⟩ (7 * NS + 2)]
    let ops2 : List Op := [.restart c (7 * NS + 5), .write ⟨5, 8⟩ (7 * NS + 6), .write ⟨6, 8⟩ (7 * NS + 7)]
    let w2 := run Params.repaired zGmt w1 ops2
    ¬ DatedHistOK Params.repaired zGmt w1 ops2 ∧
      w1.fs.get (.file (some 7) 1) = some [⟨2, 8⟩] ∧ w1.fs.get (.file (some 7) 0) = some [⟨3, 8⟩] ∧
      w2.fs.get (.file (some 7) 0) = some [⟨5, 8⟩] ∧ w2.fs.get (.file (some 7) 1) = some [⟨4, 8⟩] ∧
      w2.fs.get (.file (some 7) 2) = none := by
  decide +kernel

/-- **Restart on an earlier day (Date), excluded by `≤`** — F14's class at a restart: the newer file gets the earlier date. -/
theorem C14_dated_backwards_restart_breaks_order :
    let c : Cfg := { scheme := .date, limit := 10, append := true }
    let w1 := run Params.repaired zGmt (restart zGmt [] c (2 * dayNs)) [.write ⟨1, 8⟩ (2 * dayNs), .write ⟨2, 8⟩ (2 * dayNs + 1)]
    let ops2 : List Op := [.restart c (1 * dayNs), .write ⟨3, 8⟩ (1 * dayNs + 1)]
    let w2 := run Params.repaired zGmt w1 ops2
    ¬ DatedHistOK Params.repaired zGmt w1 ops2 ∧
      w2.fs.get (.file (some 2) 0) = some [⟨1, 8⟩] ∧ w2.fs.get (.file (some 1) 0) = some [⟨2, 8⟩] := by
  decide +kernel

/-- **The backup bound does not survive restarts** (Date, later day; F15): `max_backup_files = 1`, overwriting on, one
    rotation on each of two days — the history satisfies `DatedHistOK`, two rotated files remain, the sink tracks one. -/
theorem C14_dated_backup_bound_across_restarts_fails :
    let c : Cfg := { scheme := .date, limit := 10, maxBackup := 1, overwrite := true, append := true }
    let w1 := run Params.repaired zGmt (restart zGmt [] c dayNs) [.write ⟨1, 8⟩ dayNs, .write ⟨2, 8⟩ (dayNs + 1)]
    let ops2 : List Op := [.restart c (2 * dayNs), .write ⟨3, 8⟩ (2 * dayNs + 1)]
    let w2 := run Params.repaired zGmt w1 ops2
    DatedHistOK Params.repaired zGmt w1 ops2 ∧
      w2.fs.get (.file (some 1) 0) = some [⟨1, 8⟩] ∧ w2.fs.get (.file (some 2) 0) = some [⟨2, 8⟩] ∧
      w2.sink.created = [⟨some 2, 0⟩, curInfo] ∧ w2.sink.cfg.maxBackup = 1 := by
  decide +kernel

/-- `DatedHistOK` is met by histories with configuration-changing restarts. Date: three runs over two days; the restarts
    lower `max_backup_files`, switch overwriting off, change the limit and the open mode (`w` with clean-up); 3 rotations,
    an index bump -/
example :
    let c0 : Cfg := { scheme := .date, limit := 10, append := true }
    let c1 : Cfg := { scheme := .date, limit := 10, maxBackup := 1, overwrite := false, append := true }
    let c2 : Cfg := { scheme := .date, limit := 12, maxBackup := 2, append := false, removeOld := true }
    let ops : List Op := [.write ⟨1, 8⟩ (dayNs + 1), .write ⟨2, 8⟩ (dayNs + 2), .write ⟨3, 8⟩ (dayNs + 3),
      .restart c1 (dayNs + 10), .write ⟨4, 8⟩ (dayNs + 11), .restart c2 (2 * dayNs), .write ⟨5, 8⟩ (2 * dayNs + 1),
      .write ⟨6, 8⟩ (2 * dayNs + 2)]
    DatedHistOK Params.repaired zGmt (restart zGmt [] c0 dayNs) ops ∧
      (run Params.repaired zGmt (restart zGmt [] c0 dayNs) ops).sink.created = [⟨some 2, 0⟩, curInfo] := by
  decide +kernel

/-- DateAndTime: restarts in later seconds with other settings -/
example :
    let c0 : Cfg := { scheme := .dateTime, limit := 10, append := true }
    let c1 : Cfg := { scheme := .dateTime, limit := 10, maxBackup := 0, overwrite := false, append := true }
    let ops : List Op := [.write ⟨1, 8⟩ (5 * NS), .write ⟨2, 8⟩ (6 * NS), .restart c1 (8 * NS), .write ⟨3, 8⟩ (9 * NS),
      .restart c0 (20 * NS), .write ⟨4, 8⟩ (21 * NS)]
    DatedHistOK Params.repaired zGmt (restart zGmt [] c0 (5 * NS)) ops := by
  decide +kernel

end Rot
