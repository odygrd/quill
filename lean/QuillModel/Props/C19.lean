import QuillModel.NamedArgs.ScanDet
import QuillModel.NamedArgs.Message
import QuillModel.NamedArgs.JsonParse
import QuillModel.NamedArgs.Tight
import QuillModel.NamedArgs.Pairs
import QuillModel.NamedArgs.Logj
import QuillModel.NamedArgs.Cache
/-!
# C19 — named placeholders: matching text, ordered key/value pairs, one JSON object per line

Templates are `render ps` for a piece list `ps` of the grammar
`(text | "{{" | "}}" | "{" [ident] [":" spec] "}")*` (`wf ps`; a field with an empty name is positional).
The definitions the theorems speak about are the loop transcriptions of `QuillModel/NamedArgs/Model.lean`; the
compiled `driver named` runs the same definitions against the real scanners, the real backend and the real
`JsonFileSink`.

The full statement one would like —

    ∀ ps, wf ps → containsNamedArgs (render ps) = ps.any isNamed
                ∧ process (render ps) = (render (ps.map erase), keysOf ps)

— is **false** of the code (finding F11): `process` mis-parses a placeholder directly followed by an escaped `}}`
(F11a), and `containsNamedArgs` never examines the character that follows a placeholder (F11b). The two general
theorems are therefore `…_partial`: they carry the decidable hypotheses `procOK` / `detectOK` (the excluded template
classes), and the negations are proved on concrete witnesses. `procOK` is exact (`C19_positional_iff`: the scanner is
right **iff** `procOK`); `detectOK` excludes three adjacencies (positional placeholder directly followed by a named
one, by `{{`, by `}}`), each with a proved counter-witness, and is not needed at all on the property's own grammar
(`C19_detect_named_only`). What is missing for the full statement is a repair of the two loops, not a proof.
Everything else (split∘join, the pairs, the statement as a sink sees it, the JSON line and its parse, the cache, the
LOGJ_ templates with identifier arguments, fuel adequacy of the loop transcriptions) holds as stated; LOGJ_ with an
argument spelled with a `:` is a further counter-witness (`C19_logj_colon_counter`, finding candidate F11c).
-/
namespace Named

/-- **C19, detection (partial: class `detectOK`).** For every template of the grammar in which, up to the first
    named placeholder, each positional placeholder ends the template or is followed by a literal character or by
    another positional placeholder, the compile-time flag is true iff a named placeholder occurs. Excluded: a
    positional placeholder directly followed by a named one, by `{{` or by `}}` — one counter-witness each below. -/
theorem C19_detect_partial (ps : List Piece) (hw : wf ps = true) (hok : detectOK ps = true) :
    containsNamedArgs (render ps) = ps.any Piece.isNamed :=
  contains_render ps hw hok

/-- every placeholder carries a name — the property's own grammar -/
def allNamed (ps : List Piece) : Bool := ps.all (fun p => !p.isField || p.isNamed)

theorem detectOK_of_allNamed : ∀ (ps : List Piece), allNamed ps = true → detectOK ps = true
  | [], _ => rfl
  | p :: ps, h => by
    simp only [allNamed, List.all_cons, Bool.and_eq_true] at h
    have ih := detectOK_of_allNamed ps (by simpa [allNamed] using h.2)
    cases p with
    | field n s =>
      have : (n != []) = true := by simpa [Piece.isField, Piece.isNamed] using h.1
      simp [detectOK, detOK, this]
    | _ => simpa [detectOK, detOK] using ih

/-- **C19, detection, on the property's grammar** (`(text | "{{" | "}}" | "{" ident [":" spec] "}")*`, no positional
    placeholders): unconditional. -/
theorem C19_detect_named_only (ps : List Piece) (hw : wf ps = true) (hn : allNamed ps = true) :
    containsNamedArgs (render ps) = ps.any Piece.isField := by
  rw [C19_detect_partial ps hw (detectOK_of_allNamed ps hn)]
  clear hw
  induction ps with
  | nil => rfl
  | cons p ps ih =>
    simp only [allNamed, List.all_cons, Bool.and_eq_true] at hn
    have hp : p.isNamed = p.isField := by
      have h1 := hn.1
      revert h1
      cases p <;> simp [Piece.isField, Piece.isNamed]
    rw [List.any_cons, List.any_cons, hp, ih hn.2]

/-- non-vacuity: `"x{{ {a:>5}{b} }}"` meets the hypotheses and has named fields -/
example : let ps := [Piece.text 'x', .escOpen, .text ' ', .field ['a'] (some ['>', '5']), .field ['b'] none, .text ' ', .escClose]
    wf ps = true ∧ allNamed ps = true ∧ detectOK ps = true ∧ ps.any Piece.isNamed = true ∧
    containsNamedArgs (render ps) = true := by decide +kernel

/-- positional-only templates such as `"{}{} {:>5}{}"` are in the class (and not flagged) -/
example : let ps := [Piece.field [] none, .field [] none, .text ' ', .field [] (some ['>', '5']), .field [] none]
    wf ps = true ∧ detectOK ps = true ∧ containsNamedArgs (render ps) = false := by decide +kernel

/-- **F11, detection, false negative**: `"{}{a}"` is in the grammar, contains the named placeholder `a`, and is
    not detected (the `{` after the first placeholder's `}` is skipped by the trailing `++pos`). -/
theorem C19_detect_false_negative :
    let ps := [Piece.field [] none, .field ['a'] none]
    wf ps = true ∧ render ps = "{}{a}".toList ∧ ps.any Piece.isNamed = true ∧ detectOK ps = false ∧
    containsNamedArgs (render ps) = false := by decide +kernel

/-- the same through an escaped `}}`: `"{:x}}}{a}"` -/
theorem C19_detect_false_negative_close :
    let ps := [Piece.field [] (some ['x']), .escClose, .field ['a'] none]
    wf ps = true ∧ render ps = "{:x}}}{a}".toList ∧ ps.any Piece.isNamed = true ∧ detectOK ps = false ∧
    containsNamedArgs (render ps) = false := by decide +kernel

/-- **F11, detection, false positive**: `"{}{{x"` has no named placeholder and is flagged -/
theorem C19_detect_false_positive :
    let ps := [Piece.field [] none, .escOpen, .text 'x']
    wf ps = true ∧ render ps = "{}{{x".toList ∧ ps.any Piece.isNamed = false ∧ detectOK ps = false ∧
    containsNamedArgs (render ps) = true := by decide +kernel

/-- **C19, names erased / keys in order (partial: class `procOK`).** For every template of the grammar in which no
    placeholder is directly followed by an escaped `}}`: the string handed to fmt is the template with every name
    erased and every spec kept (so fmt sees the same literal text, the same escapes and the same specs, with
    automatic indexing), and the key list is `(name, ":spec")` of each placeholder in order of occurrence. -/
theorem C19_positional_partial (ps : List Piece) (hw : wf ps = true) (hok : procOK ps = true) :
    process (render ps) = (render (ps.map Piece.erase), keysOf ps) :=
  process_render ps hw hok

/-- **C19, the class is exact.** For a template of the grammar the scanner's result is the erased template and the
    placeholder keys **iff** no placeholder is directly followed by an escaped `}}`: outside the class the key of
    the first such placeholder swallows the run of `}}` (so the hypothesis of `C19_positional_partial` cannot be
    weakened — every excluded template is a witness of F11). -/
theorem C19_positional_iff (ps : List Piece) (hw : wf ps = true) :
    process (render ps) = (render (ps.map Piece.erase), keysOf ps) ↔ procOK ps = true := by
  constructor
  · intro h
    cases hp : procOK ps with
    | true => rfl
    | false => exact absurd (by rw [h]) (process_keys_ne ps hw hp)
  · exact process_render ps hw

theorem keysOf_length (ps : List Piece) : (keysOf ps).length = (ps.filter Piece.isField).length := by
  induction ps with
  | nil => rfl
  | cons p ps ih => cases p <;> simp [keysOf, Piece.isField, List.filter_cons, ih]

theorem C19_one_key_per_field_partial (ps : List Piece) (hw : wf ps = true) (hok : procOK ps = true) :
    (process (render ps)).2.length = (ps.filter Piece.isField).length := by
  rw [C19_positional_partial ps hw hok]; exact keysOf_length ps

/-- non-vacuity: `"{{x}} {a} y{b:>5}{c}"` -/
example : let ps := [Piece.escOpen, .text 'x', .escClose, .text ' ', .field ['a'] none, .text ' ', .text 'y',
                     .field ['b'] (some ['>', '5']), .field ['c'] none]
    wf ps = true ∧ procOK ps = true ∧
    process (render ps) = ("{{x}} {} y{:>5}{}".toList, [(['a'], []), (['b'], ":>5".toList), (['c'], [])]) := by
  rw [String.toList_ofList]
  decide +kernel

/-- **F11, scanner**: `"{{{a}}}"` (escaped `{`, placeholder `a`, escaped `}`) yields the key `a}}` and the
    positional template `{{{}` instead of `a` and `{{{}}}`. -/
theorem C19_positional_counter :
    let ps := [Piece.escOpen, .field ['a'] none, .escClose]
    wf ps = true ∧ render ps = "{{{a}}}".toList ∧ procOK ps = false ∧
    process (render ps) = ("{{{}".toList, [("a}}".toList, [])]) ∧
    (render (ps.map Piece.erase), keysOf ps) = ("{{{}}}".toList, [(['a'], [])]) := by decide +kernel

/-- the escaped brace is lost from the text and ends up in the key: `"{a}}} {b}"` → `"{} {}"`, keys `a}}`, `b` -/
theorem C19_positional_counter_text :
    let ps := [Piece.field ['a'] none, .escClose, .text ' ', .field ['b'] none]
    wf ps = true ∧ procOK ps = false ∧
    process (render ps) = ("{} {}".toList, [("a}}".toList, []), (['b'], [])]) ∧
    render (ps.map Piece.erase) = "{}}} {}".toList := by decide +kernel

/-- **C19, split ∘ join.** For every separator that is non-empty and unbordered (obligation on the extracted
    `QUILL_MAGIC_SEPARATOR`) and every list of rendered values none of which contains it, the split loop returns
    exactly the values: pair `i` holds the `i`-th value. -/
theorem C19_split_join {sep : Str} (hne : sep ≠ []) (hb : unbordered sep = true) (vals : List Str)
    (hv : ∀ v ∈ vals, containsSub sep v = false) :
    splitValues sep (joinVals sep vals) vals.length = vals :=
  split_join hne hb vals hv

example : let sep := [Char.ofNat 1, Char.ofNat 2, Char.ofNat 3]
    sep ≠ [] ∧ unbordered sep = true ∧ (∀ v ∈ ["ab".toList, [], [Char.ofNat 1, Char.ofNat 2]], containsSub sep v = false) ∧
    splitValues sep (joinVals sep ["ab".toList, [], [Char.ofNat 1, Char.ofNat 2]]) 3
      = ["ab".toList, [], [Char.ofNat 1, Char.ofNat 2]] := by decide +kernel

/-- a value that contains the separator shifts the later values (why the hypothesis is there) -/
theorem C19_split_counter :
    let sep := [Char.ofNat 1, Char.ofNat 2, Char.ofNat 3]
    splitValues sep (joinVals sep [['x'] ++ sep ++ ['y'], ['z']]) 2 = [['x'], ['y']] := by decide +kernel

/-- a bordered separator breaks the split even when no value contains it (why `unbordered` is an obligation) -/
theorem C19_split_bordered_counter :
    let sep := ['a', 'b', 'a']
    unbordered sep = false ∧ containsSub sep ['a', 'b'] = false ∧
    splitValues sep (joinVals sep [['a', 'b'], ['z']]) 2 ≠ [['a', 'b'], ['z']] := by decide +kernel

/-- the generated format string renders argument `i` with its own piece (`{:spec_i}` or `{}`), the pieces being
    joined by the separator -/
theorem C19_genFormat (sep : Str) (keys : List (Str × Str)) (n : Nat) :
    genFormat sep keys n n = joinVals sep ((List.range n).map (oneField keys)) := by
  rw [genFormat_eq sep keys n n (Nat.le_refl n)]; simp [List.range_eq_range']

/-- **C19, the pairs.** With at least as many arguments as placeholders and no rendered value containing the
    separator, the `named_args` vector is `(name_i, value_i)` in order (then `_i` for surplus arguments). -/
theorem C19_pairs {sep : Str} (hne : sep ≠ []) (hb : unbordered sep = true) (san : Bool)
    (keys : List (Str × Str)) (fv : List Str) (hlen : keys.length ≤ fv.length)
    (hv : ∀ v ∈ fv, containsSub sep v = false) :
    namedPairs sep san keys fv = (populateNames keys fv.length).zip (if san then fv.map sanitize else fv) :=
  namedPairs_eq hne hb san keys fv hlen hv

/-- … in particular, one argument per placeholder: the keys are exactly the placeholder names -/
theorem C19_pairs_exact_partial {sep : Str} (hne : sep ≠ []) (hb : unbordered sep = true)
    (ps : List Piece) (hw : wf ps = true) (hok : procOK ps = true) (fv : List Str)
    (hlen : fv.length = (keysOf ps).length) (hv : ∀ v ∈ fv, containsSub sep v = false) :
    namedPairs sep false (process (render ps)).2 fv = ((keysOf ps).map (·.1)).zip fv := by
  rw [C19_positional_partial ps hw hok]
  simp only
  rw [C19_pairs hne hb false _ fv (by omega) hv]
  simp [populateNames, hlen]

example : let sep := [Char.ofNat 1, Char.ofNat 2, Char.ofNat 3]
    namedPairs sep false [(['a'], []), (['b'], ":>5".toList)] ["1".toList, "    x".toList, "7".toList]
      = [(['a'], ['1']), (['b'], "    x".toList), ("_2".toList, ['7'])] := by decide +kernel

/-- **C19, text and pairs of one statement (partial: both classes).** For a template of the grammar in both good
    classes with a named placeholder, any cache state reachable by earlier lookups, at least as many arguments as
    placeholders and no rendered value containing the separator: the message is the positional formatting of the
    arguments — literal text, `{{`→`{`, `}}`→`}`, i-th placeholder = i-th argument rendered by its spec (`msgSpec`;
    fmt's top level on the erased template, `fmtSubst_render`) — then sanitised / trailing newline cut; the pairs are
    `(name_i, value_i)` in order of occurrence, `_i` for surplus arguments. -/
theorem C19_statement_partial {sep : Str} (hne : sep ≠ []) (hb : unbordered sep = true) (san : Bool)
    (c : Cache) (hc : CacheInv c) (ps : List Piece) (hw : wf ps = true) (hp : procOK ps = true)
    (hd : detectOK ps = true) (hn : ps.any Piece.isNamed = true) (fv : List Str)
    (hlen : (keysOf ps).length ≤ fv.length) (hv : ∀ v ∈ fv, containsSub sep v = false) :
    (backendStep sep san false c (render ps) fv).1 =
      { msg := finishMsg san (msgSpec ps fv),
        pairs := some ((populateNames (keysOf ps) fv.length).zip (if san then fv.map sanitize else fv)) } ∧
    CacheInv (backendStep sep san false c (render ps) fv).2 := by
  have hdet : containsNamedArgs (render ps) = true := by rw [contains_render ps hw hd, hn]
  have hlk := lookupOrInsert_fst c hc (render ps)
  rw [process_render ps hw hp] at hlk
  simp only [backendStep, hdet, if_true, hlk, Bool.false_eq_true, if_false]
  refine ⟨?_, lookupOrInsert_inv c hc (render ps)⟩
  rw [fmtSubst_render ps fv hw, namedPairs_eq hne hb san (keysOf ps) fv hlen hv]

/-- a template without named placeholder goes to fmt as it is and yields no pairs -/
theorem C19_statement_unnamed_partial (sep : Str) (san : Bool) (c : Cache) (ps : List Piece) (hw : wf ps = true)
    (hd : detectOK ps = true) (hn : ps.any Piece.isNamed = false) (fv : List Str) :
    backendStep sep san false c (render ps) fv = ({ msg := finishMsg san (msgSpec ps fv), pairs := none }, c) := by
  have hdet : containsNamedArgs (render ps) = false := by rw [contains_render ps hw hd, hn]
  simp only [backendStep, hdet]
  have := fmtSubst_render ps fv hw
  rw [erase_of_not_named ps hn] at this
  simp [this]

example : let sep := [Char.ofNat 1, Char.ofNat 2, Char.ofNat 3]
    (backendStep sep false false [] "x {a} y {b:>5} {{z}}".toList ["1".toList, "    q".toList]).1
      = { msg := some "x 1 y     q {z}".toList, pairs := some [(['a'], ['1']), (['b'], "    q".toList)] } := by
  rw [String.toList_ofList, String.toList_ofList]
  decide +kernel

/-- **C19, JSON members in fixed order.** The bytes written for a statement are `{`, the members `"key":"value"`
    joined by commas — the header slots in the order of the (extracted) layout, then the named pairs in order —
    `}` and a newline. Nothing is escaped; the template's newlines are spaces. -/
theorem C19_json_members (layout : List (Str × HdrField)) (hl : layout ≠ []) (h : Hdr) (tmpl : Str)
    (pairs : Option (List (Str × Str))) :
    jsonLine layout h tmpl pairs =
      '{' :: joinVals [','] (layout.map (fun kf => member kf.1 (h.get (tmpl.map replNl) kf.2)) ++
                              (pairs.getD []).map (fun kv => member kv.1 kv.2)) ++ ['}'] ++ ['\n'] := by
  rw [jsonLine_eq_body, jsonBody_members layout hl, removeNewlines_eq]

/-- **C19, one line.** What precedes the terminating newline contains a newline iff a key, a header value other
    than the template, or a named pair contains one. -/
theorem C19_json_single_line (layout : List (Str × HdrField)) (hl : layout ≠ []) (h : Hdr) (tmpl : Str)
    (pairs : Option (List (Str × Str))) :
    (∃ body, jsonLine layout h tmpl pairs = body ++ ['\n'] ∧
      ('\n' ∈ body ↔
        (∃ kf ∈ layout, '\n' ∈ kf.1 ∨ (kf.2 ≠ .messageFormat ∧ '\n' ∈ h.get tmpl kf.2)) ∨
        (∃ kv ∈ pairs.getD [], '\n' ∈ kv.1 ∨ '\n' ∈ kv.2))) :=
  ⟨jsonBody layout h tmpl pairs, jsonLine_eq_body layout h tmpl pairs, jsonBody_newline_iff layout hl h tmpl pairs⟩

/-- **C19, the line parses whenever nothing needs escaping.** If no key, no header value, not the (rewritten) template
    and no pair contains a quote, a backslash or a control character, then the object read back by the flat JSON
    reader (`parseFlat`: `{"k":"v",…}` with unescaped strings) is exactly the header members in layout order followed
    by the named pairs in their order. -/
theorem C19_json_parses (layout : List (Str × HdrField)) (hl : layout ≠ []) (h : Hdr) (tmpl : Str)
    (pairs : Option (List (Str × Str)))
    (hk : ∀ kf ∈ layout, noEscapeNeeded kf.1 = true ∧ noEscapeNeeded (h.get (tmpl.map replNl) kf.2) = true)
    (hp : ∀ kv ∈ pairs.getD [], noEscapeNeeded kv.1 = true ∧ noEscapeNeeded kv.2 = true) :
    ∃ body, jsonLine layout h tmpl pairs = body ++ ['\n'] ∧
      parseFlat body = some (layout.map (fun kf => (kf.1, h.get (tmpl.map replNl) kf.2)) ++ pairs.getD []) := by
  refine ⟨jsonBody layout h tmpl pairs, jsonLine_eq_body layout h tmpl pairs, ?_⟩
  rw [jsonBody_members layout hl, removeNewlines_eq]
  have := parseFlat_members (layout.map (fun kf => (kf.1, h.get (tmpl.map replNl) kf.2)) ++ pairs.getD []) (by
    intro m hm
    rcases List.mem_append.1 hm with h1 | h1
    · obtain ⟨kf, hkf, rfl⟩ := List.mem_map.1 h1
      exact hk kf hkf
    · exact hp m h1)
  simpa [List.map_append, List.map_map, Function.comp_def] using this

example : parseFlat "{\"timestamp\":\"7\",\"message\":\"a {x}\",\"x\":\"1\"}".toList
    = some [("timestamp".toList, ['7']), ("message".toList, "a {x}".toList), (['x'], ['1'])] := by
  rw [String.toList_ofList]
  decide +kernel

/-- a quote inside a value breaks the object (nothing is escaped by the sink): why the hypothesis is there -/
example : parseFlat (jsonBody [("m".toList, .messageFormat)]
      { timestamp := [], fileName := [], line := [], threadId := [], logger := [], logLevel := [] }
      ['t'] (some [(['x'], "a\"b".toList)])) = none := by decide +kernel

/-- the rewritten template never contains a newline and differs from the template only there -/
theorem C19_template_newlines (tmpl : Str) :
    removeNewlines tmpl = tmpl.map replNl ∧ '\n' ∉ removeNewlines tmpl :=
  ⟨removeNewlines_eq tmpl, removeNewlines_no_nl tmpl⟩

example : String.ofList (jsonLine [("t".toList, .timestamp), ("message".toList, .messageFormat)]
      { timestamp := ['7'], fileName := [], line := [], threadId := [], logger := [], logLevel := [] }
      "a\n{x}".toList (some [(['x'], ['1'])]))
    = "{\"t\":\"7\",\"message\":\"a {x}\",\"x\":\"1\"}\n" := by
  refine congrArg String.ofList ?_
  decide +kernel

/-- **C19, cache transparency.** For every history of lookups (every order of first sightings, any repetitions)
    starting from the empty cache, each lookup returns what fresh processing of its template returns, and the
    cache ends up holding `process t` under exactly the templates seen. -/
theorem C19_cache_transparent (ts : List Str) :
    (runHistory [] ts).1 = ts.map process ∧
    ∀ k, (runHistory [] ts).2.lookup k = if k ∈ ts then some (process k) else none := by
  have h := runHistory_spec ts [] cacheInv_nil
  exact ⟨h.1, fun k => by rw [h.2.2 k]; simp [List.lookup]⟩

/-- one step, from any cache satisfying the invariant -/
theorem C19_lookup_transparent (c : Cache) (hc : CacheInv c) (t : Str) :
    (lookupOrInsert c t).1 = process t ∧ CacheInv (lookupOrInsert c t).2 :=
  ⟨lookupOrInsert_fst c hc t, lookupOrInsert_inv c hc t⟩

example : (runHistory [] ["{a}".toList, "{b} {c}".toList, "{a}".toList]).1
    = ["{a}".toList, "{b} {c}".toList, "{a}".toList].map process := by decide +kernel

/-- For **every** string (in the grammar or not) the fuel the model gives its loops is adequate: any larger amount
    yields the same flag, the same scanner state and the same split — the definitions denote the C++ loops run to
    their natural exit, and none of the theorems above holds because a loop was cut short. (The two inner loops, whose
    fuel is fixed inside `detOuter` / `procOuter`: `detInner_fuel_ge`, `procInner_fuel_ge`.) -/
theorem C19_loops_run_to_completion (t : Str) (extra : Nat) :
    detOuter t (t.length + 1 + extra) 0 false = containsNamedArgs t ∧
    procOuter t (t.length + 1 + extra) (findFrom '{' t 0) {} = procOuter t (t.length + 1) (findFrom '{' t 0) {} ∧
    (∀ (sep : Str) (n : Nat), sep ≠ [] →
      splitAssign sep t (t.length + 2 + extra) 0 0 (List.replicate n []) = splitValues sep t n) :=
  ⟨containsNamedArgs_fuel t extra, process_fuel t extra, fun _ n hne => splitValues_fuel hne t n extra⟩

/-- **C19, LOGJ_ templates.** For a literal text without placeholders and identifier arguments `x1 … xn`, the
    macro-generated literal `text " {x1}, {x2}, …"` is in the grammar and in both good classes: it is flagged iff
    `n > 0`, fmt gets `text " {}, {}, …"`, and the keys are `x1 … xn` in order. (Arguments that are not plain
    identifiers — `obj.f`, `ns::v`, `a[0]` — are stringified as written and fall outside this theorem.) -/
theorem C19_logj (tp : List Piece) (hw : wf tp = true) (hn : noFields tp = true) (xs : List Str)
    (hx : ∀ x ∈ xs, nameOK x = true ∧ x ≠ []) :
    containsNamedArgs (logjLiteral (render tp) xs) = !xs.isEmpty ∧
    process (logjLiteral (render tp) xs) =
      (logjLiteral (render tp) (xs.map (fun _ => [])), xs.map (fun x => (x, []))) := by
  have hwf := wf_logj tp hw xs (fun x h => (hx x h).1)
  have hpo := procOK_logj tp hn xs
  rw [← render_logj]
  constructor
  · cases xs with
    | nil =>
      rw [C19_detect_partial _ hwf (by simpa [logjPieces] using detectOK_prefix tp [] hn rfl)]
      simpa [logjPieces] using any_named_prefix tp [] hn
    | cons x xs =>
      have hxne : (x != []) = true := by simpa using (hx x (by simp)).2
      rw [C19_detect_partial _ hwf (by
        apply detectOK_prefix tp _ hn
        simp [detectOK, detOK, hxne])]
      simp only [logjPieces]
      rw [any_named_prefix tp _ hn]
      simp [Piece.isNamed, hxne]
  · rw [C19_positional_partial _ hwf hpo]
    have herase := map_erase_noFields tp hn
    cases xs with
    | nil => simpa [logjPieces, logjLiteral, herase, keysOf] using keysOf_prefix tp [] hn
    | cons x xs =>
      have hmap : (logjPieces tp (x :: xs)).map Piece.erase = logjPieces tp ((x :: xs).map (fun _ => [])) := by
        simp [logjPieces, herase, Piece.erase, List.map_flatMap, List.flatMap_map]
      rw [hmap, render_logj]
      simp only [logjPieces]
      rw [keysOf_prefix tp _ hn]
      simp [keysOf, syntaxOf, keysOf_logj_tail]

/-- **LOGJ_ with an argument that is not a plain identifier** (finding candidate F11c): the macro stringifies the
    argument as written, so `LOGJ_INFO(l, "q", ns::v)` generates `"q {ns::v}"`, which the grammar (and the scanner)
    reads as the placeholder `ns` with spec `:v`: the key is `ns`, fmt is handed the spec `::v` and rejects it. -/
theorem C19_logj_colon_counter :
    logjLiteral ['q'] ["ns::v".toList] = "q {ns::v}".toList ∧
    process "q {ns::v}".toList = ("q {::v}".toList, [("ns".toList, "::v".toList)]) ∧
    nameOK "ns::v".toList = false := by
  rw [String.toList_ofList, String.toList_ofList, String.toList_ofList]
  decide +kernel

example : process (logjLiteral "A json message".toList ["var_a".toList, "b".toList])
    = ("A json message {}, {}".toList, [("var_a".toList, []), (['b'], [])]) := by
  rw [String.toList_ofList, String.toList_ofList]
  decide +kernel

end Named
