import QuillModel.Props.C09Backend
import QuillModel.Props.C06Progress
/-!
# C09 — a blocked call resumes, while other threads keep logging

`C09_blocked_call_resumes` (`Props/C09Backend.lean`) assumes a quiet drain continuation; here the continuation is arbitrary.
A caller parked on the retry of a refused reservation is granted as soon as its own queue has been read (the transit buffer
may still be full, other threads' queues may be anything): that the reader position is published whenever a queue has been
read is an invariant of every schedule (`C09_reads_committed`). The pass of every poll takes at least one record out of every
ripe queue (the hard limit, the byte budget of one read and the soft limit cannot prevent it: the do-while reads one record
first), and a parked owner enqueues nothing, so after `|queue|` polls the retry is granted. The batch-guard starvation of C06
does not apply: reading happens in every poll before the guard is consulted — a blocked log call always resumes as long as
the backend keeps polling. Helpers: `Backend/ConcGrow.lean`, `Backend/ConcDrain.lean`.
-/
namespace Backend
open Backend.PB

/-- **The retry is granted once the caller's queue has been read — any reachable state, any concurrency.** Blocking queue with
    the publish-when-drained rule (extracted). After **any** schedule `ops`, let actor `a` be parked on the retry of a refused
    reservation for `st` (continuation `k`) that fits an empty queue, and let `a`'s queue hold nothing unread. Then `a`'s `resume`
    is granted: `st`, stamped with the commit instant, is appended to the context's accepted history; for a `log` call the call
    returns (`ret=1` for the outcome-reporting macro) and the actor is no longer parked. -/
theorem C09_retry_granted_once_queue_read (s0 : BSt) (h0 : StartF s0) (ops : List Op) (a : Nat) (x : Actor) (st : Stmt) (k : Nat)
    (hdp : s0.cfg.qp.drainPublish = true) (hblk : s0.cfg.dropping = false)
    (hx : (runOps s0 ops).actor a = some x) (hp : x.pend = .retry st k) (hsz : st.size ≤ s0.cfg.qcap)
    (hq : ∀ i, x.ctx = some i → ((runOps s0 ops).th i).qStmts = []) :
    ((resume (runOps s0 ops) a).1.th (ensureCtx (runOps s0 ops) a).2).accepted =
      ((ensureCtx (runOps s0 ops) a).1.th (ensureCtx (runOps s0 ops) a).2).accepted ++
        [{ st with enqAt := (runOps s0 ops).now }] ∧
    (st.kind = .log → k = 0 ∨ k = 5 →
      (resume (runOps s0 ops) a).2 = obsLog st k (some true) st.size ∧
      pendOf (resume (runOps s0 ops) a).1 a = some .none) :=
  C09_empty_queue_retry_granted s0 h0 ops a x st k hdp hblk hx hp hsz hq

/-- **Every pass reads every ripe queue.** After any schedule `ops`, for any injection table of the next poll: a context `i`
    whose queue is non-empty, with its front record `r` past the grace period, has at least one more record in its transit
    buffer after the pass of that poll — whatever the other threads do at the hook sites meanwhile. -/
theorem C09_pass_reads_every_ripe_queue (s0 : BSt) (h0 : Start s0) (ops : List Op) (table : List (Nat × Nat × List FOp))
    (i : Nat) (r : Stmt) (rest : List Stmt) (hq : ((runOps s0 ops).th i).qStmts = r :: rest)
    (hripe : r.ts + (runOps s0 ops).cfg.grace ≤ (runOps s0 ops).now) :
    ((runOps s0 ops).th i).buf.length + 1 ≤
      ((populate (runInj table) { runOps s0 ops with siteCnt := [] }).1.th i).buf.length := by
  obtain ⟨fl, hI⟩ := (start_GI h0).runOps ops
  have hI' : PIo (runOps s0 ops).cfg fl { runOps s0 ops with siteCnt := [] } := hI.frame rfl
  exact populate_reads (fun _ _ _ _ _ site hh => hh.runInj table site) (grow_front.runInj table) hI' i r rest hq hripe

/-- **The queue of a blocked owner drains under arbitrary concurrency.** After any schedule `pre`, for **every** continuation
    `suffix` (frontend operations of any threads, polls with any injections) that leaves the backend running and in which
    context `i` accepts nothing more (its owner is blocked): if everything `i` accepted is past its grace period at the end of
    `pre`, then its queue has lost at least one record per poll of `suffix`, or is empty. -/
theorem C09_blocked_queue_drains (s0 : BSt) (h0 : StartF s0) (pre suffix : List Op) (i : Nat)
    (hrun : (runOps s0 (pre ++ suffix)).backendGone = false)
    (hripe : ∀ r ∈ ((runOps s0 pre).th i).accepted, r.ts + s0.cfg.grace ≤ (runOps s0 pre).now)
    (hacc : ((runOps s0 (pre ++ suffix)).th i).accepted.length = ((runOps s0 pre).th i).accepted.length) :
    ((runOps s0 (pre ++ suffix)).th i).qStmts.length + pollCount suffix ≤ ((runOps s0 pre).th i).qStmts.length ∨
    ((runOps s0 (pre ++ suffix)).th i).qStmts = [] := by
  rw [runOps_append] at hrun hacc ⊢
  exact drain_conc i suffix (runOps s0 pre) ((start_GI h0.start).runOps pre) ((start_FI h0).runOps pre) hrun
    (by rw [runOps_cfg]; exact hripe) hacc

/-- **C09 under concurrency: a blocked log call resumes while other threads keep logging.** Blocking queue with the
    publish-when-drained rule. After any schedule `pre`, for **every** continuation `suffix` — other threads logging, registering,
    exiting, between the polls and at every hook site inside them — that leaves the backend running and after which actor `a`
    is (still) parked on the retry of a refused reservation for `st` (which fits an empty queue), its context `i` having accepted
    nothing since the end of `pre` (it is blocked): if everything the context accepted was past its grace period at the end of
    `pre` and `suffix` contains at least as many polls as the queue held records, then `a`'s `resume` is granted — `st` is
    appended to the accepted history, and a `log` call returns (`ret=1`). No quietness, no bound on what other threads do. -/
theorem C09_blocked_call_resumes_concurrent (s0 : BSt) (h0 : StartF s0) (pre suffix : List Op) (a : Nat) (x : Actor)
    (st : Stmt) (k i : Nat) (hdp : s0.cfg.qp.drainPublish = true) (hblk : s0.cfg.dropping = false)
    (hx : (runOps s0 (pre ++ suffix)).actor a = some x) (hp : x.pend = .retry st k) (hi : x.ctx = some i)
    (hsz : st.size ≤ s0.cfg.qcap)
    (hrun : (runOps s0 (pre ++ suffix)).backendGone = false)
    (hripe : ∀ r ∈ ((runOps s0 pre).th i).accepted, r.ts + s0.cfg.grace ≤ (runOps s0 pre).now)
    (hacc : ((runOps s0 (pre ++ suffix)).th i).accepted.length = ((runOps s0 pre).th i).accepted.length)
    (hn : ((runOps s0 pre).th i).qStmts.length ≤ pollCount suffix) :
    ((resume (runOps s0 (pre ++ suffix)) a).1.th (ensureCtx (runOps s0 (pre ++ suffix)) a).2).accepted =
      ((ensureCtx (runOps s0 (pre ++ suffix)) a).1.th (ensureCtx (runOps s0 (pre ++ suffix)) a).2).accepted ++
        [{ st with enqAt := (runOps s0 (pre ++ suffix)).now }] ∧
    (st.kind = .log → k = 0 ∨ k = 5 →
      (resume (runOps s0 (pre ++ suffix)) a).2 = obsLog st k (some true) st.size ∧
      pendOf (resume (runOps s0 (pre ++ suffix)) a).1 a = some .none) := by
  apply C09_retry_granted_once_queue_read s0 h0 (pre ++ suffix) a x st k hdp hblk hx hp hsz
  intro j hj
  rw [hi] at hj
  cases hj
  rcases C09_blocked_queue_drains s0 h0 pre suffix i hrun hripe hacc with h | h
  · exact List.eq_nil_of_length_eq_zero (by omega)
  · exact h

/-- **`flush_log()` returns while other threads keep logging — the caller still in its retry loop.** Composition of
    `C09_blocked_call_resumes_concurrent` and `C06_flush_log_returns_concurrent`. Hypotheses of C05; blocking queue with the
    publish-when-drained rule. The schedule is `pre ++ s1 ++ [resume a] ++ s2`, with `pre`, `s1`, `s2` **arbitrary**:
    at the end of `pre ++ s1` actor `a` is parked on the retry of its refused Flush request `st` (flag `f`), its context `i`
    accepted nothing during `s1`, was ripe at the end of `pre`, and `s1` has at least as many polls as the queue held
    records — then `resume a` commits the request; and if the productive operations of `s2` reach the number of records with
    timestamp `≤ st.ts` not yet popped, the flag is raised at the end and every caller parked on it is released ("done"). -/
theorem C06_flush_log_returns_concurrent_retry (s0 : BSt) (hA : PA.Fresh s0) (h0 : StartF s0) (hg : s0.cfg.grace ≠ 0)
    (hr : s0.cfg.refreshAfterSample = true) (hdp : s0.cfg.qp.drainPublish = true) (hblk : s0.cfg.dropping = false)
    (pre s1 s2 : List Op) (a : Nat) (x : Actor) (st : Stmt) (f i : Nat)
    (hx : (runOps s0 (pre ++ s1)).actor a = some x) (hp : x.pend = .retry st 1) (hi : x.ctx = some i)
    (hk : st.kind = .flush f) (hsz : st.size ≤ s0.cfg.qcap)
    (hrun : (runOps s0 (pre ++ s1)).backendGone = false)
    (hripe : ∀ r ∈ ((runOps s0 pre).th i).accepted, r.ts + s0.cfg.grace ≤ (runOps s0 pre).now)
    (hacc : ((runOps s0 (pre ++ s1)).th i).accepted.length = ((runOps s0 pre).th i).accepted.length)
    (hn : ((runOps s0 pre).th i).qStmts.length ≤ pollCount s1)
    (hprem : GracePremise (runOps s0 (pre ++ s1 ++ [.front (.resume a)] ++ s2)))
    (hn2 : accLE (runOps s0 (pre ++ s1 ++ [.front (.resume a)] ++ s2)) st.ts ≤
      (runOps s0 (pre ++ s1 ++ [.front (.resume a)])).popLog.length +
        productive (runOps s0 (pre ++ s1 ++ [.front (.resume a)])) s2) :
    f ∈ (runOps s0 (pre ++ s1 ++ [.front (.resume a)] ++ s2)).flags ∧
    ∀ b y, (runOps s0 (pre ++ s1 ++ [.front (.resume a)] ++ s2)).actor b = some y → y.pend = .flag f →
      (resume (runOps s0 (pre ++ s1 ++ [.front (.resume a)] ++ s2)) b).2 = "done" := by
  obtain ⟨hgr, _⟩ := C09_blocked_call_resumes_concurrent s0 h0 pre s1 a x st 1 i hdp hblk hx hp hi hsz hrun hripe hacc hn
  -- the request, stamped with its commit instant, is in the accepted history right after the `resume`, and stays there
  have hmem : ({ st with enqAt := (runOps s0 (pre ++ s1)).now } : Stmt) ∈
      ((runOps s0 (pre ++ s1 ++ [.front (.resume a)] ++ s2)).th (ensureCtx (runOps s0 (pre ++ s1)) a).2).accepted := by
    rw [runOps_append s0 _ s2, runOps_snoc s0 (pre ++ s1)]
    apply (mono_runOps s2 _).mem_acc
    rw [applyOp_resume_th, hgr]
    exact List.mem_append_right _ (List.mem_singleton_self _)
  -- `Op.front` written out: with `[.front _]` the element is elaborated last, and `hprem`, `hmem`, `hn2` are first compared with
  -- a schedule that has a hole in it, by unfolding `runOps`
  exact C06_flush_log_returns_concurrent s0 hA h0 hg hr (pre ++ s1 ++ [Op.front (.resume a)]) s2
    (ensureCtx (runOps s0 (pre ++ s1)) a).2 { st with enqAt := (runOps s0 (pre ++ s1)).now } f hprem hmem hk hn2

/-- the blocking scenario of `Props/C09Backend.lean` (`c09Block`: a 1024-byte queue holding thread 1's 47-byte record, its
    1009-byte second call refused and parked), with thread 2 logging between and inside the polls: after two polls thread 1's
    queue has been read, the hypotheses of `C09_retry_granted_once_queue_read` hold, and the retry is granted. -/
example :
    let ops : List Op := c09Block ++ [.front (.tstart 2), .front (.log 2 0 4 10 true),
      .poll [(3, 1, [.log 2 0 4 10 true])], .front (.log 2 0 4 10 true), .poll [(2, 1, [.log 2 0 4 10 true])]]
    let s := runOps (c09Init true) ops
    (s.actor 1).map (fun x => (x.pend matches .retry _ 0, x.ctx)) = some (true, some 0) ∧
    (s.th 0).qStmts.length = 0 ∧ (s.th 1).accepted.length = 4 ∧
    (resume s 1).2 = "id=1 ret=1 ev=1 bytes=1009" ∧
    -- the hypotheses of `C09_blocked_call_resumes_concurrent` with `pre = c09Block`, `i = 0`
    s.backendGone = false ∧ (c09Init true).cfg.grace = 0 ∧
    (s.th 0).accepted.length = ((runOps (c09Init true) c09Block).th 0).accepted.length ∧
    ((runOps (c09Init true) c09Block).th 0).qStmts.length ≤ pollCount (ops.drop c09Block.length) := by
  decide +kernel

/-- non-vacuity of `C09_pass_reads_every_ripe_queue`: in the blocked state the queue of context 0 holds one record (the 47-byte
    one; the parked 1009-byte request does not fit behind it); ordering is disabled, so it is ripe; the pass of the next poll — with
    thread 2 registering and logging at site 2 — moves it to the transit buffer. -/
example :
    let s := runOps (c09Init true) c09Block
    (s.th 0).qStmts.length = 1 ∧ (s.th 0).buf.length = 0 ∧ s.cfg.grace = 0 ∧
    ((populate (runInj [(2, 1, [.tstart 2, .log 2 0 4 10 true])]) { s with siteCnt := [] }).1.th 0).buf.length = 1 := by
  decide +kernel

/-- non-vacuity of `C06_flush_log_returns_concurrent_retry` (blocking 1024-byte queue, grace 10): thread 1's 1009-byte statement
    fills the queue, its `flush_log` request (40 bytes) is refused and parked on the retry; while thread 2 logs inside the poll
    (site 3) the backend reads thread 1's queue; `resume 1` commits the request (thread 1 now waits on flag 0); thread 2 logs
    again; one productive poll later the flag is raised and `resume 1` answers "done". The hypotheses about the run are
    checked (the clock advances by exactly the grace period, so that the retried request is still committed within the grace
    premise). -/
example :
    let pre : List Op := [.front (.tstart 1), .front (.tstart 2), .front (.log 1 0 4 972 true), .front (.flush 1 0), .front (.tick 10)]
    let s1 : List Op := [.poll [(3, 1, [.log 2 0 4 10 true])]]
    let s2 : List Op := [.front (.log 2 0 4 10 true), .poll []]
    let sA := runOps (c05Init true) pre
    let sB := runOps (c05Init true) (pre ++ s1)
    let sC := runOps (c05Init true) (pre ++ s1 ++ [.front (.resume 1)])
    let sD := runOps (c05Init true) (pre ++ s1 ++ [.front (.resume 1)] ++ s2)
    (c05Init true).cfg.qp.drainPublish = true ∧ (c05Init true).cfg.dropping = false ∧
    (sB.actor 1).map (fun x => (x.pend matches .retry _ 1, x.ctx)) = some (true, some 0) ∧
    (sB.actor 1).map (fun x => match x.pend with | .retry st _ => (st.kind matches .flush 0, st.size, st.ts) | _ => (false, 0, 0)) =
      some (true, 40, 1000) ∧
    sB.backendGone = false ∧ (sA.th 0).accepted.map (·.ts) = [1000] ∧ sA.now = 1010 ∧
    (sB.th 0).accepted.length = (sA.th 0).accepted.length ∧ (sA.th 0).qStmts.length ≤ pollCount s1 ∧
    GracePremise sD ∧ accLE sD 1000 = 2 ∧ sC.popLog.length = 1 ∧ productive sC s2 = 1 ∧
    sD.flags = [0] ∧ (resume sD 1).2 = "done" ∧ (sD.th 1).accepted.length = 2 := by
  decide +kernel

end Backend
