import QuillModel.LogReg.Proofs
/-!
# C17 (part) — the by-name logger registry: sorted vector, binary search = linear search, idempotent
# `create_or_get`, stable in-place clean-up

`LogReg.step` transcribes `LoggerManager::create_or_get_logger / get_logger / remove_logger /
cleanup_invalidated_loggers / get_all_loggers / get_number_of_loggers` over the vector of loggers sorted by name
(model: `LogReg/Model.lean`). All theorems quantify over EVERY sequence `ops` of these operations from the empty
registry (every pattern of removed-but-not-yet-erased entries, every answer sequence of the `check_queues_empty`
callback) and hold for `Params.OK` = both private helpers use `lower_bound`.
-/
namespace LogReg

/-- **strictly sorted**: the vector stays strictly sorted by name (so `std::lower_bound` is applicable, is the model's
    `bound`, and no name has two entries) -/
theorem C17_logreg_sorted (p : Params) (hp : p.OK) (ops : List Op) :
    (run p {} ops).entries.Pairwise (fun a b => a.name < b.name) :=
  (rinv_run p hp ops {} rinv_init).pw.imp (fun h => h.1)

/-- **at most one entry per name**, valid or not -/
theorem C17_logreg_one_entry_per_name (p : Params) (hp : p.OK) (ops : List Op) (n : Nat) :
    ((run p {} ops).entries.filter (fun e => e.name == n)).length ≤ 1 :=
  filter_name_le_one _ n (rinv_run p hp ops {} rinv_init).pw

/-- identities are never reused: every entry was constructed before the counter's current value, all differ -/
theorem C17_logreg_ids_fresh (p : Params) (hp : p.OK) (ops : List Op) :
    let s := run p {} ops
    (∀ e ∈ s.entries, e.id < s.next) ∧ s.entries.Pairwise (fun a b => a.id ≠ b.id) :=
  ⟨(rinv_run p hp ops {} rinv_init).lt, (rinv_run p hp ops {} rinv_init).pw.imp (fun h => h.2)⟩

/-- a concrete life over four names: creation out of order, lookups, a removal, the contract guard, a clean-up that
    keeps one invalid entry (`[false]`) and erases the other, a clean-up that erases the rest, re-creation -/
def life : List Op :=
  [.createOrGet 2, .createOrGet 0, .createOrGet 3, .createOrGet 1, .get 2, .remove 2, .get 2, .createOrGet 2,
   .remove 0, .cleanup [false], .count, .all, .cleanup [], .createOrGet 2, .createOrGet 0, .get 0, .cleanup [true],
   .all, .count]

example : trace {} {} life =
    [.id 1, .id 2, .id 3, .id 4, .id 1, .ok, .none, .guard, .ok, .removed [2] 3 true, .size 3, .ids [4, 3],
     .removed [0] 2 false, .id 5, .id 6, .id 6, .removed [] 4 false, .ids [6, 4, 5, 3], .size 4] := by decide +kernel

example : (run {} {} life).entries = [⟨0, 6, true⟩, ⟨1, 4, true⟩, ⟨2, 5, true⟩, ⟨3, 3, true⟩] ∧
    (run {} {} life).next = 7 ∧ (run {} {} life).flag = false := by decide +kernel

/-- non-vacuity of the three theorems above: a state with four entries, one of them invalid -/
example : (run {} {} (life.take 9)).entries = [⟨0, 2, false⟩, ⟨1, 4, true⟩, ⟨2, 1, false⟩, ⟨3, 3, true⟩] ∧
    ((run {} {} (life.take 9)).entries.filter (fun e => e.name == 2)).length = 1 := by decide +kernel

/-- **the binary search is the linear search by name**: on every reachable vector `_find_logger(name)` returns the
    first (= the only) entry carrying the name, valid or not -/
theorem C17_logreg_find_is_linear_search (p : Params) (hp : p.OK) (ops : List Op) (n : Nat) :
    find p (run p {} ops) n = (run p {} ops).entries.find? (fun e => e.name == n) :=
  find_eq_lookup p hp _ (rinv_run p hp ops {} rinv_init) n

example : find {} (run {} {} (life.take 9)) 2 = some ⟨2, 1, false⟩ ∧ find {} (run {} {} (life.take 13)) 2 = none := by
  decide +kernel

/-- **`get_logger(name)`** changes nothing and returns the entry found by LINEAR search when it is valid, null
    otherwise: it returns object `i` iff some entry of that name is valid and is object `i`, and null iff no entry of
    that name is valid (in particular when the entry is removed but not yet erased) -/
theorem C17_logreg_get (p : Params) (hp : p.OK) (ops : List Op) (n : Nat) :
    let s := run p {} ops
    (step p s (.get n)).1 = s ∧
    (step p s (.get n)).2 =
      (match s.entries.find? (fun e => e.name == n) with
       | some e => if e.valid then .id e.id else .none
       | none => .none) ∧
    (∀ i, (step p s (.get n)).2 = .id i ↔ ∃ e ∈ s.entries, e.name = n ∧ e.valid = true ∧ e.id = i) ∧
    ((step p s (.get n)).2 = .none ↔ ∀ e ∈ s.entries, e.name = n → e.valid = false) := by
  intro s
  have hs : RInv s := rinv_run p hp ops {} rinv_init
  refine ⟨by rw [step_get p hp s hs n], by rw [step_get p hp s hs n]; rfl, fun i => ?_, ?_⟩
  · rw [step_get_validOf p hp s hs n, ← validOf_some_iff s hs n i]
    cases validOf s n <;> simp
  · rw [step_get_validOf p hp s hs n, ← validOf_none_iff s hs n]
    cases validOf s n <;> simp

example : (step {} (run {} {} (life.take 9)) (.get 1)).2 = .id 4 ∧ (step {} (run {} {} (life.take 9)) (.get 2)).2 = .none ∧
    (step {} (run {} {} (life.take 13)) (.get 2)).2 = .none := by decide +kernel

/-- **`create_or_get(name)`**: an existing VALID entry of the name is returned and nothing changes; an existing INVALID
    entry (removed, not yet erased) is the contract guard, nothing changes; when the name has no entry a fresh object
    is constructed (identity = the counter, different from every identity in the vector), after which it is the valid
    logger of the name and no other name's entry has changed -/
theorem C17_logreg_create_or_get (p : Params) (hp : p.OK) (ops : List Op) (n : Nat) :
    let s := run p {} ops
    (∀ e, lookup s n = some e → e.valid = true → step p s (.createOrGet n) = (s, .id e.id)) ∧
    (∀ i, validOf s n = some i → step p s (.createOrGet n) = (s, .id i)) ∧
    (∀ e, lookup s n = some e → e.valid = false → step p s (.createOrGet n) = (s, .guard)) ∧
    (lookup s n = none →
      (step p s (.createOrGet n)).2 = .id s.next ∧ (∀ e ∈ s.entries, e.id ≠ s.next) ∧
      (step p s (.createOrGet n)).1.next = s.next + 1 ∧
      validOf (step p s (.createOrGet n)).1 n = some s.next ∧
      ∀ m, m ≠ n → lookup (step p s (.createOrGet n)).1 m = lookup s m ∧
        validOf (step p s (.createOrGet n)).1 m = validOf s m) := by
  intro s
  have hs : RInv s := rinv_run p hp ops {} rinv_init
  refine ⟨fun e he hv => ?_, fun i hi => step_createOrGet_valid p hp s hs n i hi, fun e he hv => ?_, fun hn => ?_⟩
  · rw [step_createOrGet p hp s hs n, he]
    exact congrArg (Prod.mk s) (if_pos hv)
  · rw [step_createOrGet p hp s hs n, he]
    exact congrArg (Prod.mk s) (if_neg (by rw [hv]; exact Bool.false_ne_true))
  · rw [step_createOrGet p hp s hs n, hn]
    refine ⟨rfl, fun e he => Nat.ne_of_lt (hs.lt e he), rfl, ?_, fun m hm => ⟨?_, ?_⟩⟩
    · exact (validOf_created s n n).trans (if_pos rfl)
    · exact (lookup_created s n m).trans (if_neg hm)
    · exact (validOf_created s n m).trans (if_neg hm)

example : lookup (run {} {} (life.take 7)) 2 = some ⟨2, 1, false⟩ ∧
    step {} (run {} {} (life.take 7)) (.createOrGet 2) = (run {} {} (life.take 7), .guard) ∧
    lookup (run {} {} (life.take 13)) 2 = none ∧ (step {} (run {} {} (life.take 13)) (.createOrGet 2)).2 = .id 5 ∧
    step {} (run {} {} (life.take 7)) (.createOrGet 1) = (run {} {} (life.take 7), .id 4) := by decide +kernel

/-- **idempotence**: whatever object `create_or_get(name)` returned — the existing valid one or a fresh one —, after
    ANY further operations other than `remove_logger` of that name (creation, lookup, removal of other names, clean-ups
    with any callback answers, in any number), `get(name)` and every further `create_or_get(name)` return that same
    object and construct nothing -/
theorem C17_logreg_idempotent (p : Params) (hp : p.OK) (ops : List Op) (n : Nat) (ops2 : List Op) :
    let r := step p (run p {} ops) (.createOrGet n)
    ∀ i, r.2 = .id i → (∀ op ∈ ops2, op ≠ .remove n) →
      step p (run p r.1 ops2) (.get n) = (run p r.1 ops2, .id i) ∧
      step p (run p r.1 ops2) (.createOrGet n) = (run p r.1 ops2, .id i) := by
  intro r i hi hno
  have hs : RInv (run p {} ops) := rinv_run p hp ops {} rinv_init
  have hr1 : RInv r.1 := rinv_step p hp _ hs _
  have hvalid : validOf r.1 n = some i := by
    have hr : r = match lookup (run p {} ops) n with
        | some e => (run p {} ops, if e.valid then .id e.id else .guard)
        | none => (created (run p {} ops) n, .id (run p {} ops).next) := step_createOrGet p hp _ hs n
    cases hl : lookup (run p {} ops) n with
    | some e =>
      rw [hl] at hr
      rw [hr] at hi ⊢
      by_cases hv : e.valid = true
      · simp only [hv, if_true, Obs.id.injEq] at hi
        simp only [validOf, hl, hv, if_true, hi]
      · simp [hv] at hi
    | none =>
      rw [hl] at hr
      rw [hr] at hi ⊢
      simp only [Obs.id.injEq] at hi
      simp [validOf_created, hi]
  obtain ⟨hinv, hal⟩ := valid_kept p hp n i ops2 hno r.1 hr1 hvalid
  exact ⟨by rw [step_get_validOf p hp _ hinv n, hal], step_createOrGet_valid p hp _ hinv n i hal⟩

/-- the hypotheses of `C17_logreg_idempotent` are met with invalid entries around and clean-ups in between -/
example : let r := step {} (run {} {} (life.take 6)) (.createOrGet 1)
    r.2 = .id 4 ∧ (∀ op ∈ [Op.remove 0, .cleanup [false, true], .createOrGet 2, .remove 3, .cleanup []], op ≠ .remove 1) ∧
    step {} (run {} r.1 [Op.remove 0, .cleanup [false, true], .createOrGet 2, .remove 3, .cleanup []]) (.createOrGet 1) =
      (run {} r.1 [Op.remove 0, .cleanup [false, true], .createOrGet 2, .remove 3, .cleanup []], .id 4) := by decide +kernel

/-- **the clean-up** (`ans` = what the `check_queues_empty` callback answers, call by call). With the flag clear it
    returns at once. With the flag set: the callback is consulted once per INVALID entry in vector order
    (`decisions`); the vector afterwards is the entries not erased, IN THEIR ORDER (in-place `erase`: a sublist); no
    valid entry is erased; the returned names are those of the erased entries in vector order; the flag is re-armed iff
    an invalid entry stays; no name's valid logger changes; every name not returned is looked up exactly as before
    (same entry, same `get_logger` and `create_or_get_logger` answers) and every returned name has no entry any more -/
theorem C17_logreg_cleanup (p : Params) (hp : p.OK) (ops : List Op) (ans : List Bool) :
    let s := run p {} ops
    let r := step p s (.cleanup ans)
    let d := s.entries.zip (decisions s.entries ans)
    let names := (d.filter (fun x => x.2)).map (·.1.name)
    (s.flag = false → r = (s, .removed [] s.entries.length false)) ∧
    (s.flag = true →
      r.1.entries = (d.filter (fun x => !x.2)).map (·.1) ∧
      r.1.entries.Sublist s.entries ∧
      (∀ e ∈ s.entries, e.valid = true → e ∈ r.1.entries) ∧
      (∀ x ∈ d, x.2 = true → x.1.valid = false) ∧
      r.2 = .removed names r.1.entries.length r.1.flag ∧
      r.1.next = s.next ∧
      (r.1.flag = true ↔ ∃ e ∈ r.1.entries, e.valid = false) ∧
      (∀ n, validOf r.1 n = validOf s n) ∧
      (∀ n, n ∉ names → lookup r.1 n = lookup s n ∧ (step p r.1 (.get n)).2 = (step p s (.get n)).2 ∧
        (step p r.1 (.createOrGet n)).2 = (step p s (.createOrGet n)).2) ∧
      (∀ n ∈ names, lookup r.1 n = none ∧ (step p r.1 (.get n)).2 = .none)) := by
  intro s r d names
  have hs : RInv s := rinv_run p hp ops {} rinv_init
  refine ⟨fun hf => by simp only [r, step, hf]; rfl, fun hf => ?_⟩
  have hr1 : RInv r.1 := rinv_step p hp s hs _
  have hnames : names = (sweep s.entries ans).names := (sweep_names_eq _ _).symm
  have hr : r = _ := step_cleanup_flag p s ans hf
  clear_value r
  subst hr
  refine ⟨sweep_kept_eq _ _, sweep_sublist _ _, sweep_valid_kept _ _, decisions_erased_invalid _ _, by rw [hnames], rfl,
    ?_, sweep_validOf s hs ans _, fun n hn => ?_, fun n hn => ?_⟩
  · show (sweep s.entries ans).rearm = true ↔ _
    rw [sweep_rearm, List.any_eq_true]
    simp only [Bool.not_eq_true']
  · rw [hnames] at hn
    have h := sweep_find_of_not_mem s.entries ans n hn
    refine ⟨h, ?_, ?_⟩
    · rw [step_get p hp _ hr1 n, step_get p hp s hs n]
      simp only [lookup_def, h]
    · rw [step_createOrGet p hp _ hr1 n, step_createOrGet p hp s hs n]
      simp only [lookup_def, h]
      cases s.entries.find? (hasName n) <;> rfl
  · rw [hnames] at hn
    have h := sweep_find_of_mem s.entries hs.pw ans n hn
    refine ⟨h, ?_⟩
    rw [step_get p hp _ hr1 n]
    simp only [lookup_def, h]

/-- both branches of `C17_logreg_cleanup` on the concrete life: flag clear → early return; flag set, two invalid
    entries, answers `[false]` → the first (name 0) stays and re-arms the flag, the second (name 2) is erased -/
example : (run {} {} (life.take 5)).flag = false ∧
    step {} (run {} {} (life.take 5)) (.cleanup [true]) = (run {} {} (life.take 5), .removed [] 4 false) ∧
    (run {} {} (life.take 9)).flag = true ∧
    decisions (run {} {} (life.take 9)).entries [false] = [false, false, true, false] ∧
    step {} (run {} {} (life.take 9)) (.cleanup [false]) =
      ({ entries := [⟨0, 2, false⟩, ⟨1, 4, true⟩, ⟨3, 3, true⟩], next := 5, flag := true }, .removed [2] 3 true) := by
  decide +kernel

/-- **`remove_logger`**: afterwards the name has no valid logger (the entry stays, invalid, until the backend erases
    it), no other name's valid logger changes, and `get_logger(name)` returns null after ANY further operations other
    than `create_or_get_logger(name)` -/
theorem C17_logreg_remove (p : Params) (hp : p.OK) (ops : List Op) (n : Nat) (ops2 : List Op) :
    let s1 := (step p (run p {} ops) (.remove n)).1
    validOf s1 n = none ∧ (∀ m, m ≠ n → validOf s1 m = validOf (run p {} ops) m) ∧
    ((∀ op ∈ ops2, op ≠ .createOrGet n) → (step p (run p s1 ops2) (.get n)).2 = .none) := by
  intro s1
  have hs1 : RInv s1 := rinv_step p hp _ (rinv_run p hp ops {} rinv_init) _
  have h1 : validOf s1 n = none := by rw [validOf_step_remove p _ n n, if_pos rfl]
  refine ⟨h1, fun m hm => by rw [validOf_step_remove p _ n m, if_neg hm], fun hno => ?_⟩
  obtain ⟨hinv, hv⟩ := none_kept p hp n ops2 hno s1 hs1 h1
  rw [step_get_validOf p hp _ hinv n, hv]

example : validOf (run {} {} (life.take 5)) 2 = some 1 ∧
    validOf (step {} (run {} {} (life.take 5)) (.remove 2)).1 2 = none ∧
    lookup (step {} (run {} {} (life.take 5)) (.remove 2)).1 2 = some ⟨2, 1, false⟩ := by decide +kernel

/-- **re-creation after the erase**: once a valid logger of `name` was removed, `create_or_get_logger(name)` is the
    contract guard as long as the backend has not erased the entry; after the clean-up (queues empty) the name has no
    entry and `create_or_get_logger(name)` constructs a NEW object (identity = the counter, which no entry carries) -/
theorem C17_logreg_recreate_after_erase (p : Params) (hp : p.OK) (ops : List Op) (n i : Nat) :
    let s := run p {} ops
    let s1 := (step p s (.remove n)).1
    let s2 := (step p s1 (.cleanup [])).1
    validOf s n = some i →
      (step p s (.remove n)).2 = .ok ∧
      step p s1 (.createOrGet n) = (s1, .guard) ∧
      lookup s2 n = none ∧ (∀ e ∈ s2.entries, e.valid = true) ∧ s2.flag = false ∧
      (step p s2 (.createOrGet n)).2 = .id s.next ∧ (∀ e ∈ s2.entries, e.id ≠ s.next) ∧ i ≠ s.next := by
  intro s s1 s2 hv
  have hs : RInv s := rinv_run p hp ops {} rinv_init
  obtain ⟨e, he, hn, hval, hid⟩ := (validOf_some_iff s hs n i).1 hv
  have hany : s.entries.any (fun e => e.name == n && e.valid) = true := by
    rw [List.any_eq_true]; exact ⟨e, he, by simp [hn, hval]⟩
  have hst : step p s (.remove n) = ({ s with entries := s.entries.map (inval n), flag := true }, .ok) := by
    simp only [step, hany, if_true]
  have hs1e : s1 = { s with entries := s.entries.map (inval n), flag := true } := by simp only [s1, hst]
  have hs1 : RInv s1 := rinv_step p hp _ hs _
  have hs2 : RInv s2 := rinv_step p hp _ hs1 _
  have hl1 : lookup s1 n = some (inval n e) := by
    rw [hs1e, lookup_remove]
    have := find_some_of_mem s.entries hs.pw e he
    rw [hn] at this
    rw [lookup_def, this]; rfl
  have hinv : (inval n e).valid = false := by rw [inval_valid]; simp [hn]
  have hs2e : s2 = { s1 with entries := s1.entries.filter (fun e => e.valid), flag := false } := by
    have hf : s1.flag = true := by rw [hs1e]
    simp only [s2, step_cleanup_flag p s1 [] hf, sweep_nil_answers]
  have hl2 : lookup s2 n = none := by
    rw [hs2e, lookup_none_iff]
    intro a ha hna
    have ha' := List.mem_filter.1 ha
    have hla := find_some_of_mem s1.entries hs1.pw a ha'.1
    rw [hna, ← lookup_def, hl1] at hla
    rw [← Option.some.inj hla, hinv] at ha'
    exact Bool.false_ne_true ha'.2
  have hnext : s2.next = s.next := by rw [hs2e, hs1e]
  refine ⟨by rw [hst], ?_, hl2, ?_, by rw [hs2e], ?_, ?_, ?_⟩
  · rw [step_createOrGet p hp s1 hs1 n, hl1]; simp [hinv]
  · rw [hs2e]; intro a ha; exact (List.mem_filter.1 ha).2
  · rw [step_createOrGet p hp s2 hs2 n, hl2, hnext]
  · intro a ha; have := hs2.lt a ha; rw [hnext] at this; exact Nat.ne_of_lt this
  · have := hs.lt e he; omega

example : let s := run {} {} (life.take 5)
    validOf s 2 = some 1 ∧ s.next = 5 ∧
    (step {} (step {} (step {} s (.remove 2)).1 (.cleanup [])).1 (.createOrGet 2)).2 = .id 5 ∧
    (step {} (step {} s (.remove 2)).1 (.createOrGet 2)).2 = .guard := by decide +kernel

/-- **negative witness (unstable clean-up: `std::partition` + range `erase` instead of the in-place `erase`)**: with
    loggers audit(0), metrics(1), net(2), root(3) and `audit` removed, `std::partition` swaps `root` to the front: the
    vector [root, metrics, net] is no longer sorted, `_find_logger("metrics")` looks at the wrong place, `get_logger`
    returns null although the logger is valid, and `create_or_get_logger` constructs a SECOND object under the name.
    The surviving entries are the same as after the real clean-up; only their order differs. -/
theorem C17_logreg_unstable_cleanup_lookup_fails :
    let ops : List Op := [.createOrGet 0, .createOrGet 1, .createOrGet 2, .createOrGet 3, .remove 0]
    let t := partitionCleanup (run {} {} ops)
    let u := (step {} (run {} {} ops) (.cleanup [])).1
    t.entries.map (·.name) = [3, 1, 2] ∧
    (step {} t (.get 1)).2 = .none ∧ validOf t 1 = some 2 ∧
    (step {} t (.createOrGet 1)).2 = .id 5 ∧
    ((step {} t (.createOrGet 1)).1.entries.filter (fun e => e.name == 1 && e.valid)).length = 2 ∧
    u.entries.map (·.name) = [1, 2, 3] ∧
    (step {} u (.get 1)).2 = .id 2 ∧ (step {} u (.createOrGet 1)) = (u, .id 2) ∧
    (∀ e ∈ t.entries, e ∈ u.entries) ∧ (∀ e ∈ u.entries, e ∈ t.entries) ∧ t.entries.length = u.entries.length ∧
    t.next = u.next ∧ t.flag = u.flag := by decide +kernel

/-- **`_find_logger` at the upper bound never finds anything**: every `create_or_get` constructs a new object, `get`
    returns null -/
theorem C17_logreg_upper_find_never_finds :
    let p : Params := { findAt := .upper }
    trace p {} [.createOrGet 0, .createOrGet 0, .get 0] = [.id 1, .id 2, .none] ∧
    (run p {} [.createOrGet 0, .createOrGet 0, .get 0]).entries = [⟨0, 2, true⟩, ⟨0, 1, true⟩] := by decide +kernel

/-- **remark (no witness for `_insert_logger` at the upper bound)**: `_insert_logger` is only called for a name that
    has NO entry, and then the upper bound is the lower bound — the two structures are the same function -/
theorem bound_upper_eq_lower_of_absent (l : List Entry) (n : Nat) (h : ∀ e ∈ l, e.name ≠ n) :
    bound .upper l n = bound .lower l n := by
  unfold bound
  simp only
  rw [List.takeWhile_congr]
  intro e he
  have := h e he
  exact decide_eq_decide.2 (by omega)

/-- … so every step (hence every run and every trace) with `insertAt := .upper` equals the one with `.lower`, from
    every state satisfying the invariant -/
theorem C17_logreg_upper_insert_same_step (s : St) (hs : RInv s) (op : Op) :
    step { insertAt := .upper } s op = step {} s op := by
  cases op with
  | createOrGet n =>
    have hf : find { insertAt := .upper } s n = find {} s n := rfl
    simp only [step, hf]
    cases hl : find {} s n with
    | some e => rfl
    | none =>
      have : lookup s n = none := by rw [← find_eq_lookup {} ⟨rfl, rfl⟩ s hs n]; exact hl
      simp only [bound_upper_eq_lower_of_absent s.entries n ((lookup_none_iff s n).1 this)]
  | get n => rfl
  | remove n => rfl
  | cleanup ans => rfl
  | all => rfl
  | count => rfl

theorem C17_logreg_upper_insert_same_trace (ops : List Op) :
    ∀ s, RInv s → trace { insertAt := .upper } s ops = trace {} s ops ∧ run { insertAt := .upper } s ops = run {} s ops := by
  induction ops with
  | nil => intro s _; exact ⟨rfl, rfl⟩
  | cons op rest ih =>
    intro s hs
    have h1 := C17_logreg_upper_insert_same_step s hs op
    have h2 := ih _ (rinv_step {} ⟨rfl, rfl⟩ s hs op)
    simp only [trace, run, h1, h2.1, h2.2, and_self]

example : trace { insertAt := .upper } {} life = trace {} {} life := by decide +kernel

end LogReg
