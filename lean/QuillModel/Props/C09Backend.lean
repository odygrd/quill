import QuillModel.Props.C06
/-!
# C09 (end to end, backend model) — a blocked log call resumes; no stall on an empty queue

"With a blocking queue, a log call that found the queue full returns once the backend has made room; a producer is
never refused space that the consumer has already freed."

Queue level (`Props/C09.lean`): in a drained state `commit_read` publishes the reader position and the producer's
reload is followed by a grant. Here the same is proved for the executable backend model, i.e. for the actual retry
loop of `log_statement` against the actual poll: the caller of a refused reservation is parked on
`Pend.retry st k`; `resume` performs the next attempt.

Shape of the theorems. `pre` is **any** schedule from a thread-free initial state (any configuration with the drain
rule of `commit_read`, `qp.drainPublish = true` — extracted; the pinned rule is `C09_drain_rule_needed`, F3),
including polls with arbitrary injected frontend operations. The continuation lets the clock pass the grace period
and then consists of polls without injected operations and clock ticks, with at least `pendingCount` polls (the
bound of the progress theorem of C06: every such poll pops at least one pending event). Then the caller's queue is
empty **and its reader position is published** (`rHist.headD 0`, the value a producer reload returns, equals the
writer position), the retry is granted, the record is appended to what the queue accepted, and the call returns
(`ret=1` for the macro that reports the outcome).

Why the reader position is published at the start of the continuation, whatever `pre` did: every read of a queue ends
with `commit_read` when it consumed something (all exits of `_read_and_decode_frontend_queue`), and with the drain rule
that call publishes whenever nothing is left to read. `C09_reads_committed` states this as an invariant of every
state between two operations of every schedule, with arbitrary frontend operations injected at every hook site
(`Backend/PubInv.lean`; inside a poll the context being read is exempt until the `commit_read` that ends its read).
-/
namespace Backend
open Backend.PB

/-- **Every read ends committed.** For every schedule (polls with arbitrary injected frontend operations, the exit
    drain) from a thread-free initial state, with the drain rule of `commit_read`: in the state after the schedule, a
    context whose queue holds nothing to read has its reader position published — `rHist.headD 0` (the newest value a
    producer reload can return) equals `rpos`. -/
theorem C09_reads_committed (s0 : BSt) (h0 : Start s0) (hdp : s0.cfg.qp.drainPublish = true) (ops : List Op) (i : Nat) :
    ReadsCommitted (runOps s0 ops) i :=
  readsCommitted_runOps h0 hdp ops i

/-- **The drain publishes.** After the continuation described above, the context of actor `a` holds nothing (transit
    buffer and queue empty) and the newest published reader position is the writer position: the producer's next
    reload sees the whole capacity free. -/
theorem C09_drain_publishes (s0 : BSt) (h0 : StartF s0) (pre : List Op) (a : Nat) (x : Actor)
    (hdp : s0.cfg.qp.drainPublish = true) (hx : (runOps s0 pre).actor a = some x)
    (hrun : (runOps s0 pre).backendGone = false) (dt : Nat) (hdt : s0.cfg.grace ≤ dt)
    (suffix : List Op) (hq : ∀ o ∈ suffix, quietOp o = true) (hn : pendingCount (runOps s0 pre) ≤ pollCount suffix)
    (i : Nat) (hi : x.ctx = some i) :
    ((runOps (runOps s0 pre) (.front (.tick dt) :: suffix)).th i).buf = [] ∧
    ((runOps (runOps s0 pre) (.front (.tick dt) :: suffix)).th i).qStmts = [] ∧
    ((runOps (runOps s0 pre) (.front (.tick dt) :: suffix)).th i).q.rHist.headD 0 =
      ((runOps (runOps s0 pre) (.front (.tick dt) :: suffix)).th i).q.wpos := by
  have hgi := (start_GI h0.start).runOps pre
  have hfi := (start_FI h0).runOps pre
  obtain ⟨hpg, _, _, hall, hd⟩ := drained_state hgi hfi hrun dt (by rw [runOps_cfg]; exact hdt) suffix hq hn
    (by rw [runOps_cfg]; exact hdp) a x hx (fun i _ => readsCommitted_runOps h0.start hdp pre i)
  obtain ⟨hqs, hpub⟩ := hd i hi
  obtain ⟨fl, hI⟩ := hpg.gi
  have hqc := hI.qc i
  refine ⟨(List.append_eq_nil_iff.mp (hall i)).1, hqs, ?_⟩
  rw [hpub hqs, hqc.wpos, hqc.sum, hqs]; simp

/-- **C09: a blocked log call resumes.** Blocking queue; after any schedule `pre` actor `a` is parked on the retry of
    a refused reservation for the record `st` (continuation `k` of the public call), and `st` fits an empty queue
    (`st.size ≤ qcap`). After the continuation (see the file header) the actor is still parked on the same request,
    and its `resume` — the next iteration of the retry loop —
    * is granted: `st` (stamped with the commit instant) is **appended to what the context's queue accepted**;
    * for a `log` call the call **returns**: the observation is that of an accepted statement (`ret=1` when made
      through the macro that reports the outcome, `k = 0`) and the actor is no longer parked. -/
theorem C09_blocked_call_resumes (s0 : BSt) (h0 : StartF s0) (pre : List Op) (a : Nat) (x : Actor) (st : Stmt) (k : Nat)
    (hdp : s0.cfg.qp.drainPublish = true) (hblk : s0.cfg.dropping = false)
    (hx : (runOps s0 pre).actor a = some x) (hp : x.pend = .retry st k) (hsz : st.size ≤ s0.cfg.qcap)
    (hrun : (runOps s0 pre).backendGone = false) (dt : Nat) (hdt : s0.cfg.grace ≤ dt)
    (suffix : List Op) (hq : ∀ o ∈ suffix, quietOp o = true) (hn : pendingCount (runOps s0 pre) ≤ pollCount suffix) :
    (runOps (runOps s0 pre) (.front (.tick dt) :: suffix)).actor a = some x ∧
    ((resume (runOps (runOps s0 pre) (.front (.tick dt) :: suffix)) a).1.th
        (ensureCtx (runOps (runOps s0 pre) (.front (.tick dt) :: suffix)) a).2).accepted =
      ((ensureCtx (runOps (runOps s0 pre) (.front (.tick dt) :: suffix)) a).1.th
        (ensureCtx (runOps (runOps s0 pre) (.front (.tick dt) :: suffix)) a).2).accepted ++
        [{ st with enqAt := (runOps (runOps s0 pre) (.front (.tick dt) :: suffix)).now }] ∧
    (st.kind = .log → k = 0 ∨ k = 5 →
      (resume (runOps (runOps s0 pre) (.front (.tick dt) :: suffix)) a).2 = obsLog st k (some true) st.size ∧
      pendOf (resume (runOps (runOps s0 pre) (.front (.tick dt) :: suffix)) a).1 a = some .none) := by
  have hgi := (start_GI h0.start).runOps pre
  have hfi := (start_FI h0).runOps pre
  obtain ⟨hpg, hx2, hcfg2, _, hd⟩ := drained_state hgi hfi hrun dt (by rw [runOps_cfg]; exact hdt) suffix hq hn
    (by rw [runOps_cfg]; exact hdp) a x hx (fun i _ => readsCommitted_runOps h0.start hdp pre i)
  exact ⟨hx2, retry_granted_of_read hpg.gi a x st k hx2 hp (by rw [hcfg2, runOps_cfg]; exact hblk) (by rw [hcfg2, runOps_cfg]; exact hsz)
    hd⟩

/-- what the observation of `C09_blocked_call_resumes` reads for the outcome-reporting macro -/
theorem C09_obs_ret1 (st : Stmt) : obsLog st 0 (some true) st.size = s!"id={st.id} ret=1 ev=1 bytes={st.size}" := by
  simp only [obsLog, toString]
  rw [String.append_assoc (s₁ := "id=" ++ st.id.repr) (s₂ := " ret=1") (s₃ := " ev=1 bytes=")]
  rfl

/-- **C09, a new call after the drain (either queue type, in particular the dropping one): accepted, never dropped.**
    Actor `a` (any thread that is not armed to stall) is idle or has never logged; after the continuation a new `log`
    call through logger object `lgi` whose record fits the capacity is granted: the record is appended to what the
    context's queue accepted and the observation is that of an accepted statement — `ret=1`, not the `ret=0` of a
    dropped one (`cont = 0`), and no failure counter moves (`C06`/`C04` count only refused attempts). -/
theorem C09_call_after_drain_accepted (s0 : BSt) (h0 : StartF s0) (pre : List Op) (a : Nat) (x : Actor)
    (hdp : s0.cfg.qp.drainPublish = true) (hx : (runOps s0 pre).actor a = some x) (hst : x.stallArmed = false)
    (hrun : (runOps s0 pre).backendGone = false) (dt : Nat) (hdt : s0.cfg.grace ≤ dt)
    (suffix : List Op) (hq : ∀ o ∈ suffix, quietOp o = true) (hn : pendingCount (runOps s0 pre) ≤ pollCount suffix)
    (lgi lvl len id : Nat) (dyn named : Bool) (k : Nat) (hk : k = 0 ∨ k = 5)
    (hsz : stmtSize s0.cfg .log id len dyn ((runOps (runOps s0 pre) (.front (.tick dt) :: suffix)).lgOf lgi).gid ≤ s0.cfg.qcap) :
    ∃ st : Stmt, st.id = id ∧ st.kind = .log ∧
      st.size = stmtSize s0.cfg .log id len dyn ((runOps (runOps s0 pre) (.front (.tick dt) :: suffix)).lgOf lgi).gid ∧
      (frontCall (runOps (runOps s0 pre) (.front (.tick dt) :: suffix)) a lgi .log lvl len k dyn id named).2 =
        obsLog st k (some true) st.size ∧
      ((frontCall (runOps (runOps s0 pre) (.front (.tick dt) :: suffix)) a lgi .log lvl len k dyn id named).1.th
          (ensureCtx (runOps (runOps s0 pre) (.front (.tick dt) :: suffix)) a).2).accepted =
        ((ensureCtx (runOps (runOps s0 pre) (.front (.tick dt) :: suffix)) a).1.th
          (ensureCtx (runOps (runOps s0 pre) (.front (.tick dt) :: suffix)) a).2).accepted ++
          [{ st with enqAt := (runOps (runOps s0 pre) (.front (.tick dt) :: suffix)).now }] := by
  have hgi := (start_GI h0.start).runOps pre
  have hfi := (start_FI h0).runOps pre
  obtain ⟨hpg, hx2, hcfg2, _, hd⟩ := drained_state hgi hfi hrun dt (by rw [runOps_cfg]; exact hdt) suffix hq hn
    (by rw [runOps_cfg]; exact hdp) a x hx (fun i _ => readsCommitted_runOps h0.start hdp pre i)
  rw [← runOps_cfg s0 pre, ← hcfg2] at hsz ⊢
  exact call_accepted_of_read hpg.gi a x hx2 hst hd lgi lvl len id dyn named k hk hsz

/-- blocking queue of 1024 bytes (reader batch 5 % = 51 bytes), ordering disabled; `dp`: the drain rule of `commit_read` -/
def c09Cfg (dp : Bool) : Cfg := { c05Cfg true with grace := 0, qp := { c05Params with drainPublish := dp } }
def c09Init (dp : Bool) : BSt := { c05Init true with cfg := c09Cfg dp }

theorem c09Init_startF (dp : Bool) : StartF (c09Init dp) := ⟨⟨by show 0 < 32; decide, rfl, rfl, rfl, rfl, rfl⟩, rfl, rfl⟩

/-- F3 schedule: a 47-byte statement (less than the 51-byte batch) is logged and processed; then the thread logs a
    1009-byte statement (capacity − 15) -/
def c09Pre : List Op :=
  [ .front (.tstart 1), .front (.log 1 0 4 10 true), .poll [], .front (.log 1 0 4 972 true) ]
/-- one more poll and one more iteration of the caller's retry loop -/
def c09Round : List Op := [ .poll [], .front (.resume 1) ]

/-- **Without the drain rule the caller stalls on an empty queue (finding F3, end to end).** Pinned `commit_read`
    (publish only when the batch threshold is reached, `drainPublish = false`), schedule `c09Pre`: the backend has
    read, processed and committed the 47-byte statement — transit buffer and queue are empty, nothing is pending, reader
    and writer position are both 47 — but the published reader position is still 0 (47 < 51). The 1009-byte request
    (≤ capacity 1024) is refused, the caller is parked on its retry, and every further poll and retry leaves exactly
    this state: the backend has nothing to read, so it never commits again, so nothing is ever published. -/
theorem C09_drain_rule_needed :
    (c09Init false).cfg.dropping = false ∧
    (runOps (c09Init false) c09Pre).actors.map (fun x => x.pend matches .retry _ 0) = [true] ∧
    (runOps (c09Init false) c09Pre).ths.map
      (fun t => (t.buf.length, t.qStmts.length, t.q.rpos, t.q.wpos, t.q.rHist.headD 0)) = [(0, 0, 47, 47, 0)] ∧
    pendingCount (runOps (c09Init false) c09Pre) = 0 ∧
    (runOps (c09Init false) (c09Pre ++ c09Round ++ c09Round ++ c09Round)).actors.map
      (fun x => x.pend matches .retry _ 0) = [true] ∧
    (runOps (c09Init false) (c09Pre ++ c09Round ++ c09Round ++ c09Round)).ths.map
      (fun t => (t.accepted.length, t.buf.length, t.qStmts.length, t.q.rpos, t.q.wpos, t.q.rHist.headD 0)) =
        [(1, 0, 0, 47, 47, 0)] ∧
    (applyOp (runOps (c09Init false) (c09Pre ++ c09Round ++ c09Round ++ c09Round)) (.front (.resume 1))).2 = "parked:sleep" := by
  decide +kernel

/-- with the drain rule (as extracted) the same schedule never parks the caller: the poll publishes position 47 and
    the 1009-byte statement is accepted at once — no stall on an empty queue -/
example :
    (runOps (c09Init true) (c09Pre.take 3)).ths.map (fun t => (t.q.rpos, t.q.rHist.headD 0)) = [(47, 47)] ∧
    (applyOp (runOps (c09Init true) (c09Pre.take 3)) (.front (.log 1 0 4 972 true))).2 = "id=1 ret=1 ev=1 bytes=1009" ∧
    (runOps (c09Init true) c09Pre).actors.map (fun x => x.pend matches .none) = [true] := by
  decide +kernel

/-- a caller blocked by a queue that is really full: 47 bytes unread, the 1009-byte request does not fit -/
def c09Block : List Op := [ .front (.tstart 1), .front (.log 1 0 4 10 true), .front (.log 1 0 4 972 true) ]

/-- non-vacuity of `C09_blocked_call_resumes`: every hypothesis is met by `c09Block` on the blocking queue with the
    drain rule (the caller is parked on the retry of a 1009-byte record; one record is pending, so one quiet poll is
    enough), and the conclusion is what the model
    computes: after `tick 0, poll` the retry is accepted and the call returns `ret=1`. -/
example :
    StartF (c09Init true) ∧ (c09Init true).cfg.qp.drainPublish = true ∧ (c09Init true).cfg.dropping = false ∧
    ((runOps (c09Init true) c09Block).actor 1).map (fun x => (x.pend matches .retry _ 0, x.ctx)) = some (true, some 0) ∧
    (∀ st k, ((runOps (c09Init true) c09Block).actor 1).map (·.pend) = some (.retry st k) → st.size ≤ (c09Init true).cfg.qcap) ∧
    (runOps (c09Init true) c09Block).backendGone = false ∧
    pendingCount (runOps (c09Init true) c09Block) ≤ pollCount [.poll []] ∧
    (applyOp (runOps (runOps (c09Init true) c09Block) [.front (.tick 0), .poll []]) (.front (.resume 1))).2 =
      "id=1 ret=1 ev=1 bytes=1009" ∧
    (runOps (runOps (c09Init true) c09Block) [.front (.tick 0), .poll [], .front (.resume 1)]).ths.map
      (fun t => t.accepted.map (·.size)) = [[47, 1009]] := by
  refine ⟨c09Init_startF true, by decide, by decide, by decide +kernel, ?_, by decide +kernel, by decide +kernel,
    by decide +kernel, by decide +kernel⟩
  · intro st k h
    have h2 : (((runOps (c09Init true) c09Block).actor 1).map (·.pend)).map
        (fun p => match p with | .retry st _ => st.size | _ => 0) = some 1009 := by decide +kernel
    rw [h] at h2
    have h3 : st.size = 1009 := Option.some.inj h2
    show st.size ≤ 1024
    omega

/-! ### no stall on an empty queue — as a statement about EVERY reachable state

`C09_blocked_call_resumes` / `C09_call_after_drain_accepted` reach the empty queue through a *quiet* continuation (no
frontend operation injected while the backend drains). The half of the property that is a safety statement — "a
producer is never left waiting while its queue is empty; a dropping queue never rejects a fitting statement when its
queue is empty" — needs no such premise: it holds in the state after **every** schedule (other threads logging,
injections at every hook site, buffers of other contexts and even of this context still full), as soon as the
caller's own queue holds nothing unread. The quiet continuation is only what the *progress* half ("after finitely many
polls the queue is empty") is proved under. -/

/-- **C09, safety half, every reachable state (blocking queue).** After any schedule `ops` from a thread-free initial
    state, if actor `a` is parked on the retry of a refused reservation `st` that fits the capacity and its context's
    queue holds nothing unread, the next iteration of the retry loop is granted: `st` is appended to what the queue
    accepted and (for a `log` call) the call returns `ret=1`. -/
theorem C09_empty_queue_retry_granted (s0 : BSt) (h0 : StartF s0) (ops : List Op) (a : Nat) (x : Actor) (st : Stmt)
    (k : Nat) (hdp : s0.cfg.qp.drainPublish = true) (hblk : s0.cfg.dropping = false)
    (hx : (runOps s0 ops).actor a = some x) (hp : x.pend = .retry st k) (hsz : st.size ≤ s0.cfg.qcap)
    (hempty : ∀ i, x.ctx = some i → ((runOps s0 ops).th i).qStmts = []) :
    ((resume (runOps s0 ops) a).1.th (ensureCtx (runOps s0 ops) a).2).accepted =
      ((ensureCtx (runOps s0 ops) a).1.th (ensureCtx (runOps s0 ops) a).2).accepted ++
        [{ st with enqAt := (runOps s0 ops).now }] ∧
    (st.kind = .log → k = 0 ∨ k = 5 →
      (resume (runOps s0 ops) a).2 = obsLog st k (some true) st.size ∧
      pendOf (resume (runOps s0 ops) a).1 a = some .none) := by
  exact retry_granted_of_read ((start_GI h0.start).runOps ops) a x st k hx hp (by rw [runOps_cfg]; exact hblk) (by rw [runOps_cfg]; exact hsz)
    (fun i hi => ⟨hempty i hi, readsCommitted_runOps h0.start hdp ops i⟩)

/-- **C09, safety half, every reachable state (either queue type — in particular the dropping one).** After any
    schedule `ops`, a new `log` call of an actor that is not armed to stall, whose record fits the capacity and whose
    context's queue holds nothing unread (or that has no context yet), is accepted: `ret=1`, never the `ret=0` of a
    dropped statement, and the record is appended to what the queue accepted. -/
theorem C09_empty_queue_call_accepted (s0 : BSt) (h0 : StartF s0) (ops : List Op) (a : Nat) (x : Actor)
    (hdp : s0.cfg.qp.drainPublish = true) (hx : (runOps s0 ops).actor a = some x) (hst : x.stallArmed = false)
    (hempty : ∀ i, x.ctx = some i → ((runOps s0 ops).th i).qStmts = [])
    (lgi lvl len id : Nat) (dyn named : Bool) (k : Nat) (hk : k = 0 ∨ k = 5)
    (hsz : stmtSize s0.cfg .log id len dyn ((runOps s0 ops).lgOf lgi).gid ≤ s0.cfg.qcap) :
    ∃ st : Stmt, st.id = id ∧ st.kind = .log ∧
      st.size = stmtSize s0.cfg .log id len dyn ((runOps s0 ops).lgOf lgi).gid ∧
      (frontCall (runOps s0 ops) a lgi .log lvl len k dyn id named).2 = obsLog st k (some true) st.size ∧
      ((frontCall (runOps s0 ops) a lgi .log lvl len k dyn id named).1.th (ensureCtx (runOps s0 ops) a).2).accepted =
        ((ensureCtx (runOps s0 ops) a).1.th (ensureCtx (runOps s0 ops) a).2).accepted ++
          [{ st with enqAt := (runOps s0 ops).now }] := by
  rw [← runOps_cfg s0 ops] at hsz ⊢
  exact call_accepted_of_read ((start_GI h0.start).runOps ops) a x hx hst
    (fun i hi => ⟨hempty i hi, readsCommitted_runOps h0.start hdp ops i⟩) lgi lvl len id dyn named k hk hsz

/-- a schedule that is **not** quiet and does not end drained: while thread 1 is parked on its 1009-byte retry, thread 2
    starts and logs, one poll reads both queues but processes a single event, thread 2 logs again -/
def c09Busy : List Op :=
  c09Block ++ [.front (.tstart 2), .front (.log 2 0 4 10 true), .poll [], .front (.log 2 0 4 20 true)]

/-- non-vacuity of `C09_empty_queue_retry_granted` on `c09Busy`: the schedule contains frontend operations after the
    caller parked (`quietOp` fails), two events are still pending (one in thread 2's transit buffer, one in its queue),
    yet thread 1's queue is empty with its reader position published, the hypotheses hold and the retry returns `ret=1` -/
example :
    c09Busy.all quietOp = false ∧ pendingCount (runOps (c09Init true) c09Busy) = 2 ∧
    (runOps (c09Init true) c09Busy).actors.map (fun x => (x.pend matches .retry _ 0, x.ctx)) =
      [(true, some 0), (false, some 1)] ∧
    (runOps (c09Init true) c09Busy).ths.map (fun t => (t.buf.length, t.qStmts.length, t.q.rpos, t.q.wpos, t.q.rHist.headD 0)) =
      [(0, 0, 47, 47, 47), (1, 1, 47, 104, 47)] ∧
    (applyOp (runOps (c09Init true) c09Busy) (.front (.resume 1))).2 = "id=1 ret=1 ev=1 bytes=1009" := by
  decide +kernel

end Backend
