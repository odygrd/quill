import QuillModel.Backend.RemovalFlag
import QuillModel.Props.C17
import QuillModel.Props.C06
/-!
# C17 — `remove_logger_blocking` returns only after the logger is gone, in every reachable state

The per-clean-up statement `C17_removal_flag_after_erase_partial` of `Props/C17.lean` ("the flag the clean-up raises
was recorded for a name one of whose objects it erased in that pass") is lifted to every reachable state by the
invariant `RI` of `Backend/RemovalFlag.lean`; what it needs besides — flag numbers of Flush and removal requests come
from one counter and must not collide — is `C06_flag_numbers_unique`.

Quantifiers: every schedule `ops` (frontend operations, polls with arbitrary injection tables — including frontend
operations running inside sink destructors at hook site 9 between two erase steps —, exit), every configuration,
every initial state `RemovalFresh` (`LoggerFresh` + nothing raised/recorded/popped yet + un-erased logger objects
have distinct names — a `LoggerManager` never holds two live loggers of one name, and the driver's `mkState` builds
such states from the harness's set-ups).
-/
namespace Backend
open Backend.PC

theorem RemovalFresh.startF {s : BSt} (h : RemovalFresh s) : StartF s :=
  ⟨h.fresh.drain.start h.popLog, h.flags, h.removalFlags⟩

/-- **The removal flag is raised only after the erase** (`C17_removal_flag_after_erase_partial` is the same for
    one clean-up step). In every reachable state, for every removal request `st`
    (`Kind.removal f`, accepted into the queue of some context `i`): if its flag `f` has been raised, then the
    logger object the request names — `st.lg`, the object the caller resolved when it called
    `remove_logger_blocking` — **is erased**. Flags are raised in two places only: `processLowest` raises the flag of
    the Flush record it has just popped — never `f`, by the uniqueness of flag numbers
    (`C06_flag_numbers_unique`) —, and the logger clean-up raises a recorded removal flag after the erase and the
    sink pruning of an object of the recorded name, which is the request's own object because un-erased objects have
    distinct names. -/
theorem C17_removal_flag_after_erase (s0 : BSt) (h0 : RemovalFresh s0) (ops : List Op) :
    let s := runOps s0 ops
    ∀ i st f, st ∈ (s.th i).accepted → st.kind = .removal f → f ∈ s.flags → (s.lgOf st.lg).erased = true :=
  fun _ _ _ hst hk hf =>
    (FRI_runOps s0 h0.inv ops).2.flag_after_erase ((PB.start_FI h0.startF).runOps ops) hst hk hf

/-- **`remove_logger_blocking` returns only after the logger is gone.** In every reachable state `s`: let thread `a`
    be parked in `remove_logger_blocking`, waiting for the flag `f` of its removal request `st` (accepted into the
    queue of context `i`; by `C06_flag_numbers_unique` no other record carries `f`). If the wait ends in `s` — the
    next step of `a` returns `"done"` instead of sleeping again — then

    * the logger object `st.lg` the call named **is erased** (removed from the `LoggerManager`, its sinks pruned:
      `C17_dead_sink_unreferenced`), and
    * **every record ever accepted through that logger object, in any thread's queue, has been popped** — nothing
      logged through it is left in a queue or a transit buffer (`C17_erased_logger_has_no_record`); popped records
      were dispatched to the logger's sinks in order (C03 / `C07_conservation`), and
    * nobody is parked in a call that could still enqueue through it. -/
theorem C17_remove_blocking_returns_after_erase (s0 : BSt) (h0 : RemovalFresh s0) (ops : List Op) :
    let s := runOps s0 ops
    ∀ a f i st, (s.actor a).map (·.pend) = some (Pend.flag f) → st ∈ (s.th i).accepted → st.kind = .removal f →
      (resume s a).2 = "done" →
      (s.lgOf st.lg).erased = true ∧
      (∀ j st', st' ∈ (s.th j).accepted → st'.lg = st.lg → st' ∈ (s.th j).popped) ∧
      (∀ x ∈ s.actors, x.alive = true → ∀ st', pendStmt x.pend = some st' → st'.lg ≠ st.lg) := by
  intro s a f i st hp hst hk hdone
  have hflag : f ∈ s.flags := by
    cases hc : s.flags.contains f
    · rw [C17_flag_wait s a f hp hc] at hdone
      have h' : "parked:sleep" = "done" := hdone
      exact absurd h' (by decide)
    · simpa using hc
  exact (FRI_runOps s0 h0.inv ops).2.gone_when_flag ((PB.start_FI h0.startF).runOps ops)
    (FRI_runOps s0 h0.inv ops).1.la0 hst hk hflag

theorem c17Init_removalFresh : RemovalFresh c17Init :=
  ⟨c17Init_fresh, rfl, rfl, rfl, fun i j hi hj _ _ => lgOf_gid_inj (by decide) i j hi hj⟩

/-- one statement through logger 0, then `remove_logger_blocking(0)`: the caller parks on flag 0 with the request
    accepted behind the statement; after two polls it still sleeps (both records popped, the object not yet
    erased, the flag recorded but not raised); the third poll erases the object and only then raises the flag, and
    the caller returns -/
example :
    let pre : List Op := [.front (.tstart 0), .front (.log 0 0 4 8 false), .front (.removeBlocking 0 0)]
    let parkedOn (s : BSt) (f : Nat) : Bool :=
      match (s.actor 0).map (·.pend) with | some (Pend.flag f') => f' == f | _ => false
    let s1 := runOps c17Init (pre ++ [.poll [], .poll []])
    let s2 := runOps c17Init (pre ++ [.poll [], .poll [], .poll []])
    (parkedOn s1 0 = true ∧ ((s1.th 0).accepted.map (·.kind)) = [.log, .removal 0] ∧
      (s1.th 0).popped.length = 2 ∧ s1.removalFlags = [(0, 0)] ∧ s1.flags = [] ∧ (s1.lgOf 0).erased = false ∧
      (resume s1 0).2 = "parked:sleep") ∧
    (parkedOn s2 0 = true ∧ s2.flags = [0] ∧ (s2.lgOf 0).erased = true ∧
      (resume s2 0).2 = "done") := by
  decide +kernel

end Backend
