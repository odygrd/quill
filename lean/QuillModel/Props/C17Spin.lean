import QuillModel.Spin.Proofs
/-!
# C17 (part) — the registries' spinlock: mutual exclusion and visibility under release/acquire

"creating or looking up loggers and sinks by name is idempotent and safe from any thread": the logger, sink and
thread-context registries are guarded by `detail::Spinlock`. The end-to-end model (`Backend/`) treats a registry
operation as atomic; this file justifies that for the real lock under the C++11 view semantics.
-/
namespace Spin

/-- **Mutual exclusion and visibility.** For every number of threads and every schedule of lock attempts, unlocks and
    accesses (with `exchange` acquiring and `unlock` releasing): at most one thread is inside the critical section, and
    every access to the protected data happens-after the previous critical section's writes (`seen t = data`: no data
    race, no stale registry). -/
theorem C17_spinlock_safe (o : Orders) (ho : OrdersOK o) (n : Nat) (ops : List Op)
    (hr : Run o { nthreads := n } ops) :
    (∀ t u, (run o { nthreads := n } ops).inCS t = true → (run o { nthreads := n } ops).inCS u = true → t = u) ∧
    (∀ op, Enabled (run o { nthreads := n } ops) op → Safe (run o { nthreads := n } ops) op) := by
  have h := reachable_inv o ho ops _ (init_inv n) hr
  exact ⟨h.excl, h.safe⟩

/-- mutual exclusion alone needs no memory order at all (the exchange is a read-modify-write) — what the orders buy is
    visibility: with a relaxed `exchange` the second critical section may work on stale data -/
theorem relaxed_exchange_stale :
    let o : Orders := { xchg := .relaxed, unl := .release }
    let sched : List Op := [.attempt 0, .access 0, .unlock 0, .attempt 1]
    Run o { nthreads := 2 } sched ∧ Enabled (run o { nthreads := 2 } sched) (.access 1) ∧
      ¬ Safe (run o { nthreads := 2 } sched) (.access 1) := by decide +kernel

theorem relaxed_unlock_stale :
    let o : Orders := { xchg := .acquire, unl := .relaxed }
    let sched : List Op := [.attempt 0, .access 0, .unlock 0, .attempt 1]
    Run o { nthreads := 2 } sched ∧ Enabled (run o { nthreads := 2 } sched) (.access 1) ∧
      ¬ Safe (run o { nthreads := 2 } sched) (.access 1) := by decide +kernel

/-- non-vacuity: contention, a failed attempt, hand-over -/
example : Run { xchg := .acquire, unl := .release } { nthreads := 3 }
    [.attempt 0, .attempt 1, .access 0, .access 0, .unlock 0, .attempt 2, .attempt 1, .access 2, .unlock 2, .attempt 1, .access 1] := by
  decide +kernel

end Spin
