import QuillModel.Transit.Proofs
import QuillModel.Util.ListLemmas
/-!
# C03 (part) — the transit event buffer is a FIFO through growth, slot reuse and shrinking

"… across queue growth, backend buffer growth and the backend's soft and hard buffering limits": the end-to-end model
(`Backend/`) keeps each thread's transit buffer as a list; this file justifies that abstraction for the real ring.
-/
namespace Transit
variable {α : Type}

def run (b : TB α) (ops : List (Op α)) : TB α := ops.foldl step b
def specRun (l : List α) (ops : List (Op α)) : List α := ops.foldl specStep l

theorem run_refines (b : TB α) (h : TInv b) (ops : List (Op α)) : (run b ops).abs = specRun b.abs ops ∧ TInv (run b ops) :=
  List.foldl_rel (r := fun (b : TB α) l => b.abs = l ∧ TInv b) ⟨rfl, h⟩
    (fun op _ b _ h => ⟨h.1 ▸ step_abs b op h.2, step_inv b op h.2⟩)

/-- **Refinement.** For every initial capacity `> 0` and every history of push / pop / request_shrink /
    try_shrink (pops of an empty buffer are no-ops, as the backend only pops what `front()` returned), the ring
    represents exactly the list the history denotes — nothing lost, duplicated or reordered by `_expand`, by slot
    reuse after wrap-around or by shrinking — and stays well-formed (`size ≤ capacity = initial·2^k`). -/
theorem C03_transit_refines (c : Nat) (d : α) (hc : 0 < c) (ops : List (Op α)) :
    (run (TB.init c d) ops).abs = specRun [] ops ∧ TInv (run (TB.init c d) ops) :=
  init_abs c d ▸ run_refines _ (init_inv c d hc) ops

/-- what the backend observes: `front()` is the oldest event, `size()` the number of events, `empty()` its emptiness -/
theorem C03_transit_observations (c : Nat) (d : α) (hc : 0 < c) (ops : List (Op α)) :
    (run (TB.init c d) ops).front = (specRun [] ops).head? ∧
    (run (TB.init c d) ops).size = (specRun [] ops).length ∧
    ((run (TB.init c d) ops).isEmpty = true ↔ specRun [] ops = []) := by
  obtain ⟨ha, hi⟩ := C03_transit_refines c d hc ops
  refine ⟨by rw [front_abs _ hi, ha], by rw [← ha, abs_length], ?_⟩
  -- empty list ↔ length 0 ↔ `wpos ≤ rpos`, and `rpos ≤ wpos` by the invariant
  rw [← ha, ← List.length_eq_zero_iff, abs_length]
  simp only [TB.isEmpty, TB.size, beq_iff_eq, Nat.sub_eq_zero_iff_le]
  exact ⟨fun h => Nat.le_of_eq h.symm, fun h => Nat.le_antisymm hi.le h⟩

/-- the buffer shrinks only when it is empty: a shrink never discards an event -/
theorem C03_transit_shrink_keeps_content (b : TB α) : b.tryShrink.abs = b.abs := tryShrink_abs b

/-- an `_expand` that started from slot 0 instead of the reader position would reorder a wrapped buffer -/
theorem expand_from_zero_reorders :
    let b : TB Nat := run (TB.init 2 0) [.push 1, .push 2, .pop, .push 3]
    let bad : TB Nat := { b with cap := 4, store := fun i => if i < b.size then b.store (i % b.cap) else 0,
                                 wpos := b.size, rpos := 0 }
    b.abs = [2, 3] ∧ bad.abs = [3, 2] := by decide +kernel

/-- non-vacuity: wrap-around, two expansions, slot reuse, a shrink request honoured only when empty -/
example : (run (TB.init 2 0) [.push 1, .push 2, .pop, .push 3, .push 4, .push 5, .pop, .requestShrink, .tryShrink,
                              .push 6, .pop, .pop, .pop, .pop, .tryShrink, .push 7] : TB Nat).abs = [7] ∧
          (run (TB.init 2 0) [.push 1, .push 2, .pop, .push 3, .push 4, .push 5] : TB Nat).cap = 4 ∧
          (run (TB.init 2 0) [.push 1, .push 2, .pop, .push 3, .push 4, .push 5, .pop, .requestShrink, .tryShrink,
                              .push 6, .pop, .pop, .pop, .pop, .tryShrink] : TB Nat).cap = 2 := by decide +kernel

end Transit
