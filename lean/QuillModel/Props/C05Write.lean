import QuillModel.Props.C05
import QuillModel.Backend.LiftOrder
/-!
# C05 (lift) — the order of the `write_log` calls in the OBSERVABLE event log

`Props/C05.lean` orders the ghost pop history `popLog`. Here the order is stated on the event log `log` itself (what the
harness compares line by line: one `Ev.write sink id lvl ts named` per `write_log` call). The link is
`C05_writes_follow_pops`: the ordinary (`lvl ≠ 9`) `write` events of the whole log, in log order, are an *expansion* of the
pop history — every popped statement is replaced by zero or more writes that carry its id and its timestamp (`PA.Blow`);
nothing else ever writes an ordinary statement. So the writes inherit the order of the pops.

Backtrace replays (level 9) are the documented exception and are excluded by `ordKey`, exactly as in `C05_statement_order`.
-/
namespace Backend
open Backend.PA

/-- a decidable sufficient condition for `RingOK` -/
theorem ringOK_of_no_rings {s : BSt} (h : ∀ l ∈ s.lgs, l.bt = none) : RingOK s := by
  intro i r hr
  rw [lgOf_bt_none h i] at hr
  cases hr

/-- **The ordinary writes of the log are the pops, expanded.** For every configuration and every schedule, from a state
    with an empty history: the `(sink, id, ts)` triples of the ordinary `write` events of the whole event log (newest
    first, like `log`) arise from the pop history `popLog` (newest first) by replacing each popped statement by zero or
    more writes carrying that statement's id and timestamp. -/
theorem C05_writes_follow_pops (s0 : BSt) (hr : RingOK s0) (hl : s0.log = []) (hp : s0.popLog = []) (ops : List Op) :
    Blow (wkeys (runOps s0 ops).log) (runOps s0 ops).popLog :=
  ((InvO.start hr hl hp).run ops).blow

/-- every ordinary write in the log is a write of a popped statement, with that statement's id and timestamp -/
theorem C05_write_is_of_popped (s0 : BSt) (hr : RingOK s0) (hl : s0.log = []) (hp : s0.popLog = []) (ops : List Op)
    (sid id lvl ts : Nat) (named : Bool) (hm : Ev.write sid id lvl ts named ∈ (runOps s0 ops).log) (h9 : lvl ≠ 9) :
    ∃ st ∈ (runOps s0 ops).popLog, st.id = id ∧ st.ts = ts ∧ st.lvl ≠ 9 := by
  have hk : (sid, id, ts) ∈ wkeys (runOps s0 ops).log := by
    unfold wkeys
    rw [List.mem_filterMap]
    exact ⟨_, hm, by simp [ordKey, h9]⟩
  obtain ⟨st, hst, h1, h2, h3⟩ := (C05_writes_follow_pops s0 hr hl hp ops).mem _ hk
  exact ⟨st, hst, h1.symm, h2.symm, h3⟩

/-- newest first, the keys of the ordinary writes have non-increasing timestamps: the pop history has (C05), and the
    writes are the pops, expanded -/
theorem wkeys_sorted (s0 : BSt) (h0 : Start s0) (hr0 : RingOK s0) (hl : s0.log = []) (hg : s0.cfg.grace ≠ 0)
    (hr : s0.cfg.refreshAfterSample = true) (ops : List Op) (hp : GracePremise (runOps s0 ops)) :
    (wkeys (runOps s0 ops).log).Pairwise (fun a b => b.2.2 ≤ a.2.2) := by
  have h := C05_pop_order s0 h0 hg hr ops hp
  rw [List.pairwise_map, List.pairwise_reverse] at h
  exact (C05_writes_follow_pops s0 hr0 hl h0.popLog ops).sorted h

/-- **C05 on the event log.** Under the hypotheses of `C05_statement_order` (non-zero grace period, cache refreshed after
    `ts_now`, the property's own premise on the run) and from an empty history, the timestamps of the ordinary
    (non-backtrace) `write` events of the whole event log, in chronological order and over **all** sinks, are
    non-decreasing. -/
theorem C05_write_order (s0 : BSt) (h0 : Start s0) (hr0 : RingOK s0) (hl : s0.log = []) (hg : s0.cfg.grace ≠ 0)
    (hr : s0.cfg.refreshAfterSample = true) (ops : List Op) (hp : GracePremise (runOps s0 ops)) :
    ((wkeys (runOps s0 ops).log).reverse.map (·.2.2)).Pairwise (· ≤ ·) := by
  rw [List.pairwise_map, List.pairwise_reverse]
  exact wkeys_sorted s0 h0 hr0 hl hg hr ops hp

/-- **… at every sink.** The ordinary writes that reach sink `sid`, in chronological order, have non-decreasing
    timestamps. -/
theorem C05_write_order_at_sink (s0 : BSt) (h0 : Start s0) (hr0 : RingOK s0) (hl : s0.log = []) (hg : s0.cfg.grace ≠ 0)
    (hr : s0.cfg.refreshAfterSample = true) (ops : List Op) (hp : GracePremise (runOps s0 ops)) (sid : Nat) :
    ((((wkeys (runOps s0 ops).log).reverse).filter (fun k => k.1 = sid)).map (·.2.2)).Pairwise (· ≤ ·) := by
  have h := C05_write_order s0 h0 hr0 hl hg hr ops hp
  rw [List.pairwise_map] at h ⊢
  exact h.sublist List.filter_sublist

/-- **… positional form.** If the log (newest first) is `a ++ e2 :: b ++ e1 :: c` with two ordinary writes `e1` (earlier)
    and `e2` (later) — at the same sink or at different ones, of the same statement or of different ones — then
    `ts e1 ≤ ts e2`. -/
theorem C05_write_order_pairs (s0 : BSt) (h0 : Start s0) (hr0 : RingOK s0) (hl : s0.log = []) (hg : s0.cfg.grace ≠ 0)
    (hr : s0.cfg.refreshAfterSample = true) (ops : List Op) (hp : GracePremise (runOps s0 ops))
    (a b c : List Ev) (sid1 id1 lvl1 ts1 sid2 id2 lvl2 ts2 : Nat) (n1 n2 : Bool)
    (hlog : (runOps s0 ops).log = a ++ Ev.write sid2 id2 lvl2 ts2 n2 :: b ++ Ev.write sid1 id1 lvl1 ts1 n1 :: c)
    (h1 : lvl1 ≠ 9) (h2 : lvl2 ≠ 9) : ts1 ≤ ts2 := by
  have hb := wkeys_sorted s0 h0 hr0 hl hg hr ops hp
  rw [hlog] at hb
  have e : wkeys (a ++ Ev.write sid2 id2 lvl2 ts2 n2 :: b ++ Ev.write sid1 id1 lvl1 ts1 n1 :: c) =
      wkeys a ++ (sid2, id2, ts2) :: (wkeys b ++ (sid1, id1, ts1) :: wkeys c) := by
    simp only [wkeys, List.filterMap_append, List.filterMap_cons, ordKey, if_neg h1, if_neg h2, List.append_assoc,
      List.cons_append]
  rw [e] at hb
  have h3 := (List.pairwise_append.mp hb).2.1
  exact (List.pairwise_cons.mp h3).1 (sid1, id1, ts1) (List.mem_append_right _ (List.mem_cons_self ..))

/-- the configuration of `Props/C05.lean` with two sinks on the logger -/
def c05Init2 : BSt :=
  { c05Init true with sinks := [{ sid := 0 }, { sid := 1 }], lgs := [{ gid := 0, sinks := [0, 1], level := 0 }] }

/-- the F5 window of `Props/C05.lean` (statements injected inside the backend's clock read) meets every hypothesis of
    `C05_write_order` on the two-sink configuration, and the log holds six ordinary writes: three statements of two
    threads, each at both sinks, in timestamp order -/
example : Start c05Init2 ∧ (∀ l ∈ c05Init2.lgs, l.bt = none) ∧ c05Init2.log = [] ∧ c05Init2.cfg.grace ≠ 0 ∧
    c05Init2.cfg.refreshAfterSample = true ∧ GracePremise (runOps c05Init2 c05Window) ∧
    (wkeys (runOps c05Init2 c05Window).log).reverse =
      [(0, 0, 1000), (1, 0, 1000), (0, 1, 1100), (1, 1, 1100), (0, 2, 1101), (1, 2, 1101)] ∧
    (runOps c05Init2 c05Window).popLog.reverse.map (fun st => (st.id, st.ts)) = [(0, 1000), (1, 1100), (2, 1101)] := by
  refine ⟨⟨by show 0 < 32; decide, rfl, rfl, rfl, rfl, rfl⟩, by decide, rfl, by decide, rfl, ?_⟩
  decide +kernel

end Backend
