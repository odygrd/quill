import QuillModel.Exit.Program
import QuillModel.Exit.StopProofs
/-!
# C07 — stopping, exiting or dying by a handled signal loses no completed statement  (PARTIAL)

Property (authoritative text in `properties.jsonl`): with `wait_for_queues_to_empty_before_exit`, `Backend::stop()` /
normal exit write and flush every statement whose log call completed before, including those of exited threads, and
the backend can be started again; with the built-in signal handler, SIGSEGV / SIGABRT / SIGFPE / SIGILL / SIGINT /
SIGTERM on a thread that has logged leaves every earlier statement of that thread in the destination, followed by
the handler's notice, and the process then dies from that signal (exits successfully for SIGINT / SIGTERM) — for
every crash point, every handled signal, backend busy or idle, any number of threads, both clocks, any number of
start/stop cycles.

What is proved here (lemmas: `Exit/Proofs.lean`, `Exit/Program.lean`, `Exit/StopProofs.lean`), for *all* signals,
contexts, queue contents and operation sequences:

* the handler's decisions (`onSignal`, proved equal to the control-flow skeleton extracted from `on_signal` in
  `Obligations/Exit.lean`): on a frontend thread the notice(s) go to the caller's own queue — behind every earlier
  statement of that thread —, then `flush_log`, then default action + re-raise, or `exit` for SIGINT/SIGTERM;
  nothing is logged, flushed or parked on the backend thread / without a running backend; a later entrant only
  parks;
* the life-cycle machine: invariant for every sequence of `start` / `start(with handler)` / `stop` / exit, restart
  after any number of cycles (induction over the cycle list), redundant `stop`/`start` are no-ops, one `atexit`
  handler per effective start (at most one while no `stop` intervenes), exit drains and joins everything, and the
  id the signal handler compares against is never stale (the repair of F23; the unrepaired variant is refuted by
  a witness);
* their composition: a handled signal in any cycle that was started with the handler loses nothing.

What is **not** proved here and is only *enumerated* by harness H4 on the real process: the wait status
(`WIFSIGNALED/WTERMSIG`, `WEXITSTATUS`), the order of `atexit` handlers and static destructors, the signal mask
the backend thread inherits, `pause()` and the `alarm` time-out. The drain itself (`_exit` ends with every queue and
transit buffer empty and the sinks flushed) is the theorem of the backend model (`Backend.exitLoop`, a separate
bundle); `Fe.drain` below is its contract, `flush` that of C06.

The full statement, for reference (not provable inside a pure model):
  ∀ program, crash point p, action ∈ {stop, return, exit, handled signal}, schedule:
    file(process run to its end) ⊇ completed-before(p) in thread order ∧ wait-status = expected(action).
-/
namespace Exit

/-- frontend branch = the calls of the C++ `else` branch, in order -/
theorem C07_handler_frontend_calls (s : Sig) (pr : Bool) :
    onSignal (Ctx.frontend s pr) =
      if s.graceful then [.storeSignal, .setAlarm, .logNotice, .flush, .exitSuccess]
      else [.storeSignal, .setAlarm, .logNotice, .logCritical, .flush, .restoreDefault, .reraise, .ret] :=
  onSignal_frontend s pr

example : onSignal (Ctx.frontend .segv false) =
    [.storeSignal, .setAlarm, .logNotice, .logCritical, .flush, .restoreDefault, .reraise, .ret] := by decide +kernel

/-- **the signal half of C07 on the model**: for every signal (in particular every handled one), every list of
    earlier statements of the signalled thread and every split of it into "already written" and "still queued"
    (backend busy or idle), every logger level: when the handler has run on a frontend thread while a backend
    serves the queues, that thread's lines in the destination are exactly its earlier statements in order followed
    by the notice(s), nothing of it is left queued, and the process ends by the signal's default action — by
    `exit(EXIT_SUCCESS)` for SIGINT/SIGTERM. -/
theorem C07_signal_loses_nothing (e : Env) (s : Sig) (pr : Bool) (earlier : List Nat) (w q : List Item)
    (hsplit : w ++ q = earlier.map Item.stmt) (hrun : e.backendRunning = true) :
    exec e s (onSignal (Ctx.frontend s pr)) false false { queue := q, written := w } =
      ({ queue := [], written := earlier.map Item.stmt ++ notices e s },
       if s.graceful then .exit0 else .diedBy s) := by
  rw [exec_frontend e s pr _ hrun, hsplit]

example : exec { backendRunning := true } .segv (onSignal (Ctx.frontend .segv false)) false false
      { queue := [.stmt 2, .stmt 3], written := [.stmt 0, .stmt 1] } =
    ({ queue := [], written := [.stmt 0, .stmt 1, .stmt 2, .stmt 3, .notice, .critical] }, .diedBy .segv) := by decide +kernel

/-- the six handled signals, default logger level: both notices for the crash signals and death by that signal,
    one notice and a successful exit for SIGINT / SIGTERM -/
theorem C07_handled_signal_outcomes (s : Sig) (hs : s ∈ handled) (earlier : List Nat) (w q : List Item)
    (hsplit : w ++ q = earlier.map Item.stmt) :
    exec { backendRunning := true } s (onSignal (Ctx.frontend s false)) false false { queue := q, written := w } =
      if s = .int ∨ s = .term then
        ({ queue := [], written := earlier.map Item.stmt ++ [.notice] }, .exit0)
      else
        ({ queue := [], written := earlier.map Item.stmt ++ [.notice, .critical] }, .diedBy s) := by
  rw [C07_signal_loses_nothing _ s false earlier w q hsplit rfl]
  simp only [handled, List.mem_cons, List.not_mem_nil, or_false] at hs
  rcases hs with rfl | rfl | rfl | rfl | rfl | rfl <;> rfl

example : Sig.fpe ∈ handled := by decide +kernel

/-- the notice never overtakes: in the destination every earlier statement of the thread stands before the notice -/
theorem C07_notice_follows_earlier (e : Env) (s : Sig) (pr : Bool) (earlier : List Nat) (w q : List Item)
    (hsplit : w ++ q = earlier.map Item.stmt) (hrun : e.backendRunning = true) (hinfo : e.infoOn = true) :
    ∃ tail, (exec e s (onSignal (Ctx.frontend s pr)) false false { queue := q, written := w }).1.written =
      earlier.map Item.stmt ++ Item.notice :: tail := by
  rw [C07_signal_loses_nothing e s pr earlier w q hsplit hrun]
  exact ⟨if s.graceful || !e.critOn then [] else [.critical], by simp [notices, hinfo]⟩

/-- on the backend thread, or when no backend thread id is published: nothing is logged, nothing is flushed, nothing
    parks — whatever the signal, the logger, the re-raise flag -/
theorem C07_backend_or_no_backend_silent (x : Ctx) (hfirst : x.first = true)
    (hb : x.backendIdSet = false ∨ x.onBackend = true) :
    onSignal x =
      [.storeSignal, .setAlarm] ++
        (if x.sig.graceful then [.exitSuccess] else if x.reraise then [.restoreDefault, .reraise, .ret] else [.ret]) ∧
    Action.logNotice ∉ onSignal x ∧ Action.logCritical ∉ onSignal x ∧ Action.flush ∉ onSignal x ∧
    Action.park ∉ onSignal x := by
  have hb' : (!x.backendIdSet || x.onBackend) = true := by rcases hb with h | h <;> simp [h]
  have h : onSignal x = [.storeSignal, .setAlarm] ++
      (if x.sig.graceful then [.exitSuccess] else if x.reraise then [.restoreDefault, .reraise, .ret] else [.ret]) := by
    unfold onSignal; rw [hfirst, hb']; rfl
  rw [h]
  refine ⟨rfl, ?_⟩
  cases x.sig.graceful <;> cases x.reraise <;> decide

/-- … and the process ends at once: successfully for SIGINT/SIGTERM (the `atexit` drain still runs if a backend
    thread exists), by the signal otherwise; the thread's queue is not touched by the handler -/
theorem C07_backend_or_no_backend_outcome (e : Env) (x : Ctx) (f : Fe) (hfirst : x.first = true)
    (hb : x.backendIdSet = false ∨ x.onBackend = true) (hre : x.reraise = true) :
    exec e x.sig (onSignal x) false false f =
      if x.sig.graceful then (if e.backendRunning && e.waitOnExit then f.drain else f, .exit0)
      else (f, .diedBy x.sig) := by
  rw [(C07_backend_or_no_backend_silent x hfirst hb).1]
  cases hg : x.sig.graceful <;> simp [exec, hre]

example : onSignal ⟨.term, true, false, true, true, true, true⟩ = [.storeSignal, .setAlarm, .exitSuccess] := by decide +kernel

/-- a later entrant (while `pause()` does not return) makes exactly one call, `pause()`: it never logs, never
    flushes, never re-raises, never exits -/
theorem C07_second_entrant_only_parks (x : Ctx) (h1 : x.first = false) (h2 : x.parkReturns = false) (e : Env) (f : Fe) :
    onSignal x = [.park] ∧ exec e x.sig (onSignal x) false false f = (f, .hangs) := by
  have : onSignal x = [.park] := by unfold onSignal; rw [h1, h2]; rfl
  exact ⟨this, by rw [this]; rfl⟩

example : onSignal ⟨.abrt, false, false, true, false, true, true⟩ = [.park] := by decide +kernel

/-- quirk of the code, kept by the model: `pause()` is followed by the rest of the handler, so a later entrant whose
    `pause()` returns (some handler ran on that thread and came back) does everything a first entrant does -/
theorem C07_quirk_woken_entrant_proceeds (x : Ctx) (h1 : x.first = false) (h2 : x.parkReturns = true) :
    onSignal x = .park :: onSignal { x with first := true } := by
  unfold onSignal; rw [h1, h2]; rfl

/-- quirk: on a frontend thread with no valid logger the handler returns without re-raising — the signal is
    swallowed (only the alarm ends the process later) -/
theorem C07_quirk_no_logger_swallows (s : Sig) (pr re : Bool) (e : Env) (f : Fe) :
    let x : Ctx := ⟨s, true, pr, true, false, false, re⟩
    onSignal x = [.storeSignal, .setAlarm, .ret] ∧ exec e s (onSignal x) false false f = (f, .continues) := by
  have h : onSignal ⟨s, true, pr, true, false, false, re⟩ = [.storeSignal, .setAlarm, .ret] := rfl
  exact ⟨h, by rw [h]; rfl⟩

/-- with `should_reraise_signal` off: notice, flush, return — the program continues with everything written -/
theorem C07_reraise_off_returns (e : Env) (s : Sig) (hs : s.graceful = false) (pr : Bool) (f : Fe) (hrun : e.backendRunning = true) :
    let x : Ctx := ⟨s, true, pr, true, false, true, false⟩
    onSignal x = [.storeSignal, .setAlarm, .logNotice, .flush, .ret] ∧
    exec e s (onSignal x) false false f =
      ({ queue := [], written := f.written ++ f.queue ++ (if e.infoOn then [.notice] else []) }, .continues) := by
  obtain ⟨run, info, crit, wait, gu⟩ := e
  simp only at hrun
  subst hrun
  have h1 : onSignal ⟨s, true, pr, true, false, true, false⟩ = [.storeSignal, .setAlarm, .logNotice, .flush, .ret] := by
    simp [onSignal, hs]
  refine ⟨h1, ?_⟩
  rw [h1]
  cases info <;> simp [exec, Fe.log, Fe.drain, List.append_assoc]

/-- the notice enqueued only after the flush is lost when the process dies -/
theorem C07_neg_notice_after_flush :
    (exec { backendRunning := true } .segv [.storeSignal, .setAlarm, .flush, .logNotice, .logCritical, .restoreDefault, .reraise, .ret]
      false false { queue := [.stmt 0], written := [] }).1.written = [.stmt 0] := by decide +kernel

/-- no flush before dying: what is still queued never reaches the destination -/
theorem C07_neg_no_flush :
    exec { backendRunning := true } .segv [.storeSignal, .setAlarm, .logNotice, .logCritical, .restoreDefault, .reraise, .ret]
      false false { queue := [.stmt 0], written := [] } =
    ({ queue := [.stmt 0, .notice, .critical], written := [] }, .diedBy .segv) := by decide +kernel

/-- re-raising without restoring the default action re-enters the handler, which parks: the process hangs -/
theorem C07_neg_raise_without_default :
    (exec { backendRunning := true } .segv [.storeSignal, .setAlarm, .logNotice, .logCritical, .flush, .reraise, .ret]
      false false {}).2 = .hangs := by decide +kernel

/-- SIGTERM treated like a crash signal dies by SIGTERM instead of exiting successfully -/
theorem C07_neg_term_reraised :
    (exec { backendRunning := true } .term [.storeSignal, .setAlarm, .logNotice, .logCritical, .flush, .restoreDefault, .reraise, .ret]
      false false {}).2 = .diedBy .term := by decide +kernel

/-- flushing without a backend thread never returns (the mechanism behind F23) -/
theorem C07_neg_flush_without_backend (s : Sig) (pr : Bool) (f : Fe) :
    (exec { backendRunning := false } s (onSignal (Ctx.frontend s pr)) false false f).2 = .hangs := by
  rw [exec_frontend_env]; rfl

/-- invariant of every reachable state, whatever the sequence of `start`, `start` with handler, `stop`, exit -/
theorem C07_life_invariant (ops : List LOp) : LInv (Life.run R {} ops) := by
  rw [Life.run_eq]; exact Abs.linv _

example : (Life.run R {} [.start, .stop, .stop, .startSH, .start, .stop]).spawned = 2 := by decide +kernel

/-- **restart**: after any number of start/stop cycles — each with either kind of start, any number of redundant
    starts and redundant stops — the backend is stopped with a fresh once-flag, exactly one thread was spawned,
    drained and joined per cycle, and one `atexit` handler registered per cycle (induction over the cycle list) -/
theorem C07_any_number_of_cycles (cs : List Cycle) :
    let s := Life.run R {} (cs.flatMap Cycle.ops)
    Stopped s ∧ s.onceDone = false ∧ s.spawned = cs.length ∧ s.joined = cs.length ∧
    s.atexits = (cs.map (·.sh)).reverse ∧ s.nextTid = cs.length + 1 ∧ s.ctxTid = 0 := by
  have hl : (cs.map (·.sh)).reverse.length = cs.length := by rw [List.length_reverse, List.length_map]
  rw [Life.run_eq, Abs.run_cycles, List.append_nil]
  exact ⟨⟨Abs.linv _, rfl, rfl⟩, rfl, hl, hl, rfl, congrArg (· + 1) hl, rfl⟩

example : ([⟨true, 1, 2⟩, ⟨false, 0, 0⟩] : List Cycle).flatMap Cycle.ops =
    [.startSH, .start, .stop, .stop, .stop, .start, .stop] := by decide +kernel

/-- … and the next `start` of either kind then yields a running backend on a fresh thread, whose id the signal
    handler knows when (and only when) it was started with the handler -/
theorem C07_start_after_cycles_runs (cs : List Cycle) (sh : Bool) :
    let s := Life.run R {} (cs.flatMap Cycle.ops ++ [if sh then .startSH else .start])
    s.running = true ∧ s.workerTid = cs.length + 1 ∧ s.spawned = cs.length + 1 ∧ s.joined = cs.length ∧
    s.ctxTid = (if sh then s.workerTid else 0) := by
  have hl : (cs.map (·.sh)).reverse.length = cs.length := by rw [List.length_reverse, List.length_map]
  rw [Life.run_eq, Abs.run_append, Abs.run_cycles, List.append_nil]
  cases sh <;> exact ⟨rfl, congrArg (· + 1) hl, congrArg (· + 1) hl, hl, rfl⟩

/-- `stop` on a stopped backend changes nothing at all, in every reachable state -/
theorem C07_stop_when_stopped_is_noop (ops : List LOp) (h : (Life.run R {} ops).running = false) :
    Life.run R {} (ops ++ [.stop]) = Life.run R {} ops := by
  obtain ⟨a, e, e'⟩ := Life.reach ops
  rw [e', e]
  rw [e] at h
  cases a with
  | stopped l => rfl
  | running sh l => cases h
  | exited l => rfl

/-- `stop` is idempotent in every reachable state -/
theorem C07_stop_idempotent (ops : List LOp) :
    Life.run R {} (ops ++ [.stop, .stop]) = Life.run R {} (ops ++ [.stop]) := by
  rw [Life.run_eq, Life.run_eq, Abs.run_append, Abs.run_append]
  exact congrArg Abs.life (Abs.stop_stop _)

/-- `start` (either kind) on a running backend changes nothing: no second thread, no second `atexit` handler -/
theorem C07_start_when_running_is_noop (ops : List LOp) (h : (Life.run R {} ops).running = true) (sh : Bool) :
    Life.run R {} (ops ++ [if sh then .startSH else .start]) = Life.run R {} ops := by
  obtain ⟨a, e, e'⟩ := Life.reach ops
  rw [e', e]
  rw [e] at h
  cases a with
  | stopped l => cases h
  | running b l => cases sh <;> rfl
  | exited l => cases h

/-- one `atexit` handler per backend thread ever spawned, in every reachable state … -/
theorem C07_atexit_once_per_effective_start (ops : List LOp) :
    (Life.run R {} ops).atexits.length = (Life.run R {} ops).spawned :=
  (C07_life_invariant ops).atexitCount

/-- … hence at most one as long as the program never stops the backend, however often it calls `start` -/
theorem C07_atexit_at_most_once_without_stop (ops : List LOp) (h : ∀ op ∈ ops, op = .start ∨ op = .startSH) :
    (Life.run R {} ops).atexits.length ≤ 1 := by
  rw [Life.run_eq]
  cases ops with
  | nil => exact Nat.zero_le _
  | cons op ops =>
    -- the first start is effective; every later one finds a running backend
    obtain ⟨sh, hsh⟩ : ∃ sh, Abs.step (.stopped []) op = .running sh [] := by
      rcases h op (List.mem_cons_self ..) with rfl | rfl
      · exact ⟨false, rfl⟩
      · exact ⟨true, rfl⟩
    have hrest : ∀ o ∈ ops, (Abs.running sh []).step o = .running sh [] := fun o ho => by
      rcases h o (List.mem_cons_of_mem _ ho) with rfl | rfl <;> rfl
    show ((Abs.step (.stopped []) op).run ops).life.atexits.length ≤ 1
    rw [hsh, Abs.run_fixed hrest]
    exact Nat.le_refl _

example : (Life.run R {} [.start, .startSH, .start, .start]).atexits.length = 1 := by decide +kernel

/-- normal exit from any reachable state: the `atexit` handlers stop, drain and join the backend thread if one
    runs — every thread ever spawned has been drained and joined —, the handler's id is cleared, and the
    `ManualBackendWorker` destructor runs one more `_exit()` drain on the exiting thread -/
theorem C07_exit_drains_and_joins (ops : List LOp) (h : (Life.run R {} ops).exited = false) :
    let s := Life.run R {} (ops ++ [.exit])
    s.running = false ∧ s.joined = s.spawned ∧ s.spawned = (Life.run R {} ops).spawned ∧ s.ctxTid = 0 ∧
    s.finalDrains = 1 ∧ s.exited = true := by
  obtain ⟨a, e, e'⟩ := Life.reach ops
  rw [e', e]
  rw [e] at h
  cases a with
  | stopped l => exact ⟨rfl, rfl, rfl, rfl, rfl, rfl⟩
  | running sh l => exact ⟨rfl, rfl, rfl, rfl, rfl, rfl⟩
  | exited l => cases h

/-- **no stale id** (F23 repaired): in every reachable state, if the signal handler believes a backend thread
    exists then one is running and it is that thread -/
theorem C07_handler_id_never_stale (ops : List LOp) :
    let s := Life.run R {} ops
    s.ctxTid ≠ 0 → s.running = true ∧ s.ctxTid = s.workerTid ∧ s.workerTid ≠ 0 := by
  intro s hc
  obtain ⟨hr, hid, _⟩ := (C07_life_invariant ops).ctx hc
  exact ⟨hr, hid, (C07_life_invariant ops).tidRun hr⟩

/-- F23 on the unrepaired code (`Backend::stop()` not clearing the id): after `start(handler); stop` the handler
    still sees a backend thread, takes the frontend branch and flushes with nobody to serve it -/
theorem C07_F23_stale_id_hangs :
    let P : LParams := { renewOnce := true, stopClearsId := false, atexitClearsId := false }
    let s := Life.run P {} [.startSH, .stop]
    s.running = false ∧ s.ctxTid ≠ 0 ∧
    (exec (s.env true true) .term (onSignal (s.ctx 77 .term true false true true)) false false {}).2 = .hangs ∧
    (exec (s.env true true) .segv (onSignal (s.ctx 77 .segv true false true true)) false false {}).2 = .hangs := by
  decide +kernel

/-- the once-flag not renewed by `stop` (mutant): the second `start` does nothing -/
theorem C07_neg_once_flag_not_renewed :
    (Life.run { renewOnce := false, stopClearsId := true, atexitClearsId := true } {} [.start, .stop, .start]).running = false := by
  decide +kernel

/-- **C07, signal half, in context**: in every reachable life-cycle state whose current cycle was started with the
    handler (so the handler's id is set — and then, by `C07_handler_id_never_stale`, a backend runs), a signal on
    any thread other than the backend thread, with a logger, first entrant: every earlier statement of that thread
    and then the notice(s) are in the destination, nothing stays queued, and the process ends by that signal
    (successfully for SIGINT/SIGTERM). -/
theorem C07_signal_in_any_cycle (ops : List LOp) (thread : Nat) (s : Sig) (pr info crit : Bool)
    (earlier : List Nat) (w q : List Item) (hsplit : w ++ q = earlier.map Item.stmt) :
    let st := Life.run R {} ops
    st.ctxTid ≠ 0 → thread ≠ st.workerTid →
    exec (st.env info crit) s (onSignal (st.ctx thread s true pr true true)) false false { queue := q, written := w } =
      ({ queue := [], written := earlier.map Item.stmt ++ notices (st.env info crit) s },
       if s.graceful then .exit0 else .diedBy s) := by
  intro st hctx hthr
  rw [(C07_life_invariant ops).signal hctx thread hthr, hsplit]

/-- a handled signal when the handler's id is clear (backend stopped, or this cycle started without the handler):
    no notice, no flush, no waiting — the process ends at once, by the signal or successfully; for SIGINT/SIGTERM
    the exit path still drains a running backend -/
theorem C07_signal_outside_handler_cycle (ops : List LOp) (thread : Nat) (s : Sig) (pr lg info crit : Bool) (f : Fe) :
    let st := Life.run R {} ops
    st.ctxTid = 0 →
    exec (st.env info crit) s (onSignal (st.ctx thread s true pr lg true)) false false f =
      if s.graceful then (if st.running then f.drain else f, .exit0) else (f, .diedBy s) := by
  intro st hctx
  have := C07_backend_or_no_backend_outcome (st.env info crit) (st.ctx thread s true pr lg true) f rfl
    (Or.inl (by simp [Life.ctx, hctx])) rfl
  simpa [Life.ctx, Life.env] using this

example : (Life.run R {} [.startSH, .stop, .startSH]).ctxTid = 2 := by decide +kernel
example : (Life.run R {} [.startSH, .stop]).ctxTid = 0 := by decide +kernel

/-- **nothing lost, nothing duplicated, order kept — at every point of every program**: whatever the program logs,
    however often it starts and stops the backend (redundantly or not), however much the backend has written in the
    background: written ++ still queued = the completed statements in program order -/
theorem C07_program_conservation (ops : List POp) (hne : noExit ops = true) :
    (Sys.run R {} ops).fe.written ++ (Sys.run R {} ops).fe.queue = logged ops :=
  Sys.conservation_init R ops hne

example : Sys.run R {} [.log 0, .life .start, .log 1, .bg 1, .log 2, .life .stop, .log 3] =
    { life := Life.run R {} [.start, .stop], fe := { queue := [.stmt 3], written := [.stmt 0, .stmt 1, .stmt 2] } } := by
  decide +kernel

/-- the life-cycle component of a program run is the life-cycle machine on the program's life-cycle operations -/
theorem C07_program_life (ops : List POp) : (Sys.run R {} ops).life = Life.run R {} (lifeOps ops) :=
  Sys.run_life R ops {}

/-- **stop loses nothing**: at every point of every program at which a backend runs, `Backend::stop()` returns with
    every statement completed before it in the destination, in order, nothing queued — including what was logged
    while the backend was stopped in earlier cycles — and with the backend not running -/
theorem C07_stop_writes_everything (ops : List POp) (hne : noExit ops = true)
    (hrun : (Sys.run R {} ops).life.running = true) :
    let s := Sys.run R {} (ops ++ [.life .stop])
    s.fe.queue = [] ∧ s.fe.written = logged ops ∧ s.life.running = false := by
  intro s
  have hfe : s.fe = { queue := [], written := logged ops } := by rw [Sys.stop_fe R ops hne, hrun]; rfl
  refine ⟨by rw [hfe], by rw [hfe], ?_⟩
  rw [Sys.life_after]
  cases Abs.run _ (lifeOps ops) <;> rfl

example : (Sys.run R {} [.life .startSH, .log 0, .log 1, .bg 1, .log 2]).life.running = true := by decide +kernel

/-- **normal exit loses nothing**: at every point of every program, return from `main` / `exit()` ends with every
    completed statement in the destination, in order — whether a backend runs (the `atexit` handler stops, drains and
    joins it) or was stopped before (the final `_exit()` of `~ManualBackendWorker` drains what was logged since) —
    and with every backend thread ever spawned drained and joined -/
theorem C07_exit_writes_everything (ops : List POp) (hne : noExit ops = true) :
    let s := Sys.run R {} (ops ++ [.life .exit])
    s.fe.queue = [] ∧ s.fe.written = logged ops ∧ s.life.running = false ∧ s.life.joined = s.life.spawned ∧
    s.life.exited = true := by
  intro s
  have hfe : s.fe = { queue := [], written := logged ops } := by rw [Sys.exit_fe R ops hne]; rfl
  refine ⟨by rw [hfe], by rw [hfe], ?_⟩
  rw [Sys.life_after]
  cases Abs.run _ (lifeOps ops) <;> exact ⟨rfl, rfl, rfl⟩

example : (Sys.run R {} [.life .start, .log 0, .life .stop, .log 1, .life .exit]).fe =
    { queue := [], written := [.stmt 0, .stmt 1] } := by decide +kernel

/-- **a handled signal loses nothing, at every point of every program**: if the current cycle was started with the
    handler, a signal on a frontend thread (first entrant, logger present) leaves every statement completed before it,
    in order, followed by the notice(s), nothing queued, and the process ends by that signal — `exit(0)` for
    SIGINT/SIGTERM -/
theorem C07_program_signal (ops : List POp) (hne : noExit ops = true) (thread : Nat) (s : Sig) (pr info crit : Bool) :
    let st := Sys.run R {} ops
    st.life.ctxTid ≠ 0 → thread ≠ st.life.workerTid →
    exec (st.life.env info crit) s (onSignal (st.life.ctx thread s true pr true true)) false false st.fe =
      ({ queue := [], written := logged ops ++ notices (st.life.env info crit) s },
       if s.graceful then .exit0 else .diedBy s) := by
  intro st hctx hthr
  have hinv : LInv st.life := by rw [show st.life = _ from Sys.run_life R ops {}]; exact C07_life_invariant _
  rw [hinv.signal hctx thread hthr, show st.fe.written ++ st.fe.queue = logged ops from Sys.conservation_init R ops hne]

example : noExit [.life .startSH, .log 0, .bg 1, .log 1] = true ∧
    (Sys.run R {} [.life .startSH, .log 0, .bg 1, .log 1]).life.ctxTid = 1 := by decide +kernel

/-- the signal half does not depend on the option: whatever `wait_for_queues_to_empty_before_exit` is, a handled signal
    on a frontend thread leaves that thread's earlier statements and the notice(s) in the destination -/
theorem C07_signal_independent_of_wait_option (e : Env) (wait : Bool) (s : Sig) (pr : Bool) (earlier : List Nat)
    (w q : List Item) (hsplit : w ++ q = earlier.map Item.stmt) (hrun : e.backendRunning = true) :
    exec { e with waitOnExit := wait } s (onSignal (Ctx.frontend s pr)) false false { queue := q, written := w } =
      ({ queue := [], written := earlier.map Item.stmt ++ notices e s },
       if s.graceful then .exit0 else .diedBy s) := by
  -- neither the frontend branch nor `notices` reads the option
  exact C07_signal_loses_nothing { e with waitOnExit := wait } s pr earlier w q hsplit hrun

example : exec { backendRunning := true, waitOnExit := false } .int (onSignal (Ctx.frontend .int false)) false false
      { queue := [.stmt 1], written := [.stmt 0] } =
    ({ queue := [], written := [.stmt 0, .stmt 1, .notice] }, .exit0) := by decide +kernel

/-- **seeded change C07_m2 refuted**: a SIGINT/SIGTERM branch that goes to `exit` without `flush_log` relies on the
    drain of the `atexit` stop — with the option off there is none: the thread's queued statement and the notice are
    lost while the process exits successfully (with the option on the same call list loses nothing, which is why
    the change is invisible under default options) -/
theorem C07_neg_graceful_exit_without_flush :
    exec { backendRunning := true, waitOnExit := false } .int [.storeSignal, .setAlarm, .logNotice, .exitSuccess] false false
        { queue := [.stmt 1], written := [.stmt 0] } =
      ({ queue := [.stmt 1, .notice], written := [.stmt 0] }, .exit0) ∧
    exec { backendRunning := true, waitOnExit := true } .int [.storeSignal, .setAlarm, .logNotice, .exitSuccess] false false
        { queue := [.stmt 1], written := [.stmt 0] } =
      ({ queue := [], written := [.stmt 0, .stmt 1, .notice] }, .exit0) := by decide +kernel

/-- the code with the option off -/
abbrev RNoWait : LParams := { R with waitOnExit := false }

/-- **what `stop` guarantees with the option off**: `_exit` reads no queue any more — the destination and the queue are
    exactly what they were when the stop was requested (whatever the backend had written by then, `bg`), nothing is
    lost from the queue, duplicated or reordered, and the backend is stopped -/
theorem C07_nowait_stop_keeps_state (ops : List POp) (hne : noExit ops = true) :
    let s0 := Sys.run RNoWait {} ops
    let s := Sys.run RNoWait {} (ops ++ [.life .stop])
    s.fe = s0.fe ∧ s.fe.written ++ s.fe.queue = logged ops := by
  intro s0 s
  have hfe : s.fe = s0.fe := by rw [Sys.stop_fe RNoWait ops hne, Bool.and_false]; rfl
  exact ⟨hfe, by rw [hfe]; exact Sys.conservation_init RNoWait ops hne⟩

/-- … so with the option off `stop` may return with completed statements unwritten (they stay queued) -/
theorem C07_nowait_stop_may_leave_unwritten :
    (Sys.run RNoWait {} [.life .startSH, .log 0, .log 1, .bg 1, .life .stop]).fe = { queue := [.stmt 1], written := [.stmt 0] } ∧
    (Sys.run R {} [.life .startSH, .log 0, .log 1, .bg 1, .life .stop]).fe = { queue := [], written := [.stmt 0, .stmt 1] } := by
  decide +kernel

/-- … a later `start` serves what was left, and conservation holds at every point of every program with the option off -/
theorem C07_nowait_program_conservation (ops : List POp) (hne : noExit ops = true) :
    (Sys.run RNoWait {} ops).fe.written ++ (Sys.run RNoWait {} ops).fe.queue = logged ops :=
  Sys.conservation_init RNoWait ops hne

example : (Sys.run RNoWait {} [.life .start, .log 0, .life .stop, .life .start, .bg 1]).fe = { queue := [], written := [.stmt 0] } := by
  decide +kernel

/-- normal exit with the option off: the final `_exit()` of `~ManualBackendWorker` runs with the options of the last
    `start` and drains nothing; a process whose backend was never started has the default options and drains -/
theorem C07_nowait_exit :
    (Sys.run RNoWait {} [.life .start, .log 0, .life .exit]).fe = { queue := [.stmt 0], written := [] } ∧
    (Sys.run RNoWait {} [.log 0, .life .exit]).fe = { queue := [], written := [.stmt 0] } := by decide +kernel

/-! A handled signal while another thread is inside `Backend::stop()` / the `atexit` stop (`Exit/Stop.lean`):
`stop()` as its real sequence of steps (`stopSeqCurrent`; `Obligations.exit_stop_sequence` ties it to the extracted
order), the backend thread leaving in the background, the handler in two phases (A: reads the cached backend id;
B: enqueues the notice(s) and the flush request) — any steps before A and between A and B. -/

/-- in every state any schedule can reach with the current order: the id the handler reads is set exactly until the
    last step of `stop()`, so it is cleared only after the backend thread has ended; the stopping thread is past
    `join()` only if the backend thread has ended; the backend stops looking at the queues only after the stop request -/
theorem C07_stop_id_set_until_backend_gone (wait : Bool) (f : Fe) (evs : List Ev) :
    let c := (CS.init f).run stopSeqCurrent wait evs
    (c.idSet = true ↔ c.pc < 6) ∧ (c.idSet = false → c.ended = true) ∧ (3 ≤ c.pc → c.ended = true) ∧
    (c.ended = true → c.serving = false) ∧ (c.serving = false → c.running = false) := by
  intro c
  have h : c.Inv stopSeqCurrent := CS.inv_run _ wait evs _ (CS.inv_init _ f)
  -- in the current order the id is cleared (step 6) after the join (step 3)
  have hseq (n : Nat) (hn : SStep.clearCtxId ∈ stopSeqCurrent.take n) : SStep.join ∈ stopSeqCurrent.take n :=
    (stopSeqCurrent_taken n).2.mpr (Nat.le_trans (by decide) ((stopSeqCurrent_taken n).1.mp hn))
  exact ⟨CS.idSet_iff_pc wait f evs, CS.id_cleared_after_end _ hseq wait f evs,
    fun h3 => h.joined ((stopSeqCurrent_taken c.pc).2.mpr h3), h.ended, h.served⟩

example : ((CS.init {}).run stopSeqCurrent true [.stopper, .stopper, .bgLastCheck, .bgEnd, .stopper, .stopper]).pc = 4 := by decide +kernel

/-- nothing is lost, duplicated or reordered by any interleaving of the three threads — in any order of the stop
    sequence, with the option on or off: written ++ queued = what the thread had ++ what it completed since -/
theorem C07_stop_interleaving_conservation (seq : List SStep) (wait : Bool) (f : Fe) (evs : List Ev) :
    let c := (CS.init f).run seq wait evs
    c.fe.written ++ c.fe.queue = f.written ++ f.queue ++ loggedEv evs :=
  CS.run_conservation seq wait evs (CS.init f)

/-- **signal inside `stop()`, served**: for every schedule before phase A (`pre`) and between A and B (`mid`), every
    signal, every written/queued split, the option on or off: if `stop()` has not returned at A and the backend thread
    has not yet taken its last look at the queues at B, the signalled thread's lines in the destination are all its
    earlier statements (those before the stop and those completed during it) followed by the notice(s), nothing is
    left queued, and the process dies by the signal (`exit(0)` for SIGINT/SIGTERM) -/
theorem C07_signal_during_stop_served (wait info crit : Bool) (s : Sig) (pr : Bool) (earlier : List Nat) (w q : List Item)
    (hsplit : w ++ q = earlier.map Item.stmt) (pre mid : List Ev) :
    let a := (CS.init { queue := q, written := w }).run stopSeqCurrent wait pre
    let b := a.run stopSeqCurrent wait mid
    a.pc < 6 → b.serving = true →
    signalDuringStop wait info crit s pr a b =
      ({ queue := [], written := earlier.map Item.stmt ++ loggedEv (pre ++ mid) ++ notices { backendRunning := true, infoOn := info, critOn := crit } s },
       if s.graceful then .exit0 else .diedBy s) := by
  intro a b ha hb
  have hc : b.fe.written ++ b.fe.queue = w ++ q ++ loggedEv (pre ++ mid) := by
    have := CS.run_conservation stopSeqCurrent wait (pre ++ mid) (CS.init { queue := q, written := w })
    rwa [CS.run_append] at this
  rw [signalDuringStop_of_idSet _ _ _ _ _ _ _ ((CS.idSet_iff_pc wait _ pre).mpr ha), exec_frontend_env, if_pos hb, hc, hsplit]
  rfl

example : let a := (CS.init { queue := [.stmt 1], written := [.stmt 0] }).run stopSeqCurrent true [.stopper, .stopper, .bgWrite 1]
    a.pc < 6 ∧ (a.run stopSeqCurrent true [.log 2]).serving = true := by decide +kernel

/-- **FINDING F27 — the points the current code does not cover**: if `stop()` has not returned at A but the backend
    thread has already taken its last look at the queues at B, the handler still takes the frontend branch, enqueues
    its notice(s) and waits in `flush_log` for a backend thread that never looks again: the process hangs, the notice(s)
    — and whatever the thread completed after that last look — stay queued -/
theorem C07_signal_during_stop_after_last_look_hangs (wait info crit : Bool) (s : Sig) (pr : Bool) (f : Fe) (pre mid : List Ev) :
    let a := (CS.init f).run stopSeqCurrent wait pre
    let b := a.run stopSeqCurrent wait mid
    a.pc < 6 → b.serving = false →
    (signalDuringStop wait info crit s pr a b).2 = .hangs ∧
    (signalDuringStop wait info crit s pr a b).1.written = b.fe.written := by
  intro a b ha hb
  rw [signalDuringStop_of_idSet _ _ _ _ _ _ _ ((CS.idSet_iff_pc wait _ pre).mpr ha), exec_frontend_env, hb]
  exact ⟨rfl, rfl⟩

/-- **exact characterisation** of the interleaving points: while `stop()` has not returned, the handler's outcome is the
    one the property asks for if and only if the backend thread's last look at the queues comes after phase B -/
theorem C07_signal_during_stop_exact (wait info crit : Bool) (s : Sig) (pr : Bool) (f : Fe) (pre mid : List Ev) :
    let a := (CS.init f).run stopSeqCurrent wait pre
    let b := a.run stopSeqCurrent wait mid
    a.pc < 6 →
    ((signalDuringStop wait info crit s pr a b).2 = (if s.graceful then .exit0 else .diedBy s) ↔ b.serving = true) := by
  intro a b ha
  rw [signalDuringStop_of_idSet _ _ _ _ _ _ _ ((CS.idSet_iff_pc wait _ pre).mpr ha), exec_frontend_env]
  cases b.serving <;> cases s.graceful <;> simp

/-- with the option on and the thread logging nothing during the stop, the window costs the notice and the ending only:
    at the backend's last look the thread's queue was empty, so all its earlier statements are in the destination -/
theorem C07_window_keeps_earlier_statements (earlier : List Nat) (w q : List Item) (hsplit : w ++ q = earlier.map Item.stmt)
    (evs : List Ev) (hn : noLogEv evs = true) :
    let b := (CS.init { queue := q, written := w }).run stopSeqCurrent true evs
    b.serving = false → b.fe.queue = [] ∧ b.fe.written = earlier.map Item.stmt := by
  intro b hb
  have hq : b.fe.queue = [] := CS.run_queue_empty stopSeqCurrent evs _ hn (fun h => nomatch h) hb
  have hc : b.fe.written ++ b.fe.queue = w ++ q ++ loggedEv evs :=
    CS.run_conservation stopSeqCurrent true evs (CS.init { queue := q, written := w })
  rw [hq, loggedEv_of_noLog evs hn, List.append_nil, List.append_nil, hsplit] at hc
  exact ⟨hq, hc⟩

/-- F27 witnesses on the current order. Option on: stop requested, the backend finds the queues empty and goes for its
    final flush, SIGSEGV on the thread → hang, notices never written. Option off: the backend leaves with the thread's
    statement still queued → that statement is lost as well. -/
theorem C07_F27_signal_after_last_look :
    (let a := (CS.init { queue := [], written := [.stmt 0] }).run stopSeqCurrent true [.stopper, .stopper, .bgLastCheck]
     signalDuringStop true true true .segv false a a = ({ queue := [.notice, .critical], written := [.stmt 0] }, .hangs)) ∧
    (let a := (CS.init { queue := [.stmt 1], written := [.stmt 0] }).run stopSeqCurrent false [.stopper, .bgLastCheck]
     signalDuringStop false true true .segv false a a = ({ queue := [.stmt 1, .notice, .critical], written := [.stmt 0] }, .hangs)) := by
  decide +kernel

/-- the order of seeded change C07_m3: the id is cleared first -/
def stopSeqIdFirst : List SStep := [.clearCtxId, .exchangeRunning, .notify, .join, .clearWorkerTid, .renewOnce]

/-- **seeded change C07_m3 refuted**: with the id cleared before `stop_backend_thread()` the handler takes the
    "no backend" branch while the backend thread is alive and draining — the process dies at once, the signalled
    thread's queued statement never reaches the destination and there is no notice; on the current order the same
    schedule, signal and split give the full outcome -/
theorem C07_neg_id_cleared_before_stop :
    (let a := (CS.init { queue := [.stmt 1], written := [.stmt 0] }).run stopSeqIdFirst true [.stopper, .stopper]
     a.serving = true ∧ a.ended = false ∧
     signalDuringStop true true true .segv false a a = ({ queue := [.stmt 1], written := [.stmt 0] }, .diedBy .segv)) ∧
    (let a := (CS.init { queue := [.stmt 1], written := [.stmt 0] }).run stopSeqCurrent true [.stopper, .stopper]
     signalDuringStop true true true .segv false a a =
       ({ queue := [], written := [.stmt 0, .stmt 1, .notice, .critical] }, .diedBy .segv)) := by
  decide +kernel

/-- the interleaving theorems above are about the code whose handler waits for ever (extracted:
    `flushEndsWhenBackendGone = false`; `Obligations.C07_signal_during_stop_extracted_flush`) -/
theorem C07_stop_model_waits_for_ever (wait info crit : Bool) (s : Sig) (pr : Bool) (a b : CS) :
    signalDuringStopG false wait info crit s pr a b = signalDuringStop wait info crit s pr a b := rfl

/-- with the candidate repair of F27 (`findings/F27_candidate_repair.diff`: the handler's wait ends when the backend thread
    is gone), at **every** interleaving point inside `stop()` the process ends the way the property asks for (by the
    signal; `exit(0)` for SIGINT/SIGTERM) — no hang; before the backend's last look nothing changes; after it the lines
    already in the destination stay and the notice(s) are what remains lost -/
theorem C07_F27_repair_never_hangs (wait info crit : Bool) (s : Sig) (pr : Bool) (f : Fe) (pre mid : List Ev) :
    let a := (CS.init f).run stopSeqCurrent wait pre
    let b := a.run stopSeqCurrent wait mid
    a.pc < 6 →
    (signalDuringStopG true wait info crit s pr a b).2 = (if s.graceful then .exit0 else .diedBy s) ∧
    (b.serving = true → signalDuringStopG true wait info crit s pr a b = signalDuringStop wait info crit s pr a b) ∧
    (b.serving = false → (signalDuringStopG true wait info crit s pr a b).1.written = b.fe.written) := by
  intro a b ha
  have hid := (CS.idSet_iff_pc wait _ pre).mpr ha
  rw [signalDuringStop_of_idSet _ _ _ _ _ _ _ hid, signalDuringStopG_of_idSet _ _ _ _ _ _ _ _ hid, exec_frontend_env, exec_frontend_env]
  cases hb : b.serving
  · exact ⟨rfl, fun h => (Bool.false_ne_true h).elim, fun _ => rfl⟩
  · exact ⟨rfl, fun _ => rfl, fun h => (Bool.false_ne_true h.symm).elim⟩

/-- the F27 witness under the repair: death by SIGSEGV instead of the hang; the notices stay queued -/
example : (let a := (CS.init { queue := [], written := [.stmt 0] }).run stopSeqCurrent true [.stopper, .stopper, .bgLastCheck]
    signalDuringStopG true true true true .segv false a a) = ({ queue := [.notice, .critical], written := [.stmt 0] }, .diedBy .segv) := by
  decide +kernel

/-- **every class**: on a frontend thread — whether it has logged before or not — the handler enqueues the notice(s) on
    that thread's own queue behind whatever that thread had queued, flushes, and the process ends by the signal
    (`exit(0)` for SIGINT/SIGTERM); on the backend thread nothing is logged or flushed and the process ends at once -/
theorem C07_kill_outcome_by_receiver (e : Env) (hrun : e.backendRunning = true) (s : Sig) (pr : Bool) (r : Receiver) (own : Fe) :
    killOutcome e s pr r own =
      match r with
      | .backend => if s.graceful then (if e.waitOnExit then own.drain else own, .exit0) else (own, .diedBy s)
      | _ => ({ queue := [], written := own.written ++ own.queue ++ notices e s }, if s.graceful then .exit0 else .diedBy s) := by
  cases r with
  | backend =>
    have h := C07_backend_or_no_backend_outcome e (Receiver.ctx .backend s pr) own rfl (Or.inr rfl) rfl
    simpa [killOutcome, Receiver.ctx, hrun] using h
  | logged => exact exec_frontend e s pr own hrun
  | neverLogged => exact exec_frontend e s pr own hrun

example : killOutcome { backendRunning := true } .segv false .backend { queue := [.stmt 0], written := [] } =
    ({ queue := [.stmt 0], written := [] }, .diedBy .segv) := by decide +kernel

/-- **what the property promises**: if every thread that does not block the signal has logged before, then whichever of
    them the kernel chooses, that thread's earlier statements are in the destination followed by the notice(s), nothing
    of it stays queued, and the process dies by the signal (exits successfully for SIGINT/SIGTERM) -/
theorem C07_kill_whichever_logged_thread (e : Env) (hrun : e.backendRunning = true) (s : Sig) (pr : Bool) (ts : List Thr)
    (hall : ∀ t ∈ ts, t.blocked = false → t.cls = .logged) (r : Receiver) (hr : r ∈ candidates ts)
    (earlier : List Nat) (w q : List Item) (hsplit : w ++ q = earlier.map Item.stmt) :
    killOutcome e s pr r { queue := q, written := w } =
      ({ queue := [], written := earlier.map Item.stmt ++ notices e s }, if s.graceful then .exit0 else .diedBy s) := by
  have hl : r = .logged := by
    simp only [candidates, List.mem_map, List.mem_filter, Bool.not_eq_true'] at hr
    obtain ⟨t, ⟨ht, hb⟩, rfl⟩ := hr
    exact hall t ht hb
  subst hl
  rw [C07_kill_outcome_by_receiver e hrun s pr .logged, hsplit]

example : candidates [⟨.logged, false⟩, ⟨.backend, true⟩, ⟨.logged, false⟩, ⟨.neverLogged, true⟩] = [.logged, .logged] := by decide +kernel

/-- a thread that never logged: the handler's first log call creates its context; the destination gets the notice(s)
    and the process ends as for any frontend thread — nothing of that thread existed to be lost (outside the premise
    "a thread that has logged before"; the creation of the queue inside the handler is not async-signal-safe, which the
    model cannot show) -/
theorem C07_kill_never_logged_thread (e : Env) (hrun : e.backendRunning = true) (s : Sig) (pr : Bool) :
    killOutcome e s pr .neverLogged {} = ({ queue := [], written := notices e s }, if s.graceful then .exit0 else .diedBy s) := by
  rw [C07_kill_outcome_by_receiver e hrun s pr .neverLogged]; simp

/-- the backend thread inherits a mask with every signal blocked (order of `start` with the handler, extracted:
    `shStartOrder`): as long as no user code on that thread unblocks it, the kernel never chooses it; and a signal
    that every thread blocks is delivered to nobody (it stays pending) -/
theorem C07_kill_candidates (ts : List Thr) :
    ((∀ t ∈ ts, t.cls = .backend → t.blocked = true) → Receiver.backend ∉ candidates ts) ∧
    ((∀ t ∈ ts, t.blocked = true) → candidates ts = []) := by
  constructor
  · intro h hm
    simp only [candidates, List.mem_map, List.mem_filter, Bool.not_eq_true'] at hm
    obtain ⟨t, ⟨ht, hb⟩, hc⟩ := hm
    have := h t ht hc
    rw [hb] at this; cases this
  · intro h
    simp only [candidates, List.map_eq_nil_iff, List.filter_eq_nil_iff, Bool.not_eq_true', Bool.not_eq_false]
    intro t ht
    simpa using h t ht

end Exit
