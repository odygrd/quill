import QuillModel.Spsc.Wrap
/-!
# C09 (queue level) — no stall on a drained queue

"Once the backend has consumed what was ahead of it, the reservation succeeds; a producer is never left
waiting while its queue is empty." At the level of the bounded queue this is: in every reachable state in
which the consumer has finished every record written (`rpos = wpos`), its `commit_read` publishes that
position, and a producer reload that returns the newest published value is followed by a grant for every
`0 < n ≤ cap`. This needs `commit_read` to publish on drain (`drainPublish`, extracted from the header);
with the pinned batching-only rule the statement is false (`C09_batch_only_stalls`, finding F3).
The end-to-end half (retry loop of the blocking log call against backend polls) is in the backend model.
-/
namespace Spsc

/-- in a drained state the consumer's cached writer position equals its reader position, so the drain rule fires -/
theorem publishes_of_drained (o : Params) (hdp : o.drainPublish = true) (s : St) (h : QInv s)
    (hd : s.rpos = s.wpos) : publishes o s = true := by
  have hwc : s.wcache = s.rpos := Nat.le_antisymm (hd ▸ h.wcache_le_wpos) h.rw
  simp [publishes, hdp, hwc]

theorem drained_publishes (o : Params) (hdp : o.drainPublish = true) (s : St) (h : QInv s)
    (hd : s.rpos = s.wpos) : (cppCommitRead o s).rHist.headD 0 = s.wpos := by
  simp [cppCommitRead, step, publishes_of_drained o hdp s h hd, hd]

theorem drained_grants_of_inv (o : Params) (hdp : o.drainPublish = true) (s : St) (h : QInv s)
    (hd : s.rpos = s.wpos) (n : Nat) (hn0 : 0 < n) (hn : n ≤ s.cap) :
    Enabled (cppCommitRead o s) (.reloadR ((cppCommitRead o s).rHist.headD 0)) ∧
    Enabled (step o (cppCommitRead o s) (.reloadR ((cppCommitRead o s).rHist.headD 0))) (.write n) := by
  have hs1 : cppCommitRead o s = { s with rHist := s.rpos :: s.rHist } := by
    simp [cppCommitRead, step, publishes_of_drained o hdp s h hd]
  rw [hs1]
  simp only [List.headD_cons, Enabled, step]
  refine ⟨⟨List.mem_cons_self .., h.rc_le_rpos⟩, hn0, ?_⟩
  rw [hd, Nat.sub_self]; exact hn

/-- **C09, queue level.** Drained queue, consumer commits, producer reloads the newest published value:
    every request up to the capacity is granted. -/
theorem C09_drained_grants (o : Params) (ho : OrdersOK o) (hdp : o.drainPublish = true)
    (cap batch : Nat) (hc : 0 < cap) (ops : List Op) (hr : Run o (init cap batch) ops)
    (hd : (run o (init cap batch) ops).rpos = (run o (init cap batch) ops).wpos) (n : Nat)
    (hn0 : 0 < n) (hn : n ≤ cap) :
    Enabled (cppCommitRead o (run o (init cap batch) ops))
      (.reloadR ((cppCommitRead o (run o (init cap batch) ops)).rHist.headD 0)) ∧
    Enabled (step o (cppCommitRead o (run o (init cap batch) ops))
      (.reloadR ((cppCommitRead o (run o (init cap batch) ops)).rHist.headD 0))) (.write n) :=
  drained_grants_of_inv o hdp _ (reachable_inv o ho ops _ (init_inv cap batch hc) hr) hd n hn0
    (by rw [run_cap]; exact hn)

/-- **The pinned `commit_read` (batching only) stalls** (finding F3): capacity 64, batch 3; one 2-byte
    record written, committed, read and `commit_read` called; the queue is empty, the producer reloads the
    newest published value, and a 63-byte request (≤ capacity) is still refused. (No later step can help:
    the consumer has nothing to read, so nothing more is published; the theorem states the refusal in this
    state only.) -/
theorem C09_batch_only_stalls :
    let o : Params := { wStore := .release, wLoad := .acquire, rStore := .release, rLoad := .acquire,
                        drainPublish := false }
    let sched : List Op := [.write 2, .commitW, .loadW 2, .read 2, .commitR false, .reloadR 0]
    Run o (init 64 3) sched ∧ (run o (init 64 3) sched).rpos = (run o (init 64 3) sched).wpos ∧
      (run o (init 64 3) sched).rHist.headD 0 = 0 ∧ ¬ Enabled (run o (init 64 3) sched) (.write 63) := by
  decide +kernel

/-- non-vacuity of `C09_drained_grants`: a drained reachable state exists -/
example : let o : Params := { wStore := .release, wLoad := .acquire, rStore := .release, rLoad := .acquire,
                              drainPublish := true }
    Run o (init 64 3) [.write 2, .commitW, .loadW 2, .read 2] ∧
    (run o (init 64 3) [.write 2, .commitW, .loadW 2, .read 2]).rpos =
      (run o (init 64 3) [.write 2, .commitW, .loadW 2, .read 2]).wpos := by decide +kernel

end Spsc
