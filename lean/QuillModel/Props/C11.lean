import QuillModel.Codec.Alloc
/-!
# C11 — a steady-state log call neither allocates nor formats on the calling thread

Property theorems (helpers: `QuillModel/Codec/Alloc.lean`). The object is `logCall` of `Codec/Model.lean`: one
`LoggerImpl::log_statement` on the calling thread — context look-up, size pass (with the size cache), `prepare_write`,
encode pass — emitting `Event`s for everything that allocates or runs user code. Quantifiers: every frame, every
frontend state (registered or not, any cache content/capacity, any queue occupancy/capacity/limit), every well-formed
argument list, dynamic level or not.

**partial** — what the model can see is the code of `log_statement`, `Codec<T>`, `InlinedVector` and the queue as
modelled. A temporary inside libstdc++/libfmt, or one introduced by a rewrite of the C++ (say a `std::string` built in
`log_statement`), is invisible here; only the measured correspondence (harness `h5_alloc`: interposed `operator new`,
`malloc` family and `mmap`, counted on the calling thread inside each real log call and compared with the counts these
definitions predict) can see it, and that is testing.
-/
namespace Codec

/-- the reallocations of the size cache during the size pass of a statement, as `Event`s -/
def cacheEvents (c : Cache) (args : List Arg) : List Event :=
  (growSteps c.cap (startCache c args).data.length (lensL args).length).map Event.cacheGrow

/-- **the allocation events of a log call are exactly these.** Grouped by source (an argument's events of both passes
    stand together, after the queue's — not the interleaving of the run): creation of the thread context on
    the thread's first call; one `cacheGrow` per doubling of the `InlinedVector` (computed by `growSteps` from the
    capacity, the live entries after the clearing rule and the number of lengths the statement caches); the queue's
    reaction to `prepare_write(total)`; and the user code the arguments themselves bring (`argEventsL`: the
    `fs::path` temporary, the copy constructor of a non trivially copyable deferred-format object, the formatter of a
    direct-format object, the converting copy of a map element where the codec makes one — finding F16). Nothing else. -/
theorem C11_events_exact (f : Frame) (fe : Frontend) (args : List Arg) (dyn : Bool) (h : wfL args = true) :
    (logCall f fe args dyn).1 =
      (if fe.registered then [] else [Event.ctxCreate]) ++ cacheEvents fe.cache args ++
      (fe.queue.reserve (reserved f fe.cache args dyn)).1 ++ argEventsL args := by
  have hs := sizeStatement_spec (fun _ => 0) fe.cache args 0 h
  have hg := (pushAll_grown (lensL args) (startCache fe.cache args)).1
  have hc := startCache_cap fe.cache args
  unfold logCall cacheEvents reserved
  simp only [hs, hg, hc.1, hc.2, List.drop_left]

/-- **the size cache reallocates iff the statement caches more lengths than the vector's current capacity**
    (a statement that caches anything starts from a cleared vector) -/
theorem C11_cache_growth_iff (c : Cache) (args : List Arg) :
    cacheEvents c args = [] ↔ (lensL args).length ≤ c.cap ∨ lensL args = [] := by
  unfold cacheEvents
  rw [List.map_eq_nil_iff]
  rcases startCache_len c args with h0 | h0
  · rw [h0, growSteps_eq_nil _ _ _ (Nat.zero_le _)]
    constructor
    · rintro (h | h)
      · right; exact List.eq_nil_of_length_eq_zero h
      · left; omega
    · rintro (h | h)
      · right; omega
      · left; simp [h]
  · simp [h0, growSteps]

/-- the queue allocates iff the record does not fit the free space and growing stays within the limit -/
theorem C11_queue_growth_iff (q : Queue) (n : Nat) :
    (q.reserve n).1 ≠ [] ↔ (q.fits n = false ∧ growTo 64 (2 * q.cap) n ≤ q.maxCap) := by
  rw [Queue.reserve_events]
  by_cases h : q.fits n = false ∧ growTo 64 (2 * q.cap) n ≤ q.maxCap
  · rw [if_pos h]
    exact ⟨fun _ => h, fun _ => List.cons_ne_nil _ _⟩
  · rw [if_neg h]
    exact ⟨fun e => absurd rfl e, fun e => absurd e h⟩

/-- **steady state: no event at all.** With a registered context, no more cached lengths than the vector's capacity
    (`N` = 12 inline, or whatever an earlier statement grew it to), a record that fits the queue, and arguments of the
    listed types (arithmetic, enum, pointer, strings, C strings, char arrays, std containers / optional / pair / tuple
    of those, trivially copyable deferred-format types, `StringRef`), the call allocates nothing and runs no user
    code — for every such argument list, value and dynamic-level choice. -/
theorem C11_no_events (f : Frame) (fe : Frontend) (args : List Arg) (dyn : Bool) (h : wfL args = true)
    (hreg : fe.registered = true) (hcache : (lensL args).length ≤ fe.cache.cap)
    (hfit : fe.queue.fits (reserved f fe.cache args dyn) = true) (hl : listedL args = true) :
    (logCall f fe args dyn).1 = [] := by
  have hq : (fe.queue.reserve (reserved f fe.cache args dyn)).1 = [] :=
    (Queue.reserve_events _ _).trans (if_neg fun h => Bool.noConfusion (hfit.symm.trans h.1))
  rw [C11_events_exact f fe args dyn h, hreg, (C11_cache_growth_iff fe.cache args).mpr (Or.inl hcache),
    listedL_argEvents args hl, hq]
  rfl

/-- **the cache allocation is a one-off.** Whatever a call had to grow, the same statement (or any statement caching
    no more lengths) issued again finds the capacity in place: no `cacheGrow` event. -/
theorem C11_steady_state (f : Frame) (fe : Frontend) (args args' : List Arg) (dyn : Bool) (h : wfL args = true)
    (hc : 0 < fe.cache.cap) (hle : (lensL args').length ≤ (lensL args).length) :
    cacheEvents (logCall f fe args dyn).2.cache args' = [] := by
  rw [C11_cache_growth_iff]
  exact .inl (Nat.le_trans hle (logCall_cache_cap f fe args dyn h hc).2)

/-- **formatter calls on the caller.** The number of `fmt::formatter` invocations a log call makes on the calling
    thread is twice the number of direct-format arguments (once in `formatted_size` during the size pass, once in
    `format_to_n` during the encode pass — what `DirectFormatCodec` does); … -/
theorem C11_formatter_calls (f : Frame) (fe : Frontend) (args : List Arg) (dyn : Bool) (h : wfL args = true) :
    (((logCall f fe args dyn).1).filter isFormat).length = 2 * countDirectL args := by
  rw [C11_events_exact f fe args dyn h]
  simp only [count_append, format_countL]
  have h1 : ((if fe.registered then [] else [Event.ctxCreate]).filter isFormat).length = 0 := by
    cases fe.registered <;> rfl
  have h2 : ((cacheEvents fe.cache args).filter isFormat).length = 0 := by
    unfold cacheEvents
    -- `isFormat (.cacheGrow x)` computes to `false`: each step of the induction is its hypothesis
    induction growSteps fe.cache.cap (startCache fe.cache args).data.length (lensL args).length with
    | nil => rfl
    | cons x xs ih => exact ih
  have h3 : (((fe.queue.reserve (reserved f fe.cache args dyn)).1).filter isFormat).length = 0 := by
    rw [Queue.reserve_events]
    split <;> rfl
  omega

/-- … in particular a statement without direct-format arguments — deferred-format user types of either kind included —
    runs no formatter on the calling thread: its arguments are copied (`memcpy` / placement copy) and formatted by
    the backend. -/
theorem C11_deferred_no_format (f : Frame) (fe : Frontend) (args : List Arg) (dyn : Bool) (h : wfL args = true)
    (hd : countDirectL args = 0) : ∀ e ∈ (logCall f fe args dyn).1, e ≠ Event.formatCall := by
  intro e he hc
  have hcount := C11_formatter_calls f fe args dyn h
  rw [hd] at hcount
  have : e ∈ ((logCall f fe args dyn).1).filter isFormat := List.mem_filter.mpr ⟨he, by simp [isFormat, hc]⟩
  have hnil := List.eq_nil_of_length_eq_zero (by omega : (((logCall f fe args dyn).1).filter isFormat).length = 0)
  rw [hnil] at this
  exact absurd this List.not_mem_nil

/-- **twelve C strings, next to anything that is not a string.** A statement whose arguments are variable-length C
    strings (`char const*`, `char*`, `char[N]`) and arguments that take no slot — arithmetic/enum/pointer values,
    `std::string`/`string_view`, deferred-format objects, and `std::vector`/`deque`/`list`/`set`/`map`/`array`/
    `optional`/`pair`/`tuple` of such, nested arbitrarily (`slotFree`: no C string inside, no container that caches
    its element count) — caches exactly one length per C string; so with at most as many C strings as the vector's
    capacity (twelve inline) the size cache does not reallocate, however many other arguments there are. -/
theorem C11_cstr_budget (c : Cache) (args : List Arg)
    (h : args.all (fun a => cstrLike a || slotFree a) = true) (hk : countCStr args ≤ c.cap) :
    (lensL args).length = countCStr args ∧ cacheEvents c args = [] := by
  have hl := budget_length args h
  exact ⟨hl, (C11_cache_growth_iff c args).mpr (Or.inl (by omega))⟩

/-- a container of the budget's table (`specKind`: every family but `forward_list`) whose elements take no slot takes
    no slot itself — `std::list<int>` next to twelve C strings costs nothing; `forward_list` costs one -/
theorem C11_container_slots (name : String) (ki : KindInfo) (es : Shape) (elems : List Arg)
    (he : slotFreeL elems = true) :
    slotFree (.seq (specKind name ki) es elems) = !specPushCount name ∧
    (lens (.seq (specKind name ki) es elems)).length = if specPushCount name then 1 else 0 := by
  have gen : ∀ k : KindInfo, (lens (.seq k es elems)).length = if k.pushCount then 1 else 0 := by
    intro k
    dsimp only [lens]
    rw [slotFreeL_lens elems he, ite_self, List.append_nil]
    split <;> rfl
  exact ⟨by simp [slotFree, specKind, he], gen (specKind name ki)⟩

/-- after a backend pass that consumed everything, with the reader position published on drain, a record fits iff
    it does not exceed the capacity of the thread's current buffer -/
theorem C11_drained_fits_iff (q : Queue) (pct n : Nat) : (q.drain true pct).fits n = true ↔ n ≤ q.cap := by
  simp [Queue.fits, Queue.drain]

/-- **a statement that fits the thread's current queue buffer does not allocate once the backend has drained the
    queue** — after *any* history of log calls and backend passes on that thread (records of any size, any number of
    them unpublished in between) that ends with a pass consuming everything: registered context, no more cached
    lengths than the vector's capacity, listed argument types, `total_size ≤ capacity` ⇒ no event at all. -/
theorem C11_no_events_after_drain (f : Frame) (fe : Frontend) (ops : List FOp) (pct : Nat) (args : List Arg)
    (dyn : Bool) (h : wfL args = true) (hreg : fe.registered = true)
    (hcache : (lensL args).length ≤ (Frontend.run f true pct fe (ops ++ [.drain])).cache.cap)
    (hfit : reserved f (Frontend.run f true pct fe (ops ++ [.drain])).cache args dyn ≤
              (Frontend.run f true pct fe (ops ++ [.drain])).queue.cap)
    (hl : listedL args = true) :
    (logCall f (Frontend.run f true pct fe (ops ++ [.drain])) args dyn).1 = [] :=
  C11_no_events f _ args dyn h (run_registered f true pct _ fe hreg) hcache (fits_after_drain f pct fe ops _ hfit) hl

/-- **Steady state, lifted to a thread's whole history.** `C11_no_events` is about one call in a state
    that satisfies three hypotheses; this theorem discharges them from the property's own premise. Take **any** thread
    history `ops` (log calls with any well-formed arguments — allocating ones included — interleaved with backend drains)
    from any frontend state whose size cache has at least the inline capacity `N` (12, extracted), such that the thread is
    past its first log call (`ops` contains a log call) or was registered by `preallocate()` (`fe0.registered`); let the
    backend drain once more. Then a statement of the listed argument types with at most `N` cached lengths (twelve C
    strings) whose record fits the capacity of the thread's *current* queue buffer allocates nothing and runs no user
    code: the context stays registered, the cache capacity never shrinks below `N`, and a drained queue grants every
    record up to its capacity. -/
theorem C11_steady_state_after_any_history (f : Frame) (fe0 : Frontend) (ops : List FOp) (pct N : Nat)
    (args : List Arg) (dyn : Bool) (h : wfL args = true) (hops : ∀ op ∈ ops, op.wf = true)
    (hN : 0 < N) (hcap0 : N ≤ fe0.cache.cap)
    (hfirst : fe0.registered = true ∨ ops.any FOp.isLog = true)
    (hl : listedL args = true) (hk : (lensL args).length ≤ N)
    (hfit : reserved f (Frontend.run f true pct fe0 (ops ++ [.drain])).cache args dyn ≤
              (Frontend.run f true pct fe0 (ops ++ [.drain])).queue.cap) :
    (logCall f (Frontend.run f true pct fe0 (ops ++ [.drain])) args dyn).1 = [] := by
  have hreg : (Frontend.run f true pct fe0 (ops ++ [.drain])).registered = true :=
    run_registered_of_log f true pct _ fe0 (hfirst.imp id (fun h => by simp [h]))
  have hcap : fe0.cache.cap ≤ (Frontend.run f true pct fe0 (ops ++ [.drain])).cache.cap :=
    run_cache_cap f true pct _ fe0 (fun op ho => by
      rcases List.mem_append.mp ho with h1 | h1
      · exact hops op h1
      · simp at h1; subst h1; rfl) (by omega)
  exact C11_no_events f _ args dyn h hreg (by omega) (fits_after_drain f pct fe0 ops _ hfit) hl

/-- **the fuel of `growTo` suffices**: the model's rendering of `while (capacity < n) capacity *= 2` runs
    64 doublings from `2·cap`; for every request up to `cap · 2^65` — beyond any `size_t` for `cap ≥ 1` — the loop exits
    on its own condition, so `C11_queue_growth_iff` / `C11_oversize_allocates` never speak about a capacity that is too
    small because the fuel ran out. -/
theorem C11_growTo_fuel_suffices (cap n : Nat) (h : n ≤ cap * 2 ^ 65) : n ≤ growTo 64 (2 * cap) n :=
  growTo_ge 64 (2 * cap) n (by rw [two_mul_mul_two_pow]; exact h)

/-- a record larger than the buffer's capacity cannot be granted by the current node: the queue allocates (when the
    limit allows) whatever has been consumed -/
theorem C11_oversize_allocates (q : Queue) (n : Nat) (hn : q.cap < n) (hmax : growTo 64 (2 * q.cap) n ≤ q.maxCap) :
    (q.reserve n).1 = [.queueGrow (growTo 64 (2 * q.cap) n)] := by
  have hf : q.fits n = false := by simp [Queue.fits]; omega
  rw [Queue.reserve_events, if_pos ⟨hf, hmax⟩]

/-- **why `commit_read` must publish on drain** (proved negation for the batched-only rule, concrete witness on the
    default 128 KiB queue): three 36-byte records, each consumed by a complete backend pass, leave 108 consumed but
    unpublished bytes (the 5 % batch threshold is 6553); a record of `capacity − 8` bytes then does not fit what the
    producer can see and the *empty* queue allocates a 256 KiB node on the calling thread. With the publish-on-drain
    clause (obligation `alloc_drain_publishes`) the same history allocates nothing. -/
theorem C11_drain_without_publish_allocates :
    let q0 : Queue := { cap := 131072, used := 0, maxCap := 2147483648 }
    let hist (pub : Bool) : Queue :=
      ((((((q0.reserve 36).2.getD q0).drain pub 5).reserve 36).2.getD q0).drain pub 5 |>.reserve 36).2.getD q0 |>.drain pub 5
    (hist false).used = 108 ∧ ((hist false).reserve 131064).1 = [.queueGrow 262144] ∧
    (hist true).used = 0 ∧ ((hist true).reserve 131064).1 = [] ∧ ((hist true).reserve 131072).1 = [] ∧
    ((hist true).reserve 131073).1 = [.queueGrow 262144] := by decide +kernel

/-- `std::map` / `std::unordered_map` as found in the pinned tree (`pairTemp`), and as repaired -/
def kiMapPinned : KindInfo :=
  { hasPrefix := true, fastSize := true, fastEncode := false, pushCount := false, mapLike := true, pairTemp := true }
def kiMapRepaired : KindInfo := { kiMapPinned with pairTemp := false }

/-- a one-element `std::map<std::string, int32_t>` -/
def mapStringInt (ki : KindInfo) : Arg :=
  .seq ki (.pair .str (.prim .arith 4)) [.pair (.str [107, 101, 121]) (.prim .arith [1, 0, 0, 0])]

/-- **C11 is false of the pinned map codecs** (proved negation, concrete witness): on a registered thread, with no
    cached length at all and a record that fits, logging a `std::map<std::string,int>` copies the element — key
    included — once per pass. The full statement "containers of the listed types never allocate" therefore carries the
    decidable hypothesis `listed` (which excludes exactly the map families with a non trivially copyable element while
    `pairTemp` holds); the harness runs the excluded point on the real code. -/
theorem C11_map_pair_temporary_allocates :
    (logCall { tsBytes := 8, ptrBytes := 8, nPtrs := 3, lvlBytes := 1 }
      { registered := true, cache := Cache.init 12, queue := { cap := 131072, used := 0, maxCap := 2147483648 } }
      [mapStringInt kiMapPinned] false).1 = [Event.pairCopy, Event.pairCopy] ∧
    listed (mapStringInt kiMapPinned) = false ∧
    (logCall { tsBytes := 8, ptrBytes := 8, nPtrs := 3, lvlBytes := 1 }
      { registered := true, cache := Cache.init 12, queue := { cap := 131072, used := 0, maxCap := 2147483648 } }
      [mapStringInt kiMapRepaired] false).1 = [] ∧
    listed (mapStringInt kiMapRepaired) = true := by decide +kernel

/-- once no container copies its elements (`pairTemp = false` everywhere: obligation `alloc_no_pair_temporaries`),
    `listed` no longer depends on the container kind: maps of strings are covered by `C11_no_events` like any other
    container -/
theorem C11_listed_of_no_pair_temporaries (ki : KindInfo) (es : Shape) (elems : List Arg) (h : ki.pairTemp = false) :
    listed (.seq ki es elems) = listedL elems := by
  simp [listed, copiesPairs, h]

def frame0 : Frame := { tsBytes := 8, ptrBytes := 8, nPtrs := 3, lvlBytes := 1 }
def warm : Frontend := { registered := true, cache := Cache.init 12, queue := { cap := 131072, used := 0, maxCap := 2147483648 } }
def cold : Frontend := { warm with registered := false }
def kiVec : KindInfo := { hasPrefix := true, fastSize := true, fastEncode := true, pushCount := false, mapLike := false, pairTemp := false }

/-- twelve C strings, a `std::string`, a `vector<string>` and a POD on a warm thread: nothing -/
example : (logCall frame0 warm (List.replicate 12 (.cstr (some [65, 66])) ++
    [.str [1, 2, 3], .seq kiVec .str [.str [4]], .pod [0, 0, 0, 0]]) true).1 = [] := by decide +kernel
/-- the thirteenth C string grows the vector once (12 → 24); the same statement again finds the room -/
example : (logCall frame0 warm (List.replicate 13 (.cstr none)) false).1 = [.cacheGrow 24] ∧
    (logCall frame0 (logCall frame0 warm (List.replicate 13 (.cstr none)) false).2 (List.replicate 13 (.cstr none)) false).1 = [] := by
  decide +kernel
/-- first call of a thread; a record larger than the free space of a 128 KiB queue; a direct-format argument -/
example : (logCall frame0 cold [.prim .arith [1, 0, 0, 0]] false).1 = [.ctxCreate] := by decide +kernel
example : (logCall frame0 { warm with queue := { cap := 1024, used := 1000, maxCap := 4096 } } [.str (List.replicate 100 65)] false).1 =
    [.queueGrow 2048] := by decide +kernel
example : (logCall frame0 warm [.direct [104, 105], .nonpod 8 [0, 0, 0, 0, 0, 0, 0, 0]] false).1 =
    [.formatCall, .formatCall, .userCopy] := by decide +kernel

/-- twelve C strings (a null pointer and an unterminated `char[3]` among them) next to a `std::list<int32_t>`, a
    `vector<string>`, an engaged optional and a pair: twelve cached lengths, no reallocation at the inline capacity —
    and a `forward_list<int32_t>` in place of the list is the thirteenth slot -/
def kiListSpec : KindInfo := specKind "list" { hasPrefix := true, fastSize := true, fastEncode := false, pushCount := false, mapLike := false, pairTemp := false }
def kiFwdSpec : KindInfo := specKind "forward_list" { hasPrefix := true, fastSize := false, fastEncode := false, pushCount := false, mapLike := false, pairTemp := false }
def twelveCStr : List Arg := List.replicate 10 (.cstr (some [65, 66])) ++ [.cstr none, .carr [120, 121, 122]]
example : (twelveCStr ++ [Arg.seq kiListSpec (.prim .arith 4) [.prim .arith [1, 0, 0, 0], .prim .arith [2, 0, 0, 0]],
      .seq kiVec .str [.str [4]], .optSome (.prim .arith [1]), .pair (.prim .arith [1]) (.str [2])]).all
        (fun a => cstrLike a || slotFree a) = true := by decide +kernel
example : (logCall frame0 warm (twelveCStr ++ [Arg.seq kiListSpec (.prim .arith 4) [.prim .arith [1, 0, 0, 0]]]) false).1 = [] ∧
    (logCall frame0 warm (twelveCStr ++ [Arg.seq kiFwdSpec (.prim .arith 4) [.prim .arith [1, 0, 0, 0]]]) false).1 = [.cacheGrow 24] ∧
    (logCall frame0 warm [Arg.seq kiListSpec .cstr (List.replicate 12 (.cstr (some [65])))] false).1 = [] ∧
    (logCall frame0 warm [Arg.seq kiListSpec .cstr (List.replicate 13 (.cstr (some [65])))] false).1 = [.cacheGrow 24] := by
  decide +kernel
/-- `C11_no_events_after_drain` on a history: first call, two small records each drained, an undrained one, a drain -/
example : (logCall frame0 (Frontend.run frame0 true 5 cold
      ([.log [.prim .arith [1, 0, 0, 0]] false, .drain, .log [.cstr (some [65])] true, .drain, .log [.str [1, 2]] false] ++ [.drain]))
      [.str (List.replicate 40 113)] false).1 = [] := by decide +kernel
/-- an undrained record counts: 100 bytes in a 128-byte queue, the next 50-byte record allocates; after a drain it fits -/
example : (logCall frame0 (Frontend.run frame0 true 5 { warm with queue := { cap := 128, used := 0, maxCap := 4096 } }
      [.log [.str (List.replicate 64 113)] false]) [.str (List.replicate 14 113)] false).1 = [.queueGrow 256] ∧
    (logCall frame0 (Frontend.run frame0 true 5 { warm with queue := { cap := 128, used := 0, maxCap := 4096 } }
      [.log [.str (List.replicate 64 113)] false, .drain]) [.str (List.replicate 14 113)] false).1 = [] := by decide +kernel

/-- a cold thread with a 64-byte queue; history: the first call (creates the context), a 13-C-string statement that grows
    the size cache (12 → 24) and the queue, a drain, a 96-byte record that grows the queue again, an undrained record -/
def c11Fe0 : Frontend := { registered := false, cache := Cache.init 12, queue := { cap := 64, used := 0, maxCap := 4096 } }
def c11Hist : List FOp :=
  [.log [.prim .arith [1, 0, 0, 0]] false, .log (List.replicate 13 (.cstr none)) false, .drain,
   .log [.str (List.replicate 60 65)] false, .log [.str [1, 2]] true]

/-- non-vacuity of `C11_steady_state_after_any_history`: every hypothesis holds for this history (which itself allocated
    three times) and the next twelve-C-string statement is silent -/
example :
    (∀ op ∈ c11Hist, op.wf = true) ∧ c11Hist.any FOp.isLog = true ∧ 12 ≤ c11Fe0.cache.cap ∧
    listedL twelveCStr = true ∧ (lensL twelveCStr).length ≤ 12 ∧
    (Frontend.run frame0 true 5 c11Fe0 (c11Hist ++ [.drain])).queue.cap = 256 ∧
    (Frontend.run frame0 true 5 c11Fe0 (c11Hist ++ [.drain])).cache.cap = 24 ∧
    reserved frame0 (Frontend.run frame0 true 5 c11Fe0 (c11Hist ++ [.drain])).cache twelveCStr false = 67 ∧
    (logCall frame0 (Frontend.run frame0 true 5 c11Fe0 (c11Hist ++ [.drain])) twelveCStr false).1 = [] := by
  decide +kernel

end Codec
