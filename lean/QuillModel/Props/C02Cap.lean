import QuillModel.Props.C02
import QuillModel.MathUtil.Ctor
/-!
# C02 — the capacities the unbounded queue computes are the model's, for every request

`UnboundedSPSCQueue(initial, max)` builds its first node with `next_power_of_two(initial)`; `_handle_full_queue`
doubles in 64-bit arithmetic; `shrink(c)` builds a node of `next_power_of_two(c)`. The C02 theorems are stated over
unbounded naturals (`Uspsc.growDecision`, `Uspsc.nextPow2`, any `0 < cap`). Here: the 64-bit computations coincide
with them on every node capacity up to `2^62` and every record up to `2^63` bytes, and what happens beyond.
-/
namespace MathUtil
open Uspsc

/-- chain safety for the first node the constructor builds, whatever initial capacity was requested -/
theorem C02_any_requested_initial_capacity (req : Nat) (o : UParams) (ho : UOrdersOK o) (batch : Nat → Nat)
    (ops : List UOp) (hr : URun o (uinit (nextPow2W 64 req) batch) ops) (op : UOp)
    (he : UEnabled o (urun o (uinit (nextPow2W 64 req) batch) ops) op) :
    USafe (urun o (uinit (nextPow2W 64 req) batch) ops) op := by
  obtain ⟨j, _, hc⟩ := nextPow2W_pow2 (w := 64) (by decide) req
  exact C02_reachable_safe o ho _ batch (by rw [hc]; exact Nat.two_pow_pos j) ops hr op he

/-- every node capacity is `2^j`, `j ≤ 63` -/
theorem C02_node_capacity_pow2 (req : Nat) : ∃ j, j ≤ 63 ∧ nextPow2W 64 req = 2 ^ j :=
  nextPow2W_pow2 (w := 64) (by decide) req

/-- the 64-bit `_handle_full_queue` decides exactly as `Uspsc.growDecision` (which `C02_alloc_within_cap`,
    `C02_throw_iff`, `C02_null`, `C02_null_means_at_max_partial` speak about) -/
theorem C02_grow_decision_is_model {j n maxCap : Nat} (hj : j ≤ 62) (hn : n ≤ 2 ^ 63) :
    handleFull (2 ^ j) n maxCap =
      match growDecision (2 ^ j) n maxCap with
      | .alloc c => .alloc c
      | .null => .null
      | .throw => .throw := handleFull_eq_growDecision hj hn

/-- `shrink(c)` allocates exactly when the model says so, with the model's capacity `Uspsc.nextPow2 c`, which is a
    power of two with `c ≤ · ≤ capacity/2` -/
theorem C02_shrink_is_model {j c : Nat} (hj1 : 1 ≤ j) (hj : j ≤ 63) :
    shrinkCap (2 ^ j) c = (if shrinkAllocates (2 ^ j) c then some (nextPow2 c) else none) ∧
    ∀ c', shrinkCap (2 ^ j) c = some c' → c ≤ c' ∧ c' ≤ 2 ^ j / 2 ∧ ∃ k, c' = 2 ^ k := by
  obtain ⟨i, rfl⟩ : ∃ i, j = i + 1 := ⟨j - 1, by omega⟩
  have hhalf : 2 ^ (i + 1) / 2 = 2 ^ i := by rw [Nat.pow_succ, Nat.mul_div_cancel _ (by decide)]
  have hsh : 2 ^ (i + 1) >>> 1 = 2 ^ i := by rw [Nat.shiftRight_eq_div_pow, Nat.pow_one, hhalf]
  simp only [shrinkCap, Uspsc.shrinkAllocates, hsh, hhalf]
  by_cases h : c > 2 ^ i
  · simp [h]
  · have h' := Nat.le_of_not_lt h
    have e := nextPow2W_eq_uspsc (w := 64) (by decide)
      (Nat.le_trans h' (Nat.pow_le_pow_right (by decide) (show i ≤ 64 - 1 by omega)))
    simp only [h, if_false, decide_false, Bool.not_false, if_true, e, Option.some.injEq, true_and]
    rintro c' rfl
    exact ⟨(nextPow2_isNext c).2.1, (nextPow2_le_iff c i).mpr h', (nextPow2_isNext c).1⟩

/-- Observation: a record above `2^63` bytes never leaves the doubling loop (`capacity` wraps to 0); no such record
    can be produced by a log statement (its size is that of objects in memory). -/
theorem C02_doubling_loop_hangs_above_2pow63 {j n maxCap : Nat} (hj : j ≤ 63) (hn : 2 ^ 63 < n) :
    handleFull (2 ^ j) n maxCap = .hang := by
  have : handleFullCap (2 ^ j) n = none := by
    simp only [handleFullCap]
    by_cases h63 : j = 63
    · subst h63
      rw [dbl64_top]; exact hfLoop_zero n (Nat.lt_trans (Nat.two_pow_pos 63) hn) _
    · have hj' : j < 63 := Nat.lt_of_le_of_ne hj h63
      rw [dbl64_pow hj']; exact hfLoop_hangs n hn _ (j + 1) hj'
  simp only [handleFull, this]

/-- Observation (consequence of F32): on a node of capacity `2^63` any refused reservation spins for ever. -/
theorem C02_doubling_loop_hangs_on_max_node {n maxCap : Nat} (hn : 0 < n) :
    handleFull (2 ^ 63) n maxCap = .hang := by
  have : handleFullCap (2 ^ 63) n = none := by
    simp only [handleFullCap]
    rw [dbl64_top]; exact hfLoop_zero n hn _
  simp only [handleFull, this]

/-- with the repaired node constructor `_handle_full_queue` never builds a node of capacity `2^63`: that growth throws -/
theorem C02_repaired_growth_below_2pow63 {cap n maxCap c : Nat} (h : handleFullR true cap n maxCap = .alloc c) :
    c < 2 ^ 63 := by
  simp only [handleFullR] at h
  split at h
  · rename_i c' _
    split at h
    · exact absurd h (by simp)
    · rename_i hr
      injection h with h
      subst h
      apply Nat.lt_of_not_le
      intro hge
      -- `c'` was produced by `nextPow2W 64 _` inside `handleFull`, but all we need is the rejection test itself
      by_cases hs : 2 ^ 63 ≤ c'
      · have : nextPow2W 64 c' = 2 ^ 63 := nextPow2W_sat (by decide) hs
        exact hr ((ctorRejects_iff 64 c').mpr (by omega))
      · omega
  · rename_i hx
    exact absurd h (hx c)

example : handleFull 1024 5000 (2 ^ 31) = .alloc 8192 ∧ handleFull 1024 5000 4096 = .throw ∧
    handleFull 2048 100 2048 = .null ∧ shrinkCap 4096 1000 = some 1024 ∧ shrinkCap 4096 3000 = none ∧
    handleFull (2 ^ 62) (2 ^ 63 + 1) (2 ^ 64 - 1) = .hang := by decide +kernel

end MathUtil
