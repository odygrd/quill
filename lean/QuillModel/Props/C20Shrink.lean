import QuillModel.Uspsc.Shrink
import QuillModel.Props.C02
/-!
# C20 (shrink half) / C02 (shrink path) — shrinking takes effect and loses nothing

"Shrinking a thread's queue on request takes effect (the capacity reported for that thread drops) without losing or
reordering statements." `Frontend::shrink_thread_local_queue(c)` calls `UnboundedSPSCQueue::shrink(c)`;
`Frontend::get_thread_local_queue_capacity()` reports `producer_capacity()` (the producer's node); the backend's
`capacity()` reads the consumer's node. Model: the node chain of `Uspsc/Model.lean`, `apiShrink` of `Uspsc/Api.lean`
(the micro-steps the correspondence driver executes for an `sh c` line), helpers in `Uspsc/Shrink.lean`.

Quantifiers: every state / every reachable state of the chain (any initial capacity `> 0`, any
batch rule), every schedule before and after the shrink (producer and consumer micro-steps, further growths and
shrinks, every legal stale load), every request `c`. Caller contract as in C02: `shrink` is called with every write
committed (that is the enabling condition of the `publish` step).
-/
namespace Uspsc

/-- **`nextPow2` is the least power of two `≥ n`, and its fuel is enough**: the result is a power of two, at least
    `n`, every power of two `≥ n` is at least the result, and running the loop with any larger fuel gives the same
    value (the loop stops on its own condition). (`nextPow2 0 = 1`, like `next_power_of_two(0)`.) -/
theorem C02_nextPow2_spec (n : Nat) :
    (∃ k, nextPow2 n = 2 ^ k) ∧ n ≤ nextPow2 n ∧ (∀ k, n ≤ 2 ^ k → nextPow2 n ≤ 2 ^ k) ∧
    (∀ fuel, n ≤ fuel → nextPow2.go n fuel 1 = nextPow2 n) :=
  ⟨(nextPow2_isNext n).1, (nextPow2_isNext n).2.1, (nextPow2_isNext n).2.2, fun f hf => nextPow2_go_fuel n f hf⟩

example : nextPow2 5 = 8 ∧ nextPow2 8 = 8 ∧ nextPow2 9 = 16 ∧ nextPow2 0 = 1 ∧ nextPow2 1 = 1 ∧
    nextPow2.go 5 1000 1 = 8 := by decide +kernel

/-- `apiShrink` has no loop of its own; the only fuel in it is `nextPow2`'s: with any fuel `≥ c` it publishes the
    same capacity -/
theorem C02_shrink_fuel_enough (s : US) (c fuel : Nat) (hf : c ≤ fuel) :
    apiShrink s c = if shrinkAllocates s.pnode.q.cap c
      then ([.publish (nextPow2.go c fuel 1)], .shrunk (nextPow2.go c fuel 1)) else ([], .noshrink) := by
  rw [nextPow2_go_fuel c fuel hf]; rfl

/-- the doubling loop of `_handle_full_queue` (`dbl`, fuel = the record size): any larger fuel gives the same
    capacity, so `growDecision` does not depend on it -/
theorem C02_dbl_fuel_enough {cap n fuel : Nat} (hcap : 0 < cap) (hf : n ≤ fuel) :
    dbl fuel (cap * 2) n = dbl n (cap * 2) n :=
  dbl_fuel (fuel_enough (Nat.mul_pos hcap (by decide)) hf) (fuel_enough (Nat.mul_pos hcap (by decide)) (Nat.le_refl n))

example : dbl 5000 (1024 * 2) 5000 = 8192 ∧ dbl 100000 (1024 * 2) 5000 = 8192 := by decide +kernel

/-- **A shrink request of at most half the capacity takes effect.** In every state whose producer node has capacity
    `≥ 2`, for every request `c ≤ capacity / 2`: `shrink c` performs exactly one publication, of a node of capacity
    `nextPow2 c`; afterwards `producer_capacity()` is `nextPow2 c`, which is at least the request and **strictly
    below the capacity reported before**; exactly one node was allocated, it is empty and the producer is on it; and
    the step is legal whenever every write has been committed (caller contract). -/
theorem C20_shrink_reported_capacity (o : UParams) (s : US) (c : Nat)
    (h2 : 2 ≤ producerCapacity s) (hc : c ≤ producerCapacity s / 2) :
    apiShrink s c = ([.publish (nextPow2 c)], .shrunk (nextPow2 c)) ∧
    producerCapacity (urun o s (apiShrink s c).1) = nextPow2 c ∧
    nextPow2 c < producerCapacity s ∧ c ≤ nextPow2 c ∧
    (urun o s (apiShrink s c).1).n = s.n + 1 ∧ (urun o s (apiShrink s c).1).pi = s.n ∧
    (urun o s (apiShrink s c).1).pnode.q.recs = [] ∧
    (s.pnode.q.wHist.headD 0 = s.pnode.q.wpos → URun o s (apiShrink s c).1) := by
  have e := apiShrink_alloc s c hc
  rw [e]
  refine ⟨rfl, ?_, nextPow2_lt_cap h2 hc, (nextPow2_isNext c).2.1, rfl, rfl, ?_, ?_⟩
  · show (ustep o s (.publish (nextPow2 c))).pnode.q.cap = _
    rw [publish_pnode]; rfl
  · show (ustep o s (.publish (nextPow2 c))).pnode.q.recs = _
    rw [publish_pnode]; rfl
  · intro hcm
    exact ⟨⟨nextPow2_pos c, hcm⟩, trivial⟩

/-- with a power-of-two capacity (every node quill allocates: `C02_node_capacity_pow2`) the new capacity is a power of
    two and at most **half** of the old one -/
theorem C20_shrink_at_most_half (o : UParams) (s : US) (j c : Nat) (hj : 1 ≤ j) (hcap : producerCapacity s = 2 ^ j)
    (hc : c ≤ producerCapacity s / 2) :
    producerCapacity (urun o s (apiShrink s c).1) ≤ producerCapacity s / 2 ∧
    ∃ k, k < j ∧ producerCapacity (urun o s (apiShrink s c).1) = 2 ^ k := by
  have h2 : 2 ≤ producerCapacity s := by
    rw [hcap]; exact Nat.le_trans (by decide : 2 ≤ 2 ^ 1) (Nat.pow_le_pow_right (by decide) hj)
  obtain ⟨_, hp, hlt, _⟩ := C20_shrink_reported_capacity o s c h2 hc
  rw [hp]
  rw [hcap] at hc hlt ⊢
  refine ⟨nextPow2_le_half hj hc, ?_⟩
  obtain ⟨k, hk⟩ := (nextPow2_isNext c).1
  refine ⟨k, ?_, hk⟩
  rw [hk] at hlt
  exact (Nat.pow_lt_pow_iff_right (by decide : 1 < 2)).mp hlt

/-- **A request that is not small enough is a no-op**: for `c > capacity / 2` (the code's test
    `capacity > (_producer->bounded_queue.capacity() >> 1)`) no micro-step is performed — the state, hence the
    reported capacity and the number of nodes, is unchanged. -/
theorem C20_shrink_noop (o : UParams) (s : US) (c : Nat) (hc : producerCapacity s / 2 < c) :
    apiShrink s c = ([], .noshrink) ∧ urun o s (apiShrink s c).1 = s := by
  have e := apiShrink_noop s c hc
  rw [e]; exact ⟨rfl, rfl⟩

/-- `C02_shrink_iff` extended by what the queue reports: after `shrink c` the producer-side capacity is `nextPow2 c`
    if `c ≤ capacity / 2` and the old capacity otherwise; a node is allocated in the first case only. -/
theorem C02_shrink_reports (o : UParams) (s : US) (c : Nat) :
    producerCapacity (urun o s (apiShrink s c).1) =
      (if c ≤ producerCapacity s / 2 then nextPow2 c else producerCapacity s) ∧
    (urun o s (apiShrink s c).1).n = (if c ≤ producerCapacity s / 2 then s.n + 1 else s.n) ∧
    (shrinkAllocates (producerCapacity s) c = true ↔ c ≤ producerCapacity s / 2) := by
  by_cases hc : c ≤ producerCapacity s / 2
  · rw [if_pos hc, if_pos hc, apiShrink_alloc s c hc]
    refine ⟨?_, rfl, C02_shrink_iff _ _⟩
    show (ustep o s (.publish (nextPow2 c))).pnode.q.cap = _
    rw [publish_pnode]
    rfl
  · rw [if_neg hc, if_neg hc, apiShrink_noop s c (Nat.lt_of_not_le hc)]
    exact ⟨rfl, rfl, C02_shrink_iff _ _⟩

/-- why `2 ≤ capacity` is needed in `C20_shrink_reported_capacity`: on a node of capacity 1 `shrink(0)` passes the
    test (`0 > 0` is false) and allocates a new node of capacity `next_power_of_two(0) = 1` — not smaller. (A capacity
    of 1 byte cannot hold a record; observation, not a finding.) -/
theorem C20_shrink_capacity_one_degenerate :
    producerCapacity (urun quillU (uinit 1 (fun _ => 0)) (apiShrink (uinit 1 (fun _ => 0)) 0).1) = 1 ∧
    (urun quillU (uinit 1 (fun _ => 0)) (apiShrink (uinit 1 (fun _ => 0)) 0).1).n = 2 := by decide +kernel

/-- the schedule of the non-vacuity examples, up to the shrink: a WRAPPED old node. Capacity 8: write 6, commit; the
    consumer reads it and publishes its position; the producer reloads it and writes 6 more — the free-running writer
    position is 12, past the capacity (the record starts at offset 6 and spills into the second half of the `2·cap`
    storage, as quill's records do); commit. Then `shrink 3`. -/
def wrappedPre : List UOp :=
  [.p (.write 6), .p .commitW, .c (.loadW 6), .c (.read 6), .c (.commitR true), .p (.reloadR 6), .p (.write 6), .p .commitW]
/-- after the shrink: a record of 3 bytes into the new node; the consumer finishes the old node (second record),
    observes `next`, re-reads, … -/
def wrappedPostUntilSwitch : List UOp :=
  [.p (.write 3), .p .commitW, .c (.loadW 12), .c (.read 6), .seeNext, .c (.loadW 12)]
/-- … switches (frees the old node) and reads from the new one -/
def wrappedPost : List UOp := wrappedPostUntilSwitch ++ [.switch, .c (.loadW 3), .c (.read 3)]

def s8 : US := uinit 8 (fun _ => 0)

/-- the old node is wrapped and fully committed when `shrink` is called -/
example : URun quillU s8 wrappedPre ∧ (urun quillU s8 wrappedPre).pnode.q.wpos = 12 ∧
    producerCapacity (urun quillU s8 wrappedPre) = 8 ∧ 12 % 8 ≠ 12 ∧
    (urun quillU s8 wrappedPre).pnode.q.wHist.headD 0 = (urun quillU s8 wrappedPre).pnode.q.wpos := by decide +kernel

/-- non-vacuity of `C20_shrink_reported_capacity` (wrapped node, `shrink 3`: reported capacity 8 → 4, one more node)
    and of `C20_shrink_noop` (`shrink 5` on capacity 8: nothing happens) -/
example : 2 ≤ producerCapacity (urun quillU s8 wrappedPre) ∧ 3 ≤ producerCapacity (urun quillU s8 wrappedPre) / 2 ∧
    producerCapacity (urun quillU (urun quillU s8 wrappedPre) (apiShrink (urun quillU s8 wrappedPre) 3).1) = 4 ∧
    (urun quillU (urun quillU s8 wrappedPre) (apiShrink (urun quillU s8 wrappedPre) 3).1).n = 2 ∧
    URun quillU (urun quillU s8 wrappedPre) (apiShrink (urun quillU s8 wrappedPre) 3).1 ∧
    producerCapacity (urun quillU s8 wrappedPre) / 2 < 5 ∧
    producerCapacity (urun quillU (urun quillU s8 wrappedPre) (apiShrink (urun quillU s8 wrappedPre) 5).1) = 8 ∧
    (urun quillU (urun quillU s8 wrappedPre) (apiShrink (urun quillU s8 wrappedPre) 5).1).n = 1 := by decide +kernel

/-- a schedule with a `shrink c` in it: `pre`, then the micro-steps of `shrink c` in the state `pre` leads to, then `post` -/
def withShrink (o : UParams) (s : US) (pre : List UOp) (c : Nat) (post : List UOp) : List UOp :=
  pre ++ (apiShrink (urun o s pre) c).1 ++ post

theorem withShrink_alloc (o : UParams) (s : US) (pre post : List UOp) (c : Nat)
    (hc : c ≤ producerCapacity (urun o s pre) / 2) :
    withShrink o s pre c post = pre ++ (UOp.publish (nextPow2 c) :: post) := by
  simp only [withShrink, apiShrink_alloc _ c hc, List.append_assoc, List.singleton_append]

/-- **The consumer reads every committed record exactly once, in order, across a shrink.** For every legal schedule
    `pre`, every effective request `c ≤ capacity / 2` and every legal continuation `post` (both may contain further
    growths, shrinks, switches and stale loads): the shrink itself neither writes nor reads a record; the records read
    over the whole schedule are a **prefix** of the records written over the whole schedule (old-node records before
    new-node records, none skipped, none twice); and once the consumer has caught up with the producer (it is on the
    producer's node and has read all of it) the two streams are **equal** — nothing was lost. -/
theorem C20_shrink_loses_nothing (o : UParams) (ho : UOrdersOK o) (cap : Nat) (batch : Nat → Nat) (hcap : 0 < cap)
    (pre post : List UOp) (c : Nat) (hc : c ≤ producerCapacity (urun o (uinit cap batch) pre) / 2)
    (hr : URun o (uinit cap batch) (withShrink o (uinit cap batch) pre c post)) :
    writesOfU (withShrink o (uinit cap batch) pre c post) = writesOfU pre ++ writesOfU post ∧
    readsOfU (withShrink o (uinit cap batch) pre c post) = readsOfU pre ++ readsOfU post ∧
    readsOfU pre ++ readsOfU post <+: writesOfU pre ++ writesOfU post ∧
    ((urun o (uinit cap batch) (withShrink o (uinit cap batch) pre c post)).ci =
        (urun o (uinit cap batch) (withShrink o (uinit cap batch) pre c post)).pi →
      (urun o (uinit cap batch) (withShrink o (uinit cap batch) pre c post)).cnode.q.nread =
        (urun o (uinit cap batch) (withShrink o (uinit cap batch) pre c post)).cnode.q.recs.length →
      readsOfU pre ++ readsOfU post = writesOfU pre ++ writesOfU post) := by
  obtain ⟨hpre, hw, hrd⟩ := C02_trace_fifo o ho cap batch hcap _ hr
  have ew : writesOfU (withShrink o (uinit cap batch) pre c post) = writesOfU pre ++ writesOfU post := by
    rw [withShrink_alloc o _ pre post c hc, writesOfU_append, writesOfU_cons]; rfl
  have er : readsOfU (withShrink o (uinit cap batch) pre c post) = readsOfU pre ++ readsOfU post := by
    rw [withShrink_alloc o _ pre post c hc, readsOfU_append, readsOfU_cons]; rfl
  refine ⟨ew, er, by rw [← ew, ← er]; exact hpre, ?_⟩
  intro hci hall
  rw [← ew, ← er, hw, hrd, hall, List.take_length, ← hci, recsOf_succ]
  rfl

/-- non-vacuity (wrapped old node): the schedule is legal, the request is effective, the consumer ends on the
    producer's node with everything read, and it read `[6, 6, 3]` = what was written: two records from the wrapped
    8-byte node (the second one across the physical end of the ring), then one from the 4-byte node -/
example : URun quillU s8 (withShrink quillU s8 wrappedPre 3 wrappedPost) ∧
    3 ≤ producerCapacity (urun quillU s8 wrappedPre) / 2 ∧
    (urun quillU s8 (withShrink quillU s8 wrappedPre 3 wrappedPost)).ci =
      (urun quillU s8 (withShrink quillU s8 wrappedPre 3 wrappedPost)).pi ∧
    (urun quillU s8 (withShrink quillU s8 wrappedPre 3 wrappedPost)).cnode.q.nread =
      (urun quillU s8 (withShrink quillU s8 wrappedPre 3 wrappedPost)).cnode.q.recs.length ∧
    readsOfU wrappedPre ++ readsOfU wrappedPost = [6, 6, 3] ∧
    writesOfU wrappedPre ++ writesOfU wrappedPost = [6, 6, 3] := by decide +kernel

/-- **The node abandoned by a shrink is freed only when drained.** Take any legal schedule `pre`, an effective request
    `c`, any legal continuation `post`, and suppose the consumer is now about to free the node the producer was on when
    it shrank (`switch` enabled with `ci` = that node). Then: that node still holds exactly the records it held at the
    shrink (the producer never came back to it), **all of them have been read** (`nread` = their number, the reader
    position has reached the node's final writer position), the free happens-after the producer's last access and after
    the producer left the node; everything read so far is exactly the content of the nodes up to and including it; and
    after the free `capacity()` (consumer side) reports the shrunk capacity `nextPow2 c` too. -/
theorem C20_shrink_old_node_freed_after_drained (o : UParams) (ho : UOrdersOK o) (cap : Nat) (batch : Nat → Nat)
    (hcap : 0 < cap) (pre post : List UOp) (c : Nat)
    (hc : c ≤ producerCapacity (urun o (uinit cap batch) pre) / 2)
    (hr : URun o (uinit cap batch) (withShrink o (uinit cap batch) pre c post))
    (hsw : UEnabled o (urun o (uinit cap batch) (withShrink o (uinit cap batch) pre c post)) .switch)
    (hci : (urun o (uinit cap batch) (withShrink o (uinit cap batch) pre c post)).ci = (urun o (uinit cap batch) pre).pi) :
    (urun o (uinit cap batch) (withShrink o (uinit cap batch) pre c post)).cnode.q.recs =
      (urun o (uinit cap batch) pre).pnode.q.recs ∧
    (urun o (uinit cap batch) (withShrink o (uinit cap batch) pre c post)).cnode.q.nread =
      (urun o (uinit cap batch) pre).pnode.q.recs.length ∧
    (urun o (uinit cap batch) (withShrink o (uinit cap batch) pre c post)).cnode.q.rpos =
      (urun o (uinit cap batch) pre).pnode.q.wpos ∧
    (urun o (uinit cap batch) (withShrink o (uinit cap batch) pre c post)).sawSync = true ∧
    (urun o (uinit cap batch) (withShrink o (uinit cap batch) pre c post)).ci <
      (urun o (uinit cap batch) (withShrink o (uinit cap batch) pre c post)).pi ∧
    readsOfU (withShrink o (uinit cap batch) pre c post) =
      recsOf (urun o (uinit cap batch) (withShrink o (uinit cap batch) pre c post)).nodes
        ((urun o (uinit cap batch) pre).pi + 1) ∧
    consumerCapacity (ustep o (urun o (uinit cap batch) (withShrink o (uinit cap batch) pre c post)) .switch) =
      nextPow2 c := by
  /- The schedule is `pre ++ [publish (nextPow2 c)] ++ post`; `left_node_drained` is the statement about the state after
     `pre`, and the FIFO trace of the whole schedule gives the clause about `readsOfU`. -/
  have hfifo := (C02_trace_fifo o ho cap batch hcap _ hr).2.2
  rw [withShrink_alloc o _ pre post c hc] at hr hsw hci hfifo ⊢
  obtain ⟨hrpre, hpub, hrpost⟩ := URun_split o pre _ _ hr
  rw [urun_append, urun] at hsw hci hfifo ⊢
  have hinv0 := ureachable_inv o ho pre _ (uinit_inv o cap batch hcap) hrpre
  obtain ⟨h1, h2, h3, h4, h5, h6⟩ := left_node_drained o ho _ hinv0 _ hpub post hrpost hsw hci
  refine ⟨h1, h2, h3, h4, h5, ?_, h6⟩
  rw [hfifo, h2, ← h1, List.take_length, ← hci, recsOf_succ]
  rfl

/-- non-vacuity (wrapped old node): right before the consumer's switch the hypotheses hold — legal schedule, effective
    request, `switch` enabled, the consumer still on the node the producer shrank from — and that node's two records
    (12 bytes through an 8-byte ring) have been read -/
example : URun quillU s8 (withShrink quillU s8 wrappedPre 3 wrappedPostUntilSwitch) ∧
    3 ≤ producerCapacity (urun quillU s8 wrappedPre) / 2 ∧
    UEnabled quillU (urun quillU s8 (withShrink quillU s8 wrappedPre 3 wrappedPostUntilSwitch)) .switch ∧
    (urun quillU s8 (withShrink quillU s8 wrappedPre 3 wrappedPostUntilSwitch)).ci = (urun quillU s8 wrappedPre).pi ∧
    (urun quillU s8 (withShrink quillU s8 wrappedPre 3 wrappedPostUntilSwitch)).cnode.q.nread = 2 ∧
    (urun quillU s8 (withShrink quillU s8 wrappedPre 3 wrappedPostUntilSwitch)).cnode.q.rpos = 12 ∧
    consumerCapacity (urun quillU s8 (withShrink quillU s8 wrappedPre 3 wrappedPostUntilSwitch)) = 8 ∧
    consumerCapacity (ustep quillU (urun quillU s8 (withShrink quillU s8 wrappedPre 3 wrappedPostUntilSwitch)) .switch) = 4 := by
  decide +kernel

/-- the premise "every record read" cannot be dropped by the consumer: while a record of the old node is unread the
    switch is not enabled (the re-read finds it) — here after `shrink` with the second record of the wrapped node
    still unread -/
example : URun quillU s8 (withShrink quillU s8 wrappedPre 3 [.c (.loadW 12), .seeNext, .c (.loadW 12)]) ∧
    ¬ UEnabled quillU (urun quillU s8 (withShrink quillU s8 wrappedPre 3 [.c (.loadW 12), .seeNext, .c (.loadW 12)])) .switch := by
  decide +kernel

end Uspsc
