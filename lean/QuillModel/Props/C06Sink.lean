import QuillModel.FileSink.Model
/-!
# C06 (part) — after `flush_sink()` returns, everything written to the sink can be read from the destination

"when flush_log() returns, every statement … has been written to all of its sinks and those sinks have been flushed, so it
can be read from the destination". The backend model (`Props/C06.lean`) proves that every sink's `flush_sink()` is called
before the caller is released; this file is the sink's half: `flush_sink()` really makes everything written so far
readable — for every sequence of `write_log` (with or without a `before_write` callback), `flush_sink` and
`run_periodic_tasks` calls — provided EVERY path of `write_log` that writes marks the stream dirty (`Params.OK`;
obligation on the extracted structure, `Obligations/FileSink.lean`).
-/
namespace FileSink

/-- nothing is lost or duplicated, whatever the flags do: file ++ stdio buffer = everything written, in order -/
structure SInv (s : St) : Prop where
  cons : s.file ++ s.buf = s.written

theorem sinv_step (p : Params) (s : St) (h : SInv s) (op : Op) : SInv (step p s op) := by
  cases op with
  | write hook x => exact ⟨by simp [step, ← h.cons]⟩
  | flush =>
    simp only [step]
    split
    · exact h
    · exact ⟨by simp [h.cons]⟩
  | periodic => exact h

/-- with every write path marking the stream dirty: a non-empty stdio buffer means the flag is set -/
def DirtyInv (s : St) : Prop := s.buf ≠ [] → s.dirty = true

theorem dirty_step (p : Params) (hp : p.OK) (s : St) (h : DirtyInv s) (op : Op) : DirtyInv (step p s op) := by
  cases op with
  | write hook x =>
    intro _
    cases hook <;> simp [step, hp.1, hp.2]
  | flush =>
    simp only [step]
    split
    · exact h
    · intro hb
      exact absurd rfl hb
  | periodic => exact h

theorem run_inv (p : Params) {P : St → Prop} (hs : ∀ s op, P s → P (step p s op)) :
    ∀ (ops : List Op) (s : St), P s → P (run p s ops)
  | [], _, h => h
  | op :: rest, s, h => run_inv p hs rest _ (hs s op h)

theorem written_run (p : Params) (ops : List Op) : ∀ (s : St), (run p s ops).written = s.written ++ stmtsOf ops := by
  induction ops with
  | nil =>
    intro s
    exact (List.append_nil _).symm
  | cons op rest ih =>
    intro s
    rw [run, ih]
    cases op with
    | write hook x => simp only [step, stmtsOf, List.append_assoc, List.singleton_append]
    | flush =>
      simp only [step, stmtsOf]
      split <;> rfl
    | periodic => rfl

/-- **C06, conservation in the sink** (every structure): in every state, what the file holds followed by what sits in the
    stdio buffer is exactly the statements handed to `write_log` so far, in order, each once -/
theorem C06_sink_conservation (p : Params) (ops : List Op) :
    (run p {} ops).file ++ (run p {} ops).buf = stmtsOf ops := by
  have h := (run_inv p (fun s op h => sinv_step p s h op) ops {} ⟨rfl⟩).cons
  rw [h, written_run]
  rfl

/-- **C06, `flush_sink()` makes everything written so far readable.** For every sequence of `write_log` /
    `flush_sink` / `run_periodic_tasks` calls, with and without a `before_write` callback on each write: after one more
    `flush_sink()` the file holds exactly the statements written so far, in order, each once, and nothing is left in the
    stdio buffer — in particular right after any flush in the sequence. -/
theorem C06_sink_flush_makes_readable (p : Params) (hp : p.OK) (ops : List Op) :
    (step p (run p {} ops) .flush).file = stmtsOf ops ∧ (step p (run p {} ops) .flush).buf = [] := by
  have hc := C06_sink_conservation p ops
  have hd : DirtyInv (run p {} ops) :=
    run_inv p (fun s op h => dirty_step p hp s h op) ops {} (fun h => absurd rfl h)
  simp only [step]
  split
  · rename_i hcond
    have hnd : (run p {} ops).dirty = false := by
      simp only [Bool.and_eq_true, Bool.not_eq_true'] at hcond
      exact hcond.2
    have hb : (run p {} ops).buf = [] := by
      apply Classical.byContradiction
      intro hne
      rw [hd hne] at hnd
      cases hnd
    rw [hb] at hc
    exact ⟨(List.append_nil _).symm.trans hc, hb⟩
  · exact ⟨hc, rfl⟩

/-- … stated for a sequence that ends with a flush -/
theorem C06_sink_readable_after_flush (p : Params) (hp : p.OK) (ops : List Op) :
    (run p {} (ops ++ [.flush])).file = stmtsOf (ops ++ [.flush]) := by
  rw [run_append, stmtsOf_append]
  simpa [run, stmtsOf] using (C06_sink_flush_makes_readable p hp ops).1

/-- non-vacuity: writes with and without a callback, flushes in between, an idle flush, periodic tasks -/
example :
    let ops : List Op := [.write false ⟨1, 10⟩, .write true ⟨2, 13⟩, .flush, .flush, .periodic, .write true ⟨3, 7⟩]
    (run {} {} ops).file = [⟨1, 10⟩, ⟨2, 13⟩] ∧ (run {} {} ops).buf = [⟨3, 7⟩] ∧
    (step {} (run {} {} ops) .flush).file = [⟨1, 10⟩, ⟨2, 13⟩, ⟨3, 7⟩] := by decide +kernel

/-- **negative witness (a `before_write` path that forgets `_write_occurred = true`)**:
    `flush_sink()` returns with the statement still in the stdio buffer -/
theorem C06_sink_hook_path_forgets_flag :
    let p : Params := { hookSetsDirty := false }
    let ops : List Op := [.write true ⟨1, 10⟩, .flush]
    (run p {} ops).file = [] ∧ (run p {} ops).buf = [⟨1, 10⟩] ∧ (run {} {} ops).file = [⟨1, 10⟩] := by decide +kernel

/-- the same for the plain path; and a later write through a path that does set the flag drains both -/
theorem C06_sink_plain_path_forgets_flag :
    let p : Params := { plainSetsDirty := false }
    (run p {} [.write false ⟨1, 10⟩, .flush]).file = [] ∧
    (run p {} [.write false ⟨1, 10⟩, .flush, .write true ⟨2, 5⟩, .flush]).file = [⟨1, 10⟩, ⟨2, 5⟩] := by decide +kernel

/-- a flush that does not test or does not reset the flag is only slower, not wrong -/
example : ({ flushTestsFlag := false, flushResetsFlag := false } : Params).OK := by decide +kernel

end FileSink
