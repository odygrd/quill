import QuillModel.Props.C10Faults
import QuillModel.Props.C03Whole
import QuillModel.Props.C08
import QuillModel.Backend.LiftFuel
/-!
# C10 — a statement whose formatting throws

Model: a fault assignment `Cfg.fmtFaults : List (id × kind)` (kind 1 = `std::exception`, 2 = anything else; default `[]`),
`Cfg.fmtFault`, and in `readQueue` — where the real `_read_and_decode_frontend_queue` calls
`_populate_formatted_log_message` — the decoded record passes through `fmtNote` (the same in the two other copies of the
read loop, `readQueueU` in `Backend/USched.lean` and `readQueueF` in `Backend/Fault.lean`): for an `Event::Log` record
whose formatting throws, the exception is caught, the error text replaces the message and the error notifier is called once
(`Ev.notify "n:fmterr"`, the harness' canonical name for "Could not format log statement"). The record then takes the normal
path (transit buffer, pop, dispatch), which is why every delivery theorem of C03/C10 (`C03_exactly_once_after_drain`,
`C10_unfaulted_exactly_once`, `C03_at_most_once`, the order theorems, …) holds for runs that contain bad-format
statements: they quantify over every `Cfg`, hence over every fault assignment.

This models the REPAIRED catch (`catchAllFormat = true`, `catch (...)` after `catch (std::exception const&)`). The pinned F4
behaviour (a non-`std` exception escapes the whole poll before `finish_read`; the record is re-read for ever) is not
modelled: an early `fin` exit in `readQueue` for such a record would let the other queues go on while this one is stuck,
which the real code does not do (the whole poll is abandoned) and which would falsify the ordering invariant
`PI.readQueue_first` of C05. An exception that abandons the poll is modelled, for the argument decoder, on the fault machine
(`Backend/Fault.lean`, `Props/Faults.lean`).

Left out: the whole-run count "number of `n:fmterr` notifications = number of decoded bad-format statements" is proved per
decode step only (`C10_fmt_note_step`); over `runOps` it needs an invariant under which `readOneSt` and the notification are
one primitive (the `PC` skeleton lists them separately). The non-vacuity run below shows the count on a concrete schedule.
-/
namespace Backend
open Backend.PA

/-- **One decode.** Formatting a decoded record leaves contexts, sinks, loggers, configuration and `reported` as they are
    and appends to the event history exactly one `n:fmterr` notification for an `Event::Log` record that the fault
    assignment marks, nothing for any other record. -/
theorem C10_fmt_note_step (s : BSt) (st : Stmt) :
    (fmtNote s st).log =
      (if isLogKind st.kind && s.cfg.fmtFault st.id != 0 then Ev.notify "n:fmterr" :: s.log else s.log) ∧
    (fmtNote s st).ths = s.ths ∧ (fmtNote s st).sinks = s.sinks ∧ (fmtNote s st).lgs = s.lgs ∧
    (fmtNote s st).cfg = s.cfg ∧ (fmtNote s st).reported = s.reported := by
  unfold fmtNote
  split <;> exact ⟨rfl, rfl, rfl, rfl, rfl, rfl⟩

/-- a bad-format statement still takes the normal path: the record is in the transit buffer after the decode -/
theorem C10_fmt_fault_keeps_record (s : BSt) (i : Nat) (st : Stmt) (rest : List Stmt) :
    (readOneF s i st rest).ths = (readOne s i st rest).ths :=
  (readOneF_eq s i st rest).2.1

/-- the fault assignment is constant along every schedule -/
theorem C10_fmt_faults_constant (s0 : BSt) (ops : List Op) : (runOps s0 ops).cfg.fmtFaults = s0.cfg.fmtFaults := by
  rw [C08_cfg_constant]

/-- statement 1's formatter throws a `std::exception`, statement 2's throws something else -/
def c10FmtInit : BSt :=
  { c03TightInit with cfg := { c03TightInit.cfg with fmtFaults := [(1, 1), (2, 2)] } }

/-- non-vacuity: three statements of two threads, two of them unformattable; after the drain every statement — the
    faulted ones included — was written exactly once at each of the two sinks, in order, and the log holds exactly two
    `n:fmterr` notifications; sink faults are not involved -/
example :
    ((runOps (runOps c10FmtInit c03TightPre) [.front (.tick 0), .poll [], .poll [], .poll []]).log.reverse.filterMap
      (fun e => match e with | .write s i _ _ _ => some (s, i) | _ => none)) =
      [(1, 0), (2, 0), (1, 1), (2, 1), (1, 2), (2, 2)] ∧
    (runOps (runOps c10FmtInit c03TightPre) [.front (.tick 0), .poll [], .poll [], .poll []]).log.countP
      (isNote "n:fmterr") = 2 ∧
    (runOps (runOps c03TightInit c03TightPre) [.front (.tick 0), .poll [], .poll [], .poll []]).log.countP
      (isNote "n:fmterr") = 0 := by
  decide +kernel

end Backend
