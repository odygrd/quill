import QuillModel.Backend.ConsProofsOrder
/-!
# C03 — every accepted statement reaches each sink of its logger once, in thread order

The property theorems (helper lemmas: `QuillModel/Backend/ConsProofs*.lean`), then the witness configuration `c03Init` /
`c03Sched` that the examples here and in `C03*.lean`, `C10*.lean` evaluate. Object: the executable
end-to-end model `Backend/{Model,Sched,Ops}.lean` that the differential harness `h2_backend.cpp` ties to the
real `Logger` / `ThreadContextManager` / `BackendWorker`. Quantifiers: **every schedule** `ops : List Op` —
any interleaving of frontend calls of any number of threads (start, exit, log, backtrace, flush, logger
creation/removal, level changes, stalls after the clock read, resumed blocked calls), backend polls with
arbitrary frontend operations injected at the hook sites inside a poll, and the exit drain — from **every
initial state** satisfying `Inv` (in particular every freshly started system, `Fresh`), for **every
configuration** `Cfg` (blocking or dropping queue, any capacity, grace period, soft / hard limit, batch
percentage, counter width, either value of the repair flags) with a non-empty record header (`0 < cfg.hdr`).
No fairness or timing assumption is needed for these safety statements.
-/
namespace Backend
open Backend.PA

/-- **Nothing is lost, duplicated or reordered between the log call and the pop.** For every context, in every
    reachable state: the records its thread committed to the queue (`accepted`, in commit order) are exactly
    the events already popped by the backend, followed by the transit buffer, followed by the records still in
    the queue. Hence statements of one thread are processed in the order the thread issued them, each at most
    once, and none disappears — across queue wrap-arounds, the soft and hard limits, the batch loop, thread
    exit before processing, exceptions on the dispatch path (the event is popped all the same). -/
theorem C03_conservation (s0 : BSt) (h0 : Inv s0) (ops : List Op) (i : Nat) :
    ((runOps s0 ops).th i).accepted =
      ((runOps s0 ops).th i).popped ++ ((runOps s0 ops).th i).buf ++ ((runOps s0 ops).th i).qStmts :=
  (((h0.run ops).a).th i).cons

/-- **The abstract record list is the byte-exact queue.** In every reachable state the bounded queue of C01
    (`q`, with its reader/writer positions, the published writer position and the record-length ghost `recs`)
    agrees with the list of pending statements: everything written is published, writer − reader position is
    the total size of the pending records, the records written and not yet finished by the reader are exactly
    the pending ones, no record is empty. (So `finish_read` is always called with the length of the record at
    the reader position, and `empty()` tells the truth — next theorem.) -/
theorem C03_queue_coherent (s0 : BSt) (h0 : Inv s0) (ops : List Op) (i : Nat) :
    QCoh ((runOps s0 ops).th i).q ((runOps s0 ops).th i).qStmts :=
  (((h0.run ops).a).th i).coh

/-- **The clean-up condition is sound.** Whenever, in a reachable state, the backend's emptiness test of a
    context (`ctxEmpty` = `queue.empty() ∧ transit buffer empty`, as `_cleanup_invalidated_thread_contexts` and
    `_check_frontend_queues_and_cached_transit_events_empty` evaluate it) answers `true`, that context really
    has nothing pending: every accepted record has been popped. -/
theorem C03_empty_test_sound (s0 : BSt) (h0 : Inv s0) (ops : List Op) (i : Nat)
    (he : (ctxEmpty (runOps s0 ops) i).2 = true) :
    ((runOps s0 ops).th i).buf = [] ∧ ((runOps s0 ops).th i).qStmts = [] ∧
    ((runOps s0 ops).th i).accepted = ((runOps s0 ops).th i).popped := by
  obtain ⟨hb, hq⟩ := ((h0.run ops).a).empty_of_ctxEmpty i he
  refine ⟨hb, hq, ?_⟩
  rw [C03_conservation s0 h0 ops i, hb, hq, List.append_nil, List.append_nil]

/-- **A context leaves the registry only when invalid, with empty queue and empty buffer.** A removed context
    belongs to an exited thread and everything it ever accepted has been popped; nothing can be added to it
    afterwards (the statement holds in every later state too). -/
theorem C03_removed_drained (s0 : BSt) (h0 : Inv s0) (ops : List Op) (i : Nat)
    (hr : ((runOps s0 ops).th i).removed = true) :
    ((runOps s0 ops).th i).valid = false ∧ ((runOps s0 ops).th i).buf = [] ∧ ((runOps s0 ops).th i).qStmts = [] ∧
    ((runOps s0 ops).th i).accepted = ((runOps s0 ops).th i).popped := by
  obtain ⟨hv, hb, hq⟩ := (((h0.run ops).a).th i).rem hr
  refine ⟨hv, hb, hq, ?_⟩
  rw [C03_conservation s0 h0 ops i, hb, hq, List.append_nil, List.append_nil]

/-- every context ever created is still registered or was removed by the clean-up (under the condition above) -/
theorem C03_registered_or_removed (s0 : BSt) (h0 : Inv s0) (ops : List Op) (i : Nat)
    (hi : i < (runOps s0 ops).ths.length) :
    i ∈ (runOps s0 ops).registry ∨ ((runOps s0 ops).th i).removed = true :=
  ((h0.run ops).a).reg i hi

/-- a live thread's context is valid (never reclaimed under it) -/
theorem C03_live_context_valid (s0 : BSt) (h0 : Inv s0) (ops : List Op) (x : Actor)
    (hx : x ∈ (runOps s0 ops).actors) (ha : x.alive = true) (i : Nat) (hc : x.ctx = some i) :
    ((runOps s0 ops).th i).valid = true ∧ ((runOps s0 ops).th i).removed = false := by
  obtain ⟨_, hv, _⟩ := ((h0.run ops).a).act x hx ha i hc
  refine ⟨hv, ?_⟩
  cases hr : ((runOps s0 ops).th i).removed with
  | false => rfl
  | true =>
    have := ((((h0.run ops).a).th i).rem hr).1
    rw [hv] at this
    cases this

/-- **`_write_log_statement`, for every sink list and every state** (any levels, filters, fault schedules):
    either no exception escapes and the history grows by exactly one `write` event per sink of the list that
    accepts the statement (`sinkAccepts`: sink level and filters, C16), in list order; or the list splits at
    the first accepting sink whose `write_log` throws — the accepting sinks before it were written once each,
    it left a `wthrow`, the sinks after it were not visited. (`log` is newest-first, hence `reverse`.) -/
theorem C03_dispatch_exact (s : BSt) (st : Stmt) :
    ((dispatch s st).2 = false ∧
      (dispatch s st).1.log = (((s.lgOf st.lg).sinks.filter (acc s st)).map (W st)).reverse ++ s.log) ∨
    (∃ pre sid post, (s.lgOf st.lg).sinks = pre ++ sid :: post ∧ (dispatch s st).2 = true ∧ acc s st sid = true ∧
      (dispatch s st).1.log = Ev.wthrow sid st.id :: ((pre.filter (acc s st)).map (W st)).reverse ++ s.log) :=
  writeToSinks_spec st _ s

/-- without a scheduled `write_log` fault no exception escapes, so every accepting sink gets the statement -/
theorem C03_dispatch_no_fault (s : BSt) (st : Stmt) (hf : NoWriteFault s) :
    (dispatch s st).2 = false ∧
    (dispatch s st).1.log = (((s.lgOf st.lg).sinks.filter (acc s st)).map (W st)).reverse ++ s.log := by
  have h := writeToSinks_nofault st (s.lgOf st.lg).sinks s hf
  rcases C03_dispatch_exact s st with h1 | ⟨_, _, _, _, h2, _⟩
  · exact h1
  · rw [dispatch, h] at h2
    cases h2

/-- **Popping an ordinary statement** (`Event::Log`, at a level other than Backtrace) in any reachable state appends
    to the history exactly the events of its dispatch (previous two theorems) and after them only events that
    are not ordinary writes (the replay of a backtrace ring it triggers, the notification of an escaped
    exception). `popStep` is the part of `_process_lowest_timestamp_transit_event` up to and including the pop. -/
theorem C03_pop_emits_dispatch (s0 : BSt) (h0 : Inv s0) (ops : List Op) (i : Nat) (st : Stmt) (rest : List Stmt)
    (hord : isOrd st = true) :
    ∃ evs, (popStep (runOps s0 ops) i st rest).log = evs ++ (dispatch (runOps s0 ops) st).1.log ∧
      ∀ sid id, wcount evs sid id = 0 :=
  popStep_ord_log (h0.run ops).w.ring i st rest hord

/-- **Statement ids identify statements.** In every reachable state, over all contexts and all parked calls
    together, at most one `Event::Log` statement carries a given id, and every id in use is below `nextId`.
    (`tot s id` = occurrences in all `accepted` histories + occurrences in the parked calls.) -/
theorem C03_ids_unique (s0 : BSt) (h0 : Inv s0) (ops : List Op) (id : Nat) :
    tot (runOps s0 ops) id ≤ 1 ∧ ((runOps s0 ops).nextId ≤ id → tot (runOps s0 ops) id = 0) :=
  ⟨(h0.run ops).b.uniq id, (h0.run ops).b.lt id⟩

/-- **At most once per sink, over the whole history.** For every ordinary statement accepted by any queue, in
    every reachable state, the number of ordinary `write` events carrying its id at sink `sid` in the entire
    event history `log` is at most the multiplicity of `sid` in its logger's sink list — in particular at most
    one when the logger lists the sink once, and none at a sink the logger does not have. No step of the
    machine other than the pop of that very statement produces such an event. -/
theorem C03_at_most_once (s0 : BSt) (h0 : Inv s0) (ops : List Op) (i : Nat) (st : Stmt)
    (hm : st ∈ ((runOps s0 ops).th i).accepted) (hord : isOrd st = true) (sid : Nat) :
    wcount (runOps s0 ops).log sid st.id ≤ ((runOps s0 ops).lgOf st.lg).sinks.count sid :=
  (h0.run ops).at_most_once i st hm hord sid

/-- the number of ordinary writes of any id at any sink is bounded by what has been popped: nothing is written
    that was not popped (in particular nothing that is still in a queue or a transit buffer) -/
theorem C03_writes_only_of_popped (s0 : BSt) (h0 : Inv s0) (ops : List Op) (sid id : Nat) :
    wcount (runOps s0 ops).log sid id ≤ popBound (runOps s0 ops) sid id :=
  (h0.run ops).w.bound sid id

/-- the global pop history is a merge of the per-context ones -/
theorem C03_popLog_merge (s0 : BSt) (h0 : Inv s0) (ops : List Op) (p : Stmt → Bool) :
    (runOps s0 ops).popLog.countP p = cntP (runOps s0 ops) p :=
  (h0.run ops).p p

/-! ### exactly once over the whole history

Stated relative to the history itself, no record of the dispatch-time decision is needed: an accepted ordinary statement
has no write before its pop; its pop appends exactly one write per occurrence of each sink that accepts it at that
moment; afterwards the number of its writes at every sink never changes again. -/

/-- **Nothing is written before the pop.** In every reachable state, an ordinary statement that is still in a transit
    buffer or in a queue has no ordinary `write` event at any sink in the whole history. -/
theorem C03_nothing_written_before_pop (s0 : BSt) (h0 : Inv s0) (ops : List Op) (i : Nat) (st : Stmt)
    (hm : st ∈ ((runOps s0 ops).th i).buf ++ ((runOps s0 ops).th i).qStmts) (hord : isOrd st = true) (sid : Nat) :
    wcount (runOps s0 ops).log sid st.id = 0 :=
  (h0.run ops).unpopped_unwritten hm hord sid

/-- **The pop writes it exactly once per accepting sink.** In any state satisfying the invariants (every reachable
    state, and every state inside a poll), popping the front event `st` (ordinary) of context `i` leaves, in the WHOLE
    history, at every sink `sid`: exactly as many ordinary writes of `st.id` as `sid` occurs among the sinks of its
    logger that accept it at this moment (`acc s st`: sink level and filters) when no `write_log` fault hits — i.e.
    exactly one per accepting sink listed once, none at a rejecting or foreign sink; and with a fault at sink `f`,
    exactly the accepting sinks before `f`. -/
theorem C03_pop_writes_exactly (s : BSt) (h : Inv s) (i : Nat) (st : Stmt) (rest : List Stmt)
    (hb : (s.th i).buf = st :: rest) (hord : isOrd st = true) (sid : Nat) :
    ((dispatch s st).2 = false ∧
      wcount (popStep s i st rest).log sid st.id = ((s.lgOf st.lg).sinks.filter (acc s st)).count sid) ∨
    (∃ pre f post, (s.lgOf st.lg).sinks = pre ++ f :: post ∧ (dispatch s st).2 = true ∧ acc s st f = true ∧
      wcount (popStep s i st rest).log sid st.id = (pre.filter (acc s st)).count sid) :=
  popStep_wcount h i st rest hb hord sid

/-- **After the pop nothing is ever added.** From any state satisfying the invariants in which an ordinary statement
    `st` is in a `popped` history, every further schedule leaves the number of ordinary writes of `st.id` at every sink
    unchanged — no retry, no re-read, no replay writes it again. -/
theorem C03_writes_frozen_after_pop (s : BSt) (h : Inv s) (i : Nat) (st : Stmt) (hm : st ∈ (s.th i).popped)
    (hord : isOrd st = true) (ops : List Op) (sid : Nat) :
    wcount (runOps s ops).log sid st.id = wcount s.log sid st.id :=
  (Frozen.run ⟨h, h.popped_counted hm hord, rfl⟩ ops).cnt

/-- **Exactly once, end to end.** When the backend's `_process_lowest_timestamp_transit_event` (with any frontend
    operations injected at its hook sites) processes the ordinary statement `st` and no `write_log` fault hits it, then
    at the end of that call and after EVERY further schedule the whole history contains, at every sink `sid`, exactly
    as many ordinary writes of `st.id` as `sid` occurs among the sinks of `st`'s logger that accepted it at dispatch
    time: exactly one for an accepting sink listed once, none otherwise. -/
theorem C03_exactly_once (s : BSt) (h : Inv s) (table : List (Nat × Nat × List FOp)) (i : Nat) (st : Stmt) (rest : List Stmt)
    (hl : lowest s = some i) (hb : (s.th i).buf = st :: rest) (hord : isOrd st = true)
    (hnf : (dispatch s st).2 = false) (ops : List Op) (sid : Nat) :
    wcount (runOps (processLowest (runInj table) s).1 ops).log sid st.id =
      ((s.lgOf st.lg).sinks.filter (acc s st)).count sid := by
  rw [Frozen.after_pop h table i st rest hl hb hord ops sid]
  rcases popStep_wcount h i st rest hb hord sid with ⟨_, e⟩ | ⟨_, _, _, _, e, _⟩
  · exact e
  · rw [hnf] at e
    cases e

/-- every freshly started system satisfies the order invariant (for every sink) -/
theorem C03_fresh_ordInv (s0 : BSt) (h : Fresh s0) (sid : Nat) : OrdInv sid s0 :=
  ⟨h.inv, fun i p q x y _ hx _ _ _ => by
    rw [th_of_ths_nil h.ths i] at hx
    simp [Inhabited.default] at hx⟩

/-- **Thread order at every sink** (block form). For every schedule, every context `i` and any two ordinary statements
    `st1`, `st2` that `i`'s thread issued in this order (`accepted_i = l1 ++ st1 :: l2 ++ st2 :: l3`; backtrace-level
    statements are excluded, as in C05), and every sink `sid`: cut the whole history `log` (newest first) anywhere into
    a newer part `pre` and an older part `suf`; if the older part already contains an ordinary write of `st2` at `sid`,
    the newer part contains no ordinary write of `st1` at `sid`. Holds with any fault schedule, any limits, any
    interleaving of other threads, statements written from different polls or the same batch. -/
theorem C03_thread_order_blocks (s0 : BSt) (sid : Nat) (h0 : OrdInv sid s0) (ops : List Op) (i : Nat)
    (l1 l2 l3 : List Stmt) (st1 st2 : Stmt)
    (ha : ((runOps s0 ops).th i).accepted = l1 ++ st1 :: (l2 ++ st2 :: l3))
    (ho1 : isOrd st1 = true) (ho2 : isOrd st2 = true) (pre suf : List Ev)
    (hlog : (runOps s0 ops).log = pre ++ suf) (hsuf : 0 < wcount suf sid st2.id) : wcount pre sid st1.id = 0 :=
  (h0.run ops).accepted_order i l1 l2 l3 st1 st2 ha ho1 ho2 pre suf hlog hsuf

/-- **Thread order at every sink** (event form): no ordinary write of the earlier statement `st1` at sink `sid` is
    newer in the history than an ordinary write of the later statement `st2` at `sid` — every write of `st1` at a sink
    precedes every write of `st2` at that sink. (`log` is newest first: `e1` is newer than `e2`.) -/
theorem C03_thread_order_at_sink (s0 : BSt) (sid : Nat) (h0 : OrdInv sid s0) (ops : List Op) (i : Nat)
    (l1 l2 l3 : List Stmt) (st1 st2 : Stmt)
    (ha : ((runOps s0 ops).th i).accepted = l1 ++ st1 :: (l2 ++ st2 :: l3))
    (ho1 : isOrd st1 = true) (ho2 : isOrd st2 = true) (a b c : List Ev) (e1 e2 : Ev)
    (hlog : (runOps s0 ops).log = a ++ e1 :: (b ++ e2 :: c)) :
    ¬ (ordWrite sid st1.id e1 = true ∧ ordWrite sid st2.id e2 = true) := by
  intro ⟨h1, h2⟩
  have hsuf : 0 < wcount (b ++ e2 :: c) sid st2.id := by
    rw [wcount, List.countP_append, List.countP_cons_of_pos h2]
    exact Nat.lt_of_lt_of_le (Nat.succ_pos _) (Nat.le_add_left _ _)
  have hz := C03_thread_order_blocks s0 sid h0 ops i l1 l2 l3 st1 st2 ha ho1 ho2 (a ++ [e1]) (b ++ e2 :: c)
    (by rw [hlog, List.append_assoc, List.singleton_append]) hsuf
  rw [wcount, List.countP_append, List.countP_cons_of_pos h1] at hz
  exact Nat.succ_ne_zero _ hz

/-- every freshly started system satisfies the invariant the theorems assume -/
theorem C03_fresh_inv (s0 : BSt) (h : Fresh s0) : Inv s0 := h.inv

/-! ### non-vacuity: a concrete system and schedule -/

def c03Cfg : Cfg :=
  { dropping := false, qcap := 256, grace := 0, soft := 800, hard := 100000, hdr := 32, strOverhead := 5, batchPct := 5,
    qp := { wStore := .release, wLoad := .acquire, rStore := .release, rLoad := .acquire, drainPublish := true },
    invalidBits := 32, refreshAfterSample := true, catchAllFormat := true, reportBeforeFlushCleanup := true }

/-- the shape of the driver's `mkState`: two sinks, one logger writing to both, nothing logged yet -/
def c03Init : BSt :=
  { cfg := c03Cfg, now := 1000, sinks := [{ sid := 1 }, { sid := 2, wthrow := [2] }],
    lgs := [{ gid := 0, sinks := [1, 2] }], names := [(0, 0)] }

theorem c03Init_fresh : Fresh c03Init :=
  Fresh.of_no_rings (by decide) rfl rfl rfl rfl (by decide)

/-- two threads, three statements, one of them committed while the other thread's statement is in transit
    (injected at hook site 2 inside the poll), a throwing sink on the second write -/
def c03Sched : List Op :=
  [.front (.tstart 0), .front (.tstart 1), .front (.log 0 0 4 10 true), .front (.log 1 0 4 10 true),
   .poll [(2, 2, [.log 0 0 5 12 false])], .poll [], .poll []]

example : ((runOps c03Init c03Sched).th 0).accepted.map (·.id) = [0, 2] ∧
    ((runOps c03Init c03Sched).th 0).popped.map (·.id) = [0, 2] ∧
    ((runOps c03Init c03Sched).th 1).popped.map (·.id) = [1] ∧
    (((runOps c03Init c03Sched).th 0).accepted.filter isOrd).length = 2 ∧
    wcount (runOps c03Init c03Sched).log 1 0 = 1 ∧ wcount (runOps c03Init c03Sched).log 2 0 = 1 ∧
    wcount (runOps c03Init c03Sched).log 1 2 = 1 ∧ wcount (runOps c03Init c03Sched).log 2 2 = 0 ∧
    wcount (runOps c03Init c03Sched).log 1 1 = 1 ∧ wcount (runOps c03Init c03Sched).log 2 1 = 1 := by decide +kernel

/-- non-vacuity of the order theorems: thread 0 issued statements 0 and 2; at sink 1 the ordinary writes appear, oldest
    first, as 0, 2, 1 (thread 1's statement last), at sink 2 as 0, 1 (statement 2 faulted there) -/
example : ((runOps c03Init c03Sched).log.reverse.filterMap
      (fun e => match e with | .write 1 id _ _ _ => some id | _ => none)) = [0, 2, 1] ∧
    ((runOps c03Init c03Sched).log.reverse.filterMap
      (fun e => match e with | .write 2 id _ _ _ => some id | _ => none)) = [0, 1] := by decide +kernel

/-- non-vacuity of the exactly-once theorems: in the final state of the schedule statement 1 (thread 1) is popped,
    ordinary, and was written once to each of the two sinks; a further poll changes nothing -/
example : (((runOps c03Init c03Sched).th 1).popped.filter isOrd).map (·.id) = [1] ∧
    wcount (runOps c03Init (c03Sched ++ [.poll [], .poll []])).log 1 1 = 1 ∧
    wcount (runOps c03Init (c03Sched ++ [.poll [], .poll []])).log 2 1 = 1 := by decide +kernel

end Backend
