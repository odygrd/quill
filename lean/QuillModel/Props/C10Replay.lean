import QuillModel.Props.C10
import QuillModel.Backend.ReplayStep
/-!
# C10 / C18 — a sink fault during a backtrace replay (finding F26)

`BacktraceStorage::process` clears `_stored_events` only *after* the loop over the callback. With the pinned callback
(plain `_dispatch_transit_event_to_sinks`) a sink whose `write_log` throws in the middle of a replay lets the exception
escape `process`: the ring keeps everything, and the next flush (`flush_backtrace()` or a statement at the flush level)
replays all of it — statements that had already been written are written a **second time**
(`C10_replay_fault_duplicates`, a `decide` witness for `replayCatchesPerEvent = false`). The delivery theorems of
`Props/C10.lean` all carry `isOrd st` (`st.lvl ≠ 9`) and count with `wcount`, which ignores level-9 writes, so none of
them speaks of it.

Repair (extracted as `Cfg.replayCatchesPerEvent`, obligation `Obligations.C10_replay_extracted`): both `process`
callbacks go through `_replay_backtrace_event` = `try { dispatch } catch → error_notifier`. For that value, and for
**every** state, ring content, sink list and fault schedule, the replay is the fold of `replayStep` over the stored
statements in ring order (`C10_replay_is_per_event`): every stored statement gets its own `dispatch` whatever happened to
the ones before it, a fault is reported once (`n:wfail`) and the replay goes on, so a write fault loses only that statement
at that sink and the sinks after it (`C03_dispatch_exact` says what one `dispatch` writes). No exception escapes `process`
and the ring is empty after every replay, so nothing can be replayed twice. Counting level-inclusively (`bwcount`), during
one replay a stored statement with a ring-unique id is handed to a sink at most as often as that sink occurs in the logger's
sink list (`C10_replay_once_per_flush`).

The whole-log form "for every schedule `ops` and every backtrace statement id,
`bwcount (runOps s0 ops).log sid id ≤ (sinks of its logger).count sid`" (`C03_at_most_once` for level 9) is
`C10_backtrace_at_most_once_per_flush` in `Props/C10ReplayWhole.lean`.
-/
namespace Backend
open Backend.PA

/-- one logger, one sink whose 2nd `write_log` throws; `rc` = the extracted repair flag -/
def c10ReplayInit (rc : Bool) : BSt :=
  { cfg := { c03Cfg with replayCatchesPerEvent := rc }, now := 1000, sinks := [{ sid := 1, wthrow := [2] }],
    lgs := [{ gid := 0, sinks := [1] }], names := [(0, 0)] }

/-- `init_backtrace(4)`, three `LOG_BACKTRACE` statements (ids 0, 1, 2), `flush_backtrace()` twice, polls -/
def c10ReplaySched : List Op :=
  [.front (.tstart 0), .front (.initBt 0 0 4 10), .front (.logBt 0 0 10), .front (.logBt 0 0 10), .front (.logBt 0 0 10),
   .front (.flushBt 0 0), .front (.flushBt 0 0)] ++ List.replicate 8 (.poll [])

/-- the `write_log` calls (sink, statement id, level) and throws (level shown as 99) of a log, oldest first -/
def c10Writes (log : List Ev) : List (Nat × Nat × Nat) :=
  log.reverse.filterMap (fun e => match e with
    | .write s i l _ _ => some (s, i, l)
    | .wthrow s i => some (s, i, 99)
    | _ => none)

/-- **F26, pinned callback (witness).** The first replay writes statement 0, the sink throws on statement 1 (reported),
    and the second `flush_backtrace()` replays 0, 1, 2: statement 0 — which never faulted — reaches the sink **twice**;
    `wcount`, the counting function of the C03/C10 theorems, does not see it. -/
theorem C10_replay_fault_duplicates :
    c10Writes (runOps (c10ReplayInit false) c10ReplaySched).log =
      [(1, 0, 9), (1, 1, 99), (1, 0, 9), (1, 1, 9), (1, 2, 9)] ∧
    bwcount (runOps (c10ReplayInit false) c10ReplaySched).log 1 0 = 2 ∧
    wcount (runOps (c10ReplayInit false) c10ReplaySched).log 1 0 = 0 := by
  decide +kernel

/-- **F26, repaired callback on the same schedule:** statement 0 written once, statement 1 lost at the throwing sink and
    reported, statement 2 written, and the second flush replays nothing -/
theorem C10_replay_fault_repaired :
    c10Writes (runOps (c10ReplayInit true) c10ReplaySched).log = [(1, 0, 9), (1, 1, 99), (1, 2, 9)] ∧
    bwcount (runOps (c10ReplayInit true) c10ReplaySched).log 1 0 = 1 ∧
    bwcount (runOps (c10ReplayInit true) c10ReplaySched).log 1 1 = 0 ∧
    bwcount (runOps (c10ReplayInit true) c10ReplaySched).log 1 2 = 1 ∧
    (runOps (c10ReplayInit true) c10ReplaySched).log.countP (fun e => e matches .notify "n:wfail") = 1 := by
  decide +kernel

/-- without a fault the schedule writes each stored statement once, whatever the flag -/
theorem C10_replay_without_fault_once (rc : Bool) :
    c10Writes (runOps { c10ReplayInit rc with sinks := [{ sid := 1 }] } c10ReplaySched).log =
      [(1, 0, 9), (1, 1, 9), (1, 2, 9)] := by
  cases rc <;> decide +kernel

/-- **no exception escapes a repaired replay** (so `_process_transit_event`'s own handler is not involved) -/
theorem C10_replay_never_escapes (s : BSt) (lgi : Nat) (hc : s.cfg.replayCatchesPerEvent = true) :
    (replayRing s lgi).2 = false := by
  cases hr : (s.lgOf lgi).bt with
  | none => simp [replayRing, hr]
  | some r => rw [C10_replay_is_per_event s lgi r hc hr]

/-- **the ring is empty after every repaired replay** — whatever the sinks did -/
theorem C10_replay_clears_ring (s : BSt) (lgi : Nat) (r : Ring) (hc : s.cfg.replayCatchesPerEvent = true)
    (hr : (s.lgOf lgi).bt = some r) (hl : lgi < s.lgs.length) :
    ((replayRing s lgi).1.lgOf lgi).bt = some r.cleared ∧ r.cleared.replay = [] := by
  rw [C10_replay_is_per_event s lgi r hc hr]
  refine ⟨?_, by simp [Ring.cleared, Ring.replay]⟩
  rw [lgOf_setLg]
  simp [foldl_replayStep_lgsLen, hl]

/-- **nothing is replayed twice:** a second replay directly after a repaired replay finds the ring empty and emits no
    event -/
theorem C10_replay_twice_writes_nothing (s : BSt) (lgi : Nat) (r : Ring) (hc : s.cfg.replayCatchesPerEvent = true)
    (hr : (s.lgOf lgi).bt = some r) (hl : lgi < s.lgs.length) :
    (replayRing (replayRing s lgi).1 lgi).1.log = (replayRing s lgi).1.log := by
  obtain ⟨h1, h2⟩ := C10_replay_clears_ring s lgi r hc hr hl
  have hc' : (replayRing s lgi).1.cfg.replayCatchesPerEvent = true := by
    rw [(core_dispRel.replayRing s lgi).cfg]; exact hc
  rw [C10_replay_is_per_event _ lgi _ hc' h1, h2]
  rfl

/-- **once per flush, level 9 included, under every fault schedule:** during one repaired replay a stored statement whose
    id occurs once in the ring is handed to sink `sid` at most as often as `sid` occurs in the logger's sink list (once,
    for a duplicate-free list) -/
theorem C10_replay_once_per_flush (s : BSt) (lgi : Nat) (r : Ring) (hc : s.cfg.replayCatchesPerEvent = true)
    (hr : (s.lgOf lgi).bt = some r) (hlg : ∀ x ∈ r.items, x.lg = lgi) (sid id : Nat)
    (hu : (r.items.filter (fun x => x.id == id)).length ≤ 1) :
    bwcount (replayRing s lgi).1.log sid id ≤ bwcount s.log sid id + (s.lgOf lgi).sinks.count sid := by
  rw [C10_replay_is_per_event s lgi r hc hr]
  show bwcount (r.replay.foldl replayStep s).log sid id ≤ _
  have h := foldl_replayStep_bwcount lgi sid id r.replay s (fun x hx => hlg x (Backend.replay_mem hx))
  have hlen : (r.replay.filter (fun x => x.id == id)).length = (r.items.filter (fun x => x.id == id)).length := by
    simp only [Ring.replay, List.filter_append, List.length_append]
    rw [Nat.add_comm, ← List.length_append, ← List.filter_append, List.take_append_drop]
  rw [hlen] at h
  have : (r.items.filter (fun x => x.id == id)).length * (s.lgOf lgi).sinks.count sid ≤ (s.lgOf lgi).sinks.count sid := by
    rcases Nat.le_one_iff_eq_zero_or_eq_one.mp hu with h0 | h0 <;> rw [h0] <;> simp
  omega

end Backend
