import QuillModel.Backend.SinkRefsSched
import QuillModel.Props.C17Removal
import QuillModel.Props.C03
/-!
# C17 — a sink nobody references any more IS destroyed; the erase comes after everything was written; re-creation

* (a) `C17_dead_sink_unreferenced` (`Props/C17.lean`) is one direction ("destroyed ⇒ unreferenced"). The converse —
  *unreferenced ⇒ destroyed, destructor event in the log exactly once* — is `C17_unreferenced_sink_destroyed`, for
  every schedule (frontend operations inside sink destructors at hook site 9 included). The premise on the initial
  state is explicit: every sink of the system is referenced at the start (`0 < sinkRefs s0 sid`: the user's handle or
  a logger).
* (b) `C17_erase_only_when_drained` only talks about the emptiness check. `C17_erase_after_everything_popped` is the
  erase step itself; `C17_erased_logger_statements_popped` the statement over every reachable state.
* (c) re-creation after `remove_logger_blocking` returned: `C17_recreate_after_removal`.
* (d) the ids the theorems quantify over are valid along every run: `C17_ids_in_range`; non-vacuity of
  `C17_parked_removal_exclusive`.
-/
namespace Backend
open Backend.PC

def BSt.sids (s : BSt) : List Nat := s.sinks.map (·.sid)

/-- **A sink that nobody references is destroyed — exactly once.** Premises on the initial state: the driver's shape
    (`LoggerFresh`: in particular every sink alive, no event yet) and *every sink of the system is referenced*
    (`0 < sinkRefs s0 sid`: by the user's own `shared_ptr` — `userRef` — or by a logger object). Then after **every**
    schedule — `remove_logger`, `remove_logger_blocking`, the user dropping handles (`dropSink`), re-creations, polls
    with arbitrary frontend operations injected at every hook site including site 9 *inside a sink's destructor between
    two visits of `cleanup_unused_sinks`*, the exit drain — every sink of the system whose reference count is zero
    (the user holds no handle and no logger object that is not erased lists it: the clean-up that erased the last such
    logger, or the `dropSink` that released the last handle, is over) has been destroyed: `alive = false`, and its
    destructor event occurs in the event log **exactly once**. Together with `C17_dead_sink_unreferenced` and
    `C17_alive_sink_no_dtor`: destroyed ⇔ unreferenced (`C17_sink_destroyed_iff_unreferenced`). -/
theorem C17_unreferenced_sink_destroyed (s0 : BSt) (h0 : LoggerFresh s0)
    (href : ∀ sid ∈ s0.sids, 0 < sinkRefs s0 sid) (ops : List Op) :
    let s := runOps s0 ops
    ∀ sid ∈ s.sids, sinkRefs s sid = 0 →
      (s.sinkOf sid).alive = false ∧ s.log.countP (isDtor sid) = 1 := by
  intro s sid hsid hz
  obtain ⟨hL, hP, hD⟩ := h0.sinks_runOps href ops
  have h := sink_destroyed_iff hL hP hD hsid
  have hdead := h.1.mpr hz
  exact ⟨hdead, by rw [h.2, hdead]; rfl⟩

/-- **Destroyed ⇔ unreferenced**, for every sink of the system in every reachable state; a live sink has no destructor
    event, a destroyed one exactly one. -/
theorem C17_sink_destroyed_iff_unreferenced (s0 : BSt) (h0 : LoggerFresh s0)
    (href : ∀ sid ∈ s0.sids, 0 < sinkRefs s0 sid) (ops : List Op) :
    let s := runOps s0 ops
    ∀ sid ∈ s.sids, ((s.sinkOf sid).alive = false ↔ sinkRefs s sid = 0) ∧
      s.log.countP (isDtor sid) = (if (s.sinkOf sid).alive then 0 else 1) := by
  intro s sid hsid
  obtain ⟨hL, hP, hD⟩ := h0.sinks_runOps href ops
  exact sink_destroyed_iff hL hP hD hsid

/-- **The clean-up step itself** (any state satisfying the invariants — every reachable state and every state inside a
    poll —, any injection runner built from frontend operations): if every live sink is referenced when
    `_cleanup_invalidated_loggers` starts, every live sink is referenced when it returns — the sinks released by the
    loggers it erased have all been visited, whatever ran at hook site 9 in between. -/
theorem C17_cleanup_reaps_released_sinks (table : List (Nat × Nat × List FOp)) (x : BSt) (hx : FInv x)
    (href : ∀ sid ∈ x.sids, (x.sinkOf sid).alive = true → 0 < sinkRefs x sid) :
    let y := cleanupLoggers (runInj table) x
    ∀ sid ∈ y.sids, (y.sinkOf sid).alive = true → 0 < sinkRefs y sid := by
  intro y sid hsid ha
  have h := cleanupLoggers_PR (runInj table) (PR_runInj table) x
    ⟨hx, fun k hk hka => Or.inl (refd_of_sinkRefs_pos (href k hk hka))⟩
  rcases h.2 sid hsid ha with hr | hp
  · exact sinkRefs_pos_of_refd hr
  · cases hp

/-- **The erase step, positively.** In any state `x` satisfying `PA.Inv` (conservation, unique ids) and `TCInv`
    (thread-context bookkeeping) — every reachable state and every state inside a poll: both are carried by the
    schedule skeletons —, when the guard of the erase
    answers yes — `check_queues_empty()` on the *current* state — then in the state in which logger `i` is erased
    **every statement ever accepted by any context — in particular every statement logged through `i` — has been
    popped**: `accepted = popped`, nothing is left in any queue or transit buffer. A popped ordinary statement has
    been written to every accepting sink of its logger at its pop (`C03_pop_writes_exactly`, whole event log), and the
    event log only grows: these writes precede every event emitted after the erase — in particular the destructor
    events of the sinks the erase releases (`C17_no_use_after_dtor` is the same fact read from the log). -/
theorem C17_erase_after_everything_popped (x : BSt) (hA : PA.Inv x) (hT : TCInv x) (i : Nat)
    (he : (allEmpty x).2 = true) :
    let y := (allEmpty x).1.setLg i (fun l => { l with erased := true })
    ∀ t, t < y.ths.length → (y.th t).accepted = (y.th t).popped ∧ (y.th t).buf = [] ∧ (y.th t).qStmts = [] := by
  intro y t ht
  have hd := allEmpty_drained x hT he t ht
  have hA' : PA.Inv (allEmpty x).1 := PA.allEmpty_closed PA.Inv.closed.toClosedH x hA
  have hc := (hA'.a.th t).cons
  refine ⟨?_, hd.1, hd.2⟩
  show ((allEmpty x).1.th t).accepted = ((allEmpty x).1.th t).popped
  rw [hc, hd.1, hd.2, List.append_nil, List.append_nil]

/-- **Nothing logged through an erased logger is pending anywhere** (every schedule): in every reachable state every
    statement ever accepted through a logger object that is erased now has been popped by the backend — so the
    statements logged before the removal were all processed before the logger was freed. -/
theorem C17_erased_logger_statements_popped (s0 : BSt) (hA : PA.Inv s0) (h0 : LoggerFresh s0) (ops : List Op) :
    let s := runOps s0 ops
    ∀ t, t < s.ths.length → ∀ st ∈ (s.th t).accepted, (s.lgOf st.lg).erased = true → st ∈ (s.th t).popped := by
  intro s t ht st hst he
  refine popped_of_accepted (C03_conservation s0 hA ops t) hst fun h => ?_
  rw [(C17_erased_logger_has_no_record s0 h0 ops).1 t ht st h] at he; cases he

/-- **Re-create after removal.** In a state where no un-erased object of the name `g` is left — which is the state
    `remove_logger_blocking(g)` returns into (`C17_remove_blocking_returns_after_erase`: the object is erased, all its
    statements popped, nobody parked in it) unless somebody re-created the name already —, `create_or_get_logger(g, sl)`
    with *other* sinks `sl` yields a **fresh** logger object (a new index: the erased object is never handed out
    again and is not touched), valid, not erased, of that name and with **exactly the sinks `sl`**; the name resolves
    to it; and a statement dispatched through it calls into sinks of `sl` only (no event of the dispatch uses any
    other sink — the old sinks are not written to), emitting no destructor. -/
theorem C17_recreate_after_removal (s : BSt) (a g : Nat) (sl : List Nat)
    (hok : ¬ (!idleActor s a ∨ loggerBusy s g ∨ sl.any (fun sid => !(s.sinks.any (fun k => k.sid = sid ∧ k.alive)))))
    (hex : (List.range s.lgs.length).find? (fun i => (s.lgOf i).gid = g ∧ !(s.lgOf i).erased) = none) :
    let s' := (applyFront s (.create a g sl)).1
    let n := s.lgs.length
    loggerOf s' g = some n ∧ s'.lgOf n = { gid := g, sinks := sl } ∧ (∀ j, j < n → s'.lgOf j = s.lgOf j) ∧
    ∀ (X : BSt) (st : Stmt), (X.lgOf st.lg).sinks = sl →
      ∃ evs, (dispatch X st).1.log = evs ++ X.log ∧
        ∀ e ∈ evs, (∀ sid, usesSink sid e = true → sid ∈ sl) ∧ ∀ sid, isDtor sid e = false := by
  intro s' n
  obtain ⟨h1, h2⟩ := C17_create_fresh_object s a g sl hok hex
  have hnew : s'.lgOf n = { gid := g, sinks := sl } := by
    rw [lgOf_append h1, if_pos rfl]
  refine ⟨h2, hnew, ?_, ?_⟩
  · intro j hj
    rw [lgOf_append h1, if_neg (Nat.ne_of_lt hj)]
  · intro X st hX
    obtain ⟨evs, ho, hev⟩ := dispatch_out X st
    rw [hX] at hev
    exact ⟨evs, ho.log, hev⟩

/-- **No dangling id.** In every reachable state (initial states `RemovalFresh`): every name points to an existing
    logger object of that name; the statement of every parked call, and every statement ever accepted into a queue
    (hence every record in a queue or a transit buffer), carries the index of an existing logger object — so the
    clauses of the C17 theorems about `lgOf st.lg` never speak about the default object of an out-of-range index; and
    two logger objects that are not erased never share a name. -/
theorem C17_ids_in_range (s0 : BSt) (h0 : RemovalFresh s0) (ops : List Op) :
    let s := runOps s0 ops
    (∀ p ∈ s.names, p.2 < s.lgs.length ∧ (s.lgOf p.2).gid = p.1) ∧
    (∀ x ∈ s.actors, x.alive = true → ∀ st, pendStmt x.pend = some st → st.lg < s.lgs.length) ∧
    (∀ t st, st ∈ (s.th t).accepted → st.lg < s.lgs.length) ∧
    (∀ i j, i < s.lgs.length → j < s.lgs.length → (s.lgOf i).erased = false → (s.lgOf j).erased = false →
      (s.lgOf i).gid = (s.lgOf j).gid → i = j) := by
  intro s
  have h := FRI_runOps s0 h0.inv ops
  have hla := h.1.la0
  exact ⟨hla.names, fun x hx ha st hst => (hla.pendOK x hx ha st hst).2.2, h.2.accLg, h.2.uniq⟩

theorem c17Init_referenced : ∀ sid ∈ c17Init.sids, 0 < sinkRefs c17Init sid := by decide

/-- (a): the life of `Props/C17.lean` — statement through logger 0, user drops both handles, `remove_logger(0)`, polls:
    sink 0 (reference count 0) is dead with exactly one destructor event; sink 1 (still held by logger 1) has a
    positive count, is alive and has none -/
example :
    let ops : List Op := [.front (.tstart 0), .front (.log 0 0 4 8 false), .front (.dropSink 0), .front (.dropSink 1),
      .front (.remove 0 0), .poll [], .poll []]
    let s := runOps c17Init ops
    s.sids = [0, 1] ∧ sinkRefs s 0 = 0 ∧ (s.sinkOf 0).alive = false ∧ s.log.countP (isDtor 0) = 1 ∧
    sinkRefs s 1 = 1 ∧ (s.sinkOf 1).alive = true ∧ s.log.countP (isDtor 1) = 0 := by
  decide +kernel

/-- (a) with hook site 9: while sink 0 is being destroyed the user drops the handle of sink 1 and removes logger 1 —
    in the end both sinks are unreferenced and both destroyed, once each -/
example :
    let ops : List Op := [.front (.tstart 0), .front (.dropSink 0), .front (.remove 0 0),
      .poll [(9, 1, [.dropSink 1, .remove 0 1])], .poll [], .poll []]
    let s := runOps c17Init ops
    sinkRefs s 0 = 0 ∧ sinkRefs s 1 = 0 ∧ (s.sinkOf 0).alive = false ∧ (s.sinkOf 1).alive = false ∧
    s.log.countP (isDtor 0) = 1 ∧ s.log.countP (isDtor 1) = 1 := by
  decide +kernel

/-- a small blocking queue: one statement fits, a second record does not -/
def c17SmallCfg : Cfg := { c17Cfg with qcap := 64 }
def c17SmallInit : BSt := { c17Init with cfg := c17SmallCfg }

/-- (d) non-vacuity of `C17_parked_removal_exclusive`: the queue of thread 0 is full, so its
    `remove_logger_blocking(0)` parks with its removal request not yet enqueued; thread 1's request for the same name
    is refused (the name resolves to nothing), the name is gone from the table -/
example :
    let ops : List Op := [.front (.tstart 0), .front (.tstart 1), .front (.log 0 0 4 8 false),
      .front (.removeBlocking 0 0), .front (.removeBlocking 1 0)]
    let s := runOps c17SmallInit ops
    (match (s.actor 0).map (·.pend) with
      | some (.retry st 4) => st.kind == .removal 0 && st.lg == 0
      | _ => false) = true ∧
    (match (s.actor 1).map (·.pend) with | some Pend.none => true | _ => false) = true ∧
    s.names = [(1, 1)] ∧ (s.lgOf 0).valid = true := by
  decide +kernel

/-- (b), (c): `remove_logger_blocking(0)` by thread 0 after a statement through logger 0; two polls later the caller's
    resume answers `done`: the statement was written to both old sinks *before* the destructor of sink 0, the object is
    erased; `create_or_get_logger(0, [1])` then yields the fresh object 2 with sink 1 only, and the next statement
    through the name goes to sink 1 only -/
example :
    let ops1 : List Op := [.front (.tstart 0), .front (.log 0 0 4 8 false), .front (.dropSink 0),
      .front (.removeBlocking 0 0), .poll [], .poll [], .poll []]
    let s1 := runOps c17Init ops1
    let s2 := runOps s1 [.front (.resume 0), .front (.create 0 0 [1]), .front (.log 0 0 4 8 false), .poll []]
    (resume s1 0).2 = "done" ∧ (s1.lgOf 0).erased = true ∧
    (List.range s1.lgs.length).find? (fun i => (s1.lgOf i).gid = 0 ∧ !(s1.lgOf i).erased) = none ∧
    (s1.log.filterMap c17Ev).reverse = [(0, 0), (0, 100), (1, 0)] ∧
    loggerOf s2 0 = some 2 ∧ (s2.lgOf 2).sinks = [1] ∧
    (s2.log.filterMap c17Ev).reverse = [(0, 0), (0, 100), (1, 0), (0, 101)] := by
  decide +kernel

end Backend
