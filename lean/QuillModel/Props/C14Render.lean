import QuillModel.Rot.RenderCal
/-!
# C14 — the rendered file names (any base file name)

"A rename never lands on an existing retained file" and "reading the retained files as the naming scheme orders them" are
proved on structured names `(suffix, index)` (Props/C14.lean). Here the rendering itself — `extract_stem_and_extension`,
`_append_string_to_filename`, `_append_index_to_filename`, `_get_filename` — is modelled on character lists for **every**
base file name (dots in the stem, no extension, hidden file, trailing dot) and proved injective on the names one scheme
produces, so distinct structured names are distinct files. The theorems also say which rotated names the start-up scan of
`_clean_and_recover_files` can see: all of them iff the base has an extension (finding F28 otherwise), none when a
FilenameAppendOption changed the name the sink writes to (finding F29).
That the calendar rendering `%Y%m%d[_%H%M%S]` of the civil day / second is dot-free and injective is a premise of
`C14_rendered_names_distinct_partial` and is discharged, for instants from the epoch on, in `C14_rendered_names_distinct`
(`Rot/RenderCal.lean`; the harness compares every rendered name with the real sink's).
-/
namespace Rot

/-- **Rendering is injective.** For every non-empty base file name, two `(index, date_time)` pairs of the kind one
    naming scheme produces (`SameKind`: both without a date — Index —, both with one — Date / DateAndTime —, or one of them
    the current file) whose date strings contain no dot are rendered by `_get_filename` to the same name only if they are
    equal. (Across kinds it is false: index 20230101 without a date and index 0 with the date 20230101 collide — see
    `C14_render_collides_across_schemes`.) -/
theorem C14_render_injective (b : List Char) (hb : b ≠ []) (i i' : Nat) (d d' : List Char) (hd : DotFree d)
    (hd' : DotFree d') (hk : SameKind i d i' d') (h : getFilename b i d = getFilename b i' d') : i = i' ∧ d = d' := by
  obtain ⟨hcat, hor⟩ := splitExt_spec b
  rcases hor with he | ⟨e0, he, _, _, _⟩
  · rw [getFilename_noext b hb he i d hd, getFilename_noext b hb he i' d' hd'] at h
    exact midB_inj i i' d d' hd hd' hk (List.append_cancel_left h)
  · rw [getFilename_ext b e0 he i d, getFilename_ext b e0 he i' d'] at h
    exact midA_inj i i' d d' hd hd' hk (List.append_cancel_left (List.append_cancel_right h))

/-- the excluded class: an index that reads like a date (Index scheme) and that date (Date scheme) give the same file name -/
theorem C14_render_collides_across_schemes :
    getFilename "log.log".toList 20230101 [] = getFilename "log.log".toList 0 "20230101".toList := by
  rw [String.toList_ofList, String.toList_ofList]
  decide +kernel

/-- the date string of a structured suffix -/
def sfxChars (sch : Scheme) : Option Int → List Char
  | none => []
  | some v => (renderSfx sch v).toList

/-- **Distinct tracked files have distinct rendered names** (`_partial`: premise = the calendar rendering of the suffix
    values involved is dot-free, non-empty and injective). For two entries of `_created_files` of one scheme — both
    undated (Index) or both dated, or one the current file: this is what `IndexInv` / `DatedInv` give — equal rendered
    names imply equal entries; hence a rename target that is free as a structured name is free as a file name. -/
theorem C14_rendered_names_distinct_partial (b : List Char) (hb : b ≠ []) (sch : Scheme) (a c : FileInfo)
    (hkind : (a.sfx = none ↔ c.sfx = none) ∨ a = curInfo ∨ c = curInfo)
    (hfree : ∀ v, DotFree (renderSfx sch v).toList ∧ (renderSfx sch v).toList ≠ [])
    (hinj : ∀ v v', a.sfx = some v → c.sfx = some v' → renderSfx sch v = renderSfx sch v' → v = v')
    (h : renderNameL b sch a.name = renderNameL b sch c.name) : a = c := by
  obtain ⟨sa, ia⟩ := a
  obtain ⟨sc, ic⟩ := c
  simp only [FileInfo.name, renderNameL] at h
  have hdf : ∀ s : Option Int, DotFree (sfxChars sch s) := by
    intro s
    cases s with
    | none => exact DotFree.nil
    | some v => exact (hfree v).1
  have hda := hdf sa
  have hdc := hdf sc
  have hnil : ∀ s : Option Int, sfxChars sch s = [] ↔ s = none := by
    intro s; cases s <;> simp [sfxChars, (hfree _).2]
  have hk : SameKind ia (sfxChars sch sa) ic (sfxChars sch sc) := by
    unfold SameKind
    rcases hkind with h1 | h1 | h1
    · left
      rw [hnil, hnil]
      exact h1
    · simp only [curInfo, FileInfo.mk.injEq] at h1
      exact Or.inr (Or.inl ⟨h1.2, (hnil _).mpr h1.1⟩)
    · simp only [curInfo, FileInfo.mk.injEq] at h1
      exact Or.inr (Or.inr ⟨h1.2, (hnil _).mpr h1.1⟩)
  have key := C14_render_injective b hb ia ic (sfxChars sch sa) (sfxChars sch sc) hda hdc hk
    (by cases sa <;> cases sc <;> simpa [sfxChars] using h)
  obtain ⟨hi, hs⟩ := key
  subst hi
  cases sa with
  | none =>
    cases sc with
    | none => rfl
    | some v' => exact absurd hs.symm (by simp [sfxChars, (hfree _).2])
  | some v =>
    cases sc with
    | none => exact absurd hs (by simp [sfxChars, (hfree _).2])
    | some v' =>
      have : renderSfx sch v = renderSfx sch v' := String.toList_inj.mp (by simpa [sfxChars] using hs)
      rw [hinj v v' rfl rfl this]

/-- **Distinct tracked files have distinct rendered names** — no premise on the rendering left: the calendar strings
    `%Y%m%d[_%H%M%S]` are dot-free, non-empty (`renderSfx_dotFree_ne_nil`) and injective on instants from the epoch on
    (`renderSfx_inj`). For every non-empty base file name and two entries of `_created_files` of one scheme (both undated,
    both dated, or one the current file) whose suffix values are not before 1970: equal file names imply equal entries —
    so "a rename never lands on an existing retained file" holds for the names on disk, not only for the structured ones. -/
theorem C14_rendered_names_distinct (b : List Char) (hb : b ≠ []) (sch : Scheme) (a c : FileInfo)
    (hkind : (a.sfx = none ↔ c.sfx = none) ∨ a = curInfo ∨ c = curInfo)
    (hpos : (∀ v, a.sfx = some v → 0 ≤ v) ∧ (∀ v, c.sfx = some v → 0 ≤ v))
    (h : renderNameL b sch a.name = renderNameL b sch c.name) : a = c :=
  C14_rendered_names_distinct_partial b hb sch a c hkind (renderSfx_dotFree_ne_nil sch)
    (fun v v' ha hc he => renderSfx_inj sch v v' (hpos.1 v ha) (hpos.2 v' hc) he) h

/-- non-vacuity / sanity: two days and two seconds of 2023 render as expected and differently -/
example : renderDay 19676 = "20231115" ∧ renderSec 1700006400 = "20231115_000000" ∧
    renderSec 1700006401 = "20231115_000001" ∧ renderDay 19677 = "20231116" := by decide +kernel

/-- **What the start-up scan sees.** If the base file name has an extension (`std::filesystem` sense: a dot that is not
    the leading character), every rotated name `_get_filename` produces from it — any index, any dot-free date — passes
    the filter of `_clean_and_recover_files` (same extension, starts with `stem.`). -/
theorem C14_scan_sees_rotated (b : List Char) (e0 : List Char) (he : (splitExt b).2 = '.' :: e0) (i : Nat)
    (d : List Char) (hr : i ≠ 0 ∨ d ≠ []) : scanSees b (getFilename b i d) = true := by
  obtain ⟨hcat, hor⟩ := splitExt_spec b
  rcases hor with h | ⟨e0', h1, hfree, hs, _⟩
  · rw [he] at h; simp at h
  · have : e0' = e0 := by rw [he] at h1; simpa using h1.symm
    subst this
    obtain ⟨t, ht⟩ : ∃ t, midA i d = '.' :: t := by
      unfold midA
      by_cases h1 : d = []
      · have : i ≠ 0 := hr.resolve_right (fun h => h h1)
        exact ⟨digits i, by simp [h1, this]⟩
      · exact ⟨_, by simp only [h1, ↓reduceIte, List.cons_append]; rfl⟩
    rw [getFilename_ext b e0' he i d, ht, he]
    have hsp := splitExt_insert (splitExt b).1 t e0' hs hfree
    unfold scanSees
    rw [show (splitExt b).1 ++ '.' :: t ++ '.' :: e0' = ((splitExt b).1 ++ '.' :: t) ++ '.' :: e0' by rfl, hsp, he]
    simp only [decide_true, Bool.true_and, List.isPrefixOf_iff_prefix]
    exact ⟨t ++ '.' :: e0', by simp⟩

/-- **F28** (excluded class of `C14_scan_sees_rotated`: empty extension). A base without a dot, or a hidden file: the
    first rotated file is *not* seen by the scan (its extension is `.1`, the base's is empty) — an append-mode start
    recovers nothing, a write-mode start cleans nothing. A trailing dot or dots in the stem are fine. The index is
    rendered *before* the date when the base has no extension. -/
theorem C14_F28_no_extension_scan_blind :
    scanSeesOwn "noext".toList "noext".toList = false ∧ scanSeesOwn ".log".toList ".log".toList = false ∧
    scanSeesOwn "trail.".toList "trail.".toList = true ∧ scanSeesOwn "a.b.log".toList "a.b.log".toList = true ∧
    String.ofList (getFilename "noext".toList 3 "20230101".toList) = "noext.3.20230101" ∧
    String.ofList (getFilename ".log".toList 3 "20230101".toList) = ".log.3.20230101" ∧
    String.ofList (getFilename "trail.".toList 3 "20230101".toList) = "trail.20230101.3." ∧
    String.ofList (getFilename "a.b.log".toList 3 "20230101".toList) = "a.b.20230101.3.log" := by
  -- the literals as character lists first: the kernel's `String.toList` of a literal is quadratic in its length
  rw [String.toList_ofList, String.toList_ofList, String.toList_ofList, String.toList_ofList, String.toList_ofList]
  decide +kernel

/-- **F29.** With a FilenameAppendOption the sink writes to `stem<stamp>.ext` (`append_datetime_to_filename`) but scans
    with the name handed to the constructor: its own rotated files do not start with `stem.` -/
theorem C14_F29_append_option_scan_blind :
    String.ofList (appendDatetime "app.log".toList "_20230101".toList) = "app_20230101.log" ∧
    scanSeesOwn "app.log".toList (appendDatetime "app.log".toList "_20230101".toList) = false ∧
    scanSeesOwn "app.log".toList "app.log".toList = true := by
  rw [String.toList_ofList, String.toList_ofList]
  decide +kernel

def zUtc : Nat → Int := fun _ => 0

/-- **F28 / F29 on the model**: a start that recovers nothing (`restartBlind`) in the Index scheme, append mode, overwrite
    off, no backup limit: after the restart the first rotation renames the current file onto the previous run's
    `base.1` — statement 2 is gone; with the seeing scan (`restart`) everything is kept. -/
theorem C14_F28_blind_restart_loses_statements :
    let c : Cfg := { limit := 10, overwrite := false, append := true }
    let w1 := run Params.repaired zUtc (restart zUtc [] c 0) [.write ⟨1, 8⟩ 1, .write ⟨2, 8⟩ 2, .write ⟨3, 8⟩ 3]
    let blind := run Params.repaired zUtc (restartBlind zUtc w1.fs c 10) [.write ⟨4, 8⟩ 11]
    let seeing := run Params.repaired zUtc (restart zUtc w1.fs c 10) [.write ⟨4, 8⟩ 11]
    w1.fs.get (.file none 1) = some [⟨2, 8⟩] ∧
      blind.fs.get (.file none 1) = some [⟨3, 8⟩] ∧ blind.fs.get (.file none 2) = some [⟨1, 8⟩] ∧
      blind.fs.get (.file none 3) = none ∧
      diskSeq seeing = [⟨1, 8⟩, ⟨2, 8⟩, ⟨3, 8⟩, ⟨4, 8⟩] := by decide +kernel

/-- non-vacuity of `C14_render_injective` / `C14_scan_sees_rotated`: hypotheses met by concrete names of each kind -/
example : DotFree "20230101_120000".toList ∧ SameKind 2 "20230101".toList 0 "20230102".toList ∧
    SameKind 3 [] 0 [] ∧ (splitExt "log.tar.gz".toList).2 = ".gz".toList ∧ "x".toList ≠ [] := by
  rw [String.toList_ofList, String.toList_ofList, String.toList_ofList, String.toList_ofList, String.toList_ofList, String.toList_ofList]
  decide +kernel

end Rot
