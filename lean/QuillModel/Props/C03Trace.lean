import QuillModel.Props.C03
import QuillModel.Backend.ConsProofsTrace
import QuillModel.Backend.FlushTop
/-!
# C03 — exactly once, as ONE statement over the whole trace

`C03_exactly_once` is stated per processing call plus any later schedule: the acceptance decision is that of the state in
which the call starts, and that state is a hypothesis. Here the decision point is *found in the trace*: for every schedule,
every accepted ordinary statement and every sink, the number of writes in the final event history is

* `0` while the statement has not been popped, and
* once it has been popped, exactly what `_write_log_statement` decided in the state `w` in which the backend entered
  `_process_transit_event` with this statement at the front of a transit buffer — a state of **this very run** (it satisfies
  the invariants, and the history up to and including that call is a suffix of the final history): one write per
  occurrence of the sink among the sinks of the statement's logger that accepted it *then* (sink level and filters as they were
  at pop time, whatever `set_log_level` / filter changes came later), cut at the first sink whose `write_log` threw.

`C03_once_iff` reads this as "at most once, and exactly once iff reached and accepted" when the logger lists each sink once.
Property theorems only; helpers in `Backend/ConsProofsTrace.lean`.
-/
namespace Backend
open Backend.PA

/-- the number `n` of writes of `st` at sink `sid` decided by `_write_log_statement` in state `w`: every accepting sink of the
    logger when no `write_log` throws; with a throw at sink `f`, the accepting sinks listed before `f` -/
def DispatchCount (w : BSt) (st : Stmt) (sid n : Nat) : Prop :=
  ((dispatch w st).2 = false ∧ n = ((w.lgOf st.lg).sinks.filter (acc w st)).count sid) ∨
  (∃ pre f post, (w.lgOf st.lg).sinks = pre ++ f :: post ∧ (dispatch w st).2 = true ∧ acc w st f = true ∧
    n = (pre.filter (acc w st)).count sid)

/-- **Exactly once, over the whole trace.** For every schedule `ops` from a fresh state, every context `i`, every ordinary
    statement `st` in its accepted history (`isOrd`: a log statement at a level other than Backtrace):

    * if `st` has not been popped, the final history holds **no** ordinary write of `st.id` at any sink;
    * if it has, there is a state `w` of the run — satisfying the invariants, with `st` at the front of the transit buffer of a
      context `j`, and such that the history right after the processing call `popStep w j st rest` is a **suffix of the
      final history** — and at **every** sink `sid` the number of ordinary writes of `st.id` in the final history is the
      number that call left, which is `DispatchCount w st sid`: the acceptance decision at pop time. -/
theorem C03_exactly_once_trace (s0 : BSt) (hA : Fresh s0) (hF : StartF s0) (ops : List Op) (i : Nat) (st : Stmt)
    (hm : st ∈ ((runOps s0 ops).th i).accepted) (hord : isOrd st = true) :
    (st ∉ ((runOps s0 ops).th i).popped → ∀ sid, wcount (runOps s0 ops).log sid st.id = 0) ∧
    (st ∈ ((runOps s0 ops).th i).popped → ∃ w j rest, Inv w ∧ (w.th j).buf = st :: rest ∧
      (∃ evs, (runOps s0 ops).log = evs ++ (popStep w j st rest).log) ∧
      ∀ sid, wcount (runOps s0 ops).log sid st.id = wcount (popStep w j st rest).log sid st.id ∧
        DispatchCount w st sid (wcount (runOps s0 ops).log sid st.id)) := by
  have hI : Inv (runOps s0 ops) := hA.inv.run ops
  have hP : PW (runOps s0 ops) := (PW.start hA.inv hF.start.popLog).run ops
  have hfi := (PB.start_FI hF).runOps ops
  constructor
  · intro hnp sid
    have hc := hfi.cons i
    rw [hc, List.append_assoc] at hm
    rcases List.mem_append.mp hm with h1 | h1
    · exact absurd h1 hnp
    · exact hI.unpopped_unwritten h1 hord sid
  · intro hp
    have hcnt := hI.popped_counted hp hord
    obtain ⟨w, j, st', rest, hw⟩ := hP.wit st.id hcnt
    have hst : st' = st :=
      eq_of_countP_le_one (pq st.id) _ (popLog_uniq hI st.id) st' st hw.popped (hfi.plog i st hp) hw.isit
        (by simp [pq, hord])
    subst hst
    refine ⟨w, j, rest, hw.inv, hw.front, hw.past, fun sid => ⟨hw.cnt sid, ?_⟩⟩
    rw [hw.cnt sid]
    exact popStep_wcount hw.inv j st' rest hw.front hord sid

/-- for a logger that lists every sink once the count is 1 for a listed accepting sink, else 0 -/
theorem C03_final_count_nodup (l : List Nat) (p : Nat → Bool) (sid : Nat) (hn : l.Nodup) :
    (l.filter p).count sid = if sid ∈ l ∧ p sid = true then 1 else 0 := by
  by_cases hp : p sid = true
  · rw [List.count_filter hp, hn.count]
    simp only [hp, and_true]
  · rw [if_neg (fun h => hp h.2), List.count_eq_zero.mpr (fun h => hp (List.mem_filter.mp h).2)]

/-- **At most once; exactly once iff reached and accepted.** When the logger lists each of its sinks once (in the state `w`
    of the decision), the count decided there is at most one, and it is one exactly when the sink accepted the statement at
    that moment and the dispatch reached it: it is one of the logger's sinks (no `write_log` threw), respectively one of the
    sinks listed before the sink `f` whose `write_log` threw. -/
theorem C03_once_iff (w : BSt) (st : Stmt) (sid n : Nat) (hd : DispatchCount w st sid n)
    (hnd : (w.lgOf st.lg).sinks.Nodup) :
    n ≤ 1 ∧
    (((dispatch w st).2 = false ∧ (n = 1 ↔ sid ∈ (w.lgOf st.lg).sinks ∧ acc w st sid = true)) ∨
     (∃ pre f post, (w.lgOf st.lg).sinks = pre ++ f :: post ∧ (dispatch w st).2 = true ∧ acc w st f = true ∧
       (n = 1 ↔ sid ∈ pre ∧ acc w st sid = true))) := by
  have key : ∀ l : List Nat, l.Nodup → ((l.filter (acc w st)).count sid ≤ 1 ∧
      ((l.filter (acc w st)).count sid = 1 ↔ sid ∈ l ∧ acc w st sid = true)) := by
    intro l hl
    rw [C03_final_count_nodup l (acc w st) sid hl]
    split
    · next h => exact ⟨Nat.le_refl _, fun _ => h, fun _ => rfl⟩
    · next h => exact ⟨Nat.zero_le _, fun h1 => absurd h1 (by decide), fun h1 => absurd h1 h⟩
  rcases hd with ⟨h1, h2⟩ | ⟨pre, f, post, h1, h2, h3, h4⟩
  · obtain ⟨k1, k2⟩ := key _ hnd
    subst h2
    exact ⟨k1, Or.inl ⟨h1, k2⟩⟩
  · have hpre : pre.Nodup := by
      rw [h1] at hnd
      exact (List.nodup_append.mp hnd).1
    obtain ⟨k1, k2⟩ := key _ hpre
    subst h4
    exact ⟨k1, Or.inr ⟨pre, f, post, h1, h2, h3, k2⟩⟩

/-- sink 2 accepts only level ≥ 5 at the beginning -/
def c03tInit : BSt :=
  { cfg := c03Cfg, now := 1000, sinks := [{ sid := 1 }, { sid := 2, lvl := 5 }],
    lgs := [{ gid := 0, sinks := [1, 2], level := 0 }], names := [(0, 0)] }

theorem c03tInit_fresh : Fresh c03tInit :=
  Fresh.of_no_rings (by decide) rfl rfl rfl rfl (by decide)

theorem c03tInit_startF : StartF c03tInit := ⟨⟨by show 0 < 32; decide, rfl, rfl, rfl, rfl, rfl⟩, rfl, rfl⟩

/-- two threads; statement 0 (level 4) is popped while sink 2 still rejects level 4; **afterwards** sink 2 is opened to every
    level, and statement 1 (level 4, other thread; it was committed inside the first poll) is popped -/
def c03tSched : List Op :=
  [.front (.tstart 0), .front (.tstart 1), .front (.log 0 0 4 10 true), .poll [(2, 1, [.log 1 0 4 10 true])],
   .front (.setSinkLevel 2 0), .poll [], .front (.log 0 0 4 10 true)]

/-- non-vacuity of `C03_exactly_once_trace`: the hypotheses hold for statements 0 and 1 (accepted, ordinary, popped) and for
    statement 2 (accepted, ordinary, not popped). In the FINAL state sink 2 accepts level 4, yet statement 0 has no write at
    sink 2 (decision of the pop-time state, where the sink's level was 5) and statement 1 has one; statement 2 has none
    anywhere. -/
example :
    let s := runOps c03tInit c03tSched
    (s.th 0).accepted.map (fun st => (st.id, isOrd st)) = [(0, true), (2, true)] ∧ (s.th 0).popped.map (·.id) = [0] ∧
    (s.th 1).accepted.map (fun st => (st.id, isOrd st)) = [(1, true)] ∧ (s.th 1).popped.map (·.id) = [1] ∧
    (s.sinkOf 2).lvl = 0 ∧
    wcount s.log 1 0 = 1 ∧ wcount s.log 2 0 = 0 ∧ wcount s.log 1 1 = 1 ∧ wcount s.log 2 1 = 1 ∧
    wcount s.log 1 2 = 0 ∧ wcount s.log 2 2 = 0 := by decide +kernel

end Backend
