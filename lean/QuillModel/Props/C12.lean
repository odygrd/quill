import QuillModel.Pattern.Lines
import QuillModel.Pattern.Meta
import QuillModel.Pattern.Fuel
import QuillModel.Pattern.Dup
import QuillModel.Pattern.Calls
import QuillModel.Pattern.Sinks
import QuillModel.Pattern.Chars
/-!
# C12 — the line handed to a sink equals the pattern with every attribute substituted

Model: `QuillModel/Pattern/Model.lean` (two-stage implementation: the constructor rewrites `%(attr:spec)` to `{:spec}`
and records slot numbers, `format()` fills the slots and calls fmt's `vformat_to`).

**Full statement (false for the current code — finding F7):**
for every well-formed item list `p` with non-empty text and every valuation,
`formatPattern (printPattern p) vals = .line (p.flatMap (render vals) ++ "\n")`.
It fails whenever a literal chunk contains `{` or `}`: the rewritten string is handed to fmt, which reads `{{`/`}}`
as escapes and anything else in braces as a replacement field (`F7_…` below). What is proved is the statement under the
explicit hypothesis `NoBrace p` (`…_partial`); what is missing for the full statement is an escaping of literal braces
in `_generate_fmt_format_string`.

Other explicit boundaries: the empty pattern formats to the empty string (documented special case,
`C12_empty_pattern`); with named arguments present a message is never split (`multiline_named_args_not_split`); the
`MacroMetadata` views are proved for source locations of the form `dir/base:line` (`C12_metadata_views`) — without a `:`
the model's `metaView` is `none`, and no theorem speaks of that case.
-/
namespace Pattern

/-- **C12 (substitution), partial: needs "no brace in literal text" (F7).**
For every pattern that is a list of literal chunks and `%(attr[:spec])` fields — literal chunks free of `%(` and of
braces, specs in the modelled fmt subset `[[fill]align][width][.precision]`, every attribute at most once — and every
attribute valuation, the two-stage implementation returns the direct substitution followed by a newline. -/
theorem C12_format_eq_substitution_partial (p : List Item) (vals : Attr → Str) (hwf : WF p) (hnb : NoBrace p)
    (hne : printPattern p ≠ []) :
    formatPattern (printPattern p) vals = .line (p.flatMap (render vals) ++ ['\n']) := by
  rw [formatPattern_slots p vals hwf.1 hwf.2.1 hnb (attrs_length_le _ hwf.2.2) hne,
    slots_filled _ vals p 0 (fun j a hj => by rw [Nat.zero_add]; exact fillArgs_get p vals hwf.2.2 j a hj)]

/-- non-vacuity: quill's default pattern meets the hypotheses -/
def defaultItems : List Item :=
  [.field .time none, .lit " [".toList, .field .threadId none, .lit "] ".toList,
   .field .shortSourceLocation (some { align := some .left, width := 28 }), .lit " LOG_".toList,
   .field .logLevel (some { align := some .left, width := 9 }), .lit " ".toList,
   .field .logger (some { align := some .left, width := 12 }), .lit " ".toList, .field .message none]

theorem defaultItems_hyps : WF defaultItems ∧ NoBrace defaultItems ∧ printPattern defaultItems ≠ [] := by
  refine ⟨by decide +kernel, by decide +kernel, by decide +kernel⟩

example : WF defaultItems ∧ NoBrace defaultItems ∧ printPattern defaultItems ≠ [] := defaultItems_hyps

theorem printPattern_defaultItems : printPattern defaultItems =
    "%(time) [%(thread_id)] %(short_source_location:<28) LOG_%(log_level:<9) %(logger:<12) %(message)".toList := by
  -- evaluating `String.toList` on a literal is quadratic in its length: the literal is read as `String.ofList _`, the
  -- attribute names as characters
  exact (toList_eq_printPattern (by decide +kernel)).symm

example : printPattern defaultItems =
    "%(time) [%(thread_id)] %(short_source_location:<28) LOG_%(log_level:<9) %(logger:<12) %(message)".toList :=
  printPattern_defaultItems

/-- a pattern with fill characters `%`, `(` and `:`, precision, percent signs next to a field, all three alignments -/
def trickyItems : List Item :=
  [.lit "100%".toList, .field .message (some { fill := some '%', align := some .center, width := 9, prec := some 3 }),
   .lit "%) (".toList, .field .logger (some { fill := some '(', align := some .right, width := 5 }),
   .field .tags (some { fill := some ':', align := some .left, width := 4, prec := some 0 }), .lit "%".toList]

example : WF trickyItems ∧ NoBrace trickyItems ∧ printPattern trickyItems ≠ [] := by
  refine ⟨by decide +kernel, by decide +kernel, by decide +kernel⟩

/-- documented special case: the empty pattern means "no formatting" — the result is empty, without a newline -/
theorem C12_empty_pattern (vals : Attr → Str) : formatPattern [] vals = .line [] := rfl

/-! F7: braces in literal text are interpreted by fmt. Each witness is evaluated, the constructor through `constructC`. -/

/-- `"%(message) {lit}"`: fmt looks for an argument named `lit` and throws; the statement is lost -/
theorem F7_brace_literal_throws (vals : Attr → Str) :
    formatPattern "%(message) {lit}".toList vals = .formatError := by
  rw [String.toList_ofList, formatPattern_chars]
  rfl

/-- `"{{%(message)}}"` prints single braces -/
theorem F7_double_brace_collapses (vals : Attr → Str) :
    formatPattern "{{%(message)}}".toList vals = .line ('{' :: (vals .message ++ ['}', '\n'])) := by
  rw [String.toList_ofList, formatPattern_chars]
  rfl

/-- a literal `{}` consumes the slot of the first attribute and shifts every later one -/
theorem F7_empty_braces_steal_slot :
    formatPattern "{} %(logger)".toList (fun a => a.name) = .formatError ∧
    formatPattern "%(logger) %(message){}".toList (fun a => a.name) = .formatError := by
  rw [String.toList_ofList, String.toList_ofList, formatPattern_chars, formatPattern_chars, funext Attr.name_eq_chars]
  decide +kernel

/-- the full statement (without `NoBrace`) is false -/
theorem C12_full_statement_false :
    ¬ ∀ (p : List Item) (vals : Attr → Str), WF p → printPattern p ≠ [] →
        formatPattern (printPattern p) vals = .line (p.flatMap (render vals) ++ ['\n']) := by
  intro h
  have := h [.field .message none, .lit " {lit}".toList] (fun _ => []) (by decide +kernel) (by decide +kernel)
  rw [formatPattern_items _ _ (by decide +kernel) rfl (by decide +kernel)] at this
  revert this
  decide +kernel

/-- the constructor accepts every pattern of well-formed items with at most sixteen fields — also with duplicates
    (which then fail at format time, see `C12_duplicate_attribute_always_throws`) -/
theorem C12_accepts (p : List Item) (hwf : ∀ it ∈ p, it.wf = true) (hadj : noAdjLits p = true)
    (hlen : (attrsOf p).length ≤ 16) : ∃ c, construct (printPattern p) = .ok c :=
  ⟨_, construct_items' p hwf hadj hlen⟩

/-- after any well-formed prefix, a `%(` that is not followed by a `)` anywhere makes the constructor throw
    `QuillError{"Invalid format pattern"}` -/
theorem C12_rejects_unterminated (p : List Item) (u : Str) (hwf : ∀ it ∈ p, it.wf = true) (hadj : noAdjLits p = true)
    (hlen : (attrsOf p).length ≤ 16) (hu : ')' ∉ u) :
    construct (printPattern p ++ '%' :: '(' :: u) = .error .unterminated := by
  refine construct_error_after_items p u _ hwf hadj hlen fun hcl n o s k nf => ?_
  have hn : splitAtChar ')' (u ++ ['\n']) = none := by
    rw [splitAtChar_none]; simp only [List.mem_append, List.mem_singleton, not_or]; exact ⟨hu, by decide⟩
  simp only [generate, findField_append_field _ hcl, hn]

/-- after any well-formed prefix, a field whose name is not one of the sixteen makes the constructor throw
    `Invalid format pattern, attribute with name "…" is invalid` (whatever follows, even an unterminated `%(`) -/
theorem C12_rejects_unknown (p : List Item) (name u : Str) (hwf : ∀ it ∈ p, it.wf = true) (hadj : noAdjLits p = true)
    (hlen : (attrsOf p).length ≤ 16) (hn1 : ')' ∉ name) (hn2 : ':' ∉ name) (hunk : attrOfName name = none) :
    construct (printPattern p ++ '%' :: '(' :: (name ++ ')' :: u)) = .error (.unknownAttr name) := by
  refine construct_error_after_items p _ _ hwf hadj hlen fun hcl n o s k nf => ?_
  rw [List.append_assoc, List.cons_append, generate_step n _ name _ o s k nf hcl hn1, fieldParts_name hn2, hunk]

/-- the same with a spec: the name is what precedes the first `:` -/
theorem C12_rejects_unknown_with_spec (p : List Item) (name spec u : Str) (hwf : ∀ it ∈ p, it.wf = true)
    (hadj : noAdjLits p = true) (hlen : (attrsOf p).length ≤ 16) (hn1 : ')' ∉ name) (hn2 : ':' ∉ name)
    (hs : ')' ∉ spec) (hunk : attrOfName name = none) :
    construct (printPattern p ++ '%' :: '(' :: (name ++ ':' :: (spec ++ ')' :: u))) = .error (.unknownAttr name) := by
  refine construct_error_after_items p _ _ hwf hadj hlen fun hcl n o s k nf => ?_
  have hbody : ')' ∉ name ++ ':' :: spec := by
    simp only [List.mem_append, List.mem_cons, not_or]; exact ⟨hn1, by decide, hs⟩
  rw [show (name ++ ':' :: (spec ++ ')' :: u)) ++ ['\n'] = (name ++ ':' :: spec) ++ ')' :: (u ++ ['\n']) by simp,
    generate_step n _ _ _ o s k nf hcl hbody, fieldParts_spec spec hn2, hunk]

/-- for EVERY pattern text: the constructor model fails only with the two errors of the C++ constructor (or reports
    the undefined-behaviour case of more than sixteen fields); its loop fuel is never exhausted, because every
    iteration removes one `)` from the pattern -/
theorem C12_constructor_error_kinds (pattern : Str) (e : CtorErr) (h : construct pattern = .error e) :
    e = .unterminated ∨ (∃ n, e = .unknownAttr n) ∨ e = .tooManyFields :=
  construct_error_kinds pattern e h

deriving instance DecidableEq for Except

/-- specs outside the subset that fmt rejects for string arguments make every statement throw -/
example : formatPattern "%(message:05)".toList (fun a => a.name) = .formatError := by
  rw [String.toList_ofList, formatPattern_chars, funext Attr.name_eq_chars]
  decide +kernel
example : formatPattern "%(message:d)".toList (fun a => a.name) = .formatError := by
  rw [String.toList_ofList, formatPattern_chars, funext Attr.name_eq_chars]
  decide +kernel
example : formatPattern "%(message:2147483648)".toList (fun a => a.name) = .formatError := by
  rw [String.toList_ofList, formatPattern_chars, funext Attr.name_eq_chars]
  decide +kernel
example : parseSpec "2147483647.0".toList = .ok { width := 2147483647, prec := some 0 } := by
  repeat rw [String.toList_ofList]
  decide +kernel

/-- the errors of the constructor model are exactly these kinds on the examples of the malformed stream;
    which error wins is decided by position: the first offending field -/
example : construct "%(nope) %(message".toList = .error (.unknownAttr "nope".toList) := by
  rw [String.toList_ofList, String.toList_ofList, construct_eq]
  decide +kernel
example : construct "%(message %(nope".toList = .error .unterminated := by
  rw [String.toList_ofList, construct_eq]
  decide +kernel
example : construct "%()".toList = .error (.unknownAttr []) := by
  rw [construct_eq]
  decide +kernel
example : construct "%(Message)".toList = .error (.unknownAttr "Message".toList) := by
  rw [String.toList_ofList, String.toList_ofList, construct_eq]
  decide +kernel
example : construct "%(message )".toList = .error (.unknownAttr "message ".toList) := by
  rw [String.toList_ofList, String.toList_ofList, construct_eq]
  decide +kernel
/-- quirk of rewriting in place and rescanning from the start: a spec that contains `%(` is scanned again -/
example : construct "%(message:%(logger)".toList = .error .unterminated := by
  rw [String.toList_ofList, construct_eq]
  decide +kernel
/-- a `%` and a `(` that are not adjacent are literal text -/
example : formatPattern "% (message) %%(logger)%".toList (fun a => a.name) = .line "% (message) %logger%\n".toList := by
  rw [String.toList_ofList, String.toList_ofList, formatPattern_chars, funext Attr.name_eq_chars]
  decide +kernel

/-- a pattern of well-formed items (no brace in literals, at most sixteen fields) in which some attribute
    occurs twice is accepted, and then EVERY statement throws — the slot of the earlier occurrence is never filled -/
theorem C12_duplicate_attribute_always_throws (p : List Item) (vals : Attr → Str) (hwf : ∀ it ∈ p, it.wf = true)
    (hadj : noAdjLits p = true) (hnb : NoBrace p) (hlen : (attrsOf p).length ≤ 16) (hdup : ¬ (attrsOf p).Nodup) :
    formatPattern (printPattern p) vals = .formatError := by
  obtain ⟨i, j, a, hij, hi, hj⟩ := exists_duplicate_of_not_nodup hdup
  have hjlt : j < (attrsOf p).length := (List.getElem?_eq_some_iff.mp hj).1
  have hne : printPattern p ≠ [] := fun e => by
    have := attrs_length_le_print p
    rw [e] at this
    exact absurd (Nat.lt_of_lt_of_le hjlt this) (Nat.not_lt_zero _)
  rw [formatPattern_slots p vals hwf hadj hnb hlen hne, slots_missing _ p 0 i (Nat.lt_trans hij hjlt)
    (by rw [Nat.zero_add]; exact getArg_none_of_later_duplicate p vals hlen i j a hij hi hj)]

/-- "The same attribute cannot be used twice": accepted by the constructor, every statement then throws -/
theorem duplicate_attribute_throws (vals : Attr → Str) :
    formatPattern "%(message) %(logger) %(message)".toList vals = .formatError := by
  have hp : "%(message) %(logger) %(message)".toList =
      printPattern [.field .message none, .lit [' '], .field .logger none, .lit [' '], .field .message none] :=
    toList_eq_printPattern (by decide +kernel)
  rw [hp]
  exact C12_duplicate_attribute_always_throws _ vals (by decide +kernel) rfl (by decide +kernel) (by decide +kernel)
    (by decide +kernel)

example : (∀ it ∈ [Item.field .message none, .lit " ".toList, .field .message none], it.wf = true) ∧
    ¬ (attrsOf [Item.field .message none, .lit " ".toList, .field .message none]).Nodup := by
  repeat rw [String.toList_ofList]
  decide +kernel

/-- option on, no named arguments: the pieces are `msg.splitOn '\n'` after removing at most one trailing newline
    (i.e. with one trailing empty piece dropped; the empty message is one empty piece) -/
theorem C12_multiline_on (msg : Str) : dispatch true true msg = (stripOneNl msg).splitOn '\n' := by
  simp [dispatch, multiLine_eq_splitOn]

/-- option off: one statement, at most one trailing newline removed -/
theorem C12_multiline_off (namedEmpty : Bool) (msg : Str) : dispatch false namedEmpty msg = [stripOneNl msg] := rfl

/-- with named arguments the message is never split ("only supported when named_args are not used";
    pinned by `JsonMultilineMetadataTest`) -/
theorem multiline_named_args_not_split (addMetadata : Bool) (msg : Str) :
    dispatch addMetadata false msg = [stripOneNl msg] := by
  simp [dispatch]

theorem stripOneNl_spec (m : Str) :
    stripOneNl (m ++ ['\n']) = m ∧ (m.getLast? ≠ some '\n' → stripOneNl m = m) := by
  refine ⟨stripOneNl_append_nl m, fun h => ?_⟩
  simp [stripOneNl, h]

example : dispatch true true "a\n\nb\n".toList = ["a".toList, [], "b".toList] := by decide +kernel
example : dispatch true true "\n\n".toList = [[], []] := by decide +kernel
example : dispatch true true [] = [[]] := by decide +kernel
example : dispatch false true "a\n\nb\n\n".toList = ["a\n\nb\n".toList] := by decide +kernel
example : dispatch true false "a\nb".toList = ["a\nb".toList] := by
  repeat rw [String.toList_ofList]
  decide +kernel

/-- every piece is formatted as a whole line (partial: F7 hypothesis) -/
theorem C12_statements_partial (p : List Item) (st : Stmt) (mv : MetaView) (addMetadata : Bool) (msg : Str)
    (hwf : WF p) (hnb : NoBrace p) (hne : printPattern p ≠ []) :
    statements (printPattern p) st mv addMetadata msg =
      (dispatch addMetadata (st.named.getD []).isEmpty msg).map fun piece =>
        .line (p.flatMap (render (valuation st mv piece)) ++ ['\n']) := by
  unfold statements
  apply List.map_congr_left
  intro piece _
  exact C12_format_eq_substitution_partial p _ hwf hnb hne

/-- `"dir/base:line"` (`dir` empty or ending in `/`, no `/` in `base`, no `:` or `/` in `line`, below the `uint16_t`
    limit): file name, full path, line, short source location are the expected pieces -/
theorem C12_metadata_views (dir base line : Str) (hd : dir = [] ∨ dir.getLast? = some '/') (hb : '/' ∉ base)
    (hl1 : ':' ∉ line) (hl2 : '/' ∉ line) (hlen : (dir ++ base ++ ':' :: line).length < 65536) :
    metaView (dir ++ base ++ ':' :: line) = some
      { fileName := base, fullPath := dir ++ base, line := line, shortSourceLocation := base ++ ':' :: line,
        sourceLocation := dir ++ base ++ ':' :: line } := by
  have hc := rfindColon_eq (dir ++ base) line hl1
  have hrest : '/' ∉ base ++ ':' :: line := by
    simp only [List.mem_append, List.mem_cons, not_or]; exact ⟨hb, by decide, hl2⟩
  have hf := fileNamePos_eq dir (base ++ ':' :: line) hd hrest
  rw [← List.append_assoc] at hf
  simp only [List.length_append, List.length_cons] at hlen
  have h1 : (dir ++ base).length % 65536 = (dir ++ base).length :=
    Nat.mod_eq_of_lt (by rw [List.length_append]; omega)
  have h2 : dir.length % 65536 = dir.length := Nat.mod_eq_of_lt (by omega)
  have h3 : ¬ dir.length > (dir ++ base).length := by rw [List.length_append]; omega
  have e1 : (dir ++ base ++ ':' :: line).drop dir.length = base ++ ':' :: line := by
    rw [List.append_assoc, List.drop_left]
  have e2 : (dir ++ base ++ ':' :: line).drop ((dir ++ base).length + 1) = line := by
    rw [← List.drop_drop, List.drop_left]; rfl
  have e3 : (dir ++ base).length - dir.length = base.length := by rw [List.length_append, Nat.add_sub_cancel_left]
  simp only [metaView, hc, hf, h1, h2, h3, if_false, List.take_left, e1, e2, e3]

example : metaView "/a/b/c.cpp:123".toList = some
    { fileName := "c.cpp".toList, fullPath := "/a/b/c.cpp".toList, line := "123".toList,
      shortSourceLocation := "c.cpp:123".toList, sourceLocation := "/a/b/c.cpp:123".toList } := by
  repeat rw [String.toList_ofList]
  decide +kernel

example : metaView "C:/x/y.cc:7".toList = some
    { fileName := "y.cc".toList, fullPath := "C:/x/y.cc".toList, line := "7".toList,
      shortSourceLocation := "y.cc:7".toList, sourceLocation := "C:/x/y.cc:7".toList } := by
  repeat rw [String.toList_ofList]
  decide +kernel

theorem joinNamed_eq (l : List (Str × Str)) :
    joinNamed l = List.intercalate [',', ' '] (l.map fun kv => kv.1 ++ ':' :: ' ' :: kv.2) := by
  induction l with
  | nil => rfl
  | cons kv l ih =>
    obtain ⟨k, v⟩ := kv
    cases l with
    | nil => simp [joinNamed, List.intercalate]
    | cons kv2 l2 =>
      have h : joinNamed ((k, v) :: kv2 :: l2) = k ++ ':' :: ' ' :: (v ++ ',' :: ' ' :: joinNamed (kv2 :: l2)) := rfl
      rw [h, ih]
      simp [List.intercalate]

/-! One formatter, many statements ("… for every statement"). A `PatternFormatter` handles every statement of its
logger; `_args` is a member. `Pattern/Calls.lean` models the instance as a state machine over `format()` calls
(`Inst.step`, `formatCalls`). For the pinned code the state is invisible: every call gives what a fresh formatter gives
for that call alone, so `%(time)` is `TimestampFormatter::format_timestamp` (`tf`, C13's subject) of the statement's own
timestamp — the first call, a repeated timestamp and timestamp 0 are no exceptions. -/

/-- the outcome of a call does not depend on the calls the formatter handled before (any pattern, accepted or not) -/
theorem C12_call_independent_of_earlier_calls (pattern : Str) (tf : Nat → Str) (pre : List Call) (k : Call) :
    formatLast pattern tf pre k = formatPattern pattern (k.valuation tf) := formatLast_eq pattern tf pre k

/-- **C12 over the life of a formatter, partial (F7 hypothesis as in the main theorem):** every call of a sequence of
    calls through one formatter returns the direct substitution of *its own* attribute values, `%(time)` being `tf` of
    its own timestamp. -/
theorem C12_every_call_eq_substitution_partial (p : List Item) (tf : Nat → Str) (calls : List Call) (hwf : WF p)
    (hnb : NoBrace p) (hne : printPattern p ≠ []) :
    formatCalls false (printPattern p) tf calls =
      calls.map fun k => .line (p.flatMap (render (k.valuation tf)) ++ ['\n']) := by
  rw [formatCalls_eq]
  apply List.map_congr_left
  intro k _
  exact C12_format_eq_substitution_partial p _ hwf hnb hne

/-- `%(time)` with any (valid) width/alignment spec: two calls with the same timestamp print the same text, whatever
    either formatter handled before and whatever the other attributes are -/
theorem C12_time_function_of_timestamp (spec : Option Spec) (hsp : (Item.field .time spec).wf = true) (tf : Nat → Str)
    (pre pre' : List Call) (k k' : Call) (h : k.ts = k'.ts) :
    formatLast (printPattern [.field .time spec]) tf pre k = formatLast (printPattern [.field .time spec]) tf pre' k' := by
  have hwf : WF [Item.field .time spec] := by
    refine ⟨?_, rfl, by simp [attrsOf]⟩
    intro it hit
    simp only [List.mem_singleton] at hit
    subst hit
    exact hsp
  have hnb : NoBrace [Item.field .time spec] := by
    intro it hit
    simp only [List.mem_singleton] at hit
    subst hit
    rfl
  have hne : printPattern [Item.field .time spec] ≠ [] := by
    cases spec <;> simp [printPattern, Item.print]
  rw [formatLast_eq, formatLast_eq, C12_format_eq_substitution_partial _ _ hwf hnb hne,
    C12_format_eq_substitution_partial _ _ hwf hnb hne]
  cases spec <;> simp [render, Call.valuation, h]

/-- … and the very first call of a fresh formatter with timestamp 0 prints `tf 0` (with the spec applied), not the
    placeholder the constructor left in the slot -/
theorem C12_first_call_timestamp_zero (tf : Nat → Str) (vals : Attr → Str) :
    formatLast "%(time)".toList tf [] ⟨0, vals⟩ = .line (tf 0 ++ ['\n']) ∧
    formatLast "[%(time:>12)] %(message)".toList tf [] ⟨0, vals⟩ =
      .line ('[' :: (applySpec { align := some .right, width := 12 } (tf 0) ++ "] ".toList ++ vals .message ++ ['\n'])) := by
  constructor
  · rw [formatLast_eq, show "%(time)".toList = printPattern [.field .time none] from
      toList_eq_printPattern (by decide +kernel),
      C12_format_eq_substitution_partial _ _ (by decide +kernel) (by decide +kernel) (by decide +kernel)]
    simp [render, Call.valuation]
  · rw [formatLast_eq, show "[%(time:>12)] %(message)".toList = printPattern [.lit "[".toList,
        .field .time (some { align := some .right, width := 12 }), .lit "] ".toList, .field .message none] from
      toList_eq_printPattern (by decide +kernel),
      C12_format_eq_substitution_partial _ _ (by decide +kernel) (by decide +kernel) (by decide +kernel)]
    simp [render, Call.valuation]

/-- the timestamp sequence 0, 0, t, 0 through `%(time) %(message)` -/
example (tf : Nat → Str) (t : Nat) (m : Attr → Str) :
    formatCalls false "%(time) %(message)".toList tf [⟨0, m⟩, ⟨0, m⟩, ⟨t, m⟩, ⟨0, m⟩] =
      [.line (tf 0 ++ ' ' :: (m .message ++ ['\n'])), .line (tf 0 ++ ' ' :: (m .message ++ ['\n'])),
       .line (tf t ++ ' ' :: (m .message ++ ['\n'])), .line (tf 0 ++ ' ' :: (m .message ++ ['\n']))] := by
  rw [show "%(time) %(message)".toList = printPattern [.field .time none, .lit " ".toList, .field .message none] from
      toList_eq_printPattern (by decide +kernel),
    C12_every_call_eq_substitution_partial _ tf _ (by decide +kernel) (by decide +kernel) (by decide +kernel)]
  simp [render, Call.valuation]

/-- the calls of the witness below: timestamps 0, 0, 7, 0; message `m` -/
def memoWitnessCalls : List Call :=
  [⟨0, fun _ => ['m']⟩, ⟨0, fun _ => ['m']⟩, ⟨7, fun _ => ['m']⟩, ⟨0, fun _ => ['m']⟩]

/-- **Why the `Time` slot must be filled on every call** (the guard extracted as `formatSeq` and re-proved in
    `Obligations.pattern_format_seq`): the variant that refreshes `%(time)` only `if (timestamp != _last_timestamp)`,
    `_last_timestamp{0}`, prints the placeholder `time` for the first statements stamped 0 — the pinned code prints the
    time. (`tf` = decimal digits of the timestamp, for concreteness.) -/
theorem C12_memoised_time_fails :
    formatCalls true "[%(time:>6)] %(message)".toList digits memoWitnessCalls =
      [.line "[  time] m\n".toList, .line "[  time] m\n".toList, .line "[     7] m\n".toList, .line "[     0] m\n".toList] ∧
    formatCalls false "[%(time:>6)] %(message)".toList digits memoWitnessCalls =
      [.line "[     0] m\n".toList, .line "[     0] m\n".toList, .line "[     7] m\n".toList, .line "[     0] m\n".toList] := by
  constructor
  · -- the variant is run: the constructor through `constructC`, then four `format()` calls on the instance
    rw [String.toList_ofList, String.toList_ofList, String.toList_ofList, String.toList_ofList, formatCalls, construct_eq]
    decide +kernel
  · -- the pinned code is the substitution, by the theorem for every pattern
    rw [show "[%(time:>6)] %(message)".toList = printPattern [.lit ['['],
        .field .time (some { align := some .right, width := 6 }), .lit [']', ' '], .field .message none] from
        toList_eq_printPattern (by decide +kernel),
      C12_every_call_eq_substitution_partial _ _ _ (by decide +kernel) (by decide +kernel) (by decide +kernel),
      String.toList_ofList, String.toList_ofList]
    decide +kernel

/-! Which pattern applies: the sink's override if it has one, else its logger's. `Pattern/Sinks.lean`: the backend
shares one `PatternFormatter` between loggers with equal options and keeps, per sink, an override formatter; `BState` is
what it remembers between dispatches. For the pinned code that memory never shows: the pattern a sink is served with is
`patternFor sink logger`, whatever loggers were dispatched before and whichever of them share options. -/

/-- the (sink, pattern) pairs of a dispatch are the rule's, in every backend state -/
theorem C12_sink_pattern_rule (cfg : Config) (st : BState) (l : Nat) :
    (dispatch1 false cfg st l).2 = ruleFor cfg l := dispatch1_pinned cfg st l

/-- … hence for every history of dispatches (every order of first use), from every starting state -/
theorem C12_sink_pattern_independent_of_history (cfg : Config) (ls : List Nat) (st st' : BState) :
    runHistory false cfg st ls = ls.map (ruleFor cfg) ∧ runHistory false cfg st ls = runHistory false cfg st' ls := by
  rw [runHistory_pinned, runHistory_pinned]
  exact ⟨rfl, rfl⟩

/-- the statements a sink receives for a log call are `statements (patternFor sink logger) …` — the logger's multi-line
    flag decides the split, each piece is the sink's pattern formatted (`C12_statements_partial` says what that is) —
    in every backend state -/
theorem C12_sink_lines (cfg : Config) (st : BState) (l : Nat) (lg : LoggerCfg) (hl : cfg.loggers[l]? = some lg)
    (stmt : Stmt) (mv : MetaView) (msg : Str) :
    callLines false cfg st l stmt mv msg =
      lg.sinks.filterMap fun k => (cfg.sinks[k]?).map fun sk => (k, statements (patternFor sk lg) stmt mv lg.opts.ml msg) := by
  unfold callLines
  rw [hl, dispatch1_pinned]
  unfold ruleFor
  rw [hl]
  simp only [List.map_filterMap, Option.map_map]
  rfl

/-- two loggers with equal options, the second with a sink that carries an override -/
def overrideWitness : Config :=
  { loggers := [{ opts := ⟨"L %(message)".toList, true⟩, sinks := [0] }, { opts := ⟨"L %(message)".toList, true⟩, sinks := [0, 1] }]
    sinks := [{ override := none }, { override := some ⟨"OV %(message)".toList, true⟩ }] }

example : (overrideWitness.loggers.map (·.opts)).Nodup = False ∧ hasOverride overrideWitness 1 = true := by decide +kernel

/-- **Why the override must be looked up per sink on the write path** (extracted as `overrideChosenOnWritePath`, obligation
    `pattern_backend_facts`): when the override formatters are created only where the logger's formatter is *created*,
    a logger that *shares* the formatter of an earlier logger never gets them — sink 1 is served with the logger's
    pattern if logger 0 was dispatched first and with its override if logger 1 was; the pinned code serves the override
    either way. -/
theorem C12_override_hoisted_fails :
    runHistory true overrideWitness .init [0, 1, 1] =
      [[(0, "L %(message)".toList)], [(0, "L %(message)".toList), (1, "L %(message)".toList)],
       [(0, "L %(message)".toList), (1, "L %(message)".toList)]] ∧
    runHistory true overrideWitness .init [1, 0, 1] =
      [[(0, "L %(message)".toList), (1, "OV %(message)".toList)], [(0, "L %(message)".toList)],
       [(0, "L %(message)".toList), (1, "OV %(message)".toList)]] ∧
    runHistory false overrideWitness .init [0, 1, 1] =
      [[(0, "L %(message)".toList)], [(0, "L %(message)".toList), (1, "OV %(message)".toList)],
       [(0, "L %(message)".toList), (1, "OV %(message)".toList)]] := by
  repeat rw [String.toList_ofList]
  decide +kernel

/-- `message SEP file SEP line SEP function` is split back into its parts, provided the separator does not occur
    inside message, file or line -/
theorem C12_runtime_metadata (m file line fn : Str) (h1 : ¬ magicSep <:+: m) (h2 : ¬ magicSep <:+: file)
    (h3 : ¬ magicSep <:+: line) :
    applyRuntimeMeta (m ++ (magicSep ++ (file ++ (magicSep ++ (line ++ (magicSep ++ fn)))))) =
      some { message := m, fileline := file ++ ':' :: line, function := fn } := by
  unfold applyRuntimeMeta
  rw [splitSep_magic m _ h1]
  simp only
  rw [splitSep_magic file _ h2]
  simp only
  rw [splitSep_magic line _ h3]

example : applyRuntimeMeta ("msg".toList ++ (magicSep ++ ("f.cpp".toList ++ (magicSep ++ ("12".toList ++ (magicSep ++ "fn".toList)))))) =
    some { message := "msg".toList, fileline := "f.cpp:12".toList, function := "fn".toList } := by
  repeat rw [String.toList_ofList]
  decide +kernel

/-- runtime metadata end to end: the attributes derived from `file`, `line` -/
theorem C12_runtime_metadata_views (m dir base line fn : Str) (h1 : ¬ magicSep <:+: m) (h2 : ¬ magicSep <:+: (dir ++ base))
    (h3 : ¬ magicSep <:+: line) (hd : dir = [] ∨ dir.getLast? = some '/') (hb : '/' ∉ base)
    (hl1 : ':' ∉ line) (hl2 : '/' ∉ line) (hlen : (dir ++ base ++ ':' :: line).length < 65536) :
    (applyRuntimeMeta (m ++ (magicSep ++ ((dir ++ base) ++ (magicSep ++ (line ++ (magicSep ++ fn))))))).bind
        (fun rm => (metaView rm.fileline).map fun mv => (rm.message, mv.fileName, mv.line, mv.fullPath, rm.function)) =
      some (m, base, line, dir ++ base, fn) := by
  rw [C12_runtime_metadata m (dir ++ base) line fn h1 h2 h3]
  simp only [Option.bind_some]
  rw [C12_metadata_views dir base line hd hb hl1 hl2 hlen]
  rfl

end Pattern
