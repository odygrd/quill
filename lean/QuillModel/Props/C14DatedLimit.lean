import QuillModel.Rot.History
/-!
# C14 — the size limit for every retained file, Date / DateAndTime schemes (one write)

The Date / DateAndTime instance of `write_limInv_of` (Rot/History.lean): under the dated invariant and the write premise, a
write with a size limit `≤ L` and rotation not stopped keeps every tracked file within `L` or "single statement". Across restarts the
tracked set only shrinks to a suffix (`restart_dated_diskSeq_suffix`); the history-level statement for the dated schemes
is not proved here.
-/
namespace Rot

/-- **One write keeps every tracked file within the bound — Date / DateAndTime** (write premise of `DatedOpOK`) -/
theorem write_limInv_dated (P : Params) (z : Nat → Int) (L : Nat) (w : World) (st : Stmt) (ts : Nat) (h : DatedInv z w)
    (hop : DatedOpOK z w (.write st ts)) (hl : LimInv L w) (hlim : w.sink.cfg.limit ≠ 0) (hle : w.sink.cfg.limit ≤ L)
    (hns : stopped w.sink = false) : LimInv L (write P z w st ts) :=
  write_limInv_of P z L w st ts h.curInv (h.rotSpecG P ts) (prepare_dated_inv P z w st.size ts h hop).curLast hl hlim hle
    hns

end Rot
