import QuillModel.Spsc.Wrap
/-!
# C01 — bounded SPSC queue: each committed record exactly once, in order, intact; no overwrite

Quantifiers: every capacity `> 0` (the C++ rounds to a power of two, which the wrap-around layer needs;
safety does not), every batch threshold, every record-size sequence, every schedule of producer/consumer
micro-steps, every legal (possibly stale) atomic-load result — provided the four cross-thread accesses
carry release/acquire orders (`OrdersOK`, discharged for the extracted orders in `Obligations/Queue.lean`).
-/
namespace Spsc

/-- **No torn / early / overwritten data, no overwrite of unreleased bytes, contiguity.**
    In every state reachable by any schedule, every enabled step is safe:
    * a granted write stays inside the `2·cap` storage (contiguous record) and every cell it overwrites
      held a byte whose consumer read *happens-before* the write (`x < pHb`);
    * a read touches only bytes that *happen-after* their commit (`rpos + n ≤ cHb`) and every byte of the
      record is still in place (`mem (phys x) = some x`). -/
theorem C01_reachable_safe (o : Params) (ho : OrdersOK o) (cap batch : Nat) (hc : 0 < cap)
    (ops : List Op) (hr : Run o (init cap batch) ops) (op : Op)
    (he : Enabled (run o (init cap batch) ops) op) : Safe (run o (init cap batch) ops) op :=
  step_safe _ op (reachable_inv o ho ops _ (init_inv cap batch hc) hr) he

/-- **Exactly once, in order.** In every reachable state the record the consumer reads next is the
    `nread`-th record the producer wrote: same start (sum of the earlier lengths), same length; after the
    step `nread` advances by one — so the sequence of records consumed is a prefix of the sequence
    produced: none lost, duplicated or reordered. -/
theorem C01_fifo (o : Params) (ho : OrdersOK o) (cap batch : Nat) (hc : 0 < cap)
    (ops : List Op) (hr : Run o (init cap batch) ops) (n : Nat)
    (he : Enabled (run o (init cap batch) ops) (.read n)) :
    ∃ hk : (run o (init cap batch) ops).nread < (run o (init cap batch) ops).recs.length,
      (run o (init cap batch) ops).rpos = startK (run o (init cap batch) ops).recs (run o (init cap batch) ops).nread ∧
      n = (run o (init cap batch) ops).recs[(run o (init cap batch) ops).nread] ∧
      (step o (run o (init cap batch) ops) (.read n)).nread = (run o (init cap batch) ops).nread + 1 ∧
      (step o (run o (init cap batch) ops) (.read n)).rpos =
        startK (run o (init cap batch) ops).recs ((run o (init cap batch) ops).nread + 1) :=
  fifo_of_inv o _ (reachable_inv o ho ops _ (init_inv cap batch hc) hr) n he

/-- **Exactly once, in order — over the whole schedule** (`C01_fifo` is a statement about the next read
    in every reachable state; this is its lifting to the trace). For every legal schedule from the initial state, the
    sequence of record lengths the consumer read (`readsOf ops`, in schedule order) is a **prefix** of the sequence the
    producer wrote (`writesOf ops`): no record lost in the middle, none duplicated, none reordered, none invented; and the
    ghost fields the other theorems speak about are exactly these traces (`recs` = everything written, `nread` = number
    of reads). With `C01_reachable_safe` (every byte of a read record is the byte written, and happens-after its commit)
    this is "the consumer observes exactly the records the producer committed". -/
theorem C01_trace_fifo (o : Params) (ho : OrdersOK o) (cap batch : Nat) (hc : 0 < cap)
    (ops : List Op) (hr : Run o (init cap batch) ops) :
    readsOf ops <+: writesOf ops ∧
    (run o (init cap batch) ops).recs = writesOf ops ∧
    (run o (init cap batch) ops).nread = (readsOf ops).length := by
  have hq := reachable_inv o ho ops _ (init_inv cap batch hc) hr
  obtain ⟨h1, h2⟩ := trace_fifo_of_inv o ho ops _ (init_inv cap batch hc) hr
  have h1 : _ = writesOf ops := h1.trans (List.nil_append _)
  have h2 : _ = readsOf ops := h2.trans (List.nil_append _)
  refine ⟨?_, h1, ?_⟩
  · rw [← h2, ← h1]; exact List.take_prefix _ _
  · rw [← h2, List.length_take, Nat.min_eq_left hq.nreadLe]

/-- non-vacuity: on the wrapping schedule of the example below the consumer has read `[5, 8]`, all that was written -/
example : readsOf [.write 5, .commitW, .loadW 5, .read 5, .commitR true, .reloadR 5, .write 8, .commitW, .loadW 13, .read 8]
      = [5, 8] ∧
    writesOf [.write 5, .commitW, .loadW 5, .read 5, .commitR true, .reloadR 5, .write 8, .commitW, .loadW 13, .read 8]
      = [5, 8] ∧ readsOf [.write 5, .commitW, .write 3, .loadW 5, .read 5] = [5] := by decide +kernel

/-- **A reservation is granted only when the record fits in released space, never more than the
    capacity.** `rHist.headD 0` is the newest position the consumer has published. -/
theorem C01_grant_fits (o : Params) (ho : OrdersOK o) (cap batch : Nat) (hc : 0 < cap)
    (ops : List Op) (hr : Run o (init cap batch) ops) (n : Nat)
    (he : Enabled (run o (init cap batch) ops) (.write n)) :
    n ≤ (run o (init cap batch) ops).cap ∧
    (run o (init cap batch) ops).wpos + n ≤
      (run o (init cap batch) ops).cap + (run o (init cap batch) ops).rHist.headD 0 ∧
    (run o (init cap batch) ops).rHist.headD 0 ≤ (run o (init cap batch) ops).rpos :=
  grant_of_inv _ (reachable_inv o ho ops _ (init_inv cap batch hc) hr) n he

/-- a sequence of API calls, each within its contract -/
def ApiRun (o : Params) : St → List Api → Prop
  | _, [] => True
  | s, a :: as => ApiOK s a ∧ ApiRun o (absApi o s a).1 as

def apiRun (o : Params) : St → List Api → St × List Obs
  | s, [] => (s, [])
  | s, a :: as => let r := absApi o s a; let t := apiRun o r.1 as; (t.1, r.2 :: t.2)

def modRun (M : Nat) (o : Params) : MSt → List Api → MSt × List Obs
  | m, [] => (m, [])
  | m, a :: as => let r := modApi M o m a; let t := modRun M o r.1 as; (t.1, r.2 :: t.2)

theorem apiRun_inv (o : Params) (ho : OrdersOK o) :
    ∀ (as : List Api) (s : St), QInv s → ApiRun o s as → QInv (apiRun o s as).1
  | [], _, h, _ => h
  | a :: as, s, h, hr => apiRun_inv o ho as _ (api_inv o ho s a h hr.1) hr.2

/-- **Wrap-around.** For every sequence of API calls made within their contract on a queue whose
    capacity divides `M = 2^w` and is smaller than it, the machine that computes with `w`-bit unsigned
    values (the C++) ends in the image of the free-running machine's state and made exactly the same
    observations (positions published modulo `M`) — through any number of integer wrap-arounds. -/
theorem C01_wrap (M : Nat) (o : Params) (ho : OrdersOK o) :
    ∀ (as : List Api) (s : St), QInv s → s.cap ∣ M → s.cap < M → ApiRun o s as →
      modRun M o (absM M s) (as.map (Api.modM M)) =
        (absM M (apiRun o s as).1, (apiRun o s as).2.map (Obs.modM M))
  | [], _, _, _, _, _ => rfl
  | a :: as, s, h, hd, hlt, hr => by
    have h1 := wrap_refines M o ho s a h hd hlt hr.1
    have hcap : (absApi o s a).1.cap = s.cap := run_cap o (apiOps o s a) s
    have ih := C01_wrap M o ho as (absApi o s a).1 (api_inv o ho s a h hr.1)
      (by rw [hcap]; exact hd) (by rw [hcap]; exact hlt) hr.2
    simp only [List.map_cons, modRun, apiRun, h1, ih]

/-- the C++ mask is the remainder used above -/
theorem mask_eq_mod (x j : Nat) : x &&& (2 ^ j - 1) = x % 2 ^ j := Nat.and_two_pow_sub_one_eq_mod x j

/-- a power-of-two capacity below the integer range divides it -/
theorem pow_cap_ok (j w : Nat) (h : j < w) : 2 ^ j ∣ 2 ^ w ∧ 2 ^ j < 2 ^ w :=
  ⟨Nat.pow_dvd_pow 2 (Nat.le_of_lt h), Nat.pow_lt_pow_right (by decide) h⟩

def quillOrders : Params :=
  { wStore := .release, wLoad := .acquire, rStore := .release, rLoad := .acquire, drainPublish := false }
theorem quillOrders_ok : OrdersOK quillOrders := by decide +kernel

/-- The orders matter. Consumer load relaxed: the byte is read without happening-after its write. -/
theorem weak_wLoad_unsafe :
    let o := { quillOrders with wLoad := .relaxed }
    let sched : List Op := [.write 1, .commitW, .loadW 1]
    Run o (init 8 0) sched ∧ Enabled (run o (init 8 0) sched) (.read 1) ∧
      ¬ Safe (run o (init 8 0) sched) (.read 1) := by
  refine ⟨by decide, by decide, ?_⟩
  rw [← safeB_iff]; decide

/-- Producer reload relaxed: a cell is overwritten whose read does not happen-before. -/
theorem weak_rLoad_unsafe :
    let o := { quillOrders with rLoad := .relaxed }
    let sched : List Op := [.write 2, .commitW, .loadW 2, .read 2, .commitR true, .reloadR 2]
    Run o (init 2 0) sched ∧ Enabled (run o (init 2 0) sched) (.write 2) ∧
      ¬ Safe (run o (init 2 0) sched) (.write 2) := by
  refine ⟨by decide, by decide, ?_⟩
  rw [← safeB_iff]; decide

/-- non-vacuity: a legal schedule that fills, drains, publishes and then grants a full-capacity record,
    wrapping the physical offset -/
example : Run quillOrders (init 8 0)
    [.write 5, .commitW, .loadW 5, .read 5, .commitR true, .reloadR 5, .write 8, .commitW, .loadW 13, .read 8] := by
  decide +kernel

end Spsc
