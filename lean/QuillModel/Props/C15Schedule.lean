import QuillModel.Props.C15
import QuillModel.Props.C14More
/-!
# C14 / C15 — no loss as an equality; separation and sharing against the rotation *schedule*

`C15_separates` / `C15_shares` are per step and speak about the sink's internal `_next_rotation_time` (`timeDue w ts`),
not about the configured grid. Here they are stated against the grid:

* `C14_index_no_loss_without_overwrite`: with overwriting off, after **any** run of writes the files read oldest →
  newest are exactly the old content followed by **all** statements written, in order (equality);
  `C14_index_write_keeps_all_within_backup`: the same for one write while the backup limit is not exceeded.
* `C15_separates_on_schedule`: if every earlier record is before the schedule point `initialRot + k·period` and the new
  record is at or after it, the new record starts a file (nothing with a positive size before it);
  `C15_not_due_on_schedule`: if no schedule point lies after all earlier records and at or before the new record, no time
  rotation happens (the statements share a file unless size rotation intervenes); `pre_nil_of_pos` turns `bytes pre = 0`
  into `pre = []` for statements of positive size.

Exceptions that remain in the statements because the code has them: `stopped` (backup limit reached with overwriting
off: rotation stops, everything goes to one file) and zero-byte records in front of the separated record.
-/
namespace Rot

/-- **nothing is lost, as an equality** (Index scheme, overwriting off, any run of writes) -/
theorem C14_index_no_loss_without_overwrite (P : Params) (z : Nat → Int) :
    ∀ (l : List (Stmt × Nat)) (w : World), IndexInv w → w.sink.cfg.overwrite = false →
      diskSeq (run P z w (writeOps l)) = diskSeq w ++ l.map (·.1) := by
  intro l w h ho
  rw [C14_index_nothing_dropped_without_overwrite P z _ w h (opAppend_writeOps l) (noOverwrite_writeOps ho l),
    written_writeOps]

/-- within the backup limit one write loses nothing either (no deletion while `created.length ≤ maxBackup`) -/
theorem C14_index_write_keeps_all_within_backup (P : Params) (z : Nat → Int) (w : World) (st : Stmt) (ts : Nat)
    (h : IndexInv w) (hle : w.sink.created.length ≤ w.sink.cfg.maxBackup) :
    diskSeq (write P z w st ts) = diskSeq w ++ [st] :=
  (write_diskSeq P z w st ts h).keeps_all (Or.inr hle)

/-- **separation against the schedule**: every earlier record before the `k`-th schedule point, the new one at or after it -/
theorem C15_separates_on_schedule (P : Params) (hP : P.advancesFromSchedule = true) (z : Nat → Int) (fs : FS) (c : Cfg)
    (start : Nat) (hc : CfgOK c) (hf : c.freq ≠ .disabled) (l : List (Stmt × Nat)) (st : Stmt) (ts k : Nat)
    (hk : ∀ t ∈ l.map (·.2), t < initialRot z c start + k * period c)
    (hle : initialRot z c start + k * period c ≤ ts)
    (hns : stopped (run P z (restart z fs c start) (writeOps l)).sink = false) :
    ∃ pre, (write P z (run P z (restart z fs c start) (writeOps l)) st ts).fs.get curName = some (pre ++ [st]) ∧
      bytes pre = 0 := by
  have hcur : CurInv (run P z (restart z fs c start) (writeOps l)) := run_curInv P z _ _ (restart_curInv z fs c start)
  have hle' := C15_grid_least P hP z fs c start hc hf l k hk
  have hcfg : (run P z (restart z fs c start) (writeOps l)).sink.cfg = c := by
    rw [run_writes_cfg]; rfl
  exact C15_separates P z _ st ts hcur ⟨by rw [hcfg]; exact hf, Nat.le_trans hle' hle⟩ hns

/-- **sharing against the schedule**: no schedule point after all earlier records and at or before `ts` ⇒ not time-due -/
theorem C15_not_due_on_schedule (P : Params) (hP : P.advancesFromSchedule = true) (z : Nat → Int) (fs : FS) (c : Cfg)
    (start : Nat) (hc : CfgOK c) (hf : c.freq ≠ .disabled) (l : List (Stmt × Nat)) (ts : Nat)
    (hno : ∀ k, (∀ t ∈ l.map (·.2), t < initialRot z c start + k * period c) → ts < initialRot z c start + k * period c) :
    ¬ timeDue (run P z (restart z fs c start) (writeOps l)) ts := by
  intro hd
  have g := C15_grid P hP z fs c start hc hf l
  obtain ⟨k, hk⟩ := g.onGrid
  have := hno k (fun t ht => by rw [← hk]; exact g.after t ht)
  have h2 : (run P z (restart z fs c start) (writeOps l)).sink.nextRot ≤ ts := hd.2
  omega

theorem pre_nil_of_pos (pre : List Stmt) (hp : ∀ s ∈ pre, 0 < s.size) (hb : bytes pre = 0) : pre = [] := by
  cases pre with
  | nil => rfl
  | cons a t =>
    have := hp a List.mem_cons_self
    simp [bytes] at hb
    omega

/-- non-vacuity of `C14_index_no_loss_without_overwrite`: three 8-byte statements through a 10-byte limit, two backups,
    overwriting off — the start state has overwriting off and all three statements are on disk in order -/
example :
    let c : Cfg := { limit := 10, maxBackup := 2, overwrite := false, append := true }
    (restart zGmt [] c 0).sink.cfg.overwrite = false ∧
    diskSeq (run Params.repaired zGmt (restart zGmt [] c 0) (writeOps [(⟨1, 8⟩, 1), (⟨2, 8⟩, 2), (⟨3, 8⟩, 3)])) =
      [⟨1, 8⟩, ⟨2, 8⟩, ⟨3, 8⟩] := by decide +kernel

end Rot
