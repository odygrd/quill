import QuillModel.Uspsc.ReadPass
import QuillModel.Props.C02
/-!
# C05 on the unbounded queue: "nothing to read" means the thread's queue is drained (finding F25)

Object: the chain-of-nodes model of `UnboundedSPSCQueue` (`Uspsc/Model.lean`, the model of C02, tied to the real queue
by `h1_uspsc.cpp` vs `driver uspsc`) and, on top of its `prepare_read()` (`apiPrepareRead`),
`BackendWorker::_read_unbounded_frontend_queue` (`apiRead follow`, `Uspsc/ReadPass.lean`): call `prepare_read()`; if it
switched to the next buffer and found it empty, call again when `follow` (the repair of F25). C05's ordering argument
needs that a read pass which stops reading a thread's queue has really seen everything that was committed by then; on
the unbounded queue a buffer created by `shrink()` can stay empty while the producer is already in a third buffer, and
without `follow` the read stops in front of a committed, older record.

Quantifiers: every initial capacity `> 0`, every batch rule, every history of producer micro-steps (writes, commits,
growth and shrink publications), consumer micro-steps (loads incl. stale ones, reads, commits, switches) — `URun` from
`uinit` —, both flag values of `Flags`, release/acquire orders (`UOrdersOK`, as for C02). The read itself uses newest
loads: the statement is about what is visible at this instant (a stale load delays visibility, it cannot hide a record
for ever: coherence).
-/
namespace Uspsc
open Spsc

/-- **A read with the repair answers "nothing" only when the whole chain is drained, and otherwise answers the oldest
    unread committed record.** For every reachable state `s` of the chain model and `r = apiRead true … s`:
    * `r.1` is a legal run of consumer micro-steps (each step enabled when taken), so the state after the read is
      reachable too and C02's safety applies to every step (no node is deleted with unread records, …);
    * if the final answer is `null`, then NO node from the consumer's node `ci` to the producer's node `pi` holds a
      committed record the consumer has not read (`pend s k`: reader position below the published writer position);
    * if the final answer is `readAt nd off`, then `nd` is the FIRST node from `ci` on that holds a committed unread
      record — every node before it is drained — and `off` is its reader position (modulo the capacity): with the
      per-node FIFO of C01 this is the oldest unread committed record of the thread;
    * there is no third kind of answer. -/
theorem C05_unbounded_read_complete (o : UParams) (ho : UOrdersOK o) (f : Flags) (cap : Nat) (batch : Nat → Nat)
    (hc : 0 < cap) (ops : List UOp) (hr : URun o (uinit cap batch) ops) :
    URun o (urun o (uinit cap batch) ops)
      (apiRead true o f (urun o (uinit cap batch) ops).n (urun o (uinit cap batch) ops)).1 ∧
    ((apiRead true o f (urun o (uinit cap batch) ops).n (urun o (uinit cap batch) ops)).2.final = .null →
      ∀ k, (urun o (uinit cap batch) ops).ci ≤ k → k ≤ (urun o (uinit cap batch) ops).pi →
        ¬ pend (urun o (uinit cap batch) ops) k) ∧
    (∀ nd off, (apiRead true o f (urun o (uinit cap batch) ops).n (urun o (uinit cap batch) ops)).2.final = .readAt nd off →
      (urun o (uinit cap batch) ops).ci ≤ nd ∧ nd ≤ (urun o (uinit cap batch) ops).pi ∧
      pend (urun o (uinit cap batch) ops) nd ∧
      off = ((urun o (uinit cap batch) ops).nodes nd).q.rpos % ((urun o (uinit cap batch) ops).nodes nd).q.cap ∧
      ∀ k, (urun o (uinit cap batch) ops).ci ≤ k → k < nd → ¬ pend (urun o (uinit cap batch) ops) k) ∧
    ((apiRead true o f (urun o (uinit cap batch) ops).n (urun o (uinit cap batch) ops)).2.final = .null ∨
      ∃ nd off, (apiRead true o f (urun o (uinit cap batch) ops).n (urun o (uinit cap batch) ops)).2.final = .readAt nd off) := by
  have hi := ureachable_inv o ho ops _ (uinit_inv o cap batch hc) hr
  generalize urun o (uinit cap batch) ops = s at hi
  have sp := apiRead_spec o ho f s.n s hi (by have := hi.len; omega)
  refine ⟨sp.leg.run, ?_, ?_, ?_⟩
  · intro hn
    rcases sp.out with ⟨_, hall⟩ | ⟨nd, hr', _⟩
    · exact hall
    · rw [hr'] at hn; cases hn
  · intro nd off hro
    rcases sp.out with ⟨hn, _⟩ | ⟨nd', hr', h1, h2, h3, h4⟩
    · rw [hn] at hro; cases hro
    · rw [hr'] at hro
      injection hro with e1 e2
      subst e1
      exact ⟨h1, h2, h3, e2.symm, h4⟩
  · rcases sp.out with ⟨hn, _⟩ | ⟨nd, hr', _⟩
    · exact Or.inl hn
    · exact Or.inr ⟨nd, _, hr'⟩

/-- the node the read answers holds, at its reader position, the next record of that node in write order: the
    `nread`-th of its records starts exactly there (C01's per-node FIFO ghost) -/
theorem C05_unbounded_read_is_next_record (o : UParams) (ho : UOrdersOK o) (cap : Nat) (batch : Nat → Nat)
    (hc : 0 < cap) (ops : List UOp) (hr : URun o (uinit cap batch) ops) (nd : Nat)
    (hn : nd < (urun o (uinit cap batch) ops).n) (hp : pend (urun o (uinit cap batch) ops) nd) :
    ((urun o (uinit cap batch) ops).nodes nd).q.nread < ((urun o (uinit cap batch) ops).nodes nd).q.recs.length ∧
    ((urun o (uinit cap batch) ops).nodes nd).q.rpos =
      startK ((urun o (uinit cap batch) ops).nodes nd).q.recs ((urun o (uinit cap batch) ops).nodes nd).q.nread := by
  have hi := ureachable_inv o ho ops _ (uinit_inv o cap batch hc) hr
  have hq := hi.qinv nd hn
  have hlt : ((urun o (uinit cap batch) ops).nodes nd).q.rpos < ((urun o (uinit cap batch) ops).nodes nd).q.wpos := by
    have := hq.wNew; unfold pend at hp; omega
  obtain ⟨hk, _, _⟩ := hq.read_is_next hlt
  exact ⟨hk, hq.rSum⟩

def f25Flags : Flags := { commitBeforePublish := true, commitReadBeforeDelete := true }

/-- capacity 512, everything consumed (nothing was written), `shrink(256)`, then a 700-byte record: it does not fit the
    256-byte node, a third node is allocated, the record is written and committed there -/
def f25State : US :=
  let s0 := uinit 512 (fun c => c * 5 / 100)
  let s1 := urun quillU s0 (apiShrink s0 256).1
  let s2 := urun quillU s1 (apiPrepareWrite quillU f25Flags 4096 s1 700 0).1
  urun quillU s2 [.p (.write 700), .p .commitW]

/-- the history that leads there is a legal run -/
theorem f25_reachable :
    let s0 := uinit 512 (fun c => c * 5 / 100)
    let ops := (apiShrink s0 256).1 ++ (apiPrepareWrite quillU f25Flags 4096 (urun quillU s0 (apiShrink s0 256).1) 700 0).1 ++
      [.p (.write 700), .p .commitW]
    URun quillU s0 ops ∧ urun quillU s0 ops = f25State := by
  refine ⟨by decide, ?_⟩
  simp only [f25State, urun_append]

/-- **F25, the code as found (`follow = false`)**: the producer is in node 2 and has committed a record there, the
    consumer is in node 0; the read switches to the empty node 1 and answers "nothing" although a committed record is
    unread. -/
theorem C05_unbounded_read_incomplete_without_follow :
    f25State.ci = 0 ∧ f25State.pi = 2 ∧ pend f25State 2 ∧
    (apiRead false quillU f25Flags f25State.n f25State).2.final.isNull = true := by
  decide +kernel

/-- the same state with the repair: the read follows the chain past the empty node and answers the record in node 2 -/
theorem C05_unbounded_read_follows :
    (apiRead true quillU f25Flags f25State.n f25State).2.final.readsAt = some (2, 0) := by
  decide +kernel

/-- non-vacuity of the completeness theorem on a longer history: two records in node 0, growth, one record in node 1;
    the consumer reads the first record; the read answers node 0 (the second record), not the newer node -/
example :
    let ops : List UOp := [.p (.write 8), .p .commitW, .p (.write 4), .p .commitW, .publish 32, .p (.write 20), .p .commitW,
      .c (.loadW 12), .c (.read 8)]
    URun quillU (uinit 16 (fun _ => 0)) ops ∧
    (apiRead true quillU f25Flags (urun quillU (uinit 16 (fun _ => 0)) ops).n (urun quillU (uinit 16 (fun _ => 0)) ops)).2.final.readsAt =
      some (0, 8) := by decide +kernel

end Uspsc
