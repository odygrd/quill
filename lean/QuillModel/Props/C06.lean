import QuillModel.Backend.PubInv
import QuillModel.Backend.FlushContract
import QuillModel.Props.C05
/-!
# C06 — `flush_log()` returns only after all earlier statements are written and flushed

Property theorems only (the flush invariant `FI`, its preservation by every frontend operation and by the backend
under arbitrary injections, and the step lemmas are in `Backend/Flush*.lean`; the ordering invariant of C05 is
reused for the statements about other threads).

How the model renders the property: `flush_log` commits a Flush record (`Kind.flush f`, `f` the caller's fresh
flag number) to the caller's own queue and parks the caller on `Pend.flag f`; `resume` releases the caller exactly
when `f ∈ flags` (`C06_release`). So "when `flush_log()` returns" is "once `f ∈ flags`". A popped log record is
handed to its sinks in the very step that pops it (`processEvent`), hence "written" is "in `popped`".

Quantifiers: every initial state without threads (`StartF`), **every configuration** (queue type, capacity, limits,
grace period incl. 0 — except where a theorem names the C05 hypotheses), **every schedule** `ops : List Op`
(threads starting and exiting, first-time loggers, stalls, blocked and retried calls, polls with arbitrary frontend
operations injected at every hook site, the exit drain), every sink fault schedule (`Sink.wthrow`/`fthrow`).
-/
namespace Backend
open Backend.PB

/-- **Per-thread FIFO / conservation.** In every reachable state, what a context's queue ever accepted is exactly
    what has been popped from its transit buffer, followed by the buffer, followed by the queue — in this order. -/
theorem C06_conservation (s0 : BSt) (h0 : StartF s0) (ops : List Op) (i : Nat) :
    ((runOps s0 ops).th i).accepted =
      ((runOps s0 ops).th i).popped ++ ((runOps s0 ops).th i).buf ++ ((runOps s0 ops).th i).qStmts :=
  ((start_FI h0).runOps ops).cons i

/-- **A flag is raised only after its event was processed.** Every raised flag is the flag of a Flush statement
    that has been *popped* from its thread's transit buffer, or of a removal request (C17's business). -/
theorem C06_flag_only_after_pop (s0 : BSt) (h0 : StartF s0) (ops : List Op) (f : Nat) (hf : f ∈ (runOps s0 ops).flags) :
    (∃ i, ∃ st ∈ ((runOps s0 ops).th i).popped, st.kind = .flush f) ∨
    (∃ i, ∃ st ∈ ((runOps s0 ops).th i).accepted, st.kind = .removal f) :=
  ((start_FI h0).runOps ops).flg f hf

/-- **Flag numbers identify their request.** Two accepted records (of any contexts) that carry the same flag
    number are the same record of the same context — a caller can only be released by *its own* Flush event. -/
theorem C06_flag_numbers_unique (s0 : BSt) (h0 : StartF s0) (ops : List Op) (i j : Nat) (st st' : Stmt) (f : Nat)
    (h1 : st ∈ ((runOps s0 ops).th i).accepted) (h2 : st' ∈ ((runOps s0 ops).th j).accepted)
    (f1 : flagOf st = some f) (f2 : flagOf st' = some f) : i = j ∧ st = st' :=
  ((start_FI h0).runOps ops).flag_unique h1 h2 f1 f2

/-- **C06, own statements.** For every schedule: if the flag of a Flush statement `st` of context `i` has been raised
    (so the `flush_log()` that issued it can return), then `st` has been popped and **every record the caller's
    thread accepted before it was popped before it** (`pre` is everything accepted earlier; the pop history of the
    context starts with `pre ++ [st]`) — each of them was dispatched to its sinks when popped, and
    `C06_flush_step` shows that every active sink was flushed between the pop of `st`'s predecessors and the raise. -/
theorem C06_own_statements_first (s0 : BSt) (h0 : StartF s0) (ops : List Op) (i : Nat) (pre post : List Stmt)
    (st : Stmt) (f : Nat) (hacc : ((runOps s0 ops).th i).accepted = pre ++ st :: post) (hk : st.kind = .flush f)
    (hf : f ∈ (runOps s0 ops).flags) : ∃ more, ((runOps s0 ops).th i).popped = pre ++ st :: more :=
  ((start_FI h0).runOps ops).flush_flag_popped hacc hk hf

/-- **C06, the Flush step.** In any state `s`, for any injection table of the surrounding poll: when
    `_process_lowest_timestamp_transit_event` finds a Flush event `st` (flag `f`) as the minimum front, it
    succeeds, the new log is `mid ++ blk ++ s.log` where `blk` — emitted by `_flush_and_run_active_sinks` *before*
    anything else — contains a `flushed` (or, for a throwing sink, `fthrow`) event for **every active sink** and
    nothing but such events and their failure notifications, and only after that (`mid`: failure-counter reports,
    frontend operations injected meanwhile) is the flag raised: it is the newest flag and `flagLog` records the
    length of the whole log at that moment. A throwing `flush_sink` does not prevent the other sinks from being
    flushed nor the flag from being raised. -/
theorem C06_flush_step (table : List (Nat × Nat × List FOp)) (s : BSt) (j : Nat) (st : Stmt) (rest : List Stmt)
    (f : Nat) (hl : lowest s = some j) (hb : (s.th j).buf = st :: rest) (hk : st.kind = .flush f) :
    (processLowest (runInj table) s).2 = true ∧
    (processLowest (runInj table) s).1.flags.head? = some f ∧
    (processLowest (runInj table) s).1.flagLog.head? = some (f, (processLowest (runInj table) s).1.log.length) ∧
    ∃ mid blk, (processLowest (runInj table) s).1.log = mid ++ blk ++ s.log ∧
      (∀ sid ∈ activeSinks s, Ev.flushed sid ∈ blk ∨ Ev.fthrow sid ∈ blk) ∧
      (∀ e ∈ blk, (∃ sid, e = Ev.flushed sid ∨ e = Ev.fthrow sid) ∨ e = Ev.notify "n:ffail") :=
  flush_step (frel_runInj table) s j st rest f hl hb hk

/-- **C06, other threads (ordering enabled).** Under the hypotheses of C05 (non-zero grace period, cache refreshed
    after `ts_now`, every accepted record within the grace premise): once the flag of a Flush statement `st` is
    raised, **every record accepted by any context of any thread** with a timestamp **strictly smaller** than `st`'s
    has been popped, i.e. written (and, by `C06_flush_step`, every active sink was flushed after that and before the
    raise). A log call that completed before `flush_log()` began has such a timestamp unless the two clock reads
    coincide. **Ties** (`r.ts = st.ts`): `lowest` replaces its candidate only on a strictly smaller timestamp, so among
    equal front timestamps the context that comes first in the backend's cache (registration order) is processed first.
    What holds at a tie is therefore decided by cache order: a record of a context that precedes the caller's in the
    cache is written before the flag is raised (`C06_tie_earlier_context_written`), one of a context that comes after
    the caller's is not (`C06_tie_later_context_not_written`: the flag is raised, `flush_log()` returns, the record of the
    other thread — whose log call had completed before — is still unwritten). Both are exhibited on concrete schedules
    (`decide`); the general tie statement ("written iff its context precedes the caller's in the cache") is not proved.
    The H2 oracle claims strictly smaller clock values only. -/
theorem C06_other_threads (s0 : BSt) (h0 : StartF s0) (hg : s0.cfg.grace ≠ 0) (hr : s0.cfg.refreshAfterSample = true)
    (ops : List Op) (hp : GracePremise (runOps s0 ops)) (i : Nat) (st : Stmt) (f : Nat)
    (hst : st ∈ ((runOps s0 ops).th i).accepted) (hk : st.kind = .flush f) (hf : f ∈ (runOps s0 ops).flags)
    (k : Nat) (r : Stmt) (hrk : r ∈ ((runOps s0 ops).th k).accepted)
    (hlt : r.ts < st.ts) : r ∈ ((runOps s0 ops).th k).popped := by
  have hF := (start_FI h0).runOps ops
  have hG := (start_GI h0.start).runOps ops
  exact earlier_popped hF hG (by rw [runOps_cfg]; exact hg) (by rw [runOps_cfg]; exact hr) hp (hF.raised_popped hst hk hf)
    hrk hlt

/-- **The flush request is never dropped and never counted** (dropping *and* blocking queues). `enqFlow … 1 …` is the
    body of `flush_log` after the timestamp was read (first attempt, resumption after a stall, every retry). With
    `e := ensureCtx s a` (the caller's context) and the reservation attempt `tryEnq e.1 e.2 st`:
    granted ⇒ the record is committed and the caller waits on its flag; refused ⇒ the caller is parked on
    `Pend.retry st 1` — the same request with the same flag, to be tried again (`resume`), it does **not** return;
    and in both cases no `fail` / `discarded` / `blockedCalls` counter of any context changes. -/
theorem C06_flush_never_dropped (s : BSt) (a : Nat) (st : Stmt) (f : Nat) (first initial : Bool) (x : Actor)
    (hx : s.actor a = some x) (hk : st.kind = .flush f) :
    ((tryEnq (ensureCtx s a).1 (ensureCtx s a).2 st).2 = true →
        pendOf (enqFlow s a st 1 first initial).1 a = some (.flag f)) ∧
    ((tryEnq (ensureCtx s a).1 (ensureCtx s a).2 st).2 = false →
        pendOf (enqFlow s a st 1 first initial).1 a = some (.retry st 1)) ∧
    (∀ i, Cnt ((enqFlow s a st 1 first initial).1.th i) = Cnt (s.th i)) :=
  flush_enq_outcome s a st f first initial x hx hk

/-- **Release.** A caller parked on flag `f` is released by `resume` (returns "done", nothing parked) iff `f` has
    been raised; otherwise nothing changes and it keeps waiting. -/
theorem C06_release (s : BSt) (a : Nat) (x : Actor) (f : Nat) (hx : s.actor a = some x) (hp : x.pend = .flag f) :
    (f ∈ s.flags → pendOf (resume s a).1 a = some .none ∧ (resume s a).2 = "done") ∧
    (f ∉ s.flags → (resume s a).1 = s ∧ (resume s a).2 = "parked:sleep") :=
  resume_flag s a x f hx hp

/-! ### progress: `flush_log()` returns as long as the backend keeps running

Two cases. The Flush request has been committed to the caller's queue (the caller waits on its flag):
`C06_flush_log_returns_committed`. The request was refused by a full queue and the caller is still in its retry loop
(`Pend.retry`): `C06_flush_log_returns` — the backend drains the queue and publishes the reader position (the
end-to-end form of C09, `Backend/ResumeProgress.lean`), the retry is granted, and the first case applies. -/

/-- **`flush_log()` returns, committed request.** In any reachable state of any configuration in which the backend
    thread is running, let `st` be a committed Flush request (flag `f`) and let every pending record be past its
    grace period (`Ripe`; automatic when ordering is disabled, and established by letting the clock advance by the
    grace period: next theorem). Then **every continuation of the schedule that consists of polls without injected
    frontend operations and of clock ticks, and contains at least as many polls as there are pending records
    (`pendingCount`: accepted and not yet popped, over all contexts), ends with the flag raised** — for every soft
    and hard limit (single-event mode and batch mode), queue capacity, either refresh order. The parked caller's next
    `resume` then answers "done" (`C06_release`). Every such poll pops at least one event while anything is pending
    (`PB.poll_quiet`): nothing starves. -/
theorem C06_flush_log_returns_committed (s0 : BSt) (h0 : StartF s0) (ops : List Op) (i : Nat) (st : Stmt) (f : Nat)
    (hst : st ∈ ((runOps s0 ops).th i).accepted) (hk : st.kind = .flush f)
    (hrun : (runOps s0 ops).backendGone = false) (hripe : Ripe (runOps s0 ops))
    (suffix : List Op) (hq : ∀ o ∈ suffix, quietOp o = true)
    (hn : pendingCount (runOps s0 ops) ≤ pollCount suffix) :
    f ∈ (runOps (runOps s0 ops) suffix).flags ∧
    ∀ a x, (runOps (runOps s0 ops) suffix).actor a = some x → x.pend = .flag f →
      (resume (runOps (runOps s0 ops) suffix) a).2 = "done" := by
  have hpg : PG (runOps s0 ops) :=
    ⟨(start_GI h0.start).runOps ops, (start_FI h0).runOps ops, hripe, hrun⟩
  have hf := quiet_run_drains hpg suffix hq hn i st f hst hk
  exact ⟨hf, fun a x hx hp => ((resume_flag _ a x f hx hp).1 hf).2⟩

/-- the same with the premise on the clock made operational: the continuation starts with the clock advancing by at
    least the grace period (any amount when ordering is disabled) -/
theorem C06_flush_log_returns_committed_after_grace (s0 : BSt) (h0 : StartF s0) (ops : List Op) (i : Nat) (st : Stmt)
    (f : Nat) (hst : st ∈ ((runOps s0 ops).th i).accepted) (hk : st.kind = .flush f)
    (hrun : (runOps s0 ops).backendGone = false) (dt : Nat) (hdt : (runOps s0 ops).cfg.grace ≤ dt)
    (suffix : List Op) (hq : ∀ o ∈ suffix, quietOp o = true)
    (hn : pendingCount (runOps s0 ops) ≤ pollCount suffix) :
    f ∈ (runOps (runOps s0 ops) (.front (.tick dt) :: suffix)).flags := by
  have hgi := (start_GI h0.start).runOps ops
  have hfi := (start_FI h0).runOps ops
  have hpg := PG.after_tick hgi hfi hrun dt hdt
  rw [runOps_cons]
  exact quiet_run_drains hpg suffix hq hn i st f hst hk

/-- **`flush_log()` returns as long as the backend keeps running** (the caller still in its retry loop). Any
    configuration whose queue publishes on drain (`qp.drainPublish`, extracted), either queue type; after **any**
    schedule `pre` actor `a` is parked on the retry of a refused Flush request `st` (flag `f`) that fits an empty
    queue, and the backend is running (that the reader position is published once the queue is drained, whatever
    `pre` did, is `C09_reads_committed`). Continuation:
    `tick dt₁ (≥ grace)`, quiet polls/ticks with at least `pendingCount` polls, **`resume a`**,
    `tick dt₂ (≥ grace)`, quiet polls/ticks with at least one poll. Then the first `resume` commits the request (the
    caller now waits on flag `f`), the flag is raised at the end, and the caller's next `resume` answers "done":
    the call returns. -/
theorem C06_flush_log_returns (s0 : BSt) (h0 : StartF s0) (pre : List Op) (a : Nat) (x : Actor) (st : Stmt) (f : Nat)
    (hdp : s0.cfg.qp.drainPublish = true) (hx : (runOps s0 pre).actor a = some x) (hp : x.pend = .retry st 1)
    (hk : st.kind = .flush f) (hsz : st.size ≤ s0.cfg.qcap)
    (hrun : (runOps s0 pre).backendGone = false)
    (dt1 : Nat) (hdt1 : s0.cfg.grace ≤ dt1) (q1 : List Op) (hq1 : ∀ o ∈ q1, quietOp o = true)
    (hn1 : pendingCount (runOps s0 pre) ≤ pollCount q1)
    (dt2 : Nat) (hdt2 : s0.cfg.grace ≤ dt2) (q2 : List Op) (hq2 : ∀ o ∈ q2, quietOp o = true) (hn2 : 1 ≤ pollCount q2) :
    pendOf (runOps s0 (pre ++ (.front (.tick dt1) :: q1) ++ [.front (.resume a)])) a = some (.flag f) ∧
    f ∈ (runOps s0 (pre ++ (.front (.tick dt1) :: q1) ++ [.front (.resume a)] ++ (.front (.tick dt2) :: q2))).flags ∧
    (applyOp (runOps s0 (pre ++ (.front (.tick dt1) :: q1) ++ [.front (.resume a)] ++ (.front (.tick dt2) :: q2)))
      (.front (.resume a))).2 = "done" := by
  have hgi := (start_GI h0.start).runOps pre
  have hfi := (start_FI h0).runOps pre
  have h := flush_retry_returns hgi hfi hrun (by rw [runOps_cfg]; exact hdp) a x st f hx hp hk (by rw [runOps_cfg]; exact hsz)
    (fun i _ => readsCommitted_runOps h0.start hdp pre i)
    dt1 (by rw [runOps_cfg]; exact hdt1) q1 hq1 hn1 dt2 (by rw [runOps_cfg]; exact hdt2) q2 hq2 hn2
  rw [runOps_append s0 _ (.front (.tick dt2) :: q2), runOps_snoc s0 (pre ++ .front (.tick dt1) :: q1), runOps_append s0 pre]
  exact h

/-! ### the contract over positions of the event history

`log` is the history of sink calls (newest first). `isWr sid e` / `isFl sid e`: `e` is a `write_log` / a `flush_sink`
(completed: `flushed`, or throwing: `fthrow`) of sink `sid`. `PA.ordWrite sid id e`: `e` is the write of the ordinary
statement `id` to `sid` (not a backtrace replay). `flagLog` holds `(flag, length of log when it was raised)`. -/

/-- **C06, the contract of `flush_log()`.** For every schedule from a fresh system, **every `sink_min_flush_interval`**
    (`StartC`: the flush covers loggers marked invalid — F12 repaired —, and either the interval is 0 or the logger
    clean-up flushes before it erases — F33 repaired; `C06_erased_logger_sink_never_flushed_unrepaired` shows the schedule
    that breaks the contract otherwise). Let `st` be a Flush request of context `i` (everything the calling thread logged
    before it is `pre`), whose flag `f` is raised — `flush_log()` can return. Then `flagLog` holds the position `n` of
    the raise, and with `raised` = the history as it was at that moment (the oldest `n` events) and `later` = what came
    after:
    * the requests before it were processed first: the pop history of the context starts with `pre ++ [st]` (each
      ordinary statement of `pre` was handed to its accepting sinks in the step that popped it: `C03_pop_emits_dispatch`,
      `C03_dispatch_exact`);
    * **none of their writes comes after the raise**: no ordinary write of a statement of `pre` is in `later` — they are
      all in `raised`;
    * **every write in `raised` — of every thread, every logger — is followed, still inside `raised`, by a flush of
      its sink** (a completed `flush_sink`, or one that threw: the failure is reported, C10).
    So when `flush_log()` returns, every statement the caller logged before has been written to each of its accepting
    sinks and each of these sinks has been flushed since.
    The third clause does not rest on the idle-branch flush when the interval is not 0 (`CI.flushGate` only keeps the
    invariant there): it follows from the Flush event's own `_flush_and_run_active_sinks(false, 0)` (`C06_flush_step`)
    and from "a sink with unflushed output is reachable through a logger that is not erased"
    (`C06_erased_logger_sinks_flushed`). -/
theorem C06_flush_log_contract (s0 : BSt) (h0 : StartC s0) (ops : List Op) (i : Nat) (pre post : List Stmt) (st : Stmt)
    (f : Nat) (hacc : ((runOps s0 ops).th i).accepted = pre ++ st :: post) (hk : st.kind = .flush f)
    (hf : f ∈ (runOps s0 ops).flags) :
    ∃ n, (f, n) ∈ (runOps s0 ops).flagLog ∧ n ≤ (runOps s0 ops).log.length ∧
      (∃ more, ((runOps s0 ops).th i).popped = pre ++ st :: more) ∧
      (∀ r ∈ pre, PA.isOrd r = true → ∀ e ∈ (runOps s0 ops).log.take ((runOps s0 ops).log.length - n),
        ∀ sid, PA.ordWrite sid r.id e = false) ∧
      (∀ a e b sid, (runOps s0 ops).log.drop ((runOps s0 ops).log.length - n) = a ++ e :: b → isWr sid e = true →
        ∃ x ∈ a, isFl sid x = true) := by
  have hT := (start_TI h0).runOps ops
  obtain ⟨pf, hF⟩ := hT.x.f
  obtain ⟨n, hn⟩ := hT.c.fl3 f hf
  obtain ⟨h1, h2⟩ := hT.c.fl1 (f, n) hn
  obtain ⟨more, hpop⟩ := hF.flush_flag_popped hacc hk hf
  refine ⟨n, hn, h1, ⟨more, hpop⟩, ?_, ?_⟩
  · intro r hr ho e he sid
    have := hT.c.wr (f, n) hn i pre st more hpop hk r hr ho sid
    unfold PA.wcount at this
    rw [List.countP_eq_zero] at this
    exact Bool.eq_false_iff.mpr (this e he)
  · intro a e b sid hsplit hw
    have := h2 sid
    rw [hsplit] at this
    exact unfl_false_split sid a b e this hw

/-- in particular: in every reachable state, for every raised flag, no sink was left with unflushed output at the
    moment of the raise — whoever wrote to it -/
theorem C06_nothing_unflushed_at_raise (s0 : BSt) (h0 : StartC s0) (ops : List Op) (f n : Nat)
    (hn : (f, n) ∈ (runOps s0 ops).flagLog) (sid : Nat) :
    n ≤ (runOps s0 ops).log.length ∧ unfl sid ((runOps s0 ops).log.drop ((runOps s0 ops).log.length - n)) = false := by
  have h := ((start_TI h0).runOps ops).c.fl1 (f, n) hn
  exact ⟨h.1, h.2 sid⟩

/-- **F33, the repaired clean-up: a logger is erased only with its sinks flushed.** In every reachable state (every
    schedule, every interval — under `StartC`: interval 0 or `flushBeforeLoggerErase`), a sink that is no longer reachable
    through any logger that is not erased holds no unflushed output: every write to it in the history — by whatever
    thread, through whatever logger, however long ago — is followed by a flush of that sink (completed, or thrown and
    reported). In particular right after `_cleanup_invalidated_loggers` erased the last logger that held the sink: the
    flush at the head of the clean-up (or, with interval 0, of the idle pass) came after the last write. -/
theorem C06_erased_logger_sinks_flushed (s0 : BSt) (h0 : StartC s0) (ops : List Op) (sid : Nat)
    (hall : ∀ i, sid ∈ ((runOps s0 ops).lgOf i).sinks → ((runOps s0 ops).lgOf i).erased = true) :
    unfl sid (runOps s0 ops).log = false ∧
    ∀ a e b, (runOps s0 ops).log = a ++ e :: b → isWr sid e = true → ∃ x ∈ a, isFl sid x = true := by
  have hT := (start_TI h0).runOps ops
  have hu : unfl sid (runOps s0 ops).log = false := by
    cases hx : unfl sid (runOps s0 ops).log with
    | false => rfl
    | true =>
      obtain ⟨i, he, hs⟩ := hT.c.act sid hx
      rw [hall i hs] at he
      cases he
  refine ⟨hu, fun a e b hsplit hw => ?_⟩
  rw [hsplit] at hu
  exact unfl_false_split sid a b e hu hw

/-- the same as a statement about reachability: whatever a sink holds unflushed, a later Flush event / idle flush /
    exit flush will reach it — it is a sink of a logger that is not erased (so `activeSinks` lists it, F12) -/
theorem C06_unflushed_sink_reachable (s0 : BSt) (h0 : StartC s0) (ops : List Op) (sid : Nat)
    (hu : unfl sid (runOps s0 ops).log = true) :
    ∃ i, ((runOps s0 ops).lgOf i).erased = false ∧ sid ∈ ((runOps s0 ops).lgOf i).sinks ∧ sid ∈ activeSinks (runOps s0 ops) := by
  have hT := (start_TI h0).runOps ops
  obtain ⟨i, he, hs⟩ := hT.c.act sid hu
  exact ⟨i, he, hs, mem_activeSinks_of hT.c.cfgF he hs⟩

theorem c05Init_startF (b : Bool) : StartF (c05Init b) := ⟨c05Init_start b, rfl, rfl⟩

/-- one thread: two statements, `flush_log`, three polls (soft limit 4 ⇒ one event per poll), resumes in between -/
def c06Cycle : List Op :=
  [ .front (.tstart 1), .front (.log 1 0 4 10 true), .front (.log 1 0 4 10 true), .front (.flush 1 0),
    .front (.tick 100), .poll [], .front (.resume 1), .poll [], .front (.resume 1), .poll [], .front (.resume 1) ]

/-- non-vacuity: the caller is still parked after two polls (both statements written, Flush event not yet processed),
    and is released after the third: flag 0 raised when the log held the two writes and the flush of sink 0. -/
example :
    (runOps (c05Init true) (c06Cycle.take 9)).flags = [] ∧
    (runOps (c05Init true) (c06Cycle.take 9)).actors.map (fun x => x.pend matches .flag 0) = [true] ∧
    (runOps (c05Init true) c06Cycle).flags = [0] ∧ (runOps (c05Init true) c06Cycle).flagLog = [(0, 3)] ∧
    (runOps (c05Init true) c06Cycle).actors.map (fun x => x.pend matches .none) = [true] ∧
    (runOps (c05Init true) c06Cycle).ths.map (fun t => (t.accepted.length, t.popped.length)) = [(3, 3)] := by
  decide +kernel

/-- non-vacuity of `C06_flush_log_returns_committed_after_grace`: after the two statements and the Flush request are
    committed (three pending records), the continuation "clock + 100, three polls" meets the hypotheses. -/
example :
    (runOps (c05Init true) (c06Cycle.take 4)).backendGone = false ∧
    (runOps (c05Init true) (c06Cycle.take 4)).cfg.grace ≤ 100 ∧
    (∀ o ∈ [Op.poll [], Op.poll [], Op.poll []], quietOp o = true) ∧
    pendingCount (runOps (c05Init true) (c06Cycle.take 4)) ≤ pollCount [Op.poll [], Op.poll [], Op.poll []] ∧
    (runOps (c05Init true) (c06Cycle.take 4)).ths.map (fun t => t.accepted.map (fun st => st.kind matches .flush 0)) =
      [[false, false, true]] ∧
    (runOps (runOps (c05Init true) (c06Cycle.take 4)) (.front (.tick 100) :: [Op.poll [], Op.poll [], Op.poll []])).flags = [0] := by
  decide +kernel

/-- F6 window: inside the backend's clock read of a poll, thread 2 registers and completes a log call (@1100), then
    thread 1 calls `flush_log` (@1101); time passes. -/
def c06Window : List Op :=
  [ .front (.tstart 1), .front (.tstart 2), .front (.log 1 0 4 10 true), .front (.tick 100), .poll [],
    .poll [(7, 1, [.log 2 0 4 10 true, .tick 1, .flush 1 0, .tick 99])], .front (.resume 1) ]

/-- **The pinned order breaks C06 for other threads (F6).** With `refreshAfterSample = false` the flush flag is
    raised and `flush_log()` returns while the statement thread 2 completed *before* the flush call began (timestamp
    1100 < 1101, within the premise, context registered) has not been written. -/
theorem C06_pinned_order_violates :
    GracePremise (runOps (c05Init false) c06Window) ∧ (runOps (c05Init false) c06Window).flags = [0] ∧
    (runOps (c05Init false) c06Window).actors.map (fun x => x.pend matches .none) = [true, true] ∧
    (runOps (c05Init false) c06Window).registry = [0, 1] ∧
    (runOps (c05Init false) c06Window).ths.map (fun t => (t.accepted.map (·.ts), t.popped.map (·.ts))) =
      [([1000, 1101], [1000, 1101]), ([1100], [])] := by
  decide +kernel

/-- the same window under the repaired order: the flag is not raised before thread 2's statement is written -/
example :
    (runOps (c05Init true) c06Window).flags = [] ∧
    (runOps (c05Init true) c06Window).ths.map (fun t => (t.accepted.map (·.ts), t.popped.map (·.ts))) =
      [([1000, 1101], [1000]), ([1100], [1100])] := by
  decide +kernel

/-- a tie, the caller's context first in the cache: thread 1 (the later flush caller) registers first (context 0), thread 2
    logs at 1100 (context 1) and thread 1 calls `flush_log()` at the very same clock value -/
def c06TieLate : List Op :=
  [ .front (.tstart 1), .front (.tstart 2), .front (.log 1 0 4 10 true), .front (.tick 100), .poll [],
    .front (.log 2 0 4 10 true), .front (.flush 1 0), .front (.tick 100), .poll [], .front (.resume 1) ]

/-- the same with thread 2's context first in the cache -/
def c06TieEarly : List Op :=
  [ .front (.tstart 1), .front (.tstart 2), .front (.log 2 0 4 10 true), .front (.tick 100), .poll [],
    .front (.log 2 0 4 10 true), .front (.flush 1 0), .front (.tick 100), .poll [], .front (.resume 1),
    .poll [], .front (.resume 1) ]

/-- **Tie, the other thread's context after the caller's: not covered.** Equal timestamps (1100), repaired order, premise
    met: the Flush event wins the tie (cache position 0), the flag is raised and the caller released while thread 2's
    statement — logged before `flush_log()` was called — is still unwritten. `C06_other_threads` cannot be extended to `≤`. -/
theorem C06_tie_later_context_not_written :
    GracePremise (runOps (c05Init true) c06TieLate) ∧ (runOps (c05Init true) c06TieLate).flags = [0] ∧
    (runOps (c05Init true) c06TieLate).cache = [0, 1] ∧
    (runOps (c05Init true) c06TieLate).actors.map (fun x => x.pend matches .none) = [true, true] ∧
    (runOps (c05Init true) c06TieLate).ths.map (fun t => (t.actor, t.accepted.map (·.ts), t.popped.map (·.ts))) =
      [(1, [1000, 1100], [1000, 1100]), (2, [1100], [])] := by
  decide +kernel

/-- **Tie, the other thread's context before the caller's: covered.** The same clock values with thread 2 registered
    first: its statement wins the tie; after the poll that pops it the flag is not raised yet, the next poll raises it. -/
theorem C06_tie_earlier_context_written :
    (runOps (c05Init true) (c06TieEarly.take 10)).flags = [] ∧
    (runOps (c05Init true) (c06TieEarly.take 10)).ths.map (fun t => (t.actor, t.accepted.map (·.ts), t.popped.map (·.ts))) =
      [(2, [1000, 1100], [1000, 1100]), (1, [1100], [])] ∧
    (runOps (c05Init true) c06TieEarly).flags = [0] ∧
    (runOps (c05Init true) c06TieEarly).ths.map (fun t => (t.actor, t.accepted.map (·.ts), t.popped.map (·.ts))) =
      [(2, [1000, 1100], [1000, 1100]), (1, [1100], [1100])] := by
  decide +kernel

/-- two sinks, two loggers (logger 0 → sink 0, logger 1 → sink 1), ordering disabled -/
def c06TwoCfg : Cfg := { c05Cfg true with grace := 0 }
def c06TwoInit : BSt :=
  { cfg := c06TwoCfg, now := 1000, sinks := [{ sid := 0 }, { sid := 1 }],
    lgs := [{ gid := 0, sinks := [0], level := 0 }, { gid := 1, sinks := [1], level := 0 }],
    names := [(0, 0), (1, 1)] }

/-- thread 1 logs through logger 0, calls `remove_logger(0)` (asynchronous removal: the logger is only marked
    invalid), then `flush_log()` through logger 1 -/
def c06Removed : List Op :=
  [ .front (.tstart 1), .front (.log 1 0 4 10 true), .front (.remove 1 0), .front (.flush 1 1),
    .poll [], .poll [], .front (.resume 1) ]

/-- writes and flushes of the event log, oldest first: `(0, sink)` = write, `(1, sink)` = flushed -/
def c06Code : Ev → Option (Nat × Nat)
  | .write sink _ _ _ _ => some (0, sink)
  | .flushed sink => some (1, sink)
  | _ => none

/-- the same machine with the `is_valid_logger()` filter of `_flush_and_run_active_sinks` still in place (before the repair
    of F12) -/
def c06TwoInitOld : BSt := { c06TwoInit with cfg := { c06TwoCfg with flushInvalidatedLoggers := false } }

/-- **F12 on the model, before the repair.** With the filter, `C06_flush_step` flushes only the sinks of loggers that are
    still valid: a statement logged through a logger that was removed (asynchronously) before the flush is written to
    that logger's sink but the sink is **not flushed** when `flush_log()` returns — the log is
    `write sink 0, flushed sink 1`, the flag is raised and the caller released. -/
theorem C06_removed_logger_sink_not_flushed_unrepaired :
    (runOps c06TwoInitOld c06Removed).flags = [0] ∧
    (runOps c06TwoInitOld c06Removed).actors.map (fun x => x.pend matches .none) = [true] ∧
    (runOps c06TwoInitOld c06Removed).log.reverse.filterMap c06Code = [(0, 0), (1, 1)] := by
  decide +kernel

/-- **F12 repaired** (`flushInvalidatedLoggers`, extracted as `flushOnlyValidLoggers = false`): the sink of the logger that
    is marked for removal is flushed too before the flag is raised. -/
theorem C06_removed_logger_sink_flushed :
    (runOps c06TwoInit c06Removed).flags = [0] ∧
    (runOps c06TwoInit c06Removed).actors.map (fun x => x.pend matches .none) = [true] ∧
    (runOps c06TwoInit c06Removed).log.reverse.filterMap c06Code = [(0, 0), (1, 0), (1, 1)] := by
  decide +kernel

/-- F33 schedule: thread 1 logs through logger 0 (sink 0, also held by the user), `remove_logger(0)`; the backend writes
    the statement (first poll) and erases logger 0 in the idle branch of the second; then `flush_log()` through logger 1 -/
def c06Erased : List Op :=
  [ .front (.tstart 1), .front (.log 1 0 4 10 true), .front (.remove 1 0), .poll [], .poll [],
    .front (.flush 1 1), .poll [], .front (.resume 1) ]

/-- a non-zero `sink_min_flush_interval` (10 ms), last flush at the start time: the interval never elapses in the schedule -/
def c06IntervalInit (repaired : Bool) : BSt :=
  { c06TwoInit with cfg := { c06TwoCfg with flushInterval := 10000000, flushBeforeLoggerErase := repaired }, lastFlush := 1000 }

/-- **F33 on the model, before the repair.** With a non-zero interval and no flush at the head of the logger clean-up, the
    logger is erased while its sink holds the statement unflushed; the later Flush event reaches only sink 1: the flag is
    raised, `flush_log()` returns, the history is `write sink 0, flushed sink 1` — sink 0 is never flushed (and the two
    loggers' worth of state confirms logger 0 is erased). -/
theorem C06_erased_logger_sink_never_flushed_unrepaired :
    (runOps (c06IntervalInit false) c06Erased).flags = [0] ∧
    (runOps (c06IntervalInit false) c06Erased).actors.map (fun x => x.pend matches .none) = [true] ∧
    (runOps (c06IntervalInit false) c06Erased).lgs.map (·.erased) = [true, false] ∧
    (runOps (c06IntervalInit false) c06Erased).log.reverse.filterMap c06Code = [(0, 0), (1, 1)] ∧
    unfl 0 (runOps (c06IntervalInit false) c06Erased).log = true := by
  decide +kernel

/-- **F33 repaired** (`flushBeforeLoggerErase`, extracted): the clean-up flushes both sinks before it erases logger 0 -/
theorem C06_erased_logger_sink_flushed :
    (runOps (c06IntervalInit true) c06Erased).flags = [0] ∧
    (runOps (c06IntervalInit true) c06Erased).lgs.map (·.erased) = [true, false] ∧
    (runOps (c06IntervalInit true) c06Erased).log.reverse.filterMap c06Code = [(0, 0), (1, 0), (1, 1), (1, 1)] ∧
    unfl 0 (runOps (c06IntervalInit true) c06Erased).log = false := by
  decide +kernel

/-- with interval 0 the unrepaired clean-up is harmless: the idle pass that erases has just flushed -/
example :
    (runOps { c06TwoInit with cfg := { c06TwoCfg with flushBeforeLoggerErase := false } } c06Erased).log.reverse.filterMap c06Code =
      [(0, 0), (1, 0), (1, 1), (1, 1)] := by
  decide +kernel

/-- the gate itself: interval 10 ms, last flush at 1000; an idle poll at 1000 + 10 ms does not flush (`>` is strict),
    one nanosecond later it does and records the time; the Flush event and the exit drain flush regardless -/
example :
    (runOps (c06IntervalInit true) [.front (.tick 10000000), .poll []]).log = [] ∧
    (runOps (c06IntervalInit true) [.front (.tick 10000001), .poll []]).log.reverse.filterMap c06Code = [(1, 0), (1, 1)] ∧
    (runOps (c06IntervalInit true) [.front (.tick 10000001), .poll []]).lastFlush = 10001001 ∧
    (runOps (c06IntervalInit true) [.exit]).log.reverse.filterMap c06Code = [(1, 0), (1, 1)] := by
  decide +kernel

/-- a dropping queue of 64 bytes: the Flush request (40 bytes) does not fit behind a 47-byte statement -/
def c06DropCfg : Cfg := { c05Cfg true with dropping := true, qcap := 64, grace := 0 }
def c06DropInit : BSt := { c05Init true with cfg := c06DropCfg }
def c06Drop : List Op :=
  [ .front (.tstart 1), .front (.log 1 0 4 10 true), .front (.flush 1 0), .poll [], .front (.resume 1),
    .poll [], .front (.resume 1) ]

/-- non-vacuity of `C06_flush_never_dropped` on a *dropping* queue: the refused request is parked for a retry with
    nothing counted; after the backend has read the queue the retry commits it, it is processed, the caller released. -/
example :
    (runOps c06DropInit (c06Drop.take 3)).ths.map (fun t => (t.accepted.length, t.fail, t.discarded)) = [(1, 0, 0)] ∧
    (runOps c06DropInit (c06Drop.take 3)).actors.map (fun x => x.pend matches .retry _ 1) = [true] ∧
    (runOps c06DropInit c06Drop).flags = [0] ∧
    (runOps c06DropInit c06Drop).ths.map (fun t => (t.accepted.length, t.popped.length, t.fail, t.discarded)) = [(2, 2, 0, 0)] ∧
    (runOps c06DropInit c06Drop).actors.map (fun x => x.pend matches .none) = [true] := by
  decide +kernel

/-- non-vacuity of `C06_flush_log_returns`: on the 64-byte queue the Flush request (40 bytes ≤ 64) is refused behind the
    47-byte statement and the caller is parked on its retry (continuation 1, context 0); the context still holds the
    unread statement, the backend runs, one record is pending. The continuation
    `tick 0, poll, resume 1, tick 0, poll` meets the hypotheses, and — as the theorem says — the flag is raised and
    the caller's next `resume` answers "done". -/
example :
    StartF c06DropInit ∧ c06DropInit.cfg.qp.drainPublish = true ∧
    ((runOps c06DropInit (c06Drop.take 3)).actor 1).map (fun x => (x.pend matches .retry _ 1, x.ctx)) = some (true, some 0) ∧
    ((runOps c06DropInit (c06Drop.take 3)).actor 1).map
      (fun x => match x.pend with | .retry st _ => (st.kind, st.size) | _ => (.log, 0)) = some (.flush 0, 40) ∧
    ¬ ((runOps c06DropInit (c06Drop.take 3)).th 0).qStmts = [] ∧
    (runOps c06DropInit (c06Drop.take 3)).backendGone = false ∧
    pendingCount (runOps c06DropInit (c06Drop.take 3)) ≤ pollCount [.poll []] ∧
    (runOps c06DropInit (c06Drop.take 3 ++ [.front (.tick 0), .poll []] ++ [.front (.resume 1)] ++
      [.front (.tick 0), .poll []])).flags = [0] ∧
    (applyOp (runOps c06DropInit (c06Drop.take 3 ++ [.front (.tick 0), .poll []] ++ [.front (.resume 1)] ++
      [.front (.tick 0), .poll []])) (.front (.resume 1))).2 = "done" := by
  refine ⟨⟨⟨by show 0 < 32; decide, rfl, rfl, rfl, rfl, rfl⟩, rfl, rfl⟩, ?_⟩
  decide +kernel

theorem c05Init_startC : StartC (c05Init true) :=
  C06_startC _ (PA.Fresh.of_no_rings (by decide) rfl rfl rfl rfl (by decide))
    ⟨⟨rfl, rfl, rfl, rfl, rfl, rfl, by decide⟩, by decide, by decide, by decide, by decide, rfl⟩
    (c05Init_startF true) rfl rfl (Or.inl rfl)

/-- non-vacuity of `C06_flush_log_contract` on the flush cycle: the hypotheses hold with `pre` = the two statements, and
    the history is "write, write, flush of sink 0", the flag raised at position 3 -/
example :
    (runOps (c05Init true) c06Cycle).flags = [0] ∧ (runOps (c05Init true) c06Cycle).flagLog = [(0, 3)] ∧
    (runOps (c05Init true) c06Cycle).ths.map (fun t => t.accepted.map (fun st => (st.kind matches .flush 0, st.id))) =
      [[(false, 0), (false, 1), (true, 0)]] ∧
    (runOps (c05Init true) c06Cycle).log.reverse.filterMap c06Code = [(0, 0), (0, 0), (1, 0)] := by
  decide +kernel

end Backend
