import QuillModel.Props.C01
import QuillModel.MathUtil.Ctor
/-!
# C01 — the constructor discharges the capacity hypotheses for every requested capacity

`C01_reachable_safe` needs `0 < cap`; `C01_wrap` needs `cap ∣ 2^w` and `cap < 2^w`; the model's storage has `2·cap`
cells and offsets are `pos % cap`. `BoundedSPSCQueueImpl<T>(capacity, …, reader_store_percent)` computes
`_capacity = next_power_of_two(capacity)`, `_mask = _capacity - 1`, `_bytes_per_batch` and allocates
`2ull * uint64_t(_capacity)` bytes (`MathUtil.boundedCtor w req pct`, `w` = bits of `T`). For **every** `w ≥ 1`,
every request and every percentage the hypotheses hold — except that for `w = 64` and a request above `2^62` the
byte count wraps to 0 (`C01_size_t_request_above_2pow62_has_no_storage`): the queue reports a capacity of `2^63`
over an empty allocation.
-/
namespace MathUtil
open Spsc

/-- safety for the queue the constructor builds, whatever was requested -/
theorem C01_any_requested_capacity (w : Nat) (hw : 1 ≤ w) (req pct : Nat) (o : Params) (ho : OrdersOK o)
    (ops : List Op)
    (hr : Run o (init (boundedCtor w req pct).capacity (boundedCtor w req pct).bytesPerBatch) ops) (op : Op)
    (he : Enabled (run o (init (boundedCtor w req pct).capacity (boundedCtor w req pct).bytesPerBatch) ops) op) :
    Safe (run o (init (boundedCtor w req pct).capacity (boundedCtor w req pct).bytesPerBatch) ops) op := by
  obtain ⟨_, _, _, _, hpos, _⟩ := boundedCtor_ok hw req pct
  exact C01_reachable_safe o ho _ _ hpos ops hr op he

/-- wrap-around refinement for the queue the constructor builds, whatever was requested: the `w`-bit machine with
    `_mask` equals the free-running one through any number of wraps -/
theorem C01_wrap_any_requested_capacity (w : Nat) (hw : 1 ≤ w) (req pct : Nat) (o : Params) (ho : OrdersOK o)
    (as : List Api)
    (hr : ApiRun o (init (boundedCtor w req pct).capacity (boundedCtor w req pct).bytesPerBatch) as) :
    modRun (2 ^ w) o (absM (2 ^ w) (init (boundedCtor w req pct).capacity (boundedCtor w req pct).bytesPerBatch))
        (as.map (Api.modM (2 ^ w))) =
      (absM (2 ^ w) (apiRun o (init (boundedCtor w req pct).capacity (boundedCtor w req pct).bytesPerBatch) as).1,
       (apiRun o (init (boundedCtor w req pct).capacity (boundedCtor w req pct).bytesPerBatch) as).2.map
         (Obs.modM (2 ^ w))) := by
  obtain ⟨_, _, _, _, hpos, hdvd, hlt, _⟩ := boundedCtor_ok hw req pct
  exact C01_wrap (2 ^ w) o ho as _ (init_inv _ _ hpos) hdvd hlt hr

/-- the C++ offset `pos & _mask` is the model's `pos % cap`, also on a wrapped `w`-bit position -/
theorem C01_mask_is_mod (w : Nat) (hw : 1 ≤ w) (req pct pos : Nat) :
    slot (pos % 2 ^ w) (boundedCtor w req pct).mask = pos % (boundedCtor w req pct).capacity := by
  obtain ⟨j, hj, hc, hm, _⟩ := boundedCtor_ok hw req pct
  rw [hm, hc]; exact slot_wrap pos (by omega)

/-- **Storage.** With the repaired constructor (`_checked_capacity`, extracted flag `ctorRejectsOversized = true`) every
    request has one of two outcomes, for every integer type: it is *accepted* and the byte count handed to the allocator is
    exactly the `2·capacity` the model's storage has, or it is *rejected* with a `QuillError` before any storage exists. -/
theorem C01_storage_exact (w req pct : Nat) :
    (∃ c, boundedCtorR true w req pct = some c ∧ c = boundedCtor w req pct ∧ c.allocBytes = 2 * c.capacity) ∨
    (boundedCtorR true w req pct = none ∧ 2 ^ 63 ≤ nextPow2W w req) := by
  by_cases hr : ctorRejects true w req = true
  · right
    exact ⟨by simp only [boundedCtorR, hr, if_true], (ctorRejects_iff w req).mp hr⟩
  · left
    have h : boundedCtorR true w req pct = some (boundedCtor w req pct) := by simp only [boundedCtorR, hr]; rfl
    exact ⟨_, h, rfl, accepted_alloc_exact h⟩

/-- which requests are rejected: none for an integer type below 64 bits; for `size_t` exactly those above `2^62` -/
theorem C01_rejected_iff (req pct : Nat) :
    (boundedCtorR true 64 req pct = none ↔ 2 ^ 62 < req) ∧
    ∀ w, 1 ≤ w → w ≤ 63 → boundedCtorR true w req pct = some (boundedCtor w req pct) := by
  constructor
  · rw [← ctorRejects_64_iff]
    simp only [boundedCtorR]
    split <;> simp_all
  · intro w hw hw63
    simp only [boundedCtorR, ctorRejects_narrow hw hw63 req]; rfl

/-- the pinned constructor (flag `false`) never rejects -/
theorem C01_unrepaired_never_rejects (w req pct : Nat) : boundedCtorR false w req pct = some (boundedCtor w req pct) := by
  simp only [boundedCtorR, ctorRejects_false]; rfl

/-- **Finding (F32).** `BoundedSPSCQueueImpl<size_t>` with a request above `2^62` (in particular every request
    `≥ 2^63`): capacity `2^63`, `2ull * capacity` = **0** bytes requested; every reservation up to `2^63` bytes is then
    granted over storage that does not exist. -/
theorem C01_size_t_request_above_2pow62_has_no_storage (req pct : Nat) (h : 2 ^ 62 < req) :
    (boundedCtor 64 req pct).capacity = 2 ^ 63 ∧ (boundedCtor 64 req pct).allocBytes = 0 ∧
    (boundedCtor 64 req pct).allocBytes ≠ 2 * (boundedCtor 64 req pct).capacity := by
  obtain ⟨h1, h2⟩ := alloc_wraps_to_zero (pct := pct) h
  refine ⟨h1, h2, ?_⟩
  rw [h1, h2]; decide

/-- Observation: a request above `max_power_of_two<T>()` is rounded *down* — exactly then the request itself no longer
    fits the queue it asked for (the property's quantifier ranges over the capacity, not the request). -/
theorem C01_request_fits_iff (w : Nat) (hw : 1 ≤ w) (req pct : Nat) :
    req ≤ (boundedCtor w req pct).capacity ↔ req ≤ 2 ^ (w - 1) := by
  have := nextPow2W_lt_iff (w := w) (n := req) hw
  simp only [boundedCtor]
  omega

/-- non-vacuity / concrete values: `uint8_t` requests 0, 100, 128, 200; `size_t` request `2^62 + 1` -/
example : (boundedCtor 8 0 5).capacity = 1 ∧ (boundedCtor 8 100 5) = ⟨128, 127, 6, 256⟩ ∧
    (boundedCtor 8 200 5).capacity = 128 ∧ (boundedCtor 16 1000 5) = ⟨1024, 1023, 51, 2048⟩ ∧
    (boundedCtor 64 (2 ^ 62 + 1) 5).allocBytes = 0 := by decide +kernel

/-- the witness for the unrepaired flag stays: the pinned constructor accepts `2^62 + 1` with 0 bytes of storage, the
    repaired one rejects it (and `SIZE_MAX`), and still accepts `2^62` (which the allocator then refuses) -/
theorem C01_unrepaired_flag_witness :
    (boundedCtorR false 64 (2 ^ 62 + 1) 5).map (·.allocBytes) = some 0 ∧
    (boundedCtorR false 64 (2 ^ 62 + 1) 5).map (·.capacity) = some (2 ^ 63) ∧
    boundedCtorR true 64 (2 ^ 62 + 1) 5 = none ∧ boundedCtorR true 64 (2 ^ 64 - 1) 5 = none ∧
    (boundedCtorR true 64 (2 ^ 62) 5).map (·.allocBytes) = some (2 ^ 63) := by decide +kernel

end MathUtil
