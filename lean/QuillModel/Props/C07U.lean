import QuillModel.Props.C03U
/-!
# C07 (drain part) for the unbounded-queue machine

The exit loop of the backend (`_exit` with `wait_for_queues_to_empty_before_exit`) on the U machine leaves only through
the branch in which the global emptiness test answered true; by the soundness of that test for the whole chain of
buffers (`C20U_empty_test_sound_run`), at that moment every context in the backend's cache has an empty chain, an empty
transit buffer and `accepted = popped`. Conservation (`C03U_conservation`) holds in every state before, during and
after. As in the bounded bundle, termination of the loop within the model's fuel is a premise (`exitEndsU`; the real
loop is unbounded), and — not proved for the U machine — that the cache covers every context that ever held a record.
-/
namespace Backend
open Backend.US

def decExitEndsU (u : UP) (inj : BSt → Nat → BSt) (tick : Nat) :
    (fuel : Nat) → (s : BSt) → Decidable (exitEndsU u inj tick fuel s)
  | 0, _ => isFalse (fun h => h)
  | fuel + 1, s =>
    match (inferInstance : Decidable ((allEmptyU s).2 = true)), (inferInstance : Decidable ((allEmptyU s).2 = false)),
        decExitEndsU u inj tick fuel (exitNextU u inj tick s) with
    | isTrue h, _, _ => isTrue (Or.inl h)
    | isFalse _, isTrue h2, isTrue h3 => isTrue (Or.inr ⟨h2, h3⟩)
    | isFalse h1, isFalse h2, _ => isFalse (fun h => h.elim h1 (fun x => h2 x.1))
    | isFalse h1, _, isFalse h3 => isFalse (fun h => h.elim h1 (fun x => h3 x.2))

instance (u : UP) (inj : BSt → Nat → BSt) (tick fuel : Nat) (s : BSt) : Decidable (exitEndsU u inj tick fuel s) :=
  decExitEndsU u inj tick fuel s

/-- **C07 (unbounded queue): the exit loop leaves only with every cached chain and buffer empty.** For every operation
    list followed by the exit drain: if the loop ends within the model's fuel, the state is that of the clean-up tail run
    from a state `sK` (satisfying the invariant) in which the emptiness test answered true and every context of the
    backend's cache has `buf = []`, `qStmts = []` (the whole chain of queue buffers) and `accepted = popped`; the backend is
    gone afterwards. -/
theorem C07U_exit_leaves_only_drained (u : UP) (s0 : BSt) (h0 : US.UI s0) (ops : List UOp)
    (hg : (runOpsU u s0 ops).backendGone = false)
    (he : exitEndsU u (runInjU u []) 1000 100000 { runOpsU u s0 ops with siteCnt := [] }) :
    ∃ sK, US.UI sK ∧ (allEmptyU sK).2 = true ∧ (∀ i ∈ (refreshCache sK).cache, Drained sK i) ∧
      (applyOpU u (runOpsU u s0 ops) .exit).1 = { exitTailU (runInjU u []) sK with backendGone := true } := by
  have hs : US.UI { runOpsU u s0 ops with siteCnt := [] } :=
    (US.runOpsU_closed (US.UI.closed u) ops s0 h0).aux rfl rfl rfl
  obtain ⟨sK, a, b, c, d⟩ := exitLoopU_ends_form u [] 1000 100000 _ hs he
  refine ⟨sK, a, b, c, ?_⟩
  have hap : applyOpU u (runOpsU u s0 ops) .exit = if (runOpsU u s0 ops).backendGone then (runOpsU u s0 ops, "noop") else
      ({ exitLoopU u (runInjU u []) 1000 100000 { runOpsU u s0 ops with siteCnt := [] } with backendGone := true }, "ev") := rfl
  rw [hap, if_neg (by rw [hg]; simp), d]

/-- the same for any fuel of the loop (the form the non-vacuity example instantiates) -/
theorem C07U_exit_loop_leaves_only_drained (u : UP) (table : List (Nat × Nat × List UFOp)) (tick fuel : Nat) (s : BSt)
    (h : US.UI s) (he : exitEndsU u (runInjU u table) tick fuel s) :
    ∃ sK, US.UI sK ∧ (allEmptyU sK).2 = true ∧ (∀ i ∈ (refreshCache sK).cache, Drained sK i) ∧
      exitLoopU u (runInjU u table) tick fuel s = exitTailU (runInjU u table) sK :=
  exitLoopU_ends_form u table tick fuel s h he

/-- non-vacuity: the growth / shrink run of `Props/C03U.lean` with a backlog left in two buffers: the exit loop ends within
    6 turns, and afterwards the context has popped what it accepted -/
def exS7 : BSt := runOpsU { qmax := 4096 } exS0
  [.front (.base (.tstart 1)), .front (.base (.log 1 0 4 700 true)), .front (.shrink 1 256), .front (.base (.log 1 0 4 20 true))]

example : exitEndsU { qmax := 4096 } (runInjU { qmax := 4096 } []) 1000 6 { exS7 with siteCnt := [] } := by decide +kernel
example : ((exitLoopU { qmax := 4096 } (runInjU { qmax := 4096 } []) 1000 6 { exS7 with siteCnt := [] }).th 0).popped.length = 2 ∧
    ((exitLoopU { qmax := 4096 } (runInjU { qmax := 4096 } []) 1000 6 { exS7 with siteCnt := [] }).th 0).qStmts.length = 0 := by decide +kernel

end Backend
