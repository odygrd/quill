import QuillModel.Props.C03
/-!
# C10 — a sink that throws disturbs nothing else

Helper lemmas: `Backend/ConsProofsFault.lean` and the C03 files. Object: the
end-to-end model `Backend/{Model,Sched,Ops}.lean`; a sink carries an **arbitrary fault assignment**: `wthrow` /
`fthrow` list the call numbers at which its `write_log` / `flush_sink` throws. Quantifiers: every fault
assignment of every sink, every schedule `ops : List Op` (with injections inside polls), every configuration,
every initial state satisfying `Inv` (every `Fresh` system — whose sinks, with their fault lists, are arbitrary).
A backtrace statement logged without `init_backtrace` is the third fault covered here. A statement whose formatting
throws (finding F4) is in `Props/C10Format.lean`; fault kinds, override patterns that cannot be built and exceptions
that escape the read pass are in `Props/Faults.lean`.
-/
namespace Backend
open Backend.PA

/-- **Faults do not disturb conservation and order.** Whatever the sinks throw, for every context in every
    reachable state `accepted = popped ++ buf ++ qStmts`: each statement of each thread is popped exactly once,
    in issue order — no record is re-read after an exception, none is skipped. (This is C03's invariant; its
    proof never looks at what the sinks do.) -/
theorem C10_conservation_under_faults (s0 : BSt) (h0 : Inv s0) (ops : List Op) (i : Nat) :
    ((runOps s0 ops).th i).accepted =
      ((runOps s0 ops).th i).popped ++ ((runOps s0 ops).th i).buf ++ ((runOps s0 ops).th i).qStmts :=
  C03_conservation s0 h0 ops i

/-- **The event is popped on the exception path too.** In any state, processing the front event `st` of
    context `i` — whether or not an exception escapes from a sink or the backtrace replay — removes exactly that
    event from that buffer, appends it to the pop histories and leaves every other context untouched. -/
theorem C10_pop_on_every_path (s : BSt) (i : Nat) (st : Stmt) (rest : List Stmt) (hb : (s.th i).buf = st :: rest) :
    ((popStep s i st rest).th i).buf = rest ∧ ((popStep s i st rest).th i).popped = (s.th i).popped ++ [st] ∧
    (popStep s i st rest).popLog = st :: s.popLog ∧ ∀ j, j ≠ i → (popStep s i st rest).th j = s.th j :=
  popStep_pops s i st rest hb

/-- whenever a transit buffer holds an event, `_process_lowest_timestamp_transit_event` processes one (the
    backend does not get stuck on a faulty statement: the event it processed is gone afterwards,
    `C10_pop_on_every_path`) -/
theorem C10_process_makes_progress (inj : BSt → Nat → BSt) (s : BSt) (i : Nat) (st : Stmt) (rest : List Stmt)
    (hl : lowest s = some i) (hb : (s.th i).buf = st :: rest) : (processLowest inj s).2 = true := by
  rw [processLowest_eq, hl]
  dsimp only
  rw [hb]
  dsimp only
  split <;> rfl

/-- **A write fault loses at most that statement on that sink and the sinks after it.** If an exception escapes
    from the dispatch of `st`, the sink list of its logger splits as `pre ++ sid :: post` where `sid` is the
    first accepting sink whose `write_log` throws: every accepting sink in `pre` has received the statement
    exactly once, `sid` left a `wthrow`, the sinks in `post` were not called. Nothing else is touched: no
    context, queue, buffer, actor, registry, pop history, logger sink list, sink configuration (`Core`). -/
theorem C10_write_fault_local (s : BSt) (st : Stmt) (hx : (dispatch s st).2 = true) :
    (∃ pre sid post, (s.lgOf st.lg).sinks = pre ++ sid :: post ∧ acc s st sid = true ∧
      (dispatch s st).1.log = Ev.wthrow sid st.id :: ((pre.filter (acc s st)).map (W st)).reverse ++ s.log) ∧
    Core s (dispatch s st).1 := by
  refine ⟨?_, dispatch_core s st⟩
  rcases C03_dispatch_exact s st with ⟨h1, _⟩ | ⟨pre, sid, post, h1, _, h3, h4⟩
  · rw [hx] at h1; cases h1
  · exact ⟨pre, sid, post, h1, h3, h4⟩

/-- processing any event touches no context, actor, registry, cache, pop history, `reported`, logger sink list or sink
    configuration, lowers no flush flag and only appends to the history (`Core`); sink call counters and backtrace rings
    may change -/
theorem C10_process_event_local (s : BSt) (st : Stmt) : Core s (processEvent s st).1 := processEvent_core s st

/-- **The fault assignment itself is never altered**: in every reachable state every sink still has the
    `write_log` / `flush_sink` fault schedule and filters it started with (so "the k-th call throws" means
    the same thing throughout, and the statements not hit by a fault are dispatched by `C03_dispatch_exact`). -/
theorem C10_fault_schedule_constant (s0 : BSt) (ops : List Op) (sid : Nat) :
    ((runOps s0 ops).sinkOf sid).wthrow = (s0.sinkOf sid).wthrow ∧
    ((runOps s0 ops).sinkOf sid).fthrow = (s0.sinkOf sid).fthrow ∧
    ((runOps s0 ops).sinkOf sid).filtM = (s0.sinkOf sid).filtM ∧
    ((runOps s0 ops).sinkOf sid).filtR = (s0.sinkOf sid).filtR :=
  have h := (Stable.run s0 ops).sinks sid
  ⟨h.2.2.2.1, h.2.2.2.2, h.2.1, h.2.2.1⟩

/-- **Still at most once under faults**: whatever throws, an accepted ordinary statement is never written to a
    sink more often than the sink occurs in its logger's sink list (no duplicate caused by a retry). -/
theorem C10_at_most_once_under_faults (s0 : BSt) (h0 : Inv s0) (ops : List Op) (i : Nat) (st : Stmt)
    (hm : st ∈ ((runOps s0 ops).th i).accepted) (hord : isOrd st = true) (sid : Nat) :
    wcount (runOps s0 ops).log sid st.id ≤ ((runOps s0 ops).lgOf st.lg).sinks.count sid :=
  C03_at_most_once s0 h0 ops i st hm hord sid

/-- **`_flush_and_run_active_sinks` visits every active sink whatever throws**: the flush events it appends to
    the history, read in order, name exactly the active sinks, each once, in `LoggerManager` order; a sink
    whose `flush_sink` throws leaves `fthrow` and the notification `n:ffail` instead of `flushed`, and the sinks
    after it are still flushed. -/
theorem C10_flush_visits_every_sink (s : BSt) :
    ∃ evs, (flushSinks s).log = evs ++ s.log ∧ evs.reverse.filterMap flushVisit = activeSinks s ∧
      ∀ e ∈ evs, isFlushEv e = true :=
  flushSinks_spec s

/-- **A flush fault loses nothing**: flushing touches no context, actor, queue, buffer, pop history, logger or
    sink configuration and emits no `write` (`Frame`). -/
theorem C10_flush_fault_loses_nothing (s : BSt) : Frame s (flushSinks s) := flushSinks_frame s

/-- **Flush flags are still raised**: when the front event chosen by the backend is a Flush request, its flag
    is raised by that very call of `_process_lowest_timestamp_transit_event`, whatever the sinks throw while
    being flushed (so `flush_log()` still returns). -/
theorem C10_flush_flag_raised (inj : BSt → Nat → BSt) (s : BSt) (i : Nat) (st : Stmt) (rest : List Stmt) (f : Nat)
    (hl : lowest s = some i) (hb : (s.th i).buf = st :: rest) (hk : st.kind = .flush f) :
    f ∈ (processLowest inj s).1.flags :=
  (processLowest_flush_flag inj s i st rest f hl hb hk).1

/-- **Backtrace statement without `init_backtrace`**: reported (`n:nobt`) and skipped, the state is unchanged (the pop is
    `C10_pop_on_every_path`). -/
theorem C10_backtrace_without_init (s : BSt) (st : Stmt) (hk : st.kind = .log) (hl : st.lvl = 9)
    (hn : (s.lgOf st.lg).bt = none) : processEvent s st = (s, some "n:nobt", none) := by
  have h := processEvent_shape s st
  generalize processEvent s st = r at h ⊢
  cases h with
  | noRing => rfl
  | store _ _ hr => rw [hn] at hr; cases hr
  | writeFail _ hl' | replay _ hl' | plain _ hl' => exact absurd hl hl'
  | initBt hk' | flushBt hk' | flush hk' | removal hk' => rw [hk] at hk'; cases hk'

/-- **A statement whose own dispatch hit no write fault is delivered exactly once, whatever faults hit others.** With
    arbitrary `write_log` / `flush_sink` fault schedules on every sink: when the backend processes the ordinary
    statement `st` and no `write_log` call made for `st` throws (`(dispatch s st).2 = false` — a hypothesis about
    `st` alone; statements before and after may fault on any sink, flushes may fault), then at the end of that
    processing call and after EVERY further schedule the whole history contains, at every sink `sid`, exactly as many
    ordinary writes of `st.id` as `sid` occurs among the sinks of `st`'s logger that accepted it at dispatch time:
    exactly one per accepting sink listed once, none otherwise. (`Inv` puts no condition on the sinks' fault lists.) -/
theorem C10_unfaulted_exactly_once (s : BSt) (h : Inv s) (table : List (Nat × Nat × List FOp)) (i : Nat) (st : Stmt)
    (rest : List Stmt) (hl : lowest s = some i) (hb : (s.th i).buf = st :: rest) (hord : isOrd st = true)
    (hnf : (dispatch s st).2 = false) (ops : List Op) (sid : Nat) :
    wcount (runOps (processLowest (runInj table) s).1 ops).log sid st.id =
      ((s.lgOf st.lg).sinks.filter (acc s st)).count sid :=
  C03_exactly_once s h table i st rest hl hb hord hnf ops sid

/-- **Order under faults**: with arbitrary fault schedules, two ordinary statements issued by one thread in the order
    `st1`, `st2` are never written to a sink in the opposite order — a fault removes writes (of the faulted statement,
    at the faulting sink and the sinks after it), it never reorders the others. (`log` is newest first.) -/
theorem C10_order_under_faults (s0 : BSt) (sid : Nat) (h0 : OrdInv sid s0) (ops : List Op) (i : Nat)
    (l1 l2 l3 : List Stmt) (st1 st2 : Stmt)
    (ha : ((runOps s0 ops).th i).accepted = l1 ++ st1 :: (l2 ++ st2 :: l3))
    (ho1 : isOrd st1 = true) (ho2 : isOrd st2 = true) (a b c : List Ev) (e1 e2 : Ev)
    (hlog : (runOps s0 ops).log = a ++ e1 :: (b ++ e2 :: c)) :
    ¬ (ordWrite sid st1.id e1 = true ∧ ordWrite sid st2.id e2 = true) :=
  C03_thread_order_at_sink s0 sid h0 ops i l1 l2 l3 st1 st2 ha ho1 ho2 a b c e1 e2 hlog

/-- **A write fault is reported through the notifier, once, in the same step**: when the dispatch of the ordinary
    statement `st` throws, the pop appends to the history the events of the dispatch — which end with the `wthrow` of
    the faulting sink (`C10_write_fault_local`) — and then exactly the notification `n:wfail`. -/
theorem C10_write_fault_reported (s : BSt) (i : Nat) (st : Stmt) (rest : List Stmt) (hord : isOrd st = true)
    (hx : (dispatch s st).2 = true) :
    (popStep s i st rest).log = Ev.notify "n:wfail" :: (dispatch s st).1.log :=
  popStep_wfault_reported s i st rest hord hx

/-- **Every flush fault is reported through the notifier, once, in the same step**: among the events one call of
    `_flush_and_run_active_sinks` appends there are exactly as many `n:ffail` notifications as `fthrow` events, and each
    `fthrow` is immediately followed (next newer event) by its notification. -/
theorem C10_flush_fault_reported (s : BSt) :
    ∃ evs, (flushSinks s).log = evs ++ s.log ∧ evs.countP isFthrow = evs.countP isFfail ∧
      ∀ a b e, evs = a ++ e :: b → isFthrow e = true → ∃ a', a = a' ++ [Ev.notify "n:ffail"] := by
  obtain ⟨evs, he, hg⟩ := flushSinks_grps s
  refine ⟨evs, he, grps_fthrow_count hg, fun a b e hl hf => ?_⟩
  cases e <;> cases hf
  exact hg.reported hl rfl

/-- sink 1 throws on its 2nd write and its 1st flush, sink 2 on its 1st write -/
def c10Init : BSt :=
  { cfg := c03Cfg, now := 1000,
    sinks := [{ sid := 1, wthrow := [2], fthrow := [1] }, { sid := 2, wthrow := [1] }],
    lgs := [{ gid := 0, sinks := [1, 2] }], names := [(0, 0)] }

theorem c10Init_fresh : Fresh c10Init :=
  Fresh.of_no_rings (by decide) rfl rfl rfl rfl (by decide)

/-- three statements, a backtrace statement without init, a flush request, one poll per event -/
def c10Sched : List Op :=
  [.front (.tstart 0), .front (.log 0 0 4 10 true), .front (.log 0 0 4 10 true), .front (.logBt 0 0 10),
   .front (.log 0 0 4 10 true), .front (.flush 0 0), .poll [], .poll [], .poll [], .poll [], .poll [],
   .front (.resume 0)]

/-- what the model does on it: statement 0 reaches sink 1 and faults on sink 2; statement 1 faults on sink 1 (and
    is not offered to sink 2); the backtrace statement is reported; statement 3 reaches both sinks; the flush of
    sink 1 throws, sink 2 is flushed all the same; the flag is raised and the caller returns; all five events
    were popped in order -/
example : ((runOps c10Init c10Sched).th 0).popped.map (·.id) = [0, 1, 2, 3, 0] ∧
    ((runOps c10Init c10Sched).th 0).buf.length = 0 ∧
    wcount (runOps c10Init c10Sched).log 1 0 = 1 ∧ wcount (runOps c10Init c10Sched).log 2 0 = 0 ∧
    wcount (runOps c10Init c10Sched).log 1 1 = 0 ∧ wcount (runOps c10Init c10Sched).log 2 1 = 0 ∧
    wcount (runOps c10Init c10Sched).log 1 3 = 1 ∧ wcount (runOps c10Init c10Sched).log 2 3 = 1 ∧
    (runOps c10Init c10Sched).flags = [0] ∧ (runOps c10Init c10Sched).actors.map isParked = [false] ∧
    ((runOps c10Init c10Sched).log.filterMap flushVisit).reverse = [1, 2] := by decide +kernel

/-- non-vacuity of `C10_unfaulted_exactly_once` and the two report theorems: statements 0 and 1 fault (on sink 2 resp. sink 1), the backtrace statement is
    rejected, the flush of sink 1 faults — statement 3, issued after them, is written exactly once to each sink, after
    statement 0's write at sink 1; one `n:wfail` per write fault, one `n:ffail` for the flush fault -/
example : wcount (runOps c10Init c10Sched).log 1 3 = 1 ∧ wcount (runOps c10Init c10Sched).log 2 3 = 1 ∧
    ((runOps c10Init c10Sched).log.reverse.filterMap
      (fun e => match e with | .write 1 id _ _ _ => some id | _ => none)) = [0, 3] ∧
    (runOps c10Init c10Sched).log.countP (fun e => match e with | .wthrow _ _ => true | _ => false) = 2 ∧
    (runOps c10Init c10Sched).log.countP (fun e => match e with | .notify m => m == "n:wfail" | _ => false) = 2 ∧
    (runOps c10Init c10Sched).log.countP isFthrow = 1 ∧ (runOps c10Init c10Sched).log.countP isFfail = 1 := by decide +kernel

end Backend
