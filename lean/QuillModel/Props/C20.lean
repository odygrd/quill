import QuillModel.Backend.ConsProofsQuiesce
import QuillModel.Props.C07Drain
/-!
# C20 — exited threads' queues are drained, then reclaimed

Quantifiers: every schedule `ops : List Op` of frontend operations, polls (with arbitrary frontend operations
injected at the hook sites) and exits, from every initial state without threads (`CtxFresh`: what the driver's
`mkState` builds), for every configuration `Cfg` — in particular every width `invalidBits` of the invalid-context
counter. The shrink half of the property (unbounded queue) is `Props/C20Shrink.lean`, on C02's model.
-/
namespace Backend
open PC

/-- number of registered contexts whose thread has exited -/
def invalidRegistered (s : BSt) : Nat := (s.registry.filter (fun i => !(s.th i).valid)).length

/-- contexts of the live threads that have logged -/
def liveContexts (s : BSt) : List Nat :=
  (s.actors.filter (fun x => x.alive && x.ctx.isSome)).map (fun x => x.ctx.getD 0)

theorem liveContexts_core (s : BSt) : (core s).liveCtxs = liveContexts s := by
  simp only [Core.liveCtxs, core, liveContexts, List.filter_map, List.map_map]
  rfl

/-- **The invalid-context counter, along every schedule**: it always equals the number of registered contexts
    whose thread has exited, modulo `2 ^ invalidBits` (`_invalid_thread_context_count` is an unsigned integer of
    that width, incremented at thread exit and decremented at removal). -/
theorem C20_counter (s0 : BSt) (h0 : CtxFresh s0) (ops : List Op) :
    (runOps s0 ops).invalidCnt = invalidRegistered (runOps s0 ops) % 2 ^ (runOps s0 ops).cfg.invalidBits := by
  have h := (CInv_runOps s0 h0.inv ops).cnt
  rw [nInvalid_core] at h
  exact h

/-- hence the counter is exact as long as fewer than `2 ^ invalidBits` contexts are registered at once -/
theorem C20_counter_exact (s0 : BSt) (h0 : CtxFresh s0) (ops : List Op)
    (hnw : (runOps s0 ops).registry.length < 2 ^ (runOps s0 ops).cfg.invalidBits) :
    (runOps s0 ops).invalidCnt = invalidRegistered (runOps s0 ops) := by
  have h := CI.cnt_exact (CInv_runOps s0 h0.inv ops) hnw
  rw [nInvalid_core] at h
  exact h

/-- **The early return of `_cleanup_invalidated_thread_contexts` is taken only when there is nothing to reclaim**
    (and always then): in every reachable state with fewer than `2 ^ invalidBits` registered contexts the counter
    is zero iff every registered context belongs to a thread that is still alive. -/
theorem C20_early_return_iff (s0 : BSt) (h0 : CtxFresh s0) (ops : List Op)
    (hnw : (runOps s0 ops).registry.length < 2 ^ (runOps s0 ops).cfg.invalidBits) :
    (runOps s0 ops).invalidCnt = 0 ↔ ∀ i ∈ (runOps s0 ops).registry, ((runOps s0 ops).th i).valid = true := by
  have hI := CInv_runOps s0 h0.inv ops
  have hex := CI.cnt_exact hI hnw
  constructor
  · intro hz i hi
    rw [← valid_core]
    exact nInvalid_zero (by rw [← hex]; exact hz) i hi
  · intro hv
    show (core (runOps s0 ops)).cnt = 0
    rw [hex]
    unfold Core.nInvalid
    rw [List.length_eq_zero_iff, List.filter_eq_nil_iff]
    intro i hi
    rw [valid_core, hv i hi]
    exact Bool.false_ne_true

/-- with a zero counter the clean-up does nothing at all -/
theorem C20_zero_counter_noop (s : BSt) (h : s.invalidCnt = 0) : cleanupContexts s = s := by
  rw [cleanupContexts_eq]
  simp [h]

/-- **No live thread's context is ever reclaimed**: in every reachable state the context of every live thread
    that has logged is registered, valid and owned by that thread alone. -/
theorem C20_live_contexts_registered (s0 : BSt) (h0 : CtxFresh s0) (ops : List Op) :
    ∀ x ∈ (runOps s0 ops).actors, x.alive = true → ∀ i, x.ctx = some i →
      i ∈ (runOps s0 ops).registry ∧ ((runOps s0 ops).th i).valid = true ∧ ((runOps s0 ops).th i).actor = x.id := by
  intro x hx hal i hi
  have hI := CInv_runOps s0 h0.inv ops
  have hm : (⟨x.id, x.alive, x.ctx⟩ : AC) ∈ (core (runOps s0 ops)).actors := by
    simp only [core, List.mem_map]; exact ⟨x, hx, rfl⟩
  obtain ⟨h1, h2⟩ := hI.own _ hm hal i hi
  refine ⟨h2, ?_, ?_⟩
  · rw [← valid_core]; exact valid_of_getElem? h1
  · simp only [core, List.getElem?_map] at h1
    simp only [BSt.th, List.getD_eq_getElem?_getD]
    cases hg : (runOps s0 ops).ths[i]? with
    | none => rw [hg] at h1; cases h1
    | some t =>
      rw [hg] at h1
      simp only [Option.map_some, Option.some.injEq, TC.mk.injEq] at h1
      exact h1.2

/-- stated for a variable state: with `(core s).newFlag` in the hypothesis the unifier evaluates a concrete `s` to
    reach the field -/
theorem CInv_cache_eq_registry {s : BSt} (h : CInv s) (hn : s.newFlag = false) : s.cache = s.registry := h.fresh hn

theorem applyOp_idle_poll (s : BSt) (table : List (Nat × Nat × List FOp)) (hg : s.backendGone = false)
    (hp : (populate (runInj table) { s with siteCnt := [] }).2 = 0)
    (he : (allEmpty (idleState (runInj table) { s with siteCnt := [] })).2 = true) :
    (applyOp s (.poll table)).1 = cleanupLoggers (runInj table) (preEraseFlush (cleanupContexts
      (allEmpty (idleState (runInj table) { s with siteCnt := [] })).1)) := by
  rw [applyOp_poll hg table]
  exact poll_idle_eq (runInj table) _ hp he

/-- the idle poll that finds everything empty, from any state with the context invariant (reachable or not) -/
theorem idle_poll_reclaims {s : BSt} (hs : CInv s) (table : List (Nat × Nat × List FOp)) (h9 : ∀ e ∈ table, e.1 ≠ 9) :
    let sp : BSt := { s with siteCnt := [] }
    let s' := (applyOp s (.poll table)).1
    s.backendGone = false → (populate (runInj table) sp).2 = 0 →
    (allEmpty (idleState (runInj table) sp)).2 = true →
    (idleState (runInj table) sp).registry.length < 2 ^ (idleState (runInj table) sp).cfg.invalidBits →
    ∀ i ∈ s'.registry, (s'.th i).valid = true ∨ Unreported s' i := by
  intro sp s' hg hp he hnw
  have hid := CInv_idleState (runInj_ok CInv_closed table) sp hs
  have hs'eq : s' = _ := applyOp_idle_poll s table hg hp he
  have hval := drained_all_valid _ hid hnw he
  -- `Y`: the state after the context clean-up; what follows it touches neither the registry nor the counters
  generalize cleanupContexts (allEmpty (idleState (runInj table) sp)).1 = Y at hs'eq hval
  have hq := runInj_quiet9 table h9
  obtain ⟨f1, f2, _⟩ := cleanupLoggers_frame (runInj table) hq (preEraseFlush Y)
  obtain ⟨g1, g2⟩ := cleanupLoggers_fail (runInj table) hq (preEraseFlush Y)
  have hsol := preEraseFlush_sol Y
  have hcore := core_of_stripOut (preEraseFlush_strip Y)
  intro i hi
  rw [hs'eq] at hi ⊢
  rw [f1, hsol.registry] at hi
  rcases hval i hi with hv | hu
  · left
    rw [← valid_core] at hv ⊢
    unfold Core.valid at hv ⊢
    rw [f2, hcore]; exact hv
  · right
    unfold Unreported at hu ⊢
    rw [g1, g2, hsol.cfg, hsol.th]; exact hu

/-- **After a drain, what is retained belongs to live threads — or still owes a report.** Take any reachable state
    and any poll (with any operations injected at its hook sites) that reads nothing, takes the idle branch and
    finds every queue and transit buffer empty, at a moment when fewer than `2 ^ invalidBits` contexts are
    registered, with nothing injected into the logger clean-up that ends the poll (hook site 9: a thread starting
    or exiting there would change the picture after the contexts were reclaimed).
    After that poll every registered context belongs to a live thread, or its failure counter has
    not been reported yet (`Unreported`: the repaired clean-up keeps such a context until the next
    `_check_failure_counter`, finding F24) — every other context of an exited thread was reclaimed
    (it was empty: its statements had been delivered before, C03). -/
theorem C20_idle_poll_reclaims (s0 : BSt) (h0 : CtxFresh s0) (ops : List Op)
    (table : List (Nat × Nat × List FOp)) (h9 : ∀ e ∈ table, e.1 ≠ 9) :
    let s := runOps s0 ops
    let sp : BSt := { s with siteCnt := [] }
    let s' := (applyOp s (.poll table)).1
    s.backendGone = false → (populate (runInj table) sp).2 = 0 →
    (allEmpty (idleState (runInj table) sp)).2 = true →
    (idleState (runInj table) sp).registry.length < 2 ^ (idleState (runInj table) sp).cfg.invalidBits →
    ∀ i ∈ s'.registry, (s'.th i).valid = true ∨ Unreported s' i :=
  idle_poll_reclaims (CInv_runOps s0 h0.inv ops) table h9

/-- what is retained after such a poll, from any state with the context invariant: if no registered context is left with
    an unreported failure counter, the registry is a permutation of the contexts of the live threads that have logged -/
theorem idle_poll_retains_live {s : BSt} (hs : CInv s) (table : List (Nat × Nat × List FOp)) (h9 : ∀ e ∈ table, e.1 ≠ 9) :
    let sp : BSt := { s with siteCnt := [] }
    let s' := (applyOp s (.poll table)).1
    s.backendGone = false → (populate (runInj table) sp).2 = 0 →
    (allEmpty (idleState (runInj table) sp)).2 = true →
    (idleState (runInj table) sp).registry.length < 2 ^ (idleState (runInj table) sp).cfg.invalidBits →
    (∀ i ∈ s'.registry, (s'.th i).valid = false → (s'.th i).fail = 0) →
    (∀ i ∈ s'.registry, (s'.th i).valid = true) ∧ s'.registry.Perm (liveContexts s') ∧
    s'.registry.length = (s'.actors.filter (fun x => x.alive && x.ctx.isSome)).length := by
  intro sp s' hg hp he hnw hfail
  have hv' : ∀ i ∈ s'.registry, (s'.th i).valid = true := fun i hi =>
    (idle_poll_reclaims hs table h9 hg hp he hnw i hi).elim id fun hu => by
      cases hvi : (s'.th i).valid
      · exact absurd (hfail i hi hvi) hu.2
      · rfl
  have hperm : (core s').registry.Perm (core s').liveCtxs :=
    CI.registry_perm (PC.applyOp_closed CInv_closed s _ hs) (fun i hi => by rw [valid_core]; exact hv' i hi)
  rw [liveContexts_core] at hperm
  refine ⟨hv', hperm, ?_⟩
  have := hperm.length_eq
  simp only [liveContexts, List.length_map] at this
  exact this

/-- **Retained contexts = live threads that logged.** In the situation of `C20_idle_poll_reclaims`, once no
    registered context is left with an unreported failure counter (in particular with a blocking queue whose
    callers never had to wait, with a queue that never dropped, or after the counters were reported), every
    registered context belongs to a live thread, the registry is a permutation of the contexts of the live threads
    that have logged, and their numbers agree. -/
theorem C20_idle_poll_retains_live (s0 : BSt) (h0 : CtxFresh s0) (ops : List Op)
    (table : List (Nat × Nat × List FOp)) (h9 : ∀ e ∈ table, e.1 ≠ 9) :
    let s := runOps s0 ops
    let sp : BSt := { s with siteCnt := [] }
    let s' := (applyOp s (.poll table)).1
    s.backendGone = false → (populate (runInj table) sp).2 = 0 →
    (allEmpty (idleState (runInj table) sp)).2 = true →
    (idleState (runInj table) sp).registry.length < 2 ^ (idleState (runInj table) sp).cfg.invalidBits →
    (∀ i ∈ s'.registry, (s'.th i).valid = false → (s'.th i).fail = 0) →
    (∀ i ∈ s'.registry, (s'.th i).valid = true) ∧ s'.registry.Perm (liveContexts s') ∧
    s'.registry.length = (s'.actors.filter (fun x => x.alive && x.ctx.isSome)).length :=
  idle_poll_retains_live (CInv_runOps s0 h0.inv ops) table h9

/-- **Once the backend has drained, only live threads' contexts are left.** An idle poll into which nothing is
    injected (no frontend step interleaves with it: the backend is alone, as after the last statement of a quiet
    program) that finds every queue and transit buffer empty reports every failure counter before it reclaims, so
    no context is kept back as "unreported": after it every registered context belongs to a live thread, the
    registry is a permutation of the contexts of the live threads that have logged, and the numbers agree. A context
    kept by an earlier, busier poll (`C20_idle_poll_reclaims`) goes at the latest here. -/
theorem C20_quiet_idle_poll_retains_live (s0 : BSt) (h0 : CtxFresh s0) (ops : List Op) :
    let s := runOps s0 ops
    let sp : BSt := { s with siteCnt := [] }
    let s' := (applyOp s (.poll [])).1
    s.backendGone = false → (populate (runInj []) sp).2 = 0 →
    (allEmpty (idleState (runInj []) sp)).2 = true →
    (idleState (runInj []) sp).registry.length < 2 ^ (idleState (runInj []) sp).cfg.invalidBits →
    (∀ i ∈ s'.registry, (s'.th i).valid = true) ∧ s'.registry.Perm (liveContexts s') ∧
    s'.registry.length = (s'.actors.filter (fun x => x.alive && x.ctx.isSome)).length := by
  have key := C20_idle_poll_retains_live s0 h0 ops [] (fun _ h => nomatch h)
  -- with the `let`s substituted on both sides the hypotheses of `key` are literally ours
  dsimp only at key ⊢
  intro hg hp he hnw
  refine key hg hp he hnw ?_
  -- every registered context has a reported (zero) failure counter
  intro i hi _
  rw [applyOp_poll hg] at hi ⊢
  have hC : CInv { runOps s0 ops with siteCnt := [] } := CInv_closed.toClosedB.siteCnt _ _ (CInv_runOps s0 h0.inv ops)
  exact PA.poll_idle_clears PA.runInj_nil_quiet _ (fun hn j hj => CInv_cache_eq_registry hC hn ▸ hj) hp i hi

/-- **Reclaimed only after delivery**: in every reachable state a context that is no longer registered (it was
    reclaimed) has an empty transit buffer and an empty queue, and every statement ever committed to its queue has
    been popped and processed — nothing is lost with the context (`0 < hdr`: records have a positive size). -/
theorem C20_reclaimed_delivered (s0 : BSt) (h0 : CtxFresh s0) (hh : 0 < s0.cfg.hdr) (ops : List Op) :
    ∀ i, i < (runOps s0 ops).ths.length → i ∉ (runOps s0 ops).registry →
      ((runOps s0 ops).th i).buf = [] ∧ ((runOps s0 ops).th i).qStmts = [] ∧
      ((runOps s0 ops).th i).accepted = ((runOps s0 ops).th i).popped := by
  intro i hi hr
  have hD : DrainFresh s0 := ⟨h0.1, h0.2.1, h0.2.2.1, h0.2.2.2.1, h0.2.2.2.2.1, h0.2.2.2.2.2, hh⟩
  obtain ⟨h1, h2⟩ := (TCInv_runOps s0 hD.inv ops).2.unreg i hi hr
  exact ⟨h1, h2, C07_unregistered_empty s0 hD ops i hi hr⟩

def c20Cfg (bits : Nat) : Cfg :=
  { dropping := false, qcap := 256, grace := 0, soft := 100, hard := 1000, hdr := 32, strOverhead := 4,
    batchPct := 5,
    qp := { wStore := .release, wLoad := .acquire, rStore := .release, rLoad := .acquire, drainPublish := true },
    invalidBits := bits, refreshAfterSample := true, catchAllFormat := true, reportBeforeFlushCleanup := true }

def c20Init (bits : Nat) : BSt :=
  { cfg := c20Cfg bits, now := 1000, sinks := [{ sid := 0 }], lgs := [{ gid := 0, sinks := [0] }], names := [(0, 0)] }

theorem c20Init_fresh (bits : Nat) : CtxFresh (c20Init bits) := ⟨rfl, rfl, rfl, rfl, rfl, rfl⟩

/-- two threads log, are delivered, an idle poll; both exit; two more idle polls -/
def c20Two : List Op :=
  [.front (.tstart 0), .front (.tstart 1), .front (.log 0 0 4 8 false), .front (.log 1 0 4 8 false),
   .poll [], .poll [], .poll [], .front (.texit 0), .front (.texit 1), .poll [], .poll []]

/-- four threads -/
def c20Four : List Op :=
  [.front (.tstart 0), .front (.tstart 1), .front (.tstart 2), .front (.tstart 3),
   .front (.log 0 0 4 8 false), .front (.log 1 0 4 8 false), .front (.log 2 0 4 8 false), .front (.log 3 0 4 8 false),
   .poll [], .poll [], .poll [], .poll [], .poll [],
   .front (.texit 0), .front (.texit 1), .front (.texit 2), .front (.texit 3), .poll [], .poll []]

/-- **A 1-bit counter loses two exits**: two thread exits between two idle polls wrap the counter to 0; both
    contexts stay registered although their threads are gone and everything was delivered, and (the counter being
    0) no later poll reclaims them — the clean-up returns early for ever (`C20_zero_counter_noop`). -/
theorem C20_narrow_counter_1bit :
    (runOps (c20Init 1) c20Two).invalidCnt = 0 ∧ (runOps (c20Init 1) c20Two).registry = [0, 1] ∧
    invalidRegistered (runOps (c20Init 1) c20Two) = 2 ∧ liveContexts (runOps (c20Init 1) c20Two) = [] ∧
    cleanupContexts (runOps (c20Init 1) c20Two) = runOps (c20Init 1) c20Two := by
  have h : (runOps (c20Init 1) c20Two).invalidCnt = 0 ∧ (runOps (c20Init 1) c20Two).registry = [0, 1] ∧
      invalidRegistered (runOps (c20Init 1) c20Two) = 2 ∧ liveContexts (runOps (c20Init 1) c20Two) = [] := by
    decide +kernel
  exact ⟨h.1, h.2.1, h.2.2.1, h.2.2.2, C20_zero_counter_noop _ h.1⟩

/-- **A 2-bit counter loses four exits** — the 8-bit / 256-exit instance of this is finding F13 -/
theorem C20_narrow_counter_2bit :
    (runOps (c20Init 2) c20Four).invalidCnt = 0 ∧ (runOps (c20Init 2) c20Four).registry = [0, 1, 2, 3] ∧
    invalidRegistered (runOps (c20Init 2) c20Four) = 4 ∧ liveContexts (runOps (c20Init 2) c20Four) = [] := by
  decide +kernel

/-- the same schedules with a wide enough counter reclaim everything (non-vacuity of the positive theorems) -/
example : (runOps (c20Init 32) c20Two).registry = [] ∧ (runOps (c20Init 32) c20Four).registry = [] ∧
    (runOps (c20Init 2) c20Two).registry = [] := by
  decide +kernel

/-- non-vacuity of `C20_idle_poll_retains_live`: after the two exits the next poll meets all its hypotheses
    (here one thread is kept alive: one context retained) -/
example :
    let ops : List Op := [.front (.tstart 0), .front (.tstart 1), .front (.log 0 0 4 8 false),
      .front (.log 1 0 4 8 false), .poll [], .poll [], .front (.texit 0)]
    let s := runOps (c20Init 32) ops
    let sp : BSt := { s with siteCnt := [] }
    s.backendGone = false ∧ (populate (runInj []) sp).2 = 0 ∧ (allEmpty (idleState (runInj []) sp)).2 = true ∧
    (idleState (runInj []) sp).registry.length < 2 ^ (idleState (runInj []) sp).cfg.invalidBits ∧
    (applyOp s (.poll [])).1.registry = [1] ∧
    ((applyOp s (.poll [])).1.registry.all (fun i => ((applyOp s (.poll [])).1.th i).fail == 0)) = true := by
  decide +kernel

end Backend
