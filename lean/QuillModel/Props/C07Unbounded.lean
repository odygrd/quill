import QuillModel.Props.C07Drain
/-!
# C07 (drain part) — the exit loop read as the unbounded loop it is, for every clock tick

`Op.exit` runs `exitLoop (runInj []) 1000 100000`: the loop of `_exit()` with an explicit fuel of 100000 iterations and the
clock advancing by 1000 per iteration, and `C07_exit_terminates` / `C07_exit_drains_everything` carry the numeric premise
`pendingTotal s + grace / 1000 + 1 ≤ 100000`. The real loop has no bound. Here the two constants are removed:

* for **every tick > 0** and every reachable state the loop reaches its final branch within the explicit number
  `exitBound tick s = pendingTotal s + grace / tick + 1` of iterations, and **every** two fuels `≥ exitBound` give the same
  final state (`C07_exit_terminates_unbounded`) — so the unbounded loop has a well-defined result, `exitLimit`, and the
  model's constant 100000 is just one of the sufficiently large fuels whenever it is one (`C07_exit_fuel_immaterial`);
* every conclusion of `C07_exit_drains_everything` and of `C07_exit_flushes_last` holds for the limit loop
  `exitOp tick s` with **no numeric premise** (`C07_exit_drains_everything_unbounded`, `C07_exit_flushes_last_unbounded`).

Property theorems only; helpers in `Backend/ExitUnbounded.lean`, `Backend/DrainTerminate.lean`.
-/
namespace Backend
open PC

/-- `Op.exit` with the loop of `_exit()` read as unbounded (its value is that of every sufficiently large fuel,
    `exitLimit`), the clock advancing by `tick` per iteration -/
def exitOp (tick : Nat) (s : BSt) : BSt :=
  { exitLimit (runInj []) tick { s with siteCnt := [] } with backendGone := true }

/-- **The exit loop terminates, for every tick and with an explicit bound; fuel beyond the bound is immaterial.**
    For every schedule `ops` from a fresh state, every `tick > 0`: from `s = runOps s0 ops` the loop reaches its
    "all queues and transit buffers are empty" branch within `exitBound tick s = pendingTotal s + grace / tick + 1`
    iterations, and for **all** `fuel, fuel' ≥ exitBound tick s` the loop ends in the same state
    (`exitLoop … fuel = exitLoop … fuel'`). -/
theorem C07_exit_terminates_unbounded (s0 : BSt) (h0 : DrainFresh s0) (hpl : s0.popLog = []) (ops : List Op)
    (tick : Nat) (ht : 0 < tick) :
    let s := runOps s0 ops
    exitEnds (runInj []) tick (exitBound tick s) { s with siteCnt := [] } ∧
    ∀ fuel fuel', exitBound tick s ≤ fuel → exitBound tick s ≤ fuel' →
      exitLoop (runInj []) tick fuel { s with siteCnt := [] } = exitLoop (runInj []) tick fuel' { s with siteCnt := [] } :=
  have he := exit_ends_reachable s0 h0 hpl ops tick ht _ (Nat.le_refl _)
  ⟨he, fun fuel fuel' h1 h2 => exitLoop_stable _ tick _ fuel fuel' _ he h1 h2⟩

/-- the unbounded loop ends in `exitFinal` of a reachable state in which the emptiness check answered yes -/
theorem C07_exit_limit_form (s0 : BSt) (h0 : DrainFresh s0) (hpl : s0.popLog = []) (ops : List Op)
    (tick : Nat) (ht : 0 < tick) :
    ∃ sK, TCInv sK ∧ (allEmpty sK).2 = true ∧
      exitLimit (runInj []) tick { runOps s0 ops with siteCnt := [] } = exitFinal (runInj []) sK :=
  exitLoop_ends_form (runInj_ok TCInv_closed []) tick _ _ (TCInv_closed.siteCnt _ [] (TCInv_runOps s0 h0.inv ops))
    (exit_ends_reachable s0 h0 hpl ops tick ht _ (Nat.le_refl _))

/-- **The model's constants are immaterial.** Whenever the fuel 100000 of `Op.exit` is at least the bound, the state
    `Op.exit` produces is the value of the unbounded loop (tick 1000). -/
theorem C07_exit_fuel_immaterial (s0 : BSt) (h0 : DrainFresh s0) (hpl : s0.popLog = []) (ops : List Op) :
    let s := runOps s0 ops
    s.backendGone = false → exitBound 1000 s ≤ 100000 → (applyOp s .exit).1 = exitOp 1000 s := by
  intro s hg hb
  obtain ⟨_, hst⟩ := C07_exit_terminates_unbounded s0 h0 hpl ops 1000 (by omega)
  rw [applyOp_exit hg]
  unfold exitOp exitLimit
  rw [hst 100000 (exitBound 1000 { s with siteCnt := [] }) hb (Nat.le_refl _)]

/-- **Stop loses nothing — unbounded loop, every tick, no numeric premise.** For every schedule `ops` from a fresh state
    with the backend still running and every `tick > 0`: in the state the unbounded exit loop stops in, no context — of
    a live thread, of an exited thread, registered or reclaimed — has anything left in its transit buffer or queue,
    every record ever committed to a queue has been popped and processed (`accepted = popped`), and the backend is gone. -/
theorem C07_exit_drains_everything_unbounded (s0 : BSt) (h0 : DrainFresh s0) (hpl : s0.popLog = []) (ops : List Op)
    (tick : Nat) (ht : 0 < tick) :
    let s := runOps s0 ops
    let s' := exitOp tick s
    s.backendGone = false →
    (∀ i, i < s'.ths.length → (s'.th i).buf = [] ∧ (s'.th i).qStmts = [] ∧ (s'.th i).accepted = (s'.th i).popped) ∧
    s'.backendGone = true :=
  fun _ => (exit_result (TCInv_runOps s0 h0.inv ops) tick _ (exit_ends_reachable s0 h0 hpl ops tick ht _ (Nat.le_refl _)) _ rfl).1

/-- **Flushed last — unbounded loop, every tick.** The final state of the unbounded exit loop is `exitFinal` of a state
    `sK` in which the emptiness check answered yes: failure counters reported, every active sink flushed, contexts and
    loggers reclaimed — and after that flush the log gains nothing but sink-destructor events and, when loggers are
    erased, the events of one more flush of every sink (the head of `_cleanup_invalidated_loggers`, F33 repair). -/
theorem C07_exit_flushes_last_unbounded (s0 : BSt) (h0 : DrainFresh s0) (hpl : s0.popLog = []) (ops : List Op)
    (tick : Nat) (ht : 0 < tick) :
    let s := runOps s0 ops
    ∃ sK, (allEmpty sK).2 = true ∧ exitOp tick s = { exitFinal (runInj []) sK with backendGone := true } ∧
      ∃ d, (exitOp tick s).log = d ++ (flushSinks (checkFailures (runInj []) (allEmpty sK).1)).log ∧
        ∀ e ∈ d, (∃ k, e = Ev.sinkDtor k) ∨ (∃ k, e = Ev.flushed k ∨ e = Ev.fthrow k) ∨ e = Ev.notify "n:ffail" :=
  (exit_result (TCInv_runOps s0 h0.inv ops) tick _ (exit_ends_reachable s0 h0 hpl ops tick ht _ (Nat.le_refl _)) _ rfl).2

/-- ordering enabled with a grace period that is not a multiple of the tick used below -/
def c07GraceInit : BSt := { c07Init with cfg := { c07Cfg with grace := 10 } }

theorem c07GraceInit_fresh : DrainFresh c07GraceInit := ⟨rfl, rfl, rfl, rfl, rfl, rfl, by decide⟩

def c07Ops : List Op :=
  [.front (.tstart 0), .front (.tstart 1), .front (.log 0 0 4 8 false), .front (.tick 5),
   .front (.log 1 0 4 8 false), .front (.tick 5), .front (.log 0 0 5 8 true), .front (.texit 1)]

/-- tick 7, grace 10, three pending statements of two threads (one already exited), nothing polled: the bound is
    `3 + 10/7 + 1 = 5`; the loop ends within 5 iterations and not within 2 (the first iterations only advance the clock past
    the grace period of the youngest statement), fuels 5, 6 and 100000 give the same state, and the unbounded exit delivers
    ids 0 1 2 and leaves every context with `accepted = popped` (3 records over the two contexts). -/
example :
    let s := runOps c07GraceInit c07Ops
    s.backendGone = false ∧ exitBound 7 s = 5 ∧
    exitEnds (runInj []) 7 5 { s with siteCnt := [] } ∧ ¬ exitEnds (runInj []) 7 2 { s with siteCnt := [] } ∧
    ((exitOp 7 s).log.filterMap c07Writes).reverse = [0, 1, 2] ∧
    (exitOp 7 s).ths.map (fun t => (t.accepted.length, t.popped.length, t.buf.length, t.qStmts.length)) =
      [(2, 2, 0, 0), (1, 1, 0, 0)] ∧
    ((exitLoop (runInj []) 7 6 { s with siteCnt := [] }).log.filterMap c07Writes).reverse = [0, 1, 2] ∧
    ((applyOp s .exit).1.log.filterMap c07Writes).reverse = [0, 1, 2] := by
  decide +kernel

/-- non-vacuity of `C07_exit_fuel_immaterial`: the hypotheses hold on that run -/
example : (runOps c07GraceInit c07Ops).backendGone = false ∧ exitBound 1000 (runOps c07GraceInit c07Ops) ≤ 100000 ∧
    c07GraceInit.popLog = [] := by
  refine ⟨by decide +kernel, by decide +kernel, rfl⟩

end Backend
