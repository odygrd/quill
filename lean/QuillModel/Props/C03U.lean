import QuillModel.Backend.UExit
import QuillModel.Uspsc.Capacity
/-!
# C03 / C20 / C07 / C09 for the unbounded-queue machine (`Backend/UQueue.lean`, `USched.lean`, `UOps.lean`)

The per-thread queue of the two unbounded builds is a chain of bounded nodes run sequentially consistently; it is the
machine `driver backend trace` executes for the UnboundedBlocking / UnboundedDropping builds of H2.

Proved here **for every operation list** `ops : List UOp` (frontend calls of any number of threads incl.
`shrink_thread_local_queue`, polls carrying arbitrary injected frontend operations at every hook site, the exit drain), every
`Cfg` with a non-empty header, every maximum capacity and both values of the F25 flag, from any state satisfying the
invariant (a fresh one does): C03 conservation `accepted = popped ++ buf ++ qStmts` per context, the byte-exact coherence of
`qStmts` with the chain of buffers, and the soundness of the emptiness test that the clean-up (C20) and the exit drain (C07)
rest on. The proof is the skeleton `Backend/USkel.lean` (`runOpsU_closed`) instantiated with `US.UI`
(`Backend/UGen.lean`, `UInvClosed.lean`). The per-operation theorems further down say what each queue operation does to a
context. C09: a reservation refused at the maximum capacity is granted at the next attempt after the drain.
-/
namespace Backend
open Backend.UQ Spsc

/-- a freshly started system (no context, no actor) satisfies the invariant -/
theorem C03U_fresh_state (s0 : BSt) (hh : 0 < s0.cfg.hdr) (ht : s0.ths = []) (ha : s0.actors = []) : US.UI s0 :=
  US.UI.fresh hh ht ha

/-- **C03 (unbounded queue), conservation, every schedule.** In every state reachable by any operation list, every
    context's accepted statements are exactly: those popped, then those in its transit buffer, then those still in
    its chain of queue buffers — in issue order; nothing is lost or duplicated across growth, shrink requests, buffer
    switches, refusals at the maximum capacity and rejected over-size records. -/
theorem C03U_conservation (u : UP) (s0 : BSt) (h0 : US.UI s0) (ops : List UOp) (i : Nat) :
    ((runOpsU u s0 ops).th i).accepted =
      ((runOpsU u s0 ops).th i).popped ++ ((runOpsU u s0 ops).th i).buf ++ ((runOpsU u s0 ops).th i).qStmts :=
  ((US.runOpsU_closed (US.UI.closed u) ops s0 h0).th i).cons

/-- **The abstract record list is the byte-exact chain, every schedule.** The pending statements are, buffer by buffer
    from the consumer's to the producer's, exactly the unread records of each bounded buffer (positions, published
    writer position and record lengths as in `QCoh` of the bounded bundle). -/
theorem C03U_queue_coherent (u : UP) (s0 : BSt) (h0 : US.UI s0) (ops : List UOp) (i : Nat) :
    CCoh ((runOpsU u s0 ops).th i).q ((runOpsU u s0 ops).th i).more ((runOpsU u s0 ops).th i).qStmts :=
  ((US.runOpsU_closed (US.UI.closed u) ops s0 h0).th i).coh

/-- **C20 / C07 (unbounded): the emptiness test is sound.** When `ctxEmptyU` (= `queue.empty()` — bounded part empty and
    no next buffer — and transit buffer empty, as the context clean-up and the exit drain evaluate it) answers true, the
    context has nothing pending anywhere in its chain: everything it accepted has been popped. -/
theorem C20U_empty_test_sound (s : BSt) (i : Nat) (h : TI (s.th i)) (he : (ctxEmptyU s i).2 = true) :
    (s.th i).buf = [] ∧ (s.th i).qStmts = [] ∧ (s.th i).accepted = (s.th i).popped :=
  US.drained_of_ctxEmptyU h he

/-- **C20 / C07 (unbounded queue): the emptiness test is sound in every reachable state.** -/
theorem C20U_empty_test_sound_run (u : UP) (s0 : BSt) (h0 : US.UI s0) (ops : List UOp) (i : Nat)
    (he : (ctxEmptyU (runOpsU u s0 ops) i).2 = true) :
    ((runOpsU u s0 ops).th i).buf = [] ∧ ((runOpsU u s0 ops).th i).qStmts = [] ∧
    ((runOpsU u s0 ops).th i).accepted = ((runOpsU u s0 ops).th i).popped :=
  C20U_empty_test_sound _ i ((US.runOpsU_closed (US.UI.closed u) ops s0 h0).th i) he

/-- **C03 (unbounded), primitives of the frontend.** A reservation attempt of the U machine (`tryEnqU`: granted in place,
    granted after growth, refused at the maximum, rejected over the maximum) keeps conservation and chain coherence of
    every context. -/
theorem C03U_enqueue_keeps (u : UP) (s : BSt) (h : ∀ i, TI (s.th i)) (ci : Nat) (st : Stmt) (hp : 0 < st.size) :
    ∀ i, TI ((tryEnqU u s ci st).1.th i) := by
  unfold tryEnqU
  dsimp only
  split
  · exact forall_th_setTh s ci _ h (fun ht => TI.enq ht s.cfg u.qmax { st with enqAt := s.now } hp)
  · exact forall_th_setTh s ci _ h (fun ht => ht.prepareWrite s.cfg u.qmax st.size)

theorem tryEnqU_answer (u : UP) (s : BSt) (ci : Nat) (st : Stmt) :
    (tryEnqU u s ci st).2 = (uPrepareWrite s.cfg u.qmax (s.th ci) st.size).2 := by
  unfold tryEnqU
  dsimp only
  split
  · next h => exact h.symm
  · rfl

/-- **C03 (unbounded), `shrink_thread_local_queue`.** -/
theorem C03U_shrink_keeps (s : BSt) (h : ∀ i, TI (s.th i)) (ci want : Nat) :
    ∀ i, TI ((s.setTh ci (fun t => uShrink s.cfg t want)).th i) :=
  forall_th_setTh s ci _ h (fun ht => ht.shrink s.cfg want)

/-- **C03 (unbounded), the read pass.** `_read_unbounded_frontend_queue` (any number of buffer switches, with or
    without the F25 retry) keeps the invariant; when it offers a record, the first pending statement is the record at
    the consumer's read position, and reading it (`readOneU`) moves exactly that statement from the queue to the
    transit buffer, invariant kept. -/
theorem C03U_read_keeps (c : Cfg) (follow : Bool) (t : Th) (h : TI t) :
    TI (uRead c follow (t.more.length + 1) t).1 ∧
    ((uRead c follow (t.more.length + 1) t).2.1 = true → ∀ st rest, t.qStmts = st :: rest →
      TI { uFinishRead c (uRead c follow (t.more.length + 1) t).1 st.size with
             qStmts := rest, buf := (uRead c follow (t.more.length + 1) t).1.buf ++ [st] }) := by
  have r := uRead_spec c follow (t.more.length + 1) t h (by omega)
  refine ⟨r.ti h, fun ho st rest hq => ?_⟩
  rw [ho] at r
  exact h.readOne c r st rest hq

/-- an offered record is never invented: the read offers only when a statement is pending -/
theorem C03U_offer_means_pending (c : Cfg) (follow : Bool) (t : Th) (h : TI t)
    (ho : (uRead c follow (t.more.length + 1) t).2.1 = true) : t.qStmts ≠ [] := by
  have r := uRead_spec c follow (t.more.length + 1) t h (by omega)
  rw [ho] at r
  obtain ⟨a, b, e, hq⟩ := r.coh.head
  have := hq.ne_of_ahead (r.ahead rfl)
  intro hn; rw [hn] at e
  exact this (List.append_eq_nil_iff.mp e.symm).1

theorem C03U_commit_pop_keep (c : Cfg) (t : Th) (h : TI t) :
    TI (uCommitRead c t) ∧ TI (uEmpty c t).1 ∧
    ∀ st rest, t.buf = st :: rest → TI { t with buf := rest, popped := t.popped ++ [st] } :=
  ⟨h.commitRead c, h.emptyTest c, fun st rest hb => h.pop st rest hb⟩

theorem qPrepareWrite_cap (c : Cfg) (q : St) (n : Nat) : (qPrepareWrite c q n).1.cap = q.cap := by
  obtain ⟨_, _, e⟩ := qPrepareWrite_upd c q n
  rw [e]

theorem qPrepareWrite_drained (c : Cfg) (q : St) (n : Nat) (h : q.rHist.headD 0 = q.wpos) (hn : n ≤ q.cap) :
    (qPrepareWrite c q n).2 = true :=
  qPrepareWrite_grant c q n h hn

/-- a read that finds the node empty, followed by `commit_read` under the drain rule, publishes the reader position:
    the producer's next reload sees the whole capacity free -/
theorem C09U_drain_publishes (c : Cfg) (hdp : c.qp.drainPublish = true) (q : St) (h : NI q [])
    (hw : q.wcache = q.rpos) : (qCommitRead c q).rHist.headD 0 = (qCommitRead c q).wpos := by
  have hd : q.wpos = q.rpos := by simpa using h.coh.dist
  simp [qCommitRead, absApi, apiOps, run, step, publishes, hdp, hw, hd]

/-- **C09 (unbounded), a blocked call resumes.** Power-of-two capacities (what `next_power_of_two` in the node's
    constructor produces) and a power-of-two maximum. If a reservation of `n ≤ max` bytes is refused (`nullptr`: the
    call blocks, or drops), the producer's buffer already has the maximum capacity; once the backend has drained the
    chain down to that buffer (`more = []`) and its last `commit_read` published the reader position, the very next
    attempt is granted. -/
theorem C09U_blocked_call_granted_after_drain (c : Cfg) (a b n : Nat) (hab : a ≤ b) (hn : n ≤ 2 ^ b)
    (t : Th) (hcap : t.prod.cap = 2 ^ a) (hnull : (uPrepareWrite c (2 ^ b) t n).2 = .null)
    (t' : Th) (h1 : t'.more = []) (h2 : t'.q.cap = t.prod.cap) (h3 : t'.q.rHist.headD 0 = t'.q.wpos) :
    (uPrepareWrite c (2 ^ b) t' n).2 = .grant := by
  have hmax : a = b := by
    unfold uPrepareWrite at hnull
    dsimp only at hnull
    split at hnull
    · cases hnull
    · split at hnull
      · cases hnull
      · next heq =>
        rw [qPrepareWrite_cap, hcap] at heq
        exact Uspsc.grow_null_pow2 hab hn heq
      · cases hnull
  have hp : t'.prod = t'.q := by simp [Th.prod, h1, lastOf]
  have hg : (qPrepareWrite c t'.prod n).2 = true := by
    rw [hp]; exact qPrepareWrite_drained c t'.q n h3 (by rw [h2, hcap, hmax]; exact hn)
  unfold uPrepareWrite
  dsimp only
  rw [if_pos hg]

def exCfg : Cfg :=
  { dropping := false, qcap := 512, grace := 0, soft := 4, hard := 8, hdr := 32, strOverhead := 4, batchPct := 5,
    qp := { wStore := .release, wLoad := .acquire, rStore := .release, rLoad := .acquire, drainPublish := true },
    invalidBits := 32, refreshAfterSample := true, catchAllFormat := true, reportBeforeFlushCleanup := true }

def exStmt (id size : Nat) : Stmt := { id := id, kind := .log, lg := 0, lvl := 4, ts := 0, size := size, actor := 1 }

/-- non-vacuity (512-byte first buffer, 4 KiB maximum): a fresh context satisfies the invariant; a 700-byte record makes
    the chain grow to 1024, a 5000-byte one throws, a 4000-byte one is granted after growth to 4096 and a second one is
    refused there -/
example : TI (mkTh exCfg 1) := TI.mkTh _ _
example : (uPrepareWrite exCfg 4096 (mkTh exCfg 1) 700).2 = .grant ∧
    (uPrepareWrite exCfg 4096 (mkTh exCfg 1) 700).1.more.map (·.cap) = [1024] ∧
    (uPrepareWrite exCfg 4096 (mkTh exCfg 1) 5000).2 = .throw := by decide +kernel
example : let t1 := uFinishCommit exCfg (uPrepareWrite exCfg 4096 (mkTh exCfg 1) 4000).1 4000
    t1.prod.cap = 2 ^ 12 ∧ (uPrepareWrite exCfg (2 ^ 12) t1 4000).2 = .null := by decide +kernel
example : (uShrink exCfg (uPrepareWrite exCfg 4096 (mkTh exCfg 1) 700).1 256).more.map (·.cap) = [1024, 256] := by decide +kernel

/-- non-vacuity of the run theorems: a fresh 512-byte / 4 KiB system; a thread logs 700 bytes (growth), shrinks, logs
    again, the backend polls: the hypotheses hold and the context has popped what it accepted -/
def exS0 : BSt := { cfg := exCfg, now := 1000, sinks := [{ sid := 0 }], lgs := [{ gid := 0, sinks := [0], level := 0 }], names := [(0, 0)] }
def exOps : List UOp :=
  [.front (.base (.tstart 1)), .front (.base (.log 1 0 4 700 true)), .front (.shrink 1 256),
   .front (.base (.log 1 0 4 20 true)), .poll [], .poll [], .poll []]
example : US.UI exS0 := C03U_fresh_state exS0 (by decide) rfl rfl
example : ((runOpsU { qmax := 4096 } exS0 exOps).th 0).accepted.length = 2 ∧
    ((runOpsU { qmax := 4096 } exS0 exOps).th 0).popped.length = 2 := by decide +kernel

end Backend
