import QuillModel.Backend.LiftRingPop
import QuillModel.Props.C10Replay
/-!
# C10 / C18 — a backtrace statement reaches a sink at most once, over the whole history

`Props/C10Replay.lean` proves what ONE repaired replay does (`C10_replay_once_per_flush`, `C10_replay_clears_ring`). Here
the whole-log form, for **every schedule** `ops : List Op` from every freshly started system that runs the repaired replay
callback (`StartR`: `Fresh` + `replayCatchesPerEvent = true`), every configuration otherwise, every fault schedule of the
sinks: a `LOG_BACKTRACE` statement (`Event::Log`, level 9) accepted by any queue has, in the WHOLE event history, at most as
many `write` events (any level: `bwcount`) at sink `sid` as `sid` occurs in its logger's sink list — whatever number of
`flush_backtrace()` calls, flush-level statements, `init_backtrace` re-sizings, ring wrap-arounds and sink faults the
schedule contains. The level is irrelevant (`C10_log_at_most_once_any_level`; for ordinary statements this strengthens
`C03_at_most_once`, which counts with `wcount` and so ignores level-9 `write` events). The invariant that carries it is
`C10_ring_potential` (helpers: `Backend/LiftRing{Pot,Pop}.lean`) —
`writes + ring occupancy × sink multiplicity ≤ grants of the pops` — a stored statement still owns its grant, a replay
converts occupancy into writes and always clears the ring, `Ring.store` / `setCapacity` only drop.

The bound is FALSE for the pinned callback (`replayCatchesPerEvent = false`): `C10_whole_bound_false_pinned` (`decide`, the
F26 schedule: statement 0 is written twice to a sink listed once).
-/
namespace Backend
open Backend.PA

/-- **the invariant:** in every reachable state, for every sink and statement id: the `write` events of that id at that
    sink (any level) plus what the backtrace rings still hold of it (occurrences in the ring of logger `j` × multiplicity
    of the sink in `j`'s sink list, summed over the loggers) is at most what the popped `Event::Log` statements with that
    id grant (multiplicity of the sink in the statement's logger); and stored statements sit in their own logger's ring -/
theorem C10_ring_potential (s0 : BSt) (h0 : StartR s0) (ops : List Op) (sid id : Nat) :
    bwcount (runOps s0 ops).log sid id + ringPot (runOps s0 ops) sid id ≤ btBound (runOps s0 ops) sid id ∧
    (∀ i r, ((runOps s0 ops).lgOf i).bt = some r → ∀ x ∈ r.items, x.lg = i) :=
  ⟨(h0.run ops).2.bound sid id, (h0.run ops).2.ring⟩

/-- **at most once, every level, whole history:** every `Event::Log` statement accepted by any queue is handed to sink
    `sid` at most as often as `sid` occurs in its logger's sink list — dispatches and backtrace replays together -/
theorem C10_log_at_most_once_any_level (s0 : BSt) (h0 : StartR s0) (ops : List Op) (i : Nat) (st : Stmt)
    (hm : st ∈ ((runOps s0 ops).th i).accepted) (hk : st.kind = .log) (sid : Nat) :
    bwcount (runOps s0 ops).log sid st.id ≤ ((runOps s0 ops).lgOf st.lg).sinks.count sid :=
  InvRg.at_most_once (h0.run ops).1 (h0.run ops).2 i st hm (by rw [hk]; rfl) sid

/-- **a backtrace statement is handed to a sink at most once per occurrence of the sink, over the WHOLE event log and
    every schedule** -/
theorem C10_backtrace_at_most_once_per_flush (s0 : BSt) (h0 : StartR s0) (ops : List Op) (i : Nat) (st : Stmt)
    (hm : st ∈ ((runOps s0 ops).th i).accepted) (hk : st.kind = .log) (_h9 : st.lvl = 9) (sid : Nat) :
    bwcount (runOps s0 ops).log sid st.id ≤ ((runOps s0 ops).lgOf st.lg).sinks.count sid :=
  C10_log_at_most_once_any_level s0 h0 ops i st hm hk sid

/-- **nothing is handed to a sink before the pop** (any level): an `Event::Log` statement still in a queue or a transit
    buffer has no `write` event in the whole history -/
theorem C10_nothing_handed_before_pop (s0 : BSt) (h0 : StartR s0) (ops : List Op) (i : Nat) (st : Stmt)
    (hm : st ∈ ((runOps s0 ops).th i).buf ++ ((runOps s0 ops).th i).qStmts) (hk : st.kind = .log) (sid : Nat) :
    bwcount (runOps s0 ops).log sid st.id = 0 :=
  InvRg.unpopped_unwritten (h0.run ops).1 (h0.run ops).2 i st hm (by rw [hk]; rfl) sid

/-- a sink listed once gets a backtrace statement at most once, and a sink the logger does not have never gets it -/
theorem C10_backtrace_once_or_never (s0 : BSt) (h0 : StartR s0) (ops : List Op) (i : Nat) (st : Stmt)
    (hm : st ∈ ((runOps s0 ops).th i).accepted) (hk : st.kind = .log) (h9 : st.lvl = 9) (sid : Nat) :
    (((runOps s0 ops).lgOf st.lg).sinks.count sid = 1 → bwcount (runOps s0 ops).log sid st.id ≤ 1) ∧
    (sid ∉ ((runOps s0 ops).lgOf st.lg).sinks → bwcount (runOps s0 ops).log sid st.id = 0) := by
  have h := C10_backtrace_at_most_once_per_flush s0 h0 ops i st hm hk h9 sid
  refine ⟨fun h1 => by omega, fun hn => ?_⟩
  rw [List.count_eq_zero_of_not_mem hn] at h
  omega

theorem c10ReplayInit_start : StartR (c10ReplayInit true) :=
  ⟨Fresh.of_no_rings (by decide) rfl rfl rfl rfl (by decide), rfl⟩

/-- the F26 schedule under the repaired callback: three backtrace statements (ids 0, 1, 2) are accepted by context 0,
    the sink is listed once, throws on its 2nd `write_log`, two `flush_backtrace()` — statement 0 and 2 were handed to
    the sink exactly once, statement 1 (the fault) never, and the rings are empty again -/
example : (((runOps (c10ReplayInit true) c10ReplaySched).th 0).accepted.filter
      (fun st => st.kind == .log && st.lvl == 9)).map (·.id) = [0, 1, 2] ∧
    (∃ st ∈ ((runOps (c10ReplayInit true) c10ReplaySched).th 0).accepted, st.kind = .log ∧ st.lvl = 9 ∧ st.id = 0 ∧ st.lg = 0) ∧
    ((runOps (c10ReplayInit true) c10ReplaySched).lgOf 0).sinks.count 1 = 1 ∧
    bwcount (runOps (c10ReplayInit true) c10ReplaySched).log 1 0 = 1 ∧
    bwcount (runOps (c10ReplayInit true) c10ReplaySched).log 1 1 = 0 ∧
    bwcount (runOps (c10ReplayInit true) c10ReplaySched).log 1 2 = 1 ∧
    ringPot (runOps (c10ReplayInit true) c10ReplaySched) 1 0 = 0 ∧
    btBound (runOps (c10ReplayInit true) c10ReplaySched) 1 0 = 1 := by decide +kernel

/-- in the middle of the same schedule (before the flushes are processed) the statements sit in the ring and own their
    grants: no write yet, potential 1 = bound 1 -/
example : bwcount (runOps (c10ReplayInit true) (c10ReplaySched.take 11)).log 1 0 = 0 ∧
    ringPot (runOps (c10ReplayInit true) (c10ReplaySched.take 11)) 1 0 = 1 ∧
    btBound (runOps (c10ReplayInit true) (c10ReplaySched.take 11)) 1 0 = 1 := by decide +kernel

/-- **the premise `replayCatchesPerEvent = true` is necessary:** with the pinned callback the same schedule, from a
    start state that is `Fresh`, violates the bound — statement 0 (accepted, level 9, logger 0 whose sink list contains
    sink 1 once) has two `write` events at sink 1 -/
theorem C10_whole_bound_false_pinned :
    Fresh (c10ReplayInit false) ∧
    (∃ st ∈ ((runOps (c10ReplayInit false) c10ReplaySched).th 0).accepted,
      st.kind = .log ∧ st.lvl = 9 ∧
      ¬ bwcount (runOps (c10ReplayInit false) c10ReplaySched).log 1 st.id ≤
        ((runOps (c10ReplayInit false) c10ReplaySched).lgOf st.lg).sinks.count 1) :=
  ⟨Fresh.of_no_rings (by decide) rfl rfl rfl rfl (by decide), by decide +kernel⟩

end Backend
