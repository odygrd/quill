import QuillModel.Backend.UFail
import QuillModel.Props.C03U
/-!
# C08 and the unbounded queue types: not applicable, stated as a theorem of the model

C08 speaks of *bounded dropping* queues. For a context with an unbounded queue type the backend's
`_check_failure_counter` does nothing (`if (thread_context->has_bounded_queue_type())`), and the context clean-up does not
look at the counter: a refusal at `unbounded_queue_max_capacity` (a drop on UnboundedDropping, a blocking episode on
UnboundedBlocking) bumps the counter, and nothing ever reads, resets or reports it. The U machine mirrors this (no
`checkFailures` in `pollU` / `processLowestU` / `exitLoopU`; compared line by line with both unbounded H2 builds: no
`n:dropped` / `n:blocked` line ever appears there). As an invariant of every operation list:
-/
namespace Backend

theorem C08U_fresh_state (s0 : BSt) (hh : 0 < s0.cfg.hdr) (ht : s0.ths = []) (ha : s0.actors = []) :
    US.GI US.Ctr s0.cfg s0 :=
  US.GI.fresh (T := US.Ctr) (fun _ => rfl) hh ht ha

/-- **The failure counter of an unbounded context is never reset (hence never reported).** In every state reachable by
    any operation list, the counter of every context equals the number of ordinary log calls of that thread ever
    refused at the maximum capacity — dropped (`discarded`) or made to wait (`blockedCalls`). -/
theorem C08U_counter_never_reset (u : UP) (s0 : BSt) (h0 : US.GI US.Ctr s0.cfg s0) (ops : List UOp) (i : Nat) :
    ((runOpsU u s0 ops).th i).fail = ((runOpsU u s0 ops).th i).discarded + ((runOpsU u s0 ops).th i).blockedCalls :=
  (US.runOpsU_closed (US.ctr_closedU u s0.cfg) ops s0 h0).t i

/-- non-vacuity: the C09 example run — one call refused at the maximum: counter 1, one blocking episode, after a poll -/
example : US.GI US.Ctr exS0.cfg exS0 := C08U_fresh_state exS0 (by decide) rfl rfl
example :
    let s := runOpsU { qmax := 2 ^ 12 } exS0
      [.front (.base (.tstart 1)), .front (.base (.log 1 0 4 3900 true)), .front (.base (.log 1 0 4 3900 true)), .poll [], .poll []]
    (s.th 0).fail = 1 ∧ (s.th 0).blockedCalls = 1 ∧ s.reported = 0 := by decide +kernel

end Backend
