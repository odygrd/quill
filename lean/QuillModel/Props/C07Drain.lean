import QuillModel.Backend.ExitUnbounded
/-!
# C07 (drain part) — stopping the backend loses no completed statement

Property theorems. The bounded and the unbounded form of the exit loop (`Props/C07Unbounded.lean`) rest on two statements:
what the loop ends in from any state with the invariant, for any tick and fuel (`exit_result`, `Backend/DrainProofs.lean`),
and that it ends from every reachable state within `exitBound` iterations (`exit_ends_reachable`). Other helpers:
`Backend/ThreadProofs.lean`. The restart and signal parts of C07 are in `Props/C07.lean`. Quantifiers: every schedule `ops`
leading to the stop, from every initial state without threads, every configuration; the exit itself is `Op.exit` = `_exit()` with
`wait_for_queues_to_empty_before_exit` (no frontend operation runs during it: the frontend is stopped).
-/
namespace Backend
open PC

/-- **Conservation, along every schedule**: for every thread context that ever existed, the statements committed
    to its queue are exactly those already popped (processed), followed by those in its transit buffer, followed
    by those still in the queue — none lost, duplicated or reordered on the way. -/
theorem C07_conservation (s0 : BSt) (h0 : DrainFresh s0) (ops : List Op) :
    ∀ i, i < (runOps s0 ops).ths.length →
      ((runOps s0 ops).th i).accepted =
        ((runOps s0 ops).th i).popped ++ ((runOps s0 ops).th i).buf ++ ((runOps s0 ops).th i).qStmts :=
  fun i hi => ((TCInv_runOps s0 h0.inv ops).2.ths i hi).cons

/-- **A context dropped from the registry holds nothing**: whatever was committed through it has been popped. -/
theorem C07_unregistered_empty (s0 : BSt) (h0 : DrainFresh s0) (ops : List Op) :
    ∀ i, i < (runOps s0 ops).ths.length → i ∉ (runOps s0 ops).registry →
      ((runOps s0 ops).th i).accepted = ((runOps s0 ops).th i).popped := by
  intro i hi hr
  have h := TCInv_runOps s0 h0.inv ops
  have hc := (h.2.ths i hi).cons
  obtain ⟨h1, h2⟩ := h.2.unreg i hi hr
  rw [hc, h1, h2]; simp

/-- **the exit loop ends, in general**: from every reachable state, for every tick `> 0`, within `exitBound` iterations
    and hence with every fuel that large (the ordering invariant of bundle B bounds the pending timestamps by the clock;
    every iteration advances the clock by the tick and, once past the grace period, pops at least one event) -/
theorem exit_ends_reachable (s0 : BSt) (h0 : DrainFresh s0) (hpl : s0.popLog = []) (ops : List Op) (tick : Nat)
    (ht : 0 < tick) (fuel : Nat) (hf : exitBound tick (runOps s0 ops) ≤ fuel) :
    exitEnds (runInj []) tick fuel { runOps s0 ops with siteCnt := [] } := by
  obtain ⟨fl, hI⟩ := (PB.start_GI (h0.start hpl)).runOps ops
  exact exitEnds_mono _ tick _ fuel _ hf (exit_terminates_tick PB.quiet_runInj_nil tick ht ⟨fl, hI.frame rfl⟩)

/-- **The drain.** From any reachable state, if the exit loop reaches its "all queues and transit buffers are
    empty" branch (`exitEnds`; it does so once every pending timestamp is eligible, see
    `C07_exit_terminates_partial`), then in the state the backend stops in
    * no context — of a live thread, of a thread that already exited, registered or already reclaimed — has
      anything left in its transit buffer or queue, so every statement ever committed to a queue
      (`accepted`: every log call that completed) has been popped and processed: `accepted = popped`;
    * the backend is gone (`backendGone`). -/
theorem C07_exit_drains (s0 : BSt) (h0 : DrainFresh s0) (ops : List Op) :
    let s := runOps s0 ops
    let s' := (applyOp s .exit).1
    s.backendGone = false → exitEnds (runInj []) 1000 100000 { s with siteCnt := [] } →
    (∀ i, i < s'.ths.length → (s'.th i).buf = [] ∧ (s'.th i).qStmts = [] ∧ (s'.th i).accepted = (s'.th i).popped) ∧
    s'.backendGone = true :=
  fun hg he => (exit_result (TCInv_runOps s0 h0.inv ops) 1000 100000 he _ (applyOp_exit hg)).1

/-- **Flushed last.** In the same situation the final state is `exitFinal` of a state `sK` in which the emptiness
    check answered yes: the failure counters are reported, then every active sink is flushed
    (`flushSinks`), then contexts and loggers are reclaimed — and after that flush the log gains nothing but sink
    destructor events and, when loggers are erased, the events of one more flush of every sink (the head of
    `_cleanup_invalidated_loggers`, F33 repair): no statement is written after the last flush. -/
theorem C07_exit_flushes_last (s0 : BSt) (h0 : DrainFresh s0) (ops : List Op) :
    let s := runOps s0 ops
    s.backendGone = false → exitEnds (runInj []) 1000 100000 { s with siteCnt := [] } →
    ∃ sK, (allEmpty sK).2 = true ∧
      (applyOp s .exit).1 = { exitFinal (runInj []) sK with backendGone := true } ∧
      ∃ d, (applyOp s .exit).1.log = d ++ (flushSinks (checkFailures (runInj []) (allEmpty sK).1)).log ∧
        ∀ e ∈ d, (∃ k, e = Ev.sinkDtor k) ∨ (∃ k, e = Ev.flushed k ∨ e = Ev.fthrow k) ∨ e = Ev.notify "n:ffail" :=
  fun hg he => (exit_result (TCInv_runOps s0 h0.inv ops) 1000 100000 he _ (applyOp_exit hg)).2

/-- **The drain never adds work.** With the frontend stopped, no iteration of the exit loop — reading the queues,
    the batch loop, reports, clean-ups — increases the number of statements waiting in queues and transit buffers,
    and neither does the whole loop. -/
theorem C07_exit_never_adds (tick : Nat) (s : BSt) :
    pendingTotal (exitBody (runInj []) tick s) ≤ pendingTotal s ∧
    ∀ fuel, pendingTotal (exitLoop (runInj []) tick fuel s) ≤ pendingTotal s :=
  ⟨exitBody_pending_le tick s, fun fuel => exitLoop_pending_le tick fuel s⟩

/-- **Every processed event is progress**: whenever `_process_lowest_timestamp_transit_event` processes an event
    (returns true) exactly one statement leaves the waiting ones — also when it is a Flush request with its
    report and context clean-up. -/
theorem C07_pop_progress (s : BSt) (h : (processLowest (runInj []) s).2 = true) :
    pendingTotal (processLowest (runInj []) s).1 + 1 = pendingTotal s :=
  processLowest_pending PB.quiet_runInj_nil s h

/-- **Termination, conditionally**, for every injection runner: if every iteration that does not find everything empty
    takes at least one statement out of the waiting ones, the exit loop reaches its "everything is empty" branch within
    `pendingTotal s + 1` iterations — and then `C07_exit_drains` applies. `C07_exit_terminates` discharges the premise
    for the runner of `Op.exit`. -/
theorem C07_exit_terminates_partial (inj : BSt → Nat → BSt) (tick fuel : Nat) (s : BSt)
    (hprog : ∀ n, (allEmpty (exitIter inj tick n s)).2 = false →
      pendingTotal (exitBody inj tick (exitIter inj tick n s)) < pendingTotal (exitIter inj tick n s))
    (hf : pendingTotal s < fuel) : exitEnds inj tick fuel s :=
  exit_terminates_of_progress inj tick fuel s hprog hf

/-- **The exit loop terminates** (the per-iteration progress fact comes from bundle B and rests on the queue coupling
    `PB.QC`). From every reachable state — whatever is queued, buffered or parked, whatever the
    configuration — the drain `Op.exit` runs (`exitLoop (runInj []) 1000 100000`: clock tick 1000 per iteration,
    fuel 100000 iterations) reaches its "all queues and transit buffers are empty" branch, provided the fuel of the
    model suffices: `pendingTotal s + grace / 1000 + 1 ≤ 100000`. Every iteration advances the clock by the tick, so
    after `grace / 1000 + 1` iterations every pending timestamp is past the grace period, and from then on every
    iteration pops at least one event (`PB.populate_quiet`, `PB.batchLoop_quiet_lt`) while nothing is ever added
    (`C07_exit_never_adds`); with nothing pending the emptiness check answers yes (`PB.QC.empty_true`).
    Beyond the fuel the model's loop simply stops (a model artefact: the real `_exit` loop is unbounded and, by the
    same argument, terminates after `pending + grace/tick + 1` iterations for any number of pending statements). -/
theorem C07_exit_terminates (s0 : BSt) (h0 : DrainFresh s0) (hpl : s0.popLog = []) (ops : List Op) :
    let s := runOps s0 ops
    pendingTotal s + s.cfg.grace / 1000 + 1 ≤ 100000 →
    exitEnds (runInj []) 1000 100000 { s with siteCnt := [] } :=
  fun hfuel => exit_ends_reachable s0 h0 hpl ops 1000 (by omega) 100000 hfuel

/-- **Stop loses nothing, unconditionally on the schedule**: under the numeric premise on the model's fuel the
    conclusions of `C07_exit_drains` hold for every reachable state. -/
theorem C07_exit_drains_everything (s0 : BSt) (h0 : DrainFresh s0) (hpl : s0.popLog = []) (ops : List Op) :
    let s := runOps s0 ops
    let s' := (applyOp s .exit).1
    s.backendGone = false → pendingTotal s + s.cfg.grace / 1000 + 1 ≤ 100000 →
    (∀ i, i < s'.ths.length → (s'.th i).buf = [] ∧ (s'.th i).qStmts = [] ∧ (s'.th i).accepted = (s'.th i).popped) ∧
    s'.backendGone = true :=
  fun hg hf => C07_exit_drains s0 h0 ops hg (C07_exit_terminates s0 h0 hpl ops hf)

def c07Cfg : Cfg :=
  { dropping := false, qcap := 256, grace := 0, soft := 100, hard := 1000, hdr := 32, strOverhead := 4,
    batchPct := 5,
    qp := { wStore := .release, wLoad := .acquire, rStore := .release, rLoad := .acquire, drainPublish := true },
    invalidBits := 32, refreshAfterSample := true, catchAllFormat := true, reportBeforeFlushCleanup := true }

def c07Init : BSt :=
  { cfg := c07Cfg, now := 1000, sinks := [{ sid := 0 }], lgs := [{ gid := 0, sinks := [0] }], names := [(0, 0)] }

theorem c07Init_fresh : DrainFresh c07Init := ⟨rfl, rfl, rfl, rfl, rfl, rfl, by decide⟩

def c07Writes : Ev → Option Nat
  | .write _ id _ _ _ => some id
  | _ => none

/-- two threads log three statements, one thread exits, nothing is polled: the exit alone delivers everything
    (ids 0 1 2, then the flush), the hypotheses of `C07_exit_drains` hold -/
example :
    let ops : List Op := [.front (.tstart 0), .front (.tstart 1), .front (.log 0 0 4 8 false), .front (.tick 5),
      .front (.log 1 0 4 8 false), .front (.tick 5), .front (.log 0 0 5 8 true), .front (.texit 1)]
    let s := runOps c07Init ops
    s.backendGone = false ∧ exitEnds (runInj []) 1000 100000 { s with siteCnt := [] } ∧
    ((applyOp s .exit).1.log.filterMap c07Writes).reverse = [0, 1, 2] := by
  refine ⟨by decide +kernel, by decide +kernel, by decide +kernel⟩

end Backend
