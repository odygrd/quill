import QuillModel.Backend.LiftOnceFinal
import QuillModel.Props.C03Whole
/-!
# C03 (lift) — the decision readable in the FINAL state

`C03_whole_run_count` / `C03_exactly_once_after_drain` give, for every popped ordinary statement, the count decided in the
state `s` of its pop — a state the final state no longer records, because `setSinkLevel` may run after the pop. Under the
premise that the schedule changes no sink level (`noSinkLevelOps`, decidable) and no `write_log` fault is scheduled, the
count is the acceptance decision read in the FINAL state, with no existential left (`C03_final_acceptance`).

Premise `st.lg < s0.lgs.length` (the statement's logger exists in the start state): `Inv` does not bound the logger index
of a buffered statement, and a logger created later at a so far unused index would change `(F.lgOf st.lg).sinks`.
-/
namespace Backend
open Backend.PA Backend.PB

/-- the schedule contains no `setSinkLevel`: not at top level, not in the injection table of any poll -/
def noSinkLevelOps (ops : List Op) : Bool := opsAllowed notSinkLevel ops

/-- `lvAllowed true f` is `!true || notSinkLevel f`, which reduces to `notSinkLevel f` -/
theorem noSinkLevelOps_allowed {ops : List Op} (h : noSinkLevelOps ops = true) : opsAllowed (lvAllowed true) ops = true := h

theorem noSinkLevelOps_append (a b : List Op) : noSinkLevelOps (a ++ b) = (noSinkLevelOps a && noSinkLevelOps b) :=
  opsAllowed_append _ a b

/-- **Level stability.** A schedule without `setSinkLevel` leaves every sink's level as it was — from any state. -/
theorem C03_runOps_sink_lvl (s : BSt) (ops : List Op) (hno : noSinkLevelOps ops = true) (sid : Nat) :
    ((runOps s ops).sinkOf sid).lvl = (s.sinkOf sid).lvl :=
  (runOps_closedOn (CfgLe.closedOn true s) ops (noSinkLevelOps_allowed hno) s (CfgLe.refl true s)).lvl rfl sid

/-- the `write_log` fault schedules never change: no scheduled fault at the start, none later -/
theorem C03_noWriteFault_run (s : BSt) (hf : NoWriteFault s) (ops : List Op) : NoWriteFault (runOps s ops) := fun sid =>
  ((Stable.run s ops).sinks sid).2.2.2.1.trans (hf sid)

/-- **Whole-run equality, with a witness tied to the final state** — every schedule. The pop-time state `s` of
    `C03_whole_run_count` has, sink by sink, the id, filter and `write_log` fault schedule of the final state, and the
    loggers of the start state have in `s` the sink lists they have in the final state. (Sink levels are not compared:
    `setSinkLevel` may have run since.) -/
theorem C03_whole_run_count_cfg (s0 : BSt) (h0 : Inv s0) (hp0 : ∀ i, (s0.th i).popped = []) (ops : List Op) (i : Nat)
    (st : Stmt) (hm : st ∈ ((runOps s0 ops).th i).popped) (hord : isOrd st = true) :
    ∃ s, Inv s ∧ (s.th i).buf.head? = some st ∧
      (∀ sid, ((runOps s0 ops).sinkOf sid).sid = (s.sinkOf sid).sid ∧ ((runOps s0 ops).sinkOf sid).filtM = (s.sinkOf sid).filtM ∧
        ((runOps s0 ops).sinkOf sid).filtR = (s.sinkOf sid).filtR ∧ ((runOps s0 ops).sinkOf sid).wthrow = (s.sinkOf sid).wthrow) ∧
      (∀ j, j < s0.lgs.length → ((runOps s0 ops).lgOf j).sinks = (s.lgOf j).sinks) ∧
      ∀ sid, wcount (runOps s0 ops).log sid st.id = dispatchCount s st sid := by
  obtain ⟨s, h1, hn, h2, hc, h3⟩ :=
    ((WInvS.of_start (lv := false) h0 hp0).run ops).dec i st hm hord trivial
  exact ⟨s, h1, h2, hc.sinks, fun j hj => hc.lgs j (Nat.lt_of_lt_of_le hj hn), h3⟩

/-- **The decision readable in the final state.** From every initial state satisfying `Inv` in which nothing has been
    popped and no sink is scheduled to throw on `write_log`, after every schedule without `setSinkLevel`, with
    `F := runOps s0 ops`: for every ordinary statement `st` popped in the run whose logger exists in `s0`, and every sink
    `sid`, the number of ordinary writes of `st.id` at `sid` in the whole history is the number of times `sid` occurs among
    the sinks of `st`'s logger that accept `st` — sink level and filter as they are in `F`. -/
theorem C03_final_acceptance (s0 : BSt) (h0 : Inv s0) (hp0 : ∀ i, (s0.th i).popped = []) (ops : List Op)
    (hno : noSinkLevelOps ops = true) (hf : NoWriteFault s0) (i : Nat) (st : Stmt)
    (hm : st ∈ ((runOps s0 ops).th i).popped) (hord : isOrd st = true) (hlg : st.lg < s0.lgs.length) (sid : Nat) :
    wcount (runOps s0 ops).log sid st.id =
      (((runOps s0 ops).lgOf st.lg).sinks.filter (acc (runOps s0 ops) st)).count sid :=
  ((WInvS.of_start (lv := true) h0 hp0).runL ops (noSinkLevelOps_allowed hno)).final
    (C03_noWriteFault_run s0 hf ops) i st hm hord trivial hlg sid

/-- **Suffix form.** Only the part `post` of the schedule after a point at which `st` was not yet popped has to be free of
    `setSinkLevel`; the logger has to exist at that point. -/
theorem C03_final_acceptance_suffix (s0 : BSt) (h0 : Inv s0) (pre post : List Op)
    (hno : noSinkLevelOps post = true) (hf : NoWriteFault s0) (i : Nat) (st : Stmt)
    (hnp : st ∉ ((runOps s0 pre).th i).popped)
    (hm : st ∈ ((runOps s0 (pre ++ post)).th i).popped) (hord : isOrd st = true)
    (hlg : st.lg < (runOps s0 pre).lgs.length) (sid : Nat) :
    wcount (runOps s0 (pre ++ post)).log sid st.id =
      (((runOps s0 (pre ++ post)).lgOf st.lg).sinks.filter (acc (runOps s0 (pre ++ post)) st)).count sid := by
  rw [runOps_append] at hm ⊢
  exact ((WInvS.of_mid (lv := true) (h0.run pre)).runL post (noSinkLevelOps_allowed hno)).final
    (C03_noWriteFault_run _ (C03_noWriteFault_run s0 hf pre) post) i st hm hord hnp hlg sid

/-- an ordinary statement still in the transit buffer or in the queue has not been popped -/
theorem C03_unpopped_not_popped {s : BSt} (h : Inv s) (i : Nat) (st : Stmt) (hord : isOrd st = true)
    (hu : st ∈ (s.th i).buf ++ (s.th i).qStmts) : st ∉ (s.th i).popped :=
  fun hp => h.popped_ne_unpopped hp hord hu hord rfl

/-- **Exactly once after a drain, decided in the final state.** Under the premises of `C03_exactly_once_after_drain`,
    a schedule (drain included) without `setSinkLevel` and no scheduled `write_log` fault: every ordinary statement any
    context ever ACCEPTED (logger present at the start) has, at every sink, exactly one write per occurrence of the sink
    among the sinks of its logger that accept it in the FINAL state `F`, and none at any other sink. -/
theorem C03_exactly_once_final_decision (s0 : BSt) (h0 : StartF s0) (hi0 : Inv s0) (ops : List Op)
    (hrun : (runOps s0 ops).backendGone = false) (dt : Nat) (hdt : (runOps s0 ops).cfg.grace ≤ dt)
    (suffix : List Op) (hq : ∀ o ∈ suffix, quietOp o = true)
    (hn : pendingCount (runOps s0 ops) ≤ pollCount suffix)
    (hno : noSinkLevelOps (ops ++ .front (.tick dt) :: suffix) = true) (hf : NoWriteFault s0) (i : Nat) (st : Stmt)
    (hm : st ∈ ((runOps (runOps s0 ops) (.front (.tick dt) :: suffix)).th i).accepted) (hord : isOrd st = true)
    (hlg : st.lg < s0.lgs.length) (sid : Nat) :
    wcount (runOps (runOps s0 ops) (.front (.tick dt) :: suffix)).log sid st.id =
      (((runOps (runOps s0 ops) (.front (.tick dt) :: suffix)).lgOf st.lg).sinks.filter
        (acc (runOps (runOps s0 ops) (.front (.tick dt) :: suffix)) st)).count sid := by
  have hd := (C03_delivered_after_quiet_drain s0 h0 ops hrun dt hdt suffix hq hn i).1
  rw [hd] at hm
  rw [← runOps_append] at hm ⊢
  exact C03_final_acceptance s0 hi0 h0.popped_nil _ hno hf i st hm hord hlg sid

theorem c03TightInit_noWriteFault : NoWriteFault c03TightInit := by
  intro sid
  simp only [BSt.sinkOf, c03TightInit, c03Init, List.find?]
  split
  · rfl
  · split <;> rfl

/-- the premises of `C03_exactly_once_final_decision` hold on `c03TightInit` / `c03TightPre` with three quiet polls (the
    drain premises are checked in `C03Delivery.lean`): no `setSinkLevel` in the schedule, no scheduled fault, the logger
    exists at the start; and the conclusion is what the model computes for statement 0 — one write at each of the two
    sinks, which both accept it in the final state -/
example : Inv c03TightInit ∧ NoWriteFault c03TightInit ∧
    noSinkLevelOps (c03TightPre ++ [.front (.tick 0), .poll [], .poll [], .poll []]) = true ∧
    ((runOps (runOps c03TightInit c03TightPre) [.front (.tick 0), .poll [], .poll [], .poll []]).th 0).accepted.head?.map
      (fun st => (st.id, isOrd st, decide (st.lg < c03TightInit.lgs.length),
        let F := runOps (runOps c03TightInit c03TightPre) [.front (.tick 0), .poll [], .poll [], .poll []]
        [1, 2, 3].map (fun sid => (wcount F.log sid st.id, ((F.lgOf st.lg).sinks.filter (acc F st)).count sid)))) =
      some (0, true, true, [(1, 1), (1, 1), (0, 0)]) :=
  ⟨c03TightInit_fresh.inv, c03TightInit_noWriteFault, by decide, by decide +kernel⟩

/-- statement 0 (level 4) is logged and popped, then `setSinkLevel 1 5` runs -/
def c03FinalLate : List Op := [.front (.tstart 0), .front (.log 0 0 4 10 true), .poll [], .front (.setSinkLevel 1 5)]

/-- the premise `noSinkLevelOps` is needed: `setSinkLevel 1 5` AFTER the pop of statement 0 (level 4) — the whole history
    holds its one write at sink 1 (the pop-time decision), the final state's sink 1 rejects it. The schedule violates
    `noSinkLevelOps`; all the other premises of `C03_final_acceptance` hold. Level stability itself is also refuted. -/
example :
    noSinkLevelOps c03FinalLate = false ∧ noSinkLevelOps (c03FinalLate.take 3) = true ∧
    ((runOps c03TightInit c03FinalLate).th 0).popped.head?.map (fun st =>
      (st.id, isOrd st, decide (st.lg < c03TightInit.lgs.length),
      [1, 2].map (fun sid => (wcount (runOps c03TightInit c03FinalLate).log sid st.id,
        (((runOps c03TightInit c03FinalLate).lgOf st.lg).sinks.filter
          (acc (runOps c03TightInit c03FinalLate) st)).count sid)))) =
      some (0, true, true, [(1, 0), (1, 1)]) ∧
    ((runOps c03TightInit c03FinalLate).sinkOf 1).lvl = 5 ∧ (c03TightInit.sinkOf 1).lvl = 0 := by decide +kernel

/-- a `setSinkLevel` hidden in the injection table of a poll is seen by the premise -/
example : noSinkLevelOps [.poll [(4, 1, [.query, .setSinkLevel 1 5])]] = false ∧
    noSinkLevelOps [.poll [(4, 1, [.query, .setLevel 0 5])], .exit] = true := by decide

/-- the level change comes first, while statement 0 is still in the queue -/
def c03FinalEarlyPre : List Op := [.front (.tstart 0), .front (.log 0 0 4 10 true), .front (.setSinkLevel 1 5)]

/-- the suffix form: the level change happens BEFORE the point `pre` at which statement 0 is still in the queue (nothing
    popped); `post = [poll]` has no level change; the final-state decision (sink 1 at level 5 rejects, sink 2 accepts) is
    the count -/
example :
    noSinkLevelOps [.poll []] = true ∧ noSinkLevelOps (c03FinalEarlyPre ++ [.poll []]) = false ∧
    ((runOps c03TightInit c03FinalEarlyPre).th 0).popped.length = 0 ∧
    ((runOps c03TightInit (c03FinalEarlyPre ++ [.poll []])).th 0).popped.head?.map (fun st =>
      (st.id, isOrd st, decide (st.lg < (runOps c03TightInit c03FinalEarlyPre).lgs.length),
      [1, 2].map (fun sid => (wcount (runOps c03TightInit (c03FinalEarlyPre ++ [.poll []])).log sid st.id,
        (((runOps c03TightInit (c03FinalEarlyPre ++ [.poll []])).lgOf st.lg).sinks.filter
          (acc (runOps c03TightInit (c03FinalEarlyPre ++ [.poll []])) st)).count sid)))) =
      some (0, true, true, [(0, 0), (1, 1)]) := by
  decide +kernel

end Backend
