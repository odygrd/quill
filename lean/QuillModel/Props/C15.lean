import QuillModel.Props.C14
/-!
# C15 — time rotation separates statements at the configured points

Quantifiers: every start instant, every valid configuration
(`CfgOK`: interval > 0, HH ≤ 23, MM ≤ 59 — what the setters enforce), every earlier content of the directory, every
sequence of records (any sizes; any timestamps — the grid theorem does not even need them non-decreasing), any zone
function for the state theorems and a constant offset for the characterisation of the first point.
The schedule of a run is `g0, g0 + p, g0 + 2p, …` with `g0 = initialRot z c start` (`_calculate_initial_rotation_tp`)
and `p = period c` (what `_calculate_rotation_tp` adds).

DST is out of scope of the theorems: the code adds 24 h for Daily, so in a zone whose offset changes the local HH:MM
drifts; the harness exercises such zones and reports the drift (finding F19).

Quirk kept by the model and visible in the statements: a time rotation that finds the current file empty does not
rotate (`_get_file_size(...) <= 0`); the point is consumed all the same and the file keeps its earlier opening
instant. Hence "never appended to the file open before the point" is stated as: no byte written before the record
is in the record's file.
-/
namespace Rot

theorem restart_cfg (z : Nat → Int) (fs : FS) (c : Cfg) (start : Nat) : (restart z fs c start).sink.cfg = c := rfl

/-- **Grid theorem.** Whatever the directory held, whatever the start instant and whatever records follow (any sizes,
    any timestamps, dense or with gaps of many periods): `_next_rotation_time` is a point of the schedule, lies strictly
    after every record of the run, and is the first such point (it is `g0` or within one period of some record).
    This is what the pinned `record_ts + period` broke (F9). -/
theorem C15_grid (P : Params) (hP : P.advancesFromSchedule = true) (z : Nat → Int) (fs : FS) (c : Cfg) (start : Nat)
    (hc : CfgOK c) (hf : c.freq ≠ .disabled) (l : List (Stmt × Nat)) :
    GridInv (initialRot z c start) (period c) (l.map (·.2))
      (run P z (restart z fs c start) (writeOps l)).sink.nextRot := by
  have hp := period_pos c hc hf
  have h0 : GridInv (initialRot z c start) (period c) [] (restart z fs c start).sink.nextRot := by
    rw [restart_nextRot z fs c start hf]
    exact ⟨⟨0, by simp⟩, by simp, Or.inl rfl⟩
  have h := run_writes_grid P hP z (initialRot z c start) l (restart z fs c start) [] hp hf h0
  simp only [restart_cfg, List.append_nil] at h
  exact ⟨h.onGrid, fun t ht => h.after t (List.mem_reverse.mpr ht),
    h.first.imp id (fun ⟨t, ht, hle⟩ => ⟨t, List.mem_reverse.mp ht, hle⟩)⟩

/-- … and it is the *least* point of the schedule after the records: any `g0 + k·p` beyond every record is `≥` it. -/
theorem C15_grid_least (P : Params) (hP : P.advancesFromSchedule = true) (z : Nat → Int) (fs : FS) (c : Cfg) (start : Nat)
    (hc : CfgOK c) (hf : c.freq ≠ .disabled)
    (l : List (Stmt × Nat)) (k : Nat) (hk : ∀ t ∈ l.map (·.2), t < initialRot z c start + k * period c) :
    (run P z (restart z fs c start) (writeOps l)).sink.nextRot ≤ initialRot z c start + k * period c :=
  gridInv_least _ _ _ _ (C15_grid P hP z fs c start hc hf l) k hk

/-- **First point of the schedule** (constant offset `off`; `t` = start instant in whole seconds, `s` = the point in
    whole seconds): strictly after `t`; Minutely: the next minute boundary of local time; Hourly: the next hour
    boundary; Daily: the next instant whose local time of day is HH:MM:00, at most 24 h later. -/
theorem C15_first_point (off : Int) (c : Cfg) (start : Nat) (hc : CfgOK c) (hf : c.freq ≠ .disabled) :
    let t : Int := ((start / NS : Nat) : Int)
    let s : Int := initialSecs off c t
    ((initialRot (fun _ => off) c start : Nat) : Int) = s * 1000000000 ∧ t < s ∧
      (c.freq = .minutely → s ≤ t + 60 ∧ (s + off) % 60 = 0) ∧
      (c.freq = .hourly → s ≤ t + 3600 ∧ (s + off) % 3600 = 0) ∧
      (c.freq = .daily → s ≤ t + 86400 ∧ (s + off) % 86400 = (c.dailyH : Int) * 3600 + (c.dailyM : Int) * 60) := by
  intro t s
  obtain ⟨h1, h2, h3, h4⟩ := initialSecs_spec off c t hc
  have hts : t < s := h1 hf
  have ht0 : (0 : Int) ≤ t := Int.natCast_nonneg _
  refine ⟨?_, hts, h2, h3, h4⟩
  show ((((initialSecs off c t).toNat * NS : Nat)) : Int) = s * 1000000000
  have : ((initialSecs off c t).toNat : Int) = s := Int.toNat_of_nonneg (by omega)
  rw [Int.natCast_mul, this]; rfl

/-- **Separation.** A record at or after `_next_rotation_time` (time rotation enabled, rotation not stopped at the
    backup limit) ends up in a current file in which no byte precedes it: the file that was open before the point —
    if it held anything — has been rotated away. -/
theorem C15_separates (P : Params) (z : Nat → Int) (w : World) (st : Stmt) (ts : Nat) (h : CurInv w)
    (hdue : timeDue w ts) (hns : stopped w.sink = false) :
    ∃ pre, (write P z w st ts).fs.get curName = some (pre ++ [st]) ∧ bytes pre = 0 :=
  write_due_cur P z w st ts h (Or.inl hdue) hns

/-- **Sharing.** A record before `_next_rotation_time` (or with time rotation disabled) is appended to the current
    file and nothing else changes — unless size rotation intervenes (`sizeDue`). With `C15_grid`: records with no
    point of the schedule between them share a file. -/
theorem C15_shares (P : Params) (z : Nat → Int) (w : World) (st : Stmt) (ts : Nat) (ht : ¬ timeDue w ts)
    (hs : ¬ sizeDue w st.size ts) : write P z w st ts = appendCur w st := by
  rw [write, prepare_idle P z w st.size ts ht hs]

/-- **Suffix of the opening instant.** (1) `_open_file_timestamp` is the start instant after the constructor and the
    triggering record's timestamp after a rotation that takes place; (2) the rotation gives the file that was current
    the suffix computed from that instant (`%Y%m%d` = civil day, `%Y%m%d_%H%M%S` = civil second, none for Index) and the
    first index of the scheme; (3) later rotations never change the suffix of a dated file (only its index). -/
theorem C15_suffix_of_opening_instant (P : Params) (z : Nat → Int) :
    (∀ fs c start, (restart z fs c start).sink.openTs = start) ∧
    (∀ w ts, rotate P z w ts = w ∨ (rotate P z w ts).sink.openTs = ts) ∧
    (∀ sch openTs, entryAfter sch (newSuffix z sch openTs) curInfo =
        ⟨newSuffix z sch openTs, if sch = .index then 1 else 0⟩ ∧
      moveOf sch (newSuffix z sch openTs) curInfo =
        some (curName, .file (newSuffix z sch openTs) (if sch = .index then 1 else 0))) ∧
    (∀ sch sfx (e : FileInfo), sch ≠ .index → e.sfx ≠ none → (entryAfter sch sfx e).sfx = e.sfx) := by
  refine ⟨fun _ _ _ => rfl, ?_, ?_, ?_⟩
  · intro w ts
    rcases rotate_cur P z w ts with ⟨_, h⟩ | ⟨_, _, _, h⟩
    · exact Or.inl h
    · exact Or.inr h
  · intro sch openTs
    cases sch <;> simp [entryAfter, moveOf, newSuffix, curInfo, curName, FileInfo.name]
  · intro sch sfx e hs he
    unfold entryAfter
    by_cases h1 : e.sfx = sfx
    · simp [h1]
    · simp [hs, h1, he]

/-- **Composition with C14.** Time rotation goes through the same `_rotate_files`; every C14 theorem is about `write`
    whatever triggers the rotation. In particular with any frequency configured: the Index invariant holds along every
    history and the retained sequence is the written one minus a prefix (of whole deleted files:
    `C14_index_sequence_eq`); that the statement which triggered a time rotation is appended whole to the current file
    is `write_cur` (`Rot/Generic.lean`), used in `C14_index_exactly_one_file`. -/
theorem C15_composes_with_C14 (P : Params) (z : Nat → Int) (fs0 : FS) (hd : DirOK fs0) (c0 : Cfg) (start0 : Nat)
    (hc0 : RestartOK c0) (ops : List Op) (hops : ∀ op ∈ ops, OpAppend op) :
    IndexInv (run P z (restart z fs0 c0 start0) ops) ∧
      diskSeq (run P z (restart z fs0 c0 start0) ops) <:+ diskSeq (restart z fs0 c0 start0) ++ written ops :=
  ⟨C14_index_invariant P z fs0 hd c0 start0 hc0 ops (fun op ho => (hops op ho).ok),
   C14_index_sequence P z fs0 hd c0 start0 hc0 ops hops⟩

def f9Cfg : Cfg := { freq := .daily, dailyH := 2, dailyM := 0, append := false }
/-- 2023-11-14 22:13:20 GMT -/
def f9Start : Nat := 1700000000 * NS
def f9Run (adv : Bool) : World :=
  run { advancesFromSchedule := adv } zGmt (restart zGmt [] f9Cfg f9Start)
    [.write ⟨1, 8⟩ (f9Start + 9 * 3600 * NS), .write ⟨2, 8⟩ (f9Start + 29 * 3600 * NS)]

/-- **F9.** Start 22:13, daily at 02:00 GMT, records at +9 h (07:13 next day) and +29 h (03:13 the day after). With the
    pinned rule `_next_rotation_time = record_ts + 24 h` the second record is appended to the file of the first although
    the 02:00 point of the second day lies between them, and `_next_rotation_time` is off the grid; with the repaired
    rule it is on the grid and the records are in different files. -/
theorem C15_F9_record_anchored_breaks_grid :
    let g0 := initialRot zGmt f9Cfg f9Start
    let p := period f9Cfg
    g0 = 1700013600 * NS ∧
    f9Start + 9 * 3600 * NS < g0 + p ∧ g0 + p ≤ f9Start + 29 * 3600 * NS ∧
    (f9Run false).fs.get curName = some [⟨1, 8⟩, ⟨2, 8⟩] ∧ ((f9Run false).sink.nextRot - g0) % p ≠ 0 ∧
    (f9Run true).fs.get curName = some [⟨2, 8⟩] ∧ (f9Run true).fs.get (.file none 1) = some [⟨1, 8⟩] ∧
    (f9Run true).sink.nextRot = g0 + 2 * p := by
  decide +kernel

/-- `C15_grid` / `C15_separates` / `C15_shares`: a valid daily configuration, a state in which a record is due, one in
    which it is not -/
example : CfgOK f9Cfg ∧ f9Cfg.freq ≠ .disabled ∧
    timeDue (restart zGmt [] f9Cfg f9Start) (f9Start + 9 * 3600 * NS) ∧
    ¬ timeDue (restart zGmt [] f9Cfg f9Start) (f9Start + 3600 * NS) ∧
    stopped (restart zGmt [] f9Cfg f9Start).sink = false ∧
    ¬ sizeDue (restart zGmt [] f9Cfg f9Start) 8 (f9Start + 3600 * NS) := by
  decide +kernel

end Rot
