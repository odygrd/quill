import QuillModel.Props.C14
import QuillModel.Rot.Json
/-!
# C14 — nothing removed without overwriting, the size limit for every retained file, what the wording excludes, the JSON sink

* `C14_index_nothing_dropped_without_overwrite`: in the sequence equation of Props/C14.lean (`C14_index_sequence_eq`) the
  removed part `droppedRun` is empty for a history whose configurations all have overwriting off.
* `C14_index_all_files_within_limit`: every tracked file stays within the limit, or holds a single oversized statement.
* `C14_junk_removed_by_cleanup` — a file that merely *looks* like a member of the family (`log.abc.log`: same extension,
  starts with `log.`) is removed by an Index-scheme start in write mode with `remove_old_files`. The property speaks of
  "the retained files" of the sink and of files "deliberately deleted"; it does not promise anything about foreign files
  that match the scan pattern, so this is inside the property's silence, not a violation: stated as a named witness
  next to `C14_unrelated_untouched` (which covers the files the scan ignores).
* `C14_write_mode_without_cleanup_overwrites` — write mode with `remove_old_files = false`: the previous run's rotated
  files are neither removed nor recovered, and the first rotations rename onto them. The property's restart clause is
  "restarting in **append** mode continues the existing sequence instead of clobbering it"; write mode starts a new
  sequence and is outside it — an explicit exclusion of the Index theorems (`RestartOK`), with this witness.
* `C14_F30_json_counts_statement_size` — `RotatingJsonFileSink` on the model (`writeC`).
-/
namespace Rot

theorem NoOverwrite.head {c : Cfg} {ops : List Op} (h : NoOverwrite c ops) : c.overwrite = false := by
  cases ops with
  | nil => exact h
  | cons o os => cases o <;> exact h.1

/-- **"otherwise rotation stops and nothing is deleted"**: a history in which overwriting is never on removes nothing —
    the retained files hold the old content and every statement written, across restarts that lower `max_backup_files`. -/
theorem C14_index_nothing_dropped_without_overwrite (P : Params) (z : Nat → Int) : ∀ (ops : List Op) (w : World),
    IndexInv w → (∀ op ∈ ops, OpAppend op) → NoOverwrite w.sink.cfg ops →
    diskSeq (run P z w ops) = diskSeq w ++ written ops := by
  intro ops w h hops hno
  rw [C14_index_sequence_eq P z ops w h hops, droppedRun_nil P z ops w h hops hno, List.nil_append]

/-- non-vacuity, and the scenario of the seeded change `C14_m2` on the model: four rotated files, append restart with
    `max_backup_files = 1` and overwriting off, two more writes: all six statements are retained (rotation has stopped) -/
example :
    let c0 : Cfg := { limit := 10, overwrite := false, append := true }
    let c1 : Cfg := { limit := 10, maxBackup := 1, overwrite := false, append := true }
    let ops : List Op := [.write ⟨1, 8⟩ 1, .write ⟨2, 8⟩ 2, .write ⟨3, 8⟩ 3, .write ⟨4, 8⟩ 4, .restart c1 10,
      .write ⟨5, 8⟩ 11, .write ⟨6, 8⟩ 12]
    NoOverwrite c0 ops ∧
      diskSeq (run Params.repaired zGmt (restart zGmt [] c0 0) ops) = [⟨1, 8⟩, ⟨2, 8⟩, ⟨3, 8⟩, ⟨4, 8⟩, ⟨5, 8⟩, ⟨6, 8⟩] ∧
      (run Params.repaired zGmt (restart zGmt [] c0 0) ops).fs.get curName = some [⟨4, 8⟩, ⟨5, 8⟩, ⟨6, 8⟩] := by
  decide +kernel

/-- the premise of the history theorem, evaluated along the run: every write happens with a size limit configured that is
    at most `L` and with rotation not stopped; every restart is `RestartOK` (Index scheme; append, or write with clean-up) -/
def LimHistOK (P : Params) (z : Nat → Int) (L : Nat) : World → List Op → Prop
  | _, [] => True
  | w, .write st ts :: ops => w.sink.cfg.limit ≠ 0 ∧ w.sink.cfg.limit ≤ L ∧ stopped w.sink = false ∧
      LimHistOK P z L (write P z w st ts) ops
  | w, .restart c s :: ops => RestartOK c ∧ LimHistOK P z L (restart z w.fs c s) ops

/-- **No retained file exceeds the limit unless a single statement alone does — every history.** Index scheme, any
    sequence of writes (size and time rotation) and restarts that may change the limit, the backup count, the overwrite flag
    and the open mode: if `L` bounds every limit in force at a write and rotation never stops, then after the history every
    tracked file (= every file of the family on disk, `IndexInv.noStale`) is within `L` or holds nothing of positive size
    before its last statement. When rotation stops (overwriting off at the backup limit) the current file — and only it —
    grows: `C14_limit`; a later rotation then carries that oversized file along, which is why the premise is needed
    (witness `C14_stopped_file_rotated_oversized`). -/
theorem C14_index_all_files_within_limit (P : Params) (z : Nat → Int) (L : Nat) : ∀ (ops : List Op) (w : World),
    IndexInv w → LimInv L w → LimHistOK P z L w ops → LimInv L (run P z w ops)
  | [], _, _, hl, _ => hl
  | .write st ts :: ops, w, h, hl, hok =>
    C14_index_all_files_within_limit P z L ops _ (write_inv P z w st ts h)
      (write_limInv P z L w st ts h hl hok.1 hok.2.1 hok.2.2.1) hok.2.2.2
  | .restart c s :: ops, w, h, hl, hok =>
    C14_index_all_files_within_limit P z L ops _ (restart_inv z w.fs c s h.dirOK hok.1)
      (restart_limInv z L w c s h hl hok.1) hok.2

instance instDecLimHistOK (P : Params) (z : Nat → Int) (L : Nat) : (w : World) → (ops : List Op) →
    Decidable (LimHistOK P z L w ops)
  | _, [] => isTrue trivial
  | w, .write st ts :: ops => have := instDecLimHistOK P z L (write P z w st ts) ops; by unfold LimHistOK; infer_instance
  | w, .restart c s :: ops =>
    have := instDecLimHistOK P z L (restart z w.fs c s) ops
    by unfold LimHistOK RestartOK; infer_instance

/-- non-vacuity: a history with a time schedule and a size limit, a restart that lowers the limit and the backup count
    (overwriting on) and a write-mode restart satisfies the premise with `L = 12` -/
example :
    let c0 : Cfg := { limit := 12, maxBackup := 3, append := true, freq := .minutely, interval := 1 }
    let c1 : Cfg := { limit := 10, maxBackup := 1, append := true }
    let c2 : Cfg := { limit := 10, maxBackup := 2, append := false, removeOld := true }
    LimHistOK Params.repaired zGmt 12 (restart zGmt [] c0 0)
      [.write ⟨1, 8⟩ 1, .write ⟨2, 8⟩ 2, .write ⟨3, 3⟩ (60 * NS), .restart c1 (61 * NS), .write ⟨4, 8⟩ (62 * NS),
       .write ⟨5, 20⟩ (63 * NS), .restart c2 (70 * NS), .write ⟨6, 8⟩ (71 * NS)] := by
  decide +kernel

/-- the excluded class: rotation stopped (one backup, overwriting off), the current file grew to 24 bytes under a limit of
    10; after a restart with overwriting on the next rotation renames it — a rotated file of three statements over the limit -/
theorem C14_stopped_file_rotated_oversized :
    let c0 : Cfg := { limit := 10, maxBackup := 1, overwrite := false, append := true }
    let c1 : Cfg := { limit := 10, maxBackup := 3, overwrite := true, append := true }
    let w := run Params.repaired zGmt (restart zGmt [] c0 0)
      [.write ⟨1, 8⟩ 1, .write ⟨2, 8⟩ 2, .write ⟨3, 8⟩ 3, .write ⟨4, 8⟩ 4, .restart c1 10, .write ⟨5, 8⟩ 11]
    w.fs.get (.file none 1) = some [⟨2, 8⟩, ⟨3, 8⟩, ⟨4, 8⟩] ∧ ¬ LimInv 10 w := by
  intro c0 c1 w
  have hw : w.fs.get (.file none 1) = some [⟨2, 8⟩, ⟨3, 8⟩, ⟨4, 8⟩] ∧ (⟨none, 1⟩ : FileInfo) ∈ w.sink.created := by
    decide +kernel
  refine ⟨hw.1, fun h => ?_⟩
  have := h ⟨none, 1⟩ hw.2
  rw [show content w.fs ⟨none, 1⟩ = [⟨2, 8⟩, ⟨3, 8⟩, ⟨4, 8⟩] by simp only [content, FileInfo.name, hw.1, Option.getD_some]]
    at this
  -- 24 bytes, and 16 of them before the last statement
  rcases this with h1 | ⟨pre, st, h1, h2⟩
  · exact absurd h1 (by decide)
  · have hp : pre = [⟨2, 8⟩, ⟨3, 8⟩] := by simpa using (congrArg List.dropLast h1).symm
    rw [hp] at h2
    exact absurd h2 (by decide)

/-- **A look-alike file is removed by the clean-up** (Index scheme, write mode, `remove_old_files`): `log.x7.log` passes
    the scan filter and is deleted although it was never written by the sink; a file the filter ignores stays. -/
theorem C14_junk_removed_by_cleanup :
    let c : Cfg := { append := false, removeOld := true }
    let fs0 : FS := [(.junk 7, [⟨9, 3⟩]), (.foreign 1, [⟨8, 3⟩])]
    (restart zGmt fs0 c 0).fs.get (.junk 7) = none ∧ (restart zGmt fs0 c 0).fs.get (.foreign 1) = some [⟨8, 3⟩] ∧
      (restart zGmt fs0 { c with append := true } 0).fs.get (.junk 7) = some [⟨9, 3⟩] := by
  decide +kernel

/-- **Write mode without clean-up is outside the restart clause** (explicit exclusion, `RestartOK` fails): the previous
    run's `log.1.log` (statement 1) is neither removed nor recovered; the new run's first rotation renames onto it. -/
theorem C14_write_mode_without_cleanup_overwrites :
    let c : Cfg := { limit := 10, append := true }
    let cw : Cfg := { limit := 10, append := false, removeOld := false }
    let w1 := run Params.repaired zGmt (restart zGmt [] c 0) [.write ⟨1, 8⟩ 1, .write ⟨2, 8⟩ 2]
    let w2 := run Params.repaired zGmt (restart zGmt w1.fs cw 10) [.write ⟨3, 8⟩ 11, .write ⟨4, 8⟩ 12]
    ¬ (cw.append = true ∨ cw.removeOld = true) ∧ w1.fs.get (.file none 1) = some [⟨1, 8⟩] ∧ w2.fs.get (.file none 1) = some [⟨3, 8⟩] ∧
      w2.sink.created = [⟨none, 1⟩, curInfo] := by
  decide +kernel

/-- **F30 on the model.** `RotatingJsonFileSink`: each statement is counted with 2 bytes (`log_statement.size()`) and
    written as 8 (the JSON line); limit 10: after five statements the current file holds all five, 40 bytes, while
    `_file_size` says 10 and nothing was rotated. With counted = written (`FileSink`) every statement after the first
    rotates. -/
theorem C14_F30_json_counts_statement_size :
    let c : Cfg := { limit := 10, append := false }
    let sts : List Stmt := [⟨1, 8⟩, ⟨2, 8⟩, ⟨3, 8⟩, ⟨4, 8⟩, ⟨5, 8⟩]
    let wj := sts.foldl (fun w st => writeC Params.repaired zGmt w st 2 st.id) (restart zGmt [] c 0)
    let wf := sts.foldl (fun w st => writeC Params.repaired zGmt w st st.size st.id) (restart zGmt [] c 0)
    wj.fs.get curName = some sts ∧ bytes sts = 40 ∧ wj.sink.fileSize = 10 ∧ wj.sink.created = [curInfo] ∧
      wf.fs.get curName = some [⟨5, 8⟩] ∧ wf.sink.created.length = 5 := by
  decide +kernel

end Rot
