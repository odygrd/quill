import QuillModel.Props.C08
import QuillModel.Backend.LiftNote
/-!
# C08 — the reported drop count, read off the observable event log

`Props/C08.lean` accounts with the ghost counter `BSt.reported`; nothing there ties that counter to what the error notifier
is told — the count printed inside the `.notify` string (`n:dropped:<k>:a<t>` on a dropping queue, `n:blocked:<k>:a<t>` on
a blocking one; `_check_failure_counter`, model `checkFailures` / `PC.reportStr`). `parseCount` (`Backend/LiftNote.lean`)
reads `<k>` back from a notification text (0 for any other notification; `parseCount_reportStr`: it recovers the count for
every `k`, every thread id and both queue kinds). The theorems here restate the accounting of `Props/C08.lean` with the
ghost counter replaced by the sum of the parsed counts over the `notify` events of the log. The outcome of a single call
and "attempted = delivered + discarded + pending" on the printed observations are in `Props/C08Trace.lean`.
-/
namespace Backend
open Backend.PA Backend.PC

/-- the count an event tells the error notifier: the parsed `<k>` of a failure-counter notification, 0 otherwise -/
def noteCount : Ev → Nat
  | .notify w => parseCount w
  | _ => 0

/-- the sum of the counts printed in the notifications of a history -/
def notifiedSum (log : List Ev) : Nat := (log.map noteCount).sum

/-- `+k` for a notification that prints `k`, `-1` per unit of `reported` -/
def reportWt : Wt := { d := fun e => (noteCount e : Int), b := -1 }

theorem reportWt_sum (l : List Ev) : reportWt.sum l = (notifiedSum l : Int) :=
  Wt.sum_eq reportWt (fun l => (notifiedSum l : Int)) rfl (fun e l => Int.natCast_add (noteCount e) (notifiedSum l)) l

/- `reportWt.d (.notify w)` is `parseCount w` by definition; the fixed notification texts parse to 0 -/
theorem reportWt_ok : WtOK reportWt where
  inj := fun _ _ _ _ => rfl
  dtor := fun _ => rfl
  write := fun _ _ _ _ _ => rfl
  flushed := fun _ => rfl
  ffail := fun _ => (Int.zero_add _).trans (congrArg Int.ofNat parseCount_ffail)
  wfail := fun _ _ => (Int.zero_add _).trans (congrArg Int.ofNat parseCount_wfail)
  nobt := congrArg Int.ofNat parseCount_nobt
  fmterr := congrArg Int.ofNat (by decide +kernel : parseCount "n:fmterr" = 0)
  report := fun dr n a _ => by
    show ((parseCount (reportStr dr n a) : Nat) : Int) + (-1) * (n : Int) = 0
    rw [parseCount_reportStr]; omega

/-- from any state: `reported` and the notified sum grow by the same amount along every schedule -/
theorem C08_reported_is_notified_from (s : BSt) (ops : List Op) :
    ((runOps s ops).reported : Int) - (notifiedSum (runOps s ops).log : Int) = (s.reported : Int) - (notifiedSum s.log : Int) := by
  have h := bal_runOps reportWt_ok s ops
  simp only [bal, reportWt_sum] at h
  have hb : reportWt.b = -1 := rfl
  rw [hb] at h
  omega

/-- **`reported` = Σ of the counts printed in the notifications.** From a state with an empty history in which nothing was
    reported yet, after every schedule (frontend operations injected at every hook site, notifier re-entered at site 8,
    both queue kinds, every repair flag) the ghost counter `reported` equals the sum, over all `notify` events of the whole
    event log, of the count parsed from the notification text. -/
theorem C08_reported_is_notified (s0 : BSt) (hl : s0.log = []) (hr : s0.reported = 0) (ops : List Op) :
    (runOps s0 ops).reported = notifiedSum (runOps s0 ops).log := by
  have h := C08_reported_is_notified_from s0 ops
  rw [hl, hr] at h
  simp only [notifiedSum, List.map_nil, List.sum_nil] at h
  simp only [notifiedSum]
  omega

/-- **The accounting identity on the observable log.** Summed over all contexts ever created: refused ordinary log calls
    (`discarded` + `blockedCalls`) = the counts printed in the notifications of the event log + what is still in the failure
    counters. -/
theorem C08_accounting_on_log (s0 : BSt) (h0 : Started s0) (hl : s0.log = []) (ops : List Op) :
    ((ctrs (runOps s0 ops)).map (fun c => c.2.1 + c.2.2)).sum =
      notifiedSum (runOps s0 ops).log + ((ctrs (runOps s0 ops)).map (·.1)).sum := by
  rw [← C08_reported_is_notified s0 hl h0.reported ops]
  exact C08_accounting s0 (C08_started_inv s0 h0) ops

/-- **Dropping queue**: Σ discarded = Σ counts printed in `n:dropped:` notifications + Σ pending failure counters. -/
theorem C08_dropped_equals_notified_plus_pending (s0 : BSt) (h0 : Started s0) (hl : s0.log = [])
    (hd : s0.cfg.dropping = true) (ops : List Op) :
    ((ctrs (runOps s0 ops)).map (fun c => c.2.1)).sum =
      notifiedSum (runOps s0 ops).log + ((ctrs (runOps s0 ops)).map (·.1)).sum := by
  rw [← C08_reported_is_notified s0 hl h0.reported ops]
  exact (C08_dropped_equals_reported_plus_pending s0 (C08_started_inv s0 h0) hd ops).2

/-- non-vacuity: F17's schedule under the repaired flags starts from an empty history, one statement is discarded, and the
    log holds exactly one notification, whose text parses to 1 = `reported` -/
example : Started (c08Init true true) ∧ (c08Init true true).log = [] ∧
    (runOps (c08Init true true) f17Sched).reported = 1 ∧
    (runOps (c08Init true true) f17Sched).log.filterMap (fun e => match e with | .notify w => some w | _ => none) =
      ["n:dropped:1:a1"] ∧
    notifiedSum (runOps (c08Init true true) f17Sched).log = 1 ∧ parseCount "n:dropped:1:a1" = 1 ∧
    parseCount "n:blocked:1234:a7" = 1234 := by
  refine ⟨c08Init_started true true, rfl, ?_⟩
  decide +kernel

end Backend
