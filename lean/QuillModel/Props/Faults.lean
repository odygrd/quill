import QuillModel.Backend.Fault
import QuillModel.Props.C05
/-!
# C10 / C16 / C05 / C03 on the fault machine (`Backend/Fault.lean`)

* fault kinds: the note handed to the notifier is the one of the kind thrown, and it is reported once in the same step
  (`C10_write_fault_kind`, `C10_fault_reported_kind`, `C10_flush_fault_reported_kind`); `decide` witness that a handler
  which keeps the text and reports `if (!text.empty())` loses the report of an exception whose `what()` is empty;
* override pattern that cannot be built: the dispatch over `pre ++ sid :: post` is the dispatch over `pre` alone followed
  by ONE report (`C10_pattern_fault_local`), a sink that rejects the statement is as good as absent
  (`C16_rejecting_sink_absent`) — so the failure costs only statements that reach that sink, there and at the sinks after
  it; `decide` witness that the hoisted creation costs the earlier sink a statement the broken sink rejects;
* exceptions that escape the read pass: an aborted poll is the aborted pass plus one report — it pops nothing
  (`C05_aborted_poll_is_the_pass`); `decide` witness that "catch per queue and go on" writes 1020 before 1010 with the grace
  premise satisfied, while the aborting pass keeps the order. That the step at which the decoder throws moves no record is
  stated (`C03_decode_abort_moves_nothing`, in a comment) and NOT proved; the witness exercises that step.
-/
namespace Backend

theorem writeToSinksF_nil (s : BSt) (st : Stmt) : writeToSinksF s st [] = (s, none) := rfl

/-- a sink whose level/filter rejects the statement is skipped: no formatter is created for it, nothing is written -/
theorem writeToSinksF_reject (s : BSt) (st : Stmt) (sid : Nat) (rest : List Nat)
    (h : sinkAccepts (s.sinkOf sid) st = false) :
    writeToSinksF s st (sid :: rest) = writeToSinksF s st rest := by
  simp [writeToSinksF, h]

/-- a sink that the statement reaches and whose override pattern cannot be built: the exception leaves the loop at once;
    no call of that sink, no event, the sinks after it are not visited -/
theorem writeToSinksF_patFails (s : BSt) (st : Stmt) (sid : Nat) (rest : List Nat)
    (h : sinkAccepts (s.sinkOf sid) st = true) (hp : (s.sinkOf sid).patFails = true) :
    writeToSinksF s st (sid :: rest) = (s, some "n:patfail") := by
  simp [writeToSinksF, h, hp]

/-- **Kind of a write fault**: the sink's `write_log` is called (the call is counted), the `wthrow` event is emitted, and the
    text that travels to the handler is the one of the kind thrown: the exception's own text, the EMPTY text, or the
    catch-all text. -/
theorem C10_write_fault_kind (s : BSt) (st : Stmt) (sid : Nat) (rest : List Nat)
    (h : sinkAccepts (s.sinkOf sid) st = true) (hp : (s.sinkOf sid).patFails = false)
    (ht : throwsAt (s.sinkOf sid).wthrow ((s.sinkOf sid).wcalls + 1) = true) :
    writeToSinksF s st (sid :: rest) =
      (((s.setSink sid (fun _ => { s.sinkOf sid with wcalls := (s.sinkOf sid).wcalls + 1 })).emit (.wthrow sid st.id)),
       some (faultNote "n:wfail" (kindAt (s.sinkOf sid).wkind ((s.sinkOf sid).wcalls + 1)))) := by
  simp [writeToSinksF, h, hp, ht]

/-- a sink that accepts, has its formatter and does not throw: its write is recorded and the loop goes on -/
theorem writeToSinksF_write (s : BSt) (st : Stmt) (sid : Nat) (rest : List Nat)
    (h : sinkAccepts (s.sinkOf sid) st = true) (hp : (s.sinkOf sid).patFails = false)
    (ht : throwsAt (s.sinkOf sid).wthrow ((s.sinkOf sid).wcalls + 1) = false) :
    writeToSinksF s st (sid :: rest) =
      writeToSinksF ((s.setSink sid (fun _ => { s.sinkOf sid with wcalls := (s.sinkOf sid).wcalls + 1 })).emit
        (.write sid st.id st.lvl st.ts st.named)) st rest := by
  simp [writeToSinksF, h, hp, ht]

theorem faultNote_cases (k : Nat) : faultNote "n:wfail" k = "n:wfail" ∨ faultNote "n:wfail" k = "n:empty" ∨
    faultNote "n:wfail" k = "n:unhandled" := by
  match k with
  | 0 => exact .inl rfl
  | 1 => exact .inr (.inl rfl)
  | _ + 2 => exact .inr (.inr rfl)

/-- the loop over a concatenation: the second part is visited iff no exception escaped the first -/
theorem writeToSinksF_append (st : Stmt) (a b : List Nat) : ∀ s : BSt,
    writeToSinksF s st (a ++ b) =
      (match writeToSinksF s st a with
       | (s', some m) => (s', some m)
       | (s', none) => writeToSinksF s' st b) := by
  induction a with
  | nil => intro s; rfl
  | cons x xs ih =>
    intro s
    rw [List.cons_append]
    -- the four outcomes at `x` are the same with `xs` and with `xs ++ b` behind it
    cases h : sinkAccepts (s.sinkOf x) st
    · rw [writeToSinksF_reject s st x _ h, writeToSinksF_reject s st x _ h]; exact ih s
    · cases hp : (s.sinkOf x).patFails
      · cases ht : throwsAt (s.sinkOf x).wthrow ((s.sinkOf x).wcalls + 1)
        · rw [writeToSinksF_write s st x _ h hp ht, writeToSinksF_write s st x _ h hp ht]; exact ih _
        · rw [C10_write_fault_kind s st x _ h hp ht, C10_write_fault_kind s st x _ h hp ht]
      · rw [writeToSinksF_patFails s st x _ h hp, writeToSinksF_patFails s st x _ h hp]

/-- **A sink whose override pattern fails costs nothing before it (C10 + C16).** If the statement reaches sink `sid` of the
    list `pre ++ sid :: post` (after the earlier sinks were served) and `sid`'s formatter cannot be built, the whole dispatch
    is the dispatch over `pre` alone — every earlier sink gets exactly what it would get from a logger without `sid` — then
    ONE exception text; `post` is never visited and `sid` itself is never called. -/
theorem C10_pattern_fault_local (s : BSt) (st : Stmt) (pre post : List Nat) (sid : Nat)
    (hnone : (writeToSinksF s st pre).2 = none)
    (hacc : sinkAccepts ((writeToSinksF s st pre).1.sinkOf sid) st = true)
    (hpat : ((writeToSinksF s st pre).1.sinkOf sid).patFails = true) :
    writeToSinksF s st (pre ++ sid :: post) = ((writeToSinksF s st pre).1, some "n:patfail") := by
  rw [writeToSinksF_append]
  rcases hr : writeToSinksF s st pre with ⟨s', m⟩
  rw [hr] at hnone hacc hpat
  simp only at hnone hacc hpat
  subst hnone
  simp only
  exact writeToSinksF_patFails s' st sid post hacc hpat

/-- **A statement the broken sink rejects is not affected at all (C16).** Whatever is wrong with sink `sid` (pattern, fault
    schedule): if its level/filter rejects the statement, the dispatch over `pre ++ sid :: post` is the dispatch over
    `pre ++ post`. -/
theorem C16_rejecting_sink_absent (s : BSt) (st : Stmt) (pre post : List Nat) (sid : Nat)
    (hrej : ∀ s' : BSt, (writeToSinksF s st pre).1 = s' → sinkAccepts (s'.sinkOf sid) st = false) :
    writeToSinksF s st (pre ++ sid :: post) = writeToSinksF s st (pre ++ post) := by
  rw [writeToSinksF_append, writeToSinksF_append]
  rcases hr : writeToSinksF s st pre with ⟨s', m⟩
  cases m with
  | some m => rfl
  | none =>
    simp only
    exact writeToSinksF_reject s' st sid post (hrej s' (by rw [hr]))

/-- the pop of `_process_lowest_timestamp_transit_event` on the fault machine, up to and including the pop -/
def popStepF (fc : FCfg) (s : BSt) (i : Nat) (st : Stmt) (rest : List Stmt) : BSt :=
  let r := processEventF fc s st
  let s2 := reportF fc r.1 r.2.1
  { s2.setTh i (fun t => { t with buf := rest, popped := t.popped ++ [st] }) with popLog := st :: s2.popLog }

theorem processLowestF_pop (fc : FCfg) (inj : BSt → Nat → BSt) (s : BSt) (i : Nat) (st : Stmt) (rest : List Stmt)
    (hl : lowest s = some i) (hb : (s.th i).buf = st :: rest) (hf : (processEventF fc s st).2.2 = none) :
    processLowestF fc inj s = (popStepF fc s i st rest, true) := by
  -- the triple with its third component named: the `match` on it then reduces, and both sides are the same term
  have hr : processEventF fc s st = ((processEventF fc s st).1, (processEventF fc s st).2.1, none) := by rw [← hf]
  unfold processLowestF
  rw [hl]
  simp only [hb]
  rw [hr]
  rfl

/-- **Every escaped dispatch exception is reported once, in the same step, with the text of its kind (C10)** — by the
    handlers as they are, which call the notifier whatever the text is (`notifyAlways`). For an ordinary statement whose
    dispatch lets an exception with text `m` escape (a `write_log` that threw — `m` is then `n:wfail`, `n:empty` or
    `n:unhandled` by `C10_write_fault_kind` — or an override pattern that cannot be built — `n:patfail`), the pop appends
    to the history the events of the dispatch and then exactly the notification `m`. -/
theorem C10_fault_reported_kind (fc : FCfg) (hn : fc.notifyAlways = true) (s : BSt) (i : Nat) (st : Stmt) (rest : List Stmt)
    (hk : st.kind = .log) (hl : st.lvl ≠ 9) (m : String) (hx : (dispatchF fc s st).2 = some m) :
    (popStepF fc s i st rest).log = Ev.notify m :: (dispatchF fc s st).1.log := by
  unfold popStepF processEventF
  simp only [hk, hl, ne_eq, not_false_eq_true, if_true, hx, Option.isSome_some]
  simp [reportF, hn, BSt.emit, BSt.setTh]

/-- with the handler that keeps the text and reports only a non-empty one, the same step reports nothing for the empty text -/
theorem C10_empty_text_lost_without_notifyAlways (fc : FCfg) (hn : fc.notifyAlways = false) (s : BSt) (i : Nat) (st : Stmt)
    (rest : List Stmt) (hk : st.kind = .log) (hl : st.lvl ≠ 9) (hx : (dispatchF fc s st).2 = some "n:empty") :
    (popStepF fc s i st rest).log = (dispatchF fc s st).1.log := by
  unfold popStepF processEventF
  simp only [hk, hl, ne_eq, not_false_eq_true, if_true, hx, Option.isSome_some]
  simp [reportF, hn, BSt.setTh]

def isFthrowF : Ev → Bool | .fthrow _ => true | _ => false
def isFaultNote : Ev → Bool
  | .notify m => m == "n:ffail" || m == "n:empty" || m == "n:unhandled"
  | _ => false

theorem faultNote_ffail_isNote (k : Nat) : isFaultNote (.notify (faultNote "n:ffail" k)) = true := by
  match k with
  | 0 => decide +kernel
  | 1 => decide +kernel
  | _ + 2 => exact (by decide +kernel : isFaultNote (.notify "n:unhandled") = true)

/-- **Every flush fault is reported once, whatever its kind (C10)**: among the events one call of
    `_flush_and_run_active_sinks` appends there are exactly as many fault notifications (text of the kind thrown) as
    `fthrow` events. -/
theorem C10_flush_fault_reported_kind (s : BSt) :
    ∃ evs, (flushSinksF s).log = evs ++ s.log ∧ evs.countP isFthrowF = evs.countP isFaultNote := by
  unfold flushSinksF
  generalize activeSinks s = l
  induction l generalizing s with
  | nil => exact ⟨[], rfl, rfl⟩
  | cons x xs ih =>
    rw [List.foldl_cons]
    dsimp only
    split
    · -- whatever the kind, the note is a text `n` that `isFaultNote` accepts
      have hn := faultNote_ffail_isNote (kindAt (s.sinkOf x).fkind ((s.sinkOf x).fcalls + 1))
      generalize faultNote "n:ffail" (kindAt (s.sinkOf x).fkind ((s.sinkOf x).fcalls + 1)) = n at hn ⊢
      obtain ⟨evs, h1, h2⟩ := ih (((s.setSink x fun _ => { s.sinkOf x with fcalls := (s.sinkOf x).fcalls + 1 }).emit
        (.fthrow x)).emit (.notify n))
      refine ⟨evs ++ [.notify n, .fthrow x], ?_, ?_⟩
      · rw [h1]; exact (List.append_assoc evs [_, _] s.log).symm
      · have e1 : List.countP isFthrowF [Ev.notify n, Ev.fthrow x] = 1 := rfl
        have e2 : List.countP isFaultNote [Ev.notify n, Ev.fthrow x] = 1 := by
          simp only [List.countP_cons, List.countP_nil, hn]; rfl
        rw [List.countP_append, List.countP_append, e1, e2, h2]
    · obtain ⟨evs, h1, h2⟩ := ih ((s.setSink x fun _ => { s.sinkOf x with fcalls := (s.sinkOf x).fcalls + 1 }).emit (.flushed x))
      refine ⟨evs ++ [.flushed x], ?_, ?_⟩
      · rw [h1]; exact (List.append_assoc evs [_] s.log).symm
      · have e1 : List.countP isFthrowF [Ev.flushed x] = 0 := rfl
        have e2 : List.countP isFaultNote [Ev.flushed x] = 0 := rfl
        rw [List.countP_append, List.countP_append, e1, e2, h2]

/- NOT PROVED: the statement below is the intended local theorem for the aborting step (the state left is `s` with
   `prepare_read`'s bookkeeping, `dcalls + 1` and one event); the proof text under it does not close. The `decide` witness
   `C05_aborted_poll_keeps_order_witness` below exercises exactly this step.

/- **The aborting step moves no record (C03).** When the decoder of the record offered by `prepare_read` throws, the state
    left behind differs from the one before the step only in the consumer-side bookkeeping of `prepare_read`, the decode
    counter and the event log: every context's queue content, transit buffer, accepted and popped history are the same, the
    global pop order is the same. (No `finish_read`, no `push_back`, no `commit_read` of earlier reads of the pass.) -/
theorem C03_decode_abort_moves_nothing (inj : BSt → Nat → BSt) (tsNow : Option Nat) (i fuel total : Nat) (s : BSt)
    (st : Stmt) (rest : List Stmt)
    (hp : (qPrepareRead s.cfg (s.th i).q).2 = true) (hq : (s.th i).qStmts = st :: rest)
    (hts : ∀ t, tsNow = some t → ¬ t < st.ts)
    (hu : (isLogKind st.kind && s.udt.contains st.id) = true) (hd : s.dthrow.contains (s.dcalls + 1) = true) :
    (readQueueF inj tsNow i (fuel + 1) total s).2 = true ∧
    (readQueueF inj tsNow i (fuel + 1) total s).1.popLog = s.popLog ∧
    ∀ j, ((readQueueF inj tsNow i (fuel + 1) total s).1.th j).qStmts = (s.th j).qStmts ∧
         ((readQueueF inj tsNow i (fuel + 1) total s).1.th j).buf = (s.th j).buf ∧
         ((readQueueF inj tsNow i (fuel + 1) total s).1.th j).accepted = (s.th j).accepted ∧
         ((readQueueF inj tsNow i (fuel + 1) total s).1.th j).popped = (s.th j).popped := by
  have hstep : readQueueF inj tsNow i (fuel + 1) total s =
      (({ (s.setTh i (fun t => { t with q := (qPrepareRead s.cfg (s.th i).q).1 })) with dcalls := s.dcalls + 1 }).emit
        (.notify s!"dthrow:{s.dcalls + 1}"), true) := by
    unfold readQueueF
    simp only [hp, hq, Bool.not_true, Bool.false_eq_true, if_false]
    rw [if_neg (by cases tsNow with
      | none => simp
      | some t => simpa using hts t rfl)]
    have hu' : (isLogKind st.kind && (s.setTh i (fun t => { t with q := (qPrepareRead s.cfg (s.th i).q).1 })).udt.contains st.id) = true := hu
    simp only [hu', if_true]
    have hd' : (s.setTh i (fun t => { t with q := (qPrepareRead s.cfg (s.th i).q).1 })).dthrow.contains
        ((s.setTh i (fun t => { t with q := (qPrepareRead s.cfg (s.th i).q).1 })).dcalls + 1) = true := hd
    simp [hd', BSt.setTh]
  rw [hstep]
  refine ⟨rfl, rfl, fun j => ?_⟩
  show ((s.setTh i _).th j).qStmts = _ ∧ ((s.setTh i _).th j).buf = _ ∧ ((s.setTh i _).th j).accepted = _ ∧ ((s.setTh i _).th j).popped = _
  simp only [BSt.th, BSt.setTh, updAt, List.getD_eq_getElem?_getD, List.getElem?_mapIdx]
  cases hj : s.ths[j]? with
  | none => simp
  | some t => by_cases hji : j = i <;> simp [hji]

-/

/-- **An aborted poll is the aborted pass plus one report (C05, C03)**: nothing is processed, nothing is popped, no sink is
    called, no flag is raised; the next poll starts its own pass (and samples its own `ts_now`). -/
theorem C05_aborted_poll_is_the_pass (fc : FCfg) (inj : BSt → Nat → BSt) (s : BSt)
    (ha : (populateF fc inj s).2.2 = true) :
    pollF fc inj s = (populateF fc inj s).1.emit (.notify "n:dfail") := by
  unfold pollF
  rcases hp : populateF fc inj s with ⟨s1, c, a⟩
  rw [hp] at ha
  simp only at ha
  subst ha
  simp

def fCfg : Cfg :=
  { dropping := false, qcap := 1024, grace := 10, soft := 4, hard := 8, hdr := 32,
    strOverhead := 4, batchPct := 5, qp := c05Params, invalidBits := 32, refreshAfterSample := true,
    catchAllFormat := true, reportBeforeFlushCleanup := true }

/-- three sinks; the one in the middle has a level filter (6) and an override pattern that cannot be built -/
def patInit : BSt :=
  { cfg := { fCfg with grace := 0 }, now := 1000,
    sinks := [{ sid := 0 }, { sid := 1, lvl := 6, patFails := true }, { sid := 2 }],
    lgs := [{ gid := 0, sinks := [0, 1, 2], level := 0 }], names := [(0, 0)] }

/-- a level-4 statement (sink 1 rejects it) and a level-8 statement (sink 1 accepts it), one poll each -/
def patSched : List OpF :=
  [.base (.front (.tstart 1)), .base (.front (.log 1 0 4 10 true)), .base (.front (.log 1 0 8 10 true)),
   .base (.poll []), .base (.poll [])]

def evShow : Ev → Option (String × Nat × Nat)
  | .write s i _ _ _ => some ("w", s, i)
  | .wthrow s i => some ("wthrow", s, i)
  | .notify m => some (m, 0, 0)
  | _ => none

/-- **The code as it is**: the level-4 statement reaches sinks 0 and 2; the level-8 statement reaches sink 0, then sink 1's
    formatter fails: one report, sink 2 misses that statement. -/
theorem C10_pattern_fault_in_loop_witness :
    ((runOpsF {} patInit patSched).log.reverse.filterMap evShow) =
      [("w", 0, 0), ("w", 2, 0), ("w", 0, 1), ("n:patfail", 0, 0)] := by decide +kernel

/-- **The hoisted creation violates `C10_pattern_fault_local` / `C16_rejecting_sink_absent`**: with every override formatter
    created before the per-sink loop, sink 0 — which comes BEFORE the broken sink — gets nothing, not even the statement the
    broken sink rejects. -/
theorem C10_hoisted_pattern_creation_violates :
    ((runOpsF { patInLoop := false } patInit patSched).log.reverse.filterMap evShow) =
      [("n:patfail", 0, 0), ("n:patfail", 0, 0)] := by decide +kernel

/-- one sink whose first `write_log` throws an exception with EMPTY text -/
def emptyInit : BSt :=
  { cfg := { fCfg with grace := 0 }, now := 1000, sinks := [{ sid := 0, wthrow := [1], wkind := [(1, 1)] }],
    lgs := [{ gid := 0, sinks := [0], level := 0 }], names := [(0, 0)] }

def emptySched : List OpF :=
  [.base (.front (.tstart 1)), .base (.front (.log 1 0 4 10 true)), .base (.poll [])]

theorem C10_empty_text_reported_witness :
    ((runOpsF {} emptyInit emptySched).log.reverse.filterMap evShow) = [("wthrow", 0, 0), ("n:empty", 0, 0)] := by decide +kernel

/-- **Reporting only a non-empty text loses the report** -/
theorem C10_report_if_nonempty_violates :
    ((runOpsF { notifyAlways := false } emptyInit emptySched).log.reverse.filterMap evShow) = [("wthrow", 0, 0)] := by decide +kernel

/-- two threads; thread 1 logs a user-defined-type statement at 1010 whose first decode throws, thread 2 logs at 1020 -/
def abortInit : BSt :=
  { cfg := fCfg, now := 1000, sinks := [{ sid := 0 }],
    lgs := [{ gid := 0, sinks := [0], level := 0 }], names := [(0, 0)] }

def abortSched : List OpF :=
  [.base (.front (.tstart 1)), .base (.front (.tstart 2)), .armDecode 1, .base (.front (.tick 10)), .logU 1 0 20,
   .base (.front (.tick 10)), .base (.front (.log 2 0 4 10 true)), .base (.front (.tick 1000)),
   .base (.poll []), .base (.poll []), .base (.poll [])]

/-- **The aborting pass keeps the order**: the first poll pops nothing, the next two pop 1010 then 1020. -/
theorem C05_aborted_poll_keeps_order_witness :
    GracePremise (runOpsF {} abortInit abortSched) ∧
    (runOpsF {} abortInit abortSched).popLog.reverse.map (·.ts) = [1010, 1020] ∧
    (runOpsF {} abortInit (abortSched.take 9)).popLog = [] := by decide +kernel

/-- **"Catch per queue and continue with the next queue" breaks the order with the grace premise satisfied**: the first poll
    skips thread 1's queue, reads thread 2's and writes 1020; 1010 follows. -/
theorem C05_catch_per_queue_violates :
    GracePremise (runOpsF { readAborts := false } abortInit abortSched) ∧ abortInit.cfg.grace ≠ 0 ∧
    (runOpsF { readAborts := false } abortInit abortSched).popLog.reverse.map (·.ts) = [1020, 1010] := by decide +kernel

end Backend
