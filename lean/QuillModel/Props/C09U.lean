import QuillModel.Props.C03U
import QuillModel.Backend.UPubInv
/-!
# C09 for the unbounded-queue machine, at the retry loop of `log_statement`

`Props/C03U.lean` has the queue-level statement (`C09U_blocked_call_granted_after_drain`). Here the same for the
actual retry of the parked call (`resumeU` = one more turn of the `do … while (write_buffer == nullptr)` loop of
`log_statement` on a blocking queue) in **every state reachable by any operation list**: if the caller's chain has been
drained down to one buffer whose reader position is published, the retry is granted — in place, or through growth when
the record does not fit the (shrunk) buffer — and the call goes on to its completion path.

That every read ends published in every reachable state is `C09U_reads_committed` (the counterpart of
`C09_reads_committed` of the bounded bundle); `C09U_parked_call_resumes_partial` takes it as a hypothesis (`hpub`),
`C09U_parked_call_resumes_drained` derives it.

**Partial**: that the backend *reaches* the drained state after finitely many quiet polls past the grace period (the
progress half, `C09_drain_publishes` of the bounded bundle) is a hypothesis of both (`hdr`; `hdrained`, `hone`), not a
theorem.
-/
namespace Backend

theorem uPrepareWrite_drained_grants (c : Cfg) (k b n : Nat) (hkb : k ≤ b) (hn : n ≤ 2 ^ b) (t : Th)
    (hm : t.more = []) (hcap : t.q.cap = 2 ^ k) (hpub : t.q.rHist.headD 0 = t.q.wpos) :
    (uPrepareWrite c (2 ^ b) t n).2 = .grant := by
  have hp : t.prod = t.q := by simp [Th.prod, hm, lastOf]
  unfold uPrepareWrite
  dsimp only
  split
  · rfl
  · next hr =>
    rw [hp] at hr
    split
    · next heq =>
      rw [hp, qPrepareWrite_cap, hcap] at heq
      have := (Uspsc.grow_throw_iff (cap := 2 ^ k) (n := n) (maxCap := 2 ^ b) (Nat.two_pow_pos k)).mp heq
      omega
    · next heq =>
      rw [hp, qPrepareWrite_cap, hcap] at heq
      have hkb' : k = b := Uspsc.grow_null_pow2 hkb hn heq
      exact absurd (qPrepareWrite_drained c t.q n hpub (by rw [hcap, hkb']; exact hn)) hr
    · rfl

/-- **C09 (unbounded), the parked call resumes — every reachable state.** `s` is the state after any operation list
    from a state satisfying the invariant. Blocking queue, actor `a` parked in the retry loop with statement `st`
    (`st.size ≤ max = 2^b`), its context `i` drained to a single buffer (`more = []`) of capacity `2^k ≤ max` whose
    reader position is published. Then the next attempt is granted and `resumeU` continues with the completion path of
    the call (`afterEnq`: `ret=1` for the macro that reports it, the wait for the flag for `flush_log`, …). -/
theorem C09U_parked_call_resumes_partial (u : UP) (s0 : BSt) (h0 : US.UI s0) (ops : List UOp) (b k : Nat) (hq : u.qmax = 2 ^ b)
    (a i : Nat) (x : Actor) (st : Stmt) (cont : Nat)
    (hblk : (runOpsU u s0 ops).cfg.dropping = false)
    (hx : (runOpsU u s0 ops).actor a = some x) (hp : x.pend = .retry st cont) (hi : x.ctx = some i)
    (hsz : st.size ≤ 2 ^ b)
    (hdr : ((runOpsU u s0 ops).th i).more = []) (hcap : ((runOpsU u s0 ops).th i).q.cap = 2 ^ k) (hkb : k ≤ b)
    (hpub : ((runOpsU u s0 ops).th i).q.rHist.headD 0 = ((runOpsU u s0 ops).th i).q.wpos) :
    (tryEnqU u (runOpsU u s0 ops) i st).2 = .grant ∧
    resumeU u (runOpsU u s0 ops) a =
      afterEnq ((tryEnqU u (runOpsU u s0 ops) i st).1.setActor a (fun y => { y with pend := .none })) a st cont := by
  generalize runOpsU u s0 ops = s at *
  have hg : (tryEnqU u s i st).2 = .grant := by
    rw [tryEnqU_answer, hq]
    exact uPrepareWrite_drained_grants s.cfg k b st.size hkb hsz _ hdr hcap hpub
  refine ⟨hg, ?_⟩
  have hens : ensureCtx s a = (s, i) := by
    unfold ensureCtx
    simp [hx, hi]
  unfold resumeU
  simp only [hx, Option.map_some, hp, hblk]
  unfold enqFlowU
  simp only [hens]
  generalize htr : tryEnqU u s i st = r at hg
  obtain ⟨s2, g⟩ := r
  simp only at hg
  subst hg
  rfl

/-- a freshly started system satisfies the publication invariant -/
theorem C09U_fresh_state (s0 : BSt) (hh : 0 < s0.cfg.hdr) (ht : s0.ths = []) (ha : s0.actors = []) :
    US.GI (US.Tx none) s0.cfg s0 :=
  US.GI.fresh (US.tx_closed { qmax := 0 } none).dflt hh ht ha

/-- **Every read ends committed (unbounded queue).** For every operation list (polls with arbitrary injected frontend
    operations, shrink requests, the exit drain) from a state satisfying the invariant, with the drain rule of
    `commit_read`: a context whose chain holds nothing and has been reduced to one buffer has that buffer's reader
    position published — the producer's next reload sees the whole capacity free — and every buffer the consumer has
    not reached yet is untouched by it. -/
theorem C09U_reads_committed (u : UP) (s0 : BSt) (h0 : US.GI (US.Tx none) s0.cfg s0)
    (hdp : s0.cfg.qp.drainPublish = true) (ops : List UOp) (i : Nat)
    (hq : ((runOpsU u s0 ops).th i).qStmts = []) (hm : ((runOpsU u s0 ops).th i).more = []) :
    ((runOpsU u s0 ops).th i).q.rHist.headD 0 = ((runOpsU u s0 ops).th i).q.rpos ∧
    ((runOpsU u s0 ops).th i).q.rHist.headD 0 = ((runOpsU u s0 ops).th i).q.wpos := by
  have h := US.runOpsU_closed (US.pi_closed u s0.cfg hdp) ops s0 h0
  have hp : ((runOpsU u s0 ops).th i).q.rHist.headD 0 = ((runOpsU u s0 ops).th i).q.rpos := (h.t i).2 (by simp) hq hm
  refine ⟨hp, ?_⟩
  have hc := (h.ui.th i).coh
  rw [hm, hq] at hc
  have hd : ((runOpsU u s0 ops).th i).q.wpos = ((runOpsU u s0 ops).th i).q.rpos := by simpa using hc.coh.dist
  rw [hd]; exact hp

/-- **C09 (unbounded), the parked call resumes after the drain — every schedule, publication derived.** As
    `C09U_parked_call_resumes_partial`, with the published reader position derived: it follows from
    `C09U_reads_committed` once the context is drained (`qStmts = []`, one buffer left). What remains a hypothesis is
    that the backend has drained the context (the progress half). -/
theorem C09U_parked_call_resumes_drained (u : UP) (s0 : BSt) (h0 : US.GI (US.Tx none) s0.cfg s0)
    (hdp : s0.cfg.qp.drainPublish = true) (ops : List UOp) (b k : Nat) (hq : u.qmax = 2 ^ b)
    (a i : Nat) (x : Actor) (st : Stmt) (cont : Nat)
    (hblk : (runOpsU u s0 ops).cfg.dropping = false)
    (hx : (runOpsU u s0 ops).actor a = some x) (hp : x.pend = .retry st cont) (hi : x.ctx = some i)
    (hsz : st.size ≤ 2 ^ b)
    (hdrained : ((runOpsU u s0 ops).th i).qStmts = []) (hone : ((runOpsU u s0 ops).th i).more = [])
    (hcap : ((runOpsU u s0 ops).th i).q.cap = 2 ^ k) (hkb : k ≤ b) :
    (tryEnqU u (runOpsU u s0 ops) i st).2 = .grant ∧
    resumeU u (runOpsU u s0 ops) a =
      afterEnq ((tryEnqU u (runOpsU u s0 ops) i st).1.setActor a (fun y => { y with pend := .none })) a st cont :=
  C09U_parked_call_resumes_partial u s0 h0.ui ops b k hq a i x st cont hblk hx hp hi hsz hone hcap hkb
    (C09U_reads_committed u s0 h0 hdp ops i hdrained hone).2

example : US.GI (US.Tx none) exS0.cfg exS0 := C09U_fresh_state exS0 (by decide) rfl rfl
example : exS0.cfg.qp.drainPublish = true := by decide +kernel

/-! non-vacuity: 512-byte first buffer, 4 KiB maximum, blocking. Two 3900-byte statements: the first makes the chain grow to
4096, the second is refused there and its caller parks; one poll switches buffers, reads and publishes: every hypothesis
of the theorem holds in that state, and the retry is granted -/
def exOps9 : List UOp :=
  [.front (.base (.tstart 1)), .front (.base (.log 1 0 4 3900 true)), .front (.base (.log 1 0 4 3900 true)), .poll []]

def exS9 : BSt := runOpsU { qmax := 2 ^ 12 } exS0 exOps9

example :
    exS9.cfg.dropping = false ∧ (exS9.th 0).qStmts.length = 0 ∧ (exS9.th 0).more.length = 0 ∧ (exS9.th 0).q.cap = 2 ^ 12 ∧
    (exS9.th 0).q.rHist.headD 0 = (exS9.th 0).q.wpos ∧
    (match exS9.actor 1 with
     | some x => (match x.pend with | .retry st _ => decide (st.size ≤ 2 ^ 12) && (x.ctx == some 0) | _ => false)
     | none => false) = true ∧
    (resumeU { qmax := 2 ^ 12 } exS9 1).2 = "id=1 ret=1 ev=1 bytes=3937" := by decide +kernel

end Backend
