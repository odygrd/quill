import QuillModel.Tsc.Proofs
import QuillModel.Tsc.PipeProofs
/-!
# C05 (and the ordering half of C06) for `ClockSourceType::Tsc` loggers — the TSC → epoch conversion

Property theorems only (lemmas: `Tsc/Proofs.lean`, `Tsc/PipeProofs.lean`). Model: `Tsc/Model.lean`
(`RdtscClock` as it is, one conversion per decoded record in read order, the `ts_now` gate on the converted value, the pop
rule on the converted value). Quantifiers: every clock state, every sequence of conversions and idle-path resyncs, every
value of the `rdtsc` / `system_clock` reads of every resync attempt; the scaling `sc` is any function that is monotone and
additive up to `ε` (`ScaleOK`) — `scaleExact num k` is one with `ε = 1` (`C05Tsc_exact_scale_ok`); the IEEE computation of
the code (`scaleF64`, run bit for bit against the real class by `driver tsc`) is monotone by the monotonicity of
round-to-nearest and is compared with `scaleExact` on every conversion of the correspondence stream (trusted base).

What is proved:
 (i)   between two successful resyncs the conversion is monotone in the tsc value (`C05Tsc_monotone_between_resyncs`),
       and the value a call returns never depends on the resync it may trigger (`C05Tsc_value_independent_of_reads`);
 (ii)  across a resync every tsc value is moved by exactly the drift of the old line at the new base point, up to `ε`
       (`C05Tsc_resync_shift`); hence a later tsc can be converted below an earlier one by at most `drift + ε`
       (`C05Tsc_inversion_bound`), never when the old line is behind (`C05Tsc_no_inversion_when_behind`) or when the two
       statements are further apart than `drift + ε` (`C05Tsc_no_inversion_beyond_drift`);
       **the bound is attained by the code as it is** (finding F38): `C05Tsc_backstep_witness` — one thread, grace period
       on, both statements enqueued at once: the sink receives timestamps W+1002100 then W+1001650;
       `C05Tsc_inversion_witness` — two threads: the statement whose log call began later is written first;
 (iii) per-thread order and conservation do not depend on the conversion (`C05Tsc_thread_order_any_conversion`), and the
       pop rule takes a least converted front (`C05Tsc_pop_takes_least_converted`).

       `C05Tsc_gate_needed`: the `ts_now` gate must follow the conversion for TSC loggers too (seeded change C05/m2).

NOT claimed: "the backend writes the statements of TSC loggers in non-decreasing timestamp order" across a resync — false of the
code as it is (F38, listed in known_findings.json; the check reports its input class as KNOWN-FINDING).
-/
namespace Tsc

/-- **(i)** Conversions made under the same ghost epoch (no successful resync in between) are order-preserving in the
    tsc value, in both directions, for every run of conversions and idle resyncs from every clock state. -/
theorem C05Tsc_monotone_between_resyncs {sc : Int → Int} {ε : Int} (hs : ScaleOK sc ε) (c : Clock) (ops : List COp) :
    (crun Params.code sc c ops).Pairwise (fun o1 o2 => o1.epoch = o2.epoch →
      InWin o1.base.tsc o1.tsc → InWin o1.base.tsc o2.tsc →
      (o1.tsc ≤ o2.tsc → o1.value ≤ o2.value) ∧ (o2.tsc ≤ o1.tsc → o2.value ≤ o1.value)) := by
  have hb := crun_same_epoch_same_base Params.code sc ops c
  have hall : ∀ o ∈ crun Params.code sc c ops, o.value = convAt sc o.base o.tsc := crun_value rfl sc ops c
  rw [List.pairwise_iff_forall_sublist] at hb ⊢
  intro o1 o2 hsub he w1 w2
  have e := hb hsub he
  have m1 : o1 ∈ crun Params.code sc c ops := hsub.subset (by simp)
  have m2 : o2 ∈ crun Params.code sc c ops := hsub.subset (by simp)
  rw [hall o1 m1, hall o2 m2, ← e]
  exact ⟨fun h => conv_mono hs o1.base w1 w2 h, fun h => conv_mono hs o1.base w2 w1 h⟩

/-- A call answers against the base that was current when it was entered — also the call that triggers the resync. -/
theorem C05Tsc_value_independent_of_reads (sc : Int → Int) (c : Clock) (tsc : Nat) (rs rs' : List Read) :
    (timeSinceEpoch Params.code sc c tsc rs).1 = (timeSinceEpoch Params.code sc c tsc rs').1 := by
  rw [tse_value rfl, tse_value rfl]

/-- **(ii)** A resync from base `old` to base `new` moves the converted value of every tsc by the drift
    `convAt old new.tsc - new.time` (how far the old line runs ahead of the wall clock read at the new base point), ± ε. -/
theorem C05Tsc_resync_shift {sc : Int → Int} {ε : Int} (hs : ScaleOK sc ε) (old new : Base) {t : Nat}
    (wo : InWin old.tsc t) (wn : InWin new.tsc t) (wb : InWin old.tsc new.tsc) :
    convAt sc old t - convAt sc new t ≤ drift sc old new + ε ∧ drift sc old new - ε ≤ convAt sc old t - convAt sc new t :=
  shift_bound hs old new wo wn wb

/-- How far a later statement can land below an earlier one converted before the resync. -/
theorem C05Tsc_inversion_bound {sc : Int → Int} {ε : Int} (hs : ScaleOK sc ε) (old new : Base) {t1 t2 : Nat}
    (w1 : InWin old.tsc t1) (wo : InWin old.tsc t2) (wn : InWin new.tsc t2) (wb : InWin old.tsc new.tsc) (le : t1 ≤ t2) :
    convAt sc old t1 - convAt sc new t2 ≤ drift sc old new + ε := by
  have m := conv_mono hs old w1 wo le
  have s := (shift_bound hs old new wo wn wb).1
  omega

/-- The other direction: the **earlier** statement is converted after the resync (it sat in another thread's queue), the later
    one before it — a forward step of the base (old line behind the wall clock, `drift < 0`) lifts the earlier statement above
    the later one by at most `-drift + ε`. Either sign of the drift can therefore invert two threads; only a positive drift can make
    the timestamps of ONE thread decrease. -/
theorem C05Tsc_inversion_bound_forward {sc : Int → Int} {ε : Int} (hs : ScaleOK sc ε) (old new : Base) {t1 t2 : Nat}
    (w1 : InWin old.tsc t1) (wn : InWin new.tsc t1) (w2 : InWin old.tsc t2) (wb : InWin old.tsc new.tsc) (le : t1 ≤ t2) :
    convAt sc new t1 - convAt sc old t2 ≤ -(drift sc old new) + ε := by
  have m := conv_mono hs old w1 w2 le
  have s := (shift_bound hs old new w1 wn wb).2
  omega

theorem C05Tsc_no_inversion_when_behind {sc : Int → Int} {ε : Int} (hs : ScaleOK sc ε) (old new : Base) {t1 t2 : Nat}
    (w1 : InWin old.tsc t1) (wo : InWin old.tsc t2) (wn : InWin new.tsc t2) (wb : InWin old.tsc new.tsc) (le : t1 ≤ t2)
    (hd : drift sc old new + ε ≤ 0) : convAt sc old t1 ≤ convAt sc new t2 := by
  have := C05Tsc_inversion_bound hs old new w1 wo wn wb le
  omega

theorem C05Tsc_no_inversion_beyond_drift {sc : Int → Int} {ε : Int} (hs : ScaleOK sc ε) (old new : Base) {t1 t2 : Nat}
    (wo : InWin old.tsc t1) (wn : InWin new.tsc t1) (wb : InWin old.tsc new.tsc)
    (gap : convAt sc new t1 + drift sc old new + ε ≤ convAt sc new t2) : convAt sc old t1 ≤ convAt sc new t2 := by
  have s := (shift_bound hs old new wo wn wb).1
  omega

/-- the exact rational scaling is an instance (non-vacuity of `ScaleOK`, and the reference of the `within 1 ns` check) -/
theorem C05Tsc_exact_scale_ok (num k : Nat) : ScaleOK (scaleExact num k) 1 :=
  ⟨fun _ _ => scaleExact_mono num k, fun a b => (scaleExact_add num k a b).1, fun a b => (scaleExact_add num k a b).2⟩

/-- `ns_per_tick = 1.0` -/
def sc1 : Int → Int := scaleExact 1 0

/-- the clock after its construction at `(W + 2000, 1002000)`, resync interval 1 ms = 1000000 ticks -/
def wClock : Clock :=
  { b1 := ⟨1700000000000002000, 1002000⟩, version := 1, interval := 1000000, intervalOrig := 1000000, epoch := 1 }

/-- the read of the resync: tsc 2007000, wall clock W + 1006500 (the old line says W + 1007000: drift 500 ns) -/
def wRead : Read := ⟨2007000, 1700000000001006500, 2007000⟩

/-- `ts_now` of the pass: wall clock − 1 µs grace period -/
def wNow : Option Nat := some 1700000000001005500

/-- `corpus/C05/tsc_resync_backstep.e2e.txt`: one thread logs B (tsc 2002100) and C (tsc 2002150); one pass decodes both,
    then two pops -/
def wBackstep : List POp :=
  [.decode 1 1 2002100 wNow [wRead], .decode 1 2 2002150 wNow [wRead], .pop, .pop]

/-- `corpus/C05/tsc_resync_inversion.e2e.txt`: thread 1 logs B, then thread 2 logs C -/
def wInversion : List POp :=
  [.decode 1 1 2002100 wNow [wRead], .decode 2 2 2002150 wNow [wRead], .pop, .pop]

/-- **Finding F38, one thread.** Grace period on, both statements pass the `ts_now` gate, and the sink receives B with
    W+1002100 and then C with W+1001650: the written timestamps decrease by 450 ns (= drift − 50 ticks). -/
theorem C05Tsc_backstep_witness :
    ((prun Params.code sc1 { clock := wClock } wBackstep).written.map (fun e => (e.id, e.tsc, e.ts)))
      = [(1, 2002100, 1700000000001002100), (2, 2002150, 1700000000001001650)] ∧
    drift sc1 ⟨1700000000000002000, 1002000⟩ ⟨1700000000001006500, 2007000⟩ = 500 := by
  decide +kernel

/-- **Finding F38, two threads.** Same clock values; the pop rule takes the least converted front: C (log call started at
    tsc 2002150) is written before B (tsc 2002100). -/
theorem C05Tsc_inversion_witness :
    ((prun Params.code sc1 { clock := wClock } wInversion).written.map (fun e => (e.id, e.th, e.tsc, e.ts)))
      = [(2, 2, 2002150, 1700000000001001650), (1, 1, 2002100, 1700000000001002100)] := by
  decide +kernel

/-- non-vacuity of (i)/(ii) on the witness numbers: the windows hold and the bound of `C05Tsc_inversion_bound` is met
    with 450 ≤ 500 + 1 -/
example : InWin 1002000 2002100 ∧ InWin 1002000 2002150 ∧ InWin 2007000 2002150 ∧ InWin 1002000 2007000 ∧
    convAt sc1 ⟨1700000000000002000, 1002000⟩ 2002100 - convAt sc1 ⟨1700000000001006500, 2007000⟩ 2002150 = 450 := by
  decide +kernel

/-- the schedule of `corpus/C05/tsc_gate_window.e2e.txt` with an exact conversion: inside one pass, after thread 1's queue was read,
    thread 1 logs a1 (tsc 1010100) and thread 2 logs b1 (tsc 1010600); the pass (`ts_now` = W+9000) reads thread 2's queue and
    pops; the next pass (`ts_now` = W+19000) reads both queues and pops -/
def gClock : Clock :=
  { b1 := ⟨1700000000000005000, 1005000⟩, version := 1, interval := 1000000000, intervalOrig := 1000000000, epoch := 1 }

def gPass1 : List POp := [.decode 2 2 1010600 (some 1700000000000009000) [], .pop]
def gPass2 (b1Left : Bool) : List POp :=
  [.decode 1 1 1010100 (some 1700000000000019000) []] ++
  (if b1Left then [.decode 2 2 1010600 (some 1700000000000019000) []] else []) ++ [.pop, .pop]

/-- **The gate is needed for TSC loggers.** Code as it is: b1 is newer than `ts_now`, is not consumed by the first pass, and the
    second pass writes a1 then b1. With the gate skipped for TSC loggers (`gateAfterConv = false`: the `else if` of seeded change
    C05/m2) the first pass caches and writes b1 and a1 follows it — decreasing timestamps although both statements were enqueued
    at once (the grace-period premise holds) and no resync took place. -/
theorem C05Tsc_gate_needed :
    ((prun Params.code sc1 { clock := gClock } (gPass1 ++ gPass2 true)).written.map (fun e => (e.id, e.ts)))
      = [(1, 1700000000000010100), (2, 1700000000000010600)] ∧
    ((prun { Params.code with gateAfterConv := false } sc1 { clock := gClock } (gPass1 ++ gPass2 false)).written.map
        (fun e => (e.id, e.ts))) = [(2, 1700000000000010600), (1, 1700000000000010100)] := by
  decide +kernel

/-- **(iii)** For **every** conversion function (monotone or not), every parameter record and every sequence of decodes, idle
    resyncs and pops: per thread, what was written followed by what is still buffered is exactly what was decoded and
    accepted, in decode order. Timestamps decide *which* buffer is popped next, never the order inside a thread nor whether
    a statement is written. -/
theorem C05Tsc_thread_order_any_conversion (p : Params) (sc : Int → Int) (c : Clock) (ops : List POp) (t : Nat) :
    let s := prun p sc { clock := c } ops
    s.written.filter (fun e => e.th = t) ++ s.buf t = s.accepted.filter (fun e => e.th = t) :=
  (PInv_run p sc ops _ (PInv_init c)).cons t

/-- `_process_lowest_timestamp_transit_event` compares the **converted** value stored in the transit event: the event it
    takes is a front, and no cached buffer has a front with a smaller converted value. -/
theorem C05Tsc_pop_takes_least_converted (s : Pipe) (t : Nat) (e : Ev) (h : minFront s.buf s.order none = some (t, e)) :
    (∃ r, s.buf t = e :: r) ∧ ∀ t' ∈ s.order, ∀ e' r, s.buf t' = e' :: r → e.ts ≤ e'.ts :=
  ⟨minFront_front s.buf s.order none (fun _ _ hq => by cases hq) t e h, (minFront_least s.buf s.order none t e h).2⟩

end Tsc
