import QuillModel.Props.C06
import QuillModel.Props.C03
/-!
# C03 — delivery: every accepted statement IS processed

Every theorem of `Props/C03.lean` is a safety statement (conservation, at most once, exact writes at the pop, frozen
afterwards, order): a backend that never pops satisfies all of them. "Every accepted statement is written exactly once"
also needs that every accepted statement is eventually popped. That half is proved here for the backend that keeps
polling (the exit path is `C07_exit_drains_everything`): after **any** schedule `ops` — any number of threads, exits,
injections at every hook site, any soft/hard limit — a continuation that lets the grace period pass and then polls at
least `pendingCount` times without further frontend operations leaves, for every context, `accepted = popped`, the
transit buffer empty and the queue empty. With `C03_pop_writes_exactly` / `C03_writes_frozen_after_pop` (each pop writes
once per accepting sink, nothing changes afterwards) and `C03_at_most_once` this is "exactly once".

**partial**: the continuation is *quiet* (`quietOp`: polls without injected operations and clock
ticks). Full statement, not proved: for a continuation with arbitrary frontend operations, every statement accepted
before the continuation is popped after `older` polls, where `older` counts the records with a timestamp `≤` its own —
needs per-queue timestamp monotonicity (`PI.sorted`) lifted to a measure and a non-quiet version of `poll_quiet`.
-/
namespace Backend
open Backend.PB

/-- **Delivery after a quiet drain (backend still running).** -/
theorem C03_delivered_after_quiet_drain (s0 : BSt) (h0 : StartF s0) (ops : List Op)
    (hrun : (runOps s0 ops).backendGone = false) (dt : Nat) (hdt : (runOps s0 ops).cfg.grace ≤ dt)
    (suffix : List Op) (hq : ∀ o ∈ suffix, quietOp o = true)
    (hn : pendingCount (runOps s0 ops) ≤ pollCount suffix) (i : Nat) :
    ((runOps (runOps s0 ops) (.front (.tick dt) :: suffix)).th i).accepted =
      ((runOps (runOps s0 ops) (.front (.tick dt) :: suffix)).th i).popped ∧
    ((runOps (runOps s0 ops) (.front (.tick dt) :: suffix)).th i).buf = [] ∧
    ((runOps (runOps s0 ops) (.front (.tick dt) :: suffix)).th i).qStmts = [] := by
  have hgi := (start_GI h0.start).runOps ops
  have hfi := (start_FI h0).runOps ops
  have hpg := PG.after_tick hgi hfi hrun dt hdt
  rw [runOps_cons]
  have b1 := (quiet_run suffix _ hpg hq).1
  have hall := quiet_run_empty hpg suffix hq hn i
  obtain ⟨hb, hqq⟩ := List.append_eq_nil_iff.mp hall
  exact ⟨by rw [b1.fi.cons i, hb, hqq, List.append_nil, List.append_nil], hb, hqq⟩

/-- soft limit 1 and hard limit 1 (batch mode on every poll, every queue read is cut after one record), two sinks -/
def c03TightInit : BSt :=
  { c03Init with cfg := { c03Cfg with soft := 1, hard := 1 }, sinks := [{ sid := 1 }, { sid := 2 }] }

/-- two threads, three statements, thread 0 exits before anything is processed -/
def c03TightPre : List Op :=
  [.front (.tstart 0), .front (.tstart 1), .front (.log 0 0 4 10 true), .front (.log 0 0 4 10 true),
   .front (.log 1 0 4 10 true), .front (.texit 0)]

/-- non-vacuity: the hypotheses hold on `c03TightPre` (three pending statements, so three quiet polls are enough), and the
    conclusion is what the model computes — with the hard limit at 1 and a thread that exited before its statements were
    processed: every accepted statement popped, in issue order -/
example :
    StartF c03TightInit ∧ (runOps c03TightInit c03TightPre).backendGone = false ∧
    (runOps c03TightInit c03TightPre).cfg.grace ≤ 0 ∧ pendingCount (runOps c03TightInit c03TightPre) = 3 ∧
    pollCount [.poll [], .poll [], .poll []] = 3 ∧
    (runOps (runOps c03TightInit c03TightPre) [.front (.tick 0), .poll [], .poll [], .poll []]).ths.map
      (fun t => (t.accepted.map (·.id), t.popped.map (·.id), t.buf.length, t.qStmts.length)) =
      [([0, 1], [0, 1], 0, 0), ([2], [2], 0, 0)] := by
  refine ⟨⟨⟨by decide, rfl, rfl, rfl, rfl, rfl⟩, rfl, rfl⟩, ?_⟩
  decide +kernel

end Backend
