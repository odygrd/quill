import QuillModel.Backend.LevelProofs
import QuillModel.Backend.FrontRules
/-!
# C16 — a statement reaches a sink iff its level passes logger, sink and sink filters

Quantifiers: every state of the backend model (so: every history of level changes, transit buffers, other threads),
every statement level, static (`dyn = false`) or supplied at run time (`dyn = true`), every logger level, every list
of sinks with arbitrary level thresholds, filters and fault schedules, every configuration `Cfg`.
The numeric levels are the ranks of `enum class LogLevel` (obligation `Obligations.BackendC.level_order`).
-/
namespace Backend
open PC

/-- The frontend test is the numeric comparison `statement level ≥ logger level`
    (`LoggerBase::should_log_statement`). -/
theorem C16_shouldLog_iff (stmtLvl loggerLvl : Nat) : shouldLog stmtLvl loggerLvl = true ↔ loggerLvl ≤ stmtLvl := by
  simp [shouldLog]

/-- **Below the logger's level nothing happens.** A log call (static macro or dynamic-level call) whose level is
    below the level the logger has *at the moment of the call* evaluates nothing: the observation reports `ev=0`
    (no argument was evaluated), no record is built, no thread context is created, no queue, buffer, counter or
    parked call changes — the state is the old one except for the harness' statement counter `nextId` and the
    model's note of the logger a parked call went through (`inCall`, cleared). -/
theorem C16_below_level_nothing (s : BSt) (a g lvl len : Nat) (dyn : Bool) (lgi : Nat)
    (hl : loggerOf s g = some lgi) (hi : idleActor s a = true)
    (hlv : ¬ (s.lgOf lgi).level ≤ lvl) :
    applyFront s (.log a g lvl len dyn) =
      (({ s with nextId := s.nextId + 1 } : BSt).setActor a (fun x => { x with inCall := none }),
        if dyn then s!"id={s.nextId} skip ev=0 bytes=0" else s!"id={s.nextId} ev=0 bytes=0") := by
  have hlv' : shouldLog lvl (s.lgOf lgi).level = false := decide_eq_false hlv
  have hl' : (({ s with nextId := s.nextId + 1 } : BSt).lgOf lgi).level = (s.lgOf lgi).level := rfl
  simp only [applyFront]
  rw [withLogger_eq _ hl hi, hl', hlv']
  simp only [Bool.false_eq_true, if_false]
  rw [noteCall_idle]
  obtain ⟨x, hx, hp⟩ := idle_actor (s := { s with nextId := s.nextId + 1 }) hi
  exact (congrArg (fun o => (o.map isParked).getD false) hx).trans hp

/-- in particular no thread's queue, transit buffer or history changes -/
theorem C16_below_level_threads (s : BSt) (a g lvl len : Nat) (dyn : Bool) (lgi : Nat)
    (hl : loggerOf s g = some lgi) (hi : idleActor s a = true) (hlv : ¬ (s.lgOf lgi).level ≤ lvl) :
    (applyFront s (.log a g lvl len dyn)).1.ths = s.ths := by
  rw [C16_below_level_nothing s a g lvl len dyn lgi hl hi hlv]; rfl

/-- without a usable logger handle or from a thread that is parked inside another call, nothing happens at all -/
theorem C16_no_handle_noop (s : BSt) (a g lvl len : Nat) (dyn : Bool)
    (h : loggerOf s g = none ∨ idleActor s a = false) :
    applyFront s (.log a g lvl len dyn) = (s, "noop") := by
  simp only [applyFront, withLogger]
  rcases h with h | h
  · simp only [h]
  · rw [h]; cases loggerOf s g <;> rfl

/-- **At or above the logger's level the statement is evaluated and handed to the queue** — with exactly the
    level it was given, static or dynamic (`(mkStmt …).lvl = lvl` whatever `dyn`). With `st` the record built
    from the call and `e` the caller's thread context (created on first use):
    * a caller armed to stall parks holding `st`, no thread context changes;
    * otherwise, if the queue grants the reservation, `st` (stamped with the commit clock) is appended to the
      thread's queue and `accepted` history, and no other thread is touched;
    * if the queue refuses it, nothing is appended anywhere: a dropping queue counts one discarded statement and
      the call returns, a blocking queue parks the call with the very same record for a retry. -/
theorem C16_at_level_enqueued (s : BSt) (a g lvl len : Nat) (dyn : Bool) (lgi : Nat)
    (hl : loggerOf s g = some lgi) (hi : idleActor s a = true)
    (hwf : ∀ x i, s.actor a = some x → x.ctx = some i → i < s.ths.length)
    (hlv : (s.lgOf lgi).level ≤ lvl) :
    let s1 : BSt := { s with nextId := s.nextId + 1 }
    let cont := if dyn then 0 else 5
    let st := mkStmt s1 a lgi .log lvl len dyn s.nextId false
    let e := ensureCtx s1 a
    let r := applyFront s (.log a g lvl len dyn)
    st.lvl = lvl ∧ st.id = s.nextId ∧ st.lg = lgi ∧
    (((s.actor a).map (·.stallArmed)).getD false = true →
        r.1.ths = s.ths ∧ ∀ x, r.1.actor a = some x → x.pend = .stall st cont) ∧
    (((s.actor a).map (·.stallArmed)).getD false = false →
      ((qPrepareWrite s.cfg (e.1.th e.2).q st.size).2 = true →
          (r.1.th e.2).accepted = (e.1.th e.2).accepted ++ [{ st with enqAt := s.now }] ∧
          (r.1.th e.2).qStmts = (e.1.th e.2).qStmts ++ [{ st with enqAt := s.now }] ∧
          (∀ j, j ≠ e.2 → r.1.th j = e.1.th j)) ∧
      ((qPrepareWrite s.cfg (e.1.th e.2).q st.size).2 = false →
          (∀ j, (r.1.th j).accepted = (e.1.th j).accepted ∧ (r.1.th j).qStmts = (e.1.th j).qStmts ∧
                (r.1.th j).buf = (e.1.th j).buf) ∧
          (s.cfg.dropping = true →
              (r.1.th e.2).discarded = (e.1.th e.2).discarded + 1 ∧ ∀ x, r.1.actor a = some x → x.pend = .none) ∧
          (s.cfg.dropping = false → ∀ x, r.1.actor a = some x → x.pend = .retry st cont))) := by
  intro s1 cont st e r
  have hlv' : shouldLog lvl (s1.lgOf lgi).level = true := decide_eq_true hlv
  have hc : cont = 0 ∨ cont = 5 := by cases dyn <;> simp [cont]
  have hr : r = noteCall (frontCall s1 a lgi .log lvl len cont dyn s.nextId) a g := by
    show applyFront s (.log a g lvl len dyn) = _
    simp only [applyFront]
    rw [withLogger_eq _ hl hi, hlv']; rfl
  have hwf1 : ∀ x i, s1.actor a = some x → x.ctx = some i → i < s1.ths.length := hwf
  -- the pending call of `a` after `noteCall` is the one `frontCall` left
  have hpend : ∀ (X : BSt) (b : Bool) (x : Actor),
      (X.setActor a (fun x => { x with inCall := if b then some g else none })).actor a = some x →
      ∃ y, X.actor a = some y ∧ x.pend = y.pend := by
    intro X b x hx
    obtain ⟨y, hy, rfl⟩ := actor_setActor_some hx (fun _ => rfl) (fun _ => rfl)
    exact ⟨y, hy, rfl⟩
  refine ⟨rfl, rfl, rfl, ?_, ?_⟩
  · intro hst
    have hs1 : ((s1.actor a).map (·.stallArmed)).getD false = true := hst
    rw [hr, frontCall_eq]
    simp only [hs1, if_true, noteCall]
    refine ⟨rfl, ?_⟩
    intro x hx
    obtain ⟨y, hy, hxy⟩ := hpend _ _ x hx
    rw [hxy]
    obtain ⟨z, _, rfl⟩ := actor_setActor_some hy (fun _ => rfl) (fun _ => rfl)
    rfl
  · intro hst
    have hs1 : ((s1.actor a).map (·.stallArmed)).getD false = false := hst
    have hfc : frontCall s1 a lgi .log lvl len cont dyn s.nextId = enqFlow s1 a st cont true := by
      rw [frontCall_eq]; simp only [hs1, Bool.false_eq_true, if_false]; rfl
    rw [hr, hfc]
    simp only [noteCall, th_setActor]
    refine ⟨fun hg => ?_, fun hg => ?_⟩
    · obtain ⟨h1, h2, _, h4, _⟩ := enqFlow_granted s1 a st cont true true rfl hc hwf1 hg
      exact ⟨h1, h2, h4⟩
    · obtain ⟨h1, h2, h3⟩ := enqFlow_refused s1 a st cont true true rfl hc hwf1 hg
      refine ⟨h1, fun hd => ⟨(h2 hd).1, fun x hx => ?_⟩, fun hd x hx => ?_⟩
      · obtain ⟨y, hy, hxy⟩ := hpend _ _ x hx
        rw [hxy]; exact (h2 hd).2 y hy
      · obtain ⟨y, hy, hxy⟩ := hpend _ _ x hx
        rw [hxy]; exact h3 hd y hy

/-- **Written to a sink iff that sink's threshold and filters accept it** (`_write_log_statement`). If no `write_log`
    threw, the events a statement produces are exactly one `write` per sink of the list that accepts it (`sinkAccepts`: statement
    level ≥ the sink's level filter and every filter of *that* sink accepts), in the order of the list, each
    carrying the statement's own id, level, timestamp — and nothing for the sinks that do not accept it. The
    decision for one sink reads only that sink's threshold and filter: the other sinks of the logger do not
    enter the formula. -/
theorem C16_sinks_exact (s : BSt) (st : Stmt) (sids : List Nat) (h : (writeToSinks s st sids).2 = false) :
    (writeToSinks s st sids).1.log =
      ((sids.filter (fun sid => sinkAccepts (s.sinkOf sid) st)).map (writeEv st)).reverse ++ s.log :=
  (writeToSinks_spec st sids s).elim (·.2) fun ⟨_, _, _, _, ht, _⟩ => absurd (h.symm.trans ht) Bool.false_ne_true

theorem mem_writeEvs (s : BSt) (st : Stmt) (sids : List Nat) (sid : Nat) :
    writeEv st sid ∈ ((sids.filter (fun x => sinkAccepts (s.sinkOf x) st)).map (writeEv st)).reverse ↔
      sid ∈ sids ∧ sinkAccepts (s.sinkOf sid) st = true := by
  simp only [List.mem_reverse, List.mem_map, List.mem_filter]
  constructor
  · rintro ⟨x, hx, he⟩
    have : x = sid := by simp only [writeEv] at he; injection he
    rw [← this]; exact hx
  · intro hx; exact ⟨sid, hx, rfl⟩

/-- membership form: sink `sid` is handed the statement iff it is one of the logger's sinks and accepts it -/
theorem C16_sink_iff (s : BSt) (st : Stmt) (sids : List Nat) (h : (writeToSinks s st sids).2 = false) :
    ∃ evs, (writeToSinks s st sids).1.log = evs ++ s.log ∧
      (∀ sid, writeEv st sid ∈ evs ↔ sid ∈ sids ∧ sinkAccepts (s.sinkOf sid) st = true) ∧
      (∀ e ∈ evs, ∃ sid, e = Ev.write sid st.id st.lvl st.ts st.named) := by
  refine ⟨_, C16_sinks_exact s st sids h, mem_writeEvs s st sids, ?_⟩
  · intro e he
    simp only [List.mem_reverse, List.mem_map] at he
    obtain ⟨x, _, rfl⟩ := he
    exact ⟨x, rfl⟩

/-- is this event a `write_log` call on sink `sid`? -/
def isWriteTo (sid : Nat) : Ev → Bool
  | .write k _ _ _ _ => k == sid
  | _ => false

/-- **Independence of the other sinks.** Two configurations that agree on the threshold and filter of sink `sid`
    (and differ arbitrarily in the levels and filters of the logger's other sinks) hand the statement to `sid`
    in exactly the same cases and exactly as often, as long as no sink throws. -/
theorem C16_sink_independent (s s' : BSt) (st : Stmt) (sids : List Nat) (sid : Nat)
    (h : (writeToSinks s st sids).2 = false) (h' : (writeToSinks s' st sids).2 = false)
    (hsame : sinkAccepts (s.sinkOf sid) st = sinkAccepts (s'.sinkOf sid) st) :
    ∃ evs evs', (writeToSinks s st sids).1.log = evs ++ s.log ∧ (writeToSinks s' st sids).1.log = evs' ++ s'.log ∧
      (writeEv st sid ∈ evs ↔ writeEv st sid ∈ evs') ∧
      evs.countP (isWriteTo sid) = evs'.countP (isWriteTo sid) ∧
      evs.countP (isWriteTo sid) = if sinkAccepts (s.sinkOf sid) st then sids.count sid else 0 := by
  refine ⟨_, _, C16_sinks_exact s st sids h, C16_sinks_exact s' st sids h', ?_, ?_⟩
  · rw [mem_writeEvs s, mem_writeEvs s', hsame]
  · have cnt : ∀ (t : BSt), (((sids.filter (fun x => sinkAccepts (t.sinkOf x) st)).map (writeEv st)).reverse).countP (isWriteTo sid) =
        if sinkAccepts (t.sinkOf sid) st then sids.count sid else 0 := by
      intro t
      have hcomp : (isWriteTo sid ∘ writeEv st) = (· == sid) := by funext x; rfl
      rw [List.countP_reverse, List.countP_map, hcomp]
      show List.count sid _ = _
      cases ht : sinkAccepts (t.sinkOf sid) st
      · simp only [Bool.false_eq_true, if_false]
        apply List.count_eq_zero.mpr
        intro hm
        rw [List.mem_filter, ht] at hm
        exact Bool.false_ne_true hm.2
      · simp only [if_true]
        exact List.count_filter (by simpa using ht)
    exact ⟨by rw [cnt s, cnt s', hsame], cnt s⟩

/-- **A throwing sink cuts the rest off, and only the rest.** For a sink list `pre ++ sid :: post`: if a
    `write_log` of `pre` threw, nothing at all is handed to `sid` and `post`; otherwise the sinks of `pre` were
    served exactly as in `C16_sinks_exact`, the decision for `sid` is still the one of its own threshold and
    filters (nothing `pre` did changed them), a refusing `sid` is skipped without a trace, an accepting one is
    called once — and either receives the statement or throws, which ends the loop. -/
theorem C16_sink_prefix (s : BSt) (st : Stmt) (pre post : List Nat) (sid : Nat) :
    let r := writeToSinks s st pre
    (r.2 = true → writeToSinks s st (pre ++ sid :: post) = r) ∧
    (r.2 = false →
      r.1.log = ((pre.filter (fun x => sinkAccepts (s.sinkOf x) st)).map (writeEv st)).reverse ++ s.log ∧
      sinkAccepts (r.1.sinkOf sid) st = sinkAccepts (s.sinkOf sid) st ∧
      (sinkAccepts (s.sinkOf sid) st = false →
          writeToSinks s st (pre ++ sid :: post) = writeToSinks r.1 st post) ∧
      (sinkAccepts (s.sinkOf sid) st = true →
        let k := r.1.sinkOf sid
        let r1 := r.1.setSink sid (fun _ => { k with wcalls := k.wcalls + 1 })
        (throwsAt k.wthrow (k.wcalls + 1) = true →
            writeToSinks s st (pre ++ sid :: post) = (r1.emit (.wthrow sid st.id), true)) ∧
        (throwsAt k.wthrow (k.wcalls + 1) = false →
            writeToSinks s st (pre ++ sid :: post) = writeToSinks (r1.emit (writeEv st sid)) st post))) := by
  have hex := C16_sinks_exact s st pre
  have hacc := sinkAccepts_cfgEq (writeToSinks_cfgEq st pre s sid) st
  rw [writeToSinks_append st pre (sid :: post) s]
  generalize writeToSinks s st pre = r at hex hacc ⊢
  dsimp only
  refine ⟨fun h => if_pos h, fun h => ?_⟩
  rw [if_neg (by rw [h]; decide), ← hacc]
  refine ⟨hex h, rfl, fun ha => ?_, fun ha => ⟨fun ht => ?_, fun ht => ?_⟩⟩
  · simp only [writeToSinks, ha, Bool.false_eq_true, if_false]
  · simp only [writeToSinks, ha, ht, if_true]
  · simp only [writeToSinks, ha, ht, Bool.false_eq_true, if_false, if_true]; rfl

/-- **The level reported is the statement's own**, faults or not: every event `_write_log_statement` produces for
    a statement is a `write` carrying that statement's id and level (`st.lvl`: the macro's level for a static
    statement, the level passed at run time for a dynamic one — the record keeps the one it was given, see
    `C16_at_level_enqueued`), or the record of a throwing `write_log` for that statement. Nothing depends on what
    the transit buffers held before. -/
theorem C16_level_reported (st : Stmt) : ∀ (sids : List Nat) (s : BSt),
    ∃ evs, (writeToSinks s st sids).1.log = evs ++ s.log ∧
      ∀ e ∈ evs, (∃ sid, e = Ev.write sid st.id st.lvl st.ts st.named) ∨ (∃ sid, e = Ev.wthrow sid st.id) :=
  fun sids s => (writeToSinks_log st sids s).mono fun _ ⟨sid, _, h⟩ => h.elim (fun h => .inl ⟨sid, h⟩) (fun h => .inr ⟨sid, h⟩)

/-- an ordinary statement of a logger without backtrace storage is dispatched to the logger's sinks and nothing
    else happens to the state (`_process_transit_event`, `Log` branch) -/
theorem C16_process_is_dispatch (s : BSt) (st : Stmt) (hk : st.kind = .log) (hl : st.lvl ≠ 9)
    (hnb : ((writeToSinks s st (s.lgOf st.lg).sinks).1.lgOf st.lg).bt = none) :
    (processEvent s st).1 = (writeToSinks s st (s.lgOf st.lg).sinks).1 := by
  have h := processEvent_shape s st
  generalize processEvent s st = r at h ⊢
  cases h with
  | writeFail | plain => rfl
  | replay _ _ _ hb =>
    have hnb' : ((dispatch s st).1.lgOf st.lg).bt = none := hnb
    rw [hnb'] at hb; cases hb.2
  | store _ hl' | noRing _ hl' => exact absurd hl' hl
  | initBt hk' | flushBt hk' | flush hk' | removal hk' => rw [hk] at hk'; cases hk'

def c16Cfg : Cfg :=
  { dropping := false, qcap := 256, grace := 0, soft := 100, hard := 1000, hdr := 32, strOverhead := 4,
    batchPct := 5,
    qp := { wStore := .release, wLoad := .acquire, rStore := .release, rLoad := .acquire, drainPublish := true },
    invalidBits := 32, refreshAfterSample := true, catchAllFormat := true, reportBeforeFlushCleanup := true }

/-- logger 0 at level Info(4) with two sinks: sink 0 unfiltered, sink 1 with threshold Warning(6) -/
def c16Init : BSt :=
  { cfg := c16Cfg, now := 1000, sinks := [{ sid := 0 }, { sid := 1, lvl := 6 }],
    lgs := [{ gid := 0, sinks := [0, 1] }], names := [(0, 0)] }

def c16Writes : Ev → Option (Nat × Nat × Nat)
  | .write sid id lvl _ _ => some (sid, id, lvl)
  | _ => none

/-- Debug(3) static: skipped; Info(4) dynamic: only sink 0; Error(7) static: both sinks; then the logger is
    raised to Error and a dynamic Warning(6) is skipped while a dynamic Critical(8) passes -/
example :
    (runOps c16Init [.front (.tstart 0), .front (.log 0 0 3 8 false), .front (.log 0 0 4 8 true),
        .front (.log 0 0 7 8 false), .poll [], .poll [], .front (.setLevel 0 7), .front (.log 0 0 6 8 true),
        .front (.log 0 0 8 8 true), .poll []]).log.filterMap c16Writes
      = [(1, 4, 8), (0, 4, 8), (1, 2, 7), (0, 2, 7), (0, 1, 4)] := by decide +kernel

/-- the hypotheses of `C16_below_level_nothing` / `C16_at_level_enqueued` are met by a concrete state -/
example :
    let s := runOps c16Init [.front (.tstart 0)]
    loggerOf s 0 = some 0 ∧ idleActor s 0 = true ∧ ¬ (s.lgOf 0).level ≤ 3 ∧ (s.lgOf 0).level ≤ 4 ∧
    (∀ x i, s.actor 0 = some x → x.ctx = some i → i < s.ths.length) := by
  refine ⟨by decide +kernel, by decide +kernel, by decide +kernel, by decide +kernel, ?_⟩
  intro x i hx hi
  have h : ((runOps c16Init [.front (.tstart 0)]).actor 0).bind (·.ctx) = none := by decide +kernel
  rw [hx, Option.bind_some, hi] at h
  cases h

/-- and of the sink theorems: a statement of level Info(4) goes to sink 0 only, no exception -/
example :
    let st : Stmt := { id := 7, kind := .log, lg := 0, lvl := 4, ts := 5, size := 40, actor := 0 }
    (writeToSinks c16Init st [0, 1]).2 = false ∧ sinkAccepts (c16Init.sinkOf 0) st = true ∧
      sinkAccepts (c16Init.sinkOf 1) st = false := by decide +kernel

end Backend
