import QuillModel.Props.C15Schedule
import QuillModel.Props.C14Dated
/-!
# C15 — across restarts, and the composition with size rotation and the backup limit on one history

* `C15_separates_across_restarts` / `C15_not_due_across_restarts`: `C15_separates_on_schedule` / `C15_not_due_on_schedule`
  (Props/C15Schedule.lean) speak about the writes after one start on an arbitrary directory. Here the start is the last
  restart of **any** history (earlier runs with other schedules, limits, backup counts): the schedule that counts is the
  one configured at that restart, anchored at its start instant — as in the code, which recomputes
  `_next_rotation_time` in the constructor.
* `C15_composition_index`, `C15_composition_dated`: time rotation, size rotation and the backup limit together on one
  history of writes and append-mode restarts (every write may trigger either rotation; nothing in the premises restricts
  the frequency): the order of the names is the write order (`IndexInv` / `DatedInv`), nothing is reordered, and what is
  missing from the retained sequence is exactly the whole oldest files removed write by write (`droppedRun`) — nothing at
  all when overwriting is never on (`C15_composes_with_C14` in Props/C15.lean is the pair of the C14 theorems).
-/
namespace Rot

/-- **separation against the schedule of the last restart, after any history** -/
theorem C15_separates_across_restarts (P : Params) (hP : P.advancesFromSchedule = true) (z : Nat → Int) (w0 : World)
    (ops0 : List Op) (c : Cfg) (start : Nat) (hc : CfgOK c) (hf : c.freq ≠ .disabled) (l : List (Stmt × Nat)) (st : Stmt)
    (ts k : Nat) (hk : ∀ t ∈ l.map (·.2), t < initialRot z c start + k * period c)
    (hle : initialRot z c start + k * period c ≤ ts)
    (hns : stopped (run P z w0 (ops0 ++ .restart c start :: writeOps l)).sink = false) :
    ∃ pre, (write P z (run P z w0 (ops0 ++ .restart c start :: writeOps l)) st ts).fs.get curName = some (pre ++ [st]) ∧
      bytes pre = 0 := by
  rw [run_append_restart] at hns ⊢
  exact C15_separates_on_schedule P hP z _ c start hc hf l st ts k hk hle hns

/-- **sharing against the schedule of the last restart, after any history** -/
theorem C15_not_due_across_restarts (P : Params) (hP : P.advancesFromSchedule = true) (z : Nat → Int) (w0 : World)
    (ops0 : List Op) (c : Cfg) (start : Nat) (hc : CfgOK c) (hf : c.freq ≠ .disabled) (l : List (Stmt × Nat)) (ts : Nat)
    (hno : ∀ k, (∀ t ∈ l.map (·.2), t < initialRot z c start + k * period c) → ts < initialRot z c start + k * period c) :
    ¬ timeDue (run P z w0 (ops0 ++ .restart c start :: writeOps l)) ts := by
  rw [run_append_restart]
  exact C15_not_due_on_schedule P hP z _ c start hc hf l ts hno

/-- **Composition, Index scheme.** Any start (`DirOK`, `RestartOK`), any history of writes — each of which may rotate by
    time, by size, or not at all, and delete by the backup limit — and append-mode restarts with any other settings:
    the invariant holds (names in strictly decreasing index = oldest → newest), the content at the start followed by
    everything written equals what the writes removed (whole oldest files, `write_dropped`) followed by what is retained
    — so nothing is reordered and nothing else is lost —, and if overwriting is never on nothing is removed. -/
theorem C15_composition_index (P : Params) (z : Nat → Int) (fs0 : FS) (hd : DirOK fs0) (c0 : Cfg) (start0 : Nat)
    (hc0 : RestartOK c0) (ops : List Op) (hops : ∀ op ∈ ops, OpAppend op) :
    let w0 := restart z fs0 c0 start0
    IndexInv (run P z w0 ops) ∧
      diskSeq w0 ++ written ops = droppedRun P z w0 ops ++ diskSeq (run P z w0 ops) ∧
      (NoOverwrite c0 ops → droppedRun P z w0 ops = []) := by
  intro w0
  have h0 : IndexInv w0 := restart_inv z fs0 c0 start0 hd hc0
  have heq := C14_index_sequence_eq P z ops w0 h0 hops
  exact ⟨run_inv P z ops w0 h0 (fun o ho => (hops o ho).ok), heq, droppedRun_nil P z ops w0 h0 hops⟩

/-- **Composition, Date / DateAndTime** (premise `DatedHistOK`, append-mode restarts): the dated invariant (deque order =
    name order), the retained tracked sequence is the written one minus a prefix, and with overwriting off a write removes
    nothing (`C14_dated_write_keeps_all_without_overwrite`); what leaves the bookkeeping at a restart stays on disk
    (`C14_dated_untracked_untouched`). -/
theorem C15_composition_dated (P : Params) (z : Nat → Int) (w : World) (h : DatedInv z w) (ops : List Op)
    (hok : DatedHistOK P z w ops) (ha : AppendOnly ops) :
    DatedInv z (run P z w ops) ∧ diskSeq (run P z w ops) <:+ diskSeq w ++ written ops :=
  ⟨C14_dated_invariant P z ops w h hok, C14_dated_sequence P z ops w h hok ha⟩

/-- non-vacuity: minutely rotation + a 10-byte limit + two backups, overwriting on — a size rotation, a time rotation at
    the minute, and a deletion happen in one history; the equation shows statement 1's file as the only thing removed -/
example :
    let c : Cfg := { limit := 10, maxBackup := 2, append := true, freq := .minutely, interval := 1 }
    let ops : List Op := [.write ⟨1, 8⟩ 1, .write ⟨2, 8⟩ 2, .write ⟨3, 1⟩ (60 * NS), .write ⟨4, 8⟩ (60 * NS + 1),
      .write ⟨5, 8⟩ (60 * NS + 2)]
    let w0 := restart zGmt [] c 0
    droppedRun Params.repaired zGmt w0 ops = [⟨1, 8⟩] ∧
      diskSeq (run Params.repaired zGmt w0 ops) = [⟨2, 8⟩, ⟨3, 1⟩, ⟨4, 8⟩, ⟨5, 8⟩] ∧
      (run Params.repaired zGmt w0 ops).fs.get (.file none 1) = some [⟨3, 1⟩, ⟨4, 8⟩] ∧
      (run Params.repaired zGmt w0 ops).sink.created.length = 3 := by
  decide +kernel

end Rot
