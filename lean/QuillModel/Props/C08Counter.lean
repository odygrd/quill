import QuillModel.Reg.Proofs
/-!
# C08 (part) — the failure counter: what the backend reports adds up to what the frontend counted

"the discard counts reported through the error notifier add up to the number of discarded statements": a refused
statement bumps `ThreadContext::_failure_counter` (`increment_failure_counter`, `fetch_add`); the backend's
`_check_failure_counter` calls `get_and_reset_failure_counter` (`load`; zero → 0; else `exchange(0)`) and passes a non-zero
result to the notifier. The end-to-end model (`Backend/`) treats both as atomic; this file justifies that for every
interleaving of the individual atomic accesses and every legal stale load of the backend's test.

Premise (`CfgOK`, decidable, discharged for the extraction in `Obligations/Counter.lean`): the increment is one
read-modify-write and the reset is an `exchange(0)` whose result is what is returned. No memory-order premise: a
read-modify-write reads the newest store whatever its order. The relaxed test load may be stale — it can only delay a
report (return 0 although the counter is non-zero), never lose or duplicate a count.
-/
namespace Ctr

/-- **Conservation.** For every interleaving of any number of incrementing threads with the backend, and every stale
    load: (sum of the values returned by `get_and_reset_failure_counter` so far) + (newest value of the counter)
    = (number of completed increments). -/
theorem C08_counter_conservation (c : Cfg) (hc : CfgOK c) (ops : List Op) :
    (run c {} ops).returns.sum + newest (run c {} ops).hist = (run c {} ops).incs :=
  reachable_inv c hc ops _ init_inv

/-- **Nothing is left behind.** From any reachable state in which the backend is between two calls: one more whole call
    whose test load returns the newest store returns everything that is pending — afterwards the values returned add up
    to the number of increments, and the counter is zero. -/
theorem C08_counter_final_pass (c : Cfg) (hc : CfgOK c) (ops : List Op) (hb : (run c {} ops).bpend = none) :
    (getSolo c (run c {} ops)).returns.sum = (run c {} ops).incs ∧ newest (getSolo c (run c {} ops)).hist = 0 ∧
      (getSolo c (run c {} ops)).incs = (run c {} ops).incs := by
  have h := C08_counter_conservation c hc ops
  generalize run c {} ops = s at *
  unfold getSolo
  simp only [step, hb]
  by_cases hp : c.preLoad = true
  · simp only [hp, if_true]
    by_cases hz : valAt s.hist (s.hist.length - 1) = 0
    · simp only [hz, if_true, Option.isSome_none, Bool.false_eq_true, if_false]
      rw [valAt_last] at hz
      simp only [List.sum_append, List.sum_cons, List.sum_nil]
      refine ⟨by omega, hz, trivial⟩
    · simp only [hz, if_false, Option.isSome_some, if_true, reset, hc.2, newest_append, List.sum_append,
        List.sum_cons, List.sum_nil]
      refine ⟨by omega, trivial, trivial⟩
  · simp only [hp, Bool.false_eq_true, if_false, reset, hc.2, if_true, Option.isSome_none, newest_append,
      List.sum_append, List.sum_cons, List.sum_nil]
    refine ⟨by omega, trivial, trivial⟩

/-- the seeded change "load; `store(0)`; return the loaded value": an increment that lands between the load and the
    store is lost (2 increments, 1 reported, counter 0) -/
theorem C08_load_store_loses_increment :
    let c : Cfg := { incRmw := true, preLoad := true, resetXchg := false }
    let sched : List Op := [.inc 0 0, .get 1, .inc 0 0, .get 0]
    let s := run c {} sched
    ¬ CfgOK c ∧ Run c {} sched ∧ s.incs = 2 ∧ s.returns = [1] ∧ newest s.hist = 0 ∧ s.bpend = none := by decide +kernel

/-- an increment by load + store races with the backend's `exchange`: one increment is counted twice
    (2 increments; 1 reported, counter 2) -/
theorem C08_nonatomic_increment_duplicates :
    let c : Cfg := { incRmw := false, preLoad := true, resetXchg := true }
    let sched : List Op := [.inc 0 0, .inc 0 0, .inc 0 1, .get 1, .get 0, .inc 0 0]
    let s := run c {} sched
    ¬ CfgOK c ∧ Run c {} sched ∧ s.incs = 2 ∧ s.returns = [1] ∧ newest s.hist = 2 := by decide +kernel

example : CfgOK code ∧ CfgOK { incRmw := true, preLoad := false, resetXchg := true } := by decide +kernel

/-- two incrementing threads, a stale test load (reads the initial 0 while the counter is 2: returns 0), a report of 3, an
    increment between the test load and the `exchange`, a residue of 1 -/
example :
    let sched : List Op := [.inc 0 0, .inc 1 0, .get 0, .get 2, .inc 0 0, .get 0, .inc 1 0, .get 4]
    let s := run code {} sched
    Run code {} sched ∧ s.returns = [0, 3, 0] ∧ s.incs = 4 ∧ newest s.hist = 1 ∧ (getSolo code s).returns.sum = 4 := by
  decide +kernel

end Ctr
