import QuillModel.Props.C10Replay
import QuillModel.Backend.LiftNote
/-!
# C10 — every sink fault is reported exactly once, over whole runs

`C10_write_fault_reported` / `C10_flush_fault_reported` (Props/C10.lean) are statements about one processing step. Here the
same is tied to the OBSERVABLE event log of every run: in the whole history of `runOps s0 ops` — every schedule, frontend
operations injected at every hook site, backtrace replays under both values of `replayCatchesPerEvent`, the exit drain —

* the number of `write_log` faults (`Ev.wthrow`) equals the number of `n:wfail` notifications (`C10_write_faults_reported_once`),
* the number of `flush_sink` faults (`Ev.fthrow`) equals the number of `n:ffail` notifications (`C10_flush_faults_reported_once`),

from any state with an empty history (`…_from`: from any state the *difference* is constant). Method: the balance skeleton
`Backend/LiftBal.lean` (`PC.bal_runOps`: a signed weight on events that cancels on each group of events the machine emits
together is constant along every schedule). The `n:fmterr` notification of a statement whose formatting throws
(`Props/C10Format.lean`) weighs nothing here.
-/
namespace Backend
open Backend.PC

def isWthrow : Ev → Bool
  | .wthrow .. => true
  | _ => false

def isFthrow : Ev → Bool
  | .fthrow _ => true
  | _ => false

def isNote (w : String) : Ev → Bool
  | .notify m => m == w
  | _ => false

/-- `+1` for a fault event, `-1` for its notification -/
def faultWt (p q : Ev → Bool) : Wt :=
  { d := fun e => (if p e then 1 else 0) - (if q e then 1 else 0), b := 0 }

theorem faultWt_sum (p q : Ev → Bool) (l : List Ev) :
    (faultWt p q).sum l = (l.countP p : Int) - (l.countP q : Int) :=
  Wt.sum_eq (faultWt p q) (fun l => (l.countP p : Int) - (l.countP q : Int)) rfl (fun e l => by
    show ((e :: l).countP p : Int) - ((e :: l).countP q : Int) =
      (if p e then 1 else 0) - (if q e then 1 else 0) + ((l.countP p : Int) - (l.countP q : Int))
    rw [List.countP_cons, List.countP_cons]
    cases p e <;> cases q e <;> simp <;> omega) l

theorem faultWt_note_ne (p : Ev → Bool) {w m : String} (hp : p (.notify m) = false) (h : m ≠ w) :
    (faultWt p (isNote w)).d (.notify m) = 0 := by
  simp [faultWt, isNote, hp, h]

theorem faultWt_note_self (p : Ev → Bool) (w : String) (hp : p (.notify w) = false) :
    (faultWt p (isNote w)).d (.notify w) = -1 := by
  simp [faultWt, isNote, hp]

/- The weight of an event that is no notification is decided by its constructor (`rfl`). -/
theorem wfaultWt_ok : WtOK (faultWt isWthrow (isNote "n:wfail")) where
  inj := fun _ _ _ _ => rfl
  dtor := fun _ => rfl
  write := fun _ _ _ _ _ => rfl
  flushed := fun _ => rfl
  ffail := fun _ => (Int.zero_add _).trans (faultWt_note_ne _ rfl (by decide +kernel))
  wfail := fun _ _ => congrArg (1 + ·) (faultWt_note_self _ _ rfl)
  nobt := faultWt_note_ne _ rfl (by decide +kernel)
  fmterr := faultWt_note_ne _ rfl (by decide +kernel)
  report := fun dr n a _ => by
    rw [faultWt_note_ne _ rfl (reportStr_ne dr n a).1]
    exact (Int.zero_add _).trans (Int.zero_mul _)

theorem ffaultWt_ok : WtOK (faultWt isFthrow (isNote "n:ffail")) where
  inj := fun _ _ _ _ => rfl
  dtor := fun _ => rfl
  write := fun _ _ _ _ _ => rfl
  flushed := fun _ => rfl
  ffail := fun _ => congrArg (1 + ·) (faultWt_note_self _ _ rfl)
  wfail := fun _ _ => (Int.zero_add _).trans (faultWt_note_ne _ rfl (by decide +kernel))
  nobt := faultWt_note_ne _ rfl (by decide +kernel)
  fmterr := faultWt_note_ne _ rfl (by decide +kernel)
  report := fun dr n a _ => by
    rw [faultWt_note_ne _ rfl (reportStr_ne dr n a).2]
    exact (Int.zero_add _).trans (Int.zero_mul _)

theorem faultWt_runOps {p q : Ev → Bool} (hW : WtOK (faultWt p q)) (s : BSt) (ops : List Op) :
    (((runOps s ops).log.countP p : Nat) : Int) - ((runOps s ops).log.countP q : Nat) =
      ((s.log.countP p : Nat) : Int) - (s.log.countP q : Nat) := by
  have h := bal_runOps hW s ops
  simp only [bal, faultWt_sum] at h
  simp only [faultWt] at h
  omega

/-- **Write faults and their reports, from any state.** Along every schedule the difference between the number of
    `write_log` faults and the number of `n:wfail` notifications in the whole event log does not change. -/
theorem C10_write_faults_reported_once_from (s : BSt) (ops : List Op) :
    (((runOps s ops).log.countP isWthrow : Nat) : Int) - ((runOps s ops).log.countP (isNote "n:wfail") : Nat) =
      ((s.log.countP isWthrow : Nat) : Int) - (s.log.countP (isNote "n:wfail") : Nat) :=
  faultWt_runOps wfaultWt_ok s ops

/-- **Every write fault is reported exactly once.** From an empty history, after every schedule, the event log holds
    exactly as many `n:wfail` notifications as `write_log` faults (`Ev.wthrow`), whichever path the fault took: an ordinary
    dispatch, a backtrace replay triggered by a flush-level statement or by `flush_backtrace()`, with or without the
    per-event catch of the replay, inside a batch or the exit drain. -/
theorem C10_write_faults_reported_once (s0 : BSt) (hl : s0.log = []) (ops : List Op) :
    (runOps s0 ops).log.countP isWthrow = (runOps s0 ops).log.countP (isNote "n:wfail") := by
  have h := C10_write_faults_reported_once_from s0 ops
  rw [hl] at h
  simp only [List.countP_nil] at h
  omega

theorem C10_flush_faults_reported_once_from (s : BSt) (ops : List Op) :
    (((runOps s ops).log.countP isFthrow : Nat) : Int) - ((runOps s ops).log.countP (isNote "n:ffail") : Nat) =
      ((s.log.countP isFthrow : Nat) : Int) - (s.log.countP (isNote "n:ffail") : Nat) :=
  faultWt_runOps ffaultWt_ok s ops

/-- **Every flush fault is reported exactly once**: as many `n:ffail` notifications as `flush_sink` faults (`Ev.fthrow`)
    in the whole event log of every run (idle-pass flushes, `flush_log` events, the final flush of the exit drain). -/
theorem C10_flush_faults_reported_once (s0 : BSt) (hl : s0.log = []) (ops : List Op) :
    (runOps s0 ops).log.countP isFthrow = (runOps s0 ops).log.countP (isNote "n:ffail") := by
  have h := C10_flush_faults_reported_once_from s0 ops
  rw [hl] at h
  simp only [List.countP_nil] at h
  omega

/-- non-vacuity: the fault schedule of `Props/C10.lean` (sink 1 throws on its 2nd write and 1st flush, sink 2 on its 1st
    write) starts from an empty history and leaves two write faults and one flush fault in the log, each reported -/
example : c10Init.log = [] ∧ (runOps c10Init c10Sched).log.countP isWthrow = 2 ∧
    (runOps c10Init c10Sched).log.countP (isNote "n:wfail") = 2 ∧
    (runOps c10Init c10Sched).log.countP isFthrow = 1 ∧ (runOps c10Init c10Sched).log.countP (isNote "n:ffail") = 1 := by
  refine ⟨rfl, ?_⟩
  decide +kernel

/-- non-vacuity on a backtrace replay (both values of the repair flag): the sink throws on the 2nd replayed statement -/
example : (runOps (c10ReplayInit true) c10ReplaySched).log.countP isWthrow = 1 ∧
    (runOps (c10ReplayInit true) c10ReplaySched).log.countP (isNote "n:wfail") = 1 ∧
    (runOps (c10ReplayInit false) c10ReplaySched).log.countP isWthrow =
      (runOps (c10ReplayInit false) c10ReplaySched).log.countP (isNote "n:wfail") ∧
    0 < (runOps (c10ReplayInit false) c10ReplaySched).log.countP isWthrow := by
  decide +kernel

end Backend
