import QuillModel.NamedArgs.Json
/-!
# C19 / C10 — a throwing JSON sink leaves nothing behind

C19 "one JSON object per line" and C10 "a throwing sink disturbs nothing else: every other statement is still delivered
intact", for the JSON sinks: `JsonSink::write_log` builds every line in the member buffer `_json_message`; the record is
appended by the virtual `generate_json_message` (a documented customisation point), the base `write_log` runs the
`before_write` hook and `fwrite`. Either may throw; the backend reports the exception and goes on. The theorems say
that with the buffer emptied at the START of `write_log` (extracted: `clearBefore`; obligation
`named_json_clear_before_generate`) the file is, for every sequence of statements and every fault schedule, exactly the
lines of the statements that did not fault. Model: `Named.jsonWrite` (`NamedArgs/Model.lean`).
-/
namespace Named

theorem jsonWrite_clearFirst (p : JSinkParams) (hp : p.clearBefore = true) (s : JSink) (record : Str) (f : JFault) :
    (jsonWrite p s record f).file = s.file ++ (if f = .none then record ++ ['}', '\n'] else []) ∧
    (jsonWrite p s record f).reports = s.reports + (if f = .none then 0 else 1) := by
  cases f <;> cases hc : p.clearAfter <;>
    simp [jsonWrite, hp, hc, JSink.clear, JSink.generate, JSink.write, JSink.report]

/-- **the next statement starts from an empty buffer**: whatever an earlier (faulted or not) statement left in
    `_json_message` has no influence on what `write_log` does -/
theorem C19_json_write_ignores_leftover (p : JSinkParams) (hp : p.clearBefore = true) (s : JSink) (leftover : Str)
    (record : Str) (f : JFault) :
    jsonWrite p { s with buf := leftover } record f = jsonWrite p s record f := by
  simp [jsonWrite, hp, JSink.clear]

theorem runRecords_clearFirst (p : JSinkParams) (hp : p.clearBefore = true) :
    ∀ (rs : List (Str × JFault)) (s : JSink),
      (runRecords p s rs).file =
        s.file ++ (rs.filter (fun rf => decide (rf.2 = .none))).flatMap (fun rf => rf.1 ++ ['}', '\n']) ∧
      (runRecords p s rs).reports = s.reports + (rs.filter (fun rf => decide (rf.2 ≠ .none))).length
  | [], s => by simp [runRecords]
  | rf :: rest, s => by
    obtain ⟨h1, h2⟩ := runRecords_clearFirst p hp rest (jsonWrite p s rf.1 rf.2)
    obtain ⟨w1, w2⟩ := jsonWrite_clearFirst p hp s rf.1 rf.2
    simp only [runRecords, h1, h2, w1, w2]
    by_cases hf : rf.2 = .none
    · simp [hf]
    · simp [hf]; omega

/-- **C19/C10, faults leave nothing behind.** For every sequence of statements and every fault schedule
    (`generate_json_message` throwing after any number of bytes of the record, or the base write throwing), with the
    buffer emptied before `generate_json_message`: the file content is the concatenation, in order, of the lines of the
    statements that did not fault — each exactly `jsonLine` of that statement (`C19_json_members`: one object with its
    own header and pairs, one line) —, nothing of a faulted statement is in it, and every fault was reported once. -/
theorem C19_json_faults_leave_nothing (layout : List (Str × HdrField)) (p : JSinkParams) (hp : p.clearBefore = true)
    (stmts : List JStmt) :
    (runJson layout p {} stmts).file =
      (stmts.filter (fun st => decide (st.fault = .none))).flatMap (fun st => jsonLine layout st.h st.tmpl st.pairs) ∧
    (runJson layout p {} stmts).reports = (stmts.filter (fun st => decide (st.fault ≠ .none))).length := by
  obtain ⟨h1, h2⟩ := runRecords_clearFirst p hp
    (stmts.map (fun st => (jsonRecord layout st.h st.tmpl st.pairs, st.fault))) {}
  refine ⟨?_, ?_⟩
  · rw [runJson, h1]
    simp only [List.nil_append, List.filter_map, List.flatMap_map, Function.comp_def, jsonLine_eq_record]
  · rw [runJson, h2]
    simp only [Nat.zero_add, List.filter_map, List.length_map, Function.comp_def]

/-- … from any state of the sink (any leftover in the buffer), for the statements that follow -/
theorem C19_json_faults_leave_nothing_from (layout : List (Str × HdrField)) (p : JSinkParams) (hp : p.clearBefore = true)
    (s : JSink) (stmts : List JStmt) :
    (runJson layout p s stmts).file =
      s.file ++ (stmts.filter (fun st => decide (st.fault = .none))).flatMap (fun st => jsonLine layout st.h st.tmpl st.pairs) := by
  obtain ⟨h1, _⟩ := runRecords_clearFirst p hp
    (stmts.map (fun st => (jsonRecord layout st.h st.tmpl st.pairs, st.fault))) s
  rw [runJson, h1]
  simp only [List.filter_map, List.flatMap_map, Function.comp_def, jsonLine_eq_record]

/-- non-vacuity: five statements, faults of all three kinds at 2, 3 and 5 -/
example :
    let h : Hdr := { timestamp := ['7'], fileName := ['f'], line := ['1'], threadId := ['2'], logger := ['l'], logLevel := ['I'] }
    let st (v : Char) (f : JFault) : JStmt := { h := h, tmpl := "m {x}".toList, pairs := some [(['x'], [v])], fault := f }
    let layout : List (Str × HdrField) := [("t".toList, .timestamp), ("message".toList, .messageFormat)]
    String.ofList (runJson layout {} {} [st 'a' .none, st 'b' (.generate 9), st 'c' .write, st 'd' .none, st 'e' (.generate 99)]).file
      = "{\"t\":\"7\",\"message\":\"m {x}\",\"x\":\"a\"}\n{\"t\":\"7\",\"message\":\"m {x}\",\"x\":\"d\"}\n" ∧
    (runJson layout {} {} [st 'a' .none, st 'b' (.generate 9), st 'c' .write, st 'd' .none, st 'e' (.generate 99)]).reports = 3 := by
  intro h st layout
  refine ⟨congrArg String.ofList ?_, ?_⟩
  · decide +kernel
  · decide +kernel

/-- **negative witness (the buffer emptied after the write instead of before it, seeded change `C10_m3`)**: an
    override that throws after 4 bytes of its record leaves them in the buffer; they are glued in front of the NEXT
    statement's record — that line is not one JSON object and holds a fragment of the statement reported as failed -/
theorem C19_json_clear_after_leaks_partial_record :
    let p : JSinkParams := { clearBefore := false, clearAfter := true }
    let rs : List (Str × JFault) := [("{\"a\":\"1\"".toList, .generate 4), ("{\"b\":\"2\"".toList, .none)]
    String.ofList (runRecords p {} rs).file = "{\"a\"{\"b\":\"2\"}\n" ∧
    String.ofList (runRecords {} {} rs).file = "{\"b\":\"2\"}\n" := by decide +kernel

/-- … and when the base write throws (the `before_write` hook, `fwrite`), the complete line of the failed statement is
    sent again together with the next one -/
theorem C19_json_clear_after_resends_failed_line :
    let p : JSinkParams := { clearBefore := false, clearAfter := true }
    let rs : List (Str × JFault) := [("{\"a\":\"1\"".toList, .write), ("{\"b\":\"2\"".toList, .none)]
    String.ofList (runRecords p {} rs).file = "{\"a\":\"1\"}\n{\"b\":\"2\"}\n" ∧
    String.ofList (runRecords {} {} rs).file = "{\"b\":\"2\"}\n" := by decide +kernel

/-- no clear at all: every line repeats everything before it -/
theorem C19_json_no_clear_accumulates :
    let p : JSinkParams := { clearBefore := false, clearAfter := false }
    String.ofList (runRecords p {} [(['a'], .none), (['b'], .none)]).file = "a}\na}\nb}\n" := by decide +kernel

end Named
