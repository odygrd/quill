import QuillModel.Backend.FlagProofs
/-!
# C17 — removing / re-creating loggers never loses statements nor frees state in use

The spinlock half of the property is `Props/C17Spin.lean`.
Quantifiers: every schedule `ops` of frontend operations (log calls, parked and resumed calls, flushes,
`remove_logger`, `remove_logger_blocking`, `create_or_get_logger`, level changes, dropped sink references, thread
starts and exits), polls with arbitrary injections, and exits, from every initial state of the driver's shape
(`LoggerFresh`), every configuration with a positive record header (`0 < cfg.hdr`). The documented contract is
encoded in `applyFront` and is *not* a hypothesis here: a removal or a re-creation of the name `g` while a call
through `g` is parked (`loggerBusy`) is a no-op, and a `create` of a name whose old object is invalid but not yet
erased is a no-op ("no re-creation before the erase").
-/
namespace Backend
open PC

/-- **Nothing logged through a logger is left behind when it is freed.** In every reachable state a logger object
    that has been erased (removed from the `LoggerManager`, its memory freed) has no record in any thread's queue
    nor in any transit buffer: every statement logged through it before the removal — and the removal request
    itself — has been popped and processed (`C07_conservation`: popped = written, in order); and no parked call
    can still enqueue through it (a parked call's logger is valid and not erased). Equivalently: every record the
    backend will ever pop refers to a live logger object — no use after free. -/
theorem C17_erased_logger_has_no_record (s0 : BSt) (h0 : LoggerFresh s0) (ops : List Op) :
    let s := runOps s0 ops
    (∀ i, i < s.ths.length → ∀ st, (st ∈ (s.th i).qStmts ∨ st ∈ (s.th i).buf) → (s.lgOf st.lg).erased = false) ∧
    (∀ x ∈ s.actors, x.alive = true → ∀ st, pendStmt x.pend = some st →
      (s.lgOf st.lg).valid = true ∧ (s.lgOf st.lg).erased = false) := by
  intro s
  have h := (FInv_runOps s0 h0.inv ops).la0
  exact ⟨h.live, fun x hx hal st hst => ⟨(h.pendOK x hx hal st hst).1, (h.pendOK x hx hal st hst).2.1⟩⟩

/-- **A logger is freed only in a state where every queue and every transit buffer is empty**: the step of
    `_cleanup_invalidated_loggers` that erases an invalid logger follows an emptiness check that answered yes, and
    then nothing at all is waiting in any context, registered or not. Stated here for the check made in a state
    between two operations; for the state the clean-up loop is in when it erases (any state inside a poll) see
    `C17_erase_step_guarded` and `C17_erase_after_everything_popped` (`Props/C17Destroy.lean`). -/
theorem C17_erase_only_when_drained (s0 : BSt) (h0 : LoggerFresh s0) (ops : List Op) :
    let s := runOps s0 ops
    (allEmpty s).2 = true → ∀ i, i < (allEmpty s).1.ths.length →
      ((allEmpty s).1.th i).buf = [] ∧ ((allEmpty s).1.th i).qStmts = [] :=
  fun he => allEmpty_drained _ (FInv_runOps s0 h0.inv ops).1.1 he

/-- **The erase step rests on the emptiness check of the current state.** The loop of
    `cleanup_invalidated_loggers` visits the loggers one by one, and between two of them — inside a sink's
    destructor, hook site 9 — frontend threads run. What lets the invariant survive the erase of logger `i` is that
    the check `check_queues_empty()` answered yes *on the state `x` the loop is in when it reaches `i`*
    (`(allEmpty x).2 = true`), not on the state the clean-up started from: then nothing waits in any context and,
    the logger being invalid, nobody is parked in a call through it. `FInv_runOps` (every schedule, with arbitrary
    operations injected at site 9) goes through this lemma for every erased logger; a check hoisted out of the loop
    does not provide its hypothesis — see `C17_hoisted_check_erases_queued_logger`. -/
theorem C17_erase_step_guarded (x : BSt) (hx : LInv x) (i : Nat) (hv : (x.lgOf i).valid = false)
    (he : (allEmpty x).2 = true) : LInv ((allEmpty x).1.setLg i (fun l => { l with erased := true })) :=
  LInv_closed.erase x i hx hv he

/-- **A sink is destroyed exactly when nobody holds it.** In every reachable state a sink whose destructor has run
    (`alive = false`) is referenced neither by the user (`userRef = false`: the user dropped its `shared_ptr`) nor
    by any logger object that is not erased; conversely every sink of a logger that is not erased — in particular
    of every logger a queued record refers to — is alive: shared sinks keep working. -/
theorem C17_dead_sink_unreferenced (s0 : BSt) (h0 : LoggerFresh s0) (ops : List Op) :
    let s := runOps s0 ops
    (∀ sid, (s.sinkOf sid).alive = false → (s.sinkOf sid).userRef = false ∧
      ∀ i, i < s.lgs.length → (s.lgOf i).erased = false → sid ∉ (s.lgOf i).sinks) ∧
    (∀ i, (s.lgOf i).erased = false → ∀ sid ∈ (s.lgOf i).sinks, (s.sinkOf sid).alive = true) := by
  intro s
  have h := (FInv_runOps s0 h0.inv ops).2
  exact ⟨h.dead, fun i he => h.sinks_alive i he⟩

/-- **No use after destruction.** In the event log of every reachable state, no `write_log`, throwing write,
    `flush_sink` or throwing flush of a sink comes after that sink's destructor event. -/
theorem C17_no_use_after_dtor (s0 : BSt) (h0 : LoggerFresh s0) (ops : List Op) (newer older : List Ev) (sid : Nat)
    (hlog : (runOps s0 ops).log = newer ++ Ev.sinkDtor sid :: older) :
    ∀ e ∈ newer, usesSink sid e = false :=
  NoUAD_split _ newer older sid (FInv_runOps s0 h0.inv ops).2.nouad hlog

/-- and a live sink has no destructor event at all -/
theorem C17_alive_sink_no_dtor (s0 : BSt) (h0 : LoggerFresh s0) (ops : List Op) (sid : Nat)
    (ha : ((runOps s0 ops).sinkOf sid).alive = true) : ∀ d ∈ (runOps s0 ops).log, isDtor sid d = false :=
  (FInv_runOps s0 h0.inv ops).2.nodtor sid ha

/-- **A parked removal request owns its name.** While `remove_logger_blocking` of the name `g` is parked (its
    request not yet enqueued) the name `g` resolves to nothing, and no other thread is parked in a call through a
    logger of that name — so when the request is finally enqueued and the logger marked invalid, nobody can still
    log through it. -/
theorem C17_parked_removal_exclusive (s0 : BSt) (h0 : LoggerFresh s0) (ops : List Op) :
    let s := runOps s0 ops
    ∀ x ∈ s.actors, x.alive = true → ∀ st, pendStmt x.pend = some st → isRemoval st →
      (∀ p ∈ s.names, p.1 ≠ (s.lgOf st.lg).gid) ∧
      ∀ y ∈ s.actors, y.alive = true → ∀ st', pendStmt y.pend = some st' →
        (s.lgOf st'.lg).gid = (s.lgOf st.lg).gid → y.id = x.id := by
  intro s x hx hal st hst hr
  have h := (FInv_runOps s0 h0.inv ops).la0
  exact ⟨h.noname x hx hal st hst hr, h.excl x hx hal st hst hr⟩

/-- **The removal flag is raised only after the erase**, as one clean-up step from *any* state (no reachability).
    The statement about every reachable state — for every `st` of kind `.removal f` in some thread's `accepted`
    history, `f ∈ s.flags → (s.lgOf st.lg).erased = true`: "`remove_logger_blocking` returns only after the logger is
    gone" — is `C17_removal_flag_after_erase` / `C17_remove_blocking_returns_after_erase` in `Props/C17Removal.lean`
    (it needs the uniqueness of flag numbers across Flush and removal requests, `C06_flag_numbers_unique`, of
    `Props/C06.lean`). Of the two places that raise flags, `processLowest` raises exactly the flag of the Flush
    event it has just popped (`processEvent_flag` + the `raise` case of `PC.ClosedB`); the logger clean-up raises
    a recorded removal flag only for a name one of whose objects it has erased in that very pass: every flag it
    adds was recorded (when the removal request was decoded) for a name `g` such that a logger object of
    name `g`, not erased before, is erased after the clean-up — the store to the flag follows the erase and the
    sink pruning in `cleanupLoggers`, so a caller parked in `remove_logger_blocking` (it resumes only when its flag
    is in `flags`) finds the name free and the object gone. -/
theorem C17_removal_flag_after_erase_partial (inj : BSt → Nat → BSt) (hq : Quiet9 inj) (s : BSt) :
    ∀ f ∈ (cleanupLoggers inj s).flags, f ∈ s.flags ∨
      ∃ g i, (g, f) ∈ s.removalFlags ∧ i < s.lgs.length ∧ (s.lgOf i).gid = g ∧ (s.lgOf i).erased = false ∧
        ((cleanupLoggers inj s).lgOf i).erased = true := by
  have h9 : ∀ x, ev (inj x 9) = ev x := fun x => by
    obtain ⟨sc, h⟩ := hq x
    rw [h]
    rfl
  intro f hf
  rcases (cleanupLoggers_serves inj h9 s _ rfl).2.2.1 f hf with h | ⟨p, hp, hpf, j, a, b, c, d⟩
  · exact Or.inl h
  · exact Or.inr ⟨p.1, j, by rw [← hpf]; exact hp, a, b, c, d⟩

/-- a caller waiting for a flag resumes only once the flag has been raised -/
theorem C17_flag_wait (s : BSt) (a f : Nat) (hp : (s.actor a).map (·.pend) = some (Pend.flag f))
    (hn : s.flags.contains f = false) : resume s a = (s, "parked:sleep") := by
  unfold resume
  simp only [hp, hn, Bool.false_eq_true, if_false]

/-- **`create_or_get_logger` is idempotent.** Creating a name whose logger exists and is valid returns that very object: no object is
    created or changed, the name resolves to it. -/
theorem C17_create_returns_existing (s : BSt) (a g i : Nat) (sl : List Nat)
    (hok : ¬ (!idleActor s a ∨ loggerBusy s g ∨ sl.any (fun sid => !(s.sinks.any (fun k => k.sid = sid ∧ k.alive)))))
    (hex : (List.range s.lgs.length).find? (fun i => (s.lgOf i).gid = g ∧ !(s.lgOf i).erased) = some i)
    (hv : (s.lgOf i).valid = true) :
    (applyFront s (.create a g sl)).1.lgs = s.lgs ∧ loggerOf (applyFront s (.create a g sl)).1 g = some i := by
  have hne : (s.lgOf i).erased = false := by
    have := List.find?_some hex
    simp only [decide_eq_true_eq, Bool.not_eq_true'] at this
    exact this.2
  simp only [applyFront, hok, if_false, hex, hv, Bool.not_true, Bool.false_eq_true]
  refine ⟨rfl, ?_⟩
  exact loggerOf_eq_some.mpr ⟨find_added_name s g i, hv, hne⟩

/-- **A new object is a new object.** When no object of the name is left un-erased, `create` appends a fresh object
    (index = number of objects so far): an erased object is never handed out again, and no existing object —
    erased or not — is touched. -/
theorem C17_create_fresh_object (s : BSt) (a g : Nat) (sl : List Nat)
    (hok : ¬ (!idleActor s a ∨ loggerBusy s g ∨ sl.any (fun sid => !(s.sinks.any (fun k => k.sid = sid ∧ k.alive)))))
    (hex : (List.range s.lgs.length).find? (fun i => (s.lgOf i).gid = g ∧ !(s.lgOf i).erased) = none) :
    (applyFront s (.create a g sl)).1.lgs = s.lgs ++ [{ gid := g, sinks := sl }] ∧
    loggerOf (applyFront s (.create a g sl)).1 g = some s.lgs.length := by
  simp only [applyFront, hok, if_false, hex, true_and]
  have hnew : ∀ (X : BSt), X.lgs = s.lgs ++ [{ gid := g, sinks := sl }] → X.lgOf s.lgs.length = { gid := g, sinks := sl } := by
    intro X hX
    rw [lgOf_append hX, if_pos rfl]
  exact loggerOf_eq_some.mpr ⟨find_added_name s g s.lgs.length, by rw [hnew _ rfl], by rw [hnew _ rfl]⟩

/-- **No re-creation before the erase** (the contract, as the model encodes it): while the old object of the name is
    invalid but not yet erased, `create` does nothing. -/
theorem C17_create_waits_for_erase (s : BSt) (a g i : Nat) (sl : List Nat)
    (hex : (List.range s.lgs.length).find? (fun i => (s.lgOf i).gid = g ∧ !(s.lgOf i).erased) = some i)
    (hv : (s.lgOf i).valid = false) : applyFront s (.create a g sl) = (s, "noop") := by
  simp only [applyFront]
  split
  · rfl
  · simp only [hex, hv, Bool.not_false, if_true]

/-- **The contract for removals**: `remove_logger` / `remove_logger_blocking` of a name through which a call is
    parked do nothing. -/
theorem C17_remove_busy_noop (s : BSt) (a g : Nat) (hb : loggerBusy s g = true) :
    applyFront s (.remove a g) = (s, "noop") ∧ applyFront s (.removeBlocking a g) = (s, "noop") := by
  simp only [applyFront, hb, if_true, and_self]

def c17Cfg : Cfg :=
  { dropping := false, qcap := 256, grace := 0, soft := 100, hard := 1000, hdr := 32, strOverhead := 4,
    batchPct := 5,
    qp := { wStore := .release, wLoad := .acquire, rStore := .release, rLoad := .acquire, drainPublish := true },
    invalidBits := 32, refreshAfterSample := true, catchAllFormat := true, reportBeforeFlushCleanup := true }

/-- logger 0 → sinks 0 and 1, logger 1 → sink 1 (shared) -/
def c17Init : BSt :=
  { cfg := c17Cfg, now := 1000, sinks := [{ sid := 0 }, { sid := 1 }],
    lgs := [{ gid := 0, sinks := [0, 1] }, { gid := 1, sinks := [1] }], names := [(0, 0), (1, 1)] }

theorem c17Init_fresh : LoggerFresh c17Init :=
  ⟨⟨rfl, rfl, rfl, rfl, rfl, rfl, by decide⟩, by decide, by decide, by decide, by decide, rfl⟩

def c17Ev : Ev → Option (Nat × Nat)
  | .write sid id _ _ _ => some (0, sid * 100 + id)
  | .sinkDtor sid => some (1, sid)
  | _ => none

/-- a statement through logger 0, the user drops both sinks, `remove_logger(0)`: the statement is written to both
    sinks first, then the logger is erased and sink 0 (no longer referenced) destroyed, sink 1 (still held by
    logger 1) lives on; the name is created again with a new object and logs to the shared sink -/
example :
    let ops : List Op := [.front (.tstart 0), .front (.log 0 0 4 8 false), .front (.dropSink 0), .front (.dropSink 1),
      .front (.remove 0 0), .poll [], .poll [], .front (.create 0 0 [1]), .front (.log 0 0 4 8 false), .poll []]
    let s := runOps c17Init ops
    (s.log.filterMap c17Ev).reverse = [(0, 0), (0, 100), (1, 0), (0, 101)] ∧
    (s.lgOf 0).erased = true ∧ (s.sinkOf 0).alive = false ∧ (s.sinkOf 1).alive = true ∧ loggerOf s 0 = some 2 := by
  decide +kernel

/-- the logger clean-up with the emptiness check evaluated once, before the loop (not the model: the seeded mutant
    C17_m1 in miniature) -/
def cleanupLoggersHoisted (inj : BSt → Nat → BSt) (s : BSt) : BSt :=
  let s0 : BSt := { s with hasInvalidLoggers := false }
  let r0 := allEmpty s0
  (((lgOrder s0).foldl (fun (acc : BSt × List Nat) i =>
      if (acc.1.lgOf i).valid then acc else
      if r0.2 then
        (reapSinksInj inj (acc.1.setLg i (fun l => { l with erased := true })) (acc.1.lgOf i).sinks,
          acc.2 ++ [(acc.1.lgOf i).gid])
      else ({ acc.1 with hasInvalidLoggers := true }, acc.2)) (r0.1, [])).1)

/-- logger 0 is removed with everything empty; while its sink 0 is being destroyed (site 9) a thread logs through
    logger 1 and removes it -/
def c17Race : List (Nat × Nat × List FOp) := [(9, 1, [.log 0 1 4 8 false, .remove 0 1])]

def c17Before : BSt :=
  { runOps c17Init [.front (.tstart 0), .front (.dropSink 0), .front (.remove 0 0)] with siteCnt := [] }

/-- **With the check hoisted, a logger is erased while its statement is still queued**; the model's clean-up
    (check per logger, on the current state) keeps it. -/
theorem C17_hoisted_check_erases_queued_logger :
    (let s := cleanupLoggersHoisted (runInj c17Race) c17Before
     ((s.th 0).qStmts.map (fun st => (s.lgOf st.lg).erased)) = [true]) ∧
    (let s := cleanupLoggers (runInj c17Race) c17Before
     ((s.th 0).qStmts.map (fun st => (s.lgOf st.lg).erased)) = [false] ∧ (s.lgOf 0).erased = true ∧
       (s.lgOf 1).valid = false) := by
  decide +kernel

end Backend
