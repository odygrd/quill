import QuillModel.Props.C06
import QuillModel.Backend.ConcPrio
/-!
# C06 / C09 — progress of `flush_log()` while other threads keep logging

`C06_flush_log_returns_committed`, `C06_flush_log_returns` and `C09_blocked_call_resumes` assume a *quiet* drain
continuation (`quietOp`). Here the continuation is **arbitrary**: frontend operations of any number of threads between the
polls and injected at every hook site inside them.

What is true, and what is not.

* The statement "enough polls after the clock advance ⇒ the flag is raised" is **false** in the model *and in the code*
  (`C06_batch_guard_starves`, replayed on the real `BackendWorker` through H2: `corpus/C06/f34_starvation_*.v0.txt`):
  in batch mode (the pass counted at least `transit_events_soft_limit` events) the loop
  `while (!has_pending_events_for_caching_when_transit_event_buffer_empty() && _process_lowest…())` is left **before anything
  is processed** whenever some context has an empty transit buffer and an unread queue — e.g. a thread whose first statement
  is still inside the grace period, or that logged after its queue was read. A supply of such contexts (one fresh thread
  per poll) keeps every poll from writing anything, for ever; the moment it stops, one poll drains everything.
* What holds for **every** continuation:
  - `C06_poll_pops_unless_batch_guard`: a poll (any injection table) that starts with some context's oldest pending
    record past its grace period pops at least one event **or** is such a blocked batch poll (explicitly: count ≥ soft and
    the guard answered true). No other way of making no progress exists: not the hard limit, not the capacity exit of the
    read loop, not a full queue, not any interleaving of other threads.
  - `C06_flush_not_overtaken`: under the hypotheses of C05, while the Flush request is pending nothing with a larger
    timestamp is processed — later statements of other threads do not delay it.
  - `C06_flush_log_returns_concurrent`: hence, with `T` the request's timestamp, as soon as the number of *productive*
    polls (polls that pop anything — by the first item: all polls that are not blocked batch polls) reaches the number of
    records with timestamp `≤ T` not yet popped (those pending ahead of the request when it was accepted, plus whatever the
    schedule still adds with a timestamp `≤ T` — nothing, once the clock is past `T + grace`, by the grace premise), the flag
    is raised and the caller's `resume` answers "done".
  - `C06_flush_log_returns_concurrent_total`: the same for every configuration, with the records accepted in the whole
    run as the bound; `C06_nothing_older_arrives`, `C06_flush_log_returns_concurrent_explicit`: past the grace period
    nothing older arrives, so the bound is what is pending with a timestamp `≤ T` at that moment; `C06_flush_not_overtaken_grace0`,
    `C06_flush_log_returns_concurrent_explicit_grace0`: the twins for ordering disabled.

Property theorems; helpers in `Backend/ConcGrow.lean`, `ConcProgress.lean`, `ConcBound.lean`, `ConcMono.lean`, `ConcPrio.lean`; the case split they share is
`flush_flag_or_pending` (`Backend/FlushRel.lean`).
-/
namespace Backend
open Backend.PB

/-- **A poll makes progress unless the batch guard stops it.** Every schedule `ops` from a start state, every
    configuration, the backend running; let some context `i0` hold a pending record whose oldest one `r0` is past its grace
    period (`r0.ts + grace ≤ now`; automatic with ordering disabled). Then the next poll, **whatever frontend operations
    are injected at its hook sites**, pops at least one event — or its pass counted at least `soft` events and the guard
    `hasPending` answered true on the state after the pass (batch mode left before anything was processed). -/
theorem C06_poll_pops_unless_batch_guard (s0 : BSt) (h0 : Start s0) (ops : List Op) (table : List (Nat × Nat × List FOp))
    (hrun : (runOps s0 ops).backendGone = false) (i0 : Nat) (r0 : Stmt)
    (hd : (chain ((runOps s0 ops).th i0)).head? = some r0)
    (hripe : r0.ts + (runOps s0 ops).cfg.grace ≤ (runOps s0 ops).now) :
    (runOps s0 ops).popLog.length < (applyOp (runOps s0 ops) (.poll table)).1.popLog.length ∨
    ((runOps s0 ops).cfg.soft ≤ (populate (runInj table) { runOps s0 ops with siteCnt := [] }).2 ∧
     (hasPending (populate (runInj table) { runOps s0 ops with siteCnt := [] }).1).2 = true) := by
  obtain ⟨fl, hI⟩ := (start_GI h0).runOps ops
  have hI' : PIo (runOps s0 ops).cfg fl { runOps s0 ops with siteCnt := [] } := hI.frame rfl
  rw [applyOp_poll hrun]
  -- the lemma speaks of `popLog` and `cfg` of the state with `siteCnt` reset; elaborated against the goal it is unified before
  -- that state is known, and the failed attempt unfolds `poll`
  have h := poll_pops_or_blocked table hI' i0 r0 hd hripe
  exact h

/-- **The Flush request is not overtaken** (hypotheses of C05). In every reachable state in which a record `st` (e.g. the
    caller's Flush request) is still pending, every event processed so far has a timestamp `≤ st.ts`: statements that other
    threads issue later do not get in front of it. -/
theorem C06_flush_not_overtaken (s0 : BSt) (h0 : Start s0) (hg : s0.cfg.grace ≠ 0) (hr : s0.cfg.refreshAfterSample = true)
    (ops : List Op) (hp : GracePremise (runOps s0 ops)) (i : Nat) (st : Stmt)
    (hst : st ∈ chain ((runOps s0 ops).th i)) : ∀ p ∈ (runOps s0 ops).popLog, p.ts ≤ st.ts := by
  exact pending_not_overtaken ((start_GI h0).runOps ops) (by rw [runOps_cfg]; exact hg) (by rw [runOps_cfg]; exact hr) hp hst

theorem released_of_flag {s : BSt} {f : Nat} (hf : f ∈ s.flags) (a : Nat) (x : Actor) (hx : s.actor a = some x)
    (hp : x.pend = .flag f) : (resume s a).2 = "done" :=
  ((resume_flag s a x f hx hp).1 hf).2

/-- the statement behind the bounds on the whole run: `P` any class of records that contains the Flush request and, while
    it is pending, everything popped; once the events popped by the end of `pre` plus the productive operations of `suffix`
    reach the number of records of the class accepted in the whole run, the flag is raised -/
theorem flush_returns_of_pops (s0 : BSt) (hA : PA.Fresh s0) (hF : StartF s0) (pre suffix : List Op) (P : Stmt → Bool)
    (i : Nat) (st : Stmt) (f : Nat) (hst : st ∈ ((runOps s0 (pre ++ suffix)).th i).accepted) (hk : st.kind = .flush f)
    (hP : P st = true)
    (hall : st ∈ chain ((runOps s0 (pre ++ suffix)).th i) → ∀ p ∈ (runOps s0 (pre ++ suffix)).popLog, P p = true)
    (hn : PA.cA (runOps s0 (pre ++ suffix)) P ≤ (runOps s0 pre).popLog.length + productive (runOps s0 pre) suffix) :
    f ∈ (runOps s0 (pre ++ suffix)).flags := by
  have hle := productive_le suffix (runOps s0 pre)
  rw [← runOps_append] at hle
  exact flush_flag_of_pops (hA.inv.run _).p ((start_FI hF).runOps _) P hst hk hP hall (Nat.le_trans hn hle)

/-- **`flush_log()` returns while other threads keep logging.** Hypotheses of C05 (ordering enabled, repaired refresh
    order, the grace premise on the whole run). The schedule is `pre ++ suffix`, both **arbitrary** (any frontend operations,
    polls with any injections). Let `st` be a Flush request (flag `f`, timestamp `T`) accepted somewhere in the run. If the
    number of events popped by the end of `pre` plus the number of *productive* operations of `suffix` (those that pop at
    least one event) reaches `accLE … T` — the number of records with timestamp `≤ T` accepted by any context in the whole run
    (popped ones included) — then the flag is raised at the end and every caller parked on it is released by its next
    `resume` ("done"). -/
theorem C06_flush_log_returns_concurrent (s0 : BSt) (hA : PA.Fresh s0) (hF : StartF s0) (hg : s0.cfg.grace ≠ 0)
    (hr : s0.cfg.refreshAfterSample = true) (pre suffix : List Op) (i : Nat) (st : Stmt) (f : Nat)
    (hp : GracePremise (runOps s0 (pre ++ suffix)))
    (hst : st ∈ ((runOps s0 (pre ++ suffix)).th i).accepted) (hk : st.kind = .flush f)
    (hn : accLE (runOps s0 (pre ++ suffix)) st.ts ≤ (runOps s0 pre).popLog.length + productive (runOps s0 pre) suffix) :
    f ∈ (runOps s0 (pre ++ suffix)).flags ∧
    ∀ a x, (runOps s0 (pre ++ suffix)).actor a = some x → x.pend = .flag f →
      (resume (runOps s0 (pre ++ suffix)) a).2 = "done" := by
  have hflag := flush_returns_of_pops s0 hA hF pre suffix (fun r => decide (r.ts ≤ st.ts)) i st f hst hk
    (decide_eq_true (Nat.le_refl _))
    (fun h1 p hp' => decide_eq_true (C06_flush_not_overtaken s0 hF.start hg hr _ hp i st h1 p hp')) hn
  exact ⟨hflag, released_of_flag hflag⟩

/-- **`flush_log()` returns — every configuration, no premise** (ordering enabled or disabled, either refresh order, stalled and
    blocked calls allowed). For an arbitrary schedule `pre ++ suffix`: if the events popped by the end of `pre` plus the productive
    operations of `suffix` reach the number of records accepted in the whole run, everything has been processed; in particular
    the flag of every accepted Flush request is raised. (The bound counts the statements logged during `suffix` too; the sharper
    bounds below do not.) -/
theorem C06_flush_log_returns_concurrent_total (s0 : BSt) (hA : PA.Fresh s0) (hF : StartF s0) (pre suffix : List Op)
    (i : Nat) (st : Stmt) (f : Nat) (hst : st ∈ ((runOps s0 (pre ++ suffix)).th i).accepted) (hk : st.kind = .flush f)
    (hn : accTotal (runOps s0 (pre ++ suffix)) ≤ (runOps s0 pre).popLog.length + productive (runOps s0 pre) suffix) :
    f ∈ (runOps s0 (pre ++ suffix)).flags := by
  exact flush_returns_of_pops s0 hA hF pre suffix (fun _ => true) i st f hst hk rfl (fun _ _ _ => rfl) (accTotal_eq _ ▸ hn)

/-- **Past the grace period nothing older can arrive.** For every schedule `pre ++ suffix` satisfying the grace premise:
    once the clock (at the end of `pre`) is past `T + grace`, the number of records with timestamp `≤ T` accepted by all
    contexts does not change any more — a thread that keeps enqueueing records with timestamps below a given one does not
    exist past the premise. (Whatever is accepted later is committed at a later clock value: `mono_runOps`.) -/
theorem C06_nothing_older_arrives (s0 : BSt) (h0 : Start s0) (pre suffix : List Op) (T : Nat)
    (hp : GracePremise (runOps s0 (pre ++ suffix)))
    (hT : T + s0.cfg.grace < (runOps s0 pre).now) :
    accLE (runOps s0 (pre ++ suffix)) T = accLE (runOps s0 pre) T := by
  rw [runOps_append] at hp ⊢
  exact accLE_const (mono_runOps suffix _) (runOps_cfg _ suffix) hp T (by rw [runOps_cfg]; exact hT)

/-- **`flush_log()` returns while other threads keep logging — explicit bound.** Hypotheses of C05. After any schedule `pre`
    a Flush request `st` (flag `f`, timestamp `T`) has been accepted and the clock is past `T + grace`. Then for **every**
    continuation `suffix` (any frontend operations of any threads, polls with any injections): if the number of productive
    operations of `suffix` reaches `pendingLE … T` — the number of records with timestamp `≤ T` that are **pending at the end of
    `pre`** (those ahead of the request in its own queue, the request itself, and the records of other threads with a timestamp
    `≤ T`) — then the flag is raised and the caller's `resume` answers "done". Statements logged during `suffix` do not
    enter the bound: they cannot have a timestamp `≤ T` (`C06_nothing_older_arrives`) and are not processed before the
    request (`C06_flush_not_overtaken`). -/
theorem C06_flush_log_returns_concurrent_explicit (s0 : BSt) (hA : PA.Fresh s0) (hF : StartF s0) (hg : s0.cfg.grace ≠ 0)
    (hr : s0.cfg.refreshAfterSample = true) (pre suffix : List Op) (i : Nat) (st : Stmt) (f : Nat)
    (hp : GracePremise (runOps s0 (pre ++ suffix)))
    (hst : st ∈ ((runOps s0 pre).th i).accepted) (hk : st.kind = .flush f)
    (hT : st.ts + s0.cfg.grace < (runOps s0 pre).now)
    (hn : pendingLE (runOps s0 pre) st.ts ≤ productive (runOps s0 pre) suffix) :
    f ∈ (runOps s0 (pre ++ suffix)).flags ∧
    ∀ a x, (runOps s0 (pre ++ suffix)).actor a = some x → x.pend = .flag f →
      (resume (runOps s0 (pre ++ suffix)) a).2 = "done" := by
  have hst' : st ∈ ((runOps s0 (pre ++ suffix)).th i).accepted := by
    rw [runOps_append]
    exact (mono_runOps suffix _).mem_acc hst
  have h1 := C06_nothing_older_arrives s0 hF.start pre suffix st.ts hp hT
  have h2 := accLE_le (hA.inv.run pre) ((start_FI hF).runOps pre) st.ts
  exact C06_flush_log_returns_concurrent s0 hA hF hg hr pre suffix i st f hp hst' hk (by rw [h1]; omega)

/-- **Ordering disabled: nothing overtakes a pending Flush request.** `log_timestamp_ordering_grace_period = 0`, either refresh
    order, no premise on commit times. Along any continuation that leaves the backend running, as long as the flag of an accepted
    Flush request `st` is not raised, the pop history has only been extended by events with a timestamp `≤ st.ts`: the backend
    pops the minimum front, and it pops only when the request's context has a buffered event (right after a pass, or after the
    batch guard found nothing unread). -/
theorem C06_flush_not_overtaken_grace0 (s0 : BSt) (hF : StartF s0) (hg0 : s0.cfg.grace = 0) (pre suffix : List Op) (i : Nat)
    (st : Stmt) (f : Nat) (hst : st ∈ ((runOps s0 pre).th i).accepted) (hk : st.kind = .flush f)
    (hrun : (runOps s0 (pre ++ suffix)).backendGone = false) :
    ∃ new, (runOps s0 (pre ++ suffix)).popLog = new ++ (runOps s0 pre).popLog ∧
      (f ∉ (runOps s0 (pre ++ suffix)).flags → ∀ r ∈ new, r.ts ≤ st.ts) := by
  rw [runOps_append] at hrun ⊢
  exact runOps_prio i st f hk suffix (runOps s0 pre) ((start_GI hF.start).runOps pre) ((start_FI hF).runOps pre)
    (by rw [runOps_cfg]; exact hg0) hst hrun

/-- the statement behind the explicit bounds: `pre` ends with the Flush request accepted; along `suffix` nothing of the
    class `P` of the request is accepted and, while the flag is down, only records of the class are popped; then as many
    productive operations as records of the class were pending at the end of `pre` raise the flag -/
theorem flush_returns_explicit (s0 : BSt) (hA : PA.Fresh s0) (hF : StartF s0) (pre suffix : List Op) (P : Stmt → Bool)
    (i : Nat) (st : Stmt) (f : Nat) (hst : st ∈ ((runOps s0 pre).th i).accepted) (hk : st.kind = .flush f)
    (hP : P st = true) (new : List Stmt) (hpl : (runOps s0 (pre ++ suffix)).popLog = new ++ (runOps s0 pre).popLog)
    (hall : f ∉ (runOps s0 (pre ++ suffix)).flags → ∀ r ∈ new, P r = true)
    (hconst : PA.cA (runOps s0 (pre ++ suffix)) P = PA.cA (runOps s0 pre) P)
    (hn : pendP (runOps s0 pre) P ≤ productive (runOps s0 pre) suffix) : f ∈ (runOps s0 (pre ++ suffix)).flags := by
  apply Classical.byContradiction
  intro hnf
  have hfi := (start_FI hF).runOps (pre ++ suffix)
  have hst' : st ∈ ((runOps s0 (pre ++ suffix)).th i).accepted := by
    rw [runOps_append]
    exact (mono_runOps suffix _).mem_acc hst
  have hb := pops_since_lt_pendP (hA.inv.run pre).p (hA.inv.run (pre ++ suffix)).p ((start_FI hF).runOps pre) hfi P
    ((flush_flag_or_pending hfi hst' hk).resolve_left hnf) hP new hpl (hall hnf) hconst
  have hprod := productive_le suffix (runOps s0 pre)
  rw [← runOps_append, hpl, List.length_append] at hprod
  omega

/-- **`flush_log()` returns while other threads keep logging — ordering disabled (grace = 0), explicit bound.** The twin of
    `C06_flush_log_returns_concurrent_explicit` without the ordering invariant: grace period 0, either refresh order. After any
    schedule `pre` a Flush request `st` (flag `f`, timestamp `T`) has been accepted and the clock has moved past `T`; `suffix` is
    **arbitrary** and leaves the backend running; every record of the run is committed at its timestamp's clock value or
    earlier (the grace premise for grace 0: no call stalled between its clock read and its commit). If the productive
    operations of `suffix` reach `pendingLE … T` — the records with timestamp `≤ T` pending at the end of `pre` — the flag is
    raised and the caller's `resume` answers "done". -/
theorem C06_flush_log_returns_concurrent_explicit_grace0 (s0 : BSt) (hA : PA.Fresh s0) (hF : StartF s0)
    (hg0 : s0.cfg.grace = 0) (pre suffix : List Op) (i : Nat) (st : Stmt) (f : Nat)
    (hp : GracePremise (runOps s0 (pre ++ suffix)))
    (hst : st ∈ ((runOps s0 pre).th i).accepted) (hk : st.kind = .flush f)
    (hT : st.ts < (runOps s0 pre).now)
    (hrun : (runOps s0 (pre ++ suffix)).backendGone = false)
    (hn : pendingLE (runOps s0 pre) st.ts ≤ productive (runOps s0 pre) suffix) :
    f ∈ (runOps s0 (pre ++ suffix)).flags ∧
    ∀ a x, (runOps s0 (pre ++ suffix)).actor a = some x → x.pend = .flag f →
      (resume (runOps s0 (pre ++ suffix)) a).2 = "done" := by
  obtain ⟨new, hpl, hle⟩ := C06_flush_not_overtaken_grace0 s0 hF hg0 pre suffix i st f hst hk hrun
  have hflag := flush_returns_explicit s0 hA hF pre suffix (fun r => decide (r.ts ≤ st.ts)) i st f hst hk
    (decide_eq_true (Nat.le_refl _)) new hpl (fun hnf r hr => decide_eq_true (hle hnf r hr))
    (C06_nothing_older_arrives s0 hF.start pre suffix st.ts hp (by rw [hg0]; exact hT)) hn
  exact ⟨hflag, released_of_flag hflag⟩

/-- soft limit 2 (three buffered events put the backend in batch mode), grace 10 -/
def c06StarveInit : BSt := { c05Init true with cfg := { c05Cfg true with soft := 2 } }

def c06StarvePre : List Op :=
  [ .front (.tstart 1), .front (.log 1 0 4 10 true), .front (.log 1 0 4 10 true), .front (.flush 1 0), .front (.tick 100) ]

/-- a fresh thread logs right before the poll; afterwards the clock advances by ten grace periods -/
def c06StarveRound (k : Nat) : List Op :=
  [ .front (.tstart k), .front (.log k 0 4 10 true), .poll [], .front (.resume 1), .front (.tick 100) ]

def c06Starve : List Op := c06StarvePre ++ (List.range 6).flatMap (fun k => c06StarveRound (k + 2))

/-- **Starvation by the batch guard** (replayed on the real code: `corpus/C06/f34_starvation_fresh_threads_grace.v0.txt`).
    Thread 1 logs twice and calls `flush_log()`; the clock advances by ten grace periods. Then, six times: a fresh thread
    logs one statement, the backend polls, thread 1 checks its flag, the clock advances by ten grace periods. Every pending
    record of thread 1 is past its grace period at every poll, and **no poll processes anything**: after six polls nothing is
    popped, the flag is not raised, the caller is still parked, every context's record sits in its transit buffer (the
    last one in its queue). The first poll without a newcomer drains everything (seven writes later the flag is raised).
    Without the newcomers three polls suffice. -/
theorem C06_batch_guard_starves :
    (runOps c06StarveInit c06Starve).popLog.length = 0 ∧ (runOps c06StarveInit c06Starve).flags = [] ∧
    ((runOps c06StarveInit c06Starve).actor 1).map (fun x => x.pend matches .flag 0) = some true ∧
    (runOps c06StarveInit c06Starve).ths.map (fun t => (t.buf.length, t.qStmts.length)) =
      [(3, 0), (1, 0), (1, 0), (1, 0), (1, 0), (1, 0), (0, 1)] ∧
    (runOps c06StarveInit c06Starve).now = 1700 ∧
    (runOps c06StarveInit (c06Starve ++ [.poll []])).flags = [0] ∧
    (runOps c06StarveInit (c06Starve ++ [.poll []])).popLog.length = 9 ∧
    (runOps c06StarveInit (c06StarvePre ++ [.poll [], .poll [], .poll []])).flags = [0] := by
  decide +kernel

/-- non-vacuity of `C06_poll_pops_unless_batch_guard`, second alternative: in the starving run the hypotheses hold before
    the last poll (thread 1's oldest record, timestamp 1000, is long past its grace period at 1600) and the poll is a blocked
    batch poll: the pass counts 8 ≥ soft = 2 events and the guard answers true -/
example :
    let s := runOps c06StarveInit (c06Starve.take 32)
    s.backendGone = false ∧ (chain (s.th 0)).head?.map (·.ts) = some 1000 ∧ s.cfg.grace = 10 ∧ s.now = 1600 ∧
    (applyOp s (.poll [])).1.popLog.length = s.popLog.length ∧
    (populate (runInj []) { s with siteCnt := [] }).2 = 8 ∧
    (hasPending (populate (runInj []) { s with siteCnt := [] }).1).2 = true := by
  decide +kernel

/-- thread 2 keeps logging between and *inside* the polls (site 3: while thread 1's queue is being read) -/
def c06Busy : List Op :=
  [ .poll [(3, 1, [.log 2 0 4 10 true])], .front (.log 2 0 4 10 true), .front (.resume 1),
    .poll [(2, 1, [.log 2 0 4 10 true])], .front (.log 2 0 4 10 true), .front (.resume 1),
    .poll [(1, 1, [.log 2 0 4 10 true, .tick 3])] ]

def c06BusyPre : List Op :=
  [ .front (.tstart 1), .front (.tstart 2), .front (.log 1 0 4 10 true), .front (.log 1 0 4 10 true), .front (.flush 1 0),
    .front (.tick 100) ]

/-- non-vacuity of `C06_flush_log_returns_concurrent` and of the first alternative of
    `C06_poll_pops_unless_batch_guard` (soft limit 4: single-event mode): while thread 2 logs five statements between and
    inside three polls, each poll pops one event of thread 1 (timestamps 1000 ≤ T = 1000; thread 2's statements carry 1100 and
    later), the three productive polls reach `accLE = 3`, the premise holds, the flag is raised, `resume` answers "done",
    and thread 2's five statements are all still pending. -/
example :
    let s := runOps (c05Init true) c06BusyPre
    let s' := runOps (c05Init true) (c06BusyPre ++ c06Busy)
    GracePremise s' ∧ (s'.th 0).accepted.map (fun st => (st.kind matches .flush 0, st.ts)) = [(false, 1000), (false, 1000), (true, 1000)] ∧
    accLE s' 1000 = 3 ∧ s.popLog.length = 0 ∧ productive s c06Busy = 3 ∧ pendingLE s 1000 = 3 ∧
    1000 + (c05Init true).cfg.grace < s.now ∧
    s'.flags = [0] ∧ (applyOp s' (.front (.resume 1))).2 = "done" ∧
    s'.ths.map (fun t => (t.accepted.length, t.popped.length)) = [(3, 3), (5, 0)] := by
  decide +kernel

/-- ordering disabled -/
def c06G0Init : BSt := { c05Init true with cfg := { c05Cfg true with grace := 0 } }

/-- non-vacuity of `C06_flush_log_returns_concurrent_explicit_grace0` / `C06_flush_not_overtaken_grace0`: the busy schedule with
    grace 0 — three records with timestamp 1000 pending at the end of `c06BusyPre` (clock 1100), thread 2 logging between and
    inside the polls; three productive polls; the premise holds (every record committed at its timestamp), the backend keeps
    running, the flag is raised and the caller released by a `resume` inside the schedule; the three records with timestamp 1000
    are popped first, thread 2's statements (1100) only after the request. -/
example :
    let s := runOps c06G0Init c06BusyPre
    let s' := runOps c06G0Init (c06BusyPre ++ c06Busy)
    c06G0Init.cfg.grace = 0 ∧ GracePremise s' ∧ s'.backendGone = false ∧ s.now = 1100 ∧
    (s.th 0).accepted.map (fun st => (st.kind matches .flush 0, st.ts)) = [(false, 1000), (false, 1000), (true, 1000)] ∧
    pendingLE s 1000 = 3 ∧ productive s c06Busy = 3 ∧ s'.flags = [0] ∧
    s'.popLog.reverse.map (·.ts) = [1000, 1000, 1000, 1100, 1100, 1100, 1100] ∧
    (s'.actor 1).map (fun x => x.pend matches .none) = some true := by
  decide +kernel

end Backend
