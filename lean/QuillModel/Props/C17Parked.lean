import QuillModel.Props.C17Removal
import QuillModel.Backend.ParkedInv2
/-!
# C17 — a caller parked by `remove_logger_blocking` has its removal request in the accepted history

`C17_remove_blocking_returns_after_erase` takes the caller's removal record as a hypothesis (`st ∈ accepted`,
`st.kind = .removal f`): the parked state (`Pend.flag f`) does not record which public call parked it. The link "parked by
`removeBlocking` ⇒ an accepted removal record with that flag" is in the ghost history: the *step* that parks a caller on a
flag has just committed the record carrying that flag (`C17_parking_call_committed_its_request`,
`C17_remove_blocking_parks_on_its_record`), and accepted histories only grow (`C17_accepted_history_grows`).
Composition, with no reference to the record left:
`C17_remove_blocking_contract` — for every schedule around a `remove_logger_blocking(g)` that went to sleep on its flag: when
the caller's `resume` answers "done", the logger object the name resolved to has been erased and every record ever logged
through it, by any thread, has been popped (hence dispatched to its sinks at pop time, `C03_pop_emits_dispatch`).
-/
namespace Backend
open Backend.PC Backend.PB

/-- **Accepted histories only grow.** Along every schedule (frontend operations, polls with arbitrary injections, exit)
    a record once in the accepted history of a context stays there. -/
theorem C17_accepted_history_grows (s : BSt) (ops : List Op) (i : Nat) (r : Stmt) (h : r ∈ (s.th i).accepted) :
    r ∈ ((runOps s ops).th i).accepted :=
  accepted_mono_run s ops i r h

/-- **The call that parks on a flag has committed the request carrying that flag.** Any state in which the contexts of
    live actors exist (true of every reachable state), the body of any public call — first attempt, resumption after a
    stall, any retry after a refusal — entered with statement `st` and continuation `cont`: if it leaves the caller `a`
    parked on `Pend.flag f`, then `st` is the Flush request of `flush_log` (`cont = 1`, `Kind.flush f`) or the removal request of
    `remove_logger_blocking` (`cont = 4`, `Kind.removal f`) with exactly this flag, and a copy of it is in the accepted
    history of some context. -/
theorem C17_parking_call_committed_its_request (s : BSt) (a : Nat) (st : Stmt) (cont : Nat) (first initial : Bool)
    (hctx : ∀ x j, s.actor a = some x → x.ctx = some j → j < s.ths.length) (f : Nat)
    (hp : pendOf (enqFlow s a st cont first initial).1 a = some (.flag f)) :
    ((cont = 1 ∧ st.kind = .flush f) ∨ (cont = 4 ∧ st.kind = .removal f)) ∧
    ∃ i r, r ∈ ((enqFlow s a st cont first initial).1.th i).accepted ∧ r.kind = st.kind ∧ r.lg = st.lg ∧
      r.actor = st.actor ∧ r.id = st.id ∧ r.ts = st.ts :=
  enqFlow_flag_post s a st cont first initial hctx f hp

/-- **`remove_logger_blocking` parks on its own record.** For every schedule `pre` from a fresh state: if
    `remove_logger_blocking(g)` by `a` answers "parked:sleep" and leaves `a` waiting on `Pend.flag f`, then `g` resolved to a
    logger object `lg`, `f` is the flag number taken by this very call, and a `Kind.removal f` record naming `lg`, issued by
    `a`, has been accepted into a queue. -/
theorem C17_remove_blocking_parks_on_its_record (s0 : BSt) (h0 : Start s0) (pre : List Op) (a g f : Nat)
    (hres : (applyOp (runOps s0 pre) (.front (.removeBlocking a g))).2 = "parked:sleep")
    (hp : pendOf (applyOp (runOps s0 pre) (.front (.removeBlocking a g))).1 a = some (.flag f)) :
    ∃ lg, loggerOf (runOps s0 pre) g = some lg ∧ f = (runOps s0 pre).nextFlag ∧
      ∃ i r, r ∈ ((applyOp (runOps s0 pre) (.front (.removeBlocking a g))).1.th i).accepted ∧ r.kind = .removal f ∧
        r.lg = lg ∧ r.actor = a := by
  obtain ⟨fl, hI⟩ := (start_GI h0).runOps pre
  exact removeBlocking_parks_on_record (runOps s0 pre) a g f (fun x j hx hc => hI.ctxLt a x j hx hc) hres hp

/-- **`remove_logger_blocking` returns only after the logger is gone — composed over the whole trace.** Every fresh state,
    every schedule `pre`, then `remove_logger_blocking(g)` by thread `a` that goes to sleep on its flag `f`, then **every**
    schedule `post` (other threads logging, creating and removing loggers, polls with injections at every hook site, …)
    after which `a` is still the caller parked on `f`: if `a`'s `resume` now answers "done", then

    * the logger object `lg` the name `g` resolved to at the call **has been erased**,
    * **every record ever accepted through `lg`, in any thread's queue, has been popped** — each was handed to its sinks in the
      step that popped it (`C03_pop_emits_dispatch`) —, and
    * no live actor is parked with a statement through `lg`.

    No hypothesis mentions the request record: it is found in the ghost history (`C17_remove_blocking_parks_on_its_record`,
    `C17_accepted_history_grows`). -/
theorem C17_remove_blocking_contract (s0 : BSt) (h0 : RemovalFresh s0) (pre post : List Op) (a g f : Nat)
    (hres : (applyOp (runOps s0 pre) (.front (.removeBlocking a g))).2 = "parked:sleep")
    (hp : pendOf (applyOp (runOps s0 pre) (.front (.removeBlocking a g))).1 a = some (.flag f))
    (hp2 : pendOf (runOps s0 (pre ++ [.front (.removeBlocking a g)] ++ post)) a = some (.flag f))
    (hdone : (resume (runOps s0 (pre ++ [.front (.removeBlocking a g)] ++ post)) a).2 = "done") :
    ∃ lg, loggerOf (runOps s0 pre) g = some lg ∧
      ((runOps s0 (pre ++ [.front (.removeBlocking a g)] ++ post)).lgOf lg).erased = true ∧
      (∀ j r, r ∈ ((runOps s0 (pre ++ [.front (.removeBlocking a g)] ++ post)).th j).accepted → r.lg = lg →
        r ∈ ((runOps s0 (pre ++ [.front (.removeBlocking a g)] ++ post)).th j).popped) ∧
      (∀ x ∈ (runOps s0 (pre ++ [.front (.removeBlocking a g)] ++ post)).actors, x.alive = true →
        ∀ st', pendStmt x.pend = some st' → st'.lg ≠ lg) := by
  obtain ⟨lg, hlg, _, i, r, hr, hk, hrl, _⟩ :=
    C17_remove_blocking_parks_on_its_record s0 h0.startF.start pre a g f hres hp
  have hr2 : r ∈ ((runOps s0 (pre ++ [.front (.removeBlocking a g)] ++ post)).th i).accepted := by
    rw [runOps_append, runOps_snoc]
    exact accepted_mono_run _ post i r hr
  -- `Op.front` written out: with `[.front _]` the element is elaborated last, and `hp2`, `hr2` are first compared with a schedule
  -- that has a hole in it, by unfolding `runOps`
  have := C17_remove_blocking_returns_after_erase s0 h0 (pre ++ [Op.front (.removeBlocking a g)] ++ post) a f i r hp2 hr2 hk hdone
  rw [hrl] at this
  exact ⟨lg, hlg, this⟩

/-- **Every call parked on a flag has its request record in the accepted history — state invariant.** For every schedule
    `ops` (frontend operations, polls with arbitrary injections, exit) from a state without actors: in the state reached, for
    every live actor `a` parked on `Pend.flag f` there is a context `i` and a record `st` in its accepted history that carries
    the flag `f` (`Kind.flush f` or `Kind.removal f`) and was issued by `a`. With `C06_flag_numbers_unique` this record is the
    only one carrying `f`: the caller is parked by `remove_logger_blocking` iff that record is a `Kind.removal f`, and
    `C17_remove_blocking_returns_after_erase` applies to it. -/
theorem C17_parked_flag_has_record (s0 : BSt) (h0 : s0.actors = []) (ops : List Op) (a f : Nat)
    (hp : pendOf (runOps s0 ops) a = some (.flag f)) :
    ∃ i, ∃ st ∈ ((runOps s0 ops).th i).accepted, flagOf st = some f ∧ st.actor = a := by
  have hL := (LK.start h0).run ops
  obtain ⟨x, hx, hxp⟩ := pendOf_some hp
  exact (hL.pend a x hx).1 f hxp

/-- the invariant composed with the removal theorem: in every reachable state, a caller parked on a flag whose record is a
    removal request and whose `resume` answers "done" finds the logger erased and everything logged through it popped -/
theorem C17_parked_removal_contract (s0 : BSt) (h0 : RemovalFresh s0) (ops : List Op) (a f : Nat)
    (hp : pendOf (runOps s0 ops) a = some (.flag f)) (hdone : (resume (runOps s0 ops) a).2 = "done") :
    ∃ i, ∃ st ∈ ((runOps s0 ops).th i).accepted, flagOf st = some f ∧ st.actor = a ∧
      (st.kind = .removal f →
        ((runOps s0 ops).lgOf st.lg).erased = true ∧
        (∀ j r, r ∈ ((runOps s0 ops).th j).accepted → r.lg = st.lg → r ∈ ((runOps s0 ops).th j).popped)) := by
  obtain ⟨i, st, hst, hf, ha⟩ := C17_parked_flag_has_record s0 h0.startF.start.actors ops a f hp
  refine ⟨i, st, hst, hf, ha, fun hk => ?_⟩
  have hp' : ((runOps s0 ops).actor a).map (·.pend) = some (Pend.flag f) := hp
  have := C17_remove_blocking_returns_after_erase s0 h0 ops a f i st hp' hst hk hdone
  exact ⟨this.1, this.2.1⟩

/-- the run of `Props/C17Removal.lean`: thread 0 logs through logger 0 and calls `remove_logger_blocking(0)`; meanwhile thread
    1 registers and logs through logger 1 (also inside the second poll, at hook site 3); after three polls the caller's
    `resume` answers "done" — all hypotheses of `C17_remove_blocking_contract` hold, with `lg = 0`, `f = 0`; the request is the
    second record of context 0. -/
example :
    let pre : List Op := [.front (.tstart 0), .front (.tstart 1), .front (.log 0 0 4 8 false)]
    let post : List Op := [.front (.log 1 1 4 8 false), .poll [], .poll [(3, 1, [.log 1 1 4 8 false])], .poll [], .poll []]
    let s := runOps c17Init pre
    let s2 := runOps c17Init (pre ++ [.front (.removeBlocking 0 0)] ++ post)
    let parkedOn (x : BSt) (f : Nat) : Bool := match pendOf x 0 with | some (Pend.flag f') => f' == f | _ => false
    (applyOp s (.front (.removeBlocking 0 0))).2 = "parked:sleep" ∧
    parkedOn (applyOp s (.front (.removeBlocking 0 0))).1 0 = true ∧
    parkedOn s2 0 = true ∧ (resume s2 0).2 = "done" ∧ loggerOf s 0 = some 0 ∧ (s2.lgOf 0).erased = true ∧
    (s2.th 0).accepted.map (·.kind) = [.log, .removal 0] ∧ (s2.th 0).popped.length = 2 ∧
    -- `C17_parked_flag_has_record`: no actors at the start, and the record of the parked caller is there
    c17Init.actors = [] ∧ (s2.th 0).accepted.map (fun st => (flagOf st, st.actor)) = [(none, 0), (some 0, 0)] := by
  decide +kernel

end Backend
