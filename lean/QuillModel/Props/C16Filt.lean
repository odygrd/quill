import QuillModel.Filt.ProofsD
/-!
# C16 (concurrency part) — filters installed concurrently with the backend's evaluation

"A statement is written to a sink exactly when its level is at or above that sink's level filter and every filter
installed on that sink accepts it … for every interleaving with concurrent set_log_level / add_filter calls."

`Props/C16.lean` proves the decision logic on a sequential scheduler. This file covers the concurrency of
`Sink::add_filter` / `set_log_level_filter` (frontend threads) against `Sink::apply_all_filters` (backend thread) under the
release/acquire view semantics of `Filt/Model.lean` (relaxed `_new_filter` / `_log_level`, the real `Spin` lock model).

**The premise, and why it is there.** `_new_filter` is read and written with `memory_order_relaxed`. A completed
`add_filter(F)` becomes visible to the backend only through a release/acquire edge: the lock's `unlock → exchange`, or —
the case that matters for a user — the SPSC queue's publication of a statement logged *after* `add_filter` returned (by the
same thread, or by a thread that synchronised with it). Without such an edge the C++ memory model allows the backend to
read a stale `false` from `_new_filter` and to evaluate against its old `_local_filters` (`stale_flag_without_happens_before`
below exhibits that run in the model, on the unchanged parameters). The theorems therefore take DONE to be the filters
whose `add_filter` call returned **happens-before** the begin of the evaluation (`EvalRec.done`, the backend's knowledge
after it popped the statement), not "returned earlier in wall-clock time"; `harness/h1_filters.cpp` uses the same DONE
(vector clocks), so it does not alarm on the unchanged code. STARTED = calls begun before the evaluation ended.
-/
namespace Filt

/-- while the backend is inside the critical section no `add_filter` is between its lock and its unlock: both would hold
    the `Spin` lock -/
theorem InvA.backend_alone {s : St} (h : InvA s) (hb : s.bpc = .reset ∨ s.bpc = .unl) (u : Nat) (hu : 0 < u) :
    ¬ (s.fpc u).inside :=
  fun hin => absurd (h.lk.excl u 0 ((h.fcs u hu).mpr hin) (h.bcs.mpr hb)) (Nat.ne_of_gt hu)

/-- a record that meets the oracle's statement is no leak: an accepted statement was tested against every filter of its
    DONE set -/
theorem Good.not_leaked {e : EvalRec} (h : Good e) : e.leaked = false := by
  obtain ⟨_, h1, h2⟩ := h
  unfold EvalRec.leaked
  cases hv : e.verdict with
  | false => rfl
  | true =>
    cases hre : e.reached with
    | false => have := (h1 hre).2; rw [hv] at this; cases this
    | true =>
      obtain ⟨_, h3, h4, _⟩ := h2 hre
      rw [hv] at h3
      have hall := List.all_eq_true.mp h3.symm
      simp only [Bool.true_and, List.any_eq_false, Bool.not_eq_true', Bool.not_eq_false]
      intro F hF
      simpa using hall F (h4 F hF)

/-- **(a) Mutual exclusion carries over, the copy is race-free.** For every number of frontend threads, every schedule
    and every stale-load choice (lock orders acquire/release, no `try_lock`): no critical-section access of
    `_global_filters` (the push of `add_filter`, the copy of `apply_all_filters`) is racy — each happens-after the previous
    critical section and finds nobody else inside (`races = 0`); at most one thread is inside; and while the backend is
    inside (between its `exchange` and its unlock — where the copy is) no `add_filter` is between its lock and unlock. -/
theorem C16_filter_lock_exclusive (p : Params) (ho : Spin.OrdersOK p.lock) (hnt : p.tryLock = false) (n lvl0 : Nat)
    (ops : List Op) (hr : Run p (init n lvl0) ops) :
    (run p (init n lvl0) ops).races = 0 ∧
    (∀ t u, (run p (init n lvl0) ops).lock.inCS t = true → (run p (init n lvl0) ops).lock.inCS u = true → t = u) ∧
    (((run p (init n lvl0) ops).bpc = .reset ∨ (run p (init n lvl0) ops).bpc = .unl) →
      ∀ u, 0 < u → ¬ ((run p (init n lvl0) ops).fpc u).inside) := by
  have h := (reachable_inv p ho hnt ops _ (init_inv p n lvl0) hr).a
  exact ⟨h.rc, h.lk.excl, h.backend_alone⟩

/-- **(b) DONE ⊆ `_local_filters` used ⊆ STARTED at every evaluation** — the oracle's statement as an invariant. For every
    schedule and every stale-load choice, every evaluation `e` of a statement by `apply_all_filters`:
    the sink level it was compared with is a store of `_log_level` at or above the backend's floor when the evaluation began;
    if the level test failed the verdict is `false`; otherwise the verdict is exactly "every filter of `e.used` accepts the
    statement", where `e.used` (the `_local_filters` consulted) contains every filter whose `add_filter` returned
    happens-before the evaluation began and only filters whose `add_filter` had begun before it ended. -/
theorem C16_filter_visibility (p : Params) (ho : Spin.OrdersOK p.lock) (hnt : p.tryLock = false) (n lvl0 : Nat)
    (ops : List Op) (hr : Run p (init n lvl0) ops) :
    ∀ e, e ∈ (run p (init n lvl0) ops).evals →
      e.lvlFloor ≤ e.lvlIdx ∧
      (e.reached = false → e.lv < e.sinkLvl ∧ e.verdict = false) ∧
      (e.reached = true → e.sinkLvl ≤ e.lv ∧ e.verdict = e.used.all (fun F => accepts F e.k) ∧
        (∀ F, F ∈ e.done → F ∈ e.used) ∧ (∀ F, F ∈ e.used → F ∈ e.started)) :=
  fun e he => (reachable_inv p ho hnt ops _ (init_inv p n lvl0) hr).d.ev e he

/-- corollary in the property's words: a statement that a filter of its DONE set rejects is never accepted -/
theorem C16_no_rejected_statement_accepted (p : Params) (ho : Spin.OrdersOK p.lock) (hnt : p.tryLock = false) (n lvl0 : Nat)
    (ops : List Op) (hr : Run p (init n lvl0) ops) :
    ∀ e, e ∈ (run p (init n lvl0) ops).evals → e.leaked = false :=
  fun e he => Good.not_leaked (C16_filter_visibility p ho hnt n lvl0 ops hr e he)

def pReal : Params := { lock := { xchg := .acquire, unl := .release }, resetBeforeCopy := false, tryLock := false }

/-- A1 installs filter 33 (rejects odd ids) and then logs statement 7; A2 is inside `add_filter(48)`: it holds the lock
    and has already set `_new_filter`; the backend pops 7, reads the level and the flag (set) and clears `_local_filters` -/
def window1 : List Op :=
  [.beginAdd 1 33, .spin 1, .xchg 1, .setFlag 1, .unlock 1, .beginLog 1 7 4, .logStore 1,
   .beginAdd 2 48, .spin 2, .xchg 2, .setFlag 2,
   .beginPoll 1, .pollLoad 1, .loadLvl 0, .loadFlag 2]

/-- **(c) Negative witness.** The variant "clear `_local_filters`, then `try_lock`, evaluate anyway when the lock is busy"
    violates (b): on `window1` the lock is really busy (`tryFail` is enabled only then), statement 7 is evaluated against
    the empty list and accepted although filter 33 — whose `add_filter` returned before 7 was even logged — rejects it. -/
theorem trylock_variant_leaks :
    let p : Params := { pReal with tryLock := true }
    let sched := window1 ++ [.tryFail]
    Run p (init 2 0) sched ∧ (run p (init 2 0) sched).evals.any EvalRec.leaked = true ∧
      (run p (init 2 0) sched).evals.any (fun e => e.done.contains 33 && !e.used.contains 33 && e.verdict) = true := by
  decide +kernel

/-- non-vacuity of (a)/(b), and the same window on the real parameters: the backend spins (`xchg 0` fails while A2 is
    inside), A2 unlocks, the backend copies both filters and rejects 7 -/
example :
    let sched := window1 ++ [.spin 0, .xchg 0, .unlock 2, .spin 0, .xchg 0, .reset, .unlock 0]
    Run pReal (init 2 0) sched ∧
      (run pReal (init 2 0) sched).evals.any (fun e => e.done == [33] && e.used == [33, 48] && !e.verdict && e.reached) = true ∧
      (run pReal (init 2 0) sched).races = 0 := by
  decide +kernel

/-- non-vacuity with the reset placed before the copy loop (both inside the critical section): same result -/
example :
    let p : Params := { pReal with resetBeforeCopy := true }
    let sched := window1 ++ [.spin 0, .xchg 0, .unlock 2, .spin 0, .xchg 0, .reset, .unlock 0]
    Run p (init 2 0) sched ∧
      (run p (init 2 0) sched).evals.any (fun e => e.done == [33] && e.used == [33, 48] && !e.verdict && e.reached) = true := by
  decide +kernel

/-- **Why the happens-before premise is needed** (unchanged parameters): A2's `add_filter(48)` has *returned* before A1
    even logs statement 6, but nothing orders A2's call before A1's statement; the backend's floor for `_new_filter` is still
    the initial store, it may read that stale `false` and accept 6 although filter 48 rejects it. DONE is empty, so this run
    satisfies (b): the code guarantees no more than the theorem says. -/
theorem stale_flag_without_happens_before :
    let sched : List Op := [.beginAdd 2 48, .spin 2, .xchg 2, .setFlag 2, .unlock 2,
                            .beginLog 1 6 4, .logStore 1, .beginPoll 1, .pollLoad 1, .loadLvl 0, .loadFlag 0]
    Run pReal (init 2 0) sched ∧ accepts 48 6 = false ∧
      (run pReal (init 2 0) sched).evals.any (fun e => e.verdict && e.started.contains 48 && e.done.isEmpty && e.used.isEmpty) = true := by
  decide +kernel

/-- … whereas with the edge (A2 itself logs the statement after its `add_filter` returned) the stale `false` is no longer a
    legal result of the flag load: the step is not enabled -/
example :
    let sched : List Op := [.beginAdd 2 48, .spin 2, .xchg 2, .setFlag 2, .unlock 2,
                            .beginLog 2 6 4, .logStore 2, .beginPoll 2, .pollLoad 1, .loadLvl 0]
    Run pReal (init 2 0) sched ∧ ¬ Enabled pReal (run pReal (init 2 0) sched) (.loadFlag 0) ∧
      Enabled pReal (run pReal (init 2 0) sched) (.loadFlag 1) := by
  decide +kernel

/-- the lock's orders matter for (a): with a relaxed `exchange` the copy of `_global_filters` races with the push -/
theorem relaxed_lock_races :
    let p : Params := { pReal with lock := { xchg := .relaxed, unl := .release } }
    let sched : List Op := [.beginAdd 1 33, .spin 1, .xchg 1, .setFlag 1, .unlock 1, .beginLog 1 7 4, .logStore 1,
                            .beginPoll 1, .pollLoad 1, .loadLvl 0, .loadFlag 1, .spin 0, .xchg 0]
    Run p (init 1 0) sched ∧ 0 < (run p (init 1 0) sched).races := by
  decide +kernel

end Filt
