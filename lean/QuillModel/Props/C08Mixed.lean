import QuillModel.Props.C08
import QuillModel.Backend.MixedProofs
/-!
# C08 in a process with several frontends of different queue types

Machine: `Backend/Mixed.lean`, skeleton: `Backend/MixedProofs.lean`. The queue type is a field of the thread context, not
of the process: threads of the default frontend (unbounded queue) and threads of a bounded dropping frontend share one
backend, one context registry and one context cache. C08's claim "the discard counts reported through the error notifier
add up to the number of discarded ordinary log statements" must hold whatever other kinds of contexts exist and wherever
they sit in the cache.

Quantifiers: every set `m.uActors` of threads that use the unbounded frontend (none, some, all), every schedule
`ops : List Op` (frontend calls of any number of threads in any order — so every registration order —, polls carrying
injected operations at every hook site, the exit drain), every configuration, both values of the extracted repair flags.
`ctrs s` lists `(fail, discarded, blockedCalls)` per context ever created, `reported` is what the notifier was told.

Scope of the approximation (see `Backend/Mixed.lean`): a context of the unbounded frontend is one bounded node that the
counter check never looks at; it is exact while no such context is refused a reservation (`uRefused m s = false`, the
moment the real queue would grow). The accounting identity holds without that hypothesis; the statement about the bounded
contexts alone carries it explicitly.
-/
namespace Backend
open Backend.PA

/-- **The counts add up in a mixed process, in every reachable state, for every schedule** — for every set of
    unbounded-frontend threads, every registration/cache order, and also for the seeded early-return variant (there the
    identity still holds: what is not reported stays in the counters — for ever, `C08Mixed_early_return_never_reports`). -/
theorem C08Mixed_accounting (m : Mix) (s0 : BSt) (h0 : InvD s0) (ops : List Op) :
    ((ctrs (runOpsM m s0 ops)).map (fun c => c.2.1 + c.2.2)).sum =
      (runOpsM m s0 ops).reported + ((ctrs (runOpsM m s0 ops)).map (·.1)).sum :=
  (runOpsM_closed (InvD.closedM m) ops s0 h0).sum

/-- the three counters of the contexts with a *bounded* queue -/
def ctrsB (m : Mix) (s : BSt) : List (Nat × Nat × Nat) :=
  (s.ths.filter (fun t => !isU m t)).map (fun t => (t.fail, t.discarded, t.blockedCalls))

theorem sum_ctrs_split (m : Mix) (f : Nat × Nat × Nat → Nat) (hf : f (0, 0, 0) = 0) :
    ∀ (l : List Th), (∀ t ∈ l, isU m t = true → t.fail = 0 ∧ t.discarded = 0 ∧ t.blockedCalls = 0) →
      ((l.map (fun t => (t.fail, t.discarded, t.blockedCalls))).map f).sum =
        (((l.filter (fun t => !isU m t)).map (fun t => (t.fail, t.discarded, t.blockedCalls))).map f).sum
  | [], _ => rfl
  | t :: l, h => by
    have ih := sum_ctrs_split m f hf l (fun t ht => h t (List.mem_cons_of_mem _ ht))
    by_cases hu : isU m t = true
    · obtain ⟨a, b, c⟩ := h t (List.mem_cons_self ..) hu
      simp only [List.map_cons, List.sum_cons, List.filter_cons, hu, Bool.not_true, Bool.false_eq_true, if_false]
      rw [a, b, c, hf, ih, Nat.zero_add]
    · simp only [List.map_cons, List.sum_cons, List.filter_cons, hu, Bool.not_false, if_true]
      rw [ih]

/-- **Bounded dropping contexts in a mixed process**: inside the scope of the approximation (no unbounded context was ever
    refused), summed over the contexts with a bounded queue only — wherever they sit in the registry and the cache, and
    however many unbounded contexts sit between them —: no call ever blocked, and
    `Σ discarded = reported + Σ pending counters`. -/
theorem C08Mixed_bounded_dropped_equals_reported_plus_pending (m : Mix) (s0 : BSt) (h0 : InvD s0)
    (hd : s0.cfg.dropping = true) (ops : List Op) (hscope : uRefused m (runOpsM m s0 ops) = false) :
    (∀ c ∈ ctrsB m (runOpsM m s0 ops), c.2.2 = 0) ∧
    ((ctrsB m (runOpsM m s0 ops)).map (fun c => c.2.1)).sum =
      (runOpsM m s0 ops).reported + ((ctrsB m (runOpsM m s0 ops)).map (·.1)).sum := by
  have h := runOpsM_closed (InvD.closedM m) ops s0 h0
  have hcfg : (runOpsM m s0 ops).cfg.dropping = true := by
    rw [runOpsM_closed ((cfgEq_closed s0.cfg).toM m (fun _ _ h _ _ => h)) ops s0 rfl]; exact hd
  generalize runOpsM m s0 ops = s at h hcfg hscope ⊢
  have hz : ∀ t ∈ s.ths, isU m t = true → t.fail = 0 ∧ t.discarded = 0 ∧ t.blockedCalls = 0 := by
    intro t ht hu
    have := hscope
    simp only [uRefused, Bool.or_eq_false_iff, List.any_eq_false] at this
    have h1 := this.1 t ht
    simp only [hu, Bool.true_and, Bool.or_eq_true, bne_iff_ne, ne_eq, not_or, Decidable.not_not] at h1
    exact ⟨h1.1.1, h1.1.2, h1.2⟩
  obtain ⟨hb, hs⟩ := h.dropped hcfg
  refine ⟨fun c hc => ?_, ?_⟩
  · simp only [ctrsB, List.mem_map, List.mem_filter] at hc
    obtain ⟨t, ⟨ht, _⟩, rfl⟩ := hc
    exact hb _ (List.mem_map.mpr ⟨t, ht, rfl⟩)
  · have e1 := sum_ctrs_split m (fun c => c.2.1) rfl s.ths hz
    have e2 := sum_ctrs_split m (fun c => c.1) rfl s.ths hz
    simp only [ctrs] at hs
    rw [e1, e2] at hs
    exact hs

/-- **The seeded variant never reports**: with the early return, as long as the first cached context belongs to the
    unbounded frontend, a counter check — on the idle path, the Flush path or at exit, with anything injected — changes
    nothing at all: no counter is reset, nothing is reported. -/
theorem C08Mixed_early_return_check_is_noop (m : Mix) (he : m.early = true) (inj : BSt → Nat → BSt) (s : BSt) (i : Nat)
    (rest : List Nat) (hc : s.cache = i :: rest) (hu : isU m (s.th i) = true) : checkFailuresM m inj s = s := by
  unfold checkFailuresM firstCachedUnbounded
  rw [hc]
  simp [he, hu]

/-- the check as the header has it, without interference: every cached bounded context with a non-zero counter is reset
    and reported, in cache order; unbounded contexts are skipped, not an end of the loop -/
theorem C08Mixed_check_visits_every_bounded_context (m : Mix) (hne : m.early = false) (s : BSt) :
    checkFailuresM m (fun x _ => x) s =
      s.cache.foldl (fun s i => if !isU m (s.th i) && (s.th i).fail > 0 then failReset s i else s) s := by
  unfold checkFailuresM
  simp only [hne, Bool.false_and, Bool.false_eq_true, if_false]
  rfl

def mixInit : BSt :=
  { cfg := c08Cfg true true, now := 1000, sinks := [{ sid := 0 }],
    lgs := [{ gid := 0, sinks := [0] }, { gid := 5, sinks := [0] }], names := [(0, 0), (5, 1)] }

/-- the demo of the seeded change: thread 2 (unbounded frontend) logs one statement and stays alive, so its context is
    first in the cache; thread 1 (bounded dropping) then overruns its 512-byte queue (2 accepted, 2 dropped); the backend
    drains, is idle twice, a second burst (1 more dropped), idle passes, and finally the exit drain -/
def m1Demo : List Op :=
  [.front (.tstart 1), .front (.tstart 2), .front (.log 2 5 4 20 true),
   .front (.log 1 0 4 200 true), .front (.log 1 0 4 200 true), .front (.log 1 0 4 200 true), .front (.log 1 0 4 200 true),
   .poll [], .poll [], .poll [], .poll [], .poll [],
   .front (.log 1 0 4 200 true), .front (.log 1 0 4 200 true), .front (.log 1 0 4 200 true),
   .poll [], .poll [], .poll [], .poll [], .exit]

/-- the same with the registration order swapped: the bounded thread registers first -/
def m1DemoBoundedFirst : List Op :=
  [.front (.tstart 1), .front (.tstart 2), .front (.log 1 0 4 200 true), .front (.log 2 5 4 20 true),
   .front (.log 1 0 4 200 true), .front (.log 1 0 4 200 true), .front (.log 1 0 4 200 true),
   .poll [], .poll [], .poll [], .poll [], .poll [], .exit]

/-- the unbounded thread registers first, then exits; once its context is reclaimed the bounded one is first -/
def m1DemoUnboundedExits : List Op :=
  [.front (.tstart 1), .front (.tstart 2), .front (.log 2 5 4 20 true), .front (.texit 2),
   .front (.log 1 0 4 200 true), .front (.log 1 0 4 200 true), .front (.log 1 0 4 200 true), .front (.log 1 0 4 200 true),
   .poll [], .poll [], .poll [], .poll [], .poll [], .poll [], .exit]

/-- **As the header has it** (per-context test): 3 statements discarded by the bounded dropping thread, 3 reported, nothing
    pending; the unbounded context (index 0, first in registry and cache) is untouched and still registered. -/
theorem C08Mixed_demo_all_reported :
    let s := runOpsM { uActors := [2] } mixInit m1Demo
    s.cache = [0, 1] ∧ ((ctrsB { uActors := [2] } s).map (fun c => c.2.1)).sum = 3 ∧ s.reported = 3 ∧
      ((ctrs s).map (·.1)).sum = 0 ∧ uRefused { uActors := [2] } s = false := by decide +kernel

/-- **The seeded early return leaves the drops unreported for ever**: same schedule, first cached context unbounded and
    alive: 3 discarded, 0 reported — after five polls, a second burst, four more polls and the exit drain; the counts sit
    in thread 1's counter. -/
theorem C08Mixed_early_return_never_reports :
    let s := runOpsM { uActors := [2], early := true } mixInit m1Demo
    s.cache = [0, 1] ∧ ((ctrsB { uActors := [2], early := true } s).map (fun c => c.2.1)).sum = 3 ∧ s.reported = 0 ∧
      (s.th 1).fail = 3 ∧ s.backendGone = true := by decide +kernel

/-- the seeded variant is invisible with the opposite registration order (why a single-frontend suite cannot see it) -/
theorem C08Mixed_early_return_invisible_bounded_first :
    (runOpsM { uActors := [2], early := true } mixInit m1DemoBoundedFirst).reported = 2 ∧
    (runOpsM { uActors := [2] } mixInit m1DemoBoundedFirst).reported = 2 := by decide +kernel

/-- … and reports late, in one go, once the unbounded thread has exited and its context was reclaimed: in the first idle
    pass (operation 12) the check still sees the unbounded context first and returns, the clean-up of that same pass then
    reclaims it, and the next idle pass reports both drops at once -/
theorem C08Mixed_early_return_late_after_unbounded_exit :
    (runOpsM { uActors := [2], early := true } mixInit (m1DemoUnboundedExits.take 12)).reported = 0 ∧
    (runOpsM { uActors := [2] } mixInit (m1DemoUnboundedExits.take 12)).reported = 2 ∧
    (runOpsM { uActors := [2], early := true } mixInit m1DemoUnboundedExits).reported = 2 := by decide +kernel

/-- non-vacuity: the start state satisfies the invariant, and the scope hypothesis holds on the demo -/
example : InvD mixInit ∧ mixInit.cfg.dropping = true ∧ uRefused { uActors := [2] } (runOpsM { uActors := [2] } mixInit m1Demo) = false :=
  ⟨C08_started_inv _ ⟨rfl, rfl⟩, rfl, C08Mixed_demo_all_reported.2.2.2.2⟩

/-- with no thread on the unbounded frontend the machine is the single-frontend one on these schedules -/
example : (runOpsM {} mixInit m1Demo).reported = (runOps mixInit m1Demo).reported ∧
    (runOpsM {} mixInit m1Demo).registry = (runOps mixInit m1Demo).registry := by
  rw [PA.runOpsM_none]; exact ⟨rfl, rfl⟩

end Backend
