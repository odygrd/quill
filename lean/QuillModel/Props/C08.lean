import QuillModel.Props.C03
import QuillModel.Backend.ConsProofsQuiesce
/-!
# C08 — dropping queue: a statement is delivered intact or reported dropped; the counts add up

Object: the end-to-end model `Backend/{Model,Sched,Ops}.lean` with `cfg.dropping = true` (the bounded dropping queue;
byte-exact bounded SPSC model inside). Ghost counters: per context `discarded` (ordinary log calls refused, the call returned `false`),
`fail` is the real `_failure_counter`; globally `reported` (sum of the counts handed to the error notifier).
Quantifiers: every schedule `ops : List Op` incl. injections inside polls, every capacity and message-size
sequence (also sizes that can never fit), every configuration, every initial state satisfying the invariant
(`Started`: no context yet, nothing reported). Delivered statements keep C03 (conservation, order, at most once per
sink): those theorems do not depend on the queue type.

**The repair the property needs.** "A reclaimed context has no unreported drops" was false of the code as found:
`_cleanup_invalidated_thread_contexts` never looked at the failure counter. F17 (the Flush path did not even check the
counters before cleaning up) was repaired first (`reportBeforeFlushCleanup`), but a drop made between
`_check_failure_counter` and the clean-up of the same poll — while the notifier runs for another thread (hook site 8),
or by a thread that registers after the poll's cache refresh — was still lost when that thread had exited (finding F24,
confirmed on the real code, `findings/F24_pinned_tree.txt`). Repair: the clean-up keeps a context whose counter is
non-zero (`Cfg.cleanupKeepsUnreported`, extracted from the header). With it `removed → fail = 0` is an invariant of
every schedule (`C08_removed_context_reported`), whatever the value of the older flag; without it F17's schedule (older
flag off, `C08_flush_cleanup_loses_count_unrepaired`) and F24's (older flag on,
`C08_count_lost_between_check_and_cleanup`) each lose a count. The accounting identity holds in all cases and says what
the loss is: `Σ fail` over the removed contexts.
-/
namespace Backend
open Backend.PA

/-- the configuration (in particular the queue type) never changes -/
theorem C08_cfg_constant (s0 : BSt) (ops : List Op) : (runOps s0 ops).cfg = s0.cfg := runOps_cfg s0 ops

/-- **The counts add up, in every reachable state, for every schedule.** Summed over all contexts ever created
    (live, exited, reclaimed): refused ordinary log calls (`discarded` on a dropping queue, `blockedCalls` on a
    blocking one) = what the notifier has been told so far + what is still in the failure counters. -/
theorem C08_accounting (s0 : BSt) (h0 : InvD s0) (ops : List Op) :
    ((ctrs (runOps s0 ops)).map (fun c => c.2.1 + c.2.2)).sum =
      (runOps s0 ops).reported + ((ctrs (runOps s0 ops)).map (·.1)).sum :=
  (runOps_closed InvD.closed ops s0 h0).sum

/-- **Dropping queue**: no call ever blocks, and `Σ discarded = reported + Σ fail` over all contexts ever created.
    (`ctrs s` lists `(fail, discarded, blockedCalls)` per context.) -/
theorem C08_dropped_equals_reported_plus_pending (s0 : BSt) (h0 : InvD s0) (hd : s0.cfg.dropping = true) (ops : List Op) :
    (∀ c ∈ ctrs (runOps s0 ops), c.2.2 = 0) ∧
    ((ctrs (runOps s0 ops)).map (fun c => c.2.1)).sum =
      (runOps s0 ops).reported + ((ctrs (runOps s0 ops)).map (·.1)).sum :=
  (runOps_closed InvD.closed ops s0 h0).dropped (by rw [runOps_cfg]; exact hd)

/-- **A log call returns `false` exactly when the statement is discarded.** An ordinary log call on a dropping
    queue (the body of `log_statement` after the timestamp was taken; `cont = 0` is the call whose return value is
    observed), in ANY state, has exactly two outcomes, decided by the reservation `tryEnq`:
    * granted: the observation is `ret=1`, the statement is appended to the accepted history of the caller's
      context (so by C03 it will be popped and dispatched exactly once), no counter moves;
    * refused: the observation is `ret=0`, nothing is appended to any accepted history (the statement never
      reaches the backend), `fail` and `discarded` of the caller's context each grow by exactly one.
    (`accs` = the accepted histories of all contexts, `ctrs` = their `(fail, discarded, blockedCalls)`; the state
    they are compared with is the one after the context look-up `ensureCtx`, which only appends a fresh context.) -/
theorem C08_log_call_outcome (s : BSt) (hd : s.cfg.dropping = true) (a : Nat) (st : Stmt) (hk : st.kind = .log) :
    (if (tryEnq (ensureCtx s a).1 (ensureCtx s a).2 st).2 = true then
       (enqFlow s a st 0 true).2 = obsLog st 0 (some true) st.size ∧
       accs (enqFlow s a st 0 true).1 =
         updAt (accs (ensureCtx s a).1) (ensureCtx s a).2 (· ++ [{ st with enqAt := (ensureCtx s a).1.now }]) ∧
       ctrs (enqFlow s a st 0 true).1 = ctrs (ensureCtx s a).1
     else
       (enqFlow s a st 0 true).2 = s!"id={st.id} ret=0 ev=1 bytes=0" ∧
       accs (enqFlow s a st 0 true).1 = accs (ensureCtx s a).1 ∧
       ctrs (enqFlow s a st 0 true).1 =
         updAt (ctrs (ensureCtx s a).1) (ensureCtx s a).2 (fun c => (c.1 + 1, c.2.1 + 1, c.2.2))) := by
  have hlk : isLogKind st.kind = true := by rw [hk]; rfl
  have hs := enqFlow_shape s a st 0 true true
  generalize Backend.enqFlow s a st 0 true = r at hs ⊢
  cases hs with
  | @granted s1 s2 ci hc he =>
    obtain ⟨hacc, hctr⟩ := tryEnq_outcome he
    have ha : afterEnq (setPend s2 a .none) a st 0 = (setPend s2 a .none, obsLog st 0 (some true) st.size) := by
      unfold Backend.afterEnq
      rw [hk]
      rfl
    rw [hc, he, ha]
    simp only [if_true] at hacc ⊢
    exact ⟨trivial, hacc, hctr⟩
  | @dropped s1 s2 ci hc he =>
    obtain ⟨hacc, hctr⟩ := tryEnq_outcome he
    rw [hc, he]
    simp only [Bool.false_eq_true, if_false, if_true] at hacc ⊢
    refine ⟨trivial, (bumpFail_accs true s2 ci st).trans hacc, ?_⟩
    show ctrs (bumpFail true s2 ci st) = _
    unfold bumpFail
    rw [if_pos hlk, ctrs_setTh s2 ci _ (fun c => (c.1 + 1, c.2.1 + 1, c.2.2)) (fun _ => rfl), hctr]
  | dropRetry _ _ _ hk' => exact absurd (Or.inl rfl) hk'
  | blocked _ _ hd' => rw [hd] at hd'; cases hd'

/-- **A refused log call leaves its id carried by nothing.** An ordinary log call (`LOG_DYNAMIC`, the call that
    returns the bool) by an idle live actor through a valid logger, whose level passes, not parked by a stall, on a
    dropping queue: if the reservation fails (the `ret=0` outcome of `C08_log_call_outcome`), then after the call its id
    `s.nextId` is *unplaced* — below the new `nextId`, and no statement with that id is in any accepted history or
    parked call (`tot … = 0`). -/
theorem C08_dropped_call_id_unplaced (s : BSt) (hb : InvB s) (hd : s.cfg.dropping = true) (a g lvl len lgi : Nat)
    (hlg : loggerOf s g = some lgi) (hidle : idleActor s a = true) (hlvl : shouldLog lvl (s.lgOf lgi).level = true)
    (hns : ((s.actor a).map (·.stallArmed)).getD false = false)
    (hf : ∀ st : Stmt, st.kind = .log → st.id = s.nextId → st.size = stmtSize s.cfg .log s.nextId len true (s.lgOf lgi).gid →
      (tryEnq (ensureCtx { s with nextId := s.nextId + 1 } a).1 (ensureCtx { s with nextId := s.nextId + 1 } a).2 st).2 = false) :
    Unplaced (applyFront s (.log a g lvl len true)).1 s.nextId := by
  have e1 : applyFront s (.log a g lvl len true) =
      noteCall (frontCall { s with nextId := s.nextId + 1 } a lgi .log lvl len 0 true s.nextId) a g := by
    simp only [applyFront]
    rw [withLogger_eq _ hlg hidle]
    have : shouldLog lvl (({ s with nextId := s.nextId + 1 } : BSt).lgOf lgi).level = true := hlvl
    rw [if_pos this]; rfl
  rw [e1]
  apply Unplaced.noteCall
  rw [frontCall_eq_enqFlow ({ s with nextId := s.nextId + 1 } : BSt) a lgi .log lvl len 0 true s.nextId false hns]
  exact enqFlow_dropped_unplaced (hb.toφ.room_fresh a _ rfl) hd rfl 0 (Or.inl rfl) true true (hf _ rfl rfl rfl)

/-- the same for a call that was stalled after reading its timestamp and is resumed: if the reservation then fails,
    the id it was given is unplaced afterwards -/
theorem C08_dropped_stalled_call_id_unplaced (s : BSt) (hb : InvB s) (hd : s.cfg.dropping = true) (a : Nat) (x : Actor)
    (st : Stmt) (cont : Nat) (hx : s.actor a = some x) (hp : x.pend = .stall st cont) (hk : isLogKind st.kind = true)
    (hc : cont = 0 ∨ cont = 5) (hf : (tryEnq (ensureCtx s a).1 (ensureCtx s a).2 st).2 = false) :
    Unplaced (resume s a).1 st.id := by
  have e : resume s a = enqFlow s a st cont true false := by
    unfold Backend.resume; simp [hx, hp]
  rw [e]
  exact enqFlow_dropped_unplaced (hb.toφ.room_parked a x hx st st (by simp [hp, pendL]) (fun _ => rfl)) hd hk cont hc
    true false hf

/-- **An unplaced id stays unplaced**: ids are allocated once (`nextId` only grows) and a statement object only ever
    moves from a parked call into one accepted history — so an id that nothing carries is never carried again,
    whatever the schedule. -/
theorem C08_unplaced_forever (s : BSt) (hb : InvB s) (id : Nat) (u : Unplaced s id) (ops : List Op) :
    Unplaced (runOps s ops) id := Unplaced.run hb u ops

/-- **Delivered XOR reported dropped.** From any state satisfying the invariants (every reachable state), an id that
    is unplaced — in particular the id of a call that returned `false` (`C08_dropped_call_id_unplaced`,
    `C08_dropped_stalled_call_id_unplaced`), whose drop is counted in `discarded` and reported
    (`C08_dropped_equals_reported_plus_pending`) — has no ordinary `write` event at any sink in the whole history, now
    and after every further schedule. Conversely a call that returned `true` put its statement
    into an accepted history (`C08_log_call_outcome`), from where C03 delivers it at most once per sink and never
    counts it as dropped (`ctrs` unchanged). -/
theorem C08_discarded_never_written (s : BSt) (h : Inv s) (id : Nat) (u : Unplaced s id) (ops : List Op) (sid : Nat) :
    wcount (runOps s ops).log sid id = 0 :=
  (h.run ops).unplaced_unwritten id (Unplaced.run h.b u ops).none sid

/-- **Control requests are never discarded and never counted.** A flush / backtrace-init / backtrace-flush /
    logger-removal request (not an `Event::Log`; `cont ∈ {1,2,3,4}`) on a dropping queue touches no counter at all,
    and when the reservation fails nothing is appended and the caller is parked with `Pend.retry st cont`: it will
    attempt the same request again (`C08_retry_reattempts`), it does not give up. -/
theorem C08_control_request_retried (s : BSt) (hd : s.cfg.dropping = true) (a : Nat) (st : Stmt) (cont : Nat)
    (first initial : Bool) (hk : isLogKind st.kind = false) (hc : cont ≠ 0 ∧ cont ≠ 5) :
    ctrs (enqFlow s a st cont first initial).1 = ctrs (ensureCtx s a).1 ∧
    ((tryEnq (ensureCtx s a).1 (ensureCtx s a).2 st).2 = false →
      (enqFlow s a st cont first initial).2 = "parked:sleep" ∧
      accs (enqFlow s a st cont first initial).1 = accs (ensureCtx s a).1 ∧
      ∀ x ∈ (enqFlow s a st cont first initial).1.actors, x.id = a → x.alive = true → x.pend = .retry st cont) := by
  have hbump : ∀ (d : Bool) (s2 : BSt) (ci : Nat), bumpFail d s2 ci st = s2 := fun d s2 ci => by
    unfold bumpFail
    rw [hk]
    rfl
  have hs := enqFlow_shape s a st cont first initial
  generalize Backend.enqFlow s a st cont first initial = r at hs ⊢
  cases hs with
  | @granted s1 s2 ci hc he =>
    obtain ⟨hctr, _, _⟩ := tryEnq_ctrs s1 ci st
    obtain ⟨a1, _, _⟩ := afterEnq_ctrs (setPend s2 a .none) a st cont
    rw [he] at hctr
    rw [hc, he]
    exact ⟨a1.trans hctr, fun h => by cases h⟩
  | dropped _ _ _ hk' => exact absurd hk' (fun h => h.elim hc.1 hc.2)
  | @dropRetry s1 s2 ci hc' he =>
    obtain ⟨hacc, hctr⟩ := tryEnq_outcome he
    rw [hc', he, hbump]
    simp only [Bool.false_eq_true, if_false] at hacc
    refine ⟨hctr, fun _ => ⟨rfl, hacc, ?_⟩⟩
    intro x hx hid hal
    obtain ⟨y, hy, rfl⟩ := mem_setActor hx
    by_cases hcnd : y.id = a ∧ y.alive = true
    · rw [if_pos hcnd]
    · rw [if_neg hcnd] at hid hal
      exact absurd ⟨hid, hal⟩ hcnd
  | blocked _ _ hd' => rw [hd] at hd'; cases hd'

/-- resuming a caller parked in a retry makes the very same request again (a fresh `log_statement` call with a new
    timestamp), so a control request is repeated until it is accepted -/
theorem C08_retry_reattempts (s : BSt) (hd : s.cfg.dropping = true) (a : Nat) (x : Actor) (st : Stmt) (cont : Nat)
    (hx : s.actor a = some x) (hp : x.pend = .retry st cont) :
    resume s a = enqFlow s a { st with ts := s.now } cont true false := by
  unfold Backend.resume
  simp [hx, hp, hd]

/-- the four control requests of the public API are made with a non-log kind and `cont ∈ {1,2,3,4}` -/
theorem C08_control_kinds :
    isLogKind (.flush 0) = false ∧ isLogKind (.initBt 0 0) = false ∧ isLogKind .flushBt = false ∧
    isLogKind (.removal 0) = false := ⟨rfl, rfl, rfl, rfl⟩

/-- **A reclaimed context has no unreported drops** (repaired clean-up, `cfg.cleanupKeepsUnreported = true`): in every
    reachable state of every schedule — whatever is injected while the notifier runs, whenever threads register, drop
    and exit — a context that has left the registry has a zero failure counter: every call it refused was reported.
    With `C08_dropped_equals_reported_plus_pending`: the drops not yet reported are exactly the counters of the
    contexts still registered, which the next idle pass reports. -/
theorem C08_removed_context_reported (s0 : BSt) (h0 : InvK s0) (ops : List Op) (i : Nat)
    (hr : ((runOps s0 ops).th i).removed = true) : ((runOps s0 ops).th i).fail = 0 :=
  (runOps_closed InvK.closed ops s0 h0).r.zero i hr

/-- every freshly started system whose configuration carries the repair satisfies `InvK`, the hypothesis of
    `C08_removed_context_reported` -/
theorem C08_fresh_reclaim_inv (s0 : BSt) (h : Fresh s0) (hk : s0.cfg.cleanupKeepsUnreported = true) : InvK s0 :=
  ⟨hk, h.inv.a, ⟨fun i hr => by
    rw [th_of_ths_nil h.ths i] at hr
    cases hr⟩⟩

/-- clean-up directly after the counter check (no frontend step in between) removes only contexts whose counter is
    zero — the situation of an idle poll without interference, true of the unrepaired clean-up as well -/
theorem C08_cleanup_after_check (s : BSt) (j : Nat)
    (hr : ((cleanupContexts (checkFailures (fun x _ => x) s)).th j).removed = true) :
    (s.th j).removed = true ∨ ((cleanupContexts (checkFailures (fun x _ => x) s)).th j).fail = 0 := by
  have hrel := cleanupContexts_rel (checkFailures (fun x _ => x) s)
  obtain ⟨_, i2, i3, _, i4⟩ := checkFailures_clears (inj := fun x _ => x) (fun s _ => Frame.refl s) s
  rcases hrel.rem j hr with h | h
  · left
    rw [← i4 j]
    exact h
  · right
    rw [hrel.fail j]
    exact i2 j (i3 ▸ h)

/-- **The cache covers the registry unless a thread registered since the last refresh** — in every reachable state
    of every schedule (`CovK s`: `newFlag = false → registry ⊆ cache`). -/
theorem C08_cache_covers_registry (s0 : BSt) (h0 : CovK s0) (ops : List Op) : CovK (runOps s0 ops) :=
  runOps_closed CovK.closed ops s0 h0

/-- **The idle pass drains the failure counters.** From any state satisfying the cache invariant (every reachable
    state), a `_poll` whose read pass finds no event (`(populate inj s).2 = 0`), run with an injection runner that takes
    no frontend step (`QuietInj`, e.g. the empty table), ends with `fail = 0` for every context still registered: the
    read pass refreshed the cache, so `_check_failure_counter` visited every registered context, and nothing that
    follows in the pass (emptiness check, context and logger clean-up) raises a counter. -/
theorem C08_idle_pass_drains_counters (inj : BSt → Nat → BSt) (hq : QuietInj inj) (s : BSt) (hk : CovK s)
    (hidle : (populate inj s).2 = 0) (i : Nat) (hi : i ∈ (poll inj s).registry) : ((poll inj s).th i).fail = 0 :=
  poll_idle_clears hq s hk hidle i hi

/-- the empty injection table takes no frontend step -/
theorem C08_empty_table_quiet : QuietInj (runInj []) := runInj_nil_quiet

/-- without interference `_check_failure_counter` empties the counter of every cached context -/
theorem C08_check_clears_counters (s : BSt) (i : Nat) (hi : i ∈ s.cache) :
    ((checkFailures (fun x _ => x) s).th i).fail = 0 :=
  (checkFailures_clears (inj := fun x _ => x) (fun s _ => Frame.refl s) s).2.1 i hi

/-- **At quiescence everything discarded has been reported** (dropping queue, repaired clean-up). Take any schedule
    `ops` from a freshly started system that leaves the backend running, and let the backend then make one poll with no
    frontend step inside it (`Op.poll []`) that finds nothing to read (an idle pass). Afterwards every failure counter of
    every context ever created is zero — registered ones were just reported, reclaimed ones had been reported before
    they were reclaimed — and therefore `Σ discarded = reported`: every refused log call has been reported through the
    notifier, none twice, none lost. -/
theorem C08_quiescent_all_reported (s0 : BSt) (hf : Fresh s0) (hs : Started s0) (hreg : s0.registry = [])
    (hd : s0.cfg.dropping = true) (hk : s0.cfg.cleanupKeepsUnreported = true) (ops : List Op)
    (hgone : (runOps s0 ops).backendGone = false)
    (hidle : (populate (runInj []) { runOps s0 ops with siteCnt := [] }).2 = 0) :
    (∀ c ∈ ctrs (runOps s0 (ops ++ [.poll []])), c.1 = 0) ∧
    ((ctrs (runOps s0 (ops ++ [.poll []]))).map (fun c => c.2.1)).sum = (runOps s0 (ops ++ [.poll []])).reported := by
  have hcov0 : CovK s0 := fun _ i hi => by rw [hreg] at hi; cases hi
  have hcov : CovK ({ runOps s0 ops with siteCnt := [] } : BSt) :=
    (C08_cache_covers_registry s0 hcov0 ops).of_same rfl rfl rfl
  have hK := runOps_closed InvK.closed (ops ++ [Op.poll []]) s0 (C08_fresh_reclaim_inv s0 hf hk)
  have hsum := (C08_dropped_equals_reported_plus_pending s0 (C08_started_inv s0 hs) hd (ops ++ [Op.poll []])).2
  have hstep : runOps s0 (ops ++ [Op.poll []]) = poll (runInj []) { runOps s0 ops with siteCnt := [] } := by
    rw [runOps_snoc, applyOp_poll hgone]
  generalize runOps s0 (ops ++ [Op.poll []]) = s1 at hK hsum hstep ⊢
  have hzero : ∀ c ∈ ctrs s1, c.1 = 0 := by
    intro c hc
    simp only [ctrs, List.mem_map] at hc
    obtain ⟨t, ht, rfl⟩ := hc
    obtain ⟨i, hi, rfl⟩ := mem_ths s1 ht
    rcases hK.a.reg i hi with hr | hr
    · rw [hstep] at hr ⊢
      exact C08_idle_pass_drains_counters (runInj []) runInj_nil_quiet _ hcov hidle i hr
    · exact hK.r.zero i hr
  refine ⟨hzero, ?_⟩
  rw [hsum, sum_map_const _ _ 0 hzero]
  simp

def c08Cfg (rep keep : Bool) : Cfg :=
  { dropping := true, qcap := 512, grace := 0, soft := 4, hard := 8, hdr := 32, strOverhead := 5, batchPct := 5,
    qp := { wStore := .release, wLoad := .acquire, rStore := .release, rLoad := .acquire, drainPublish := true },
    invalidBits := 32, refreshAfterSample := true, catchAllFormat := true, reportBeforeFlushCleanup := rep,
    cleanupKeepsUnreported := keep }

def c08Init (rep keep : Bool) : BSt :=
  { cfg := c08Cfg rep keep, now := 1000, sinks := [{ sid := 0 }], lgs := [{ gid := 0, sinks := [0] }], names := [(0, 0)] }

theorem c08Init_started (rep keep : Bool) : Started (c08Init rep keep) := ⟨rfl, rfl⟩

/-- F17's schedule: thread 1 logs (accepted), logs again (dropped: the queue is full), exits; thread 2's `flush_log`
    is processed before any idle poll -/
def f17Sched : List Op :=
  [.front (.tstart 1), .front (.tstart 2), .front (.log 1 0 4 300 true), .front (.log 1 0 4 300 true),
   .front (.texit 1), .front (.flush 2 0), .poll [], .poll []]

/-- **F17 (both repairs off)**: the Flush path reclaims thread 1's context while its failure counter still holds the
    drop: one statement discarded, nothing reported, and the counter is gone with the context. -/
theorem C08_flush_cleanup_loses_count_unrepaired :
    ((runOps (c08Init false false) f17Sched).th 0).removed = true ∧ ((runOps (c08Init false false) f17Sched).th 0).fail = 1 ∧
    ((runOps (c08Init false false) f17Sched).th 0).discarded = 1 ∧ (runOps (c08Init false false) f17Sched).reported = 0 := by
  decide +kernel

/-- the same schedule with the first repair (report before the Flush path cleans up): reported, then reclaimed -/
theorem C08_flush_cleanup_reports_repaired :
    ((runOps (c08Init true false) f17Sched).th 0).removed = true ∧ ((runOps (c08Init true false) f17Sched).th 0).fail = 0 ∧
    ((runOps (c08Init true false) f17Sched).th 0).discarded = 1 ∧ (runOps (c08Init true false) f17Sched).reported = 1 := by
  decide +kernel

/-- the same schedule with only the second repair: the context is kept until its counter has been reported -/
theorem C08_flush_cleanup_keeps_unreported :
    ((runOps (c08Init false true) f17Sched).th 0).removed = false ∧ ((runOps (c08Init false true) f17Sched).th 0).fail = 1 := by
  decide +kernel

/-- F24's schedule: thread 1's context is first in the cache; thread 2 drops a statement; in the idle poll, while the
    notifier reports thread 2's drop (hook site 8), thread 1 logs a record that can never fit (dropped) and exits -/
def f23Sched : List Op :=
  [.front (.tstart 1), .front (.tstart 2), .front (.log 1 0 4 10 true), .front (.log 2 0 4 300 true),
   .front (.log 2 0 4 300 true), .poll [], .poll [], .poll [(8, 1, [.log 1 0 4 5000 true, .texit 1])]]

/-- **F24 (first repair on, second off)**: even with `reportBeforeFlushCleanup = true` a drop made between the counter
    check and the clean-up of the same idle poll is lost with the exited thread's context: two statements discarded, one
    reported, the other count is in a removed context. So `removed → fail = 0` needs `cleanupKeepsUnreported`. -/
theorem C08_count_lost_between_check_and_cleanup :
    ((runOps (c08Init true false) f23Sched).th 0).removed = true ∧ ((runOps (c08Init true false) f23Sched).th 0).fail = 1 ∧
    ((ctrs (runOps (c08Init true false) f23Sched)).map (fun c => c.2.1)).sum = 2 ∧
    (runOps (c08Init true false) f23Sched).reported = 1 := by
  decide +kernel

/-- with the repair the context stays registered until the next idle pass has reported its counter, then it goes -/
theorem C08_count_kept_until_reported :
    ((runOps (c08Init true true) f23Sched).th 0).removed = false ∧ ((runOps (c08Init true true) f23Sched).th 0).fail = 1 ∧
    ((runOps (c08Init true true) (f23Sched ++ [.poll []])).th 0).removed = true ∧
    ((runOps (c08Init true true) (f23Sched ++ [.poll []])).th 0).fail = 0 ∧
    (runOps (c08Init true true) (f23Sched ++ [.poll []])).reported = 2 := by
  decide +kernel

/-- non-vacuity of the outcome theorem: on this schedule one call is granted (`ret=1`), the next refused (`ret=0`) -/
example :
    (applyOp (runOps (c08Init true true) (f17Sched.take 2)) (.front (.log 1 0 4 300 true))).2 = "id=0 ret=1 ev=1 bytes=338" ∧
    (applyOp (runOps (c08Init true true) (f17Sched.take 3)) (.front (.log 1 0 4 300 true))).2 = "id=1 ret=0 ev=1 bytes=0" := by
  decide +kernel

/-- non-vacuity of the quiescence theorem: after the F24 schedule the next poll is idle (its read pass finds nothing),
    and after it the two discarded statements are both reported -/
example : (runOps (c08Init true true) f23Sched).backendGone = false ∧
    (populate (runInj []) { runOps (c08Init true true) f23Sched with siteCnt := [] }).2 = 0 ∧
    ((ctrs (runOps (c08Init true true) (f23Sched ++ [.poll []]))).map (fun c => c.2.1)).sum = 2 ∧
    (runOps (c08Init true true) (f23Sched ++ [.poll []])).reported = 2 := by decide +kernel

/-- non-vacuity of `C08_discarded_never_written`: in the F17 schedule the second call (id 1) was refused; its id is
    unplaced and unwritten at the end, while id 0 was accepted and written once -/
example : tot (runOps (c08Init true true) f17Sched) 1 = 0 ∧ 1 < (runOps (c08Init true true) f17Sched).nextId ∧
    wcount (runOps (c08Init true true) f17Sched).log 0 1 = 0 ∧ tot (runOps (c08Init true true) f17Sched) 0 = 1 ∧
    wcount (runOps (c08Init true true) f17Sched).log 0 0 = 1 := by decide +kernel

end Backend
