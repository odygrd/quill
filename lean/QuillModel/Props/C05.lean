import QuillModel.Backend.ConsProofsFront
import QuillModel.Backend.OrdTop
/-!
# C05 — output is in global timestamp order when enqueues respect the grace period

The property theorems (the invariant and its preservation are in `Backend/Ord*.lean`), then the witness configuration
`c05Init` with the schedules `c05Window` and `c05Stall`: the pinned order violates the property, the premise is needed.

Quantifiers: every initial state without threads (`Start`: any sinks, loggers, clock value), every
configuration with a non-zero grace period (`Cfg`: dropping or blocking queue, capacity, soft/hard limit,
batch percentage, …) whose context cache is refreshed after `ts_now` is sampled (`refreshAfterSample`, extracted
from `_populate_transit_events_from_frontend_queues`), **every schedule** `ops : List Op` of frontend
operations (thread start/exit, log calls of every kind, stalls between the clock read and the enqueue, blocked
and retried calls, flush / backtrace / removal requests, logger and sink management, clock ticks), backend polls
with arbitrary frontend operations injected at every hook site inside the poll, and the exit drain.

The property's own premise — *every statement is enqueued no later than the grace period after its timestamp
was taken* — is `GracePremise`: a decidable predicate on the final state's ghost history (`Th.accepted`, each
record carrying `ts` and the clock at its commit `enqAt`). Calls that are stalled or blocked for longer than the
grace period break the premise and are thereby excluded by the property itself (see `C05_premise_needed`).
-/
namespace Backend
open Backend.PB

/-- **Global order of processing, from any state that satisfies the ordering invariant** `GI` (every start state, every
    reachable state): the order is maintained by every continuation of the schedule. -/
theorem C05_order_continues (s : BSt) (h : GI s) (hg : s.cfg.grace ≠ 0) (hr : s.cfg.refreshAfterSample = true)
    (ops : List Op) (hp : GracePremise (runOps s ops)) :
    ((runOps s ops).popLog.reverse.map (·.ts)).Pairwise (· ≤ ·) := by
  have h := (h.runOps ops).popSorted (by rw [runOps_cfg]; exact hg) (by rw [runOps_cfg]; exact hr) hp
  rw [List.pairwise_map, List.pairwise_reverse]
  exact h

/-- **Global order of processing.** For every schedule whose accepted records all respect the grace period, the
    backend pops transit events (ordinary statements *and* control events such as flush requests) in
    non-decreasing timestamp order across all threads and loggers. `popLog` is the chronological record of
    `_process_lowest_timestamp_transit_event` (newest first, hence the `reverse`). -/
theorem C05_pop_order (s0 : BSt) (h0 : Start s0) (hg : s0.cfg.grace ≠ 0) (hr : s0.cfg.refreshAfterSample = true)
    (ops : List Op) (hp : GracePremise (runOps s0 ops)) :
    ((runOps s0 ops).popLog.reverse.map (·.ts)).Pairwise (· ≤ ·) :=
  C05_order_continues s0 (start_GI h0) hg hr ops hp

/-- **C05.** The ordinary (non-backtrace) log statements are written in non-decreasing timestamp order: the
    chronological sequence of processed events restricted to `Kind.log` statements that are not
    `LOG_BACKTRACE` (level 9; their replay is the documented exception) is sorted by timestamp. Each such
    statement is handed to its sinks at the moment it is popped (`processEvent`), so this is the order of the
    `write_log` calls. -/
theorem C05_statement_order (s0 : BSt) (h0 : Start s0) (hg : s0.cfg.grace ≠ 0) (hr : s0.cfg.refreshAfterSample = true)
    (ops : List Op) (hp : GracePremise (runOps s0 ops)) :
    (((runOps s0 ops).popLog.reverse.filter (fun st => st.kind = .log ∧ st.lvl ≠ 9)).map (·.ts)).Pairwise (· ≤ ·) := by
  have h := C05_pop_order s0 h0 hg hr ops hp
  rw [List.pairwise_map] at h ⊢
  exact h.sublist List.filter_sublist

def c05Params : Spsc.Params :=
  { wStore := .release, wLoad := .acquire, rStore := .release, rLoad := .acquire, drainPublish := true }

/-- blocking queue of 1024 bytes, grace period 10, soft limit 4, hard limit 8 -/
def c05Cfg (refreshAfterSample : Bool) : Cfg :=
  { dropping := false, qcap := 1024, grace := 10, soft := 4, hard := 8, hdr := 32,
    strOverhead := 4, batchPct := 5, qp := c05Params, invalidBits := 32, refreshAfterSample := refreshAfterSample,
    catchAllFormat := true, reportBeforeFlushCleanup := true }

/-- one sink, one logger, clock at 1000 -/
def c05Init (refreshAfterSample : Bool) : BSt :=
  { cfg := c05Cfg refreshAfterSample, now := 1000, sinks := [{ sid := 0 }],
    lgs := [{ gid := 0, sinks := [0], level := 0 }], names := [(0, 0)] }

theorem c05Init_start (b : Bool) : Start (c05Init b) := ⟨by show 0 < 32; decide, rfl, rfl, rfl, rfl, rfl⟩

/-- F5 window: thread 1 is known to the backend. *Inside the backend's clock read* of the next poll (hook site 7)
    thread 2 registers and logs at 1100, then thread 1 logs at 1101, and time passes beyond the grace period —
    both records are committed at their timestamp instant, so the premise holds. -/
def c05Window : List Op :=
  [ .front (.tstart 1), .front (.tstart 2), .front (.log 1 0 4 10 true), .front (.tick 100), .poll [],
    .poll [(7, 1, [.log 2 0 4 10 true, .tick 1, .log 1 0 4 10 true, .tick 99])], .poll [] ]

/-- **The pinned order is wrong (F5).** With the context cache refreshed *before* `ts_now` is sampled
    (`refreshAfterSample = false`, the order of statements in the pinned `_poll`) the window schedule meets the
    premise and yet 1101 is written before 1100. -/
theorem C05_pinned_order_violates :
    Start (c05Init false) ∧ (c05Init false).cfg.grace ≠ 0 ∧ GracePremise (runOps (c05Init false) c05Window) ∧
    (runOps (c05Init false) c05Window).popLog.reverse.map (·.ts) = [1000, 1101, 1100] ∧
    ¬ (((runOps (c05Init false) c05Window).popLog.reverse.filter (fun st => st.kind = .log ∧ st.lvl ≠ 9)).map
        (·.ts)).Pairwise (· ≤ ·) := by
  refine ⟨c05Init_start false, ?_⟩
  decide +kernel

/-- non-vacuity of `C05_statement_order`: the same window under the repaired order satisfies every hypothesis
    and three statements of two threads are written, in timestamp order. -/
example : Start (c05Init true) ∧ (c05Init true).cfg.grace ≠ 0 ∧ (c05Init true).cfg.refreshAfterSample = true ∧
    GracePremise (runOps (c05Init true) c05Window) ∧
    ((runOps (c05Init true) c05Window).popLog.reverse.filter (fun st => st.kind = .log ∧ st.lvl ≠ 9)).map (·.ts)
      = [1000, 1100, 1101] := by
  refine ⟨c05Init_start true, ?_⟩
  decide +kernel

/-- a call stalled between its clock read (1000) and its enqueue (1300) for longer than the grace period -/
def c05Stall : List Op :=
  [ .front (.tstart 1), .front (.tstart 2), .front (.armStall 1), .front (.log 1 0 4 10 true),
    .front (.tick 200), .front (.log 2 0 4 10 true), .front (.tick 100), .poll [],
    .front (.resume 1), .front (.tick 100), .poll [] ]

/-- **The premise is needed** (and is exactly what excludes late enqueues): the stalled call breaks the premise,
    and the output is indeed out of order (1200 before 1000) although the repaired order is in force. -/
theorem C05_premise_needed :
    ¬ GracePremise (runOps (c05Init true) c05Stall) ∧
    (runOps (c05Init true) c05Stall).popLog.reverse.map (·.ts) = [1200, 1000] := by
  decide +kernel

end Backend
