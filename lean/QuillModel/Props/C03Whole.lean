import QuillModel.Backend.LiftOnceNodup
import QuillModel.Props.C03Delivery
/-!
# C03 (lift) — exactly once as ONE equality over the whole run

`C03_pop_writes_exactly` is a statement per pop, `C03_delivered_after_quiet_drain` says `accepted = popped` after the
drain; this file composes them. The acceptance decision (sink level, filters, `write_log` faults) is taken in the state
of the pop, which the final state no longer records (`setSinkLevel` may run between the log call and the pop, and after
it), so the equality is stated against the decision function on states, with no ghost field:

`dispatchCount s st sid` (`Backend/LiftOnce.lean`) = what `_write_log_statement` for `st` writes at sink `sid` when it
runs in state `s`, computed by a recursion that mirrors `writeToSinks`. For a logger whose sink list has no duplicates it
is `1` exactly when `sid` is in the list, accepts `st` in `s` and neither `sid` nor an accepting sink before it throws on
this call, else `0` (`C03_dispatchCount_eq_one_iff`, `C03_dispatchCount_le_one`).
-/
namespace Backend
open Backend.PA Backend.PB

/-- **Whole-run equality.** From every initial state satisfying `Inv` in which nothing has been popped yet, after every
    schedule: for every ordinary statement `st` in the `popped` history of any context `i` there is a state `s` — `Inv s`,
    `st` at the front of context `i`'s transit buffer — such that at every sink the number of ordinary writes of `st.id` in
    the whole final history is what the dispatch decides in `s`. (The proof's witness is the state in which
    `_process_lowest_timestamp_transit_event` popped `st`; the statement itself does not tie `s` to the run — see
    `C03_whole_run_count_cfg`, `C03_exactly_once_trace`.) -/
theorem C03_whole_run_count (s0 : BSt) (h0 : Inv s0) (hp0 : ∀ i, (s0.th i).popped = []) (ops : List Op) (i : Nat)
    (st : Stmt) (hm : st ∈ ((runOps s0 ops).th i).popped) (hord : isOrd st = true) :
    ∃ s, Inv s ∧ (s.th i).buf.head? = some st ∧
      ∀ sid, wcount (runOps s0 ops).log sid st.id = dispatchCount s st sid :=
  ((WInv.of_start h0 hp0).run ops).dec i st hm hord

/-- the count a dispatch decides, for a logger that lists every sink once: 0 or 1 -/
theorem C03_dispatchCount_le_one (s : BSt) (st : Stmt) (sid : Nat) (hn : (s.lgOf st.lg).sinks.Nodup) :
    dispatchCount s st sid ≤ 1 :=
  dispatchCount_le_one s st sid hn

/-- … and it is 1 exactly when `sid` is one of the logger's sinks, accepts `st` in `s` (`acc`: sink level and filters as
    they are in `s`), and no accepting sink up to and including `sid` throws on this `write_log` call
    (`sinkThrows s k`: the fault schedule of `k` contains its next call number) -/
theorem C03_dispatchCount_eq_one_iff (s : BSt) (st : Stmt) (sid : Nat) (hn : (s.lgOf st.lg).sinks.Nodup) :
    dispatchCount s st sid = 1 ↔
      ∃ pre post, (s.lgOf st.lg).sinks = pre ++ sid :: post ∧ acc s st sid = true ∧
        ∀ k ∈ pre ++ [sid], acc s st k = true → sinkThrows s k = false :=
  dispatchCount_eq_one_iff s st sid hn

/-- **Exactly once after a drain, as one equality.** Under the premises of `C03_delivered_after_quiet_drain` (any start
    without threads, any schedule `ops`, the grace period passes, then at least `pendingCount` quiet polls), for the final
    state `F`: every ordinary statement that any context ever ACCEPTED has, at every sink, exactly the writes its dispatch
    decides in a state `s` as in `C03_whole_run_count` (in the proof: the state of its pop) — in the whole history of the
    run. -/
theorem C03_exactly_once_after_drain (s0 : BSt) (h0 : StartF s0) (hi0 : Inv s0) (ops : List Op)
    (hrun : (runOps s0 ops).backendGone = false) (dt : Nat) (hdt : (runOps s0 ops).cfg.grace ≤ dt)
    (suffix : List Op) (hq : ∀ o ∈ suffix, quietOp o = true)
    (hn : pendingCount (runOps s0 ops) ≤ pollCount suffix) (i : Nat) (st : Stmt)
    (hm : st ∈ ((runOps (runOps s0 ops) (.front (.tick dt) :: suffix)).th i).accepted) (hord : isOrd st = true) :
    ∃ s, Inv s ∧ (s.th i).buf.head? = some st ∧
      ∀ sid, wcount (runOps (runOps s0 ops) (.front (.tick dt) :: suffix)).log sid st.id = dispatchCount s st sid := by
  have hd := (C03_delivered_after_quiet_drain s0 h0 ops hrun dt hdt suffix hq hn i).1
  rw [hd] at hm
  have e : runOps (runOps s0 ops) (.front (.tick dt) :: suffix) = runOps s0 (ops ++ .front (.tick dt) :: suffix) :=
    (runOps_append s0 ops _).symm
  rw [e] at hm ⊢
  exact C03_whole_run_count s0 hi0 h0.popped_nil _ i st hm hord

/-- the same, spelled out for a logger without duplicate sinks: the count is 0 or 1, and 1 exactly under the pop-time
    decision -/
theorem C03_exactly_once_after_drain_nodup (s0 : BSt) (h0 : StartF s0) (hi0 : Inv s0) (ops : List Op)
    (hrun : (runOps s0 ops).backendGone = false) (dt : Nat) (hdt : (runOps s0 ops).cfg.grace ≤ dt)
    (suffix : List Op) (hq : ∀ o ∈ suffix, quietOp o = true)
    (hn : pendingCount (runOps s0 ops) ≤ pollCount suffix) (i : Nat) (st : Stmt)
    (hm : st ∈ ((runOps (runOps s0 ops) (.front (.tick dt) :: suffix)).th i).accepted) (hord : isOrd st = true) :
    ∃ s, Inv s ∧ (s.th i).buf.head? = some st ∧ ((s.lgOf st.lg).sinks.Nodup → ∀ sid,
      wcount (runOps (runOps s0 ops) (.front (.tick dt) :: suffix)).log sid st.id ≤ 1 ∧
      (wcount (runOps (runOps s0 ops) (.front (.tick dt) :: suffix)).log sid st.id = 1 ↔
        ∃ pre post, (s.lgOf st.lg).sinks = pre ++ sid :: post ∧ acc s st sid = true ∧
          ∀ k ∈ pre ++ [sid], acc s st k = true → sinkThrows s k = false)) := by
  obtain ⟨s, h1, h2, h3⟩ := C03_exactly_once_after_drain s0 h0 hi0 ops hrun dt hdt suffix hq hn i st hm hord
  refine ⟨s, h1, h2, fun hnd sid => ?_⟩
  rw [h3 sid]
  exact ⟨dispatchCount_le_one s st sid hnd, dispatchCount_eq_one_iff s st sid hnd⟩

theorem c03TightInit_fresh : Fresh c03TightInit :=
  Fresh.of_no_rings (by decide) rfl rfl rfl rfl (by decide)

/-- the premises hold on `c03TightInit` / `c03TightPre` with three quiet polls (see `C03Delivery.lean`), the start
    satisfies `Inv`, statement 0 is accepted and ordinary, and the whole final history has exactly one write of it at each
    of the two sinks — which is what the decision function gives in the start state's sink configuration (both sinks
    accept, no fault) -/
example : Inv c03TightInit ∧
    (((runOps (runOps c03TightInit c03TightPre) [.front (.tick 0), .poll [], .poll [], .poll []]).th 0).accepted.filter
      isOrd).map (·.id) = [0, 1] ∧
    wcount (runOps (runOps c03TightInit c03TightPre) [.front (.tick 0), .poll [], .poll [], .poll []]).log 1 0 = 1 ∧
    wcount (runOps (runOps c03TightInit c03TightPre) [.front (.tick 0), .poll [], .poll [], .poll []]).log 2 0 = 1 ∧
    (c03TightInit.lgOf 0).sinks.Nodup :=
  ⟨c03TightInit_fresh.inv, by decide +kernel⟩

/-- two statements of one thread, the first one processed -/
def c03WholeMid : BSt :=
  runOps c03Init [.front (.tstart 0), .front (.log 0 0 4 10 true), .front (.log 0 0 4 10 true), .poll []]

/-- the decision function on a concrete state with a fault and a level change: statement 1 is at the front of the transit
    buffer; sink 2 throws on its 2nd call, so the dispatch in this state writes it once at sink 1 and not at sink 2; after
    `setSinkLevel 1 5` (above the statement's level 4) sink 1 rejects it as well — the decision is the pop-time one -/
example :
    ((c03WholeMid.th 0).buf.map (·.id)) = [1] ∧ ((c03WholeMid.th 0).popped.map (·.id)) = [0] ∧
    (c03WholeMid.th 0).buf.head?.map (fun st =>
      (dispatchCount c03WholeMid st 1, dispatchCount c03WholeMid st 2,
       dispatchCount (applyFront c03WholeMid (.setSinkLevel 1 5)).1 st 1)) = some (1, 0, 0) ∧
    wcount (runOps c03WholeMid [.poll []]).log 1 1 = 1 ∧ wcount (runOps c03WholeMid [.poll []]).log 2 1 = 0 ∧
    wcount (runOps c03WholeMid [.front (.setSinkLevel 1 5), .poll []]).log 1 1 = 0 := by decide +kernel

end Backend
