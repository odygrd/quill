import QuillModel.Props.C17Removal
/-!
# C17 — every pending `remove_logger_blocking` request is served by the pass that erases its logger, and by no other

`C17_removal_flag_after_erase` (`Props/C17Removal.lean`) is the direction "a raised flag means the logger is erased".
This file adds the other direction for the clean-up pass (`_cleanup_invalidated_loggers`, with arbitrary frontend
operations at hook site 9 inside the sink destructors): the pass raises the recorded flag of **every** name one of whose
objects it erased, and **keeps** every recorded request of a name it did not erase — so with several blocking removals in
flight whose loggers are erased in different passes no caller is forgotten. Witness: a pass that clears the whole map
(`cleanupLoggersClearAll`, seeded change C17_m6) leaves the second caller parked for ever.
-/
namespace Backend
open Backend.PC

/-- **The clean-up pass serves exactly the requests of the loggers it erases** — for every state `s`, every injection
    table (frontend operations of any threads run inside the sink destructors, hook site 9), with
    `s' = cleanupLoggers (runInj table) s`:
    1. (erased ⇒ released) if the pass erased a logger object `j` and a removal request is recorded for its name
       (`find?` = the map lookup of `_logger_removal_flags`), that request's flag is raised when the pass ends;
    2. (nobody forgotten) a recorded request whose name belongs to no object erased in this pass is still recorded
       afterwards — it will be served by the pass that erases its logger (clause 1 for that pass);
    3. (nothing else raised) every flag raised by the pass was recorded for the name of an object it erased;
    4. no request is invented. -/
theorem C17_cleanup_serves_erased (table : List (Nat × Nat × List FOp)) (s : BSt) :
    let s' := cleanupLoggers (runInj table) s
    (∀ j, j < s.lgs.length → (s.lgOf j).erased = false → (s'.lgOf j).erased = true →
      ∀ g' f, s.removalFlags.find? (·.1 = (s.lgOf j).gid) = some (g', f) → f ∈ s'.flags) ∧
    (∀ p ∈ s.removalFlags,
      (∀ j, j < s.lgs.length → (s.lgOf j).erased = false → (s'.lgOf j).erased = true → (s.lgOf j).gid ≠ p.1) →
      p ∈ s'.removalFlags) ∧
    (∀ f ∈ s'.flags, f ∈ s.flags ∨ ∃ p ∈ s.removalFlags, p.2 = f ∧
      ∃ j, j < s.lgs.length ∧ (s.lgOf j).gid = p.1 ∧ (s.lgOf j).erased = false ∧ (s'.lgOf j).erased = true) ∧
    (∀ p ∈ s'.removalFlags, p ∈ s.removalFlags) :=
  cleanupLoggers_serves (runInj table) (runInj9_ev table) s _ rfl

/-- the logger clean-up with `_logger_removal_flags.clear()` after the served entries (not the model: the seeded
    change C17_m6) -/
def cleanupLoggersClearAll (inj : BSt → Nat → BSt) (s : BSt) : BSt :=
  let s' := cleanupLoggers inj s
  if s'.flags.length = s.flags.length then s' else { s' with removalFlags := [] }

/-- three loggers with their own sinks -/
def c17Init3 : BSt :=
  { cfg := c17Cfg, now := 1000, sinks := [{ sid := 0 }, { sid := 1 }, { sid := 2 }],
    lgs := [{ gid := 0, sinks := [0] }, { gid := 1, sinks := [1] }, { gid := 2, sinks := [2] }],
    names := [(0, 0), (1, 1), (2, 2)] }

/-- threads 0 and 1 are parked in `remove_logger_blocking(0)` / `(1)`, both requests decoded and popped, the user has
    dropped both sinks, every queue empty: the state in which the idle pass runs the logger clean-up -/
def c17Two : BSt :=
  { runOps c17Init3 [.front (.tstart 0), .front (.tstart 1), .front (.tstart 2), .front (.dropSink 0), .front (.dropSink 1),
      .front (.removeBlocking 0 0), .front (.removeBlocking 1 1), .poll [], .poll []] with siteCnt := [] }

/-- while sink 0 is being destroyed, thread 2 logs through logger 2: logger 1 is kept for a later pass -/
def c17Split : List (Nat × Nat × List FOp) := [(9, 1, [.log 2 2 4 8 false])]

/-- **Two blocking removals in flight, loggers erased in different passes.** The model's pass serves request 0 and keeps
    request 1 recorded; two polls later logger 1 is erased, flag 1 raised, caller 1 returns. With the map cleared after
    the first pass, logger 1 is erased all the same but its flag is never raised: the caller stays parked. -/
theorem C17_clear_all_forgets_second_caller :
    (let y := cleanupLoggers (runInj c17Split) c17Two
     c17Two.removalFlags = [(0, 0), (1, 1)] ∧ y.flags = [0] ∧ y.removalFlags = [(1, 1)] ∧
     (y.lgOf 0).erased = true ∧ (y.lgOf 1).erased = false ∧
     (let z := runOps y [.poll [], .poll []]
      (z.lgOf 1).erased = true ∧ z.flags = [1, 0] ∧ (resume z 1).2 = "done")) ∧
    (let y := cleanupLoggersClearAll (runInj c17Split) c17Two
     y.flags = [0] ∧ y.removalFlags = [] ∧ (y.lgOf 1).erased = false ∧
     (let z := runOps y [.poll [], .poll [], .poll []]
      (z.lgOf 1).erased = true ∧ z.flags = [0] ∧ (resume z 1).2 = "parked:sleep")) := by
  decide +kernel

/-- non-vacuity of `C17_cleanup_serves_erased` on that state: clause 1 fires for logger 0 (flag 0), clause 2 for the
    request of logger 1 -/
example :
    let y := cleanupLoggers (runInj c17Split) c17Two
    (c17Two.lgOf 0).erased = false ∧ (y.lgOf 0).erased = true ∧
    c17Two.removalFlags.find? (·.1 = (c17Two.lgOf 0).gid) = some (0, 0) ∧ 0 ∈ y.flags ∧
    (1, 1) ∈ c17Two.removalFlags ∧ (y.lgOf 1).erased = false ∧ (y.lgOf 2).erased = false ∧ (1, 1) ∈ y.removalFlags := by
  decide +kernel

/- Not proved: the run-level form "in every reachable state every decoded removal request is either raised
   or still recorded, and raised if its object is erased" needs, on top of `RI`, that `removalFlags` holds at most one entry
   per name (the second loop drops *all* entries of a served name); the pass-level theorem above is what the seeded change
   violates, and the H2 oracle `remove_logger_blocking … still parked` checks the run-level statement on the real code. -/

end Backend
