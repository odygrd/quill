import QuillModel.Props.C03Transit
import QuillModel.MathUtil.TransitW
/-!
# C03 — `TransitEventBuffer`: the constructor and the 64-bit index arithmetic discharge `C03_transit_refines`' premises

`C03_transit_refines` is about a ring with free-running natural positions, `pos % cap`, any initial capacity `> 0`.
The C++ has `_initial_capacity = next_power_of_two(initial_capacity)` (the option is a `uint32_t`), `_mask`,
`size_t` positions that wrap at `2^64`, `_capacity * 2`. For every request the premise holds, and the `w`-bit machine is
the image of the free-running ring from every well-formed state (positions arbitrarily large — through any counter
wrap) as long as the buffer never holds more than `L` events with `max(initial, 2L)·2 < 2^w`.
-/
namespace MathUtil
open Transit
variable {α : Type}

/-- FIFO refinement for the buffer the constructor builds, whatever initial capacity was requested -/
theorem C03_transit_any_requested_capacity (w : Nat) (hw : 1 ≤ w) (req : Nat) (d : α) (ops : List (Op α)) :
    (Transit.run (TB.init (transitCtor w req).capacity d) ops).abs = specRun [] ops ∧
    TInv (Transit.run (TB.init (transitCtor w req).capacity d) ops) := by
  obtain ⟨_, _, _, _, _, hpos⟩ := transitCtor_ok hw req
  exact C03_transit_refines _ d hpos ops

/-- the `w`-bit buffer (wrapping positions, `& _mask`) is the free-running ring: from any well-formed state with
    power-of-two capacities, for any history that never holds more than `L` events -/
theorem C03_transit_wbit_refines (w L : Nat) (b : TB α) (ops : List (Op α)) (hi : TInv b)
    (hi0 : ∃ j, b.initCap = 2 ^ j) (hc : ∃ j, b.cap = 2 ^ j) (hcap : b.cap ≤ max b.initCap (2 * L))
    (hfit : max b.initCap (2 * L) * 2 < 2 ^ w) (hs : SizesLE L b ops) :
    ops.foldl (stepW w) (toW w b) = toW w (ops.foldl step b) ∧
    (toW w (ops.foldl step b)).front = (ops.foldl step b).front ∧
    (toW w (ops.foldl step b)).size w = (ops.foldl step b).size ∧
    (toW w (ops.foldl step b)).isEmpty = (ops.foldl step b).isEmpty :=
  runW_toW w ops b hi hi0 (capsOK_of_sizes w L ops b hcap hfit hs)

/-- instantiated for the real types: `uint32_t` option, `size_t` buffer, at most `2^32` events buffered per thread
    (`transit_events_hard_limit` is a `uint32_t`) — the premises about widths are discharged by computation -/
theorem C03_transit_real_widths (req L : Nat) (hreq : req < 2 ^ 32) (hL : L ≤ 2 ^ 32) (d : α) (ops : List (Op α))
    (hs : SizesLE L (TB.init (transitCtor 64 req).capacity d) ops) :
    ops.foldl (stepW 64) (toW 64 (TB.init (transitCtor 64 req).capacity d)) =
      toW 64 (ops.foldl step (TB.init (transitCtor 64 req).capacity d)) := by
  obtain ⟨j, hj, hc, _, _, hpos⟩ := transitCtor_ok (w := 64) (by decide) req
  have hle : (transitCtor 64 req).capacity ≤ 2 ^ 32 :=
    (nextPow2W_le_iff (w := 64) (k := 32) (by decide) (by decide) req).mpr (Nat.le_of_lt hreq)
  refine (C03_transit_wbit_refines 64 L _ ops (init_inv _ d hpos) ⟨j, hc⟩ ⟨j, hc⟩ (Nat.le_max_left _ _) ?_ hs).1
  show max (transitCtor 64 req).capacity (2 * L) * 2 < 2 ^ 64
  have h33 : max (transitCtor 64 req).capacity (2 * L) ≤ 2 ^ 33 :=
    Nat.max_le.mpr ⟨Nat.le_trans hle (Nat.pow_le_pow_right (by decide) (by decide)), Nat.mul_le_mul_left 2 hL⟩  -- `2 * 2 ^ 32` is `2 ^ 33`
  exact Nat.lt_of_le_of_lt (Nat.mul_le_mul_right 2 h33) (by decide)

/-- Observation: `_expand` on a capacity of `2^(w-1)` computes a new capacity of 0 (`_capacity * 2` wraps) — needs
    `2^63` buffered events, unreachable -/
theorem C03_expand_wraps_at_top (w : Nat) (hw : 1 ≤ w) : dblW w (2 ^ (w - 1)) = 0 := by
  obtain ⟨k, rfl⟩ : ∃ k, w = k + 1 := ⟨w - 1, by omega⟩
  simp only [dblW, Nat.add_sub_cancel, ← Nat.pow_succ, Nat.mod_self]

/-- non-vacuity: a buffer whose positions sit just below `2^8` wraps its counters and still shows the FIFO -/
example :
    let b : TB Nat := { initCap := 2, cap := 4, store := fun i => 100 + i, rpos := 253, wpos := 255 }
    let ops : List (Op Nat) := [.push 7, .push 8, .pop, .pop, .push 9]
    (ops.foldl (stepW 8) (toW 8 b)).rpos = 255 ∧ (ops.foldl (stepW 8) (toW 8 b)).wpos = 2 ∧
    (ops.foldl (stepW 8) (toW 8 b)).front = some 7 ∧ (ops.foldl (stepW 8) (toW 8 b)).size 8 = 3 := by decide +kernel

end MathUtil
