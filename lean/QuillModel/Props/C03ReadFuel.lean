import QuillModel.Backend.LiftFuelFront
import QuillModel.Props.C03
/-!
# C03 (lift) — the loop fuel of `readQueue` is sufficient, and its exhaustion is observable

`Sched.lean` runs `_read_and_decode_frontend_queue` as `readQueue inj tsNow i fuel total s` with
`fuel = qStmts.length + 64` (`populate`). The C++ loop has no such bound; the model's `fuel = 0` exit commits and returns
silently, so a statement of the model about a read pass is a statement about the C++ only when the fuel was not the
reason the loop stopped. `readExits` (in `Backend/LiftFuel.lean`) mirrors the recursion and tells whether the loop left
through one of the exits the C++ has. Every iteration consumes one record and every injected frontend operation commits
at most one, so `populate`'s fuel suffices when the injection table schedules at most 63 operations at hook site 3 (all
visits together; a decidable premise on the table); `C03_read_fuel_exhaustible` shows that the premise is needed.
-/
namespace Backend
open Backend.PA

/-- the result of the read loop together with the exit observer: `.2 = false` iff the model's fuel ran out before the
    loop reached one of the exits of the C++ -/
def readQueueObs (inj : BSt → Nat → BSt) (tsNow : Option Nat) (i fuel total : Nat) (s : BSt) : BSt × Bool :=
  (readQueue inj tsNow i fuel total s, readExits inj tsNow i fuel total s)

/-- **Fuel independence.** If the read loop of context `i` leaves through a real exit with fuel `f`, then with every
    larger fuel it computes the same state and also leaves through a real exit. Every injection runner, every state. -/
theorem C03_read_fuel_mono (inj : BSt → Nat → BSt) (tsNow : Option Nat) (i f total : Nat) (s : BSt)
    (h : (readQueueObs inj tsNow i f total s).2 = true) (f' : Nat) (hf : f ≤ f') :
    readQueueObs inj tsNow i f' total s = readQueueObs inj tsNow i f total s := by
  obtain ⟨h1, h2⟩ := readQueue_fuel_mono inj tsNow i f total s h f' hf
  unfold readQueueObs at h ⊢
  dsimp only at h
  rw [h1, h2, h]

/-- **Quiet runner.** If nothing run at hook site 3 makes context `i`'s queue longer, `qStmts.length + 1` iterations
    reach a real exit (each iteration consumes one record). -/
theorem C03_read_fuel_quiet (inj : BSt → Nat → BSt) (i : Nat)
    (hq : ∀ s, ((inj s 3).th i).qStmts.length ≤ (s.th i).qStmts.length) (tsNow : Option Nat) (total : Nat) (s : BSt)
    (f : Nat) (hf : (s.th i).qStmts.length < f) :
    readExits inj tsNow i f total s = true := by
  refine readExits_of_measure inj tsNow i (fun x => (x.th i).qStmts.length) ?_ f total s hf
  intro x st rest hx
  have h1 := hq (readOneF x i st rest)
  have hF : (readOneF x i st rest).th i = (readOne x i st rest).th i := by
    simp only [BSt.th, (readOneF_eq x i st rest).2.1]
  rw [hF, readOne_qStmts x i st rest (qStmts_head_lt hx)] at h1
  show ((inj (readOneF x i st rest) 3).th i).qStmts.length < (x.th i).qStmts.length
  rw [hx, List.length_cons]
  omega

/-- **Any injection table.** Under `runInj table`: any fuel above the queue length plus the operations the table still schedules
    at the coming visits of site 3 (`budget table k`, `k` = number of the next visit) reaches a real exit. -/
theorem C03_read_fuel_budget (table : List (Nat × Nat × List FOp)) (tsNow : Option Nat) (i f total : Nat) (s : BSt)
    (h : (s.th i).qStmts.length + budget table (siteK s 3) < f) :
    readExits (runInj table) tsNow i f total s = true :=
  readExits_of_measure (runInj table) tsNow i (readMeasure table i) (readMeasure_step table i) f total s h

/-- **No injection at site 3.** `qStmts.length + 1` suffices. -/
theorem C03_read_fuel_no_site3 (table : List (Nat × Nat × List FOp)) (h3 : ∀ e ∈ table, e.1 ≠ 3)
    (tsNow : Option Nat) (i total : Nat) (s : BSt) :
    readExits (runInj table) tsNow i ((s.th i).qStmts.length + 1) total s = true := by
  apply C03_read_fuel_budget
  rw [budget_eq_zero_of_no3 table h3]
  omega

/-- **The fuel of `populate` is sufficient.** For every table that schedules at most 63 frontend operations at hook
    site 3 (sum over all its site-3 entries), every state, every context, every sampled `ts_now`: the read loop started
    with `populate`'s fuel leaves through a real exit. -/
theorem C03_read_fuel_sufficient (table : List (Nat × Nat × List FOp)) (h : site3Ops table ≤ 63)
    (tsNow : Option Nat) (i : Nat) (s : BSt) :
    readExits (runInj table) tsNow i ((s.th i).qStmts.length + 64) 0 s = true := by
  apply C03_read_fuel_budget
  have := budget_le_site3Ops table (siteK s 3)
  omega

/-- `populate`, and the conjunction of the exit flags of every `readQueue` call it makes -/
def populateObs (inj : BSt → Nat → BSt) (s : BSt) : (BSt × Nat) × Bool :=
  (PC.popS2 inj s).cache.foldl (fun (a : (BSt × Nat) × Bool) i =>
    (PC.popStep inj (tsNowOf (PC.popS1 inj s)) a.1 i,
     a.2 && readExits inj (tsNowOf (PC.popS1 inj s)) i (((inj a.1.1 2).th i).qStmts.length + 64) 0 (inj a.1.1 2)))
    ((PC.popS2 inj s, 0), true)

theorem foldl_obs {σ α} (g : σ → α → σ) (p : σ → α → Bool) : ∀ (l : List α) (a : σ) (b : Bool),
    (l.foldl (fun (x : σ × Bool) i => (g x.1 i, x.2 && p x.1 i)) (a, b)).1 = l.foldl g a ∧
    ((∀ x i, p x i = true) → (l.foldl (fun (x : σ × Bool) i => (g x.1 i, x.2 && p x.1 i)) (a, b)).2 = b)
  | [], _, _ => ⟨rfl, fun _ => rfl⟩
  | i :: l, a, b => by
    simp only [List.foldl_cons]
    obtain ⟨h1, h2⟩ := foldl_obs g p l (g a i) (b && p a i)
    refine ⟨h1, fun hp => ?_⟩
    rw [h2 hp, hp, Bool.and_true]

theorem populateObs_fst (inj : BSt → Nat → BSt) (s : BSt) : (populateObs inj s).1 = populate inj s := by
  rw [populate_eq]
  exact (foldl_obs (PC.popStep inj (tsNowOf (PC.popS1 inj s)))
    (fun (a : BSt × Nat) i =>
      readExits inj (tsNowOf (PC.popS1 inj s)) i (((inj a.1 2).th i).qStmts.length + 64) 0 (inj a.1 2)) _ _ _).1

/-- **The fuel is never exhausted.** For every table with at most 63 operations at site 3 and every state, every
    `readQueue` call of `populate (runInj table) s` leaves through a real exit. -/
theorem C03_fuel_never_exhausted (table : List (Nat × Nat × List FOp)) (h : site3Ops table ≤ 63) (s : BSt) :
    (populateObs (runInj table) s).2 = true :=
  (foldl_obs (PC.popStep (runInj table) (tsNowOf (PC.popS1 (runInj table) s)))
    (fun (a : BSt × Nat) i =>
      readExits (runInj table) (tsNowOf (PC.popS1 (runInj table) s)) i
        ((((runInj table) a.1 2).th i).qStmts.length + 64) 0 ((runInj table) a.1 2)) _ _ _).2
    (fun _ i => C03_read_fuel_sufficient table h _ i _)

/-- `readQueue` and `readExits` in one recursion. The two walk through the same states; evaluated separately each state is
    computed twice, here once. Only the witness `C03_read_fuel_exhaustible_populate` is computed through it. -/
def readBoth (inj : BSt → Nat → BSt) (tsNow : Option Nat) (i : Nat) : Nat → Nat → BSt → BSt × Bool
  | 0, total, s => (if total ≠ 0 then s.setTh i (fun t => { t with q := qCommitRead s.cfg t.q }) else s, false)
  | fuel + 1, total, s =>
    let s1 := s.setTh i (fun t => { t with q := (qPrepareRead s.cfg (s.th i).q).1 })
    let fin := fun (s : BSt) => if total ≠ 0 then s.setTh i (fun t => { t with q := qCommitRead s.cfg t.q }) else s
    if !(qPrepareRead s.cfg (s.th i).q).2 then (fin s1, true) else
    match (s.th i).qStmts with
    | [] => (fin s1, true)
    | st :: rest =>
      if future tsNow st then (fin s1, true) else
      let s4 := inj (readOneF s i st rest) 3
      if total + st.size < s4.cfg.qcap ∧ (s4.th i).buf.length < s4.cfg.hard then
        readBoth inj tsNow i fuel (total + st.size) s4
      else (s4.setTh i (fun t => { t with q := qCommitRead s4.cfg t.q }), true)

theorem readBoth_eq (inj : BSt → Nat → BSt) (tsNow : Option Nat) (i : Nat) : ∀ (fuel total : Nat) (s : BSt),
    readBoth inj tsNow i fuel total s = readQueueObs inj tsNow i fuel total s
  | 0, _, _ => rfl
  | fuel + 1, total, s => by
    unfold readQueueObs
    rw [readBoth, PA.readQueue_succ, readExits_succ]
    dsimp only
    generalize (qPrepareRead s.cfg (s.th i).q).2 = b
    cases b
    · rfl
    · simp only [Bool.not_true, Bool.false_eq_true, if_false]
      generalize (s.th i).qStmts = l
      cases l with
      | nil => rfl
      | cons st rest =>
        dsimp only
        generalize future tsNow st = b
        cases b
        · simp only [Bool.false_eq_true, if_false]
          split
          · exact readBoth_eq inj tsNow i fuel _ _
          · rfl
        · rfl

def populateBoth (inj : BSt → Nat → BSt) (s : BSt) : (BSt × Nat) × Bool :=
  (PC.popS2 inj s).cache.foldl (fun (a : (BSt × Nat) × Bool) i =>
    let r := readBoth inj (tsNowOf (PC.popS1 inj s)) i (((inj a.1.1 2).th i).qStmts.length + 64) 0 (inj a.1.1 2)
    ((r.1, a.1.2 + (r.1.th i).buf.length), a.2 && r.2)) ((PC.popS2 inj s, 0), true)

theorem populateBoth_eq (inj : BSt → Nat → BSt) (s : BSt) : populateObs inj s = populateBoth inj s := by
  refine congrArg (fun f => (PC.popS2 inj s).cache.foldl f ((PC.popS2 inj s, 0), true)) (funext fun a => funext fun i => ?_)
  dsimp only
  rw [readBoth_eq]
  rfl

/-- decidable form of the premise, for a concrete poll operation -/
def pollFuelOK : Op → Bool
  | .poll table => decide (site3Ops table ≤ 63)
  | _ => true

theorem C03_pollFuelOK (table : List (Nat × Nat × List FOp)) (h : pollFuelOK (.poll table) = true) (s : BSt) :
    (populateObs (runInj table) s).2 = true :=
  C03_fuel_never_exhausted table (by simpa [pollFuelOK] using h) s

/-- one thread, one committed statement -/
def c03FuelState : BSt := runOps c03Init [.front (.tstart 0), .front (.log 0 0 4 10 true)]

/-- one more statement of the same thread at each of the first two visits of site 3 -/
def c03FuelTable : List (Nat × Nat × List FOp) :=
  [(3, 1, [.log 0 0 4 10 true]), (3, 2, [.log 0 0 4 10 true])]

/-- **Exhaustion is real (generic fuel).** A read with fuel 2 against a table that injects one statement at each of two
    visits of site 3: the fuel runs out (`readExits = false`) with one committed record left in the queue that the sampled
    `ts_now` (`none`: ordering disabled) allows and neither the byte nor the transit limit forbids — with fuel 4 the loop
    reads it and then leaves through a real exit (`prepare_read` offers nothing). (The instance with `populate`'s `+ 64` is
    `C03_read_fuel_exhaustible_populate`.) -/
theorem C03_read_fuel_exhaustible :
    (c03FuelState.th 0).qStmts.length = 1 ∧ site3Ops c03FuelTable = 2 ∧
    (readQueueObs (runInj c03FuelTable) none 0 2 0 c03FuelState).2 = false ∧
    (((readQueueObs (runInj c03FuelTable) none 0 2 0 c03FuelState).1.th 0).qStmts.map (·.id)) = [2] ∧
    (((readQueueObs (runInj c03FuelTable) none 0 2 0 c03FuelState).1.th 0).buf.map (·.id)) = [0, 1] ∧
    (readQueueObs (runInj c03FuelTable) none 0 4 0 c03FuelState).2 = true ∧
    (((readQueueObs (runInj c03FuelTable) none 0 4 0 c03FuelState).1.th 0).qStmts.map (·.id)) = [] ∧
    (((readQueueObs (runInj c03FuelTable) none 0 4 0 c03FuelState).1.th 0).buf.map (·.id)) = [0, 1, 2] := by decide +kernel

/-- non-vacuity of the sufficiency theorems on the same state: the table is within the bound, `populate`'s fuel reaches a
    real exit, all three statements end up in the transit buffer, and the observer agrees with `populate` -/
example : pollFuelOK (.poll c03FuelTable) = true ∧
    (readQueueObs (runInj c03FuelTable) none 0 ((c03FuelState.th 0).qStmts.length + 64) 0 c03FuelState).2 = true ∧
    (populateObs (runInj c03FuelTable) c03FuelState).2 = true ∧
    (populateObs (runInj c03FuelTable) c03FuelState).1.2 = 3 ∧
    (((populate (runInj c03FuelTable) c03FuelState).1.th 0).buf.map (·.id)) = [0, 1, 2] := by decide +kernel

/-- as `c03FuelState`, with a queue large enough for 66 records -/
def c03FuelBigState : BSt :=
  runOps { c03Init with cfg := { c03Cfg with qcap := 4096 } } [.front (.tstart 0), .front (.log 0 0 4 10 true)]

/-- `n` statements of the same thread at the first visit of site 3 -/
def c03FuelBigTable (n : Nat) : List (Nat × Nat × List FOp) := [(3, 1, List.replicate n (.log 0 0 4 10 true))]

/-- **Exhaustion is real (the fuel of `populate`).** One committed record, 65 statements injected while it is being read:
    the read pass `populate` stops with the fuel (`populateObs … .2 = false`) after 65 records, the 66th — committed,
    eligible (`ts_now = none`), within the byte limit (65·48 < 4096) and the transit limit — stays in the queue. With 63
    injected statements the flag is `true` (the theorem); with 64 the observer already says `false` although nothing is
    left (the loop never got to see the empty queue), so the bound 63 is tight for `readExits`. -/
theorem C03_read_fuel_exhaustible_populate :
    site3Ops (c03FuelBigTable 65) = 65 ∧ (c03FuelBigState.th 0).qStmts.length = 1 ∧
    (populateObs (runInj (c03FuelBigTable 65)) c03FuelBigState).2 = false ∧
    ((populate (runInj (c03FuelBigTable 65)) c03FuelBigState).1.th 0).qStmts.map (·.id) = [65] ∧
    ((populate (runInj (c03FuelBigTable 65)) c03FuelBigState).1.th 0).buf.length = 65 ∧
    (populateObs (runInj (c03FuelBigTable 63)) c03FuelBigState).2 = true ∧
    ((populate (runInj (c03FuelBigTable 63)) c03FuelBigState).1.th 0).qStmts = [] ∧
    (populateObs (runInj (c03FuelBigTable 64)) c03FuelBigState).2 = false ∧
    ((populate (runInj (c03FuelBigTable 64)) c03FuelBigState).1.th 0).qStmts = [] := by
  simp only [← populateObs_fst, populateBoth_eq]
  decide +kernel

end Backend
