import QuillModel.Rot.History
/-!
# C14 — size rotation keeps every statement whole and in order within size / count bounds

Property theorems only (helpers in `QuillModel/Rot/*`). The model is `Rot.restart` / `Rot.write` (constructor and
`write_log` of `RotatingSink`), for **every** parameter set `P`, zone function `z`, record size and timestamp; time
rotation is part of `write`, so everything here holds for time-triggered rotations too (composition, C15).

Index scheme — proved in full: for every directory that holds no dated file of the sink's family (any unrelated files,
any index files, gaps allowed) and every sequence of writes (any size, any timestamp) and restarts, the first start and
each restart with any configuration of the Index scheme in append mode or in write mode with clean-up (`RestartOK`).
A write-mode restart *without* clean-up (`remove_old_files = false`) orphans the files of the previous run (they are
outside `_created_files`, later renames overwrite them): modelled, exercised by the harness, outside these theorems.
The retained sequence is given as an equation (`C14_index_sequence_eq`): old content ++ everything written = `droppedRun` ++
what is retained, where `droppedRun` is, write by write, the content of the `n` oldest tracked files, whole, with `n = 0`
unless overwriting is on and the backup limit is exceeded (`write_dropped`); `C14_index_sequence` is its suffix form.

Date / DateAndTime — `…_partial`, under two premises that the counter-witnesses show to be necessary:
(1) the civil suffix (day / second in the sink's zone) of the start instant and of the record timestamps never decreases
(`MonoSfx`; implied by non-decreasing timestamps in a zone of constant offset, `monoSfx_of_sorted`) — F14 is what
happens otherwise; (2) dated files of the family already in the directory that the sink does not recover are dated
strictly before the start day (Date: `≤` today, today's files being recovered in append mode or removed in write mode
with clean-up) / start second (DateAndTime). Then within a run (`C14_dated_run_partial`): the tracked files exist, are
ordered oldest → newest exactly as the scheme orders names (earlier date older; same date: larger index older; current
file last), the retained sequence is the written one minus a prefix of whole deleted files, every rename target is
absent or already vacated (`C14_dated_no_clobber_partial`); and these invariants survive restarts
(`C14_dated_restart_partial`) — but the *sequence* and the *backup bound* do not: the files of earlier days / of every
earlier run are not recovered, so they are neither counted nor deleted first (F15, `C14_F15_restart_bound_fails`).
`C14_any_scheme_write`: what holds for every scheme with no premise at all.
F18 (repaired in /repo by `if` → `while`; the model is parametric in `deletesAllExcess`): with one deletion per rotation a
set of recovered files larger than `max_backup_files` never shrinks to it; with the repaired loop
`C14_index_backup_bound_after_rotation` holds.
-/
namespace Rot

/-- **Invariant, every history.** After any sequence of writes and restarts: the tracked files are exactly the files
    of the sink's family on disk, all exist, are `base.k.ext` with strictly decreasing `k ≥ 1` from the oldest to the
    newest followed by the current file, `_file_size` is the size of the current file, names are distinct. -/
theorem C14_index_invariant (P : Params) (z : Nat → Int) (fs0 : FS) (hd : DirOK fs0) (c0 : Cfg) (start0 : Nat)
    (hc0 : RestartOK c0) (ops : List Op) (hops : ∀ op ∈ ops, OpOK op) :
    IndexInv (run P z (restart z fs0 c0 start0) ops) :=
  run_inv P z ops _ (restart_inv z fs0 c0 start0 hd hc0) hops

/-- **Order and completeness as an equation** (Index scheme; writes of any size and timestamp — size and time rotation —
    and append-mode restarts with any other settings): the content at the beginning followed by every statement written
    is exactly what the writes removed (whole oldest files, `write_dropped`) followed by what is retained, in order. -/
theorem C14_index_sequence_eq (P : Params) (z : Nat → Int) : ∀ (ops : List Op) (w : World), IndexInv w →
    (∀ op ∈ ops, OpAppend op) → diskSeq w ++ written ops = droppedRun P z w ops ++ diskSeq (run P z w ops)
  | [], w, _, _ => by simp [run, written, droppedRun]
  | op :: ops, w, h, hops => by
    have hop := hops op List.mem_cons_self
    have ih := C14_index_sequence_eq P z ops (step P z w op) (step_inv P z w op h hop.ok)
      (fun o ho => hops o (List.mem_cons_of_mem _ ho))
    cases op with
    | write st ts =>
      simp only [step] at ih
      simp only [run, written, droppedRun, step]
      rw [List.append_assoc, ← ih, ← List.append_assoc, ← (write_dropped (write_diskSeq P z w st ts h)).1]
      simp
    | restart c start =>
      simp only [step] at ih
      simp only [run, written, droppedRun, step]
      rw [← restart_append_diskSeq z w c start h hop.1 hop.2]
      exact ih

/-- **Order and completeness.** Reading the retained files from the oldest to the newest as the scheme orders them
    (strictly decreasing index, then the current file — `C14_index_invariant`) gives the sequence that was on disk at
    the beginning followed by every statement written, minus a prefix; by `write_diskSeq` that prefix consists of
    whole files, each deleted as the oldest one by a rotation with `overwrite_rolled_files` on and the backup limit
    reached. Across append-mode restarts with any other settings. -/
theorem C14_index_sequence (P : Params) (z : Nat → Int) (fs0 : FS) (hd : DirOK fs0) (c0 : Cfg) (start0 : Nat)
    (hc0 : RestartOK c0) (ops : List Op) (hops : ∀ op ∈ ops, OpAppend op) :
    diskSeq (run P z (restart z fs0 c0 start0) ops) <:+ diskSeq (restart z fs0 c0 start0) ++ written ops :=
  ⟨_, (C14_index_sequence_eq P z ops _ (restart_inv z fs0 c0 start0 hd hc0) hops).symm⟩

/-- one write, precisely: the statement is appended; what disappears is nothing (`n = 0`), or the whole `n` oldest files
    when overwriting is on and `_created_files.size() > max_backup_files` (one file with the `if`, every file in excess
    with the repaired `while`) -/
theorem C14_index_write (P : Params) (z : Nat → Int) (w : World) (st : Stmt) (ts : Nat) (h : IndexInv w) :
    ∃ n, diskSeq w ++ [st] = (w.sink.created.take n).flatMap (content w.fs) ++ diskSeq (write P z w st ts) ∧
      (n = 0 ∨ (w.sink.cfg.overwrite = true ∧ w.sink.created.length > w.sink.cfg.maxBackup)) :=
  write_diskSeq P z w st ts h

/-- **Exactly one file.** If the statements on disk and the new one are pairwise distinct, then after the write every
    statement occurs exactly once in the concatenation of the tracked files (which, by the invariant, are all the
    files of the family, under distinct names) — so it is in exactly one file, once; and the new statement is the
    last one of the current file. Renames move whole files: `rotSpecG_diskSeq`. -/
theorem C14_index_exactly_one_file (P : Params) (z : Nat → Int) (w : World) (st : Stmt) (ts : Nat) (h : IndexInv w)
    (hn : (diskSeq w ++ [st]).Nodup) :
    (diskSeq (write P z w st ts)).Nodup ∧ ∃ pre, (write P z w st ts).fs.get curName = some (pre ++ [st]) := by
  obtain ⟨pre, h1, _⟩ := write_cur P z w st ts h.curInv
  exact ⟨(write_diskSeq P z w st ts h).nodup hn, pre, h1⟩

/-- **Backup bound.** The number of rotated files (`created` minus the current file) never rises above
    `max_backup_files`: after a write it is at most the larger of what it was and `max_backup_files`. -/
theorem C14_index_backup_bound (P : Params) (z : Nat → Int) (w : World) (st : Stmt) (ts : Nat) :
    (write P z w st ts).sink.created.length - 1 ≤ max (w.sink.created.length - 1) w.sink.cfg.maxBackup := by
  have := Nat.sub_le_sub_right (write_count P z w st ts) 1
  rwa [← Nat.sub_max_sub_right, Nat.add_sub_cancel] at this

/-- … hence within a run that starts within the limit it stays within the limit -/
theorem C14_index_backup_bound_run (P : Params) (z : Nat → Int) :
    ∀ (l : List (Stmt × Nat)) (w : World), w.sink.created.length ≤ w.sink.cfg.maxBackup + 1 →
      (run P z w (l.map (fun p => Op.write p.1 p.2))).sink.created.length ≤ w.sink.cfg.maxBackup + 1
  | [], _, h => h
  | x :: l, w, h => by
    simp only [List.map_cons, run, step]
    have h1 := write_count P z w x.1 x.2
    have h2 := write_cfg P z w x.1 x.2
    have := C14_index_backup_bound_run P z l (write P z w x.1 x.2) (by rw [h2]; omega)
    rwa [h2] at this

/-- **Backup bound, repaired deletion loop** (`deletesAllExcess`, extracted: `while`). A write whose trigger fires and
    whose rotation takes place leaves at most `max_backup_files` rotated files — even when the start had recovered more
    (limit lowered, files already present): the bound does not depend on what was there before (F18). With
    overwriting off nothing is deleted and rotation stops instead (`stopped`). -/
theorem C14_index_backup_bound_after_rotation (P : Params) (hP : P.deletesAllExcess = true) (z : Nat → Int) (w : World)
    (st : Stmt) (ts : Nat) (hdue : timeDue w ts ∨ sizeDue w st.size ts) (hr : rotates w) :
    (write P z w st ts).sink.created.length - 1 ≤ w.sink.cfg.maxBackup := by
  have := write_count_all P z w st ts hP hdue hr
  omega

/-- **No clobbering.** In a state satisfying the invariant every `rename` of `_rotate_files` finds its target absent
    at the moment it is performed. -/
theorem C14_index_no_clobber (z : Nat → Int) (w : World) (h : IndexInv w) :
    movesSafe w.fs (w.sink.created.filterMap (moveOf w.sink.cfg.scheme (newSuffix z w.sink.cfg.scheme w.sink.openTs))) := by
  simp only [h.scheme, newSuffix]
  rw [moves_index]
  exact h.movesSafe

/-- **Append-mode restart.** Whatever the other settings, a start in append mode on a directory left by the sink
    recovers exactly the index sequence the previous run left (same `_created_files`, same files, same retained
    sequence) — the next rotations continue it (`C14_index_sequence`). -/
theorem C14_index_append_restart_recovers (z : Nat → Int) (w : World) (c : Cfg) (start : Nat) (h : IndexInv w)
    (hsch : c.scheme = .index) (ha : c.append = true) :
    (restart z w.fs c start).sink.created = w.sink.created ∧ (restart z w.fs c start).fs = w.fs ∧
      diskSeq (restart z w.fs c start) = diskSeq w := by
  obtain ⟨h1, h2⟩ := restart_append_created z w c start h hsch ha
  exact ⟨h1, h2, restart_append_diskSeq z w c start h hsch ha⟩

/-- **Size limit** (every naming scheme). After a write with a size limit configured, the tracked size of the current
    file is within the limit, or rotation has stopped (backup limit reached, overwriting off), or no byte precedes the
    statement in its file (a single statement alone exceeds the limit). The rotation happens *before* the write. -/
theorem C14_limit (P : Params) (z : Nat → Int) (w : World) (st : Stmt) (ts : Nat) (h : CurInv w)
    (hl : w.sink.cfg.limit ≠ 0) :
    (write P z w st ts).sink.fileSize ≤ w.sink.cfg.limit ∨ stopped w.sink = true ∨
      ∃ pre, (write P z w st ts).fs.get curName = some (pre ++ [st]) ∧ bytes pre = 0 := by
  by_cases hdue : timeDue w ts ∨ sizeDue w st.size ts
  · by_cases hst : stopped w.sink = true
    · exact Or.inr (Or.inl hst)
    · exact Or.inr (Or.inr (write_due_cur P z w st ts h hdue (by simpa using hst)))
  · left
    have ht : ¬ timeDue w ts := fun x => hdue (Or.inl x)
    have hs : ¬ sizeDue w st.size ts := fun x => hdue (Or.inr x)
    rw [write, prepare_idle P z w st.size ts ht hs]
    exact Nat.le_of_not_gt (fun hgt => hs ⟨ht, hl, hgt⟩)

/-- **Unrelated files.** A file the directory scan ignores is never created, changed or removed by any operation
    (any restart configuration of the Index scheme, including write mode without clean-up). -/
theorem C14_unrelated_untouched (P : Params) (z : Nat → Int) (w : World) (op : Op) (h : IndexInv w) (k : Nat)
    (hsch : ∀ c s, op = .restart c s → c.scheme = .index) :
    (step P z w op).fs.get (.foreign k) = w.fs.get (.foreign k) := by
  cases op with
  | write st ts =>
    simp only [step, write, appendCur, FS.get_put]
    have hne : Name.foreign k ≠ curName := by simp [curName]
    simp only [hne, ↓reduceIte]
    rcases prepare_cases P z w st.size ts with hs | hs
    · rw [hs.fs]
    · rw [hs.fs]
      by_cases hr : rotates w
      · obtain ⟨hns, cont, hc, hb⟩ := hr
        exact (rotate_index P z w ts cont h hns hc hb).frame _ (fun s k' => by simp)
      · rw [rotate_of_not_rotates P z w ts hr]
  | restart c start =>
    have hne : Name.foreign k ≠ curName := by simp [curName]
    show (restart z w.fs c start).fs.get _ = _
    by_cases ha : c.append = true
    · exact restart_get_append z w.fs c start ha _ (Or.inl hne)
    · rw [restart_fs_write z w.fs c start (by simpa using ha), FS.get_put, if_neg hne, hsch c start rfl]
      split
      · exact (FS.get_filter w.fs (fun n => !matchesFilter n) _).trans (by simp [matchesFilter])
      · rfl

/-- **Every naming scheme, no premise.** For every scheme, zone, configuration and history: the current file exists and
    `_file_size` is its size; each statement is appended whole at the end of the current file; the number of tracked
    files after a write is at most `max(before, max_backup_files + 1)`. -/
theorem C14_any_scheme_write (P : Params) (z : Nat → Int) (fs0 : FS) (c0 : Cfg) (start0 : Nat) (ops : List Op)
    (st : Stmt) (ts : Nat) :
    let w := run P z (restart z fs0 c0 start0) ops
    CurInv w ∧ CurInv (write P z w st ts) ∧
      (∃ pre, (write P z w st ts).fs.get curName = some (pre ++ [st])) ∧
      (write P z w st ts).sink.created.length ≤ max w.sink.created.length (w.sink.cfg.maxBackup + 1) := by
  intro w
  have hw : CurInv w := run_curInv P z ops _ (restart_curInv z fs0 c0 start0)
  obtain ⟨pre, h1, _⟩ := write_cur P z w st ts hw
  exact ⟨hw, write_curInv P z w st ts hw, ⟨pre, h1⟩, write_count P z w st ts⟩

/-- **Date / DateAndTime, one run** (`_partial`: premises `DirDated` and `MonoSfx`, see the header). After a start in append
    mode or in write mode with clean-up and any sequence of writes whose civil suffixes do not decrease: `DatedInv` — the tracked files all exist, the deque
    from back to front is sorted exactly as the scheme orders names (`olderC`: earlier date older, same date larger index
    older, current file last), no tracked file is dated after the current one, untracked dated files are strictly
    earlier — and the retained sequence is the sequence at the start followed by the statements written, minus a prefix
    (of whole deleted files, `write_dated_diskSeq`). -/
theorem C14_dated_run_partial (P : Params) (z : Nat → Int) (fs0 : FS) (c0 : Cfg) (start0 : Nat) (hs : c0.scheme ≠ .index)
    (hmode : c0.append = true ∨ c0.removeOld = true) (hd : DirDated z c0.scheme fs0 start0)
    (l : List (Stmt × Nat)) (hm : MonoSfx z c0.scheme (sfxVal z c0.scheme start0) l) :
    DatedInv z (run P z (restart z fs0 c0 start0) (l.map (fun p => Op.write p.1 p.2))) ∧
      diskSeq (run P z (restart z fs0 c0 start0) (l.map (fun p => Op.write p.1 p.2))) <:+
        diskSeq (restart z fs0 c0 start0) ++ l.map (·.1) := by
  obtain ⟨h1, h2⟩ := run_dated_hist P z (writeOps l) _ (restart_dated_inv z fs0 c0 start0 hs hmode hd)
    (datedHistOK_of_monoSfx P z l _ hm)
  exact ⟨h1, written_writeOps l ▸ h2 (appendOnly_writeOps l)⟩

theorem monoSfx_of_sorted (off : Int) (sch : Scheme) (start : Nat) (l : List (Stmt × Nat))
    (h1 : ∀ x ∈ l, start ≤ x.2) (h2 : l.Pairwise (fun a b => a.2 ≤ b.2)) :
    MonoSfx (fun _ => off) sch (sfxVal (fun _ => off) sch start) l :=
  ⟨fun x hx => sfxVal_mono off sch _ _ (h1 x hx), h2.imp (fun hab => sfxVal_mono off sch _ _ hab)⟩

/-- **No clobbering, dated schemes** (`_partial`: in a state satisfying `DatedInv`). Every target of the rename loop is
    absent before the rotation or is the source of another rename of the same loop; since an earlier target is never a
    later source (`DatedInv.pairs`), that other rename has already been performed — no retained file is overwritten. -/
theorem C14_dated_no_clobber_partial (z : Nat → Int) (w : World) (h : DatedInv z w) :
    (∀ m ∈ w.sink.created.filterMap (moveOf w.sink.cfg.scheme (newSuffix z w.sink.cfg.scheme w.sink.openTs)),
      w.fs.get m.2 = none ∨
        m.2 ∈ (w.sink.created.filterMap (moveOf w.sink.cfg.scheme (newSuffix z w.sink.cfg.scheme w.sink.openTs))).map (·.1)) ∧
    w.sink.created.Pairwise (fun a b =>
      (entryAfter w.sink.cfg.scheme (newSuffix z w.sink.cfg.scheme w.sink.openTs) a).name ≠ b.name) := by
  refine ⟨dated_targets_free z w h, ?_⟩
  rw [newSuffix_dated z _ _ h.scheme]
  exact h.pairs.imp (fun hx => hx.2.2.1)

/-- **Restarts, dated schemes** (`_partial`). If the new process starts on a later-or-equal day (Date) / a strictly later
    second (DateAndTime) than the suffix the current file would get, keeps the scheme and starts in append mode or in
    write mode with clean-up, the invariant of `C14_dated_run_partial` holds again — order by name and no-clobber
    continue across the restart. What does **not** continue is the bookkeeping: files of earlier days / runs are left
    out of `_created_files` (`C14_F15_restart_bound_fails`). -/
theorem C14_dated_restart_partial (z : Nat → Int) (w : World) (c : Cfg) (start : Nat) (h : DatedInv z w)
    (hsch : c.scheme = w.sink.cfg.scheme) (hmode : c.append = true ∨ c.removeOld = true)
    (hlater : (c.scheme = .date → sfxVal z c.scheme w.sink.openTs ≤ civilDay z start) ∧
      (c.scheme = .dateTime → sfxVal z c.scheme w.sink.openTs < civilSec z start)) :
    DatedInv z (restart z w.fs c start) :=
  h.restart hsch hmode hlater

/-! ### counter-witnesses (proved on the model, reproduced on the real code by the harness: corpus/C14) -/

def zGmt : Nat → Int := fun _ => 0
def dayNs : Nat := 86400 * NS

/-- **F14.** Date scheme, timestamps not monotone (start on day 2, second record stamped day 1, third day 3): the file
    holding the *older* statement 1 is named day 2, the file holding the *newer* statement 2 is named day 1 — read by
    name ("earlier date is older") the directory gives 2, 1, 3. -/
theorem C14_F14_nonmonotone_order_fails :
    let c : Cfg := { scheme := .date, limit := 10, append := false }
    let w := run Params.repaired zGmt (restart zGmt [] c (2 * dayNs))
      [.write ⟨1, 8⟩ (2 * dayNs + 5), .write ⟨2, 8⟩ (1 * dayNs + 7), .write ⟨3, 8⟩ (3 * dayNs)]
    w.sink.created = [⟨some 2, 0⟩, ⟨some 1, 0⟩, curInfo] ∧
      w.fs.get (.file (some 1) 0) = some [⟨2, 8⟩] ∧ w.fs.get (.file (some 2) 0) = some [⟨1, 8⟩] ∧
      w.fs.get curName = some [⟨3, 8⟩] := by
  decide +kernel

/-- **F15.** DateAndTime, `max_backup_files = 1`, overwriting on: one rotation in each of two runs (the second started
    in append mode 100 s later) leaves two rotated files on disk while the sink tracks one. -/
theorem C14_F15_restart_bound_fails :
    let c : Cfg := { scheme := .dateTime, limit := 10, maxBackup := 1, overwrite := true, append := true }
    let w1 := run Params.repaired zGmt (restart zGmt [] c (5 * NS)) [.write ⟨1, 8⟩ (5 * NS), .write ⟨2, 8⟩ (6 * NS)]
    let w2 := run Params.repaired zGmt (restart zGmt w1.fs c (105 * NS)) [.write ⟨3, 8⟩ (106 * NS)]
    w2.fs.get (.file (some 5) 0) = some [⟨1, 8⟩] ∧ w2.fs.get (.file (some 105) 0) = some [⟨2, 8⟩] ∧
      w2.sink.created = [⟨some 105, 0⟩, curInfo] ∧ w2.sink.cfg.maxBackup = 1 := by
  decide +kernel

/-- **F18** (repaired by a `fix:` commit: `if` → `while`). Index scheme: three rotated files left by a run with
    `max_backup_files = 3`; restarted in append mode with `max_backup_files = 1`. With the pinned one-deletion-per-rotation
    rule every rotation deletes one file and adds one — after two more rotations three rotated files still remain; with the
    repaired loop the first rotation brings the set down to the limit, and what is on disk is still a suffix of what was
    written. -/
theorem C14_F18_lowered_max_never_shrinks :
    let c3 : Cfg := { limit := 10, maxBackup := 3, append := false }
    let c1 : Cfg := { limit := 10, maxBackup := 1, append := true }
    let hist1 : List Op := [.write ⟨1, 8⟩ 1, .write ⟨2, 8⟩ 2, .write ⟨3, 8⟩ 3, .write ⟨4, 8⟩ 4]
    let hist2 : List Op := [.write ⟨5, 8⟩ 11, .write ⟨6, 8⟩ 12]
    let pinned : Params := { advancesFromSchedule := true, deletesAllExcess := false }
    let w1 := run pinned zGmt (restart zGmt [] c3 0) hist1
    let w2 := run pinned zGmt (restart zGmt w1.fs c1 10) hist2
    let r1 := run Params.repaired zGmt (restart zGmt [] c3 0) hist1
    let r2 := run Params.repaired zGmt (restart zGmt r1.fs c1 10) hist2
    w1.sink.created.length = 4 ∧ w2.sink.created.length = 4 ∧ w2.sink.cfg.maxBackup = 1 ∧
      diskSeq w2 = [⟨3, 8⟩, ⟨4, 8⟩, ⟨5, 8⟩, ⟨6, 8⟩] ∧
      r1.sink.created.length = 4 ∧ r2.sink.created.length = 2 ∧ diskSeq r2 = [⟨5, 8⟩, ⟨6, 8⟩] ∧
      r2.fs.keys.length = 2 := by
  decide +kernel

/-- a directory with unrelated files and a gap in the indices satisfies `DirOK`; the default configuration is `RestartOK` -/
example : DirOK [(.foreign 1, []), (.junk 0, []), (.file none 5, [⟨9, 3⟩])] ∧ RestartOK {} ∧
    RestartOK { append := false, removeOld := true } := by
  refine ⟨⟨by decide +kernel, ?_⟩, ⟨rfl, Or.inl rfl⟩, ⟨rfl, Or.inr rfl⟩⟩
  intro sfx k hk
  -- a file that exists is among the keys, and the only key of the family is `file none 5`
  have hm := (FS.get_isSome_iff_mem_keys _ _).mp hk
  simp only [FS.keys, List.map_cons, List.map_nil, List.mem_cons, List.not_mem_nil, or_false, reduceCtorEq, false_or,
    Name.file.injEq] at hm
  exact hm.1

/-- `C14_dated_run_partial`: its premises are met by a directory holding an older dated file and an unrelated one, a Date
    configuration and records over two days (three rotations, one of them bumping an index) -/
example :
    let c : Cfg := { scheme := .date, limit := 10, append := true }
    let fs0 : FS := [(.file (some 0) 0, [⟨7, 3⟩]), (.foreign 2, [])]
    let l : List (Stmt × Nat) := [(⟨1, 8⟩, dayNs + 1), (⟨2, 8⟩, dayNs + 2), (⟨3, 8⟩, dayNs + 3), (⟨4, 8⟩, 2 * dayNs)]
    c.scheme ≠ .index ∧ fs0.keys.Nodup ∧ MonoSfx zGmt c.scheme (sfxVal zGmt c.scheme dayNs) l ∧
      (run Params.repaired zGmt (restart zGmt fs0 c dayNs) (l.map (fun p => Op.write p.1 p.2))).sink.created =
        [⟨some 1, 2⟩, ⟨some 1, 1⟩, ⟨some 1, 0⟩, curInfo] := by
  refine ⟨by decide, by decide +kernel, ⟨by decide +kernel, by decide +kernel⟩, by decide +kernel⟩

/-- the hypotheses of the per-write theorems are met by a reachable state in which a rotation deletes a file -/
example :
    let c : Cfg := { limit := 10, maxBackup := 1, append := true }
    let w := run Params.repaired zGmt (restart zGmt [(.foreign 1, [])] c 0) [.write ⟨1, 8⟩ 1, .write ⟨2, 8⟩ 2]
    (diskSeq w ++ [(⟨3, 8⟩ : Stmt)]).Nodup ∧ diskSeq (write Params.repaired zGmt w ⟨3, 8⟩ 3) = [⟨2, 8⟩, ⟨3, 8⟩] ∧
      w.sink.cfg.limit ≠ 0 := by
  decide +kernel

end Rot
