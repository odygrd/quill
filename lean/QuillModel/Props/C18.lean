import QuillModel.Backtrace.Refine
/-!
# C18 — backtrace statements are held back, then replayed: most recent N, in order, once

"Statements logged with LOG_BACKTRACE are not written when logged. When the backtrace is flushed — by
flush_backtrace() or by a statement at or above the configured flush level — exactly the most recent
min(capacity, number stored since the previous flush) of them are written, once each, oldest first,
immediately after the triggering statement, and are then forgotten; this holds for every capacity and every
history of store and flush cycles, including after the ring has wrapped."

Two layers, both for **every** history (any length, any capacities incl. 0 and 1, any number of wraps):

* ring (`BacktraceStorage`): `C18_ring_refines` — the sequence of callback invocations of every `process` of
  every history of `store` / `process` / `set_capacity` equals that of the specification `Spec` (remember
  everything since the last flush-or-resize; hand out `lastN cap` of it; forget), and no out-of-range vector
  access is evaluated. `C18_flush_emits_lastN`, `C18_cycle_after_flush`, `C18_cycle_after_resize` restate it
  without the specification machine; `C18_lastN_is_most_recent` says what `lastN` is.
* backend (`_process_transit_event`): `C18_backend_refines` — for every sequence of events of any number of
  loggers the `write_log` sequence equals that of `specStepEv`; `C18_trigger_iff`, `C18_stored_iff`,
  `C18_written_iff` are the decision as a pure function; `C18_backtrace_statement_not_written`,
  `C18_replay_follows_trigger` read the consequences off.

The theorems need the structural facts `Params.OK` (re-proved for the extracted values in
`Obligations/Backtrace.lean`). For the unrepaired variants the statement is false: `C18_F1_index_not_reset`,
`C18_F2_capacity_zero_ub` and the other `C18_neg_*` witnesses.
-/
namespace Backtrace
variable {α : Type}

/-- `lastN cap l` has `min cap n` elements, is the *end* of `l` (so: the most recent ones, in their original
    order), and contains no element twice if `l` does not -/
theorem C18_lastN_is_most_recent (cap : Nat) (l : List α) :
    (lastN cap l).length = min cap l.length ∧ lastN cap l <:+ l ∧ (l.Nodup → (lastN cap l).Nodup) :=
  ⟨lastN_length cap l, lastN_suffix cap l, fun h => (lastN_suffix cap l).sublist.nodup h⟩

example : lastN 3 [1, 2, 3, 4, 5] = [3, 4, 5] ∧ lastN 3 [1, 2] = [1, 2] ∧ lastN 0 [1, 2] = [] := by decide +kernel

/-- **C18, ring level.** For every history, what the callback receives during every call equals the
    specification's output, no out-of-range element is touched, and the final state represents the
    specification's final state. -/
theorem C18_ring_refines (p : Params) (hp : p.RingOK) (ops : List (Op α)) :
    trace p {} ops = Spec.trace {} ops ∧ (run p {} ops).ub = false ∧
    Rel (run p {} ops) (Spec.run {} ops) := by
  have h := Rel.run hp ops (Rel.init (α := α))
  exact ⟨h.1, h.2.ub, h.2⟩

/-- non-vacuity: a history with capacity changes, capacity 0 and 1, a triple wrap, an empty flush -/
example : trace Params.good {}
    [.store 1, .setCapacity 3, .store 2, .store 3, .store 4, .store 5, .process, .process, .store 6, .store 7,
     .process, .setCapacity 1, .store 8, .store 9, .process, .setCapacity 2, .store 10, .store 11, .store 12,
     .store 13, .store 14, .store 15, .store 16, .setCapacity 2, .process, .setCapacity 0, .store 17, .process] =
    [[], [], [], [], [], [], [3, 4, 5], [], [], [], [6, 7], [], [], [], [9], [], [], [], [], [], [], [], [], [],
     [15, 16], [], [], []] := by decide +kernel

/-- the events stored since the previous flush or (effective) resize, and the capacity in force -/
def pending (ops : List (Op α)) : List α := (Spec.run {} ops).pend
def capacity (ops : List (Op α)) : Nat := (Spec.run {} ops).cap

/-- the capacity in force is the argument of the last `set_capacity` (0 before the first) -/
theorem capacity_eq (ops : List (Op α)) : capacity ops = capFrom 0 ops := Spec.run_cap ops {}

/-- **C18, ring level, flush form.** After every history, `process` hands the callback exactly
    `lastN capacity pending` — the most recent `min(capacity, n)` of the `n` events stored since the previous
    flush-or-resize, oldest first — evaluates nothing out of range, leaves the vector empty, and a second
    `process` hands out nothing. -/
theorem C18_flush_emits_lastN (p : Params) (hp : p.RingOK) (ops : List (Op α)) :
    (process p (run p {} ops)).2 = lastN (capacity ops) (pending ops) ∧
    (process p (run p {} ops)).1.ub = false ∧
    (process p (run p {} ops)).1.ev = [] ∧
    (process p (process p (run p {} ops)).1).2 = [] := by
  have h := (C18_ring_refines p hp ops).2.2
  obtain ⟨_, _, h3, h4, _⟩ := hp
  exact ⟨h.process_out h3, h.process_ub h3, process_ev h4 _, process_out_nil p (process_ev h4 _)⟩

/-- **once each, oldest first — across all cycles.** For every history, the concatenation of everything the
    callback ever received is a subsequence of the sequence of stored events: no event is replayed by two
    flushes or twice by one, none out of its original order, none that was not stored
    (with distinct ids: the concatenation has no duplicates). -/
theorem C18_replays_form_a_subsequence (p : Params) (hp : p.RingOK) (ops : List (Op α)) :
    (trace p {} ops).flatten.Sublist (storedOf ops) ∧
    ((storedOf ops).Nodup → (trace p {} ops).flatten.Nodup) := by
  have h : (trace p {} ops).flatten.Sublist (storedOf ops) := by
    rw [(C18_ring_refines p hp ops).1]
    simpa using Spec.trace_sublist ops ({} : Spec α)
  exact ⟨h, fun hn => h.nodup hn⟩

example : (trace Params.good {} ([.setCapacity 2, .store 1, .store 2, .store 3, .process, .store 4, .process,
    .process, .store 5, .setCapacity 1, .store 6, .store 7, .process] : List (Op Nat))).flatten = [2, 3, 4, 7] := by decide +kernel

/-- **one cycle, spelled out**: whatever happened before, after a flush followed by storing `xs`, the next
    flush replays the last `min(cap, |xs|)` of `xs` -/
theorem C18_cycle_after_flush (p : Params) (hp : p.RingOK) (pre : List (Op α)) (xs : List α) :
    (process p (run p {} (pre ++ [.process] ++ xs.map .store))).2 = lastN (capFrom 0 pre) xs := by
  rw [(C18_flush_emits_lastN p hp _).1]
  simp only [pending, capacity, Spec.run_append, Spec.run_stores, Spec.run, Spec.step, List.nil_append]
  rw [Spec.run_cap]

/-- … and after a re-initialisation with a *different* capacity `c` followed by storing `xs`, the next flush
    replays the last `min(c, |xs|)` of `xs` (what was stored before is dropped) -/
theorem C18_cycle_after_resize (p : Params) (hp : p.RingOK) (pre : List (Op α)) (c : Nat)
    (hc : capFrom 0 pre ≠ c) (xs : List α) :
    (process p (run p {} (pre ++ [.setCapacity c] ++ xs.map .store))).2 = lastN c xs := by
  rw [(C18_flush_emits_lastN p hp _).1]
  have hc' : ¬ (Spec.run {} pre).cap = c := by rw [Spec.run_cap]; exact hc
  simp only [pending, capacity, Spec.run_append, Spec.run_stores, Spec.run, Spec.step, hc', if_false,
    List.nil_append]

/-- non-vacuity of `C18_cycle_after_resize` (capacity 2 → 3 in the middle of a wrapped cycle) and of the
    hypothesis `RingOK` (`good_ok`: the repaired structure satisfies it) -/
example : capFrom 0 ([.setCapacity 2, .store 1, .store 2, .store 3] : List (Op Nat)) ≠ 3 ∧
    (process Params.good (run Params.good {}
      ([.setCapacity 2, .store 1, .store 2, .store 3] ++ [.setCapacity 3] ++ [4, 5, 6, 7].map .store))).2 = [5, 6, 7] ∧
    Params.good.RingOK := by decide +kernel

/-- re-initialising with the capacity already in force changes nothing -/
theorem C18_same_capacity_noop (r : Ring α) : setCapacity r r.cap = r := by simp [setCapacity]

example : (process Params.good (run Params.good {}
    ([.setCapacity 2, .store 1, .store 2, .store 3] ++ [.process] ++ [4, 5, 6, 7, 8].map .store))).2 = [7, 8] := by
  decide +kernel

/-- **F1** (`process` keeps `_index` across the flush): cap 3, store 1..4, flush, store 5, 6, flush → `6 5` -/
theorem C18_F1_index_not_reset :
    let p := { Params.good with resetsIndexOnFlush := false }
    let h : List (Op Nat) := [.setCapacity 3, .store 1, .store 2, .store 3, .store 4, .process, .store 5, .store 6, .process]
    trace p {} h ≠ Spec.trace {} h ∧ (trace p {} h).getLast? = some [6, 5] ∧
    (Spec.trace {} h).getLast? = some [5, 6] := by decide +kernel

/-- **F1**, second shape: the stale index is out of range in the next cycle (an element beyond `size()` is read) -/
theorem C18_F1_index_out_of_range :
    let p := { Params.good with resetsIndexOnFlush := false }
    (run p {} [.setCapacity 3, .store 1, .store 2, .store 3, .store 4, .store 5, .process, .store 6, .process]).ub
      = true := by decide +kernel

/-- **F2** (no guard): with capacity 0 — the constructor's value, or after `set_capacity(0)` — `store` indexes
    the empty vector -/
theorem C18_F2_capacity_zero_ub :
    let p := { Params.good with guardsZeroCapacity := false }
    (run p {} [.store (1 : Nat)]).ub = true ∧ (run p {} [.setCapacity 3, .setCapacity 0, .store (1 : Nat)]).ub = true := by
  decide +kernel

/-- **F1 and F2 are the only defect classes of the pinned ring.** Without the index reset and without the
    capacity-0 guard (`BacktraceStorage` as of the pinned tree) the refinement still holds on every history in
    which no `store` happens with capacity 0 and no `process` happens on a wrapped ring (more than `cap` events
    pending). (The full statement — every history — is `C18_ring_refines`, for the repaired ring; for this ring
    it is false by `C18_F1_index_not_reset` / `C18_F2_capacity_zero_ub`.) -/
theorem C18_pinned_ring_partial (p : Params) (h3 : p.startsAtIndex = true) (h4 : p.clearsOnFlush = true)
    (h5 : p.wrapSlack = 1) (ops : List (Op α))
    (hF2 : p.guardsZeroCapacity = true ∨ storesAvoidCapZero {} ops = true)
    (hF1 : p.resetsIndexOnFlush = true ∨ flushesUnwrapped {} ops = true) :
    trace p {} ops = Spec.trace {} ops ∧ (run p {} ops).ub = false := by
  have h := Rel.run_partial h3 h4 h5 ops (Rel.init (α := α)) hF2 hF1
  exact ⟨h.1, h.2.ub⟩

/-- non-vacuity: a history of the pinned ring with wraps, flushes of unwrapped rings and resizes -/
example : let p := { Params.good with resetsIndexOnFlush := false, guardsZeroCapacity := false }
    let h : List (Op Nat) := [.setCapacity 2, .store 1, .store 2, .process, .store 3, .process, .setCapacity 3,
      .store 4, .store 5, .store 6, .store 7, .setCapacity 1, .store 8, .process, .process]
    storesAvoidCapZero {} h = true ∧ flushesUnwrapped {} h = true ∧
    trace p {} h = [[], [], [], [1, 2], [], [3], [], [], [], [], [], [], [], [8], []] := by decide +kernel

/-- the F1 witness is excluded by `flushesUnwrapped` only, the F2 witness by `storesAvoidCapZero` only -/
example : flushesUnwrapped {} ([.setCapacity 3, .store 1, .store 2, .store 3, .store 4, .process] : List (Op Nat)) = false ∧
    storesAvoidCapZero {} ([.setCapacity 3, .store 1, .store 2, .store 3, .store 4, .process] : List (Op Nat)) = true ∧
    storesAvoidCapZero {} ([.store 1] : List (Op Nat)) = false ∧ flushesUnwrapped {} ([.store 1] : List (Op Nat)) = true := by
  decide +kernel

/-- walking from slot 0 instead of `_index` replays a wrapped ring in the wrong order -/
theorem C18_neg_walk_from_zero :
    let p := { Params.good with startsAtIndex := false }
    let h : List (Op Nat) := [.setCapacity 3, .store 1, .store 2, .store 3, .store 4, .process]
    (trace p {} h).getLast? = some [4, 2, 3] ∧ (Spec.trace {} h).getLast? = some [2, 3, 4] := by decide +kernel

/-- without `clear()` the events are replayed again by the next flush -/
theorem C18_neg_no_clear :
    let p := { Params.good with clearsOnFlush := false }
    let h : List (Op Nat) := [.setCapacity 3, .store 1, .process, .process]
    (trace p {} h).getLast? = some [1] ∧ (Spec.trace {} h).getLast? = some [] := by decide +kernel

/-- advancing the index one slot too far (`_index < _capacity`) indexes past the end -/
theorem C18_neg_wrap_late :
    let p := { Params.good with wrapSlack := 0 }
    (run p {} [.setCapacity 2, .store (1 : Nat), .store 2, .store 3, .store 4, .store 5]).ub = true := by decide +kernel

/-- wrapping one slot too early (`_index < _capacity - 2`) never overwrites the last slot -/
theorem C18_neg_wrap_early :
    let p := { Params.good with wrapSlack := 2 }
    let h : List (Op Nat) := [.setCapacity 3, .store 1, .store 2, .store 3, .store 4, .store 5, .store 6, .process]
    (trace p {} h).getLast? = some [5, 3, 6] ∧ (Spec.trace {} h).getLast? = some [4, 5, 6] := by decide +kernel

theorem exists_log_iff {lg lvl id : Nat} {P : Nat → Prop} :
    (∃ lg' lvl' id', Ev.log lg lvl id = .log lg' lvl' id' ∧ P lvl') ↔ P lvl :=
  ⟨fun ⟨_, _, _, h, hp⟩ => by cases h; exact hp, fun hp => ⟨lg, lvl, id, rfl, hp⟩⟩

/-- **trigger ⇔ explicit flush ∨ level ≥ flush level** (for a statement that is not itself a backtrace
    statement) -/
theorem C18_trigger_iff (bt fl : Nat) (e : Ev) :
    (action .ge bt fl e).flush = true ↔
      (∃ lg, e = .flushBt lg) ∨ (∃ lg lvl id, e = .log lg lvl id ∧ lvl ≠ bt ∧ lvl ≥ fl) := by
  cases e with
  | log lg lvl id =>
    rw [exists_log_iff (P := fun l => l ≠ bt ∧ l ≥ fl)]
    by_cases hb : lvl = bt <;> simp [action, hb, Cmp.holds]
  | initBt lg cap => simp [action]
  | flushBt lg => simp [action]
  | setFlushLvl lg lvl => simp [action]

/-- **stored ⇔ backtrace statement**, for every comparison operator and flush level -/
theorem C18_stored_iff (cmp : Cmp) (bt fl : Nat) (e : Ev) :
    (action cmp bt fl e).store = true ↔ ∃ lg id, e = .log lg bt id := by
  cases e with
  | log lg lvl id =>
    by_cases hb : lvl = bt
    · subst hb
      rw [action_log_bt]
      exact ⟨fun _ => ⟨lg, id, rfl⟩, fun _ => rfl⟩
    · rw [action_log_ne _ hb]
      exact ⟨fun h => (nomatch h), fun ⟨_, _, h⟩ => absurd (Ev.log.inj h).2.1 hb⟩
  | initBt lg cap => simp [action]
  | flushBt lg => simp [action]
  | setFlushLvl lg lvl => simp [action]

/-- **written when logged ⇔ a statement that is not a backtrace statement**; never both written and stored,
    and a stored statement never triggers -/
theorem C18_written_iff (cmp : Cmp) (bt fl : Nat) (e : Ev) :
    ((action cmp bt fl e).write = true ↔ ∃ lg lvl id, e = .log lg lvl id ∧ lvl ≠ bt) ∧
    ¬ ((action cmp bt fl e).write = true ∧ (action cmp bt fl e).store = true) ∧
    ¬ ((action cmp bt fl e).flush = true ∧ (action cmp bt fl e).store = true) := by
  cases e with
  | log lg lvl id =>
    rw [exists_log_iff (P := fun l => l ≠ bt)]
    by_cases hb : lvl = bt <;> simp [action, hb]
  | initBt lg cap => simp [action]
  | flushBt lg => simp [action]
  | setFlushLvl lg lvl => simp [action]

example : (action .ge 9 7 (.log 0 7 1)).flush = true ∧ (action .ge 9 7 (.log 0 6 1)).flush = false ∧
    (action .ge 9 10 (.log 0 8 1)).flush = false ∧ (action .ge 9 7 (.log 0 9 1)) = ⟨false, true, false⟩ := by decide +kernel

/-- the comparison `>` misses the statement *at* the flush level -/
theorem C18_neg_strict_comparison : (action .gt 9 7 (.log 0 7 1)).flush = false ∧
    (action .ge 9 7 (.log 0 7 1)).flush = true := by decide +kernel

/-- **C18, backend level.** For every sequence of events (statements of every level, backtrace statements,
    `init_backtrace` with any capacity, `flush_backtrace`, flush-level changes, any number of loggers) the
    sequence of `write_log` calls and notifier errors produced by `_process_transit_event` equals the
    specification's: a backtrace statement writes nothing; a statement below the flush level writes itself;
    a statement at or above it writes itself, then — immediately — the last `min(cap, n)` stored events oldest
    first, which are then forgotten; `flush_backtrace()` writes just those. -/
theorem C18_backend_refines (p : Params) (hp : p.OK) (bt noneRank : Nat) (es : List Ev) :
    runEv p bt (BSt.init noneRank) es = specRunEv bt (SSt.init noneRank) es :=
  BRel.run hp bt es (BRel.init noneRank)

/-- a backtrace statement is never written when logged — in any state, for any parameters -/
theorem C18_backtrace_statement_not_written (p : Params) (bt : Nat) (s : BSt) (lg id : Nat) :
    (stepEv p bt s (.log lg bt id)).2.writes = [] := by
  simp only [stepEv, action, applyAction, ne_eq, not_true_eq_false, if_false, Bool.false_eq_true]
  cases s.ring lg <;> rfl

/-- the statement itself is written first and the replay follows it immediately: the writes of a
    non-backtrace statement are `[statement] ++ replay`, and the replay is non-empty only if the statement
    triggers -/
theorem C18_replay_follows_trigger (p : Params) (bt : Nat) (s : BSt) (lg lvl id : Nat) (hb : lvl ≠ bt) :
    ∃ replay : List Nat,
      (stepEv p bt s (.log lg lvl id)).2.writes = ⟨lg, lvl, id⟩ :: replay.map (fun i => ⟨lg, bt, i⟩) ∧
      ((action p.flushCmp bt (s.flushLvl lg) (.log lg lvl id)).flush = false → replay = []) := by
  simp only [stepEv, action_log_ne _ hb]
  cases hs : s.ring lg with
  | none => rw [applyAction_none hs]; exact ⟨[], rfl, fun _ => rfl⟩
  | some r =>
    rw [applyAction_some hs]
    cases p.flushCmp.holds lvl (s.flushLvl lg) with
    | false => exact ⟨[], rfl, fun _ => rfl⟩
    | true => exact ⟨_, rfl, fun h => nomatch h⟩

/-- **loggers do not interfere**: an event changes the storage of its own logger only, and everything it
    writes is written for that logger -/
theorem C18_other_loggers_untouched (p : Params) (bt : Nat) (s : BSt) (e : Ev) (lg' : Nat) (h : lg' ≠ e.logger) :
    (stepEv p bt s e).1.ring lg' = s.ring lg' ∧ ∀ x ∈ (stepEv p bt s e).2.writes, x.lg = e.logger := by
  cases e with
  | setFlushLvl lg lvl => exact ⟨rfl, fun _ hx => absurd hx List.not_mem_nil⟩
  | initBt lg cap => exact ⟨if_neg h, fun _ hx => absurd hx List.not_mem_nil⟩
  | flushBt lg => exact applyAction_frame p bt lg _ ⟨lg, 0, 0⟩ s lg' h rfl
  | log lg lvl id => exact applyAction_frame p bt lg _ ⟨lg, lvl, id⟩ s lg' h rfl

/-- non-vacuity of the backend theorem: two loggers, automatic and explicit flushes, a wrapped ring, a
    backtrace statement before `init_backtrace` (error), levels 7 = Error, 4 = Info, 9 = Backtrace, 10 = None -/
example : (runEv Params.good 9 (BSt.init 10)
    [.log 0 9 1, .initBt 0 2, .setFlushLvl 0 7, .log 0 9 2, .log 0 9 3, .log 0 9 4, .log 1 7 5, .log 0 4 6,
     .log 0 7 7, .log 0 7 8, .initBt 1 1, .log 1 9 9, .log 1 9 10, .log 1 8 11, .flushBt 1, .log 0 9 12,
     .flushBt 0]).map (fun o => (o.writes.map (fun w => (w.lg, w.lvl, w.id)), o.err)) =
    [([], true), ([], false), ([], false), ([], false), ([], false), ([], false), ([(1, 7, 5)], false),
     ([(0, 4, 6)], false), ([(0, 7, 7), (0, 9, 3), (0, 9, 4)], false), ([(0, 7, 8)], false), ([], false),
     ([], false), ([], false), ([(1, 8, 11)], false), ([(1, 9, 10)], false), ([], false), ([(0, 9, 12)], false)] := by
  decide +kernel

end Backtrace
