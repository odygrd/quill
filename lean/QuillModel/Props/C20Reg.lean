import QuillModel.Reg.Proofs
/-!
# C20 / C03 (part) — a newly registered thread context is never lost between the manager and the backend's cache

"when a thread logs, its statements are delivered": the backend only reads the queues of the contexts in its cache
(`_active_thread_contexts_cache`) and rebuilds the cache only when `new_thread_context_flag()` returns `true`. The end-to-end
model (`Backend/`) treats `register_thread_context` and `_update_active_thread_contexts_cache` as atomic; this file
justifies that for the real interleavings: every atomic access of both functions (including every iteration of the
spinlock's test loop) is a scheduling point, loads may return stale stores, any number of threads register concurrently,
the backend runs any number of updates.

Premises (all decidable, discharged for the extracted programs and memory orders in `Obligations/Reg.lean`): `CfgOK` —
in `register_thread_context` the flag store comes after `lock()` returned (inside the critical section or after it), the
`push_back` happens with the lock held; the backend resets the flag and clears its cache before the copy and copies with
the lock held; the spinlock's `exchange` acquires and its `unlock` releases (needed for the list accesses to be race-free:
`raced = false`). **No premise on the memory orders of the flag accesses is needed** (the code stores with release and loads
relaxed; in the model the flag transfers no view): the ordering that matters is program order plus the lock.
-/
namespace Reg

/-- **Never "registered, not cached, flag consumed".** In every reachable state, for every schedule and every legal stale
    load: no access of the context list raced; a thread whose `register_thread_context` returned is in the list; and a
    context that is in the list but not in the backend's cache has its pick-up pending — the newest store of the flag is
    `true` (so it stays `true` until the backend reads and resets it, which is followed by a copy), or an update is in
    progress whose copy is still ahead, or the registering thread has not executed its flag store yet. -/
theorem C20_registration_not_lost (c : Cfg) (hc : CfgOK c) (ops : List Op) (hr : Run c (init c) ops) :
    (run c (init c) ops).raced = false ∧
    (∀ t, t < c.n → ((run c (init c) ops).fr t).rest = [] → t ∈ (run c (init c) ops).list) ∧
    (∀ t, t < c.n → t ∈ (run c (init c) ops).list → t ∉ (run c (init c) ops).cache →
        newest (run c (init c) ops).flagHist = true ∨ BInstr.copy ∈ (run c (init c) ops).brest ∨
        FInstr.setFlag ∈ ((run c (init c) ops).fr t).rest) := by
  have h := reachable_inv c hc ops _ (init_inv c hc) hr
  refine ⟨h.noRace, ?_, ?_⟩
  · intro t ht hrest
    rcases h.pushAhead t ht with hp | hp
    · exact hp
    · rw [hrest] at hp; cases hp
  · intro t ht hin hnc
    rcases h.flagAhead t ht with hf | hf
    · rcases h.key t ht hf (Or.inl hin) hnc with hk | hk
      · exact Or.inl hk
      · exact Or.inr (Or.inl hk)
    · exact Or.inr (Or.inr hf)

/-- the same for a thread whose registration has returned: cached, or the flag is set, or the copy is on its way -/
theorem C20_registered_cached_or_flagged (c : Cfg) (hc : CfgOK c) (ops : List Op) (hr : Run c (init c) ops)
    (t : Nat) (ht : t < c.n) (hret : ((run c (init c) ops).fr t).rest = []) :
    t ∈ (run c (init c) ops).cache ∨ newest (run c (init c) ops).flagHist = true ∨
      BInstr.copy ∈ (run c (init c) ops).brest := by
  obtain ⟨_, h1, h2⟩ := C20_registration_not_lost c hc ops hr
  by_cases hcache : t ∈ (run c (init c) ops).cache
  · exact Or.inl hcache
  · rcases h2 t ht (h1 t ht hret) hcache with h | h | h
    · exact Or.inr (Or.inl h)
    · exact Or.inr (Or.inr h)
    · rw [hret] at h; cases h

theorem wfB_reset_copy : ∀ (p : List BInstr) (held : Bool), wfB held p = true → BInstr.reset ∈ p → BInstr.copy ∈ p
  | [], _, _, h => by cases h
  | ins :: r, held, hw, hm => by
    cases ins with
    | reset => simp only [wfB, Bool.and_eq_true] at hw; exact List.mem_cons_of_mem _ (contains_copy hw.1)
    | clear => simp only [wfB, Bool.and_eq_true] at hw; exact List.mem_cons_of_mem _ (contains_copy hw.1)
    | lock =>
      simp only [wfB, Bool.and_eq_true] at hw
      exact List.mem_cons_of_mem _ (wfB_reset_copy r true hw.2 (by simpa using hm))
    | copy => exact List.mem_cons_self
    | unlock =>
      simp only [wfB, Bool.and_eq_true] at hw
      exact List.mem_cons_of_mem _ (wfB_reset_copy r false hw.2 (by simpa using hm))

/-- between two updates, with no registering thread holding the lock: one whole update whose flag load returns the newest
    store caches every context that is in the list with its flag store executed -/
theorem soloUpdate_picks_up (c : Cfg) (hc : CfgOK c) (s : St) (h : RInv c s) (hb : s.brest = [])
    (hfree : ∀ u, u < c.n → s.lk.inCS u = false) (t : Nat) (ht : t < c.n) (hfl : (s.fr t).flagged = true)
    (hin : t ∈ s.list) : t ∈ (soloUpdate c s).cache := by
  unfold soloUpdate
  simp only [bstep_nil c s _ hb, valAt_last]
  cases hv : newest s.flagHist with
  | true =>
    -- the load reads `true`: the whole program runs, and it contains the copy
    simp only [if_true]
    have e : bLoadTrue c s (s.flagHist.length - 1) = { s with flagSeen := _, brest := c.bprog, updates := _ } :=
      fin_eq _
    have hi := bLoadTrue_inv c hc s (s.flagHist.length - 1) h hb
    rw [e] at hi ⊢
    obtain ⟨_, _, _, _, _, j6⟩ := finishUpdate_spec c hc _ _ hi hfree (needSteps_le _)
    rw [j6, target_of_mem (wfB_reset_copy c.bprog false hc.2.2.2.1 (by simpa using hc.2.2.2.2.1))]
    exact hin
  | false =>
    -- the newest store is `false`: by the invariant nothing is left to pick up
    simp only [Bool.false_eq_true, if_false]
    rw [finishUpdate_nil c _ _ (show (bLoadFalse s _).brest = [] from hb)]
    show t ∈ s.cache
    refine Decidable.byContradiction fun hcache => ?_
    rcases h.key t ht hfl (Or.inl hin) hcache with hk | hk
    · rw [hv] at hk; cases hk
    · rw [hb] at hk; cases hk

/-- **The next update picks it up.** From any reachable state in which no registering thread holds the lock (e.g. all
    registrations have returned): let the backend finish the update in progress and run one more whole update whose flag
    load returns the newest store — every context whose registration had returned is then in the cache. (With a stale flag
    load the update may return without rebuilding; by `C20_registration_not_lost` the newest store then still is `true`.)
    This is the statement the harness oracle checks on the real classes at the end of every schedule. -/
theorem C20_next_update_picks_up (c : Cfg) (hc : CfgOK c) (ops : List Op) (hr : Run c (init c) ops)
    (hfree : ∀ u, u < c.n → (run c (init c) ops).lk.inCS u = false)
    (t : Nat) (ht : t < c.n) (hret : ((run c (init c) ops).fr t).rest = []) :
    t ∈ (soloUpdate c (finishUpdate c (2 * (run c (init c) ops).brest.length) (run c (init c) ops))).cache := by
  have h := reachable_inv c hc ops _ (init_inv c hc) hr
  obtain ⟨i1, i2, i3, _, i5, _⟩ := finishUpdate_spec c hc _ _ h hfree (needSteps_le _)
  -- the registration has returned: pushed and flagged
  refine soloUpdate_picks_up c hc _ i1 i2 i5 t ht ?_ ?_
  · exact (i1.flagAhead t ht).resolve_right (by rw [i3, hret]; nofun)
  · exact (i1.pushAhead t ht).resolve_right (by rw [i3, hret]; nofun)

/-- at the end of a schedule (every registration returned) no registering thread holds the lock -/
theorem C20_all_returned_lock_free (c : Cfg) (hc : CfgOK c) (ops : List Op) (hr : Run c (init c) ops)
    (hall : ∀ u, u < c.n → ((run c (init c) ops).fr u).rest = []) :
    ∀ u, u < c.n → (run c (init c) ops).lk.inCS u = false := by
  have h := reachable_inv c hc ops _ (init_inv c hc) hr
  intro u hu
  have := h.wff u hu
  rw [hall u hu] at this
  simpa [wfF] using this

/-- the seeded change "flag store before lock + push": the backend consumes the flag and rebuilds its cache before the
    push; the thread is registered, not cached, the newest flag value is `false`, no update is in progress — and one
    more whole update with a newest-value load still does not find it -/
theorem C20_flag_before_push_lost :
    let c : Cfg := { fprog := [.setFlag, .lock, .push, .unlock], bprog := codeB, ord := { xchg := .acquire, unl := .release }, n := 1 }
    let sched : List Op := [.f 0 0, .b 1, .b 0, .b 0, .b 0, .b 0, .b 0, .b 0, .f 0 2, .f 0 0, .f 0 0, .f 0 0]
    let s := run c (init c) sched
    ¬ CfgOK c ∧ Run c (init c) sched ∧ (s.fr 0).rest = [] ∧ 0 ∈ s.list ∧ 0 ∉ s.cache ∧ newest s.flagHist = false ∧
      s.brest = [] ∧ s.raced = false ∧ 0 ∉ (soloUpdate c s).cache := by decide +kernel

/-- resetting the flag after the copy loses a registration that falls between the copy and the reset -/
theorem C20_reset_after_copy_lost :
    let c : Cfg := { fprog := codeF, bprog := [.clear, .lock, .copy, .unlock, .reset], ord := { xchg := .acquire, unl := .release }, n := 2 }
    let sched : List Op := [.f 0 0, .f 0 0, .f 0 0, .f 0 0, .f 0 0, .b 1, .b 0, .b 2, .b 0, .b 0, .b 0,
                            .f 1 4, .f 1 0, .f 1 0, .f 1 0, .f 1 0, .b 0]
    let s := run c (init c) sched
    ¬ CfgOK c ∧ Run c (init c) sched ∧ (s.fr 1).rest = [] ∧ 1 ∈ s.list ∧ 1 ∉ s.cache ∧ newest s.flagHist = false ∧
      s.brest = [] ∧ 1 ∉ (soloUpdate c s).cache := by decide +kernel

/-- without release/acquire on the lock the copy races with the push -/
theorem C20_relaxed_unlock_races :
    let c : Cfg := { fprog := codeF, bprog := codeB, ord := { xchg := .acquire, unl := .relaxed }, n := 1 }
    let sched : List Op := [.f 0 0, .f 0 0, .f 0 0, .f 0 0, .f 0 0, .b 1, .b 0, .b 0, .b 2, .b 0, .b 0]
    Run c (init c) sched ∧ (run c (init c) sched).raced = true := by decide +kernel

/-- the programs of the code as it stands satisfy the premises, for any number of threads -/
example (n : Nat) : CfgOK { fprog := codeF, bprog := codeB, ord := { xchg := .acquire, unl := .release }, n := n } :=
  ⟨rfl, rfl, rfl, rfl, rfl, rfl, rfl⟩

/-- the other placements of the flag store after `lock()` (LockGuard over the whole body) are covered too -/
example : CfgOK { fprog := [.lock, .push, .setFlag, .unlock], bprog := codeB, ord := { xchg := .acquire, unl := .release }, n := 3 } ∧
          CfgOK { fprog := [.lock, .setFlag, .push, .unlock], bprog := codeB, ord := { xchg := .seqcst, unl := .seqcst }, n := 3 } := by
  decide +kernel

/-- a schedule with two registering threads contending for the lock, a failed `exchange`, a stale flag load (the backend
    reads index 0 while index 1 exists), the backend consuming the flag between the two registrations and spinning on the
    lock held by the second thread -/
example :
    let c : Cfg := { fprog := codeF, bprog := codeB, ord := { xchg := .acquire, unl := .release }, n := 2 }
    let sched : List Op := [.f 0 0, .f 1 0, .f 0 0, .f 1 0, .f 0 0, .f 0 0, .f 0 0, .b 0, .b 1, .b 0, .b 0,
                            .f 1 3, .f 1 0, .f 1 0, .b 4, .f 1 0, .b 5, .b 0, .b 0, .b 0, .f 1 0]
    let s := run c (init c) sched
    Run c (init c) sched ∧ s.list = [0, 1] ∧ s.cache = [0, 1] ∧ (s.fr 1).rest = [] ∧ newest s.flagHist = true ∧ s.updates = 2 := by
  decide +kernel

end Reg
