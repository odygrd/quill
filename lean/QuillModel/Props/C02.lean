import QuillModel.Uspsc.Capacity
import QuillModel.Uspsc.Trace
/-!
# C02 — unbounded queue: record stream intact across growth/shrink, retired nodes never touched, within the cap

Property theorems only. Quantifiers: every initial capacity `> 0`, every batch rule, every schedule of
producer steps (write, commit, grow/shrink publication) and consumer steps (load, read, commit, observing
`next`, switching + deleting), every legal stale load — provided the bounded orders are release/acquire,
the `next` publication/observation is release/acquire, and `_read_next_queue` re-reads the old node
(`UOrdersOK`, discharged for the extracted values in `Obligations/UQueue.lean`).
-/
namespace Uspsc

/-- **Safety in every reachable state.** For every enabled step:
    * producer steps act on a node that has not been deleted (`ci ≤ pi`) and are safe in the bounded sense
      (C01: contiguous, overwrite only released bytes);
    * consumer steps are safe in the bounded sense (only committed, synchronised, intact bytes, FIFO);
    * a `switch` (commit_read, delete old node, move on) happens only when **every record written to the
      old node has been read** (`nread = recs.length` — none lost across the switch), the delete
      **happens-after** the producer's last access to the node (`sawSync`), and the producer has already
      left it (`ci < pi`) — so neither side touches a retired node afterwards. -/
theorem C02_reachable_safe (o : UParams) (ho : UOrdersOK o) (cap : Nat) (batch : Nat → Nat) (hc : 0 < cap)
    (ops : List UOp) (hr : URun o (uinit cap batch) ops) (op : UOp)
    (he : UEnabled o (urun o (uinit cap batch) ops) op) : USafe (urun o (uinit cap batch) ops) op :=
  ustep_safe o ho _ op (ureachable_inv o ho ops _ (uinit_inv o cap batch hc) hr) he

/-- **Order across nodes.** In every reachable state the nodes the consumer has left are exactly those below
    `ci`, the consumer never runs ahead of the producer, and every node the producer has left is sealed:
    its newest published writer position equals everything written to it. With `C02_reachable_safe`
    (switch only after the old node is fully read) and C01's per-node FIFO this gives: the consumer
    receives the records of node 0, then node 1, …, each exactly once and in order. -/
theorem C02_chain (o : UParams) (ho : UOrdersOK o) (cap : Nat) (batch : Nat → Nat) (hc : 0 < cap)
    (ops : List UOp) (hr : URun o (uinit cap batch) ops) :
    (urun o (uinit cap batch) ops).ci ≤ (urun o (uinit cap batch) ops).pi ∧
    (urun o (uinit cap batch) ops).n = (urun o (uinit cap batch) ops).pi + 1 ∧
    ∀ k, k < (urun o (uinit cap batch) ops).pi →
      ((urun o (uinit cap batch) ops).nodes k).q.wHist.headD 0 = ((urun o (uinit cap batch) ops).nodes k).q.wpos :=
  let h := ureachable_inv o ho ops _ (uinit_inv o cap batch hc) hr
  ⟨h.cp, h.len, h.sealK⟩

/-- **Every committed record exactly once, in order, across growth and shrink — over the whole schedule**
    (`C02_reachable_safe` + `C02_chain` state the ingredients per step; this is the stream statement the docstring
    of `C02_chain` argues informally). For every legal schedule of producer steps (write, commit, `publish` = grow or
    shrink to any capacity), consumer steps (load, read, commit, `seeNext`, `switch` + delete) and every legal stale
    load: the sequence of records the consumer read (`readsOfU ops`, in schedule order, over all nodes) is a **prefix**
    of the sequence the producer wrote (`writesOfU ops`) — none lost at a switch, none duplicated, none reordered, the old
    buffer finished before the new one; and the two traces are the per-node ghost fields read node after node
    (`recsOf`: nodes `0 … pi` for the writes; the nodes below `ci` completely, then `nread` records of node `ci`, for the
    reads). -/
theorem C02_trace_fifo (o : UParams) (ho : UOrdersOK o) (cap : Nat) (batch : Nat → Nat) (hc : 0 < cap)
    (ops : List UOp) (hr : URun o (uinit cap batch) ops) :
    readsOfU ops <+: writesOfU ops ∧
    writesOfU ops = recsOf (urun o (uinit cap batch) ops).nodes ((urun o (uinit cap batch) ops).pi + 1) ∧
    readsOfU ops = recsOf (urun o (uinit cap batch) ops).nodes (urun o (uinit cap batch) ops).ci ++
      (urun o (uinit cap batch) ops).cnode.q.recs.take (urun o (uinit cap batch) ops).cnode.q.nread := by
  have t := ti_run o ho ops _ [] [] (uinit_inv o cap batch hc) hr (ti_init cap batch)
  exact ⟨t.prefix (ureachable_inv o ho ops _ (uinit_inv o cap batch hc) hr), t.w, t.r⟩

/-- non-vacuity: on the grow-and-switch schedule of the example below the consumer read `[8, 12]` — one record from the
    old node, one from the new — which is all that was written -/
example : readsOfU [.p (.write 8), .p .commitW, .publish 16, .p (.write 12), .p .commitW,
     .c (.loadW 8), .c (.read 8), .seeNext, .c (.loadW 8), .switch, .c (.loadW 12), .c (.read 12)] = [8, 12] ∧
    writesOfU [.p (.write 8), .p .commitW, .publish 16, .p (.write 12), .p .commitW,
     .c (.loadW 8), .c (.read 8), .seeNext, .c (.loadW 8), .switch, .c (.loadW 12), .c (.read 12)] = [8, 12] := by decide +kernel

/-- **Within the cap** (`_handle_full_queue`): a node is allocated only with a capacity that is a doubling
    of the current one, holds the record and does not exceed the maximum; -/
theorem C02_alloc_within_cap {cap n maxCap c : Nat} (hcap : 0 < cap)
    (h : growDecision cap n maxCap = .alloc c) : c ≤ maxCap ∧ n ≤ c ∧ ∃ k, c = cap * 2 ^ (k + 1) := by
  unfold growDecision at h
  simp only at h
  split at h
  · split at h <;> simp at h
  · rename_i hle
    injection h with h
    subst h
    refine ⟨by omega, dbl_ge n (cap * 2) n (fuel_enough (by omega) (Nat.le_refl n)), ?_⟩
    obtain ⟨k, hk⟩ := dbl_pow n (cap * 2) n
    exact ⟨k, by rw [hk, Nat.pow_succ, Nat.mul_assoc, Nat.mul_comm 2 (2 ^ k)]⟩

/-- a record larger than the maximum is rejected with an error, and only such a record; -/
theorem C02_throw_iff {cap n maxCap : Nat} (hcap : 0 < cap) :
    growDecision cap n maxCap = .throw ↔ n > maxCap := grow_throw_iff hcap

/-- the reservation fails (caller blocks or drops) only when the record is within the maximum and the doubled
    capacity would exceed it; -/
theorem C02_null {cap n maxCap : Nat} (h : growDecision cap n maxCap = .null) :
    n ≤ maxCap ∧ dbl n (cap * 2) n > maxCap := grow_null h

/-- `shrink c` allocates iff `c ≤ capacity / 2`. -/
theorem C02_shrink_iff (cap c : Nat) : shrinkAllocates cap c = true ↔ c ≤ cap / 2 := shrink_allocates_iff cap c

/-- **No permanent refusal with power-of-two limits** (`…_partial`: needs the maximum to be a power of two,
    see `C02_non_pow2_max_refuses`): if growing is refused although the record is within the maximum, the
    current node already has the maximum capacity, so the record fits it once drained (C09). -/
theorem C02_null_means_at_max_partial {a b n : Nat} (hab : a ≤ b) (hn : n ≤ 2 ^ b)
    (h : growDecision (2 ^ a) n (2 ^ b) = .null) : a = b := grow_null_pow2 hab hn h

/-- Finding F10: with a maximum that is not a power of two a record in `(current capacity, maximum]` can
    be neither granted (larger than the node), nor grown for (next doubling exceeds the maximum), nor
    rejected (not larger than the maximum): capacity 1024 (or 2048), maximum 3000, record 2500. -/
theorem C02_non_pow2_max_refuses :
    growDecision 1024 2500 3000 = .null ∧ 1024 < 2500 ∧ 2500 ≤ 3000 ∧
    growDecision 2048 2500 3000 = .null ∧ 2048 < 2500 := by decide +kernel

def quillU : UParams :=
  { q := { wStore := .release, wLoad := .acquire, rStore := .release, rLoad := .acquire, drainPublish := true },
    nextStore := .release, nextLoad := .acquire, rereads := true }
theorem quillU_ok : UOrdersOK quillU := by decide +kernel

/-- The orders and the re-read matter. `next` observed with a relaxed load: the consumer may re-read a stale
    writer position of the old node, switch and delete it while a committed record is still unread (lost), and
    the delete races. -/
theorem relaxed_next_unsafe :
    let o := { quillU with nextLoad := .relaxed }
    let sched : List UOp := [.p (.write 4), .p .commitW, .publish 16, .seeNext, .c (.loadW 0)]
    URun o (uinit 8 (fun _ => 0)) sched ∧ UEnabled o (urun o (uinit 8 (fun _ => 0)) sched) .switch ∧
      ¬ USafe (urun o (uinit 8 (fun _ => 0)) sched) .switch := by
  refine ⟨by decide, by decide, ?_⟩
  rw [← usafeB_iff]; decide

/-- without the re-read of the old node: the consumer saw "empty" before the producer's last commit, then
    sees `next`, switches — the last record of the old node is lost. -/
theorem no_reread_unsafe :
    let o := { quillU with rereads := false }
    let sched : List UOp := [.c (.loadW 0), .p (.write 4), .p .commitW, .publish 16, .seeNext]
    URun o (uinit 8 (fun _ => 0)) sched ∧ UEnabled o (urun o (uinit 8 (fun _ => 0)) sched) .switch ∧
      ¬ USafe (urun o (uinit 8 (fun _ => 0)) sched) .switch := by
  refine ⟨by decide, by decide, ?_⟩
  rw [← usafeB_iff]; decide

/-- non-vacuity: write, grow, drain the old node, switch, read from the new node -/
example : URun quillU (uinit 8 (fun _ => 0))
    [.p (.write 8), .p .commitW, .publish 16, .p (.write 12), .p .commitW,
     .c (.loadW 8), .c (.read 8), .seeNext, .c (.loadW 8), .switch, .c (.loadW 12), .c (.read 12)] := by
  decide +kernel

end Uspsc
