import QuillModel.SinkReg.Proofs
/-!
# C17 (part) — the by-name sink registry is idempotent, whatever expired entries it holds

"… creating or looking up loggers and sinks by name is idempotent …; any number of remove/re-create cycles over the same
names, with sinks shared between loggers in every pattern."

`SinkReg.step` transcribes `SinkManager::create_or_get_sink / get_sink / cleanup_unused_sinks` over the sorted vector of
`(name, weak_ptr)` (model: `SinkReg/Model.lean`); `drop i` is the moment the last owner of object `i` lets go. All
theorems quantify over EVERY sequence `ops` of these four operations from the empty registry (so: over every pattern of
expired entries that can coexist with live ones) and hold for `Params.OK` = both private helpers use `lower_bound`
(obligation on the extracted structure, `Obligations/SinkReg.lean`). The thread-safety half of the sentence is the
spinlock's (`Props/C17Spin.lean`); ownership by loggers is the backend model's (`Props/C17.lean`).
-/
namespace SinkReg

/-- **sorted**: the vector stays sorted by name (so `std::lower_bound` is applicable and is the model's `bound`) -/
theorem C17_sinkreg_sorted (p : Params) (hp : p.OK) (ops : List Op) :
    (run p {} ops).entries.Pairwise (fun a b => a.name ≤ b.name) :=
  (rinv_run p hp ops {} rinv_init).pw.imp (fun h => h.1)

/-- **at most one ALIVE entry per name** (that it is the entry `_find_sink` looks at is `find_eq_aliveOf`) -/
theorem C17_sinkreg_one_alive_per_name (p : Params) (hp : p.OK) (ops : List Op) (n : Nat) :
    (aliveIds (run p {} ops) n).length ≤ 1 := by
  simp only [aliveIds, List.length_map]
  exact filter_alive_le_one _ n (rinv_run p hp ops {} rinv_init).pw

/-- identities are never reused: every entry was constructed before the counter's current value, all differ -/
theorem C17_sinkreg_ids_fresh (p : Params) (hp : p.OK) (ops : List Op) :
    (∀ e ∈ (run p {} ops).entries, e.id < (run p {} ops).next) ∧
    (run p {} ops).entries.Pairwise (fun a b => a.id ≠ b.id) :=
  ⟨(rinv_run p hp ops {} rinv_init).lt, (rinv_run p hp ops {} rinv_init).pw.imp (fun h => h.2.2)⟩

/-- **`create_or_get(name)`**: returns the alive entry of that name if there is one (nothing changes); otherwise
    constructs a fresh object (identity = the counter, different from every identity in the vector), after which that
    object is the alive entry of the name and no other name's answer has changed -/
theorem C17_sinkreg_create_or_get (p : Params) (hp : p.OK) (ops : List Op) (n : Nat) :
    let s := run p {} ops
    (∀ i, aliveOf s n = some i → step p s (.createOrGet n) = (s, .id i)) ∧
    (aliveOf s n = none →
      (step p s (.createOrGet n)).2 = .id s.next ∧ (∀ e ∈ s.entries, e.id ≠ s.next) ∧
      aliveOf (step p s (.createOrGet n)).1 n = some s.next ∧
      ∀ m, m ≠ n → aliveOf (step p s (.createOrGet n)).1 m = aliveOf s m) := by
  intro s
  have hs : RInv s := rinv_run p hp ops {} rinv_init
  refine ⟨fun i hi => by rw [step_createOrGet p hp s hs n, hi], fun hn => ?_⟩
  rw [step_createOrGet p hp s hs n, hn]
  refine ⟨rfl, fun e he => Nat.ne_of_lt (hs.lt e he), by simp [aliveOf_created], fun m hm => by simp [aliveOf_created, hm]⟩

/-- **`get(name)`** changes nothing, returns the alive entry of the name, and fails (throws) iff every entry of that
    name has expired (in particular when there is none) -/
theorem C17_sinkreg_get (p : Params) (hp : p.OK) (ops : List Op) (n : Nat) :
    let s := run p {} ops
    (step p s (.get n)).1 = s ∧
    (∀ i, (step p s (.get n)).2 = .id i ↔ ∃ e ∈ s.entries, e.name = n ∧ e.alive = true ∧ e.id = i) ∧
    ((step p s (.get n)).2 = .notFound ↔ ∀ e ∈ s.entries, e.name = n → e.alive = false) := by
  intro s
  have hs : RInv s := rinv_run p hp ops {} rinv_init
  rw [step_get p hp s hs n]
  refine ⟨rfl, fun i => ?_, ?_⟩
  · rw [← aliveOf_some_iff s hs n i]
    cases aliveOf s n <;> simp
  · rw [← aliveOf_none_iff s n]
    cases aliveOf s n <;> simp

/-- **idempotence**: whatever `create_or_get(name)` returned — the existing alive object or a fresh one —, after ANY
    further operations other than the release of that object (creation, lookup and release of any other object under
    any name, sweeps, in any number), `get(name)` and every further `create_or_get(name)` return that same object and
    construct nothing; whatever expired entries of that or other names the vector holds -/
theorem C17_sinkreg_idempotent (p : Params) (hp : p.OK) (ops : List Op) (n : Nat) (ops2 : List Op) :
    let r := step p (run p {} ops) (.createOrGet n)
    ∀ i, r.2 = .id i → (∀ op ∈ ops2, op ≠ .drop i) →
      step p (run p r.1 ops2) (.get n) = (run p r.1 ops2, .id i) ∧
      step p (run p r.1 ops2) (.createOrGet n) = (run p r.1 ops2, .id i) := by
  intro r i hi hno
  have hs : RInv (run p {} ops) := rinv_run p hp ops {} rinv_init
  have hr1 : RInv r.1 := rinv_step p hp _ hs _
  have halive : aliveOf r.1 n = some i := by
    have hr : r = _ := step_createOrGet p hp _ hs n
    cases ha : aliveOf (run p {} ops) n with
    | some j =>
      rw [ha] at hr
      rw [hr] at hi ⊢
      cases hi
      exact ha
    | none =>
      rw [ha] at hr
      rw [hr] at hi ⊢
      cases hi
      exact (aliveOf_created _ n n).trans (if_pos rfl)
  obtain ⟨hinv, hal⟩ := alive_kept p hp n i ops2 hno r.1 hr1 halive
  exact ⟨by rw [step_get p hp _ hinv n, hal], by rw [step_createOrGet p hp _ hinv n, hal]⟩

/-- **release**: when the last owner of object `i` lets go, the name it was registered under has no alive entry any
    more (the entry itself stays, expired, until the next sweep) and no other answer changes -/
theorem C17_sinkreg_drop (p : Params) (hp : p.OK) (ops : List Op) (i m : Nat) :
    let s := run p {} ops
    aliveOf (step p s (.drop i)).1 m = if aliveOf s m = some i then none else aliveOf s m :=
  aliveOf_drop _ (rinv_run p hp ops {} rinv_init) i m

/-- the count returned by `cleanup_unused_sinks` is not an answer about a name -/
def Obs.eraseCount : Obs → Obs
  | .removed _ => .removed 0
  | o => o

/-- two registries with the same alive objects under the same names and the same construction counter -/
structure SameAlive (s t : St) : Prop where
  l : RInv s
  r : RInv t
  next : s.next = t.next
  alive : ∀ n, aliveOf s n = aliveOf t n

theorem sameAlive_step (p : Params) (hp : p.OK) (s t : St) (h : SameAlive s t) (op : Op) :
    SameAlive (step p s op).1 (step p t op).1 ∧ (step p s op).2.eraseCount = (step p t op).2.eraseCount := by
  have hl' := rinv_step p hp s h.l op
  have hr' := rinv_step p hp t h.r op
  cases op with
  | createOrGet n =>
    have hst := step_createOrGet p hp s h.l n
    have htt := step_createOrGet p hp t h.r n
    rw [← h.alive n] at htt
    cases ha : aliveOf s n with
    | some i =>
      rw [ha] at hst htt
      rw [hst, htt]
      exact ⟨h, rfl⟩
    | none =>
      rw [ha] at hst htt
      rw [hst] at hl'
      rw [htt] at hr'
      rw [hst, htt]
      refine ⟨⟨hl', hr', congrArg (· + 1) h.next, fun m => ?_⟩, by rw [h.next]⟩
      rw [aliveOf_created, aliveOf_created, h.next, h.alive m]
  | get n =>
    rw [step_get p hp s h.l n, step_get p hp t h.r n, h.alive n]
    exact ⟨h, rfl⟩
  | drop i =>
    refine ⟨⟨hl', hr', h.next, fun m => ?_⟩, rfl⟩
    show aliveOf { s with entries := s.entries.map (kill i) } m = aliveOf { t with entries := t.entries.map (kill i) } m
    rw [aliveOf_drop s h.l, aliveOf_drop t h.r, h.alive m]
  | cleanup =>
    refine ⟨⟨hl', hr', h.next, fun m => ?_⟩, rfl⟩
    show aliveOf { s with entries := s.entries.filter (fun e => e.alive) } m =
      aliveOf { t with entries := t.entries.filter (fun e => e.alive) } m
    rw [aliveOf_cleanup, aliveOf_cleanup, h.alive m]

/-- **expired entries are invisible**: every answer of every later operation is a function of the alive objects and
    the counter alone -/
theorem C17_sinkreg_expired_invisible (p : Params) (hp : p.OK) (ops : List Op) :
    ∀ (s t : St), SameAlive s t → (trace p s ops).map Obs.eraseCount = (trace p t ops).map Obs.eraseCount := by
  induction ops with
  | nil => intro s t _; rfl
  | cons op rest ih =>
    intro s t h
    obtain ⟨h1, h2⟩ := sameAlive_step p hp s t h op
    simp only [trace, List.map_cons, h2, ih _ _ h1]

/-- **the sweep** removes exactly the expired entries (keeps the alive ones in their order), reports how many it
    removed, and changes no answer: not the alive entry of any name, and not any observation of any later sequence
    of operations (up to the counts reported by later sweeps) -/
theorem C17_sinkreg_cleanup (p : Params) (hp : p.OK) (ops : List Op) :
    let s := run p {} ops
    (step p s .cleanup).1.entries = s.entries.filter (fun e => e.alive) ∧
    (step p s .cleanup).2 = .removed (s.entries.filter (fun e => !e.alive)).length ∧
    (∀ e ∈ (step p s .cleanup).1.entries, e.alive = true) ∧
    (∀ n, aliveOf (step p s .cleanup).1 n = aliveOf s n) ∧
    (∀ n, find p (step p s .cleanup).1 n = find p s n) ∧
    (∀ ops2, (trace p (step p s .cleanup).1 ops2).map Obs.eraseCount = (trace p s ops2).map Obs.eraseCount) := by
  intro s
  have hs : RInv s := rinv_run p hp ops {} rinv_init
  have hs' : RInv (step p s .cleanup).1 := rinv_step p hp s hs .cleanup
  have hal : ∀ n, aliveOf (step p s .cleanup).1 n = aliveOf s n := fun n => aliveOf_cleanup s n
  refine ⟨rfl, rfl, ?_, hal, ?_, ?_⟩
  · intro e he
    exact (List.mem_filter.1 he).2
  · intro n
    rw [find_eq_aliveOf p hp _ hs' n, find_eq_aliveOf p hp _ hs n, hal n]
  · intro ops2
    exact C17_sinkreg_expired_invisible p hp ops2 _ _ ⟨hs', hs, rfl, hal⟩

/-- an expired entry coexisting with a live re-created entry of the same name is reachable (the user was the last
    owner, dropped the sink and re-created the name before the next sweep); the live one is in front -/
example : (run {} {} [.createOrGet 0, .drop 1, .createOrGet 0]).entries =
    [{ name := 0, id := 2, alive := true }, { name := 0, id := 1, alive := false }] := by decide +kernel

/-- a concrete life over three names with sharing, expiry, re-creation and a sweep: the answers -/
example : trace {} {} [.createOrGet 1, .createOrGet 0, .createOrGet 1, .drop 1, .get 1, .createOrGet 1, .get 1,
                       .createOrGet 2, .drop 2, .cleanup, .get 0, .createOrGet 1, .get 2] =
    [.id 1, .id 2, .id 1, .ok, .notFound, .id 3, .id 3, .id 4, .ok, .removed 2, .notFound, .id 3, .id 4] := by decide +kernel

/-- the hypotheses of `C17_sinkreg_idempotent` are met by a prefix that leaves expired entries of the name behind -/
example : let r := step {} (run {} {} [.createOrGet 0, .drop 1, .createOrGet 0, .drop 2]) (.createOrGet 0)
    r.2 = .id 3 ∧ (∀ op ∈ [Op.createOrGet 1, .drop 4, .createOrGet 0, .cleanup], op ≠ .drop 3) ∧
    (r.1.entries.filter (fun e => !e.alive)).length = 2 := by decide +kernel

/-- **negative witness (insert at the upper bound)**: the re-created sink goes BEHIND the
    expired entry of its name, `_find_sink` keeps looking at the expired one: the next `create_or_get` of the same
    name constructs a second object — two alive objects under one name -/
theorem C17_sinkreg_upper_insert_second_object :
    let p : Params := { insertAt := .upper }
    let ops : List Op := [.createOrGet 0, .drop 1, .createOrGet 0, .createOrGet 0]
    trace p {} ops = [.id 1, .ok, .id 2, .id 3] ∧ aliveIds (run p {} ops) 0 = [2, 3] ∧
    trace {} {} ops = [.id 1, .ok, .id 2, .id 2] := by decide +kernel

/-- … and `get` fails although an alive object of that name exists -/
theorem C17_sinkreg_upper_insert_get_fails :
    let p : Params := { insertAt := .upper }
    let ops : List Op := [.createOrGet 0, .drop 1, .createOrGet 0]
    (step p (run p {} ops) (.get 0)).2 = .notFound ∧ aliveIds (run p {} ops) 0 = [2] ∧
    (step {} (run {} {} ops) (.get 0)).2 = .id 2 := by decide +kernel

/-- looking at the upper bound in `_find_sink` never finds anything -/
theorem C17_sinkreg_upper_find_never_finds :
    let p : Params := { findAt := .upper }
    trace p {} [.createOrGet 0, .createOrGet 0, .get 0] = [.id 1, .id 2, .notFound] := by decide +kernel

end SinkReg
