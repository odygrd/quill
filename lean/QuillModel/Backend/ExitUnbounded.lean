import QuillModel.Backend.DrainTerminate
/-!
The exit loop without the fuel constant (helper lemmas for C07, `Props/C07Unbounded.lean`).

`exitLoop inj tick fuel` is the model's rendering of the unbounded `while` loop of `_exit()`. Once the loop has reached
its "everything is empty" branch within `n` iterations (`exitEnds … n`), more fuel changes nothing: for all
`fuel, fuel' ≥ n` the results coincide (`exitLoop_stable`). So the value of the *unbounded* loop is the common value
`exitLimit` of all sufficiently large fuels, and `exitBound tick s = pending + grace / tick + 1` is an explicit `n` for
every state with the ordering invariant and every `tick > 0` (`exit_terminates_tick`).
-/
namespace Backend.PC

theorem exitEnds_mono (inj : BSt → Nat → BSt) (tick : Nat) :
    ∀ (n m : Nat) (s : BSt), n ≤ m → exitEnds inj tick n s → exitEnds inj tick m s
  | 0, _, _, _, he => by cases he
  | n + 1, 0, _, hle, _ => by omega
  | n + 1, m + 1, s, hle, he => by
    rcases he with he | ⟨he, hrest⟩
    · exact Or.inl he
    · exact Or.inr ⟨he, exitEnds_mono inj tick n m _ (by omega) hrest⟩

theorem exitLoop_stable_ge (inj : BSt → Nat → BSt) (tick : Nat) :
    ∀ (n fuel : Nat) (s : BSt), exitEnds inj tick n s → n ≤ fuel → exitLoop inj tick fuel s = exitLoop inj tick n s
  | 0, _, _, he, _ => by cases he
  | n + 1, 0, _, _, hle => by omega
  | n + 1, fuel + 1, s, he, hle => by
    rw [exitLoop_succ, exitLoop_succ]
    rcases he with he | ⟨he, hrest⟩
    · simp only [he, if_true]
    · simp only [he, Bool.false_eq_true, if_false]
      exact exitLoop_stable_ge inj tick n fuel _ hrest (by omega)

theorem exitLoop_stable (inj : BSt → Nat → BSt) (tick n fuel fuel' : Nat) (s : BSt) (he : exitEnds inj tick n s)
    (h1 : n ≤ fuel) (h2 : n ≤ fuel') : exitLoop inj tick fuel s = exitLoop inj tick fuel' s := by
  rw [exitLoop_stable_ge inj tick n fuel s he h1, exitLoop_stable_ge inj tick n fuel' s he h2]

/-- iterations after which the exit loop has certainly ended: one per pending record, plus the iterations needed
    for the clock (advancing by `tick` per iteration) to pass the grace period, plus the final one -/
def exitBound (tick : Nat) (s : BSt) : Nat := pendingTotal s + s.cfg.grace / tick + 1

def exitLimit (inj : BSt → Nat → BSt) (tick : Nat) (s : BSt) : BSt := exitLoop inj tick (exitBound tick s) s

theorem grace_lt_ticks (g tick : Nat) (ht : 0 < tick) : g < (g / tick + 1) * tick := by
  have h1 := Nat.div_add_mod g tick
  have h2 := Nat.mod_lt g ht
  have h3 : (g / tick + 1) * tick = tick * (g / tick) + tick := by
    rw [Nat.add_mul, Nat.one_mul, Nat.mul_comm]
  omega

/-- the ordering invariant bounds the pending timestamps by the clock: `exit_terminates` with `N0 = s.now` -/
theorem exit_terminates_tick {inj : BSt → Nat → BSt} (hq : PB.Quiet inj) (tick : Nat) (ht : 0 < tick) {s : BSt}
    (h : PB.GI s) : exitEnds inj tick (exitBound tick s) s := by
  obtain ⟨fl, h⟩ := h
  apply exit_terminates hq tick s.now s.cfg (exitBound tick s) (s.cfg.grace / tick) fl s h (fun j r hr => h.leNow j r hr)
  · have := grace_lt_ticks s.cfg.grace tick ht
    omega
  · unfold exitBound
    rw [pendingCount_eq_total]; omega

end Backend.PC
