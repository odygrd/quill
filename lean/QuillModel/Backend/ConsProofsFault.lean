import QuillModel.Backend.ConsProofsPop
import QuillModel.Backend.EventGroups
/-!
Fault lemmas for C10: the pop on the exception path,
the flag of a Flush event, the constancy of the sinks' fault schedules / filters through every schedule, and that
a `flush_sink` or write fault is followed at once by its notification.
-/
namespace Backend.PA

/-- the event is popped whatever `processEvent` did (exception or not) -/
theorem popStep_pops (s : BSt) (i : Nat) (st : Stmt) (rest : List Stmt) (hb : (s.th i).buf = st :: rest) :
    ((popStep s i st rest).th i).buf = rest ∧ ((popStep s i st rest).th i).popped = (s.th i).popped ++ [st] ∧
    (popStep s i st rest).popLog = st :: s.popLog ∧
    ∀ j, j ≠ i → (popStep s i st rest).th j = s.th j := by
  have hi : i < s.ths.length := lt_length_of_th (P := fun t => t.buf = st :: rest) hb nofun
  obtain ⟨s2, c, e⟩ := popStep_eq s i st rest
  have hi2 : i < ({ s2 with popLog := st :: s2.popLog } : BSt).ths.length := c.ths ▸ hi
  have hth : ∀ j, ({ s2 with popLog := st :: s2.popLog } : BSt).th j = s.th j := th_of_ths_eq c.ths
  rw [e]
  refine ⟨?_, ?_, congrArg (st :: ·) c.popLog, fun j hj => ?_⟩
  · rw [th_setTh_same _ _ hi2]
  · rw [th_setTh_same _ _ hi2, hth]
  · rw [th_setTh_ne _ _ hj, hth]

/-- a Flush event always raises its flag, whatever the sinks throw -/
theorem processLowest_flush_flag (inj : BSt → Nat → BSt) (s : BSt) (i : Nat) (st : Stmt) (rest : List Stmt) (f : Nat)
    (hl : lowest s = some i) (hb : (s.th i).buf = st :: rest) (hk : st.kind = .flush f) :
    f ∈ (processLowest inj s).1.flags ∧ (processLowest inj s).2 = true := by
  rw [processLowest_eq, hl]
  dsimp only
  rw [hb]
  dsimp only
  rw [processEvent_flush s st f hk]
  exact ⟨List.mem_cons_self, rfl⟩

def SinkCfgSame (s0 s : BSt) : Prop :=
  ∀ sid, (s.sinkOf sid).sid = (s0.sinkOf sid).sid ∧ (s.sinkOf sid).filtM = (s0.sinkOf sid).filtM ∧
    (s.sinkOf sid).filtR = (s0.sinkOf sid).filtR ∧ (s.sinkOf sid).wthrow = (s0.sinkOf sid).wthrow ∧
    (s.sinkOf sid).fthrow = (s0.sinkOf sid).fthrow

theorem SinkCfgSame.closed (s0 : BSt) : Closed (SinkCfgSame s0) :=
  closed_iff.mpr fun s s' hp h sid => by
    obtain ⟨a, b, c, d, e⟩ := h sid
    obtain ⟨a', b', c', d', e'⟩ := (Stable.prim hp).sinks sid
    exact ⟨a'.trans a, b'.trans b, c'.trans c, d'.trans d, e'.trans e⟩

def isFthrow : Ev → Bool
  | .fthrow _ => true
  | _ => false

def isFfail : Ev → Bool
  | .notify m => m == "n:ffail"
  | _ => false

theorem grps_fthrow_count {l : List Ev} (h : Grps l) : l.countP isFthrow = l.countP isFfail := by
  induction h with
  | nil => rfl
  | cons hg _ ih =>
    rw [List.countP_append, List.countP_append, ih]
    cases hg <;> rfl

/-- a write fault on an ordinary statement is reported in the same processing step -/
theorem popStep_wfault_reported (s : BSt) (i : Nat) (st : Stmt) (rest : List Stmt) (ho : isOrd st = true)
    (hx : (dispatch s st).2 = true) :
    (popStep s i st rest).log = Ev.notify "n:wfail" :: (dispatch s st).1.log := by
  obtain ⟨hk, hl⟩ := isOrd_iff.mp ho
  have hpe : processEvent s st = ((dispatch s st).1, some "n:wfail", none) := by
    unfold processEvent
    rw [hk]
    dsimp only
    rw [if_pos hl, if_pos hx]
  unfold popStep
  rw [hpe]
  rfl

end Backend.PA
