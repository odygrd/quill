import QuillModel.Backend.SinkBack
/-!
The first loop of `cleanupLoggers`, followed through `ev` (flags, recorded removal requests, names and erased bits of the
logger objects) with the invariant `EAcc` (`lgFold_EAcc`), for every injection runner that leaves `ev` alone at hook site
9; and what the second loop does to the flags and the recorded requests, exactly (`flagFold_spec`). What the
whole pass does to the recorded requests is `cleanupLoggers_serves`, further down. Helper lemmas for C17.
-/
namespace Backend.PC

def fview2 (s : BSt) : List Nat × List (Nat × Nat) × List Lg := (s.flags, s.removalFlags, s.lgs)

theorem reapSinks_fview2 (sids : List Nat) : ∀ (s : BSt), fview2 (reapSinks s sids) = fview2 s :=
  (SinkRel.of_eq fview2 (fun _ _ _ => rfl) (fun _ _ => rfl)).reapSinks (fun _ _ => rfl) sids

theorem find_filter_ne (l : List (Nat × Nat)) (g g0 : Nat) (h : g ≠ g0) :
    (l.filter (·.1 ≠ g0)).find? (·.1 = g) = l.find? (·.1 = g) := by
  rw [List.find?_filter]
  congr 1
  funext p
  by_cases hp : p.1 = g <;> simp [hp, h]

theorem flagStep_removalFlags (x : BSt) (g : Nat) : (flagStep x g).removalFlags = x.removalFlags.filter (·.1 ≠ g) := by
  unfold flagStep
  split
  · rfl
  · rename_i hnone
    refine (List.filter_eq_self.mpr fun p hp => ?_).symm
    simpa using List.find?_eq_none.mp hnone p hp

theorem flagStep_flags (x : BSt) (g f : Nat) :
    f ∈ (flagStep x g).flags ↔ f ∈ x.flags ∨ ∃ g', x.removalFlags.find? (·.1 = g) = some (g', f) := by
  unfold flagStep
  split
  · rename_i g' f' hfind
    show f ∈ f' :: x.flags ↔ _
    rw [List.mem_cons, hfind]
    constructor
    · rintro (rfl | h)
      · exact Or.inr ⟨g', rfl⟩
      · exact Or.inl h
    · rintro (h | ⟨_, h⟩)
      · exact Or.inr h
      · cases h; exact Or.inl rfl
  · rename_i hnone
    rw [hnone]
    exact ⟨Or.inl, fun h => h.elim id (fun ⟨_, h⟩ => nomatch h)⟩

theorem flagFold_spec : ∀ (l : List Nat) (x : BSt),
    (l.foldl flagStep x).lgs = x.lgs ∧
    (l.foldl flagStep x).removalFlags = x.removalFlags.filter (fun p => decide (p.1 ∉ l)) ∧
    ∀ f, f ∈ (l.foldl flagStep x).flags ↔
      f ∈ x.flags ∨ ∃ g ∈ l, ∃ g', x.removalFlags.find? (·.1 = g) = some (g', f)
  | [], x => ⟨rfl, (List.filter_eq_self.mpr fun _ _ => by simp).symm, fun f => ⟨Or.inl, fun h => h.elim id (fun ⟨_, h, _⟩ => nomatch h)⟩⟩
  | g0 :: gs, x => by
    obtain ⟨i0, i1, i2⟩ := flagFold_spec gs (flagStep x g0)
    rw [List.foldl_cons]
    refine ⟨i0.trans (by unfold flagStep; split <;> rfl), ?_, fun f => ?_⟩
    · rw [i1, flagStep_removalFlags, List.filter_filter]
      exact List.filter_congr fun p _ => by simp [Bool.and_comm]
    · rw [i2, flagStep_flags, flagStep_removalFlags]
      constructor
      · rintro ((h | ⟨g', h⟩) | ⟨g, hg, g', h⟩)
        · exact Or.inl h
        · exact Or.inr ⟨g0, List.mem_cons_self, g', h⟩
        · by_cases hne : g = g0
          · -- a name noted twice finds nothing the second time
            have := List.find?_some h
            have hm := (List.mem_filter.mp (List.mem_of_find?_eq_some h)).2
            simp only [decide_eq_true_eq] at this hm
            exact absurd (this.trans hne) hm
          · rw [find_filter_ne _ g g0 hne] at h
            exact Or.inr ⟨g, List.mem_cons_of_mem _ hg, g', h⟩
      · rintro (h | ⟨g, hg, g', h⟩)
        · exact Or.inl (Or.inl h)
        · by_cases hne : g = g0
          · exact Or.inl (Or.inr ⟨g', hne ▸ h⟩)
          · rcases List.mem_cons.mp hg with hg | hg
            · exact absurd hg hne
            · exact Or.inr ⟨g, hg, g', by rw [find_filter_ne _ g g0 hne]; exact h⟩

def ev (x : BSt) : List Nat × List (Nat × Nat) × List (Nat × Bool) := (x.flags, x.removalFlags, gev x)

theorem lgOf_of_gev {s s' : BSt} (h : gev s' = gev s) (j : Nat) :
    (s'.lgOf j).gid = (s.lgOf j).gid ∧ (s'.lgOf j).erased = (s.lgOf j).erased := by
  exact Prod.mk.inj (getD_of_map_eq (fun l : Lg => (l.gid, l.erased)) h j default)

theorem allEmpty_ev (x : BSt) : ev (allEmpty x).1 = ev x := allEmpty_eq ev (fun _ => rfl) (fun _ _ => rfl) x

/-- what the erase loop knows, relative to the state `s` the clean-up started from: flags and recorded requests are as
    then, the names noted belong to objects erased since (`LgAcc`) — and an object erased since has its name noted -/
def EAcc (s x : BSt) (r : List Nat) : Prop :=
  LgAcc (fun x => x.flags = s.flags ∧ x.removalFlags = s.removalFlags) s x r ∧
  ∀ j, (x.lgOf j).erased = true → (s.lgOf j).erased = true ∨ (s.lgOf j).gid ∈ r

theorem EAcc.of_ev {s x y : BSt} {r : List Nat} (h : EAcc s x r) (hy : ev y = ev x) : EAcc s y r := by
  simp only [ev, Prod.mk.injEq] at hy
  obtain ⟨h1, h2, h3⟩ := hy
  exact ⟨h.1.mono ⟨h1.trans h.1.1.1, h2.trans h.1.1.2⟩ (LgMono.of_gev h3),
    fun j hj => h.2 j (by rw [← (lgOf_of_gev h3 j).2]; exact hj)⟩

theorem lgFold_EAcc (inj : BSt → Nat → BSt) (h9 : ∀ x, ev (inj x 9) = ev x) (s : BSt) :
    EAcc s (lgFold inj s).1 (lgFold inj s).2 :=
  lgFold_rule inj s (fun _ => EAcc s) (fun _ x _ h => h.of_ev (h9 x)) (fun _ _ _ h => h.of_ev rfl)
    (fun x _ h => h.of_ev (allEmpty_ev x))
    (fun x r i hlt hne h _ _ => by
      have hlg : ∀ j, (allEmpty x).1.lgOf j = x.lgOf j := fun j => by simp only [BSt.lgOf, allEmpty_lgs]
      have h' := h.of_ev (allEmpty_ev x)
      rw [← hlg i]
      refine ⟨h'.1.erase hlt hne rfl h'.1.1, fun j hj => ?_⟩
      rw [lgOf_setLg] at hj
      split at hj
      · next hc => exact Or.inr (by rw [hc.1, ← (h'.1.2.1.2 i).1]; exact List.mem_append_right _ List.mem_cons_self)
      · exact (h'.2 j hj).imp id (List.mem_append_left _))
    (fun _ _ _ _ h _ _ => h.of_ev rfl) (fun _ _ _ _ h _ => h)
    ⟨⟨⟨rfl, rfl⟩, LgMono.refl s, fun g hg => by cases hg⟩, fun j hj => Or.inl hj⟩

/-!
What `cleanupLoggers` does to the flags and to the recorded removal requests (`removalFlags`, the model of
`_logger_removal_flags`): the recorded flag of every name one of whose logger objects was erased in the pass is raised,
every entry of another name is kept, nothing else is raised (`cleanupLoggers_serves`) — for every injection runner that
leaves flags, recorded requests and the names / erased bits of the logger objects alone at hook site 9, which `runInj`
does (`runInj9_ev`). Helper lemmas for C17.
-/

/-- hook site 9: frontend operations inside a sink destructor -/
theorem runInj9_ev (table : List (Nat × Nat × List FOp)) (x : BSt) : ev (runInj table x 9) = ev x := by
  have h := fv3_frontRel.runInj table x 9
  simp only [fv3, Prod.mk.injEq] at h
  simp only [ev, h.1, h.2.1, runInj9_gev table x]

theorem cleanupLoggers_serves (inj : BSt → Nat → BSt) (h9 : ∀ x, ev (inj x 9) = ev x) (s s' : BSt)
    (hs' : s' = cleanupLoggers inj s) :
    (∀ j, j < s.lgs.length → (s.lgOf j).erased = false → (s'.lgOf j).erased = true →
      ∀ g' f, s.removalFlags.find? (·.1 = (s.lgOf j).gid) = some (g', f) → f ∈ s'.flags) ∧
    (∀ p ∈ s.removalFlags,
      (∀ j, j < s.lgs.length → (s.lgOf j).erased = false → (s'.lgOf j).erased = true → (s.lgOf j).gid ≠ p.1) →
      p ∈ s'.removalFlags) ∧
    (∀ f ∈ s'.flags, f ∈ s.flags ∨ ∃ p ∈ s.removalFlags, p.2 = f ∧
      ∃ j, j < s.lgs.length ∧ (s.lgOf j).gid = p.1 ∧ (s.lgOf j).erased = false ∧ (s'.lgOf j).erased = true) ∧
    (∀ p ∈ s'.removalFlags, p ∈ s.removalFlags) := by
  rw [cleanupLoggers_fold] at hs'
  split at hs'
  · subst hs'
    exact ⟨fun j _ h1 h2 => (by rw [h1] at h2; cases h2), fun p hp _ => hp, fun f hf => Or.inl hf, fun p hp => hp⟩
  · have hA := lgFold_EAcc inj h9 s
    generalize lgFold inj s = res at hs' hA
    obtain ⟨o0, o1, o2⟩ := flagFold_spec res.2 res.1
    rw [← hs', hA.1.1.2] at o1
    rw [← hs', hA.1.1.2, hA.1.1.1] at o2
    have hlg : ∀ j, s'.lgOf j = res.1.lgOf j := fun j => by simp only [BSt.lgOf, hs', o0]
    -- a name is noted exactly for the objects erased in this pass
    have hno : ∀ g, g ∈ res.2 ↔
        ∃ j, j < s.lgs.length ∧ (s.lgOf j).gid = g ∧ (s.lgOf j).erased = false ∧ (s'.lgOf j).erased = true :=
      fun g => ⟨fun hg => (hA.1.2.2 g hg).2.imp fun j ⟨a, b, c, d⟩ => ⟨a, c, b, by rw [hlg]; exact d⟩, fun ⟨j, _, b, c, d⟩ =>
        (hA.2 j (by rw [← hlg]; exact d)).elim (fun h => by rw [c] at h; cases h) (fun h => b ▸ h)⟩
    refine ⟨fun j hj he he' g' f hfind => (o2 f).mpr (Or.inr ⟨_, (hno _).mpr ⟨j, hj, rfl, he, he'⟩, g', hfind⟩),
      fun p hp hne => ?_, fun f hf => ?_, fun p hp => ?_⟩
    · rw [o1, List.mem_filter]
      exact ⟨hp, decide_eq_true fun hm => ((hno _).mp hm).elim fun j ⟨a, b, c, d⟩ => hne j a c d b⟩
    · refine ((o2 f).mp hf).imp id fun ⟨g, hg, g', hfind⟩ => ?_
      have hk := List.find?_some hfind
      simp only [decide_eq_true_eq] at hk
      exact ⟨(g', f), List.mem_of_find?_eq_some hfind, rfl, ((hno g).mp hg).imp fun j ⟨a, b, c, d⟩ => ⟨a, b.trans hk.symm, c, d⟩⟩
    · rw [o1] at hp
      exact (List.mem_filter.mp hp).1

end Backend.PC
