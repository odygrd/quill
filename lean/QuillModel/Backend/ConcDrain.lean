import QuillModel.Backend.ConcMono
import QuillModel.Backend.FlushProgress
/-!
# A queue whose owner is blocked is read within `|queue|` polls, whatever the other threads do (for C09)

The measure is the number of records of a context read so far, `|accepted| - |queue| = |popped| + |buffer|`: no operation
lowers it (`Mono.unread`), and a poll with an arbitrary injection table raises it for every context whose front record is
past the grace period (`poll_reads`). So the records a context had accepted are read one per poll, whatever its owner and
the other threads do meanwhile (`reads_conc`); an owner that enqueues nothing is a blocked one (`drain_conc`).
-/
namespace Backend.PB

variable {c : Cfg} {fl : Nat} {s : BSt}

theorem poll_reads (table : List (Nat × Nat × List FOp)) (h : PIo c fl s) (hF : FI none [] s) (i : Nat) (r : Stmt)
    (rest : List Stmt) (hq : (s.th i).qStmts = r :: rest) (hripe : r.ts + c.grace ≤ s.now) :
    (s.th i).accepted.length + ((Backend.poll (runInj table) s).th i).qStmts.length + 1 ≤
      ((Backend.poll (runInj table) s).th i).accepted.length + (s.th i).qStmts.length := by
  have hi : InjOK (runInj table) := injOK_runInj table
  have hg := grow_front.runInj table
  have hFp : FI none [] (populate (runInj table) s).1 := hF.populate (injOK2_runInj table)
  have g := grow_read.populate hg s
  have hr := populate_reads hi hg h i r rest hq hripe
  have ht := mono_back.pollTail (mono_front.runInj table) s
  have c1 := congrArg List.length (hF.cons i)
  have c2 := congrArg List.length (hFp.cons i)
  have hb := (g.th i).bal
  have hu := ht.unread i
  unfold PB.chain at hb
  simp only [List.length_append] at c1 c2 hb
  omega

theorem read_mono {u q a u' q' a' : Nat} (c0 : a = u + q) (c1 : a' = u' + q') (hu : a + q' ≤ a' + q) : u ≤ u' := by
  rw [c0, c1, Nat.add_right_comm] at hu
  exact Nat.le_of_add_le_add_right (Nat.le_of_add_le_add_right hu)

/-- the arithmetic of one step of `reads_conc`: of `a` records accepted, `u` are read and `q` queued, before and after an
    operation that does not lower `a - q` and — if it is a poll (`k = 1`) finding `u < n` — raises it -/
theorem reads_step {n u q a u' q' a' r pc k : Nat} (c0 : a = u + q) (c1 : a' = u' + q')
    (hu : a + q' ≤ a' + q) (hrd : k = 1 → u < n → a + q' + 1 ≤ a' + q) (hk : k ≤ 1)
    (ih : n ≤ r ∨ u' + pc ≤ r) : n ≤ r ∨ u + (k + pc) ≤ r := by
  omega

/-- The last hypothesis: of the first `N` records context `i` has accepted in `s`, those still in its queue are past their
    grace period. The owner may go on logging. -/
theorem reads_conc (i N : Nat) : ∀ (ops : List Op) (s : BSt), GI s → FI none [] s →
    (runOps s ops).backendGone = false → N ≤ (s.th i).accepted.length →
    (∀ k r, (s.th i).popped.length + (s.th i).buf.length ≤ k → k < N → (s.th i).accepted[k]? = some r →
      r.ts + s.cfg.grace ≤ s.now) →
    N ≤ ((runOps s ops).th i).popped.length + ((runOps s ops).th i).buf.length ∨
    (s.th i).popped.length + (s.th i).buf.length + pollCount ops ≤
      ((runOps s ops).th i).popped.length + ((runOps s ops).th i).buf.length := by
  intro ops
  induction ops with
  | nil => intro s _ _ _ _ _; exact .inr (Nat.le_refl _)
  | cons o os ih0 =>
    intro s hG hF hgone hN hripe
    rw [runOps_cons] at hgone ⊢
    have m1 := mono_applyOp s o
    obtain ⟨l1, e1, _⟩ := m1.acc i
    have hgone0 := m1.running ((mono_runOps os _).running hgone)
    have c0 := congrArg List.length (hF.cons i)
    have c1 := congrArg List.length ((hF.applyOp o).cons i)
    simp only [List.length_append] at c0 c1
    have hmono : (s.th i).popped.length + (s.th i).buf.length ≤
        ((applyOp s o).1.th i).popped.length + ((applyOp s o).1.th i).buf.length := read_mono c0 c1 (m1.unread i)
    have ih := ih0 (applyOp s o).1 (hG.applyOp o) (hF.applyOp o) hgone
      (Nat.le_trans hN (by rw [e1, List.length_append]; exact Nat.le_add_right _ _))
      (fun k r hk0 hk hr => by
        rw [e1, List.getElem?_append_left (Nat.lt_of_lt_of_le hk hN)] at hr
        rw [applyOp_cfg]; exact Nat.le_trans (hripe k r (Nat.le_trans hmono hk0) hk hr) m1.now)
    rw [pollCount_cons]
    refine reads_step c0 c1 (m1.unread i) (fun hp hlt => ?_) (by split <;> decide) ih
    -- a poll, and the queue offers the record number `|popped| + |buffer|`, one of the `N`: the poll reads it
    obtain ⟨table, rfl⟩ : ∃ table, o = .poll table := by
      cases o with
      | poll table => exact ⟨table, rfl⟩
      | front _ | exit => cases hp
    obtain ⟨r, rest, hqq⟩ : ∃ r rest, (s.th i).qStmts = r :: rest := by
      cases h : (s.th i).qStmts with
      | nil => rw [h, List.length_nil, Nat.add_zero] at c0; exact absurd (Nat.lt_of_lt_of_le hlt hN) (by rw [c0]; exact Nat.lt_irrefl _)
      | cons r rest => exact ⟨r, rest, rfl⟩
    have hk : (s.th i).accepted[((s.th i).popped ++ (s.th i).buf).length]? = some r := by
      rw [hF.cons i, hqq, List.getElem?_append_right (Nat.le_refl _), Nat.sub_self]; rfl
    obtain ⟨fl, hI⟩ := hG
    have hrd := poll_reads table (hI.frame rfl : PIo s.cfg fl { s with siteCnt := [] }) (hF.frame rfl) i r rest hqq
      (hripe _ r (by rw [List.length_append]; exact Nat.le_refl _) (by rw [List.length_append]; exact hlt) hk)
    rw [← applyOp_poll hgone0 table] at hrd
    exact hrd

theorem drain_conc (i : Nat) : ∀ (ops : List Op) (s : BSt), GI s → FI none [] s →
    (runOps s ops).backendGone = false →
    (∀ r ∈ (s.th i).accepted, r.ts + s.cfg.grace ≤ s.now) →
    ((runOps s ops).th i).accepted.length = (s.th i).accepted.length →
    ((runOps s ops).th i).qStmts.length + pollCount ops ≤ (s.th i).qStmts.length ∨ ((runOps s ops).th i).qStmts = [] := by
  intro ops s hG hF hgone hripe hacc
  have h := reads_conc i (s.th i).accepted.length ops s hG hF hgone (Nat.le_refl _)
    (fun k r _ _ hr => hripe r (List.mem_of_getElem? hr))
  have c0 := congrArg List.length (hF.cons i)
  have c1 := congrArg List.length ((hF.runOps ops).cons i)
  simp only [List.length_append] at c0 c1
  cases hq : ((runOps s ops).th i).qStmts with
  | nil => exact .inr rfl
  | cons r rest => rw [hq] at c1; simp only [List.length_cons] at c1 ⊢; exact .inl (by omega)

end Backend.PB
