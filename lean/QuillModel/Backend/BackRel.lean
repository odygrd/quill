import QuillModel.Backend.FlushGate
import QuillModel.Backend.QuietRel
/-!
Two-state relations along the backend's pass. A reflexive, transitive relation between states is walked as the property
`R s0` through the rules of `Pass.lean`. One that holds across the emptiness probe of one context, a change of a context's
counters and marks, a pop and the changes outside contexts and actors (`BackRel`) is in particular a `QuietRel`
(`BackRel.quiet`) and holds moreover across `cleanupLoggers`, `processLowest`, `batchLoop`, the flush gate and everything a
poll does after its read pass (`BackRel.tailRules`); one that is also a `ReadRel` and holds across a tick of the clock
holds across a poll and the exit loop (`BackRel.passRules`) — each for every injection runner that keeps the relation.
-/
namespace Backend
open PB (SLOL slol_flushSinks slol_procSt)

/-- what a change outside contexts and actors leaves alone (sinks, loggers, emitted events, the failure report, the pop
    history, removal requests, the flush time, registry and cache may change); flags are only raised. Bundle B's
    counterpart of `PA.Frame`; not to be confused with `PA.Hk`, which lets the contexts' queues and buffers change -/
structure CtxSame (s s' : BSt) : Prop where
  ths : s'.ths = s.ths
  actors : s'.actors = s.actors
  cfg : s'.cfg = s.cfg
  now : s'.now = s.now
  backendGone : s'.backendGone = s.backendGone
  flags : ∀ f ∈ s.flags, f ∈ s'.flags

theorem CtxSame.of_eq {s s' : BSt}
    (h : s' = { s with sinks := s'.sinks, lgs := s'.lgs, out := s'.out, log := s'.log, reported := s'.reported,
                       hasInvalidLoggers := s'.hasInvalidLoggers, lastFlush := s'.lastFlush, popLog := s'.popLog,
                       flagLog := s'.flagLog, removalFlags := s'.removalFlags, registry := s'.registry,
                       cache := s'.cache, newFlag := s'.newFlag, invalidCnt := s'.invalidCnt }) : CtxSame s s' := by
  rw [h]; exact ⟨rfl, rfl, rfl, rfl, rfl, fun _ h => h⟩

theorem CtxSame.raise (s : BSt) (f : Nat) (x y : List (Nat × Nat)) :
    CtxSame s { s with flags := f :: s.flags, flagLog := x, removalFlags := y } :=
  ⟨rfl, rfl, rfl, rfl, rfl, fun _ h => List.mem_cons_of_mem _ h⟩

theorem PB.SLOL.ctxSame {s s' : BSt} (h : SLOL s s') : CtxSame s s' := by
  obtain ⟨a, b, c, d, rfl⟩ := h
  exact .of_eq rfl

theorem PB.SLOL.th {s s' : BSt} (h : SLOL s s') (j : Nat) : s'.th j = s.th j := th_of_ths_eq h.ctxSame.ths j

/-- a `QuietRel` (`BackRel.quiet`) kept also by a pop and by every change outside contexts and actors (`hk`: sinks,
    loggers, events and the flags raised may be rewritten), hence by the whole tail of a poll -/
structure BackRel (R : BSt → BSt → Prop) : Prop where
  refl : ∀ s, R s s
  trans : ∀ {a b c}, R a b → R b c → R a c
  hk : ∀ {s s' : BSt}, CtxSame s s' → R s s'
  setThMisc : ∀ s i (f : Th → Th),
    (∀ t, (f t).q = t.q ∧ (f t).qStmts = t.qStmts ∧ (f t).buf = t.buf ∧ (f t).accepted = t.accepted) → R s (s.setTh i f)
  ctxEmpty : ∀ s i, R s (ctxEmpty s i).1
  pop : ∀ s i st rest, (s.th i).buf = st :: rest →
    R s { s.setTh i (fun t => { t with buf := rest, popped := t.popped ++ [st] }) with popLog := st :: s.popLog }

variable {R : BSt → BSt → Prop} {inj : BSt → Nat → BSt}

theorem BackRel.step (hR : BackRel R) {s0 : BSt} {f : BSt → BSt} (hf : ∀ x, R x (f x)) (x : BSt) (h : R s0 x) :
    R s0 (f x) := hR.trans h (hf x)

theorem BackRel.quiet (hR : BackRel R) : QuietRel R where
  refl := hR.refl
  trans := hR.trans
  reg _ _ _ _ _ _ _ := hR.hk (.of_eq rfl)
  setThMisc s i f hf _ := hR.setThMisc s i f hf
  ctxEmpty := hR.ctxEmpty
  note _ _ := hR.hk (.of_eq rfl)

theorem BackRel.refresh (hR : BackRel R) (s : BSt) : R s (refreshCache s) := hR.quiet.refresh s
theorem BackRel.allEmpty (hR : BackRel R) (s : BSt) : R s (allEmpty s).1 := hR.quiet.allEmpty s
theorem BackRel.hasPending (hR : BackRel R) (s : BSt) : R s (hasPending s).1 := hR.quiet.hasPending s
theorem BackRel.cleanupContexts (hR : BackRel R) (s : BSt) : R s (cleanupContexts s) := hR.quiet.cleanupContexts s
theorem BackRel.flushSinks (hR : BackRel R) (s : BSt) : R s (flushSinks s) := hR.hk (slol_flushSinks s).ctxSame
theorem BackRel.report (hR : BackRel R) (hinj : ∀ s k, R s (inj s k)) (s : BSt) (i : Nat) : R s (inj (PC.reportSt s i) 8) :=
  hR.quiet.report hinj s i
theorem BackRel.checkFailures (hR : BackRel R) (hinj : ∀ s k, R s (inj s k)) (s : BSt) : R s (checkFailures inj s) :=
  hR.quiet.checkFailures hinj s

theorem BackRel.cleanupLoggers (hR : BackRel R) (hinj : ∀ s k, R s (inj s k)) (s : BSt) : R s (cleanupLoggers inj s) :=
  cleanupLoggers_pres (R s) inj (hR.step (hinj · 9)) (fun _ _ hx => hR.trans hx (hR.hk (.of_eq rfl)))
    (hR.step hR.allEmpty) (fun x _ hx _ _ => hR.trans hx (hR.trans (hR.allEmpty x) (hR.hk (.of_eq rfl))))
    (fun _ _ hx _ _ => hR.trans hx (hR.hk (.of_eq rfl))) (fun x f _ hx _ => hR.trans hx (hR.hk (CtxSame.raise x f _ _)))
    s (hR.refl s)

theorem BackRel.popSt (hR : BackRel R) (s : BSt) (i : Nat) (st : Stmt) (rest : List Stmt) (hb : (s.th i).buf = st :: rest) :
    R s (PC.popSt s i st rest) := by
  have hX := slol_procSt s st
  rw [popSt_proc]
  exact hR.trans (hR.hk hX.ctxSame) (hR.pop _ i st rest (by rw [hX.th, hb]))

theorem BackRel.processLowest (hR : BackRel R) (hinj : ∀ s k, R s (inj s k)) (s : BSt) :
    R s (processLowest inj s).1 :=
  processLowest_rule (R s) (R s) (fun _ => R s) (fun _ h => h)
    (fun x i st rest hx _ hb _ => hR.trans hx (hR.popSt x i st rest hb))
    (fun x i st rest _ hx _ hb _ => hR.trans hx (hR.popSt x i st rest hb))
    (fun _ x i hx _ => hR.trans hx (hR.report hinj x i))
    (fun _ => hR.step hR.cleanupContexts) (fun f x hx => hR.trans hx (hR.hk (CtxSame.raise x f _ _))) s (hR.refl s)

theorem BackRel.preEraseFlush (hR : BackRel R) (s : BSt) : R s (preEraseFlush s) :=
  preEraseFlush_pres (R s) (hR.step hR.flushSinks) s (hR.refl s)

theorem BackRel.flushGate (hR : BackRel R) (hinj : ∀ s k, R s (inj s k)) (s : BSt) (n : Nat) : R s (flushGate inj s n) :=
  flushGate_pres (R s) inj (hR.step hR.flushSinks) (hR.step (hinj · 7)) (hR.step (fun _ => hR.hk (.of_eq rfl))) s n
    (hR.refl s)

theorem BackRel.tailRules (hR : BackRel R) (hinj : ∀ s k, R s (inj s k)) (s0 : BSt) :
    TailRules inj (R s0) (R s0) (R s0) where
  idle _ h := h
  lowest := hR.step (hR.processLowest hinj)
  pending s h := ⟨hR.step hR.hasPending s h, fun _ => hR.step hR.hasPending s h⟩
  site s k := hR.step (hinj · k) s
  gate s := hR.step (fun x => hR.flushGate hinj x s.cfg.flushInterval) s
  gcheck := hR.step (hR.checkFailures hinj)
  gallEmpty := hR.step hR.allEmpty
  gclean := hR.step hR.cleanupContexts
  gidle _ h := h
  erase := hR.step (fun x => hR.trans (hR.preEraseFlush x) (hR.cleanupLoggers hinj _))

theorem BackRel.batchLoop (hR : BackRel R) (hinj : ∀ s k, R s (inj s k)) (fuel : Nat) (s : BSt) :
    R s (batchLoop inj fuel s) := (hR.tailRules hinj s).batchLoop fuel s (hR.refl s)

theorem BackRel.pollTail (hR : BackRel R) (hinj : ∀ s k, R s (inj s k)) (s : BSt) :
    R (populate inj s).1 (poll inj s) := (hR.tailRules hinj _).pollTail _ (hR.refl _)

theorem BackRel.passRules (hR : BackRel R) (hread : ReadRel R) (hinj : ∀ s k, R s (inj s k))
    (hclock : ∀ s t, R s { s with now := s.now + t }) (s0 : BSt) : PassRules inj (R s0) (R s0) (R s0) where
  toTailRules := hR.tailRules hinj s0
  populate := hR.step (hread.populate hinj)
  allEmpty := hR.step hR.allEmpty
  check := hR.step (hR.checkFailures hinj)
  clock s t := hR.step (fun x => hclock x t) s
  finalFlush := hR.step hR.flushSinks

/-- a property `P` that the relation carries along (`R s s' → P s → P s'`) walks beside any rules of the pass, given that it
    survives the read pass where the predicate of those rules holds -/
theorem BackRel.passRulesOn (hR : BackRel R) (hinj : ∀ s k, R s (inj s k)) {P : BSt → Prop}
    (hP : ∀ {s s'}, R s s' → P s → P s') {O F G : BSt → Prop} (a : PassRules inj O F G)
    (hpop : ∀ s, O s → P s → P (populate inj s).1) (hclock : ∀ s t, R s { s with now := s.now + t }) :
    PassRules inj (fun s => O s ∧ P s) (fun s => F s ∧ P s) (fun s => G s ∧ P s) where
  idle s h := ⟨a.idle s h.1, h.2⟩
  lowest s h := ⟨a.lowest s h.1, hP (hR.processLowest hinj s) h.2⟩
  pending s h := ⟨⟨(a.pending s h.1).1, hP (hR.hasPending s) h.2⟩,
    fun hn => ⟨(a.pending s h.1).2 hn, hP (hR.hasPending s) h.2⟩⟩
  site s k h := ⟨a.site s k h.1, hP (hinj s k) h.2⟩
  gate s h := ⟨a.gate s h.1, hP (hR.flushGate hinj s _) h.2⟩
  gcheck s h := ⟨a.gcheck s h.1, hP (hR.checkFailures hinj s) h.2⟩
  gallEmpty s h := ⟨a.gallEmpty s h.1, hP (hR.allEmpty s) h.2⟩
  gclean s h := ⟨a.gclean s h.1, hP (hR.cleanupContexts s) h.2⟩
  gidle s h := ⟨a.gidle s h.1, h.2⟩
  erase s h := ⟨a.erase s h.1, hP (hR.trans (hR.preEraseFlush s) (hR.cleanupLoggers hinj _)) h.2⟩
  populate s h := ⟨a.populate s h.1, hpop s h.1 h.2⟩
  allEmpty s h := ⟨a.allEmpty s h.1, hP (hR.allEmpty s) h.2⟩
  check s h := ⟨a.check s h.1, hP (hR.checkFailures hinj s) h.2⟩
  clock s t h := ⟨a.clock s t h.1, hP (hclock s t) h.2⟩
  finalFlush s h := ⟨a.finalFlush s h.1, hP (hR.flushSinks s) h.2⟩

theorem BackRel.poll (hR : BackRel R) (hread : ReadRel R) (hinj : ∀ s k, R s (inj s k)) (s : BSt) : R s (poll inj s) :=
  hR.trans (hread.populate hinj s) (hR.pollTail hinj s)

end Backend
