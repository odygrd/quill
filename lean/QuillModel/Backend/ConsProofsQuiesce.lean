import QuillModel.Backend.ConsProofsReclaim
/-!
C08 quiescence: the cache covers the registry unless a thread registered since the last refresh (`CovK`, an invariant
of every schedule); the read pass refreshes the cache, so with a runner that takes no frontend step it ends with the
cache covering the registry; hence the idle pass leaves every registered context with a zero failure counter.
-/
namespace Backend.PA

/-- what a frontend operation does to the registration state: nothing, or it registered a context (flag raised) -/
def RegRel (s s' : BSt) : Prop :=
  (s'.registry = s.registry ∧ s'.cache = s.cache ∧ s'.newFlag = s.newFlag) ∨ s'.newFlag = true

theorem RegRel.same {s s' : BSt} (h1 : s'.registry = s.registry) (h2 : s'.cache = s.cache) (h3 : s'.newFlag = s.newFlag) :
    RegRel s s' := Or.inl ⟨h1, h2, h3⟩

theorem RegRel.refl (s : BSt) : RegRel s s := RegRel.same rfl rfl rfl

theorem RegRel.trans {a b c : BSt} (h1 : RegRel a b) (h2 : RegRel b c) : RegRel a c := by
  rcases h2 with ⟨r, k, n⟩ | n
  · rcases h1 with ⟨r1, k1, n1⟩ | n1
    · exact Or.inl ⟨r.trans r1, k.trans k1, n.trans n1⟩
    · exact Or.inr (n.trans n1)
  · exact Or.inr n

theorem ensureCtx_reg (s : BSt) (a : Nat) : RegRel s (ensureCtx s a).1 := by
  unfold ensureCtx
  split
  · exact RegRel.refl s
  · exact Or.inr rfl

theorem tryEnq_reg (s : BSt) (ci : Nat) (st : Stmt) : RegRel s (tryEnq s ci st).1 := by
  unfold tryEnq
  dsimp only
  split <;> exact RegRel.same rfl rfl rfl

theorem RegRel.frontRel : FrontRel RegRel where
  refl := RegRel.refl
  trans := RegRel.trans
  tick := fun _ _ => RegRel.same rfl rfl rfl
  misc := fun _ _ _ _ _ _ _ _ _ _ _ _ => RegRel.same rfl rfl rfl
  setThMisc := fun _ _ _ _ _ => RegRel.same rfl rfl rfl
  ensureCtx := ensureCtx_reg
  tryEnq := tryEnq_reg

/-- the cache covers the registry unless a registration happened since the last refresh -/
def CovK (s : BSt) : Prop := s.newFlag = false → ∀ i ∈ s.registry, i ∈ s.cache

theorem CovK.of_same {s s' : BSt} (h : CovK s) (h1 : s'.registry = s.registry) (h2 : s'.cache = s.cache)
    (h3 : s'.newFlag = s.newFlag) : CovK s' := by
  intro hn i hi
  rw [h2]; exact h (h3 ▸ hn) i (h1 ▸ hi)

theorem CovK.closed : Closed CovK :=
  closed_iff.mpr fun s s' hp h => by
    cases hp with
    | frame f => exact h.of_same f.registry f.cache f.newFlag
    | refresh =>
      unfold refreshCache
      split
      · intro _ i hi; exact hi
      · exact h
    | ctxEmpty | prepRead | commitRead | failReset => exact h.of_same rfl rfl rfl
    | dropCtx i =>
      intro hn j hj
      obtain ⟨h1, h2⟩ := List.mem_filter.mp (show j ∈ (ctxEmpty s i).1.registry.filter (· ≠ i) from hj)
      exact List.mem_filter.mpr ⟨h hn j h1, h2⟩
    | readOne i st rest =>
      obtain ⟨s0, fr, e⟩ := readOne_eq s i st rest
      rw [e]
      exact h.of_same fr.registry fr.cache fr.newFlag
    | pop i st rest =>
      obtain ⟨s2, c, e⟩ := popStep_eq s i st rest
      rw [e]
      exact h.of_same c.registry c.cache c.newFlag
    | front f =>
      rcases RegRel.frontRel.applyFront s f with ⟨h1, h2, h3⟩ | hn
      · exact h.of_same h1 h2 h3
      · intro hf; rw [hn] at hf; cases hf

theorem noNew_closedQ : ClosedQ (fun s : BSt => s.newFlag = false) where
  prepRead := fun _ _ h => h
  commitRead := fun _ _ h => h
  readOne := fun s i st rest h _ _ => by
    obtain ⟨s0, fr, e⟩ := readOne_eq s i st rest
    rw [e]
    exact fr.newFlag.trans h

theorem populate_noNew {inj : BSt → Nat → BSt} (hq : QuietInj inj) (s : BSt) : (populate inj s).1.newFlag = false := by
  have hinj : ∀ s site, s.newFlag = false → (inj s site).newFlag = false := fun s site h => (hq s site).newFlag.trans h
  have hrf : ∀ s : BSt, (refreshCache s).newFlag = false := by
    intro s; unfold refreshCache; split
    · rfl
    · next h => simpa using h
  have hrc : ∀ s : BSt, (refreshCache s).cfg = s.cfg := by
    intro s; unfold refreshCache; split <;> rfl
  refine (populate_ruleN (fun x => (s.cfg.refreshAfterSample = true ∨ x.newFlag = false) ∧ x.cfg = s.cfg)
    (fun _ _ _ x => x.newFlag = false) (fun x h => ⟨h.1.imp id (hinj x 7), (hq x 7).cfg.trans h.2⟩) (fun x h => ?_)
    (fun _ _ _ x h => hinj x 2 h)
    (fun t i _ _ fuel x h => readQueue_closed (fun _ _ h f => f.newFlag.trans h) noNew_closedQ inj hinj t i _ 0 x h)
    s ?_).elim fun _ h => h
  · -- the refresh before the loop is taken exactly when the first one was not
    unfold enterSt
    split
    · exact hrf _
    · next hr =>
      rcases h.1 with h' | h'
      · rw [h.2] at hr; exact absurd h' hr
      · exact hinj x 1 h'
  · unfold PC.popS0
    by_cases hr : s.cfg.refreshAfterSample = true
    · rw [if_pos hr]; exact ⟨.inl hr, rfl⟩
    · rw [if_neg hr]; exact ⟨.inr (hrf s), hrc s⟩

/-- the idle pass drains the failure counters: from any state in which the cache invariant holds (every reachable
    state), a poll whose read pass finds nothing, run with a runner that takes no frontend step, ends with `fail = 0`
    for every context still registered -/
theorem poll_idle_clears {inj : BSt → Nat → BSt} (hq : QuietInj inj) (s : BSt) (hk : CovK s)
    (hidle : (populate inj s).2 = 0) (i : Nat) (hi : i ∈ (poll inj s).registry) : ((poll inj s).th i).fail = 0 := by
  have hk1 : CovK (populate inj s).1 :=
    (CovK.closed.toB.passRules inj (fun s site h => CovK.closed.frame s _ h (hq s site))).populate s hk
  rw [poll_idle inj s hidle] at hi ⊢
  exact idlePass_clears hq _ (hk1 (populate_noNew hq s)) i hi

end Backend.PA
