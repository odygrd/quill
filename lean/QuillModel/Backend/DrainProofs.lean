import QuillModel.Backend.ThreadProofs
import QuillModel.Backend.FlushRel
/-!
The drain at exit: `allEmpty_drained` (a yes of the emptiness check means nothing is waiting in any context, registered
or not), `exitEnds` (the exit loop of `Pass.lean` reaches its final branch within the fuel), the events the clean-up
functions log, and what the loop ends in from any state with the invariant (`exit_result`). For C07 (drain part).
-/
namespace Backend.PC

/-- what is still waiting in each context: transit buffer and queue -/
def bq (s : BSt) : List (List Stmt × List Stmt) := s.ths.map (fun t => (t.buf, t.qStmts))

def AllDrained (s : BSt) : Prop := ∀ i, i < s.ths.length → (s.th i).buf = [] ∧ (s.th i).qStmts = []

theorem sub_passRules (s : BSt) : PassRules (runInj []) (PB.Sub s) (PB.Sub s) (PB.Sub s) :=
  PB.sub_back.passRules PB.sub_read PB.quiet_runInj_nil.sub PB.sub_clock s

theorem AllDrained.sub {s s' : BSt} (hs : AllDrained s) (h : PB.Sub s s') : AllDrained s' := by
  intro i hi
  obtain ⟨hb, hq⟩ := hs i (by rw [← h.glob.len]; exact hi)
  have hc := (h.th i).chain
  unfold PB.chain at hc
  rw [hb, hq] at hc
  exact List.append_eq_nil_iff.mp (List.suffix_nil.mp hc)

theorem bq_setTh (s : BSt) (i : Nat) (f : Th → Th) (h1 : ∀ t, (f t).buf = t.buf) (h2 : ∀ t, (f t).qStmts = t.qStmts) :
    bq (s.setTh i f) = bq s := by
  simp only [bq, BSt.setTh]
  exact map_updAt s.ths i f _ (fun t => by simp only [h1 t, h2 t])

theorem bq_ctxEmpty (s : BSt) (i : Nat) : bq (ctxEmpty s i).1 = bq s := by
  unfold ctxEmpty; exact bq_setTh _ _ _ (fun _ => rfl) (fun _ => rfl)

theorem bq_removeSt (s : BSt) (i : Nat) : bq (removeSt s i) = bq s := by
  unfold removeSt; exact (bq_setTh _ i (fun t => { t with removed := true }) (fun _ => rfl) (fun _ => rfl)).trans rfl

theorem bq_cleanupContexts (s : BSt) : bq (cleanupContexts s) = bq s :=
  cleanupContexts_pres (fun x => bq x = bq s) (fun x i h => (bq_ctxEmpty x i).trans h) (fun x i h => (bq_removeSt x i).trans h) s rfl

theorem bq_reportSt (s : BSt) (i : Nat) : bq (reportSt s i) = bq s := by
  have : bq (reportSt s i) = bq (s.setTh i (fun t => { t with fail := 0 })) := rfl
  rw [this]; exact bq_setTh _ _ _ (fun _ => rfl) (fun _ => rfl)

theorem allEmpty_drained (s : BSt) (hs : TCInv s) (he : (allEmpty s).2 = true) : AllDrained (allEmpty s).1 := by
  obtain ⟨hc, ht⟩ : TCInv (allEmpty s).1 := TCInv_closed.allEmpty s hs
  have hcr : (allEmpty s).1.cache = (allEmpty s).1.registry := hc.fresh (allEmpty_newFlag s)
  intro i hi
  by_cases hr : i ∈ (allEmpty s).1.registry
  · exact emptyTh_nil ht i (allEmpty_true s he i (by rw [hcr]; exact hr))
  · exact ht.unreg i hi hr

/-- the loop reaches its "everything is empty" branch within `fuel` iterations -/
def exitEnds (inj : BSt → Nat → BSt) (tick : Nat) : Nat → BSt → Prop
  | 0, _ => False
  | fuel + 1, s => (allEmpty s).2 = true ∨ ((allEmpty s).2 = false ∧ exitEnds inj tick fuel (exitBody inj tick s))

instance (inj : BSt → Nat → BSt) (tick : Nat) : ∀ (fuel : Nat) (s : BSt), Decidable (exitEnds inj tick fuel s)
  | 0, _ => isFalse (fun h => h)
  | fuel + 1, s =>
    if h : (allEmpty s).2 = true then isTrue (Or.inl h)
    else
      match instDecidableExitEnds inj tick fuel (exitBody inj tick s) with
      | isTrue h2 => isTrue (Or.inr ⟨by simpa using h, h2⟩)
      | isFalse h2 => isFalse (fun hh => by
          rcases hh with hh | hh
          · exact h hh
          · exact h2 hh.2)

theorem TCInv_exitBody {inj : BSt → Nat → BSt} (hi : InjOK TCInv inj) (tick : Nat) (s : BSt) (hs : TCInv s) :
    TCInv (exitBody inj tick s) :=
  (TCInv_closed.toClosedB.toC.passRules hi).exitBody tick s hs

theorem exitFinal_drained (s : BSt) (hs : TCInv s) (he : (allEmpty s).2 = true) :
    AllDrained (exitFinal (runInj []) s) := by
  have hp := sub_passRules (allEmpty s).1
  exact (allEmpty_drained s hs he).sub (hp.eraseTail _ (hp.finalFlush _ (hp.check _ (PB.Sub.refl _))))

theorem exitLoop_ends_form {inj : BSt → Nat → BSt} (hi : InjOK TCInv inj) (tick : Nat) :
    ∀ (fuel : Nat) (s : BSt), TCInv s → exitEnds inj tick fuel s →
      ∃ sK, TCInv sK ∧ (allEmpty sK).2 = true ∧ exitLoop inj tick fuel s = exitFinal inj sK
  | 0, _, _, he => by cases he
  | fuel + 1, s, hs, he => by
    rw [exitLoop_succ]
    rcases he with he | ⟨he, hrest⟩
    · exact ⟨s, hs, he, by simp only [he, if_true]⟩
    · simp only [he, Bool.false_eq_true, if_false]
      exact exitLoop_ends_form hi tick fuel _ (TCInv_exitBody hi tick s hs) hrest

theorem cleanupContexts_log (s : BSt) : (cleanupContexts s).log = s.log :=
  cleanupContexts_pres (fun x => x.log = s.log) (fun _ _ h => h) (fun _ _ h => h) s rfl

def OnlyDtors (s s' : BSt) : Prop := ∃ d, s'.log = d ++ s.log ∧ ∀ e ∈ d, ∃ k, e = Ev.sinkDtor k

theorem OnlyDtors.refl (s : BSt) : OnlyDtors s s := LogExt.refl s

theorem OnlyDtors.trans {a b c : BSt} (h1 : OnlyDtors a b) (h2 : OnlyDtors b c) : OnlyDtors a c := LogExt.trans h1 h2

theorem OnlyDtors.of_log {a b : BSt} (h : b.log = a.log) : OnlyDtors a b := LogExt.of_eq h

theorem reapSinks_dtors (sids : List Nat) : ∀ (s : BSt), OnlyDtors s (reapSinks s sids) :=
  fun s => (reapSinks_log sids s).mono fun _ ⟨k, _, h⟩ => ⟨k, h⟩

theorem allEmpty_log (s : BSt) : (allEmpty s).1.log = s.log := allEmpty_eq (·.log) (fun _ => rfl) (fun _ _ => rfl) s

theorem cleanupLoggers_dtors (inj : BSt → Nat → BSt) (hq : Quiet9 inj) (s : BSt) :
    OnlyDtors s (cleanupLoggers inj s) := by
  apply cleanupLoggers_pres (OnlyDtors s) inj _ _ _ _ _ _ s (OnlyDtors.refl s)
  · intro x hx
    obtain ⟨sc, h⟩ := hq x
    rw [h]; exact hx.trans (OnlyDtors.of_log rfl)
  · intro x b hx; exact hx.trans (OnlyDtors.of_log rfl)
  · intro x hx; exact hx.trans (OnlyDtors.of_log (allEmpty_log x))
  · intro x i hx _ _
    exact hx.trans (OnlyDtors.of_log (b := (allEmpty x).1.setLg i (fun l => { l with erased := true })) (allEmpty_log x))
  · intro x sid hx _ _
    exact hx.trans ⟨[.sinkDtor sid], rfl, fun e he => ⟨sid, by simpa using he⟩⟩
  · intro x f g hx _; exact hx.trans (OnlyDtors.of_log rfl)

end Backend.PC

namespace Backend
open PC

theorem gone_drained {L : BSt} (hT : TCInv L) (hd : AllDrained L) (s' : BSt) (hs' : s' = { L with backendGone := true }) :
    (∀ i, i < s'.ths.length → (s'.th i).buf = [] ∧ (s'.th i).qStmts = [] ∧ (s'.th i).accepted = (s'.th i).popped) ∧
    s'.backendGone = true := by
  subst hs'
  refine ⟨fun i hi => ?_, rfl⟩
  obtain ⟨hb, hq⟩ : ((L.th i).buf = [] ∧ (L.th i).qStmts = []) := hd i hi
  refine ⟨hb, hq, ?_⟩
  show (L.th i).accepted = (L.th i).popped
  rw [(hT.2.ths i hi).cons, hb, hq, List.append_nil, List.append_nil]

/-- stated for a variable: asked to see this on a concrete final state, the unifier first unfolds that state -/
theorem log_gone (L : BSt) : ({ L with backendGone := true } : BSt).log = L.log := rfl

theorem preEraseFlush_log (s : BSt) : ∃ blk, (preEraseFlush s).log = blk ++ s.log ∧
    ∀ e ∈ blk, (∃ sid, e = Ev.flushed sid ∨ e = Ev.fthrow sid) ∨ e = Ev.notify "n:ffail" := by
  unfold preEraseFlush
  split
  · obtain ⟨blk, e1, _, e3⟩ := PB.flushSinks_log s
    exact ⟨blk, e1, e3⟩
  · exact ⟨[], (List.nil_append _).symm, fun _ h => by cases h⟩

/-- what `exitFinal` adds to the log after its flush of every active sink: sink-destructor events (`cleanupLoggers`) and,
    when loggers are erased, the events of one more flush (`preEraseFlush`); `cleanupContexts` logs nothing -/
theorem exitFinal_log_after_flush (sK : BSt) :
    ∃ d, (exitFinal (runInj []) sK).log = d ++ (flushSinks (checkFailures (runInj []) (allEmpty sK).1)).log ∧
      ∀ e ∈ d, (∃ k, e = Ev.sinkDtor k) ∨ (∃ k, e = Ev.flushed k ∨ e = Ev.fthrow k) ∨ e = Ev.notify "n:ffail" := by
  obtain ⟨d, hd, hall⟩ := cleanupLoggers_dtors (runInj []) runInj_nil_quiet9
    (preEraseFlush (cleanupContexts (flushSinks (checkFailures (runInj []) (allEmpty sK).1))))
  obtain ⟨blk, hb, hblk⟩ := preEraseFlush_log (cleanupContexts (flushSinks (checkFailures (runInj []) (allEmpty sK).1)))
  refine ⟨d ++ blk, ?_, fun e he => ?_⟩
  · unfold exitFinal
    rw [hd, hb, cleanupContexts_log, List.append_assoc]
  · rcases List.mem_append.mp he with h | h
    · exact Or.inl (hall e h)
    · exact Or.inr (hblk e h)

/-- For any state `s` satisfying the invariant (not only a reachable one), any clock tick, any fuel with which the loop
    reaches its final branch. `Op.exit` is the instance tick 1000, fuel 100000; the unbounded loop (`exitOp`,
    `Props/C07Unbounded.lean`) the instance fuel `exitBound tick s`. -/
theorem exit_result {s : BSt} (hs : TCInv s) (tick fuel : Nat)
    (he : exitEnds (runInj []) tick fuel { s with siteCnt := [] }) (s' : BSt)
    (hs' : s' = { exitLoop (runInj []) tick fuel { s with siteCnt := [] } with backendGone := true }) :
    ((∀ i, i < s'.ths.length → (s'.th i).buf = [] ∧ (s'.th i).qStmts = [] ∧ (s'.th i).accepted = (s'.th i).popped) ∧
      s'.backendGone = true) ∧
    ∃ sK, (allEmpty sK).2 = true ∧ s' = { exitFinal (runInj []) sK with backendGone := true } ∧
      ∃ d, s'.log = d ++ (flushSinks (checkFailures (runInj []) (allEmpty sK).1)).log ∧
        ∀ e ∈ d, (∃ k, e = Ev.sinkDtor k) ∨ (∃ k, e = Ev.flushed k ∨ e = Ev.fthrow k) ∨ e = Ev.notify "n:ffail" := by
  have hsp : TCInv { s with siteCnt := [] } := TCInv_closed.siteCnt s [] hs
  have hinj := runInj_ok TCInv_closed []
  obtain ⟨sK, hK, heK, hform⟩ := exitLoop_ends_form hinj tick fuel _ hsp he
  refine ⟨gone_drained ((TCInv_closed.toClosedB.passRules hinj).exitLoop _ _ _ hsp) ?_ s' hs', sK, heK, ?_, ?_⟩
  · rw [hform]
    exact exitFinal_drained sK hK heK
  · rw [hs', hform]
  · rw [hs', hform, log_gone]
    exact exitFinal_log_after_flush sK

end Backend

namespace Backend

theorem DrainFresh.start {s : BSt} (h : DrainFresh s) (hpl : s.popLog = []) : Start s :=
  ⟨h.2.2.2.2.2.2, h.1, h.2.2.2.2.2.1, h.2.1, h.2.2.1, hpl⟩

end Backend
