import QuillModel.Backend.ConsProofsPop
/-!
Accounting of refused log calls (C08): per context `fail` (the failure counter), `discarded` / `blockedCalls`
(ghost: refused calls on a dropping / blocking queue), globally `reported` (ghost: what the notifier was told).
`InvD`: Σ (discarded + blockedCalls) = reported + Σ fail over all contexts ever created, in every reachable state;
on a dropping queue no call ever blocks, on a blocking queue none is discarded.
-/
namespace Backend.PA

def ctrs (s : BSt) : List (Nat × Nat × Nat) := s.ths.map (fun t => (t.fail, t.discarded, t.blockedCalls))

structure InvD (s : BSt) : Prop where
  sum : ((ctrs s).map (fun c => c.2.1 + c.2.2)).sum = s.reported + ((ctrs s).map (·.1)).sum
  excl : ∀ c ∈ ctrs s, if s.cfg.dropping = true then c.2.2 = 0 else c.2.1 = 0

theorem InvD.dropped {s : BSt} (h : InvD s) (hd : s.cfg.dropping = true) :
    (∀ c ∈ ctrs s, c.2.2 = 0) ∧ ((ctrs s).map (fun c => c.2.1)).sum = s.reported + ((ctrs s).map (·.1)).sum := by
  have hz : ∀ c ∈ ctrs s, c.2.2 = 0 := fun c hc => by
    have := h.excl c hc
    rw [if_pos hd] at this
    exact this
  refine ⟨hz, ?_⟩
  rw [← h.sum]
  congr 1
  apply List.map_congr_left
  intro c hc
  rw [hz c hc]; rfl

theorem InvD.of_eq {s s' : BSt} (h : InvD s) (h1 : s'.cfg = s.cfg) (h2 : s'.reported = s.reported)
    (h3 : ctrs s' = ctrs s) : InvD s' :=
  ⟨by rw [h3, h2]; exact h.sum, by rw [h3, h1]; exact h.excl⟩

theorem ctrs_setTh_same (s : BSt) (i : Nat) (f : Th → Th)
    (hf : ∀ t, (f t).fail = t.fail ∧ (f t).discarded = t.discarded ∧ (f t).blockedCalls = t.blockedCalls) :
    ctrs (s.setTh i f) = ctrs s :=
  map_updAt s.ths i f _ (fun t => by rw [(hf t).1, (hf t).2.1, (hf t).2.2])

theorem ctrs_setTh (s : BSt) (i : Nat) (f : Th → Th) (f' : Nat × Nat × Nat → Nat × Nat × Nat)
    (hf : ∀ t, ((f t).fail, (f t).discarded, (f t).blockedCalls) = f' (t.fail, t.discarded, t.blockedCalls)) :
    ctrs (s.setTh i f) = updAt (ctrs s) i f' := by
  simp only [ctrs, BSt.setTh]
  exact map_updAt_comm s.ths i f _ f' hf

theorem InvD.setTh_same {s : BSt} (h : InvD s) (i : Nat) (f : Th → Th)
    (hf : ∀ t, (f t).fail = t.fail ∧ (f t).discarded = t.discarded ∧ (f t).blockedCalls = t.blockedCalls) :
    InvD (s.setTh i f) := h.of_eq rfl rfl (ctrs_setTh_same s i f hf)

theorem InvD.updCtr {s s' : BSt} (h : InvD s) (i : Nat) (hl : i < (ctrs s).length) (g : Nat × Nat × Nat → Nat × Nat × Nat)
    (h1 : s'.cfg = s.cfg) (h3 : ctrs s' = updAt (ctrs s) i g)
    (hbal : (g (ctrs s)[i]).2.1 + (g (ctrs s)[i]).2.2 + s.reported + (ctrs s)[i].1 =
      (ctrs s)[i].2.1 + (ctrs s)[i].2.2 + s'.reported + (g (ctrs s)[i]).1)
    (hex : ∀ c, (if s.cfg.dropping = true then c.2.2 = 0 else c.2.1 = 0) →
      if s.cfg.dropping = true then (g c).2.2 = 0 else (g c).2.1 = 0) : InvD s' := by
  refine ⟨?_, ?_⟩
  · rw [h3]
    have e1 := sum_map_updAt (ctrs s) i g (fun c : Nat × Nat × Nat => c.2.1 + c.2.2) hl
    have e2 := sum_map_updAt (ctrs s) i g (fun c : Nat × Nat × Nat => c.1) hl
    have := h.sum
    omega
  · rw [h3, h1]
    intro c hcm
    rcases mem_updAt hcm with hm | ⟨x, hx, rfl⟩
    · exact h.excl c hm
    · exact hex x (h.excl x hx)

theorem InvD.bump {s : BSt} (h : InvD s) (ci : Nat) (hci : ci < s.ths.length) (f : Th → Th) (d1 d2 : Nat)
    (hf : ∀ t, (f t).fail = t.fail + 1 ∧ (f t).discarded = t.discarded + d1 ∧ (f t).blockedCalls = t.blockedCalls + d2)
    (hd : d1 + d2 = 1) (hx : if s.cfg.dropping = true then d2 = 0 else d1 = 0) : InvD (s.setTh ci f) := by
  have hl : ci < (ctrs s).length := by unfold ctrs; rw [List.length_map]; exact hci
  refine h.updCtr ci hl (fun c => (c.1 + 1, c.2.1 + d1, c.2.2 + d2)) rfl
    (ctrs_setTh s ci f _ (fun t => by rw [(hf t).1, (hf t).2.1, (hf t).2.2])) ?_ (fun c hc => ?_)
  · show (ctrs s)[ci].2.1 + d1 + ((ctrs s)[ci].2.2 + d2) + s.reported + (ctrs s)[ci].1 =
      (ctrs s)[ci].2.1 + (ctrs s)[ci].2.2 + s.reported + ((ctrs s)[ci].1 + 1)
    omega
  · show if s.cfg.dropping = true then c.2.2 + d2 = 0 else c.2.1 + d1 = 0
    split
    · next hdr => rw [if_pos hdr] at hx hc; rw [hx, hc]
    · next hdr => rw [if_neg hdr] at hx hc; rw [hx, hc]

/-- the counter is reported and reset: `reported` takes over what `fail` held -/
theorem InvD.failReset {s : BSt} (h : InvD s) (i : Nat) (hf : 0 < (s.th i).fail) : InvD (failReset s i) := by
  have hi : i < s.ths.length := lt_length_of_th (P := fun t => 0 < t.fail) hf (Nat.lt_irrefl 0)
  have hl : i < (ctrs s).length := by unfold ctrs; rw [List.length_map]; exact hi
  have hget : (ctrs s)[i] = ((s.th i).fail, (s.th i).discarded, (s.th i).blockedCalls) := by
    simp [ctrs, th_eq_getElem s i hi]
  refine h.updCtr i hl (fun c => (0, c.2.1, c.2.2)) rfl
    (ctrs_setTh s i (fun t => { t with fail := 0 }) _ (fun _ => rfl)) ?_ (fun _ hc => hc)
  show (ctrs s)[i].2.1 + (ctrs s)[i].2.2 + s.reported + (ctrs s)[i].1 =
    (ctrs s)[i].2.1 + (ctrs s)[i].2.2 + (s.reported + (s.th i).fail) + 0
  rw [hget]
  omega

theorem ctrs_of_ths {s s' : BSt} (h : s'.ths = s.ths) : ctrs s' = ctrs s := by simp only [ctrs, h]

theorem InvD.of_core {s s' : BSt} (h : InvD s) (c : Core s s') : InvD s' := h.of_eq c.cfg c.reported (ctrs_of_ths c.ths)

theorem InvD.newCtx {s s' : BSt} (h : InvD s) (h1 : s'.cfg = s.cfg) (h2 : s'.reported = s.reported)
    (h3 : ctrs s' = ctrs s ++ [(0, 0, 0)]) : InvD s' := by
  refine ⟨?_, ?_⟩
  · rw [h3, h2, List.map_append, List.map_append, List.sum_append, List.sum_append]
    exact h.sum
  · rw [h3, h1]
    intro c hc
    rcases List.mem_append.mp hc with hm | hm
    · exact h.excl c hm
    · rw [List.mem_singleton.mp hm]
      split <;> rfl

theorem InvD.ensureCtx {s : BSt} (h : InvD s) (a : Nat) :
    InvD (ensureCtx s a).1 ∧ (ensureCtx s a).1.cfg = s.cfg := by
  unfold Backend.ensureCtx
  split
  · exact ⟨h, rfl⟩
  · exact ⟨h.newCtx rfl rfl (List.map_append ..), rfl⟩

theorem tryEnq_ctrs (s : BSt) (ci : Nat) (st : Stmt) :
    ctrs (tryEnq s ci st).1 = ctrs s ∧ (tryEnq s ci st).1.cfg = s.cfg ∧ (tryEnq s ci st).1.reported = s.reported := by
  unfold Backend.tryEnq
  dsimp only
  split
  · exact ⟨ctrs_setTh_same s ci _ (fun _ => ⟨rfl, rfl, rfl⟩), rfl, rfl⟩
  · exact ⟨ctrs_setTh_same s ci _ (fun _ => ⟨rfl, rfl, rfl⟩), rfl, rfl⟩

theorem afterEnq_ctrs (s : BSt) (a : Nat) (st : Stmt) (cont : Nat) :
    ctrs (afterEnq s a st cont).1 = ctrs s ∧ (afterEnq s a st cont).1.cfg = s.cfg ∧
    (afterEnq s a st cont).1.reported = s.reported := by
  unfold Backend.afterEnq
  split <;> exact ⟨rfl, rfl, rfl⟩

theorem InvD.afterEnq {s : BSt} (h : InvD s) (a : Nat) (st : Stmt) (cont : Nat) : InvD (afterEnq s a st cont).1 := by
  obtain ⟨a1, a2, a3⟩ := afterEnq_ctrs s a st cont
  exact h.of_eq a2 a3 a1

/-- a refused ordinary log call is counted on the side of the queue's type -/
theorem InvD.bumpFail {s : BSt} (h : InvD s) {d : Bool} (hd : s.cfg.dropping = d) (ci : Nat) (st : Stmt) :
    InvD (bumpFail d s ci st) := by
  unfold Backend.bumpFail
  split
  · by_cases hci : ci < s.ths.length
    · refine h.bump ci hci _ (if d then 1 else 0) (if d then 0 else 1) (fun _ => ⟨rfl, rfl, rfl⟩) ?_ ?_
      · cases d <;> rfl
      · rw [hd]
        cases d <;> simp
    · rw [setTh_of_ge s ci _ (by omega)]; exact h
  · exact h

theorem InvD.enqFlow {s : BSt} (h : InvD s) (a : Nat) (st : Stmt) (cont : Nat) (first initial : Bool) :
    InvD (enqFlow s a st cont first initial).1 :=
  -- the configuration stays the one that says on which side a refusal is counted
  have htry : ∀ {x ci}, InvD x ∧ x.cfg = s.cfg → InvD (tryEnq x ci st).1 ∧ (tryEnq x ci st).1.cfg = s.cfg := fun hx =>
    have ⟨t1, t2, t3⟩ := tryEnq_ctrs _ _ st
    ⟨hx.1.of_eq t2 t3 t1, t2.trans hx.2⟩
  enqFlow_rule (fun _ x => InvD x ∧ x.cfg = s.cfg) (fun _ x => InvD x ∧ x.cfg = s.cfg) InvD (h.ensureCtx a)
    (fun _ _ hx _ => InvD.afterEnq (s := setPend _ a .none) ((htry hx).1.of_eq rfl rfl rfl) a st cont)
    (fun _ _ hx _ => htry hx)
    (fun _ x hx _ => ⟨hx.1.bumpFail (congrArg Cfg.dropping hx.2) _ st, by
      show (Backend.bumpFail _ x _ st).cfg = s.cfg
      unfold Backend.bumpFail; split <;> exact hx.2⟩)
    (fun _ _ hx _ _ => hx.1.of_eq rfl rfl rfl) (fun _ _ hx _ => hx.1.of_eq rfl rfl rfl)

/-- the accounting reads no actor: any record may be enqueued or parked -/
theorem InvD.rules : FrontRules (fun _ => True) InvD (fun _ _ _ => True) :=
  .ofStrip (fun _ _ e h => h.of_eq (of_stripLg (·.cfg) (fun _ => rfl) e) (of_stripLg (·.reported) (fun _ => rfl) e)
      (of_stripLg ctrs (fun _ => rfl) e)) {
    enq := fun _ _ _ _ _ _ _ _ h _ _ => h.enqFlow ..
    stall := fun _ _ _ _ _ _ h _ _ => h.of_eq rfl rfl rfl
    parked := fun _ _ _ _ _ _ _ _ _ => ⟨trivial, trivial⟩
    flagDone := fun _ _ _ _ _ h _ _ _ => h.of_eq rfl rfl rfl
    actorMisc := fun _ _ _ h _ => h.of_eq rfl rfl rfl
    pre := fun _ _ _ _ _ _ _ _ h hp _ _ =>
      ⟨h.of_eq (hp.proj (·.cfg) (fun _ _ _ _ => rfl)) (hp.proj (·.reported) (fun _ _ _ _ => rfl))
        (hp.proj ctrs (fun _ _ _ _ => rfl)), fun _ _ _ _ => trivial⟩
    tick := fun _ _ h => h.of_eq rfl rfl rfl
    tstart := fun _ _ _ h _ => h.of_eq rfl rfl rfl
    texitCtx := fun s a i _ h _ _ =>
      have h1 : InvD (s.setActor a (fun x => { x with alive := false })) := h.of_eq rfl rfl rfl
      InvD.of_eq (h1.setTh_same i (fun t => { t with valid := false }) (fun _ => ⟨rfl, rfl, rfl⟩)) rfl rfl rfl
    texitNoCtx := fun _ _ _ h _ _ => h.of_eq rfl rfl rfl }

theorem InvD.resume {s : BSt} (h : InvD s) (a : Nat) : InvD (resume s a).1 :=
  InvD.rules.toActorRules.resume_fst h a

theorem InvD.front {s : BSt} (h : InvD s) (f : FOp) : InvD (applyFront s f).1 :=
  InvD.rules.front h f

theorem Hk.ctrs {s s' : BSt} (h : Hk s s') : ctrs s' = ctrs s := h.map_ths _ (fun _ _ _ _ _ => rfl)

theorem InvD.hk {s s' : BSt} (h : InvD s) (k : Hk s s') : InvD s' := h.of_eq k.cfg k.reported k.ctrs

theorem InvD.dropCtx {s : BSt} (h : InvD s) (i : Nat) : InvD (dropCtx (ctxEmpty s i).1 i) := h.hk (dropCtx_hk s i)

theorem InvD.closed : Closed InvD :=
  Closed.of_hk InvD.hk
    (fun _ _ h f => h.of_core f.core)
    (fun s i st rest h _ => by
      obtain ⟨s2, c, e⟩ := popStep_eq s i st rest
      rw [e]
      refine InvD.setTh_same ?_ i _ (fun _ => ⟨rfl, rfl, rfl⟩)
      exact (h.of_core c).of_eq rfl rfl rfl)
    (fun _ i h hf => h.failReset i hf)
    (fun _ f h => h.front f)

end Backend.PA

namespace Backend
open Backend.PA

structure Started (s : BSt) : Prop where
  ths : s.ths = []
  reported : s.reported = 0

theorem C08_started_inv (s0 : BSt) (h : Started s0) : InvD s0 := by
  refine ⟨?_, ?_⟩
  · simp [ctrs, h.ths, h.reported]
  · intro c hc; simp [ctrs, h.ths] at hc

end Backend
