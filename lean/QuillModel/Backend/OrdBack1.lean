import QuillModel.Backend.OrdFront
import QuillModel.Backend.FlushGate
/-!
Backend helper functions and the ordering invariant: cache refresh, emptiness checks, the pending guard of the
batch loop, context / logger clean-up, sink dispatch (all invisible or harmless to `PI`).
-/
namespace Backend.PB

variable {c : Cfg} {fl : Nat} {T : Nat → Prop} {C : List Nat} {s : BSt}

/-- the invariant outside a pass: nothing is claimed about unread queues, the cache is whatever it is -/
abbrev PIo (c : Cfg) (fl : Nat) (s : BSt) : Prop := PI c none fl (fun _ => True) s.cache s

theorem PI.toPIo (h : PI c none fl T C s) : PIo c fl s := by
  have := h.weakenT (T' := fun _ => True) (fun _ _ => trivial)
  rw [← h.cacheEq] at this; exact this

theorem PIo.same {s s' : BSt} (h : PIo c fl s) (hs : Same s s') : PIo c fl s' := by
  have := PI.same h hs
  unfold PIo
  rw [hs.cache]
  exact this

theorem PIo.frame {s s' : BSt} (h : PIo c fl s) (hc : core s' = core s) : PIo c fl s' := h.same (Same.ofCore hc)

theorem SLOL.core {s s' : BSt} (h : SLOL s s') : core s' = core s := by
  obtain ⟨a, b, c, d, rfl⟩ := h; rfl


theorem core_flushSinks (s : BSt) : core (flushSinks s) = core s := (slol_flushSinks s).core

theorem refresh_fresh (h : PI c none fl T C s) : ∀ i ∈ (refreshCache s).registry, i ∈ (refreshCache s).cache := by
  unfold refreshCache
  split
  · intro i hi; exact hi
  · rename_i hn; exact h.fresh (by simpa using hn)

theorem Ord.restrict {K : List Nat} (o : Ord fl T s) (hK : ∀ i ∈ s.registry, i ∈ K) : Ord fl (fun i => T i ∧ i ∈ K) s :=
  { o with late := fun i hi hT => o.late i hi (fun ht => hT ⟨ht, hK i hi⟩) }

/-- after a refresh every registered context is cached; only cached contexts remain to be read -/
theorem PI.refresh (h : PI c none fl T C s) :
    PI c none fl (fun i => T i ∧ i ∈ (refreshCache s).cache) (refreshCache s).cache (refreshCache s) := by
  have hfr := refresh_fresh h
  revert hfr
  unfold refreshCache
  split
  · intro _
    exact { h with
      cacheEq := rfl
      bufCache := fun i hi _ => hi
      cacheReg := fun i hi => hi
      fresh := fun _ i hi => hi
      ord := fun hg0 hr0 hp =>
        ((h.ord hg0 hr0 hp).restrict (fun _ hi => hi)).congr rfl rfl (fun _ => rfl) (fun _ => rfl) }
  · intro hfr
    exact { h with
      cacheEq := rfl
      ord := fun hg0 hr0 hp => (h.ord hg0 hr0 hp).restrict hfr }

theorem PIo.refresh (h : PIo c fl s) : PIo c fl (refreshCache s) := (PI.refresh h).toPIo

theorem same_ctxEmpty (s : BSt) (i : Nat) : Same s (ctxEmpty s i).1 := by
  unfold ctxEmpty
  exact Same.setTh s i _ (ThEq.ofQ _ _ (qEmpty_fields _ _))

theorem ctxEmpty_true (h : QC (s.th i)) (he : (ctxEmpty s i).2 = true) : (s.th i).buf = [] ∧ (s.th i).qStmts = [] := by
  unfold ctxEmpty at he
  simp only [Bool.and_eq_true, List.isEmpty_iff] at he
  exact ⟨he.2, h.nil_of_eq (qEmpty_true _ _ he.1)⟩

theorem PIo.allEmpty (h : PIo c fl s) : PIo c fl (allEmpty s).1 :=
  allEmpty_of_refresh (PIo c fl) (fun x i hx => hx.same (same_ctxEmpty x i)) s h.refresh

def hpStep (acc : BSt × Bool) (i : Nat) : BSt × Bool :=
  if acc.2 then acc else
  if (acc.1.th i).buf.isEmpty then
    let r := qEmpty acc.1.cfg (acc.1.th i).q
    (acc.1.setTh i (fun t => { t with q := r.1 }), !r.2)
  else acc

/-- one context of the guard: with a coherent queue the emptiness test says whether a record is queued -/
theorem hpStep_spec (acc : BSt × Bool) (x : Nat) (hq : QC (acc.1.th x)) :
    Same acc.1 (hpStep acc x).1 ∧
    ((hpStep acc x).2 = false ↔ acc.2 = false ∧ ((acc.1.th x).buf = [] → (acc.1.th x).qStmts = [])) := by
  unfold hpStep
  split
  · rename_i h1; exact ⟨Same.refl _, by rw [h1]; exact ⟨fun h => (nomatch h), fun h => (nomatch h.1)⟩⟩
  · rename_i h1
    have h1 : acc.2 = false := by simpa using h1
    split
    · rename_i h2
      have hb : (acc.1.th x).buf = [] := by simpa using h2
      refine ⟨Same.setTh _ _ _ (ThEq.ofQ _ _ (qEmpty_fields _ _)), ?_⟩
      simp only [Bool.not_eq_false']
      exact ⟨fun h => ⟨h1, fun _ => hq.nil_of_eq (qEmpty_true _ _ h)⟩, fun h => hq.empty_true _ (h.2 hb)⟩
    · rename_i h2
      exact ⟨Same.refl _, ⟨fun _ => ⟨h1, fun hb => by rw [hb] at h2; simp at h2⟩, fun h => h.1⟩⟩

theorem hp_fold (l : List Nat) (acc : BSt × Bool) (hq : ∀ i, QC (acc.1.th i)) :
    Same acc.1 (l.foldl hpStep acc).1 ∧
    ((l.foldl hpStep acc).2 = false ↔
      acc.2 = false ∧ ∀ i ∈ l, (acc.1.th i).buf = [] → (acc.1.th i).qStmts = []) := by
  induction l generalizing acc with
  | nil => exact ⟨Same.refl _, fun h => ⟨h, fun _ hi => (nomatch hi)⟩, fun h => h.1⟩
  | cons x xs ih =>
    rw [List.foldl_cons]
    obtain ⟨s1, b1⟩ := hpStep_spec acc x (hq x)
    obtain ⟨s2, b2⟩ := ih (hpStep acc x) fun i => (s1.th i).qc (hq i)
    refine ⟨s1.trans s2, ?_⟩
    rw [b2, b1, List.forall_mem_cons, and_assoc]
    -- the probe of `x` leaves buffers and queued records as they are
    have e : ∀ i, (((hpStep acc x).1.th i).buf = [] → ((hpStep acc x).1.th i).qStmts = []) ↔
        ((acc.1.th i).buf = [] → (acc.1.th i).qStmts = []) := fun i => by rw [(s1.th i).buf, (s1.th i).q]
    simp only [e]

theorem hasPending_fold (s : BSt) : hasPending s = (refreshCache s).cache.foldl hpStep (refreshCache s, false) := rfl

theorem PIo.hasPending (h : PIo c fl s) :
    PIo c fl (hasPending s).1 ∧ ((hasPending s).2 = false →
      ∀ i ∈ (hasPending s).1.registry, ((hasPending s).1.th i).buf = [] → ((hasPending s).1.th i).qStmts = []) := by
  rw [hasPending_fold]
  have hr := h.refresh
  obtain ⟨h1, h2⟩ := hp_fold (refreshCache s).cache (refreshCache s, false) hr.qc
  refine ⟨hr.same h1, fun hf i hi hb => ?_⟩
  obtain ⟨_, h3⟩ := h2.mp hf
  have e := h1.th i
  rw [h1.reg] at hi
  have hc := refresh_fresh h i hi
  rw [e.buf] at hb
  rw [e.q]; exact h3 i hc hb

/-- what the proofs assume of the injection runner: it preserves the invariant (for every cut-off, every set
    of unread contexts, every cache) — true of any sequence of frontend operations (`PI.runInj`) -/
def InjOK (inj : BSt → Nat → BSt) : Prop :=
  ∀ c fl T C s site, PI c none fl T C s → PI c none fl T C (inj s site)

theorem InjOK.pio {inj : BSt → Nat → BSt} (hi : InjOK inj) {s : BSt} (h : PIo c fl s) (site : Nat) : PIo c fl (inj s site) :=
  (hi _ _ _ _ _ site h).toPIo

theorem PIo.report (h : PIo c fl s) (i : Nat) : PIo c fl (PC.reportSt s i) :=
  (h.same (Same.setTh s i (fun t => { t with fail := 0 }) ⟨rfl, rfl, rfl, rfl, rfl, rfl, rfl, .inl rfl, rfl⟩)).frame rfl

theorem PIo.checkFailures {inj : BSt → Nat → BSt} (hi : InjOK inj) (h : PIo c fl s) : PIo c fl (checkFailures inj s) :=
  checkFailures_pres (PIo c fl) inj (fun _ i hx _ => hi.pio (hx.report i) 8) s h

theorem PIo.remove (h : PIo c fl s) (i : Nat) (hv : (s.th i).valid = false) (hc : chain (s.th i) = []) (n : Nat) :
    PIo c fl { s with registry := s.registry.filter (· ≠ i), cache := s.cache.filter (· ≠ i), invalidCnt := n } := by
  unfold PIo at *
  exact { h with
    cacheEq := rfl
    reg := fun j hj => by
      refine List.mem_filter.mpr ⟨h.reg j hj, ?_⟩
      simp only [ne_eq, decide_not, Bool.not_eq_eq_eq_not, Bool.not_true, decide_eq_false_iff_not]
      intro hji; rw [hji] at hj; exact hj hc
    ctxReg := fun a x j hx hj => by
      obtain ⟨r1, r2⟩ := h.ctxReg a x j hx hj
      refine ⟨List.mem_filter.mpr ⟨r1, ?_⟩, r2⟩
      simp only [ne_eq, decide_not, Bool.not_eq_eq_eq_not, Bool.not_true, decide_eq_false_iff_not]
      intro hji; rw [hji, hv] at r2; cases r2
    bufCache := fun j hjr hj => by
      obtain ⟨h1, h2⟩ := List.mem_filter.mp hjr
      exact List.mem_filter.mpr ⟨h.bufCache j h1 hj, h2⟩
    cacheReg := fun j hj => by
      obtain ⟨h1, h2⟩ := List.mem_filter.mp hj
      exact List.mem_filter.mpr ⟨h.cacheReg j h1, h2⟩
    fresh := fun hf j hj => by
      obtain ⟨h1, h2⟩ := List.mem_filter.mp hj
      exact List.mem_filter.mpr ⟨h.fresh hf j h1, h2⟩
    ord := fun hg0 hr0 hp => by
      have o := h.ord hg0 hr0 hp
      exact { popSorted := o.popSorted
              above := fun p hpp j hj => o.above p hpp j (List.mem_filter.mp hj).1
              popFloor := o.popFloor, bufFloor := o.bufFloor
              late := fun j hj => o.late j (List.mem_filter.mp hj).1 } }

theorem PIo.removeSt {i : Nat} (h : PIo c fl s) (hv : (s.th i).valid = false) (he : (ctxEmpty s i).2 = true) :
    PIo c fl (removeSt (ctxEmpty s i).1 i) := by
  have hs := same_ctxEmpty s i
  obtain ⟨b1, b2⟩ := ctxEmpty_true (h.qc i) he
  exact ((h.same hs).remove i (by rw [(hs.th i).valid]; exact hv) (by rw [(hs.th i).chain, chain, b1, b2]; rfl) _).same
    (Same.setTh _ i _ ⟨rfl, rfl, rfl, rfl, rfl, rfl, rfl, .inl rfl, rfl⟩)

theorem PIo.cleanupContexts (h : PIo c fl s) : PIo c fl (cleanupContexts s) :=
  cleanupContexts_rule (PIo c fl) (fun x i hx => hx.same (same_ctxEmpty x i)) (fun _ _ hx _ hv he _ => hx.removeSt hv he) s h

theorem PIo.cleanupLoggers {inj : BSt → Nat → BSt} (hi : InjOK inj) (h : PIo c fl s) : PIo c fl (cleanupLoggers inj s) :=
  cleanupLoggers_pres (PIo c fl) inj (fun _ hx => hi.pio hx 9) (fun _ _ hx => hx.frame rfl) (fun _ hx => hx.allEmpty)
    (fun _ _ hx _ _ => hx.allEmpty.frame rfl) (fun _ _ hx _ _ => hx.frame rfl) (fun _ _ _ hx _ => hx.frame rfl) s h

end Backend.PB
