import QuillModel.Backend.FlushBack
import QuillModel.Backend.OrdTop
/-!
The initial states of C06 satisfy the flush invariant `FI`; under `FI` a flag number identifies its statement, and a raised
Flush flag means its statement and everything its context accepted before it have been popped.
-/
namespace Backend

/-- a well-formed initial state for C06: as for C05, and no flag raised, no removal request decoded yet -/
structure StartF (s : BSt) : Prop where
  start : Start s
  flags : s.flags = []
  removalFlags : s.removalFlags = []

namespace PB

theorem start_FI {s : BSt} (h : StartF s) : FI none [] s := by
  have hth : ∀ i, s.th i = default := th_of_ths_nil h.start.ths
  have hact : ∀ a, pendOf s a = none := fun a => by simp [pendOf, BSt.actor, h.start.actors]
  exact {
    cons := fun i => by rw [hth]; rfl
    plog := fun i p hp => by rw [hth] at hp; cases hp
    flg := fun f hff => by rw [h.flags] at hff; cases hff
    flgP := fun f hff => by cases hff
    popFlag := fun i st hst => by rw [hth] at hst; cases hst
    rem := fun gf hgf => by rw [h.removalFlags] at hgf; cases hgf
    accLt := fun i f hff => by rw [hth] at hff; cases hff
    accNodup := fun i => by rw [hth]; exact List.nodup_nil
    accDisj := fun i j _ f hff => by rw [hth] at hff; cases hff
    pendFresh := fun a p st f hp => by rw [hact] at hp; cases hp }

theorem filterMap_nodup_inj {α β} (g : α → Option β) (l : List α) (hn : (l.filterMap g).Nodup) (a b : α) (f : β)
    (ha : a ∈ l) (hb : b ∈ l) (hga : g a = some f) (hgb : g b = some f) : a = b := by
  have hp := List.pairwise_filterMap.mp hn
  exact List.Pairwise.forall_of_forall_of_flip (R := fun x y => g x = some f → g y = some f → x = y)
    (fun _ _ _ _ => rfl) (hp.imp fun H h1 h2 => absurd rfl (H f h1 f h2))
    (hp.imp fun H h1 h2 => absurd rfl (H f h2 f h1)) ha hb hga hgb

theorem prefix_covers {p r pre post : List Stmt} {st : Stmt} {f : Nat} (he : p ++ r = pre ++ st :: post)
    (hn : (flagsIn (p ++ r)).Nodup) (hst : flagOf st = some f) (hf : f ∈ flagsIn p) : ∃ more, p = pre ++ st :: more := by
  -- if `p` ended before `st`, `st` would lie in `r` and its flag would occur twice
  have hr : ∀ a', r = a' ++ st :: post → False := by
    intro a' e
    rw [e, flagsIn_append] at hn
    refine (List.nodup_append.mp hn).2.2 f hf f ?_ rfl
    exact mem_flagsIn.mpr ⟨st, List.mem_append_right _ (List.mem_cons_self ..), hst⟩
  rcases List.append_eq_append_iff.mp he with ⟨a', _, h2⟩ | ⟨c', h1, h2⟩
  · exact (hr a' h2).elim
  · cases c' with
    | nil => exact (hr [] h2.symm).elim
    | cons c cs =>
      simp only [List.cons_append, List.cons.injEq] at h2
      exact ⟨cs, by rw [h1, h2.1]⟩

variable {s : BSt}

theorem FI.flag_unique {pf : List Nat} (h : FI none pf s) {i j : Nat} {st st' : Stmt} {f : Nat}
    (h1 : st ∈ (s.th i).accepted) (h2 : st' ∈ (s.th j).accepted) (f1 : flagOf st = some f) (f2 : flagOf st' = some f) :
    i = j ∧ st = st' := by
  have hij : i = j := by
    apply Classical.byContradiction; intro hne
    exact h.accDisj i j hne f (mem_flagsIn.mpr ⟨st, h1, f1⟩) (mem_flagsIn.mpr ⟨st', h2, f2⟩)
  subst hij
  exact ⟨rfl, filterMap_nodup_inj flagOf _ (h.accNodup i) st st' f h1 h2 f1 f2⟩

/-- a raised flag stems from a popped statement: the accepted Flush statement that carries it is that statement -/
theorem FI.raised_popped {pf : List Nat} (h : FI none pf s) {i : Nat} {st : Stmt} {f : Nat}
    (hst : st ∈ (s.th i).accepted) (hk : st.kind = .flush f) (hf : f ∈ s.flags) : st ∈ (s.th i).popped := by
  have hfo : flagOf st = some f := by rw [flagOf, hk]; rfl
  rcases h.flg f hf with ⟨j, st', hp, hk'⟩ | ⟨j, st', ha, hk'⟩
  · have hst'j : st' ∈ (s.th j).accepted := by
      rw [h.cons j]; exact List.mem_append_left _ (List.mem_append_left _ hp)
    obtain ⟨rfl, rfl⟩ := h.flag_unique hst hst'j hfo (by rw [flagOf, hk']; rfl)
    exact hp
  · obtain ⟨_, he⟩ := h.flag_unique hst ha hfo (by rw [flagOf, hk']; rfl)
    rw [he, hk'] at hk; cases hk

theorem FI.flush_flag_popped {pf : List Nat} (h : FI none pf s) {i : Nat} {pre post : List Stmt} {st : Stmt} {f : Nat}
    (hacc : (s.th i).accepted = pre ++ st :: post) (hk : st.kind = .flush f) (hf : f ∈ s.flags) :
    ∃ more, (s.th i).popped = pre ++ st :: more := by
  have hfo : flagOf st = some f := by rw [flagOf, hk]; rfl
  have hp := h.raised_popped (by rw [hacc]; exact List.mem_append_right _ (List.mem_cons_self ..)) hk hf
  have hc := h.cons i
  rw [List.append_assoc] at hc
  refine prefix_covers (p := (s.th i).popped) (r := (s.th i).buf ++ (s.th i).qStmts) (post := post) ?_ ?_ hfo
    (mem_flagsIn.mpr ⟨st, hp, hfo⟩)
  · rw [← hc, hacc]
  · rw [← hc]; exact h.accNodup i

/-- the flag of a Flush statement still in a transit buffer has not been raised: the statement would be popped as well,
    and its flag number occur twice among the accepted ones -/
theorem FI.buf_flag_not_raised {pf : List Nat} (h : FI none pf s) {j : Nat} {x : Stmt} {f : Nat}
    (hx : x ∈ (s.th j).buf) (hk : x.kind = .flush f) : f ∉ s.flags := by
  intro hf
  have hfo : flagOf x = some f := by rw [flagOf, hk]; rfl
  have hp := h.raised_popped (by rw [h.cons j]; exact List.mem_append_left _ (List.mem_append_right _ hx)) hk hf
  have hn := h.accNodup j
  rw [h.cons j, List.append_assoc, flagsIn_append] at hn
  refine (List.nodup_append.mp hn).2.2 f (mem_flagsIn.mpr ⟨x, hp, hfo⟩) f ?_ rfl
  rw [flagsIn_append]
  exact List.mem_append_left _ (mem_flagsIn.mpr ⟨x, hx, hfo⟩)

end PB

theorem StartF.popped_nil {s0 : BSt} (h0 : StartF s0) (j : Nat) : (s0.th j).popped = [] :=
  congrArg Th.popped (th_of_ths_nil h0.start.ths j)

end Backend
