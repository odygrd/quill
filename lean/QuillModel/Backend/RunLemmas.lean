import QuillModel.Backend.Ops
/-!
How `runOps` splits along a schedule written with `::` and `++`, and what single operations of `applyOp` come to.
Proofs about a schedule `pre ++ [o] ++ post` rewrite with these instead of unfolding `runOps` (which lets `simp` go on into
`applyOp` and `applyFront`).
-/
namespace Backend

theorem runOps_cons (s : BSt) (o : Op) (ops : List Op) : runOps s (o :: ops) = runOps (applyOp s o).1 ops := rfl

theorem runOps_append (s : BSt) (ops ops' : List Op) : runOps s (ops ++ ops') = runOps (runOps s ops) ops' :=
  List.foldl_append ..

theorem runOps_snoc (s : BSt) (ops : List Op) (o : Op) : runOps s (ops ++ [o]) = (applyOp (runOps s ops) o).1 :=
  runOps_append s ops [o]

/-- the `resume` operation is `Backend.resume`, after which at most the caller's `inCall` is cleared: no context changes -/
theorem applyOp_resume_th (s : BSt) (a j : Nat) : (applyOp s (.front (.resume a))).1.th j = (resume s a).1.th j := by
  show (if (resume s a).2 == "noop" then resume s a else
    if ((((resume s a).1.actor a).map isParked).getD false) = true then resume s a
    else ((resume s a).1.setActor a (fun x => { x with inCall := none }), (resume s a).2)).1.th j = _
  split
  · rfl
  · split
    · rfl
    · rfl

theorem applyOp_poll {s : BSt} (h : s.backendGone = false) (table : List (Nat × Nat × List FOp)) :
    (applyOp s (.poll table)).1 = poll (runInj table) { s with siteCnt := [] } := by
  show (if s.backendGone then (s, "noop") else (poll (runInj table) { s with siteCnt := [] }, "ev")).1 = _
  rw [h]
  rfl

theorem applyOp_exit {s : BSt} (h : s.backendGone = false) :
    (applyOp s .exit).1 = { exitLoop (runInj []) 1000 100000 { s with siteCnt := [] } with backendGone := true } := by
  show (if s.backendGone then (s, "noop") else
    ({ exitLoop (runInj []) 1000 100000 { s with siteCnt := [] } with backendGone := true }, "ev")).1 = _
  rw [h]
  rfl

theorem applyOp_poll_gone {s : BSt} (h : s.backendGone = true) (table : List (Nat × Nat × List FOp)) :
    applyOp s (.poll table) = (s, "noop") := by
  show (if s.backendGone then (s, "noop") else _) = _
  rw [h]; rfl

theorem applyOp_exit_gone {s : BSt} (h : s.backendGone = true) : applyOp s .exit = (s, "noop") := by
  show (if s.backendGone then (s, "noop") else _) = _
  rw [h]; rfl

/-- one operation of a schedule: a frontend operation, a poll or the exit of a running backend, or nothing (the
    backend has stopped). `Q` speaks of the state and the observation; every walk of `applyOp` is an instance -/
theorem applyOp_rule (Q : BSt → String → Prop) (s : BSt) (op : Op)
    (front : ∀ f, op = .front f → Q (applyFront s f).1 (applyFront s f).2)
    (gone : s.backendGone = true → Q s "noop")
    (poll : ∀ table, op = .poll table → s.backendGone = false → Q (poll (runInj table) { s with siteCnt := [] }) "ev")
    (exit : op = .exit → s.backendGone = false →
      Q { exitLoop (runInj []) 1000 100000 { s with siteCnt := [] } with backendGone := true } "ev") :
    Q (applyOp s op).1 (applyOp s op).2 := by
  cases op with
  | front f => exact front f rfl
  | poll table =>
    by_cases hg : s.backendGone = true
    · rw [applyOp_poll_gone hg]; exact gone hg
    · have e : applyOp s (.poll table) = (Backend.poll (runInj table) { s with siteCnt := [] }, "ev") := by
        show (if s.backendGone = true then _ else _) = _
        rw [if_neg hg]
      rw [e]; exact poll table rfl (Bool.eq_false_iff.mpr hg)
  | exit =>
    by_cases hg : s.backendGone = true
    · rw [applyOp_exit_gone hg]; exact gone hg
    · have e : applyOp s .exit =
          ({ exitLoop (runInj []) 1000 100000 { s with siteCnt := [] } with backendGone := true }, "ev") := by
        show (if s.backendGone = true then _ else _) = _
        rw [if_neg hg]
      rw [e]; exact exit rfl (Bool.eq_false_iff.mpr hg)

end Backend
