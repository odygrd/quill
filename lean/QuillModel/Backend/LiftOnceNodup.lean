import QuillModel.Backend.LiftOnce
/-!
`dispatchCount` for a sink list without duplicates: every sink is visited once, so every acceptance and fault decision
is the one read off the state the dispatch starts in; the count at a sink is 0 or 1, and 1 exactly when the sink is
listed, accepts, and no accepting sink up to and including it throws.
-/
namespace Backend.PA

/-- the next `write_log` call of sink `k` is scheduled to throw -/
def sinkThrows (s : BSt) (k : Nat) : Bool := throwsAt (s.sinkOf k).wthrow ((s.sinkOf k).wcalls + 1)

/-- the count with every decision read off the one state `s` -/
def decide0 (s : BSt) (st : Stmt) (sid : Nat) : List Nat → Nat
  | [] => 0
  | k :: rest =>
    if acc s st k then (if sinkThrows s k then 0 else (if k = sid then 1 else 0) + decide0 s st sid rest)
    else decide0 s st sid rest

theorem sinkOf_bump_ne (s : BSt) (k j : Nat) (x : Sink) (e : Ev) (h : j ≠ k) (hx : x.sid = (s.sinkOf k).sid) :
    ((s.setSink k (fun _ => x)).emit e).sinkOf j = s.sinkOf j := by
  rw [emit_sinkOf]
  by_cases hp : ∃ y ∈ s.sinks, y.sid = k
  · rw [sinkOf_setSink_ne s (fun _ => x) (fun _ _ => hx.trans (sinkOf_sid hp)) h]
  · rw [setSink_absent s k _ hp]

theorem dispatchCountAux_nodup (s : BSt) (st : Stmt) (sid : Nat) : ∀ (l : List Nat), l.Nodup → ∀ (s' : BSt),
    (∀ k ∈ l, s'.sinkOf k = s.sinkOf k) → dispatchCountAux st sid s' l = decide0 s st sid l
  | [], _, _, _ => rfl
  | k :: rest, hn, s', hs => by
    unfold dispatchCountAux decide0
    have hk := hs k (List.mem_cons_self ..)
    have hn' := List.nodup_cons.mp hn
    simp only [acc, sinkThrows, hk]
    by_cases ha : sinkAccepts (s.sinkOf k) st = true
    · simp only [ha, ↓reduceIte]
      by_cases ht : throwsAt (s.sinkOf k).wthrow ((s.sinkOf k).wcalls + 1) = true
      · simp only [ht, ↓reduceIte]
      · simp only [ht]
        have e := dispatchCountAux_nodup s st sid rest hn'.2
          ((s'.setSink k (fun _ => { s.sinkOf k with wcalls := (s.sinkOf k).wcalls + 1 })).emit
            (Ev.write k st.id st.lvl st.ts st.named)) (fun j hj => by
              rw [sinkOf_bump_ne s' k j _ _ (fun hc => hn'.1 (hc ▸ hj)) (by rw [hk])]
              exact hs j (List.mem_cons_of_mem _ hj))
        simp only [Bool.false_eq_true, ↓reduceIte]
        rw [e]
    · simp only [ha]
      exact dispatchCountAux_nodup s st sid rest hn'.2 s' (fun j hj => hs j (List.mem_cons_of_mem _ hj))

theorem dispatchCount_eq_decide0 (s : BSt) (st : Stmt) (sid : Nat) (hn : (s.lgOf st.lg).sinks.Nodup) :
    dispatchCount s st sid = decide0 s st sid (s.lgOf st.lg).sinks :=
  dispatchCountAux_nodup s st sid _ hn s (fun _ _ => rfl)

theorem decide0_absent (s : BSt) (st : Stmt) (sid : Nat) : ∀ (l : List Nat), sid ∉ l → decide0 s st sid l = 0
  | [], _ => rfl
  | k :: rest, h => by
    have h1 : k ≠ sid := fun hc => h (hc ▸ List.mem_cons_self ..)
    have h2 := decide0_absent s st sid rest (fun hc => h (List.mem_cons_of_mem _ hc))
    unfold decide0
    rw [h2, if_neg h1]
    split
    · split <;> rfl
    · rfl

theorem decide0_le_one (s : BSt) (st : Stmt) (sid : Nat) : ∀ (l : List Nat), l.Nodup → decide0 s st sid l ≤ 1
  | [], _ => Nat.zero_le _
  | k :: rest, hn => by
    have hn' := List.nodup_cons.mp hn
    have ih := decide0_le_one s st sid rest hn'.2
    unfold decide0
    split
    · split
      · exact Nat.zero_le _
      · by_cases hk : k = sid
        · rw [if_pos hk, decide0_absent s st sid rest (hk ▸ hn'.1)]
          omega
        · rw [if_neg hk]
          omega
    · exact ih

def Decided (s : BSt) (st : Stmt) (sid : Nat) (l : List Nat) : Prop :=
  ∃ pre post, l = pre ++ sid :: post ∧ acc s st sid = true ∧
    ∀ k ∈ pre ++ [sid], acc s st k = true → sinkThrows s k = false

theorem Decided.nil (s : BSt) (st : Stmt) (sid : Nat) : ¬ Decided s st sid [] := by
  rintro ⟨pre, post, e, _⟩
  cases pre <;> cases e

theorem Decided.cons_ne (s : BSt) (st : Stmt) (sid k : Nat) (rest : List Nat) (hk : k ≠ sid) :
    Decided s st sid (k :: rest) ↔ (acc s st k = true → sinkThrows s k = false) ∧ Decided s st sid rest := by
  constructor
  · rintro ⟨pre, post, e, a, h⟩
    cases pre with
    | nil =>
      simp only [List.nil_append, List.cons.injEq] at e
      exact absurd e.1 hk
    | cons p pre' =>
      simp only [List.cons_append, List.cons.injEq] at e
      obtain ⟨e1, e2⟩ := e
      subst e1
      exact ⟨h k (by simp), pre', post, e2, a, fun x hx => h x (List.mem_cons_of_mem _ hx)⟩
  · rintro ⟨hkk, pre', post, e, a, h⟩
    refine ⟨k :: pre', post, by rw [e]; rfl, a, fun x hx => ?_⟩
    simp only [List.cons_append, List.mem_cons] at hx
    rcases hx with hx | hx
    · rw [hx]
      exact hkk
    · exact h x hx

theorem Decided.cons_eq (s : BSt) (st : Stmt) (sid : Nat) (rest : List Nat) :
    Decided s st sid (sid :: rest) ↔ acc s st sid = true ∧ sinkThrows s sid = false := by
  constructor
  · rintro ⟨pre, post, _, a, h⟩
    exact ⟨a, h sid (by simp) a⟩
  · rintro ⟨a, t⟩
    refine ⟨[], rest, rfl, a, fun x hx => ?_⟩
    simp only [List.nil_append, List.mem_singleton] at hx
    intro _
    rw [hx]
    exact t

theorem decide0_eq_one_iff (s : BSt) (st : Stmt) (sid : Nat) : ∀ (l : List Nat), l.Nodup →
    (decide0 s st sid l = 1 ↔ Decided s st sid l)
  | [], _ => by
    constructor
    · intro h
      cases h
    · intro h
      exact absurd h (Decided.nil s st sid)
  | k :: rest, hn => by
    have hn' := List.nodup_cons.mp hn
    have ih := decide0_eq_one_iff s st sid rest hn'.2
    unfold decide0
    by_cases hk : k = sid
    · subst hk
      rw [Decided.cons_eq s st k rest, decide0_absent s st k rest hn'.1]
      cases ha : acc s st k <;> cases ht : sinkThrows s k <;> simp
    · rw [Decided.cons_ne s st sid k rest hk, ← ih, if_neg hk]
      cases ha : acc s st k <;> cases ht : sinkThrows s k <;> simp

theorem dispatchCount_le_one (s : BSt) (st : Stmt) (sid : Nat) (hn : (s.lgOf st.lg).sinks.Nodup) :
    dispatchCount s st sid ≤ 1 := by
  rw [dispatchCount_eq_decide0 s st sid hn]
  exact decide0_le_one s st sid _ hn

theorem dispatchCount_eq_one_iff (s : BSt) (st : Stmt) (sid : Nat) (hn : (s.lgOf st.lg).sinks.Nodup) :
    dispatchCount s st sid = 1 ↔
      ∃ pre post, (s.lgOf st.lg).sinks = pre ++ sid :: post ∧ acc s st sid = true ∧
        ∀ k ∈ pre ++ [sid], acc s st k = true → sinkThrows s k = false := by
  rw [dispatchCount_eq_decide0 s st sid hn]
  exact decide0_eq_one_iff s st sid _ hn

end Backend.PA
