import QuillModel.Backend.UInvClosed
/-!
The exit drain of the U machine (`_exit` with `wait_for_queues_to_empty_before_exit`): the loop leaves only through the
branch in which `_check_frontend_queues_and_cached_transit_events_empty` answered true, and at that moment every context
of the backend's (refreshed) cache has an empty chain of queue buffers and an empty transit buffer, with everything it
accepted popped.
-/
namespace Backend.US
open Backend.UQ

def exitEndsU (u : UP) (inj : BSt → Nat → BSt) (tick : Nat) : Nat → BSt → Prop
  | 0, _ => False
  | fuel + 1, s => (allEmptyU s).2 = true ∨ ((allEmptyU s).2 = false ∧ exitEndsU u inj tick fuel (exitNextU u inj tick s))

def SameG (s s' : BSt) : Prop :=
  ∀ j, (s'.th j).buf = (s.th j).buf ∧ (s'.th j).qStmts = (s.th j).qStmts ∧
    (s'.th j).accepted = (s.th j).accepted ∧ (s'.th j).popped = (s.th j).popped

theorem SameG.refl (s : BSt) : SameG s s := fun _ => ⟨rfl, rfl, rfl, rfl⟩
theorem SameG.trans {a b c : BSt} (h1 : SameG a b) (h2 : SameG b c) : SameG a c := fun j =>
  ⟨(h2 j).1.trans (h1 j).1, (h2 j).2.1.trans (h1 j).2.1, (h2 j).2.2.1.trans (h1 j).2.2.1, (h2 j).2.2.2.trans (h1 j).2.2.2⟩

theorem sameG_ctxEmptyU (s : BSt) (i : Nat) : SameG s (ctxEmptyU s i).1 := by
  intro j
  have e : (ctxEmptyU s i).1 = s.setTh i (fun t => (uEmpty s.cfg t).1) := rfl
  rw [e, th_setTh]
  split <;> exact ⟨rfl, rfl, rfl, rfl⟩

def Drained (s : BSt) (i : Nat) : Prop :=
  (s.th i).buf = [] ∧ (s.th i).qStmts = [] ∧ (s.th i).accepted = (s.th i).popped

theorem drained_of_ctxEmptyU {s : BSt} {i : Nat} (h : TI (s.th i)) (he : (ctxEmptyU s i).2 = true) : Drained s i := by
  simp only [ctxEmptyU, Bool.and_eq_true, List.isEmpty_iff] at he
  have hq := h.empty_sound s.cfg he.1
  refine ⟨he.2, hq, ?_⟩
  rw [h.cons, he.2, hq, List.append_nil, List.append_nil]

theorem Drained.of_same {s s' : BSt} {i : Nat} (g : SameG s s') (h : Drained s' i) : Drained s i := by
  obtain ⟨a, b, c, d⟩ := g i
  unfold Drained at *
  rw [← a, ← b, ← c, ← d]; exact h

theorem allEmptyU_sound {s : BSt} (h : UI s) (he : (allEmptyU s).2 = true) :
    ∀ i ∈ (refreshCache s).cache, Drained s i := by
  unfold allEmptyU at he
  dsimp only at he
  have h0 : UI (refreshCache s) := refresh_closed (UI.closed { qmax := 0 }) s h
  have g0 : SameG s (refreshCache s) := by
    intro j
    unfold refreshCache
    split <;> exact ⟨rfl, rfl, rfl, rfl⟩
  have key : ∀ (l : List Nat) (acc : BSt × Bool), UI acc.1 → SameG s acc.1 →
      (l.foldl (fun (acc : BSt × Bool) i => let r := ctxEmptyU acc.1 i; (r.1, acc.2 && r.2)) acc).2 = true →
      acc.2 = true ∧ ∀ i ∈ l, Drained s i := by
    intro l
    induction l with
    | nil => intro acc _ _ hh; exact ⟨hh, fun i hi => by cases hi⟩
    | cons x xs ih =>
      intro acc hu hg hh
      have hu' : UI (ctxEmptyU acc.1 x).1 := ctxEmptyU_closed (UI.closed { qmax := 0 }) acc.1 x hu
      obtain ⟨h1, h2⟩ := ih ((ctxEmptyU acc.1 x).1, acc.2 && (ctxEmptyU acc.1 x).2) hu'
        (hg.trans (sameG_ctxEmptyU acc.1 x)) hh
      simp only [Bool.and_eq_true] at h1
      refine ⟨h1.1, fun i hi => ?_⟩
      rcases List.mem_cons.mp hi with hi | hi
      · rw [hi]; exact (drained_of_ctxEmptyU (hu.th x) h1.2).of_same hg
      · exact h2 i hi
  exact (key _ (refreshCache s, true) h0 g0 he).2

theorem exitLoopU_ends_form (u : UP) (table : List (Nat × Nat × List UFOp)) (tick : Nat) :
    ∀ (fuel : Nat) (s : BSt), UI s → exitEndsU u (runInjU u table) tick fuel s →
      ∃ sK, UI sK ∧ (allEmptyU sK).2 = true ∧ (∀ i ∈ (refreshCache sK).cache, Drained sK i) ∧
        exitLoopU u (runInjU u table) tick fuel s = exitTailU (runInjU u table) sK
  | 0, _, _, he => by cases he
  | fuel + 1, s, h, he => by
    rcases he with he | ⟨hne, he⟩
    · exact ⟨s, h, he, allEmptyU_sound h he, by rw [exitLoopU_succ, if_pos he]⟩
    · have hc := UI.closed u
      have hnext := exitNextU_closed hc table tick s h
      obtain ⟨sK, a, b, c, d⟩ := exitLoopU_ends_form u table tick fuel _ hnext he
      exact ⟨sK, a, b, c, by rw [exitLoopU_succ, if_neg (by rw [hne]; simp), d]⟩

end Backend.US
