import QuillModel.Backend.Ops
import QuillModel.Backend.Basics
/-!
What one frontend operation does to the state, path by path. `enqFlow`, `frontCall`, `resume` and `applyFront` branch on
the queue's answer, the queue type, the kind of call and the parked state; `EnqShape`, `CallShape`, `ResumeShape` and
`FrontShape` list those paths once, each with its guard and the resulting state and observation over variables; the public
calls that build a record are one path (`call`: `CallOp` names the record, `CallPre` the state the call starts from). An
invariant is carried through a function by the rules of `FrontRules.lean` / `FrontRel.lean`, which walk these shapes once;
where they do not fit, by the `*_shape` fact itself: `generalize` the call, then case on the shape (by `induction`,
although nothing recurs: the result is then a variable and no equation between states has to be solved).
-/
namespace Backend

/-- a refused ordinary log statement bumps the failure counter of its context; `d` = the queue drops -/
def bumpFail (d : Bool) (s : BSt) (ci : Nat) (st : Stmt) : BSt :=
  if isLogKind st.kind then
    s.setTh ci (fun t => { t with fail := t.fail + 1, discarded := t.discarded + (if d then 1 else 0),
                                  blockedCalls := t.blockedCalls + (if d then 0 else 1) })
  else s

def setPend (s : BSt) (a : Nat) (p : Pend) : BSt := s.setActor a (fun x => { x with pend := p })

/-- the record as the queue holds it: stamped with the clock at the commit -/
def stamped (s : BSt) (st : Stmt) : Stmt := { st with enqAt := s.now }

theorem tryEnq_cases (s : BSt) (ci : Nat) (st : Stmt) :
    ((qPrepareWrite s.cfg (s.th ci).q st.size).2 = true ∧
      tryEnq s ci st = (s.setTh ci (fun t => { t with
        q := qFinishCommit s.cfg (qPrepareWrite s.cfg (s.th ci).q st.size).1 st.size,
        qStmts := t.qStmts ++ [stamped s st], accepted := t.accepted ++ [stamped s st] }), true)) ∨
    ((qPrepareWrite s.cfg (s.th ci).q st.size).2 = false ∧
      tryEnq s ci st = (s.setTh ci (fun t => { t with q := (qPrepareWrite s.cfg (s.th ci).q st.size).1 }), false)) := by
  unfold tryEnq
  cases h : (qPrepareWrite s.cfg (s.th ci).q st.size).2
  · exact .inr ⟨rfl, by simp only [h, Bool.false_eq_true, if_false]⟩
  · exact .inl ⟨rfl, by simp only [h, if_true]; rfl⟩

inductive EnqShape (s : BSt) (a : Nat) (st : Stmt) (cont : Nat) (first initial : Bool) : BSt × String → Prop
  | granted {s1 s2 : BSt} {ci : Nat} (hc : ensureCtx s a = (s1, ci)) (he : tryEnq s1 ci st = (s2, true)) :
      EnqShape s a st cont first initial (afterEnq (setPend s2 a .none) a st cont)
  | dropped {s1 s2 : BSt} {ci : Nat} (hc : ensureCtx s a = (s1, ci)) (he : tryEnq s1 ci st = (s2, false))
      (hd : s.cfg.dropping = true) (hk : cont = 0 ∨ cont = 5) :
      EnqShape s a st cont first initial (setPend (bumpFail true s2 ci st) a .none,
        if cont = 0 then s!"id={st.id} ret=0 ev=1 bytes=0" else s!"id={st.id} ev=1 bytes=0")
  | dropRetry {s1 s2 : BSt} {ci : Nat} (hc : ensureCtx s a = (s1, ci)) (he : tryEnq s1 ci st = (s2, false))
      (hd : s.cfg.dropping = true) (hk : ¬(cont = 0 ∨ cont = 5)) :
      EnqShape s a st cont first initial (setPend (bumpFail true s2 ci st) a (.retry st cont), "parked:sleep")
  | blocked {s1 s2 : BSt} {ci : Nat} (hc : ensureCtx s a = (s1, ci)) (he : tryEnq s1 ci st = (s2, false))
      (hd : s.cfg.dropping = false) :
      EnqShape s a st cont first initial
        (setPend (if first then bumpFail false s2 ci st else s2) a (.retry st cont),
         if initial ∧ (cont = 0 ∨ cont = 5) then s!"id={st.id} parked:sleep" else "parked:sleep")

theorem enqFlow_shape (s : BSt) (a : Nat) (st : Stmt) (cont : Nat) (first initial : Bool) :
    EnqShape s a st cont first initial (enqFlow s a st cont first initial) := by
  unfold enqFlow
  generalize hc : ensureCtx s a = e
  obtain ⟨s1, ci⟩ := e
  dsimp only
  generalize he : tryEnq s1 ci st = e2
  obtain ⟨s2, ok⟩ := e2
  cases ok
  · rw [if_neg Bool.false_ne_true]
    cases hd : s.cfg.dropping
    · rw [if_neg Bool.false_ne_true]
      exact EnqShape.blocked hc he hd
    · rw [if_pos rfl]
      by_cases hk : cont = 0 ∨ cont = 5
      · rw [if_pos hk]
        exact EnqShape.dropped hc he hd hk
      · rw [if_neg hk]
        exact EnqShape.dropRetry hc he hd hk
  · exact EnqShape.granted hc he

theorem tryEnq_actors (s : BSt) (ci : Nat) (st : Stmt) : (tryEnq s ci st).1.actors = s.actors := by
  unfold tryEnq
  dsimp only
  split <;> rfl

theorem afterEnq_ths (s : BSt) (a : Nat) (st : Stmt) (cont : Nat) : (afterEnq s a st cont).1.ths = s.ths := by
  unfold afterEnq
  split <;> rfl

def callStmt (s : BSt) (a lgi : Nat) (kind : Kind) (lvl len : Nat) (dyn : Bool) (id : Nat) (named : Bool) : Stmt :=
  { id := id, kind := kind, lg := lgi, lvl := lvl, ts := s.now,
    size := stmtSize s.cfg kind id len dyn (s.lgOf lgi).gid, actor := a, named := named }

theorem stmtSize_pos (c : Cfg) (k : Kind) (id len : Nat) (dyn : Bool) (gid : Nat) (h : 0 < c.hdr) :
    0 < stmtSize c k id len dyn gid := by
  unfold stmtSize
  split <;> omega

theorem frontCall_eq (s : BSt) (a lgi : Nat) (kind : Kind) (lvl len cont : Nat) (dyn : Bool) (id : Nat) (named : Bool) :
    frontCall s a lgi kind lvl len cont dyn id named =
      if ((s.actor a).map (·.stallArmed)).getD false then
        (s.setActor a (fun x => { x with stallArmed := false, pend := .stall (callStmt s a lgi kind lvl len dyn id named) cont }),
         if cont = 0 ∨ cont = 5 then s!"id={id} parked:stall" else "parked:stall")
      else enqFlow s a (callStmt s a lgi kind lvl len dyn id named) cont true := rfl

inductive CallShape (s : BSt) (a : Nat) (st : Stmt) (cont id : Nat) : BSt × String → Prop
  | stalled (h : ((s.actor a).map (·.stallArmed)).getD false = true) :
      CallShape s a st cont id (s.setActor a (fun x => { x with stallArmed := false, pend := .stall st cont }),
        if cont = 0 ∨ cont = 5 then s!"id={id} parked:stall" else "parked:stall")
  | enq (h : ((s.actor a).map (·.stallArmed)).getD false = false) :
      CallShape s a st cont id (enqFlow s a st cont true)

theorem frontCall_shape (s : BSt) (a lgi : Nat) (kind : Kind) (lvl len cont : Nat) (dyn : Bool) (id : Nat) (named : Bool) :
    CallShape s a (callStmt s a lgi kind lvl len dyn id named) cont id
      (frontCall s a lgi kind lvl len cont dyn id named) := by
  rw [frontCall_eq]
  cases h : ((s.actor a).map (·.stallArmed)).getD false
  · exact .enq h
  · exact .stalled h

inductive ResumeShape (s : BSt) (a : Nat) : BSt × String → Prop
  | stall {x : Actor} {st : Stmt} {cont : Nat} (hx : s.actor a = some x) (hp : x.pend = .stall st cont) :
      ResumeShape s a (enqFlow s a st cont true false)
  | retryDrop {x : Actor} {st : Stmt} {cont : Nat} (hx : s.actor a = some x) (hp : x.pend = .retry st cont)
      (hd : s.cfg.dropping = true) : ResumeShape s a (enqFlow s a { st with ts := s.now } cont true false)
  | retryBlock {x : Actor} {st : Stmt} {cont : Nat} (hx : s.actor a = some x) (hp : x.pend = .retry st cont)
      (hd : s.cfg.dropping = false) : ResumeShape s a (enqFlow s a st cont false false)
  | flagDone {x : Actor} {f : Nat} (hx : s.actor a = some x) (hp : x.pend = .flag f) (hf : s.flags.contains f = true) :
      ResumeShape s a (setPend s a .none, "done")
  | flagWait {x : Actor} {f : Nat} (hx : s.actor a = some x) (hp : x.pend = .flag f) (hf : s.flags.contains f = false) :
      ResumeShape s a (s, "parked:sleep")
  | noop (h : ∀ x, s.actor a = some x → x.pend = .none) : ResumeShape s a (s, "noop")

theorem resume_shape (s : BSt) (a : Nat) : ResumeShape s a (resume s a) := by
  unfold resume
  cases hx : s.actor a with
  | none => exact .noop (fun x h => by rw [hx] at h; cases h)
  | some x =>
    simp only [Option.map_some]
    cases hp : x.pend with
    | none => exact .noop (fun y h => by rw [hx] at h; cases h; exact hp)
    | stall st cont => exact .stall hx hp
    | retry st cont =>
      dsimp only
      cases hd : s.cfg.dropping
      · exact .retryBlock hx hp hd
      · exact .retryDrop hx hp hd
    | flag f =>
      dsimp only
      cases hf : s.flags.contains f
      · exact .flagWait hx hp hf
      · exact .flagDone hx hp hf

/-- the tail of the `resume` operation: a call that is no longer parked forgets the logger it went through -/
def clearCall (r : BSt × String) (a : Nat) : BSt × String :=
  if r.2 == "noop" then r else
  if ((r.1.actor a).map isParked).getD false then r else (r.1.setActor a (fun x => { x with inCall := none }), r.2)

theorem clearCall_fst (r : BSt × String) (a : Nat) :
    (clearCall r a).1 = r.1 ∨ (clearCall r a).1 = r.1.setActor a (fun x => { x with inCall := none }) := by
  unfold clearCall
  split
  · exact .inl rfl
  · split
    · exact .inl rfl
    · exact .inr rfl

theorem clearCall_pres (P : BSt → Prop) {r : BSt × String} {a : Nat} (h1 : P r.1)
    (h2 : ((r.1.actor a).map isParked).getD false = false → P (r.1.setActor a (fun x => { x with inCall := none }))) :
    P (clearCall r a).1 := by
  unfold clearCall
  split
  · exact h1
  · split
    · exact h1
    · next hp => exact h2 (Bool.eq_false_iff.mpr hp)

/-- the three log macros as one call: (actor, logger name, level, padded length, `cont`, dynamic level, named arguments) -/
def FOp.asLog : FOp → Option (Nat × Nat × Nat × Nat × Nat × Bool × Bool)
  | .log a g lvl len dyn => some (a, g, lvl, len, if dyn then 0 else 5, dyn, false)
  | .logNamed a g len => some (a, g, 4, len, 5, false, true)
  | .logBt a g len => some (a, g, 9, len, 5, false, false)
  | _ => none

/-- how a public call that builds a record prepares the state: the kind and the id of the record and the state the call
    starts from (`g` the logger's name) -/
inductive CallPre (s : BSt) (g : Nat) : Kind → Nat → BSt → Prop
  | log : CallPre s g .log s.nextId { s with nextId := s.nextId + 1 }
  | initBt (cap fl : Nat) : CallPre s g (.initBt cap fl) 0 s
  | flushBt : CallPre s g .flushBt 0 s
  | flush : CallPre s g (.flush s.nextFlag) 0 { s with nextFlag := s.nextFlag + 1 }
  | removal (hb : loggerBusy s g = false) :
      CallPre s g (.removal s.nextFlag) 0 (dropName { s with nextFlag := s.nextFlag + 1 } g)

theorem CallPre.same {s s1 : BSt} {g id : Nat} {kind : Kind} (h : CallPre s g kind id s1) :
    s1 = { s with nextId := s1.nextId, nextFlag := s1.nextFlag, names := s1.names } := by
  cases h <;> rfl

theorem CallPre.proj {s s1 : BSt} {g id : Nat} {kind : Kind} (h : CallPre s g kind id s1) {α} (φ : BSt → α)
    (hφ : ∀ (s : BSt) n f nm, φ { s with nextId := n, nextFlag := f, names := nm } = φ s) : φ s1 = φ s := by
  rw [h.same]; exact hφ ..

/-- the public calls that build a record: the operation with its actor, logger name, record kind, level, padded length,
    `cont`, dynamic level and named arguments; a log macro is such a call when the level check passes -/
inductive CallOp (s : BSt) : FOp → Nat → Nat → Kind → Nat → Nat → Nat → Bool → Bool → Prop
  | log {f : FOp} {a g lvl len cont : Nat} {dyn named : Bool} {lgi : Nat}
      (hf : f.asLog = some (a, g, lvl, len, cont, dyn, named)) (hl : loggerOf s g = some lgi)
      (hlv : shouldLog lvl (s.lgOf lgi).level = true) : CallOp s f a g .log lvl len cont dyn named
  | initBt (a g cap fl : Nat) : CallOp s (.initBt a g cap fl) a g (.initBt cap fl) 8 0 2 false false
  | flushBt (a g : Nat) : CallOp s (.flushBt a g) a g .flushBt 8 0 3 false false
  | flush (a g : Nat) : CallOp s (.flush a g) a g (.flush s.nextFlag) 8 0 1 false false
  | removeBlocking (a g : Nat) : CallOp s (.removeBlocking a g) a g (.removal s.nextFlag) 8 0 4 false false

inductive FrontShape (s : BSt) : FOp → BSt × String → Prop
  | noop (f : FOp) (o : String)
      (ho : o = "noop" ∨ f = .query ∧
        o = s!"contexts={s.registry.length} loggers={(s.lgs.filter (fun l => !l.erased)).length}") :
      FrontShape s f (s, o)
  | tick (dt : Nat) : FrontShape s (.tick dt) ({ s with now := s.now + dt }, "ok")
  | tstart (a : Nat) (h : (s.actor a).isSome = false) :
      FrontShape s (.tstart a) ({ s with actors := s.actors ++ [{ id := a }] }, "ok")
  | texitCtx (a i : Nat) (hi : idleActor s a = true) (hc : (s.actor a).bind (·.ctx) = some i) :
      FrontShape s (.texit a)
        ({ (s.setActor a (fun x => { x with alive := false })).setTh i (fun t => { t with valid := false }) with
           invalidCnt := counterMod s.cfg (s.invalidCnt + 1) }, "ok")
  | texitNoCtx (a : Nat) (hi : idleActor s a = true) (hc : (s.actor a).bind (·.ctx) = none) :
      FrontShape s (.texit a) (s.setActor a (fun x => { x with alive := false }), "ok")
  | resume (a : Nat) {r : BSt × String} (hr : ResumeShape s a r) : FrontShape s (.resume a) (clearCall r a)
  | armStall (a : Nat) (hi : idleActor s a = true) :
      FrontShape s (.armStall a) (s.setActor a (fun x => { x with stallArmed := true }), "ok")
  | call {f : FOp} {a g lgi lvl len cont id : Nat} {kind : Kind} {dyn named : Bool} {s1 : BSt}
      (hf : CallOp s f a g kind lvl len cont dyn named) (hp : CallPre s g kind id s1)
      (hl : loggerOf s g = some lgi) (hi : idleActor s a = true) :
      FrontShape s f (noteCall (frontCall s1 a lgi kind lvl len cont dyn id named) a g)
  | logSkip {f : FOp} {a g lvl len cont : Nat} {dyn named : Bool} {lgi : Nat}
      (hf : f.asLog = some (a, g, lvl, len, cont, dyn, named))
      (hl : loggerOf s g = some lgi) (hi : idleActor s a = true) (hlv : shouldLog lvl (s.lgOf lgi).level = false) :
      FrontShape s f
        (noteCall ({ s with nextId := s.nextId + 1 },
          if dyn then s!"id={s.nextId} skip ev=0 bytes=0" else s!"id={s.nextId} ev=0 bytes=0") a g)
  | remove (a g : Nat) {lgi : Nat} (hb : loggerBusy s g = false) (hl : loggerOf s g = some lgi)
      (hi : idleActor s a = true) :
      FrontShape s (.remove a g)
        ({ (dropName s g).setLg lgi (fun l => { l with valid := false }) with hasInvalidLoggers := true }, "done")
  | createExisting (a g : Nat) (sl : List Nat) {i : Nat} (hi : idleActor s a = true) (hb : loggerBusy s g = false)
      (hs : sl.any (fun sid => !(s.sinks.any (fun k => k.sid = sid ∧ k.alive))) = false)
      (he : (List.range s.lgs.length).find? (fun i => (s.lgOf i).gid = g ∧ !(s.lgOf i).erased) = some i)
      (hv : (s.lgOf i).valid = true) :
      FrontShape s (.create a g sl)
        ({ dropName s g with names := (dropName s g).names ++ [(g, i)] }, s!"ok valid=1 nsinks={(s.lgOf i).sinks.length}")
  | createNew (a g : Nat) (sl : List Nat) (hi : idleActor s a = true) (hb : loggerBusy s g = false)
      (hs : sl.any (fun sid => !(s.sinks.any (fun k => k.sid = sid ∧ k.alive))) = false)
      (he : (List.range s.lgs.length).find? (fun i => (s.lgOf i).gid = g ∧ !(s.lgOf i).erased) = none) :
      FrontShape s (.create a g sl)
        ({ dropName s g with lgs := s.lgs ++ [{ gid := g, sinks := sl }],
                              names := (dropName s g).names ++ [(g, s.lgs.length)] }, s!"ok valid=1 nsinks={sl.length}")
  | setLevel (g lvl : Nat) {lgi : Nat} (hl : loggerOf s g = some lgi) :
      FrontShape s (.setLevel g lvl) (s.setLg lgi (fun l => { l with level := lvl }), "ok")
  | setSinkLevel (sid lvl : Nat) (h : s.sinks.any (fun k => k.sid = sid ∧ k.alive) = true) :
      FrontShape s (.setSinkLevel sid lvl) (s.setSink sid (fun k => { k with lvl := lvl }), "ok")
  | dropSink (sid : Nat) :
      FrontShape s (.dropSink sid) (reapSinks (s.setSink sid (fun k => { k with userRef := false })) [sid], "ok")

theorem withLogger_eq {s : BSt} {a g lgi : Nat} (k : Nat → BSt × String)
    (hl : loggerOf s g = some lgi) (hi : idleActor s a = true) : withLogger s a g k = noteCall (k lgi) a g := by
  unfold withLogger
  rw [hl, hi]

theorem withLogger_cases (s : BSt) (a g : Nat) (k : Nat → BSt × String) :
    (∃ lgi, loggerOf s g = some lgi ∧ idleActor s a = true ∧ withLogger s a g k = noteCall (k lgi) a g) ∨
    withLogger s a g k = (s, "noop") := by
  unfold withLogger
  cases hl : loggerOf s g with
  | none => exact .inr rfl
  | some lgi =>
    cases hi : idleActor s a
    · exact .inr rfl
    · exact .inl ⟨lgi, rfl, rfl, rfl⟩

theorem logMacro_shape {s : BSt} {f : FOp} {a g lvl len cont : Nat} {dyn named : Bool}
    (hf : f.asLog = some (a, g, lvl, len, cont, dyn, named)) :
    FrontShape s f (withLogger s a g (fun lgi =>
      if shouldLog lvl (({ s with nextId := s.nextId + 1 } : BSt).lgOf lgi).level then
        frontCall { s with nextId := s.nextId + 1 } a lgi .log lvl len cont dyn s.nextId named
      else ({ s with nextId := s.nextId + 1 },
        if dyn then s!"id={s.nextId} skip ev=0 bytes=0" else s!"id={s.nextId} ev=0 bytes=0"))) := by
  rcases withLogger_cases s a g _ with ⟨lgi, hl, hi, he⟩ | he <;> rw [he]
  · split
    · next h => exact .call (.log hf hl h) .log hl hi
    · next h => exact .logSkip hf hl hi (Bool.eq_false_iff.mpr h)
  · exact .noop _ _ (.inl rfl)

theorem applyFront_shape (s : BSt) (f : FOp) : FrontShape s f (applyFront s f) := by
  cases f with
  | tick dt => exact .tick dt
  | tstart a =>
    dsimp only [applyFront]
    split
    · exact .noop _ _ (.inl rfl)
    · next h => exact .tstart a (Bool.eq_false_iff.mpr h)
  | texit a =>
    dsimp only [applyFront]
    split
    · exact .noop _ _ (.inl rfl)
    · next h =>
      have hi : idleActor s a = true := by simpa only [Bool.not_eq_true', Bool.not_eq_false] using h
      split
      · next i hc => exact .texitCtx a i hi hc
      · next hc => exact .texitNoCtx a hi hc
  | resume a => exact .resume a (resume_shape s a)
  | armStall a =>
    dsimp only [applyFront]
    split
    · next h => exact .armStall a h
    · exact .noop _ _ (.inl rfl)
  | log a g lvl len dyn => exact logMacro_shape (f := .log a g lvl len dyn) rfl
  | logNamed a g len => exact logMacro_shape (f := .logNamed a g len) rfl
  | logBt a g len => exact logMacro_shape (f := .logBt a g len) rfl
  | initBt a g cap fl =>
    dsimp only [applyFront]
    rcases withLogger_cases s a g _ with ⟨lgi, hl, hi, he⟩ | he <;> rw [he]
    · exact .call (.initBt a g cap fl) (.initBt cap fl) hl hi
    · exact .noop _ _ (.inl rfl)
  | flushBt a g =>
    dsimp only [applyFront]
    rcases withLogger_cases s a g _ with ⟨lgi, hl, hi, he⟩ | he <;> rw [he]
    · exact .call (.flushBt a g) .flushBt hl hi
    · exact .noop _ _ (.inl rfl)
  | flush a g =>
    dsimp only [applyFront]
    rcases withLogger_cases s a g _ with ⟨lgi, hl, hi, he⟩ | he <;> rw [he]
    · exact .call (.flush a g) .flush hl hi
    · exact .noop _ _ (.inl rfl)
  | removeBlocking a g =>
    dsimp only [applyFront]
    split
    · exact .noop _ _ (.inl rfl)
    · next hb =>
      rcases withLogger_cases s a g _ with ⟨lgi, hl, hi, he⟩ | he <;> rw [he]
      · exact .call (.removeBlocking a g) (.removal (Bool.eq_false_iff.mpr hb)) hl hi
      · exact .noop _ _ (.inl rfl)
  | remove a g =>
    dsimp only [applyFront]
    split
    · exact .noop _ _ (.inl rfl)
    · next hb =>
      split
      · next lgi hl hi => exact .remove a g (Bool.eq_false_iff.mpr hb) hl hi
      · exact .noop _ _ (.inl rfl)
  | create a g sl =>
    dsimp only [applyFront]
    split
    · exact .noop _ _ (.inl rfl)
    · next hg =>
      have hg' : idleActor s a = true ∧ loggerBusy s g = false ∧
          sl.any (fun sid => !(s.sinks.any (fun k => k.sid = sid ∧ k.alive))) = false := by
        simpa only [not_or, Bool.not_eq_true', Bool.not_eq_false, Bool.not_eq_true] using hg
      split
      · next i he =>
        split
        · exact .noop _ _ (.inl rfl)
        · next hv => exact .createExisting a g sl hg'.1 hg'.2.1 hg'.2.2 he (by simpa only [Bool.not_eq_true', Bool.not_eq_false] using hv)
      · next he => exact .createNew a g sl hg'.1 hg'.2.1 hg'.2.2 he
  | setLevel g lvl =>
    dsimp only [applyFront]
    split
    · next lgi hl => exact .setLevel g lvl hl
    · exact .noop _ _ (.inl rfl)
  | setSinkLevel sid lvl =>
    dsimp only [applyFront]
    split
    · next h => exact .setSinkLevel sid lvl h
    · exact .noop _ _ (.inl rfl)
  | dropSink sid => exact .dropSink sid
  | query => exact .noop _ _ (.inr ⟨rfl, rfl⟩)

/-- the state `ensureCtx` builds when it adds a context: the fresh context stands where the default one was read -/
theorem rel_newCtx {r : Th → Th → Prop} (hr : ∀ t, r t t) (s : BSt) (a : Nat) (hnew : r default (mkTh s.cfg a))
    (i : Nat) :
    r (s.th i) ((({ s with ths := s.ths ++ [mkTh s.cfg a], registry := s.registry ++ [s.ths.length], newFlag := true } : BSt).setActor a
      (fun x => { x with ctx := some s.ths.length })).th i) := by
  show r (s.th i) ((s.ths ++ [mkTh s.cfg a]).getD i default)
  rw [getD_append_one]
  split
  · rename_i hi
    rw [th_default_of_ge s i (Nat.le_of_eq hi.symm)]; exact hnew
  · exact hr _

end Backend
