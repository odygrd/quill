import QuillModel.Backend.ConcGrow
/-!
# Progress of one poll while the frontend keeps running (for the progress of C06 / C09 under concurrency)

A poll — any injection table — in a state where some context's oldest pending record is past its grace period pops at least
one event (`poll_pops_or_blocked`), unless the pass found at least `soft` events and the batch guard
`has_pending_events_for_caching_when_transit_event_buffer_empty` answered true (some context has an empty transit buffer
and an unread queue): then the batch loop is left before anything is processed. No operation of any kind shortens the pop
history, so the length of the history bounds the number of operations of a schedule that pop (`productive_le`).
-/
namespace Backend.PB

def PopN (n : Nat) (s : BSt) : Prop := n ≤ s.popLog.length

theorem refreshCache_popLog (s : BSt) : (refreshCache s).popLog = s.popLog := by
  unfold refreshCache; split <;> rfl

theorem allEmpty_popLog (s : BSt) : (Backend.allEmpty s).1.popLog = s.popLog :=
  allEmpty_eq (·.popLog) (fun _ => rfl) (fun _ _ => rfl) s

theorem hasPending_popLog (s : BSt) : (Backend.hasPending s).1.popLog = s.popLog :=
  hasPending_pres (fun x => x.popLog = s.popLog) (fun x h => (refreshCache_popLog x).trans h) (fun _ _ h => h) s rfl

theorem flushSinks_popLog (s : BSt) : (flushSinks s).popLog = s.popLog :=
  congrArg Core2.popLog (slol_flushSinks s).core2

theorem popSt_popLog (s : BSt) (i : Nat) (st : Stmt) (rest : List Stmt) : (PC.popSt s i st rest).popLog = st :: s.popLog := by
  exact congrArg (st :: ·) (congrArg Core2.popLog (slol_procSt s st).core2)

theorem popLog_closed (Q : List Stmt → Prop) (hQ : ∀ st l, Q l → Q (st :: l)) : PC.Closed (fun s => Q s.popLog) where
  lastFlush := fun _ _ h => h
  siteCnt := fun _ _ h => h
  emitInj := fun _ _ _ _ _ h => h
  note := fun _ h => h
  clock := fun _ _ h => h
  gone := fun _ h => h
  refresh := fun s h => by rw [refreshCache_popLog]; exact h
  allEmpty := fun s h => by rw [allEmpty_popLog]; exact h
  hasPending := fun s h => by rw [hasPending_popLog]; exact h
  cleanupContexts := fun s h => by rw [cleanupContexts_popLog]; exact h
  invFlag := fun _ _ h => h
  erase := fun s i h _ _ => by
    show Q (Backend.allEmpty s).1.popLog
    rw [allEmpty_popLog]; exact h
  reap := fun _ _ h _ _ => h
  flagRemoval := fun _ _ _ _ _ h _ _ => h
  flushSinks := fun s h => by rw [flushSinks_popLog]; exact h
  readPrep := fun _ _ h => h
  commit := fun _ _ h => h
  readOne := fun s i st rest h _ _ => by
    show Q (PC.decodeSt (PC.readPrepSt s i) st).popLog
    unfold PC.decodeSt; split <;> exact h
  report := fun _ _ h _ => h
  pop := fun s i st rest h _ _ => by
    rw [popSt_popLog]; exact hQ st _ h
  raise := fun _ _ h _ => h
  front := fun s f h => by rw [PC.applyFront_popLog]; exact h

theorem popN_closed (n : Nat) : PC.Closed (PopN n) :=
  popLog_closed (fun l => n ≤ l.length) (fun _ _ h => Nat.le_succ_of_le h)

theorem popLog_mono_op (s : BSt) (o : Op) : s.popLog.length ≤ (applyOp s o).1.popLog.length :=
  PC.applyOp_closed (popN_closed _) s o (Nat.le_refl _)

theorem popLog_mono_run (s : BSt) (ops : List Op) : s.popLog.length ≤ (runOps s ops).popLog.length :=
  PC.runOps_closed (popN_closed _) ops s (Nat.le_refl _)

def popsOf (s : BSt) (o : Op) : Bool := decide (s.popLog.length < (applyOp s o).1.popLog.length)

def productive : BSt → List Op → Nat
  | _, [] => 0
  | s, o :: os => (if popsOf s o then 1 else 0) + productive (applyOp s o).1 os

theorem productive_le : ∀ (ops : List Op) (s : BSt), s.popLog.length + productive s ops ≤ (runOps s ops).popLog.length := by
  intro ops
  induction ops with
  | nil => intro s; exact Nat.le_refl _
  | cons o os ih0 =>
    intro s
    have ih := ih0 (applyOp s o).1
    rw [runOps_cons]
    have hm := popLog_mono_op s o
    unfold productive
    split
    · rename_i hp
      have : s.popLog.length < (applyOp s o).1.popLog.length := by simpa [popsOf] using hp
      omega
    · omega

variable {c : Cfg} {fl : Nat} {s : BSt}

theorem processLowest_cons (table : List (Nat × Nat × List FOp)) (s : BSt) (hne : ∃ i ∈ s.cache, (s.th i).buf ≠ []) :
    ∃ st, (Backend.processLowest (runInj table) s).1.popLog = st :: s.popLog ∧
      ∀ i ∈ s.cache, ∀ f fs, (s.th i).buf = f :: fs → st.ts ≤ f.ts := by
  -- what follows the pop of a Flush event pops nothing
  refine processLowest_pop (inj := runInj table)
    (fun x => ∃ st, x.popLog = st :: s.popLog ∧ ∀ i ∈ s.cache, ∀ f fs, (s.th i).buf = f :: fs → st.ts ≤ f.ts) s hne
    (fun j st rest _ hmin => ⟨st, popSt_popLog s j st rest, hmin⟩)
    (fun x i ⟨st, h, hm⟩ => ⟨st, (PC.runInj_popLog table _ 8).trans h, hm⟩)
    (fun x ⟨st, h, hm⟩ => ⟨st, (cleanupContexts_popLog x).trans h, hm⟩) (fun _ _ h => h)

theorem processLowest_pops (table : List (Nat × Nat × List FOp)) (s : BSt) (hne : ∃ i ∈ s.cache, (s.th i).buf ≠ []) :
    (Backend.processLowest (runInj table) s).1.popLog.length = s.popLog.length + 1 := by
  obtain ⟨st, e, _⟩ := processLowest_cons table s hne
  rw [e]; rfl

theorem poll_pops_or_blocked (table : List (Nat × Nat × List FOp)) (h : PIo c fl s) (i0 : Nat) (h0 : Stmt)
    (hd : (chain (s.th i0)).head? = some h0) (hripe : h0.ts + c.grace ≤ s.now) :
    s.popLog.length < (Backend.poll (runInj table) s).popLog.length ∨
    (s.cfg.soft ≤ (populate (runInj table) s).2 ∧ (Backend.hasPending (populate (runInj table) s).1).2 = true) := by
  have hi : InjOK (runInj table) := injOK_runInj table
  obtain ⟨g, hb, hc, hcnt⟩ := populate_conc hi (grow_front.runInj table) h i0 h0 hd hripe
  obtain ⟨flp, Cp, hpp⟩ := PIo.populate hi h
  have hinjN := fun n => PC.runInj_ok (popN_closed n) table
  have hm1 : s.popLog.length ≤ (populate (runInj table) s).1.popLog.length :=
    ((popN_closed _).toClosedB.passRules (hinjN _)).populate s (Nat.le_refl _)
  have hreg : i0 ∈ (populate (runInj table) s).1.registry :=
    g.reg i0 (h.reg i0 (by intro he; rw [he] at hd; cases hd))
  rw [poll_eq]
  generalize populate (runInj table) s = r at g hb hc hcnt hpp hm1 hreg ⊢
  -- context `i0` offers a buffered event in the cache, also after the guard has looked
  have f1 := fr_hasPending r.1
  have hb1 : ((Backend.hasPending r.1).1.th i0).buf ≠ [] := f1.buf_ne hb
  have hc1 := hpp.toPIo.hasPending.1.bufCache i0 (by rw [f1.reg]; exact hreg) hb1
  refine (pollTail_pops (PopN (r.1.popLog.length + 1)) r hcnt (Nat.le_of_eq (processLowest_pops table r.1 ⟨i0, hc, hb⟩).symm)
    (fun _ => Nat.le_of_eq ((processLowest_pops table _ ⟨i0, hc1, hb1⟩).trans (by rw [hasPending_popLog])).symm)
    (fun x fuel hx => ((popN_closed _).toClosedB.passRules (hinjN _)).batchLoop fuel _ (((hinjN _) x 4 hx).1))).imp
    (fun hq => Nat.lt_of_le_of_lt hm1 hq) (.imp_left fun hs => by rw [← g.cfg]; exact hs)

end Backend.PB
