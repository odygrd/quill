import QuillModel.Backend.ConsProofsDispatch
/-!
The conservation invariant `InvA` (C03 part 1): per context `accepted = popped ++ buf ++ qStmts`, coherence of
`qStmts` with the byte-exact queue, a removed context is invalid and empty, live actors own valid contexts.
This file: definition, preservation by the backend primitives (`Closed` minus `front`).
-/
namespace Backend.PA
open Spsc

structure ThOK (t : Th) : Prop where
  cons : t.accepted = t.popped ++ t.buf ++ t.qStmts
  coh : QCoh t.q t.qStmts
  rem : t.removed = true → t.valid = false ∧ t.buf = [] ∧ t.qStmts = []

def pendStmt : Pend → Option Stmt
  | .stall s _ => some s
  | .retry s _ => some s
  | _ => none

structure InvA (s : BSt) : Prop where
  hdr : 0 < s.cfg.hdr
  th : ∀ i, ThOK (s.th i)
  act : ∀ x ∈ s.actors, x.alive = true → ∀ i, x.ctx = some i →
          i < s.ths.length ∧ (s.th i).valid = true ∧ (s.th i).actor = x.id
  pend : ∀ x ∈ s.actors, ∀ st, pendStmt x.pend = some st → 0 < st.size
  reg : ∀ i, i < s.ths.length → i ∈ s.registry ∨ (s.th i).removed = true

theorem ThOK.default : ThOK (default : Th) :=
  ⟨rfl, QCoh.init 1 0, fun h => by simp [Inhabited.default] at h⟩

theorem InvA.of_eq {s s' : BSt} (h : InvA s) (h1 : s'.cfg = s.cfg) (h2 : s'.ths = s.ths)
    (h3 : s'.actors = s.actors) (h4 : ∀ i ∈ s.registry, i ∈ s'.registry) : InvA s' :=
  ⟨h1 ▸ h.hdr, fun i => by rw [th_of_ths_eq h2]; exact h.th i,
   fun x hx ha i hi => by rw [th_of_ths_eq h2, h2]; exact h.act x (h3 ▸ hx) ha i hi,
   fun x hx => h.pend x (h3 ▸ hx),
   fun i hi => by
     rw [th_of_ths_eq h2]
     rcases h.reg i (h2 ▸ hi) with hr | hr
     · exact Or.inl (h4 i hr)
     · exact Or.inr hr⟩

theorem InvA.of_core {s s' : BSt} (h : InvA s) (c : Core s s') : InvA s' :=
  h.of_eq c.cfg c.ths c.actors (fun _ hi => c.registry ▸ hi)

theorem InvA.setTh {s : BSt} (h : InvA s) (i : Nat) (f : Th → Th)
    (hok : ThOK (f (s.th i))) (hv : (f (s.th i)).valid = (s.th i).valid) (ha : (f (s.th i)).actor = (s.th i).actor)
    (hr : (f (s.th i)).removed = (s.th i).removed) : InvA (s.setTh i f) := by
  refine ⟨h.hdr, forall_th_setTh s i f h.th (fun _ => hok), ?_, h.pend, ?_⟩
  · intro x hx hal j hj
    obtain ⟨h1, h2, h3⟩ := h.act x hx hal j hj
    rw [th_setTh]
    refine ⟨by simpa using h1, ?_, ?_⟩
    · split
      · next hc => rw [hc.1, hv, ← hc.1]; exact h2
      · exact h2
    · split
      · next hc => rw [hc.1, ha, ← hc.1]; exact h3
      · exact h3
  · intro j hj
    rw [th_setTh]
    rcases h.reg j (by simpa using hj) with hreg | hrem
    · exact Or.inl hreg
    · right
      split
      · next hc => rw [hc.1, hr, ← hc.1]; exact hrem
      · exact hrem

theorem InvA.setQ {s : BSt} (h : InvA s) (i : Nat) (g : Th → St) (hq : QSame (s.th i).q (g (s.th i))) :
    InvA (s.setTh i (fun t => { t with q := g t })) :=
  h.setTh i _ ⟨(h.th i).cons, (h.th i).coh.of_same hq, (h.th i).rem⟩ rfl rfl rfl

theorem InvA.ctxEmpty {s : BSt} (h : InvA s) (i : Nat) : InvA (Backend.ctxEmpty s i).1 := by
  rw [ctxEmpty_fst]
  exact h.setQ i (fun _ => (qEmpty s.cfg (s.th i).q).1) (qEmpty_same _ _)

theorem InvA.empty_of_ctxEmpty {s : BSt} (h : InvA s) (i : Nat) (he : (Backend.ctxEmpty s i).2 = true) :
    (s.th i).buf = [] ∧ (s.th i).qStmts = [] := by
  rw [ctxEmpty_snd, Bool.and_eq_true] at he
  exact ⟨by simpa using he.2, (h.th i).coh.empty he.1⟩

theorem InvA.dropCtx {s : BSt} (h : InvA s) (i : Nat) (hv : (s.th i).valid = false)
    (he : (Backend.ctxEmpty s i).2 = true) : InvA (dropCtx (Backend.ctxEmpty s i).1 i) := by
  obtain ⟨hb, hq⟩ := h.empty_of_ctxEmpty i he
  have h1 := h.ctxEmpty i
  generalize hs1 : (Backend.ctxEmpty s i).1 = s1 at h1 ⊢
  have hth : s1.th i = if i < s.ths.length then { s.th i with q := (qEmpty s.cfg (s.th i).q).1 } else s.th i := by
    rw [← hs1, ctxEmpty_fst, th_setTh]
    simp
  have hv1 : (s1.th i).valid = false := by rw [hth]; split <;> exact hv
  have hb1 : (s1.th i).buf = [] := by rw [hth]; split <;> exact hb
  have hq1 : (s1.th i).qStmts = [] := by rw [hth]; split <;> exact hq
  unfold PA.dropCtx
  refine ⟨h1.hdr, ?_, ?_, h1.pend, ?_⟩
  · apply forall_th_setTh
    · exact h1.th
    · intro _
      exact ⟨(h1.th i).cons, (h1.th i).coh, fun _ => ⟨hv1, hb1, hq1⟩⟩
  · intro x hx hal j hj
    obtain ⟨a1, a2, a3⟩ := h1.act x hx hal j hj
    have hji : j ≠ i := by intro e; rw [e, hv1] at a2; cases a2
    rw [th_setTh_ne _ _ hji]
    exact ⟨by simpa using a1, a2, a3⟩
  · intro j hj
    by_cases hji : j = i
    · right
      subst hji
      rw [th_setTh_same _ _ (by simpa using hj)]
    · rw [th_setTh_ne _ _ hji]
      rcases h1.reg j (by simpa using hj) with hr | hr
      · left; exact List.mem_filter.mpr ⟨hr, by simpa using hji⟩
      · exact Or.inr hr

theorem InvA.readOne {s : BSt} (h : InvA s) (i : Nat) (st : Stmt) (rest : List Stmt)
    (hq : (s.th i).qStmts = st :: rest) : InvA (readOne s i st rest) := by
  obtain ⟨s0, fr, e⟩ := readOne_eq s i st rest
  rw [e]
  have hth : s0.th i = s.th i := th_of_ths_eq fr.ths i
  have hT := h.th i
  refine (h.of_core fr.core).setTh i _ ⟨?_, ?_, ?_⟩ rfl rfl rfl
  · show (s0.th i).accepted = (s0.th i).popped ++ ((s0.th i).buf ++ [st]) ++ rest
    rw [hth, hT.cons, hq]
    simp
  · show QCoh (qFinishRead s.cfg (qPrepareRead s.cfg (s.th i).q).1 st.size) rest
    exact QCoh.read (hq ▸ hT.coh.of_same (qPrepareRead_same _ _))
  · intro hr
    have := (hT.rem (hth ▸ hr)).2.2
    rw [hq] at this
    cases this

theorem InvA.pop {s : BSt} (h : InvA s) (i : Nat) (st : Stmt) (rest : List Stmt)
    (hb : (s.th i).buf = st :: rest) : InvA (popStep s i st rest) := by
  obtain ⟨s2, c, e⟩ := popStep_eq s i st rest
  rw [e]
  have hI : InvA ({ s2 with popLog := st :: s2.popLog } : BSt) := (h.of_core c).of_eq rfl rfl rfl (fun _ h => h)
  have he : ({ s2 with popLog := st :: s2.popLog } : BSt).th i = s.th i := th_of_ths_eq c.ths i
  have hT := hI.th i
  refine hI.setTh i _ ⟨?_, hT.coh, ?_⟩ rfl rfl rfl
  · show (BSt.th _ i).accepted = ((BSt.th _ i).popped ++ [st]) ++ rest ++ (BSt.th _ i).qStmts
    rw [hT.cons, he, hb]
    simp
  · intro hr
    have := (hT.rem hr).2.1
    rw [he, hb] at this
    cases this

theorem InvA.failReset {s : BSt} (h : InvA s) (i : Nat) : InvA (failReset s i) := by
  unfold PA.failReset
  have h1 : InvA (s.setTh i (fun t => { t with fail := 0 })) :=
    h.setTh i _ ⟨(h.th i).cons, (h.th i).coh, (h.th i).rem⟩ rfl rfl rfl
  exact h1.of_eq rfl rfl rfl (fun _ h => h)

theorem InvA.frame {s s' : BSt} (h : InvA s) (f : Frame s s') : InvA s' := h.of_core f.core

theorem InvA.refresh {s : BSt} (h : InvA s) : InvA (refreshCache s) := by
  unfold refreshCache
  split
  · exact h.of_eq rfl rfl rfl (fun _ h => h)
  · exact h

end Backend.PA
