import QuillModel.Backend.USkel
import QuillModel.Backend.UThread
import QuillModel.Backend.ConsProofsCoreFront
/-!
The conservation invariant of the unbounded-queue machine (`UI`: every context satisfies `TI` — conservation and chain
coherence —, the header is not empty, every parked statement has a positive size) and its preservation by the pieces
of a frontend call; that it is closed under the skeleton is `UI.closed` in `Backend/UInvClosed.lean`.
-/
namespace Backend.US
open Backend.PA Backend.UQ

structure UI (s : BSt) : Prop where
  hdr : 0 < s.cfg.hdr
  th : ∀ i, TI (s.th i)
  pend : ∀ x ∈ s.actors, ∀ st, pendStmt x.pend = some st → 0 < st.size

theorem UI.fresh {s : BSt} (hh : 0 < s.cfg.hdr) (ht : s.ths = []) (ha : s.actors = []) : UI s :=
  ⟨hh, fun i => by rw [th_of_ths_nil ht i]; exact TI.default, fun x hx => by rw [ha] at hx; cases hx⟩

theorem UI.aux {s s' : BSt} (h : UI s) (h1 : s'.cfg = s.cfg) (h2 : s'.ths = s.ths) (h3 : s'.actors = s.actors) : UI s' :=
  ⟨h1 ▸ h.hdr, fun i => by rw [th_of_ths_eq h2]; exact h.th i, fun x hx => h.pend x (h3 ▸ hx)⟩

theorem UI.setTh {s : BSt} (h : UI s) (i : Nat) (f : Th → Th) (hf : TI (s.th i) → TI (f (s.th i))) : UI (s.setTh i f) :=
  ⟨h.hdr, forall_th_setTh s i f h.th hf, h.pend⟩

theorem UI.setActor {s : BSt} (h : UI s) (a : Nat) (f : Actor → Actor)
    (hp : ∀ x ∈ s.actors, ∀ st, pendStmt (f x).pend = some st → 0 < st.size) : UI (s.setActor a f) := by
  refine ⟨h.hdr, h.th, ?_⟩
  intro y hy st hst
  obtain ⟨x, hx, rfl⟩ := mem_setActor hy
  split at hst
  · exact hp x hx st hst
  · exact h.pend x hx st hst

theorem UI.setPend {s : BSt} (h : UI s) (a : Nat) (p : Pend) (hp : ∀ st, pendStmt p = some st → 0 < st.size) :
    UI (s.setActor a (fun x => { x with pend := p })) :=
  h.setActor a _ (fun _ _ st hst => hp st hst)

theorem UI.setActorMisc {s : BSt} (h : UI s) (a : Nat) (f : Actor → Actor) (hf : ∀ x, (f x).pend = x.pend) :
    UI (s.setActor a f) :=
  h.setActor a f (fun x hx st hst => h.pend x hx st (by rw [← hf x]; exact hst))

/-- the statement of a parked call, read the way `resumeU` reads it -/
theorem UI.pend_of_map {s : BSt} (h : UI s) {a : Nat} {p : Pend} {st : Stmt}
    (hp : ((s.actor a).map (·.pend) : Option Pend) = some p) (hst : pendStmt p = some st) : 0 < st.size := by
  cases hs : s.actor a with
  | none => rw [hs] at hp; cases hp
  | some x =>
    rw [hs] at hp
    cases hp
    exact h.pend x (actor_find hs).2.2 st hst

theorem UI.ensureCtx {s : BSt} (h : UI s) (a : Nat) : UI (ensureCtx s a).1 := by
  unfold Backend.ensureCtx
  split
  · exact h
  · dsimp only
    refine UI.setActorMisc ?_ a _ (fun _ => rfl)
    refine ⟨h.hdr, fun j => ?_, h.pend⟩
    rw [th_append (s := s) rfl]
    split
    · exact TI.mkTh _ _
    · exact h.th j

theorem UI.afterEnq {s : BSt} (h : UI s) (a : Nat) (st : Stmt) (cont : Nat) : UI (afterEnq s a st cont).1 := by
  unfold Backend.afterEnq
  split
  · exact h.setPend a _ (fun st hst => by simp [pendStmt] at hst)
  · exact h.aux rfl rfl rfl
  · exact h
  · exact (h.aux (s' := { s.setLg st.lg (fun l => { l with valid := false }) with hasInvalidLoggers := true }) rfl rfl rfl).setPend a _
      (fun st hst => by simp [pendStmt] at hst)
  · exact h

theorem UI.noteCall {r : BSt × String} (h : UI r.1) (a gid : Nat) : UI (noteCall r a gid).1 := by
  unfold Backend.noteCall
  exact h.setActorMisc a _ (fun _ => rfl)

/-!
The walk of the frontend of the U machine, generic in a per-context predicate `T j t` (indexed by the context id, so
that one context can be exempted): `GI T c s` = `UI s`, `s.cfg = c` and `T j (s.th j)` for every `j`. If `T` is closed under the
context transformers the frontend uses (`TClosed`), `GI T` is closed under every frontend operation (`GI.frontU`) and
under the hook-site injection runner. Used for `UI` itself (`T` always true), for the publication invariant of C09 and
for "the failure counter of an unbounded context is never reset".
-/

structure TClosed (u : UP) (T : Nat → Th → Prop) : Prop where
  dflt : ∀ j, T j default
  fresh : ∀ j c a, T j (mkTh c a)
  prepW : ∀ j c t n, TI t → T j t → T j (uPrepareWrite c u.qmax t n).1
  enq : ∀ j c t (st : Stmt), TI t → 0 < st.size → T j t →
    T j { uFinishCommit c (uPrepareWrite c u.qmax t st.size).1 st.size with
            qStmts := t.qStmts ++ [st], accepted := t.accepted ++ [st] }
  shrink : ∀ j c t w, TI t → T j t → T j (uShrink c t w)
  bump : ∀ j t d1 d2, d1 + d2 = 1 → T j t →
    T j { t with fail := t.fail + 1, discarded := t.discarded + d1, blockedCalls := t.blockedCalls + d2 }
  inval : ∀ j t, T j t → T j { t with valid := false }

structure GI (T : Nat → Th → Prop) (c : Cfg) (s : BSt) : Prop where
  ui : UI s
  t : ∀ j, T j (s.th j)
  cfg : s.cfg = c

variable {u : UP} {T : Nat → Th → Prop} {c : Cfg}

theorem GI.fresh (hd : ∀ j, T j default) {s : BSt} (hh : 0 < s.cfg.hdr) (ht : s.ths = []) (ha : s.actors = []) :
    GI T s.cfg s :=
  ⟨UI.fresh hh ht ha, fun j => by rw [th_of_ths_nil ht j]; exact hd j, rfl⟩

theorem GI.aux {s s' : BSt} (h : GI T c s) (h1 : s'.cfg = s.cfg) (h2 : s'.ths = s.ths) (h3 : s'.actors = s.actors) : GI T c s' :=
  ⟨h.ui.aux h1 h2 h3, fun j => by rw [th_of_ths_eq h2]; exact h.t j, h1.trans h.cfg⟩

theorem GI.ofUI {s s' : BSt} (h : GI T c s) (hui : UI s') (h2 : s'.ths = s.ths) (h1 : s'.cfg = s.cfg := by rfl) : GI T c s' :=
  ⟨hui, fun j => by rw [th_of_ths_eq h2]; exact h.t j, h1.trans h.cfg⟩

theorem GI.setTh {s : BSt} (h : GI T c s) (i : Nat) (f : Th → Th) (hui : TI (s.th i) → TI (f (s.th i)))
    (hT : TI (s.th i) → T i (s.th i) → T i (f (s.th i))) : GI T c (s.setTh i f) := by
  refine ⟨h.ui.setTh i f hui, fun j => ?_, h.cfg⟩
  rw [th_setTh]
  split
  · next hc => rw [hc.1]; exact hT (h.ui.th i) (h.t i)
  · exact h.t j

theorem GI.ensureCtx (hc : TClosed u T) {s : BSt} (h : GI T c s) (a : Nat) : GI T c (ensureCtx s a).1 := by
  refine ⟨h.ui.ensureCtx a, ?_, by unfold Backend.ensureCtx; split <;> exact h.cfg⟩
  unfold Backend.ensureCtx
  split
  · exact h.t
  · dsimp only
    intro j
    rw [setActor_th, th_append (s := s) rfl]
    split
    · exact hc.fresh j _ _
    · exact h.t j

theorem GI.tryEnqU (hc : TClosed u T) {s : BSt} (h : GI T c s) (ci : Nat) (st : Stmt) (hsz : 0 < st.size) :
    GI T c (tryEnqU u s ci st).1 := by
  unfold Backend.tryEnqU
  dsimp only
  split
  · exact h.setTh ci _ (fun ht => TI.enq ht s.cfg u.qmax { st with enqAt := s.now } hsz)
      (fun ht hT => hc.enq ci s.cfg _ { st with enqAt := s.now } ht hsz hT)
  · exact h.setTh ci _ (fun ht => ht.prepareWrite s.cfg u.qmax st.size) (fun ht hT => hc.prepW ci s.cfg _ st.size ht hT)

theorem GI.afterEnq {s : BSt} (h : GI T c s) (a : Nat) (st : Stmt) (cont : Nat) : GI T c (afterEnq s a st cont).1 := by
  refine h.ofUI (h.ui.afterEnq a st cont) ?_ ?_
  · unfold Backend.afterEnq
    split <;> rfl
  · unfold Backend.afterEnq
    split <;> rfl

theorem GI.enqFlowU (hc : TClosed u T) {s : BSt} (h : GI T c s) (a : Nat) (st : Stmt) (cont : Nat) (first initial : Bool)
    (hsz : 0 < st.size) : GI T c (enqFlowU u s a st cont first initial).1 := by
  unfold Backend.enqFlowU
  have h1 := h.ensureCtx hc a
  generalize Backend.ensureCtx s a = r1 at h1
  obtain ⟨s1, ci⟩ := r1
  dsimp only at h1 ⊢
  have h2 := h1.tryEnqU hc ci st hsz
  generalize Backend.tryEnqU u s1 ci st = r2 at h2
  obtain ⟨s2, g⟩ := r2
  dsimp only at h2 ⊢
  have hnone : ∀ x : BSt, GI T c x → GI T c (x.setActor a (fun y => { y with pend := .none })) :=
    fun x hx => hx.ofUI (hx.ui.setPend a _ (fun st hst => by simp [pendStmt] at hst)) rfl
  have hretry : ∀ x : BSt, GI T c x → GI T c (x.setActor a (fun y => { y with pend := .retry st cont })) :=
    fun x hx => hx.ofUI (hx.ui.setPend a _ (fun st' hst => by
      simp only [pendStmt, Option.some.injEq] at hst
      rw [← hst]
      exact hsz)) rfl
  have hb : ∀ (d1 d2 : Nat), d1 + d2 = 1 → ∀ (x : BSt), GI T c x → GI T c (if isLogKind st.kind then
      x.setTh ci (fun t => { t with fail := t.fail + 1, discarded := t.discarded + d1,
                                    blockedCalls := t.blockedCalls + d2 }) else x) := by
    intro d1 d2 hd x hx
    split
    · exact hx.setTh ci _ (fun ht => ht.same rfl rfl rfl rfl rfl rfl) (fun _ hT => hc.bump ci _ d1 d2 hd hT)
    · exact hx
  cases g with
  | grant => exact (hnone _ h2).afterEnq a st cont
  | throw => exact hnone _ h2
  | null =>
    -- (`split` on these branches is slow to check: they carry the formatted observations)
    dsimp only
    cases hd : s.cfg.dropping
    · simp only [Bool.false_eq_true, if_false]
      apply hretry
      cases first
      · exact h2
      · exact hb _ _ rfl _ h2
    · simp only [if_true]
      by_cases hk : cont = 0 ∨ cont = 5
      · rw [if_pos hk]
        exact hnone _ (hb _ _ rfl _ h2)
      · rw [if_neg hk]
        exact hretry _ (hb _ _ rfl _ h2)

theorem GI.frontCallU (hc : TClosed u T) {s : BSt} (h : GI T c s) (a lgi : Nat) (kind : Kind) (lvl len cont : Nat) (dyn : Bool)
    (id : Nat) (named : Bool) : GI T c (frontCallU u s a lgi kind lvl len cont dyn id named).1 := by
  unfold Backend.frontCallU
  dsimp only
  have hsz := stmtSize_pos s.cfg kind id len dyn (s.lgOf lgi).gid h.ui.hdr
  split
  · refine h.ofUI (h.ui.setActor a _ (fun x _ st hst => ?_)) rfl
    simp only [pendStmt, Option.some.injEq] at hst
    rw [← hst]
    exact hsz
  · exact h.enqFlowU hc a _ cont true true hsz

theorem GI.resumeU (hc : TClosed u T) {s : BSt} (h : GI T c s) (a : Nat) : GI T c (resumeU u s a).1 := by
  unfold Backend.resumeU
  split
  · next st cont hp => exact h.enqFlowU hc a st cont true false (h.ui.pend_of_map hp rfl)
  · next st cont hp =>
    have hsz := h.ui.pend_of_map hp rfl
    split
    · exact h.enqFlowU hc a { st with ts := s.now } cont true false hsz
    · exact h.enqFlowU hc a st cont false false hsz
  · split
    · exact h.ofUI (h.ui.setPend a _ (fun st hst => by simp [pendStmt] at hst)) rfl
    · exact h
  · exact h

theorem GI.noteCall {r : BSt × String} (h : GI T c r.1) (a gid : Nat) : GI T c (noteCall r a gid).1 :=
  h.ofUI (UI.noteCall h.ui a gid) rfl

theorem GI.withLogger {s : BSt} (h : GI T c s) (a gid : Nat) (k : Nat → BSt × String) (hk : ∀ lgi, GI T c (k lgi).1) :
    GI T c (withLogger s a gid k).1 := by
  unfold Backend.withLogger
  split
  · exact GI.noteCall (hk _) a gid
  · exact h

/-- (over variables: `split` on a branch that carries a formatted observation is slow to check) -/
theorem GI.ite {b : Prop} [Decidable b] {x y : BSt × String} (hx : GI T c x.1) (hy : GI T c y.1) :
    GI T c (if b then x else y).1 := by
  split
  · exact hx
  · exact hy

theorem GI.frontU (hc : TClosed u T) {s : BSt} (h : GI T c s) (f : UFOp) : GI T c (applyFrontU u s f).1 := by
  have hmisc : ∀ s' : BSt, s'.cfg = s.cfg → s'.ths = s.ths → s'.actors = s.actors → GI T c s' :=
    fun s' h1 h2 h3 => h.aux h1 h2 h3
  cases f with
  | shrink a want =>
    simp only [applyFrontU]
    split
    · exact h
    · split
      · exact h
      · exact h.setTh _ _ (fun ht => ht.shrink s.cfg want) (fun ht hT => hc.shrink _ s.cfg _ want ht hT)
  | capq a =>
    simp only [applyFrontU]
    split
    · exact h
    · split <;> exact h
  | base f =>
    cases f with
    | tick dt => exact hmisc _ rfl rfl rfl
    | tstart a =>
      simp only [applyFrontU, applyFront]
      refine GI.ite h (h.ofUI ⟨h.ui.hdr, h.ui.th, fun x hx st hst => ?_⟩ rfl)
      rcases List.mem_append.mp hx with hx | hx
      · exact h.ui.pend x hx st hst
      · simp at hx
        subst hx
        simp [pendStmt] at hst
    | texit a =>
      simp only [applyFrontU, applyFront]
      have h1 : GI T c (s.setActor a (fun x => { x with alive := false })) :=
        h.ofUI (h.ui.setActorMisc a _ (fun _ => rfl)) rfl
      refine GI.ite h ?_
      split
      · next i _ =>
        have h2 := h1.setTh i (fun t => { t with valid := false }) (fun ht => ht.same rfl rfl rfl rfl rfl rfl)
          (fun _ hT => hc.inval _ _ hT)
        exact h2.aux rfl rfl rfl
      · exact h1
    | resume a =>
      simp only [applyFrontU]
      have h1 := h.resumeU hc a
      exact GI.ite h1 (GI.ite h1 (h1.ofUI (h1.ui.setActorMisc a _ (fun _ => rfl)) rfl))
    | armStall a =>
      simp only [applyFrontU, applyFront]
      exact GI.ite (h.ofUI (h.ui.setActorMisc a _ (fun _ => rfl)) rfl) h
    | log a g lvl len dyn | logNamed a g len | logBt a g len =>
      simp only [applyFrontU]
      apply h.withLogger
      intro lgi
      have h1 : GI T c { s with nextId := s.nextId + 1 } := hmisc _ rfl rfl rfl
      exact GI.ite (h1.frontCallU hc ..) h1
    | initBt a g cap fl | flushBt a g =>
      simp only [applyFrontU]
      exact h.withLogger _ _ _ (fun lgi => h.frontCallU hc ..)
    | flush a g =>
      simp only [applyFrontU]
      apply h.withLogger
      intro lgi
      have h1 : GI T c { s with nextFlag := s.nextFlag + 1 } := hmisc _ rfl rfl rfl
      exact h1.frontCallU hc ..
    | removeBlocking a g =>
      simp only [applyFrontU]
      refine GI.ite h (h.withLogger _ _ _ (fun lgi => ?_))
      have h1 : GI T c (dropName { s with nextFlag := s.nextFlag + 1 } g) := hmisc _ rfl rfl rfl
      exact h1.frontCallU hc ..
    | remove a g =>
      simp only [applyFrontU, applyFront]
      refine GI.ite h ?_
      split
      · exact hmisc _ rfl rfl rfl
      · exact h
    | create a g sl =>
      simp only [applyFrontU, applyFront]
      refine GI.ite h ?_
      split
      · exact GI.ite h (hmisc _ rfl rfl rfl)
      · exact hmisc _ rfl rfl rfl
    | setLevel g lvl | setSinkLevel sid lvl =>
      simp only [applyFrontU, applyFront]
      split
      · exact hmisc _ rfl rfl rfl
      · exact h
    | dropSink sid =>
      simp only [applyFrontU, applyFront]
      have hf := reapSinks_frame (s.setSink sid (fun k => { k with userRef := false })) [sid]
      exact (hmisc (s.setSink sid (fun k => { k with userRef := false })) rfl rfl rfl).aux hf.cfg hf.ths hf.actors
    | query => exact h

theorem GI.runInjU (hc : TClosed u T) (table : List (Nat × Nat × List UFOp)) (s : BSt) (site : Nat) (h : GI T c s) :
    GI T c (runInjU u table s site) :=
  runInjU_closed' (P := GI T c) (u := u) (fun _ _ h h1 h2 h3 => h.aux h1 h2 h3) (fun _ f h => h.frontU hc f) table s site h

end Backend.US
