import QuillModel.Backend.LiftObsDefs
/-!
Character-level facts on the observation texts: which formats the classifiers `isDropObs`, `isRet0Obs`,
`isAttemptObs` accept. The classifiers look at the end of a text, so a text is taken apart from its end: its last
character if that is no digit (`cls_nondigit`), or `=<digits>` and what stands before (`cls_digits`). The literals of a
format and of the patterns are split as strings and compared piece by piece; none is spelt out character by
character.
-/
namespace Backend.PC

theorem digits_toString (n : Nat) : ∀ x ∈ (toString n).toList, x.isDigit = true := by
  intro c hc
  have hc' : c ∈ Nat.toDigits 10 n := by simpa [toString, Nat.toList_repr] using hc
  exact Nat.isDigit_of_mem_toDigits (by decide) (by decide) hc'

theorem toString_ne_nil (n : Nat) : (toString n).toList ≠ [] := by
  simp [toString, Nat.toList_repr, Nat.toDigits_ne_nil]

theorem toString_ne_zero {n : Nat} (h : 0 < n) : (toString n).toList ≠ ['0'] := by
  intro e
  have e1 : Nat.toDigits 10 n = ['0'] := by simpa [toString, Nat.toList_repr] using e
  have e2 : Nat.ofDigitChars 10 (Nat.toDigits 10 n) 0 = n := Nat.ofDigitChars_ten_toDigits
  rw [e1] at e2
  have e3 : Nat.ofDigitChars 10 ['0'] 0 = 0 := by decide
  omega

theorem tw_digits (l r : List Char) (c : Char) (h : ∀ x ∈ l, x.isDigit = true) (hc : c.isDigit = false) :
    (l ++ c :: r).takeWhile Char.isDigit = l := by
  induction l with
  | nil => simp [hc]
  | cons x xs ih =>
    have hx := h x (by simp)
    simp only [List.cons_append, List.takeWhile_cons, hx, ↓reduceIte]
    rw [ih (fun y hy => h y (by simp [hy]))]

theorem dw_digits (l r : List Char) (c : Char) (h : ∀ x ∈ l, x.isDigit = true) (hc : c.isDigit = false) :
    (l ++ c :: r).dropWhile Char.isDigit = c :: r := by
  induction l with
  | nil => simp [hc]
  | cons x xs ih =>
    have hx := h x (by simp)
    simp only [List.cons_append, List.dropWhile_cons, hx, ↓reduceIte]
    rw [ih (fun y hy => h y (by simp [hy]))]

/-- a pattern `0=…` read backwards from the end of a text that ends with `=<digits>` -/
theorem pre0 (D P T : List Char) (hd : ∀ x ∈ D, x.isDigit = true)
    (h : ('0' :: '=' :: P).isPrefixOf (D ++ '=' :: T) = true) : D = ['0'] ∧ P.isPrefixOf T = true := by
  match D, hd, h with
  | [], _, h => simp only [List.nil_append, List.isPrefixOf_iff_prefix, List.cons_prefix_cons, Char.reduceEq, false_and] at h
  | [d], _, h =>
    simp only [List.cons_append, List.nil_append, List.isPrefixOf_iff_prefix, List.cons_prefix_cons, true_and] at h
    exact ⟨by rw [← h.1], by simpa using h.2⟩
  | d :: d2 :: D', hd, h =>
    have h2 : d2.isDigit = true := hd d2 (by simp)
    have : d2 ≠ '=' := by
      intro e; rw [e] at h2; exact absurd h2 (by decide)
    simp only [List.cons_append, List.isPrefixOf_iff_prefix, List.cons_prefix_cons] at h
    exact absurd h.2.1.symm this

theorem suffix_append_iff {P X W W' : List Char} (hl : W.length = W'.length) :
    (P ++ W) <:+ (X ++ W') ↔ W = W' ∧ P <:+ X := by
  constructor
  · rintro ⟨Z, h⟩
    rw [← List.append_assoc] at h
    obtain ⟨h1, h2⟩ := List.append_inj' h hl
    exact ⟨h2, Z, h1⟩
  · rintro ⟨rfl, Z, rfl⟩
    exact ⟨Z, by rw [List.append_assoc]⟩

theorem isDropObs_iff (t : String) : isDropObs t = true ↔ " ev=1 bytes=0".toList <:+ t.toList :=
  List.isSuffixOf_iff_suffix
theorem isRet0Obs_iff (t : String) : isRet0Obs t = true ↔ " ret=0 ev=1 bytes=0".toList <:+ t.toList :=
  List.isSuffixOf_iff_suffix

theorem toString_str (s : String) : toString s = s := rfl
theorem toList_0 : "0".toList = ['0'] := by simp
theorem toList_eq : "=".toList = ['='] := by simp
theorem toList_eq0 : "=0".toList = ['=', '0'] := by simp

theorem pat_ret0 : " ret=0 ev=1 bytes=0".toList = " ret=0".toList ++ " ev=1 bytes=0".toList := by
  have e : " ret=0 ev=1 bytes=0" = " ret=0" ++ " ev=1 bytes=0" := by simp
  rw [e, String.toList_append]
theorem pat_drop : " ev=1 bytes=0".toList = " ev=1 bytes".toList ++ ['=', '0'] := by
  have e : " ev=1 bytes=0" = " ev=1 bytes" ++ "=0" := by simp
  rw [e, String.toList_append, toList_eq0]
theorem pat_attempt : " ev=1 bytes=".toList = " ev=1 bytes".toList ++ ['='] := by
  have e : " ev=1 bytes=" = " ev=1 bytes" ++ "=" := by simp
  rw [e, String.toList_append, toList_eq]

theorem ret0_drop (t : String) : isRet0Obs t = true → isDropObs t = true := by
  rw [isRet0Obs_iff, isDropObs_iff, pat_ret0]
  exact fun h => List.IsSuffix.trans (List.suffix_append _ _) h

theorem not_drop_not_ret0 {t : String} (h : isDropObs t = false) : isRet0Obs t = false := by
  cases e : isRet0Obs t
  · rfl
  · rw [ret0_drop t e] at h; exact h

theorem attempt_eq {t : String} {X D : List Char} {c : Char} (e : t.toList = X ++ c :: D)
    (hd : ∀ x ∈ D, x.isDigit = true) (hc : c.isDigit = false) :
    isAttemptObs t = (!D.isEmpty && " ev=1 bytes=".toList.isSuffixOf (X ++ [c])) := by
  have er : t.toList.reverse = D.reverse ++ c :: X.reverse := by rw [e]; simp
  have hd' : ∀ x ∈ D.reverse, x.isDigit = true := fun x hx => hd x (List.mem_reverse.mp hx)
  unfold isAttemptObs
  rw [er, tw_digits _ _ _ hd' hc, dw_digits _ _ _ hd' hc]
  generalize " ev=1 bytes=".toList = A
  simp only [List.isEmpty_reverse, List.isSuffixOf, List.reverse_append, List.reverse_cons, List.reverse_nil,
    List.nil_append, List.cons_append]

theorem cls_nondigit {t : String} {X : List Char} {c : Char} (e : t.toList = X ++ [c]) (hc : c.isDigit = false) :
    isDropObs t = false ∧ isRet0Obs t = false ∧ isAttemptObs t = false := by
  have hd : isDropObs t = false := by
    rw [Bool.eq_false_iff, Ne, isDropObs_iff, pat_drop, e]
    generalize " ev=1 bytes".toList = B
    intro h
    have h' : (B ++ ['=']) ++ ['0'] <:+ X ++ [c] := by simpa using h
    have hc' : ['0'] = [c] := ((suffix_append_iff (W := ['0']) (W' := [c]) rfl).mp h').1
    cases hc'
    exact absurd hc (by decide)
  refine ⟨hd, not_drop_not_ret0 hd, ?_⟩
  rw [attempt_eq (D := []) e (fun _ h => by cases h) hc]
  rfl

/-- `P=0` at the end of `X=<digits>`: the digits are `0` and `P` ends `X` -/
theorem suffix_eq0 {P X D : List Char} (hd : ∀ x ∈ D, x.isDigit = true) (h : (P ++ ['=', '0']) <:+ (X ++ '=' :: D)) :
    D = ['0'] ∧ P <:+ X := by
  -- read from the end: `0=` and `P` against the digits, `=` and `X`
  have h' : ('0' :: '=' :: P.reverse).isPrefixOf (D.reverse ++ '=' :: X.reverse) = true := by
    simpa [List.isSuffixOf] using List.isSuffixOf_iff_suffix.mpr h
  obtain ⟨h1, h2⟩ := pre0 _ _ _ (fun x hx => hd x (List.mem_reverse.mp hx)) h'
  exact ⟨by simpa using congrArg List.reverse h1, List.isSuffixOf_iff_suffix.mp h2⟩

/-- a text that ends with `=<digits>`: it is an attempted line exactly when ` ev=1 bytes` stands before the `=`, and a
refused one only if moreover the digits are `0` -/
theorem cls_digits {t : String} {X D : List Char} (e : t.toList = X ++ '=' :: D) (hd : ∀ x ∈ D, x.isDigit = true)
    (hne : D ≠ []) :
    isAttemptObs t = " ev=1 bytes".toList.isSuffixOf X ∧
      (isDropObs t = true → D = ['0'] ∧ " ev=1 bytes".toList.isSuffixOf X = true) := by
  constructor
  · have hD : D.isEmpty = false := by
      cases D
      · exact absurd rfl hne
      · rfl
    rw [attempt_eq e hd (by decide), pat_attempt, hD, Bool.eq_iff_iff]
    simp only [Bool.not_false, Bool.true_and]
    rw [List.isSuffixOf_iff_suffix, List.isSuffixOf_iff_suffix, suffix_append_iff rfl]
    exact ⟨fun h => h.2, fun h => ⟨rfl, h⟩⟩
  · intro h
    rw [isDropObs_iff, pat_drop, e] at h
    exact ⟨(suffix_eq0 hd h).1, List.isSuffixOf_iff_suffix.mpr (suffix_eq0 hd h).2⟩

theorem suffix_mismatch {P X W : List Char} {a b : Char} (h : a ≠ b) : ¬ (P ++ a :: W) <:+ (X ++ b :: W) :=
  fun hs => h (List.cons.inj ((suffix_append_iff (W := a :: W) (W' := b :: W) rfl).mp hs).1).1

/-- a text `…b W=<digits>` where the pattern has another character than `b` before the same `W` is no log line -/
theorem cls_mismatch {t : String} {Y W D P : List Char} {a b : Char} (e : t.toList = (Y ++ b :: W) ++ '=' :: D)
    (hp : " ev=1 bytes".toList = P ++ a :: W) (hab : a ≠ b) (hd : ∀ x ∈ D, x.isDigit = true) (hne : D ≠ []) :
    isDropObs t = false ∧ isRet0Obs t = false ∧ isAttemptObs t = false := by
  obtain ⟨h1, h2⟩ := cls_digits e hd hne
  have hs : " ev=1 bytes".toList.isSuffixOf (Y ++ b :: W) = false := by
    rw [Bool.eq_false_iff, Ne, List.isSuffixOf_iff_suffix, hp]
    exact suffix_mismatch hab
  have hdrop : isDropObs t = false := by
    rw [Bool.eq_false_iff]
    intro h
    rw [(h2 h).2] at hs
    cases hs
  exact ⟨hdrop, not_drop_not_ret0 hdrop, h1.trans hs⟩

theorem pat_ev1 : " ev=1 bytes".toList = " ev=".toList ++ '1' :: " bytes".toList := by
  have e : " ev=1 bytes" = " ev=" ++ "1" ++ " bytes" := by simp
  rw [e, String.toList_append, String.toList_append, show "1".toList = ['1'] by simp, List.append_assoc]
  rfl
theorem pat_es : " ev=1 bytes".toList = " ev=1 byt".toList ++ 'e' :: ['s'] := by
  have e : " ev=1 bytes" = " ev=1 byt" ++ "es" := by simp
  rw [e, String.toList_append, show "es".toList = ['e', 's'] by simp]

theorem quiet_cls {t : String} (h : Quiet t) :
    isDropObs t = false ∧ isRet0Obs t = false ∧ isAttemptObs t = false := by
  -- a text that ends with a letter
  have hletter : ∀ (p q r l : String) (c : Char), q = r ++ l → l.toList = [c] → c.isDigit = false →
      isDropObs (p ++ q) = false ∧ isRet0Obs (p ++ q) = false ∧ isAttemptObs (p ++ q) = false := by
    intro p q r l c hq hl hc
    exact cls_nondigit (X := p.toList ++ r.toList) (by rw [hq, String.toList_append, String.toList_append, hl, List.append_assoc]) hc
  have h0 : ∀ x ∈ ['0'], x.isDigit = true := by decide
  cases h with
  | ok => exact cls_nondigit (X := ['o']) (c := 'k') (by simp) (by decide)
  | noop => exact cls_nondigit (X := ['n', 'o', 'o']) (c := 'p') (by simp) (by decide)
  | done => exact cls_nondigit (X := ['d', 'o', 'n']) (c := 'e') (by simp) (by decide)
  | ev => exact cls_nondigit (X := ['e']) (c := 'v') (by simp) (by decide)
  | sleep => exact hletter "" "parked:sleep" "parked:slee" "p" 'p' (by simp) (by simp) (by decide)
  | stall => exact hletter "" "parked:stall" "parked:stal" "l" 'l' (by simp) (by simp) (by decide)
  | idStall n => exact hletter _ _ " parked:stal" "l" 'l' (by simp [toString_str]) (by simp) (by decide)
  | idSleep n => exact hletter _ _ " parked:slee" "p" 'p' (by simp [toString_str]) (by simp) (by decide)
  | skip n =>
    have hq : " skip ev=0 bytes=0" = " skip ev=" ++ "0" ++ " bytes" ++ "=0" := by simp
    refine cls_mismatch (Y := (toString "id=" ++ toString n).toList ++ " skip ev=".toList) (b := '0') (D := ['0']) ?_ pat_ev1
      (by decide) h0 (by simp)
    rw [hq]
    simp only [toString_str, String.toList_append, List.append_assoc, toList_0, toList_eq0, List.cons_append, List.nil_append]
  | ev0 n =>
    have hq : " ev=0 bytes=0" = " ev=" ++ "0" ++ " bytes" ++ "=0" := by simp
    refine cls_mismatch (Y := (toString "id=" ++ toString n).toList ++ " ev=".toList) (b := '0') (D := ['0']) ?_ pat_ev1
      (by decide) h0 (by simp)
    rw [hq]
    simp only [toString_str, String.toList_append, List.append_assoc, toList_0, toList_eq0, List.cons_append, List.nil_append]
  | created k =>
    have hq : "ok valid=1 nsinks=" = "ok valid=1 nsin" ++ "ks" ++ "=" := by simp
    refine cls_mismatch (Y := "ok valid=1 nsin".toList) (b := 'k') ?_ pat_es (by decide) (digits_toString k)
      (toString_ne_nil k)
    rw [hq]
    simp only [toString_str, String.toList_append, List.append_assoc, toList_eq, List.cons_append, List.nil_append,
      show "ks".toList = ['k', 's'] by simp]
  | query a b =>
    have hq : " loggers=" = " logge" ++ "rs" ++ "=" := by simp
    refine cls_mismatch (Y := (toString "contexts=" ++ toString a).toList ++ " logge".toList) (b := 'r') ?_ pat_es
      (by decide) (digits_toString b) (toString_ne_nil b)
    rw [hq]
    simp only [toString_str, String.toList_append, List.append_assoc, toList_eq, List.cons_append, List.nil_append,
      show "rs".toList = ['r', 's'] by simp]

theorem attempt_true {t : String} {Z D : List Char} (e : t.toList = (Z ++ " ev=1 bytes".toList) ++ '=' :: D)
    (hd : ∀ x ∈ D, x.isDigit = true) (hne : D ≠ []) : isAttemptObs t = true :=
  (cls_digits e hd hne).1.trans (List.isSuffixOf_iff_suffix.mpr (List.suffix_append _ _))

/-- the line of a refused LOG_DYNAMIC call -/
theorem drop0_cls (n : Nat) :
    isDropObs s!"id={n} ret=0 ev=1 bytes=0" = true ∧ isRet0Obs s!"id={n} ret=0 ev=1 bytes=0" = true ∧
      isAttemptObs s!"id={n} ret=0 ev=1 bytes=0" = true := by
  have h2 : isRet0Obs s!"id={n} ret=0 ev=1 bytes=0" = true := by
    rw [isRet0Obs_iff, String.toList_append]
    exact List.suffix_append _ _
  refine ⟨ret0_drop _ h2, h2, ?_⟩
  have hq : " ret=0 ev=1 bytes=0" = " ret=0" ++ " ev=1 bytes" ++ "=0" := by simp
  refine attempt_true (Z := (toString "id=" ++ toString n).toList ++ " ret=0".toList) (D := ['0']) ?_ (by decide) (by simp)
  rw [hq]
  simp only [toString_str, String.toList_append, List.append_assoc, toList_eq0]

/-- the line of a refused ordinary log call -/
theorem drop5_cls (n : Nat) :
    isDropObs s!"id={n} ev=1 bytes=0" = true ∧ isRet0Obs s!"id={n} ev=1 bytes=0" = false ∧
      isAttemptObs s!"id={n} ev=1 bytes=0" = true := by
  refine ⟨?_, ?_, ?_⟩
  · rw [isDropObs_iff, String.toList_append]
    exact List.suffix_append _ _
  · rw [Bool.eq_false_iff, Ne, isRet0Obs_iff, pat_ret0, String.toList_append]
    intro h
    -- ` ret=0` would have to end `id=<digits>`
    have h1 : " ret=0".toList <:+ (toString "id=" ++ toString n).toList := ((suffix_append_iff rfl).mp h).2
    have e1 : " ret=0".toList = " ret".toList ++ ['=', '0'] := by
      rw [show " ret=0" = " ret" ++ "=0" by simp, String.toList_append, toList_eq0]
    have e2 : (toString "id=" ++ toString n).toList = "id".toList ++ '=' :: (toString n).toList := by
      rw [show toString "id=" = "id" ++ "=" by simp [toString_str]]
      simp only [String.toList_append, List.append_assoc, toList_eq, List.cons_append, List.nil_append]
    rw [e1, e2] at h1
    have h3 := (suffix_eq0 (digits_toString n) h1).2.length_le
    simp only [String.reduceToList, List.length_cons, List.length_nil, Nat.zero_add, Nat.reduceAdd, Nat.reduceLeDiff] at h3
  · have hq : " ev=1 bytes=0" = " ev=1 bytes" ++ "=0" := by simp
    refine attempt_true (Z := (toString "id=" ++ toString n).toList) (D := ['0']) ?_ (by decide) (by simp)
    rw [hq]
    simp only [toString_str, String.toList_append, List.append_assoc, toList_eq0]

/-- the line of an accepted log call, general form -/
theorem acc_cls' (id sz : Nat) (r : String) (hsz : 0 < sz) :
    isDropObs s!"id={id}{r} ev=1 bytes={sz}" = false ∧ isRet0Obs s!"id={id}{r} ev=1 bytes={sz}" = false ∧
      isAttemptObs s!"id={id}{r} ev=1 bytes={sz}" = true := by
  have hq : " ev=1 bytes=" = " ev=1 bytes" ++ "=" := by simp
  have e : (s!"id={id}{r} ev=1 bytes={sz}").toList =
      ((toString "id=" ++ toString id ++ r).toList ++ " ev=1 bytes".toList) ++ '=' :: (toString sz).toList := by
    rw [hq]
    simp only [toString_str, String.toList_append, List.append_assoc, toList_eq, List.cons_append, List.nil_append]
  have hd : isDropObs s!"id={id}{r} ev=1 bytes={sz}" = false := by
    rw [Bool.eq_false_iff]
    exact fun h => toString_ne_zero hsz ((cls_digits e (digits_toString sz) (toString_ne_nil sz)).2 h).1
  exact ⟨hd, not_drop_not_ret0 hd, attempt_true e (digits_toString sz) (toString_ne_nil sz)⟩

theorem acc_cls (st : Stmt) (c : Nat) (hc : c = 0 ∨ c = 5) (hsz : 0 < st.size) :
    isDropObs (obsLog st c (some true) st.size) = false ∧ isRet0Obs (obsLog st c (some true) st.size) = false ∧
      isAttemptObs (obsLog st c (some true) st.size) = true := by
  cases hc with
  | inl h => subst h; exact acc_cls' st.id st.size " ret=1" hsz
  | inr h => subst h; exact acc_cls' st.id st.size "" hsz

end Backend.PC
