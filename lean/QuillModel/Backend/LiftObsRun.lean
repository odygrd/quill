import QuillModel.Backend.LiftObsFront
import QuillModel.Backend.LiftObsStr
/-!
Counting invariant over whole runs: for a classifier `w` of observation texts and a measure `mw (Σ discarded) (Σ accepted
ordinary statements)` that grows by one exactly on the texts `w` accepts (`StepOK`), the measure equals the number of
`w`-lines among the top-level observations plus the number among the result texts of the `Ev.inj` events of the history.
The injection runner is walked with `injStep` (frontend operation + its `Ev.inj`) as one unit.
-/
namespace Backend.PC

def wt (w : String → Bool) (t : String) : Nat := if w t then 1 else 0

theorem wt_true {w : String → Bool} {t : String} (h : w t = true) : wt w t = 1 := by simp [wt, h]
theorem wt_false {w : String → Bool} {t : String} (h : w t = false) : wt w t = 0 := by simp [wt, h]

def cntT (w : String → Bool) : List String → Nat
  | [] => 0
  | t :: l => wt w t + cntT w l

def StepOK (mw : Nat → Nat → Nat) (w : String → Bool) : Prop :=
  ∀ c d a d' a' t, Out c d a d' a' t → mw d' a' = mw d a + wt w t

def Pd (mw : Nat → Nat → Nat) (w : String → Bool) (c : Nat) (s : BSt) : Prop :=
  s.cfg.dropping = true ∧ AOK s ∧ mw (dsum s) (asum s) = cntT w (injT s.log) + c

variable {mw : Nat → Nat → Nat} {w : String → Bool}

theorem Pd.congr {c : Nat} {s s' : BSt} (hv : vw s' = vw s) (h : Pd mw w c s) : Pd mw w c s' := by
  have h1 : injT s'.log = injT s.log := congrArg (·.1) hv
  have h2 : dk s' = dk s := congrArg (·.2.1) hv
  have h3 : s'.actors = s.actors := congrArg (·.2.2.1) hv
  have h4 : s'.cfg.dropping = s.cfg.dropping := congrArg (·.2.2.2) hv
  refine ⟨h4.trans h.1, h.2.1.of_eq h3 (by rw [← dk_length, ← dk_length, h2]; exact Nat.le_refl _), ?_⟩
  simp only [dsum, asum, h2, h1]
  exact h.2.2

theorem Pd.closedC (c : Nat) : ClosedC (Pd mw w c) := closedC_of_congr (fun _ _ hv h => Pd.congr hv h)

theorem Pd.step {c c0 : Nat} {s s' : BSt} {t : String} (hs : StepOK mw w) (h : Pd mw w c s) (st : Step c0 s s' t) :
    Pd mw w (c + wt w t) s' := by
  refine ⟨st.drp.trans h.1, st.aok, ?_⟩
  rw [hs _ _ _ _ _ _ st.out, st.log, h.2.2]
  omega

/-- the `Ev.inj` event that records the text of a step takes back what the text added to the constant -/
theorem Pd.record {c : Nat} {r : BSt × String} (h : Pd mw w (c + wt w r.2) r.1) (site k : Nat) (nm : String) :
    Pd mw w c (r.1.emit (.inj site k nm r.2)) := by
  refine ⟨h.1, h.2.1.of_eq rfl (Nat.le_refl _), ?_⟩
  show mw (dsum r.1) (asum r.1) = cntT w (r.2 :: injT r.1.log) + c
  rw [h.2.2]
  simp only [cntT]
  omega

theorem Pd.injStep {c : Nat} {s : BSt} (hs : StepOK mw w) (h : Pd mw w c s) (site k : Nat) (f : FOp) :
    Pd mw w c (injStep site k s f) := by
  have st : ∃ c0, Step c0 s (injRes site s f).1 (injRes site s f).2 := by
    rcases injRes_cases site s f with e | e <;> rw [e]
    · exact ⟨5, Step.same rfl rfl rfl h.2.1 .noop⟩
    · exact ⟨_, front_step s f h.1 h.2.1⟩
  obtain ⟨c0, st⟩ := st
  exact (h.step hs st).record site k f.show

theorem injOK_of_injStep {P : BSt → Prop} (table : List (Nat × Nat × List FOp)) (hcg : ∀ s x, P s → P { s with siteCnt := x })
    (hst : ∀ e ∈ table, ∀ f ∈ e.2.2, ∀ site k x, P x → P (injStep site k x f)) : InjOK P (runInj table) :=
  injOK_runInj table (fun s site h => runInj_rule P table s site (hcg s _ h) (fun e he _ f hf x hx => hst e he f hf site _ x hx))

theorem Pd.injOK {c : Nat} (hs : StepOK mw w) (table : List (Nat × Nat × List FOp)) :
    InjOK (Pd mw w c) (runInj table) :=
  injOK_of_injStep table (fun _ _ h => Pd.congr rfl h) (fun _ _ f _ site k _ hx => hx.injStep hs site k f)

theorem applyOp_wt {P : Nat → BSt → Prop} (hev : wt w "ev" = 0) (hno : wt w "noop" = 0) (hcl : ∀ c, ClosedC (P c))
    (hcg : ∀ c s x, P c s → P c { s with siteCnt := x }) {c : Nat} {s : BSt} (h : P c s) (o : Op)
    (hf : ∀ f, o = .front f → P (c + wt w (applyFront s f).2) (applyFront s f).1)
    (hi : ∀ table, o = .poll table ∨ o = .exit ∧ table = [] → InjOK (P c) (runInj table)) :
    P (c + wt w (applyOp s o).2) (applyOp s o).1 :=
  applyOp_rule (fun x o => P (c + wt w o) x) s o hf (fun _ => by rw [hno]; exact h)
    (fun table e _ => by rw [hev]; exact ((hcl c).passRules (hi table (.inl e))).poll _ (hcg c s [] h))
    (fun e _ => by rw [hev]; exact (hcl c).gone _ (((hcl c).passRules (hi [] (.inr ⟨e, rfl⟩))).exitLoop _ _ _ (hcg c s [] h)))

theorem run_wt {P : Nat → BSt → Prop} {ok : Op → Prop}
    (hop : ∀ c s o, ok o → P c s → P (c + wt w (applyOp s o).2) (applyOp s o).1) :
    ∀ (ops : List Op) (c : Nat) (s : BSt), (∀ o ∈ ops, ok o) → P c s → P (c + cntT w (runObs s ops).2) (runOps s ops)
  | [], _, _, _, h => h
  | o :: os, c, s, hall, h => by
    have h1 := run_wt hop os _ _ (fun o' ho' => hall o' (List.mem_cons_of_mem _ ho')) (hop c s o (hall o List.mem_cons_self) h)
    show P (c + (wt w (Backend.applyOp s o).2 + cntT w (runObs (Backend.applyOp s o).1 os).2)) (runOps (Backend.applyOp s o).1 os)
    rw [← Nat.add_assoc]
    exact h1

theorem Pd.applyOp {c : Nat} {s : BSt} (hs : StepOK mw w) (hq : ∀ t, Quiet t → w t = false) (h : Pd mw w c s) (o : Op) :
    Pd mw w (c + wt w (applyOp s o).2) (applyOp s o).1 :=
  applyOp_wt (wt_false (hq _ .ev)) (wt_false (hq _ .noop)) Pd.closedC (fun _ _ _ h => Pd.congr rfl h) h o
    (fun f _ => h.step hs (front_step s f h.1 h.2.1)) (fun table _ => Pd.injOK hs table)

theorem Pd.run (hs : StepOK mw w) (hq : ∀ t, Quiet t → w t = false) :
    ∀ (ops : List Op) (c : Nat) (s : BSt), Pd mw w c s → Pd mw w (c + cntT w (runObs s ops).2) (runOps s ops) :=
  fun ops c s h => run_wt (ok := fun _ => True) (fun _ _ o _ h => h.applyOp hs hq o) ops c s (fun _ _ => trivial) h

/-- drop lines ↔ `discarded` -/
theorem stepOK_drop : StepOK (fun d _ => d) isDropObs := by
  intro c d a d' a' t h
  show d' = d + wt isDropObs t
  cases h with
  | quiet hd _ hq => rw [wt_false (quiet_cls hq).1, hd]; rfl
  | acc hd _ hc ht =>
    obtain ⟨st, hsz, rfl⟩ := ht
    rw [wt_false (acc_cls st c hc hsz).1, hd]; rfl
  | drop0 hd _ _ ht => obtain ⟨n, rfl⟩ := ht; rw [wt_true (drop0_cls n).1, hd]
  | drop5 hd _ _ ht => obtain ⟨n, rfl⟩ := ht; rw [wt_true (drop5_cls n).1, hd]

/-- attempt lines ↔ `discarded` + accepted ordinary statements -/
theorem stepOK_attempt : StepOK (fun d a => d + a) isAttemptObs := by
  intro c d a d' a' t h
  show d' + a' = d + a + wt isAttemptObs t
  cases h with
  | quiet hd ha hq => rw [wt_false (quiet_cls hq).2.2, hd, ha]; rfl
  | acc hd ha hc ht =>
    obtain ⟨st, hsz, rfl⟩ := ht
    rw [wt_true (acc_cls st c hc hsz).2.2, hd, ha]; omega
  | drop0 hd ha _ ht => obtain ⟨n, rfl⟩ := ht; rw [wt_true (drop0_cls n).2.2, hd, ha]; omega
  | drop5 hd ha _ ht => obtain ⟨n, rfl⟩ := ht; rw [wt_true (drop5_cls n).2.2, hd, ha]; omega

theorem cntT_mono {w1 w2 : String → Bool} (h : ∀ t, w1 t = true → w2 t = true) : ∀ l, cntT w1 l ≤ cntT w2 l
  | [] => Nat.le_refl _
  | t :: l => by
    have := cntT_mono h l
    simp only [cntT, wt]
    cases h1 : w1 t
    · simp; omega
    · simp [h t h1]; omega

end Backend.PC

namespace Backend
open Backend.PA Backend.PC

theorem C08_cntT_eq_countP (w : String → Bool) : ∀ l : List String, cntT w l = l.countP w
  | [] => rfl
  | t :: l => by
    rw [List.countP_cons, ← C08_cntT_eq_countP w l]
    simp only [cntT, wt]; omega

/-- the skeleton counts with `cntT` (injected texts first, top-level texts on top of the start value 0) -/
theorem countP_of_cntT {w : String → Bool} {d : Nat} {inj obs : List String} (h : d = cntT w inj + (0 + cntT w obs)) :
    d = obs.countP w + inj.countP w := by
  rw [← C08_cntT_eq_countP, ← C08_cntT_eq_countP]; omega

theorem C08_dsum_eq_ctrs (s : BSt) : dsum s = ((ctrs s).map (fun c => c.2.1)).sum := by
  rw [dsum_ths]
  simp only [ctrs, List.map_map]
  rfl

theorem ret0_iff_of_out {d a d' a' : Nat} {t : String} (h : Out 0 d a d' a' t) :
    (isRet0Obs t = true ↔ d' = d + 1) ∧ (isRet0Obs t = false ↔ d' = d) := by
  cases h with
  | quiet hd _ hq => rw [(quiet_cls hq).2.1, hd]; simp
  | acc hd _ hc ht =>
    obtain ⟨st, hsz, rfl⟩ := ht
    rw [(acc_cls st 0 hc hsz).2.1, hd]; simp
  | drop0 hd _ _ ht =>
    obtain ⟨n, rfl⟩ := ht
    rw [(drop0_cls n).2.1, hd]; simp
  | drop5 _ _ hc _ => cases hc

def NoCallInFlight (s : BSt) : Prop := ∀ x ∈ s.actors, x.ctx = none ∧ x.pend = Pend.none

theorem C08_no_actor_no_call (s : BSt) (h : s.actors = []) : NoCallInFlight s := by
  intro x hx
  rw [h] at hx
  cases hx

theorem NoCallInFlight.aok {s : BSt} (h : NoCallInFlight s) : AOK s := by
  intro x hx
  obtain ⟨h1, h2⟩ := h x hx
  refine ⟨fun i hi => ?_, ?_⟩
  · rw [h1] at hi; cases hi
  · rw [h2]; exact True.intro

theorem pd_start {mw : Nat → Nat → Nat} {w : String → Bool} (hz : mw 0 0 = 0) (s0 : BSt) (hd : s0.cfg.dropping = true)
    (hs : Started s0) (hl : s0.log = []) (hn : NoCallInFlight s0) : Pd mw w 0 s0 := by
  refine ⟨hd, hn.aok, ?_⟩
  have h1 : dsum s0 = 0 := by simp [dsum, dk, hs.ths]
  have h2 : asum s0 = 0 := by simp [asum, dk, hs.ths]
  rw [h1, h2, hl, hz]; rfl

end Backend
