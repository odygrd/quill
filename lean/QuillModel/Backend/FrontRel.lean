import QuillModel.Backend.FrontRules
/-!
Two-state relations along the frontend. A reflexive, transitive relation between states that holds across the few state
changes an enqueue attempt is made of (`StepRel`) holds across `enqFlow`, across a statement-producing public call and
across `resume`. `FrontSteps` lists every state change the frontend is made of — besides those of an enqueue attempt a
handful of writes to a logger, a sink and the event log; a relation that holds across them holds across every operation
`applyFront s f` and across whatever `runInj` injects at a hook site. `FrontRel` is the case of a relation that does not
look at loggers, sinks and events at all (`FrontRel.steps`). A function of the state that the steps do not change is the
case `R s s' := φ s' = φ s`. For what reads only sinks, emitted events and the fixed part of the logger objects:
`sinkPart` is the same after every operation but three (`front_sinkPart`).
-/
namespace Backend

structure StepRel (R : BSt → BSt → Prop) : Prop where
  refl : ∀ s, R s s
  trans : ∀ {a b c}, R a b → R b c → R a c
  setActor : ∀ s a f, R s (s.setActor a f)
  ensureCtx : ∀ s a, R s (ensureCtx s a).1
  tryEnq : ∀ s ci st, R s (tryEnq s ci st).1
  afterEnq : ∀ s a st cont, R s (afterEnq s a st cont).1
  bumpFail : ∀ d s ci st, R s (bumpFail d s ci st)

variable {R : BSt → BSt → Prop}

theorem StepRel.enqFlow (h : StepRel R) (s : BSt) (a : Nat) (st : Stmt) (cont : Nat) (first initial : Bool) :
    R s (enqFlow s a st cont first initial).1 :=
  enqFlow_rule (fun _ => R s) (fun _ => R s) (R s) (h.ensureCtx s a)
    (fun ci x hx _ => h.trans (h.trans (h.trans hx (h.tryEnq x ci st)) (h.setActor _ a _)) (h.afterEnq _ a st cont))
    (fun ci x hx _ => h.trans hx (h.tryEnq x ci st))
    (fun ci x hx _ => h.trans hx (h.bumpFail _ x ci st))
    (fun _ x hx _ _ => h.trans hx (h.setActor x a _))
    (fun _ x hx _ => h.trans hx (h.setActor x a _))

theorem StepRel.call (h : StepRel R) (s : BSt) (a lgi : Nat) (kind : Kind) (lvl len cont : Nat) (dyn : Bool) (id : Nat)
    (named : Bool) (g : Nat) : R s (noteCall (Backend.frontCall s a lgi kind lvl len cont dyn id named) a g).1 :=
  call_rule (R s) (R s) g (fun _ => h.setActor s a _) (h.enqFlow s a _ cont true true)
    (fun x hx => h.trans hx (h.setActor x a _))

theorem StepRel.resume (h : StepRel R) {s : BSt} {a : Nat} {r : BSt × String} (hs : ResumeShape s a r) :
    R s (clearCall r a).1 :=
  have h1 : R s r.1 := resume_rule (R s) hs (fun _ _ _ _ _ _ _ _ => h.enqFlow ..) (fun _ _ _ _ _ => h.setActor s a _) (h.refl s)
  clearCall_pres (R s) h1 (fun _ => h.trans h1 (h.setActor _ a _))

/-- every state change the frontend is made of. Such a relation cannot read what the steps rewrite freely: the fields of
    `act`, and of a context its counters and marks (`setThMisc` keeps only queue, buffer and the two histories). -/
structure FrontSteps (R : BSt → BSt → Prop) : Prop where
  refl : ∀ s, R s s
  trans : ∀ {a b c}, R a b → R b c → R a c
  tick : ∀ s dt, R s { s with now := s.now + dt }
  act : ∀ s (actors : List Actor) (names : List (Nat × Nat)) (hasInvalidLoggers : Bool) (invalidCnt nextFlag nextId : Nat)
    (siteCnt : List (Nat × Nat)),
    R s { s with actors := actors, names := names, hasInvalidLoggers := hasInvalidLoggers, invalidCnt := invalidCnt,
                 nextFlag := nextFlag, nextId := nextId, siteCnt := siteCnt }
  setThMisc : ∀ s i (f : Th → Th),
    (∀ t, (f t).q = t.q ∧ (f t).qStmts = t.qStmts ∧ (f t).buf = t.buf ∧ (f t).accepted = t.accepted) →
    (∀ t, (f t).popped = t.popped) → R s (s.setTh i f)
  ensureCtx : ∀ s a, R s (ensureCtx s a).1
  tryEnq : ∀ s ci st, R s (tryEnq s ci st).1
  setLg : ∀ s i (f : Lg → Lg),
    (∀ l, f l = { l with valid := (f l).valid, level := (f l).level, btFlush := (f l).btFlush }) → R s (s.setLg i f)
  newLg : ∀ s g sl, R s { s with lgs := s.lgs ++ [{ gid := g, sinks := sl }] }
  setSink : ∀ s sid (f : Sink → Sink),
    (∀ k, f k = { k with lvl := (f k).lvl, userRef := (f k).userRef, alive := (f k).alive }) → R s (s.setSink sid f)
  dtor : ∀ s sid, R s (s.emit (.sinkDtor sid))
  injEv : ∀ s site k op res, R s (s.emit (.inj site k op res))

/-- the steps of an enqueue attempt: an actor's fields are miscellaneous, `afterEnq` moreover writes a logger's marks, a
    bump touches counters only -/
theorem FrontSteps.toStepRel (hR : FrontSteps R) : StepRel R where
  refl := hR.refl
  trans := hR.trans
  setActor := fun s _ _ => hR.act s ..
  ensureCtx := hR.ensureCtx
  tryEnq := hR.tryEnq
  afterEnq := fun s a st cont => by
    unfold Backend.afterEnq
    split
    · exact hR.act s ..
    · exact hR.setLg s _ _ (fun _ => rfl)
    · exact hR.refl s
    · exact hR.trans (hR.setLg s st.lg (fun l => { l with valid := false }) (fun _ => rfl)) (hR.act _ ..)
    · exact hR.refl s
  bumpFail := fun d s ci st => by
    unfold Backend.bumpFail
    split
    · exact hR.setThMisc s ci _ (fun _ => ⟨rfl, rfl, rfl, rfl⟩) (fun _ => rfl)
    · exact hR.refl s

theorem FrontSteps.reapSinks (hR : FrontSteps R) (s : BSt) (l : List Nat) : R s (reapSinks s l) :=
  reapSinks_pres (R s) (fun x sid hx _ _ => hR.trans hx (hR.trans
    (hR.setSink x sid (fun k => { k with alive := false }) (fun _ => rfl)) (hR.dtor _ sid))) l s (hR.refl s)

/-- a relation is walked as the predicate `R s0` (no side invariant, every record admitted) -/
theorem FrontSteps.rules (hR : FrontSteps R) (s0 : BSt) : FrontRules (fun _ => True) (R s0) (fun _ _ _ => True) where
  enq s a _ st cont first initial _ h _ _ := hR.trans h (hR.toStepRel.enqFlow s a st cont first initial)
  stall s _ _ _ _ _ h _ _ := hR.trans h (hR.act s ..)
  parked _ _ _ _ _ _ _ _ _ := ⟨trivial, trivial⟩
  flagDone s _ _ _ _ h _ _ _ := hR.trans h (hR.act s ..)
  actorMisc s _ _ h _ := hR.trans h (hR.act s ..)
  pre s _ _ _ _ _ _ _ h hp _ _ := ⟨hR.trans h (by cases hp <;> exact hR.act s ..), fun _ _ _ _ => trivial⟩
  tick s dt h := hR.trans h (hR.tick s dt)
  tstart s _ _ h _ := hR.trans h (hR.act s ..)
  texitCtx s a i _ h _ _ :=
    hR.trans h (hR.trans (hR.trans (hR.act s ..)
      (hR.setThMisc (s.setActor a (fun x => { x with alive := false })) i (fun t => { t with valid := false })
        (fun _ => ⟨rfl, rfl, rfl, rfl⟩) (fun _ => rfl))) (hR.act _ ..))
  texitNoCtx s _ _ h _ _ := hR.trans h (hR.act s ..)
  remove s _ g lgi _ h _ _ _ :=
    hR.trans h (hR.trans (hR.trans (b := dropName s g) (hR.act s ..)
      (hR.setLg _ lgi (fun l => { l with valid := false }) (fun _ => rfl))) (hR.act _ ..))
  createExisting s _ _ _ h _ _ _ := hR.trans h (hR.act s ..)
  createNew s g sl _ h _ _ _ := hR.trans h (hR.trans (hR.newLg s g sl) (hR.act _ ..))
  setLevel s _ lvl _ h _ := hR.trans h (hR.setLg s _ (fun l => { l with level := lvl }) (fun _ => rfl))
  setSinkLevel s sid lvl h := hR.trans h (hR.setSink s sid (fun k => { k with lvl := lvl }) (fun _ => rfl))
  dropSink s sid _ h :=
    hR.trans h (hR.trans (hR.setSink s sid (fun k => { k with userRef := false }) (fun _ => rfl)) (hR.reapSinks _ _))

theorem FrontSteps.applyFront (hR : FrontSteps R) (s : BSt) (f : FOp) : R s (applyFront s f).1 :=
  (hR.rules s).applyFront (fun _ _ _ _ _ _ _ => trivial) s f trivial (hR.refl s)

theorem FrontSteps.runInj (hR : FrontSteps R) (table : List (Nat × Nat × List FOp)) (s : BSt) (site : Nat) :
    R s (runInj table s site) :=
  runInj_rule (R s) table s site (hR.act s ..) (fun _ _ _ f _ x hx =>
    injStep_pres (R s) hx (fun _ => hR.trans hx (hR.applyFront x f)) (fun _ _ hy => hR.trans hy (hR.injEv ..)))

/-- the case of a relation that also ignores loggers, sinks and emitted events (`misc`). For `R s s' := φ s' = φ s`,
    `ensureCtx` and `tryEnq` come from `of_sinkPart φ _ (sinkPart_stepRel.…)` below, as in `PC.fv3_frontRel`. -/
structure FrontRel (R : BSt → BSt → Prop) : Prop where
  refl : ∀ s, R s s
  trans : ∀ {a b c}, R a b → R b c → R a c
  tick : ∀ s dt, R s { s with now := s.now + dt }
  misc : ∀ s (actors : List Actor) (lgs : List Lg) (names : List (Nat × Nat)) (sinks : List Sink) (hasInvalidLoggers : Bool)
    (invalidCnt nextFlag nextId : Nat) (out : List Ev) (siteCnt : List (Nat × Nat)) (log : List Ev),
    R s { s with actors := actors, lgs := lgs, names := names, sinks := sinks, hasInvalidLoggers := hasInvalidLoggers,
                 invalidCnt := invalidCnt, nextFlag := nextFlag, nextId := nextId, out := out, siteCnt := siteCnt,
                 log := log }
  setThMisc : ∀ s i (f : Th → Th),
    (∀ t, (f t).q = t.q ∧ (f t).qStmts = t.qStmts ∧ (f t).buf = t.buf ∧ (f t).accepted = t.accepted) →
    (∀ t, (f t).popped = t.popped) → R s (s.setTh i f)
  ensureCtx : ∀ s a, R s (ensureCtx s a).1
  tryEnq : ∀ s ci st, R s (tryEnq s ci st).1

theorem FrontRel.steps (hR : FrontRel R) : FrontSteps R where
  refl := hR.refl
  trans := hR.trans
  tick := hR.tick
  act s _ _ _ _ _ _ _ := hR.misc s ..
  setThMisc := hR.setThMisc
  ensureCtx := hR.ensureCtx
  tryEnq := hR.tryEnq
  setLg s _ _ _ := hR.misc s ..
  newLg s _ _ := hR.misc s ..
  setSink s _ _ _ := hR.misc s ..
  dtor s _ := hR.misc s ..
  injEv s _ _ _ _ := hR.misc s ..

theorem FrontRel.applyFront (hR : FrontRel R) (s : BSt) (f : FOp) : R s (applyFront s f).1 := hR.steps.applyFront s f

theorem FrontRel.runInj (hR : FrontRel R) (table : List (Nat × Nat × List FOp)) (s : BSt) (site : Nat) :
    R s (runInj table s site) := hR.steps.runInj table s site

/-- of a logger object, what no frontend operation rewrites: its name, sinks and backtrace storage, and whether it is
    erased (an accepted control request and `setLevel` write the other fields) -/
def lgPart (l : Lg) : Lg := { l with valid := true, level := 0, btFlush := 0 }

/-- the part of the state that a frontend operation leaves alone unless it creates a logger object, sets a sink's level
    or drops a sink (`front_sinkPart`): the sinks, the emitted events, what only the backend writes and `lgPart` of the
    logger objects -/
def sinkPart (s : BSt) : BSt :=
  { s with now := 0, ths := [], registry := [], newFlag := false, invalidCnt := 0, lgs := s.lgs.map lgPart, names := [],
           hasInvalidLoggers := false, actors := [], nextFlag := 0, nextId := 0 }

theorem of_sinkPart {α} (φ : BSt → α) (hφ : ∀ s, φ (sinkPart s) = φ s) {s s' : BSt} (e : sinkPart s' = sinkPart s) :
    φ s' = φ s := by
  rw [← hφ s', e, hφ]

theorem sinkPart_with (s : BSt) (nw th rg nf ic nm hi ac fl id) :
    sinkPart { s with now := nw, ths := th, registry := rg, newFlag := nf, invalidCnt := ic, names := nm,
                      hasInvalidLoggers := hi, actors := ac, nextFlag := fl, nextId := id } = sinkPart s := rfl

theorem sinkPart_setActor (s : BSt) (a : Nat) (f : Actor → Actor) : sinkPart (s.setActor a f) = sinkPart s :=
  sinkPart_with s ..

theorem sinkPart_setTh (s : BSt) (i : Nat) (f : Th → Th) : sinkPart (s.setTh i f) = sinkPart s := sinkPart_with s ..

theorem sinkPart_dropName (s : BSt) (g : Nat) : sinkPart (dropName s g) = sinkPart s := sinkPart_with s ..

theorem sinkPart_setLg (s : BSt) (i : Nat) (f : Lg → Lg) (hf : ∀ l, lgPart (f l) = lgPart l) :
    sinkPart (s.setLg i f) = sinkPart s := by
  show { sinkPart s with lgs := (updAt s.lgs i f).map lgPart } = sinkPart s
  rw [map_updAt _ _ _ _ hf]
  rfl

theorem sinkPart_stepRel : StepRel (fun s s' => sinkPart s' = sinkPart s) where
  refl := fun _ => rfl
  trans := fun h h' => h'.trans h
  setActor := sinkPart_setActor
  ensureCtx := fun s a => by
    unfold Backend.ensureCtx
    split
    · rfl
    · exact (sinkPart_setActor ..).trans (sinkPart_with s ..)
  tryEnq := fun s ci st => by
    unfold Backend.tryEnq
    dsimp only
    split <;> exact sinkPart_setTh ..
  afterEnq := fun s a st cont => by
    unfold Backend.afterEnq
    split
    · exact sinkPart_setActor ..
    · exact sinkPart_setLg _ _ _ (fun _ => rfl)
    · rfl
    · exact Eq.trans (sinkPart_setActor ..) (Eq.trans (sinkPart_with ..) (sinkPart_setLg _ _ _ (fun _ => rfl)))
    · rfl
  bumpFail := fun d s ci st => by
    unfold Backend.bumpFail
    split
    · exact sinkPart_setTh ..
    · rfl

theorem front_sinkPart (s : BSt) (f : FOp) :
    sinkPart (applyFront s f).1 = sinkPart s ∨
    (∃ a g sl nm, f = .create a g sl ∧ (∀ sid ∈ sl, ∃ k ∈ s.sinks, k.sid = sid ∧ k.alive = true) ∧
      (applyFront s f).1 = { s with lgs := s.lgs ++ [{ gid := g, sinks := sl }], names := nm }) ∨
    (∃ sid lvl, f = .setSinkLevel sid lvl ∧ (applyFront s f).1 = s.setSink sid (fun k => { k with lvl := lvl })) ∨
    (∃ sid, (applyFront s f).1 = reapSinks (s.setSink sid (fun k => { k with userRef := false })) [sid]) := by
  have hs := applyFront_shape s f
  generalize Backend.applyFront s f = r at hs ⊢
  induction hs with
  | noop => exact .inl rfl
  | tick | tstart => exact .inl (sinkPart_with s ..)
  | texitCtx a i => exact .inl ((sinkPart_with ..).trans ((sinkPart_setTh ..).trans (sinkPart_setActor ..)))
  | texitNoCtx | armStall => exact .inl (sinkPart_setActor ..)
  | resume a hr => exact .inl (sinkPart_stepRel.resume hr)
  | call _ hp => exact .inl ((sinkPart_stepRel.call ..).trans (hp.proj sinkPart (fun _ _ _ _ => rfl)))
  | logSkip => exact .inl ((sinkPart_setActor ..).trans (sinkPart_with s ..))
  | remove a g =>
    exact .inl (Eq.trans (sinkPart_with ..) (Eq.trans (sinkPart_setLg _ _ _ (fun _ => rfl)) (sinkPart_dropName ..)))
  | createExisting => exact .inl ((sinkPart_with ..).trans (sinkPart_dropName ..))
  | setLevel => exact .inl (sinkPart_setLg _ _ _ (fun _ => rfl))
  | createNew a g sl _ _ hs =>
    refine .inr (.inl ⟨a, g, sl, _, rfl, fun sid hsid => ?_, rfl⟩)
    have hk := (List.any_eq_false.mp hs) sid hsid
    simp only [Bool.not_eq_true', Bool.not_eq_false, List.any_eq_true, decide_eq_true_eq] at hk
    exact hk
  | setSinkLevel sid lvl => exact .inr (.inr (.inl ⟨sid, lvl, rfl, rfl⟩))
  | dropSink sid => exact .inr (.inr (.inr ⟨sid, rfl⟩))

end Backend
