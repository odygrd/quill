import QuillModel.Backend.FlushStep
import QuillModel.Backend.CtxRel
/-!
# What quiet backend steps do to the pending records

A *quiet* injection runner performs no frontend operation at the hook sites (`runInj []`). `Fr s s'`: reading steps —
the pending records `buffer ++ queue` of every context are the same list, buffers only grow; `Sub s s'`: quiet backend
steps — pending records are only lost at the front, by a pop. The steps of the read pass are `Fr` steps, so a relation that
contains `Fr` is a `ReadRel` (`ReadRel.ofFr`); `Sub` is a `BackRel`, and a pop makes the count of pending records fall.
`pollTail_pops`: the tail of a poll that found something pops something unless the batch guard stops it — for any
quantity a pop moves (`processLowest_pop`): the pending count here, the pop history in `ConcProgress.lean`.
-/
namespace Backend.PB

/-- the injection runner does nothing but count the visit -/
def Quiet (inj : BSt → Nat → BSt) : Prop := ∀ s k, ∃ x, inj s k = { s with siteCnt := x }

theorem quiet_runInj_nil : Quiet (runInj []) := by
  intro s k
  exact ⟨_, rfl⟩

theorem Quiet.injOK {inj : BSt → Nat → BSt} (hq : Quiet inj) : InjOK inj := by
  intro c fl T C s site h
  obtain ⟨x, hx⟩ := hq s site
  rw [hx]; exact h.frame rfl

theorem Quiet.injOK2 {inj : BSt → Nat → BSt} (hq : Quiet inj) : InjOK2 inj := by
  intro pf s site h
  obtain ⟨x, hx⟩ := hq s site
  rw [hx]; exact h.frame rfl

structure ThSub (t t' : Th) : Prop where
  chain : chain t' <:+ chain t
  acc : t'.accepted = t.accepted

structure SubG (s s' : BSt) : Prop where
  cfg : s'.cfg = s.cfg
  now : s.now ≤ s'.now
  len : s'.ths.length = s.ths.length
  gone : s'.backendGone = s.backendGone
  flags : ∀ f ∈ s.flags, f ∈ s'.flags
  actors : s'.actors = s.actors

abbrev Sub := CtxRel SubG ThSub

theorem ThSub.refl (t : Th) : ThSub t t := ⟨List.suffix_refl _, rfl⟩
theorem ThSub.trans {a b c : Th} (h1 : ThSub a b) (h2 : ThSub b c) : ThSub a c :=
  ⟨h2.chain.trans h1.chain, h2.acc.trans h1.acc⟩
theorem ThSub.ofSame {t t' : Th} (hb : t'.buf = t.buf) (hq : t'.qStmts = t.qStmts) (ha : t'.accepted = t.accepted) :
    ThSub t t' := ⟨by simp only [PB.chain, hb, hq]; exact List.suffix_refl _, ha⟩

theorem subParts : CtxParts SubG ThSub where
  grefl := fun _ => ⟨rfl, Nat.le_refl _, rfl, rfl, fun _ h => h, rfl⟩
  gtrans := fun h1 h2 => ⟨h2.cfg.trans h1.cfg, Nat.le_trans h1.now h2.now, h2.len.trans h1.len, h2.gone.trans h1.gone,
    fun f hf => h2.flags f (h1.flags f hf), h2.actors.trans h1.actors⟩
  gsetTh := fun s i f => ⟨rfl, Nat.le_refl _, ths_length_setTh s i f, rfl, fun _ h => h, rfl⟩
  rrefl := ThSub.refl
  rtrans := ThSub.trans

theorem Sub.refl (s : BSt) : Sub s s := CtxRel.refl subParts s
theorem Sub.trans {a b c : BSt} (h1 : Sub a b) (h2 : Sub b c) : Sub a c := CtxRel.trans subParts h1 h2

structure ThFr (t t' : Th) : Prop where
  chain : chain t' = chain t
  buf : ∃ l, t'.buf = t.buf ++ l
  acc : t'.accepted = t.accepted

structure Fr (s s' : BSt) : Prop where
  cfg : s'.cfg = s.cfg
  now : s'.now = s.now
  len : s'.ths.length = s.ths.length
  gone : s'.backendGone = s.backendGone
  flags : s'.flags = s.flags
  reg : s'.registry = s.registry
  actors : s'.actors = s.actors
  th : ∀ j, ThFr (s.th j) (s'.th j)

theorem ThFr.refl (t : Th) : ThFr t t := ⟨rfl, ⟨[], by simp⟩, rfl⟩
theorem ThFr.trans {a b c : Th} (h1 : ThFr a b) (h2 : ThFr b c) : ThFr a c := by
  obtain ⟨l1, e1⟩ := h1.buf
  obtain ⟨l2, e2⟩ := h2.buf
  exact ⟨h2.chain.trans h1.chain, ⟨l1 ++ l2, by rw [e2, e1, List.append_assoc]⟩, h2.acc.trans h1.acc⟩

theorem Fr.refl (s : BSt) : Fr s s := ⟨rfl, rfl, rfl, rfl, rfl, rfl, rfl, fun _ => ThFr.refl _⟩
theorem Fr.trans {a b c : BSt} (h1 : Fr a b) (h2 : Fr b c) : Fr a c :=
  ⟨h2.cfg.trans h1.cfg, h2.now.trans h1.now, h2.len.trans h1.len, h2.gone.trans h1.gone, h2.flags.trans h1.flags,
   h2.reg.trans h1.reg, h2.actors.trans h1.actors, fun j => (h1.th j).trans (h2.th j)⟩

theorem Fr.sub {s s' : BSt} (h : Fr s s') : Sub s s' :=
  ⟨⟨h.cfg, Nat.le_of_eq h.now.symm, h.len, h.gone, fun f hf => by rw [h.flags]; exact hf, h.actors⟩,
   fun j => ⟨by rw [(h.th j).chain]; exact List.suffix_refl _, (h.th j).acc⟩⟩

theorem Fr.ofEq {s s' : BSt} (h1 : s'.cfg = s.cfg) (h2 : s'.now = s.now) (h3 : s'.ths = s.ths)
    (h4 : s'.backendGone = s.backendGone) (h5 : s'.flags = s.flags) (h6 : s'.registry = s.registry)
    (h7 : s'.actors = s.actors := by rfl) : Fr s s' :=
  ⟨h1, h2, by rw [h3], h4, h5, h6, h7, rel_of_ths ThFr.refl h3⟩

theorem Fr.quiet {inj : BSt → Nat → BSt} (hq : Quiet inj) (s : BSt) (k : Nat) : Fr s (inj s k) := by
  obtain ⟨x, hx⟩ := hq s k
  rw [hx]; exact Fr.ofEq rfl rfl rfl rfl rfl rfl

theorem Fr.setTh (s : BSt) (i : Nat) (f : Th → Th) (hf : ThFr (s.th i) (f (s.th i))) : Fr s (s.setTh i f) :=
  ⟨rfl, rfl, ths_length_setTh s i f, rfl, rfl, rfl, rfl, rel_setTh ThFr.refl s i f hf⟩

theorem ThFr.ofSame {t t' : Th} (hb : t'.buf = t.buf) (hq : t'.qStmts = t.qStmts) (ha : t'.accepted = t.accepted) :
    ThFr t t' := ⟨by simp only [PB.chain, hb, hq], ⟨[], by simp [hb]⟩, ha⟩

theorem lt_of_mem_chain {s : BSt} {i : Nat} {st : Stmt} (h : st ∈ chain (s.th i)) : i < s.ths.length :=
  lt_length_of_th (P := fun t => st ∈ chain t) h (fun h => nomatch h)

/-- records accepted by some queue and not yet popped, over all contexts -/
def pendingCount (s : BSt) : Nat := ((List.range s.ths.length).map (fun j => (chain (s.th j)).length)).sum

theorem Sub.pending_le {s s' : BSt} (h : Sub s s') : pendingCount s' ≤ pendingCount s := by
  unfold pendingCount
  rw [h.glob.len]
  exact List.sum_range_le _ _ _ (fun j _ => (h.th j).chain.length_le)

theorem pending_zero {s : BSt} (h : pendingCount s = 0) (j : Nat) : chain (s.th j) = [] := by
  by_cases hj : j < s.ths.length
  · unfold pendingCount at h
    have : (chain (s.th j)).length ≤ ((List.range s.ths.length).map (fun j => (chain (s.th j)).length)).sum :=
      List.mem_le_sum _ _ (List.mem_map.mpr ⟨j, List.mem_range.mpr hj, rfl⟩)
    exact List.eq_nil_of_length_eq_zero (by omega)
  · rw [th_default_of_ge s j (by omega)]; rfl

theorem pendingCount_eq (s : BSt) : pendingCount s = (s.ths.map (fun t => (chain t).length)).sum :=
  (sum_ths_range s (fun t => (chain t).length) rfl _ (Nat.le_refl _)).symm

theorem pendingCount_of_ths {s s' : BSt} (h : s'.ths = s.ths) : pendingCount s' = pendingCount s := by
  unfold pendingCount BSt.th; rw [h]

theorem pendingCount_setTh (s : BSt) (i : Nat) (f : Th → Th) (hi : i < s.ths.length) :
    pendingCount (s.setTh i f) + (chain (s.th i)).length = pendingCount s + (chain (f (s.th i))).length := by
  rw [pendingCount_eq, pendingCount_eq]
  have := sum_map_updAt s.ths i f (fun t => (chain t).length) hi
  rw [← th_eq_getElem s i hi] at this
  exact this

theorem pending_pos {s : BSt} (h : pendingCount s ≠ 0) : ∃ i, chain (s.th i) ≠ [] := by
  apply Classical.byContradiction; intro hno
  have := List.sum_range_le s.ths.length (fun j => (chain (s.th j)).length) (fun _ => 0) (fun j _ => by
    rw [Classical.byContradiction fun hne => hno ⟨j, hne⟩]; exact Nat.le_refl _)
  have h0 : ∀ n, ((List.range n).map (fun _ => 0)).sum = 0 := fun n => by
    induction n with
    | zero => rfl
    | succ n ih => rw [List.range_succ, List.map_append, List.sum_append, ih]; rfl
  rw [h0] at this
  exact h (Nat.le_zero.mp this)

/-- every pending record is past its grace period (trivially so when ordering is disabled) -/
def Ripe (s : BSt) : Prop := ∀ j, ∀ r ∈ chain (s.th j), r.ts + s.cfg.grace ≤ s.now

theorem Sub.ripe {s s' : BSt} (h : Sub s s') (hr : Ripe s) : Ripe s' := by
  intro j r hr'
  have := hr j r ((h.th j).chain.subset hr')
  rw [h.glob.cfg]; have := h.glob.now; omega

variable {inj : BSt → Nat → BSt}

theorem fr_readPrep (s : BSt) (i : Nat) : Fr s (PC.readPrepSt s i) := Fr.setTh s i _ (ThFr.ofSame rfl rfl rfl)
theorem fr_commit (s : BSt) (i : Nat) : Fr s (PC.commitSt s i) := Fr.setTh s i _ (ThFr.ofSame rfl rfl rfl)

theorem fr_fmtNote (s : BSt) (st : Stmt) : Fr s (fmtNote s st) := by
  unfold fmtNote; split
  · exact Fr.ofEq rfl rfl rfl rfl rfl rfl
  · exact Fr.refl _

theorem fr_readOne (s : BSt) (i : Nat) (st : Stmt) (rest : List Stmt) (hq : (s.th i).qStmts = st :: rest) :
    Fr s (PC.readOneSt s i st rest) := by
  obtain ⟨rf, e⟩ := readOneSt_eq s i st rest
  rw [e]
  refine Fr.trans (b := { s with removalFlags := rf }) (Fr.ofEq rfl rfl rfl rfl rfl rfl) ?_
  apply Fr.setTh
  refine ⟨?_, ⟨[st], rfl⟩, rfl⟩
  show ((s.th i).buf ++ [st]) ++ rest = (s.th i).buf ++ (s.th i).qStmts
  rw [hq, List.append_assoc]; rfl

theorem fr_refresh (s : BSt) : Fr s (refreshCache s) := by
  unfold refreshCache; split
  · exact Fr.ofEq rfl rfl rfl rfl rfl rfl
  · exact Fr.refl _

theorem _root_.Backend.ReadRel.ofFr {R : BSt → BSt → Prop} (refl : ∀ s, R s s) (trans : ∀ {a b c}, R a b → R b c → R a c)
    (fr : ∀ {s s'}, Fr s s' → R s s') : ReadRel R :=
  ⟨refl, trans, fun s => fr (fr_refresh s), fun s i => fr (fr_readPrep s i), fun s i => fr (fr_commit s i),
   fun s i st rest h => fr ((fr_readOne s i st rest h).trans (fr_fmtNote _ st))⟩

theorem fr_read : ReadRel Fr := .ofFr Fr.refl Fr.trans id

theorem Fr.buf_ne {s s' : BSt} (h : Fr s s') {j : Nat} (hb : (s.th j).buf ≠ []) : (s'.th j).buf ≠ [] := by
  obtain ⟨l, e⟩ := (h.th j).buf
  rw [e]; intro he; exact hb (List.append_eq_nil_iff.mp he).1

variable {c : Cfg} {fl : Nat} {s : BSt}

theorem tsStop_of_ripe (sb : BSt) (st : Stmt) (h : st.ts + sb.cfg.grace ≤ sb.now) : tsStop (tsNowOf sb) st = false := by
  unfold tsNowOf
  split
  · rfl
  · simp only [tsStop, decide_eq_false_iff_not]; omega

theorem fr_ctxEmpty (s : BSt) (i : Nat) : Fr s (ctxEmpty s i).1 := by
  unfold ctxEmpty; exact Fr.setTh s i _ (ThFr.ofSame rfl rfl rfl)

theorem fr_allEmpty (s : BSt) : Fr s (Backend.allEmpty s).1 :=
  allEmpty_pres (Fr s) (fun x h => h.trans (fr_refresh x)) (fun x i h => h.trans (fr_ctxEmpty x i)) s (Fr.refl s)

theorem fr_hasPending (s : BSt) : Fr s (Backend.hasPending s).1 :=
  hasPending_pres (Fr s) (fun x h => h.trans (fr_refresh x)) (fun x i h => h.trans (fr_ctxEmpty x i)) s (Fr.refl s)

theorem Sub.ofTh {s s' : BSt} (h1 : s'.cfg = s.cfg) (h2 : s'.now = s.now) (h3 : s'.ths.length = s.ths.length)
    (h4 : s'.backendGone = s.backendGone) (h5 : ∀ f ∈ s.flags, f ∈ s'.flags) (h6 : ∀ j, ThFr (s.th j) (s'.th j))
    (h7 : s'.actors = s.actors := by rfl) : Sub s s' :=
  ⟨⟨h1, Nat.le_of_eq h2.symm, h3, h4, h5, h7⟩, fun j => ⟨by rw [(h6 j).chain]; exact List.suffix_refl _, (h6 j).acc⟩⟩

theorem lowest_none {s : BSt} (h : lowest s = none) : ∀ i ∈ s.cache, (s.th i).buf = [] := by
  rw [lowest_eq] at h
  have := low_fold s s.cache none (fun _ => False) (fun i hi => hi.elim)
  cases hr : List.foldl (lowStep s) none s.cache with
  | none => rw [hr] at this; exact fun i hi => this i (Or.inr hi)
  | some jm => rw [hr] at h; cases h

theorem sub_raise (s : BSt) (f : Nat) (x : List (Nat × Nat)) : Sub s { s with flags := f :: s.flags, flagLog := x } :=
  Sub.ofTh rfl rfl rfl rfl (fun _ h => List.mem_cons_of_mem _ h) (fun _ => ThFr.refl _)

theorem sub_back : BackRel Sub :=
  CtxRel.backRel subParts (fun h => ⟨h.cfg, Nat.le_of_eq h.now.symm, by rw [h.ths], h.backendGone, h.flags, h.actors⟩)
    (fun _ _ _ hq hb ha => .ofSame hb hq ha) (fun _ _ => .ofSame rfl rfl rfl)
    (fun t st rest hb => ⟨by
      show rest ++ t.qStmts <:+ t.buf ++ t.qStmts
      rw [hb]; exact List.suffix_cons _ _, rfl⟩)

theorem pendingCount_popSt (s : BSt) (j : Nat) (st : Stmt) (rest : List Stmt) (hb : (s.th j).buf = st :: rest) :
    pendingCount (PC.popSt s j st rest) + 1 = pendingCount s := by
  have hX := slol_procSt s st
  have hths : (procSt s st).ths = s.ths := congrArg Core2.ths hX.core2
  have h := pendingCount_setTh (procSt s st) j (fun t => { t with buf := rest, popped := t.popped ++ [st] })
    (by rw [hths]; exact buf_head_lt hb)
  rw [popSt_proc]
  show pendingCount ((procSt s st).setTh j (fun t => { t with buf := rest, popped := t.popped ++ [st] })) + 1 = _
  rw [pendingCount_of_ths hths] at h
  simp only [chain, hX.th, hb, List.cons_append, List.length_cons] at h
  omega

theorem sub_read : ReadRel Sub := .ofFr Sub.refl Sub.trans Fr.sub

theorem sub_clock (s : BSt) (t : Nat) : Sub s { s with now := s.now + t } :=
  ⟨⟨rfl, Nat.le_add_right _ _, rfl, rfl, fun _ h => h, rfl⟩, fun _ => ThSub.refl _⟩

theorem Quiet.sub (hq : Quiet inj) (s : BSt) (k : Nat) : Sub s (inj s k) := (Fr.quiet hq s k).sub

/-- `_process_lowest_timestamp_transit_event` with a buffered event in the cache pops the minimum front: what that pop
    establishes, and the tail of a Flush event (report, context clean-up, flag) keeps, holds afterwards -/
theorem processLowest_pop (Q : BSt → Prop) (s : BSt) (hne : ∃ i ∈ s.cache, (s.th i).buf ≠ [])
    (pop : ∀ i st rest, (s.th i).buf = st :: rest → (∀ j ∈ s.cache, ∀ f fs, (s.th j).buf = f :: fs → st.ts ≤ f.ts) →
      Q (PC.popSt s i st rest))
    (report : ∀ x j, Q x → Q (inj (PC.reportSt x j) 8)) (clean : ∀ x, Q x → Q (Backend.cleanupContexts x))
    (raise : ∀ x f, Q x → Q (PC.raiseSt x f)) : Q (Backend.processLowest inj s).1 := by
  cases hl : lowest s with
  | none => obtain ⟨i, hi, hb⟩ := hne; exact absurd (lowest_none hl i hi) hb
  | some j =>
    obtain ⟨st, rest, hb, hmin⟩ := lowest_spec hl
    have hp := pop j st rest hb hmin
    exact processLowest_tail Q (fun _ => Q) s j st rest (fun _ x i h _ => report x i h) (fun _ => clean)
      (fun f x h => raise x f h) hl hb (fun _ => hp) (fun _ _ => hp)

/-- the batch loop pops in its first iteration unless the guard answers "pending" -/
theorem batchLoop_pops (Q : BSt → Prop) (fuel : Nat) (s : BSt)
    (pop : (Backend.hasPending s).2 = false → Q (Backend.processLowest inj (Backend.hasPending s).1).1)
    (keep : ∀ x, Q x → Q (Backend.batchLoop inj fuel (inj x 4))) :
    Q (Backend.batchLoop inj (fuel + 1) s) ∨ (Backend.hasPending s).2 = true := by
  cases hhp : (Backend.hasPending s).2 with
  | true => exact .inr rfl
  | false =>
    left
    unfold Backend.batchLoop
    simp only [hhp, Bool.false_eq_true, if_false]
    split
    · exact pop hhp
    · exact keep _ (pop hhp)

theorem pollTail_pops (Q : BSt → Prop) (r : BSt × Nat) (hcnt : r.2 ≠ 0) (single : Q (Backend.processLowest inj r.1).1)
    (pop : (Backend.hasPending r.1).2 = false → Q (Backend.processLowest inj (Backend.hasPending r.1).1).1)
    (keep : ∀ x fuel, Q x → Q (Backend.batchLoop inj fuel (inj x 4))) :
    Q (pollTail inj r) ∨ (r.1.cfg.soft ≤ r.2 ∧ (Backend.hasPending r.1).2 = true) := by
  unfold Backend.pollTail
  rw [if_pos hcnt]
  split
  · exact .inl single
  · exact (batchLoop_pops Q (totalBuffered r.1 + 63) r.1 pop (fun x => keep x _)).imp_right fun h => ⟨by omega, h⟩

theorem processLowest_quiet (hq : Quiet inj) (s : BSt) (hne : ∃ i ∈ s.cache, (s.th i).buf ≠ []) :
    Sub s (Backend.processLowest inj s).1 ∧ pendingCount (Backend.processLowest inj s).1 < pendingCount s := by
  have keep : ∀ x y, Sub s x ∧ pendingCount x < pendingCount s → Sub x y → Sub s y ∧ pendingCount y < pendingCount s :=
    fun x y h hxy => ⟨h.1.trans hxy, Nat.lt_of_le_of_lt hxy.pending_le h.2⟩
  exact processLowest_pop _ s hne
    (fun j st rest hb _ => ⟨sub_back.popSt s j st rest hb, Nat.lt_of_succ_le (Nat.le_of_eq (pendingCount_popSt s j st rest hb))⟩)
    (fun x i h => keep x _ h (sub_back.report hq.sub x i))
    (fun x h => keep x _ h (sub_back.cleanupContexts x)) (fun x f h => keep x _ h (sub_raise x f _))

theorem hasPending_false (h : PIo c fl s)
    (hpost : ∀ i ∈ s.registry, chain (s.th i) ≠ [] → (s.th i).buf ≠ []) : (Backend.hasPending s).2 = false := by
  rw [hasPending_fold]
  have hr := h.refresh
  refine (hp_fold _ _ hr.qc).2.mpr ⟨rfl, fun i hi hb => ?_⟩
  have hreg : i ∈ s.registry := by
    have := hr.cacheReg i hi
    have e : (refreshCache s).registry = s.registry := (fr_refresh s).reg
    rw [e] at this; exact this
  have e := (fr_refresh s).th i
  have hb' : (s.th i).buf = [] := by
    obtain ⟨l, el⟩ := e.buf
    rw [el] at hb; exact (List.append_eq_nil_iff.mp hb).1
  have hc : chain (s.th i) = [] := by
    apply Classical.byContradiction; intro hne
    exact hpost i hreg hne hb'
  have : chain ((refreshCache s).th i) = [] := by rw [e.chain]; exact hc
  exact (List.append_eq_nil_iff.mp this).2

theorem batchLoop_sub (hq : Quiet inj) (fuel : Nat) (s : BSt) : Sub s (Backend.batchLoop inj fuel s) :=
  sub_back.batchLoop hq.sub fuel s

theorem batchLoop_quiet_lt (hq : Quiet inj) (fuel : Nat) (h : PIo c fl s)
    (hpost : ∀ i ∈ s.registry, chain (s.th i) ≠ [] → (s.th i).buf ≠ [])
    (hex : ∃ i ∈ s.registry, chain (s.th i) ≠ []) :
    pendingCount (Backend.batchLoop inj (fuel + 1) s) < pendingCount s := by
  have f1 := fr_hasPending s
  obtain ⟨i, hir, hne⟩ := hex
  have hb : ((Backend.hasPending s).1.th i).buf ≠ [] := f1.buf_ne (hpost i hir hne)
  have hic := h.hasPending.1.bufCache i (by rw [f1.reg]; exact hir) hb
  refine (batchLoop_pops (fun x => pendingCount x < pendingCount s) fuel s
    (fun _ => Nat.lt_of_lt_of_le (processLowest_quiet hq _ ⟨i, hic, hb⟩).2 f1.sub.pending_le)
    (fun x hx => Nat.lt_of_le_of_lt ((Fr.quiet hq x 4).sub.trans (batchLoop_sub hq fuel _)).pending_le hx)).resolve_right ?_
  rw [hasPending_false h hpost]; exact Bool.false_ne_true

theorem _root_.Backend.flush_flag_or_pending {s : BSt} (hfi : FI none [] s) {i : Nat} {st : Stmt} {f : Nat}
    (hst : st ∈ (s.th i).accepted) (hk : st.kind = .flush f) : f ∈ s.flags ∨ st ∈ chain (s.th i) := by
  rw [hfi.cons i, List.append_assoc] at hst
  rcases List.mem_append.mp hst with h1 | h1
  · rcases hfi.popFlag i st h1 f hk with h2 | h2
    · exact .inl h2
    · cases h2
  · exact .inr h1

end Backend.PB
