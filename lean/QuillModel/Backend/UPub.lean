import QuillModel.Backend.UGen
/-!
The publication invariant of the U machine (C09): between two operations, a context whose chain holds nothing and
consists of one buffer has that buffer's reader position published (`rHist.headD 0 = rpos`: what a producer reload
returns), and every buffer the consumer has not reached yet has never been read. Inside the read of context `i` the
second half is suspended for `i` (`ex = some i`) until the `commit_read` that ends the read re-establishes it
(drain rule).
-/
namespace Backend.US
open Spsc Backend.UQ

def K (q : St) : Prop := q.rHist.headD 0 = q.rpos
def RP (q q' : St) : Prop := q'.rHist = q.rHist ∧ q'.rpos = q.rpos

theorem RP.k {q q' : St} (h : RP q q') (hk : K q) : K q' := by
  unfold K at *
  rw [h.1, h.2]
  exact hk
theorem RP.trans {a b c : St} (h1 : RP a b) (h2 : RP b c) : RP a c := ⟨h2.1.trans h1.1, h2.2.trans h1.2⟩

theorem rp_prepareWrite (c : Cfg) (q : St) (n : Nat) : RP q (qPrepareWrite c q n).1 := by
  obtain ⟨_, _, e⟩ := qPrepareWrite_upd c q n
  rw [e]; exact ⟨rfl, rfl⟩
theorem rp_finishCommit (c : Cfg) (q : St) (n : Nat) : RP q (qFinishCommit c q n) := ⟨rfl, rfl⟩
theorem rp_commitWrite (c : Cfg) (q : St) : RP q (absApi c.qp q .commitWrite).1 := ⟨rfl, rfl⟩
theorem rp_empty (c : Cfg) (q : St) : RP q (qEmpty c q).1 := by
  obtain ⟨_, _, e, _⟩ := qEmpty_upd c q
  rw [e]; exact ⟨rfl, rfl⟩
theorem rp_prepareRead (c : Cfg) (q : St) : RP q (qPrepareRead c q).1 := qPrepareRead_fst c q ▸ rp_empty c q
theorem k_init (cap batch : Nat) : K (Spsc.init cap batch) := rfl

theorem updLast_rp {f : St → St} (hf : ∀ p, RP p (f p)) : ∀ (more : List St) (q : St),
    RP q (updLast f q more).1 ∧ (∀ n ∈ (updLast f q more).2, ∃ m ∈ more, RP m n) ∧
    ((updLast f q more).2 = [] ↔ more = [])
  | [], q => ⟨hf q, fun n hn => absurd hn List.not_mem_nil, Iff.rfl⟩
  | p :: rest, q => by
    obtain ⟨h1, h2, _⟩ := updLast_rp hf rest p
    refine ⟨⟨rfl, rfl⟩, ?_, by simp [updLast]⟩
    intro n hn
    simp only [updLast, List.mem_cons] at hn
    rcases hn with hn | hn
    · exact ⟨p, by simp, hn ▸ h1⟩
    · obtain ⟨m, hm, hr⟩ := h2 n hn
      exact ⟨m, by simp [hm], hr⟩

def F (t : Th) : Prop := ∀ n ∈ t.more, K n
def Pub (t : Th) : Prop := t.qStmts = [] → t.more = [] → K t.q
def Tx (ex : Option Nat) (j : Nat) (t : Th) : Prop := F t ∧ (some j ≠ ex → Pub t)

theorem setProd_F {t : Th} {f : St → St} (hf : ∀ p, RP p (f p)) (h : F t) : F (t.setProd f) := by
  intro n hn
  obtain ⟨m, hm, hr⟩ := (updLast_rp hf t.more t.q).2.1 n hn
  exact hr.k (h m hm)

theorem setProd_Pub {t : Th} {f : St → St} (hf : ∀ p, RP p (f p)) (h : Pub t) : Pub (t.setProd f) := by
  intro hq hm
  have hm' : t.more = [] := (updLast_rp hf t.more t.q).2.2.mp hm
  exact (updLast_rp hf t.more t.q).1.k (h hq hm')

theorem snoc_F {t : Th} (n : St) (hn : K n) (h : F t) : F { t with more := t.more ++ [n] } := by
  intro m hm
  rcases List.mem_append.mp hm with hm | hm
  · exact h m hm
  · simp at hm
    rw [hm]
    exact hn

theorem prepW_FP (c : Cfg) (qmax : Nat) (t : Th) (n : Nat) (hF : F t) :
    F (uPrepareWrite c qmax t n).1 ∧ (Pub t → Pub (uPrepareWrite c qmax t n).1) := by
  have h0F : F (t.setProd (fun p => (qPrepareWrite c p n).1)) := setProd_F (fun p => rp_prepareWrite c p n) hF
  have h0P : Pub t → Pub (t.setProd (fun p => (qPrepareWrite c p n).1)) := setProd_Pub (fun p => rp_prepareWrite c p n)
  unfold uPrepareWrite
  dsimp only
  split
  · exact ⟨h0F, h0P⟩
  · split
    · exact ⟨h0F, h0P⟩
    · exact ⟨h0F, h0P⟩
    · refine ⟨snoc_F _ (k_init _ _) (setProd_F (fun p => rp_commitWrite c p) h0F), fun _ _ hm => ?_⟩
      exact absurd hm (by simp)

theorem tx_closed (u : UP) (ex : Option Nat) : TClosed u (Tx ex) where
  dflt := fun _ => ⟨fun n hn => absurd hn List.not_mem_nil, fun _ _ _ => rfl⟩
  fresh := fun _ _ _ => ⟨fun n hn => absurd hn List.not_mem_nil, fun _ _ _ => rfl⟩
  prepW := fun _ c t n _ h => ⟨(prepW_FP c u.qmax t n h.1).1, fun hne => (prepW_FP c u.qmax t n h.1).2 (h.2 hne)⟩
  enq := fun _ c t st _ _ h =>
    ⟨setProd_F (t := (uPrepareWrite c u.qmax t st.size).1) (fun p => rp_finishCommit c p st.size) (prepW_FP c u.qmax t st.size h.1).1,
     fun _ hq _ => absurd hq (by simp)⟩
  shrink := fun _ c t w _ h => by
    unfold uShrink
    split
    · exact ⟨snoc_F _ (k_init _ _) h.1, fun _ _ hm => absurd hm (by simp)⟩
    · exact h
  bump := fun _ _ _ _ _ h => h
  inval := fun _ _ h => h

theorem uPrepareRead_FP (c : Cfg) (t : Th) (hF : F t) :
    F (uPrepareRead c t).1 ∧ (Pub t → Pub (uPrepareRead c t).1) := by
  unfold uPrepareRead
  dsimp only
  have hp1 : ∀ q', RP t.q q' → Pub t → Pub { t with q := q' } := fun q' hr hp hq hm => hr.k (hp hq hm)
  split
  · exact ⟨hF, hp1 _ (rp_prepareRead c t.q)⟩
  · split
    · exact ⟨hF, hp1 _ (rp_prepareRead c t.q)⟩
    · next nx rest hm =>
      split
      · exact ⟨hF, hp1 _ ((rp_prepareRead c t.q).trans (rp_prepareRead c _))⟩
      · refine ⟨fun n hn => hF n (by rw [hm]; simp [hn]), fun _ _ _ => ?_⟩
        exact (rp_prepareRead c nx).k (hF nx (by rw [hm]; simp))

theorem uRead_FP (c : Cfg) (follow : Bool) (fuel : Nat) (t : Th) (hF : F t) :
    F (uRead c follow fuel t).1 ∧ (Pub t → Pub (uRead c follow fuel t).1) :=
  uRead_rel (I := F) (R := fun t t' => Pub t → Pub t') c follow (fun _ => id) (fun h1 h2 hp => h2 (h1 hp))
    (fun t hF => uPrepareRead_FP c t hF) fuel t hF

theorem commit_Pub (c : Cfg) (hdp : c.qp.drainPublish = true) (t : Th) (h : TI t) : Pub (uCommitRead c t) := by
  intro hq hm
  have hq : t.qStmts = [] := hq
  have hm : t.more = [] := hm
  have hc := h.coh
  rw [hm, hq] at hc
  have hni : NI t.q [] := hc
  have hw' : t.q.wcache = t.q.rpos := Decidable.byContradiction (fun hne => hni.ne_of_ahead hne rfl)
  show (qCommitRead c t.q).rHist.headD 0 = (qCommitRead c t.q).rpos
  simp [qCommitRead, absApi, apiOps, run, step, publishes, hdp, hw']

theorem ccoh_pos : ∀ (more : List St) (q : St) (l : List Stmt), CCoh q more l → ∀ st ∈ l, 0 < st.size
  | [], q, l, h => h.coh.pos
  | p :: rest, q, l, h => by
    obtain ⟨a, b, e, hq, hr⟩ := h
    intro st hst
    rw [e] at hst
    rcases List.mem_append.mp hst with hs | hs
    · exact hq.coh.pos st hs
    · exact ccoh_pos rest p b hr st hs

end Backend.US
