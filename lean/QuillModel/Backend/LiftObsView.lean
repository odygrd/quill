import QuillModel.Backend.LiftBal
import QuillModel.Backend.LiftObsDefs
/-!
The part of the state the trace-level drop accounting reads (`vw`): the result texts of the injected operations in the
history, per context the ghost counter `discarded` and the number of ordinary statements ever accepted, the actors and
the queue type. No backend primitive changes it; hence every property that is congruent under `vw` is `ClosedC`.
-/
namespace Backend.PC

/-- per context: refused ordinary statements, accepted ordinary statements -/
def dk (s : BSt) : List (Nat × Nat) :=
  s.ths.map (fun t => (t.discarded, (t.accepted.filter (fun x => isLogKind x.kind)).length))

def vw (s : BSt) : List String × List (Nat × Nat) × List Actor × Bool :=
  (injT s.log, dk s, s.actors, s.cfg.dropping)

theorem vw_setTh (s : BSt) (i : Nat) (f : Th → Th)
    (h : ∀ t, (f t).discarded = t.discarded ∧ (f t).accepted = t.accepted) : vw (s.setTh i f) = vw s := by
  have : dk (s.setTh i f) = dk s := by
    simp only [dk, BSt.setTh]
    exact map_updAt s.ths i f _ (fun t => by rw [(h t).1, (h t).2])
  simp only [vw, this]; rfl

theorem vw_of_eq {s s' : BSt} (h1 : s'.log = s.log) (h2 : s'.ths = s.ths) (h3 : s'.actors = s.actors)
    (h4 : s'.cfg = s.cfg) : vw s' = vw s := by
  simp only [vw, dk, h1, h2, h3, h4]

theorem vw_ctxEmpty (s : BSt) (i : Nat) : vw (ctxEmpty s i).1 = vw s := by
  show vw (s.setTh i _) = vw s
  exact vw_setTh _ _ _ (fun _ => ⟨rfl, rfl⟩)

theorem vw_removeSt (s : BSt) (i : Nat) : vw (removeSt s i) = vw s := by
  unfold removeSt
  exact vw_setTh _ _ _ (fun _ => ⟨rfl, rfl⟩)

theorem vw_emit (s : BSt) (e : Ev) (h : e.isInj = false) : vw (s.emit e) = vw s := by
  cases e with
  | inj a b c d => cases h
  | _ => rfl

theorem vw_dispRel : DispRel (fun s s' => vw s' = vw s) where
  toSinkRel := .of_setSink (fun _ => rfl) (fun h h' => h'.trans h) (fun _ _ _ => rfl) vw_emit
  setBt _ _ _ := rfl

theorem vw_reapSinks (sids : List Nat) (s : BSt) : vw (reapSinks s sids) = vw s := vw_dispRel.reapSinks (fun _ _ => rfl) sids s

theorem vw_popSt (s : BSt) (i : Nat) (st : Stmt) (rest : List Stmt) : vw (popSt s i st rest) = vw s := by
  rw [popSt_proc]
  refine Eq.trans (vw_of_eq (s := (procSt s st).setTh i (fun t => { t with buf := rest, popped := t.popped ++ [st] }))
    rfl rfl rfl rfl) ?_
  exact (vw_setTh _ _ _ (by intro _; exact ⟨rfl, rfl⟩)).trans (vw_dispRel.procSt s st)

theorem vw_reportSt (s : BSt) (i : Nat) : vw (reportSt s i) = vw s := by
  unfold reportSt
  refine Eq.trans (vw_of_eq (s := (s.setTh i (fun t => { t with fail := 0 })).emit
      (.notify (if s.cfg.dropping then s!"n:dropped:{(s.th i).fail}:a{(s.th i).actor}" else s!"n:blocked:{(s.th i).fail}:a{(s.th i).actor}")))
    rfl rfl rfl rfl) ?_
  show vw (s.setTh i _) = vw s
  exact vw_setTh _ _ _ (fun _ => ⟨rfl, rfl⟩)

theorem vw_readOneSt (s : BSt) (i : Nat) (st : Stmt) (rest : List Stmt) : vw (readOneSt s i st rest) = vw s := by
  unfold readOneSt moveSt
  refine (vw_setTh _ _ _ (by intro _; exact ⟨rfl, rfl⟩)).trans ?_
  have h1 : vw (readPrepSt s i) = vw s := by unfold readPrepSt; exact vw_setTh _ _ _ (fun _ => ⟨rfl, rfl⟩)
  unfold decodeSt
  split
  · exact h1
  · exact h1

theorem keptC_of_vw {P : BSt → Prop} (hcg : ∀ s s', vw s' = vw s → P s → P s') : KeptC (fun _ => True) P where
  book s _ _ _ _ _ h := hcg s _ rfl h
  note s h := hcg s _ rfl h
  recache s _ h := hcg s _ rfl h
  rdQ s i f _ h hf _ :=
    hcg s _ (vw_setTh s i f (fun t => ⟨hf.proj (·.discarded) (fun _ _ => rfl) t, hf.proj (·.accepted) (fun _ _ => rfl) t⟩)) h
  dropCtx s i _ h _ _ _ _ := hcg s _ ((vw_removeSt _ i).trans (vw_ctxEmpty s i)) h
  erase s _ _ _ _ h' _ _ := hcg (allEmpty s).1 _ rfl h'
  reap s _ _ h _ _ := hcg s _ rfl h
  flagRemoval _ s _ _ _ _ h _ _ := hcg s _ rfl h
  flushSinks s _ h := hcg s _ (vw_dispRel.flushSinks s) h
  readOne s i st rest _ h _ _ := hcg s _ (vw_readOneSt s i st rest) h
  report s i _ h _ := hcg s _ (vw_reportSt s i) h
  pop s i st rest _ h _ _ := hcg s _ (vw_popSt s i st rest) h
  raise s _ h _ := hcg s _ rfl h

theorem closedC_of_congr {P : BSt → Prop} (hcg : ∀ s s', vw s' = vw s → P s → P s') : ClosedC P :=
  (keptC_of_vw hcg).closedC

end Backend.PC
