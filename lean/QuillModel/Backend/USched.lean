import QuillModel.Backend.UQueue
/-!
The backend machine for the two unbounded `FrontendOptions` (UnboundedBlocking / UnboundedDropping): the same state
(`BSt`), the same frontend calls and backend poll as `Backend/Sched.lean`, with the per-thread queue being the chain of
`Backend/UQueue.lean`. Only the functions that touch the queue are re-stated (suffix `U`); dispatch, sinks, loggers,
backtrace, the cache and the clock are the definitions of `Sched.lean` themselves. Differences that the C++ makes for an
unbounded queue type, mirrored here: `_check_failure_counter` skips such contexts (nothing is reported or reset), the
context clean-up does not look at the failure counter, a read reports every switch of buffers through the notifier,
the read loop's byte limit is the capacity of the consumer's buffer when the read starts, a record larger than the
maximum capacity throws `QuillError` out of the log call.
-/
namespace Backend

/-- parameters of the unbounded builds: `unbounded_queue_max_capacity` and the extracted F25 flag -/
structure UP where
  qmax : Nat
  follow : Bool := true
  deriving Repr

/-! ### frontend -/

/-- one reservation attempt; on success the record is written and committed -/
def tryEnqU (u : UP) (s : BSt) (ci : Nat) (st : Stmt) : BSt × UGrant :=
  let r := uPrepareWrite s.cfg u.qmax (s.th ci) st.size
  match r.2 with
  | .grant =>
    let st := { st with enqAt := s.now }
    (s.setTh ci (fun t =>
      let t1 := uFinishCommit s.cfg (uPrepareWrite s.cfg u.qmax t st.size).1 st.size
      { t1 with qStmts := t.qStmts ++ [st], accepted := t.accepted ++ [st] }), .grant)
  | g => (s.setTh ci (fun t => (uPrepareWrite s.cfg u.qmax t st.size).1), g)

def enqFlowU (u : UP) (s : BSt) (a : Nat) (st : Stmt) (cont : Nat) (first : Bool) (initial : Bool := first) : BSt × String :=
  let (s1, ci) := ensureCtx s a
  let (s2, g) := tryEnqU u s1 ci st
  match g with
  | .grant => afterEnq (s2.setActor a (fun x => { x with pend := .none })) a st cont
  | .throw =>
    -- `QuillError` out of `log_statement`: nothing queued, nothing counted
    (s2.setActor a (fun x => { x with pend := .none }), s!"id={st.id} threw ev=1 bytes=0")
  | .null =>
    let bump (x : BSt) : BSt :=
      if isLogKind st.kind then
        x.setTh ci (fun t => { t with fail := t.fail + 1,
                                      discarded := t.discarded + (if s.cfg.dropping then 1 else 0),
                                      blockedCalls := t.blockedCalls + (if s.cfg.dropping then 0 else 1) })
      else x
    if s.cfg.dropping then
      let s3 := bump s2
      if cont = 0 ∨ cont = 5 then
        (s3.setActor a (fun x => { x with pend := .none }),
         if cont = 0 then s!"id={st.id} ret=0 ev=1 bytes=0" else s!"id={st.id} ev=1 bytes=0")
      else (s3.setActor a (fun x => { x with pend := .retry st cont }), "parked:sleep")
    else
      let s3 := if first then bump s2 else s2
      (s3.setActor a (fun x => { x with pend := .retry st cont }),
       if initial ∧ (cont = 0 ∨ cont = 5) then s!"id={st.id} parked:sleep" else "parked:sleep")

def frontCallU (u : UP) (s : BSt) (a : Nat) (lgi : Nat) (kind : Kind) (lvl len cont : Nat) (dyn : Bool) (id : Nat)
    (named : Bool := false) : BSt × String :=
  let lg := s.lgOf lgi
  let st : Stmt := { id := id, kind := kind, lg := lgi, lvl := lvl, ts := s.now,
                     size := stmtSize s.cfg kind id len dyn lg.gid, actor := a, named := named }
  let stalled := ((s.actor a).map (·.stallArmed)).getD false
  if stalled then
    (s.setActor a (fun x => { x with stallArmed := false, pend := .stall st cont }),
     if cont = 0 ∨ cont = 5 then s!"id={id} parked:stall" else "parked:stall")
  else enqFlowU u s a st cont true

def resumeU (u : UP) (s : BSt) (a : Nat) : BSt × String :=
  match ((s.actor a).map (·.pend) : Option Pend) with
  | some (Pend.stall st cont) => enqFlowU u s a st cont true false
  | some (Pend.retry st cont) =>
      if s.cfg.dropping then enqFlowU u s a { st with ts := s.now } cont true false
      else enqFlowU u s a st cont false
  | some (Pend.flag f) =>
      if s.flags.contains f then (s.setActor a (fun x => { x with pend := .none }), "done")
      else (s, "parked:sleep")
  | _ => (s, "noop")

/-! ### backend -/

def ctxEmptyU (s : BSt) (i : Nat) : BSt × Bool :=
  let th := s.th i
  let r := uEmpty s.cfg th
  (s.setTh i (fun t => (uEmpty s.cfg t).1), r.2 && th.buf.isEmpty)

def allEmptyU (s : BSt) : BSt × Bool :=
  let s0 := refreshCache s
  s0.cache.foldl (fun (acc : BSt × Bool) i => let r := ctxEmptyU acc.1 i; (r.1, acc.2 && r.2)) (s0, true)

/-- first invalid context of the list whose queue and transit buffer are empty (no look at the failure counter) -/
def findFirstU (s : BSt) : List Nat → BSt × Option Nat
  | [] => (s, none)
  | i :: rest =>
    if (s.th i).valid then findFirstU s rest
    else let r := ctxEmptyU s i
         if r.2 then (r.1, some i) else findFirstU r.1 rest

def dropCtxU (s : BSt) (i : Nat) : BSt :=
  let s2 := { s with registry := s.registry.filter (· ≠ i), cache := s.cache.filter (· ≠ i),
                     invalidCnt := counterMod s.cfg (s.invalidCnt + 2 ^ s.cfg.invalidBits - 1) }
  s2.setTh i (fun t => { t with removed := true })

def cleanupGoU : Nat → BSt → BSt
  | 0, s => s
  | fuel + 1, s =>
    match findFirstU s s.cache with
    | (s1, none) => s1
    | (s1, some i) => cleanupGoU fuel (dropCtxU s1 i)

def cleanupContextsU (s : BSt) : BSt :=
  if s.invalidCnt = 0 then s else cleanupGoU (s.cache.length + 1) s

def eraseStepU (inj : BSt → Nat → BSt) (acc : BSt × List Nat) (i : Nat) : BSt × List Nat :=
  let s := acc.1
  if (s.lgOf i).valid then acc else
  let r := allEmptyU s
  if r.2 then
    let s1 := r.1.setLg i (fun l => { l with erased := true })
    (reapSinksInj inj s1 (s.lgOf i).sinks, acc.2 ++ [(s.lgOf i).gid])
  else ({ r.1 with hasInvalidLoggers := true }, acc.2)

def raiseRemoved (s : BSt) (gid : Nat) : BSt :=
  match s.removalFlags.find? (·.1 = gid) with
  | some (_, f) => { s with flags := f :: s.flags, flagLog := (f, s.log.length) :: s.flagLog,
                            removalFlags := s.removalFlags.filter (·.1 ≠ gid) }
  | none => s

def cleanupLoggersU (inj : BSt → Nat → BSt) (s : BSt) : BSt :=
  if !s.hasInvalidLoggers then s else
  let s0 := { s with hasInvalidLoggers := false }
  let order := insSorted (fun a b => decide ((s0.lgOf a).gid ≤ (s0.lgOf b).gid))
                 ((List.range s0.lgs.length).filter (fun i => !(s0.lgOf i).erased))
  let r := order.foldl (eraseStepU inj) (s0, [])
  r.2.foldl raiseRemoved r.1

/-- "Allocated a new SPSC queue with a capacity of {new} KiB (previously {old} KiB)" -/
def allocNote (p : Nat × Nat) : Ev := .notify s!"n:alloc:{p.2 / 1024}:{p.1 / 1024}"

/-- the read of one record: decode (a removal request records its flag), `finish_read`, into the transit buffer -/
def readOneU (s : BSt) (i : Nat) (st : Stmt) (rest : List Stmt) : BSt :=
  let s2 := match st.kind with
    | .removal f => { s with removalFlags := s.removalFlags ++ [((s.lgOf st.lg).gid, f)] }
    | _ => s
  s2.setTh i (fun t => { uFinishRead s2.cfg t st.size with qStmts := rest, buf := t.buf ++ [st] })

def commitReadU (s : BSt) (i : Nat) : BSt := s.setTh i (fun t => uCommitRead s.cfg t)

/-- `_read_and_decode_frontend_queue<UnboundedSPSCQueue>`; `qcap0` = `capacity()` when the read starts -/
def readQueueU (u : UP) (inj : BSt → Nat → BSt) (tsNow : Option Nat) (i : Nat) (qcap0 : Nat) : Nat → Nat → BSt → BSt
  | 0, total, s => if total ≠ 0 then commitReadU s i else s
  | fuel + 1, total, s =>
    let th := s.th i
    let r := uRead s.cfg u.follow (th.more.length + 1) th
    let sR := s.setTh i (fun t => (uRead s.cfg u.follow (t.more.length + 1) t).1)
    -- every switch of buffers is reported through the notifier (before anything injected at site 3 runs)
    let note (x : BSt) : BSt := r.2.2.foldl (fun x p => x.emit (allocNote p)) x
    let fin (s : BSt) : BSt := if total ≠ 0 then commitReadU s i else s
    if !r.2.1 then fin (note sR) else
    match th.qStmts with
    | [] => fin (note sR)
    | st :: rest =>
      if (match tsNow with | some t => decide (t < st.ts) | none => false) then fin (note sR) else
      let s3 := note (readOneU sR i st rest)
      let s4 := inj (fmtNote s3 st) 3
      let total' := total + st.size
      if total' < qcap0 ∧ (s4.th i).buf.length < s4.cfg.hard then readQueueU u inj tsNow i qcap0 fuel total' s4
      else commitReadU s4 i

def popStepU (s : BSt) (i : Nat) (st : Stmt) (rest : List Stmt) : BSt :=
  { s.setTh i (fun t => { t with buf := rest, popped := t.popped ++ [st] }) with popLog := st :: s.popLog }

def processLowestU (s : BSt) : BSt × Bool :=
  match lowest s with
  | none => (s, false)
  | some i =>
    match (s.th i).buf with
    | [] => (s, false)
    | st :: rest =>
      let (s1, exc, flag) := processEvent s st
      let s2 := match exc with | some m => s1.emit (.notify m) | none => s1
      let s3 := popStepU s2 i st rest
      match flag with
      | some f =>
        -- (`_check_failure_counter` does nothing for an unbounded queue type)
        let s4 := cleanupContextsU s3
        ({ s4 with flags := f :: s4.flags, flagLog := (f, s4.log.length) :: s4.flagLog }, true)
      | none => (s3, true)

def hasPendingU (s : BSt) : BSt × Bool :=
  let s0 := refreshCache s
  s0.cache.foldl (fun (acc : BSt × Bool) i =>
    if acc.2 then acc else
    if (acc.1.th i).buf.isEmpty then
      let r := uEmpty acc.1.cfg (acc.1.th i)
      (acc.1.setTh i (fun t => (uEmpty acc.1.cfg t).1), !r.2)
    else acc) (s0, false)

def populateU (u : UP) (inj : BSt → Nat → BSt) (s : BSt) : BSt × Nat :=
  let s := if s.cfg.refreshAfterSample then s else refreshCache s
  let s := if s.cfg.grace = 0 then s else inj s 7
  let tsNow := tsNowOf s
  let s1 := inj s 1
  let s2 := if s.cfg.refreshAfterSample then refreshCache s1 else s1
  s2.cache.foldl (fun (acc : BSt × Nat) i =>
    let sA := inj acc.1 2
    let sB := readQueueU u inj tsNow i (uCap (sA.th i)) ((sA.th i).qStmts.length + 64) 0 sA
    (sB, acc.2 + (sB.th i).buf.length)) (s2, 0)

def batchLoopU (inj : BSt → Nat → BSt) : Nat → BSt → BSt
  | 0, s => s
  | fuel + 1, s =>
    let r := hasPendingU s
    if r.2 then r.1 else
    let p := processLowestU r.1
    if !p.2 then p.1 else batchLoopU inj fuel (inj p.1 4)

def pollU (u : UP) (inj : BSt → Nat → BSt) (s : BSt) : BSt :=
  let (s1, count) := populateU u inj s
  if count ≠ 0 then
    if count < s1.cfg.soft then (processLowestU s1).1
    else batchLoopU inj (totalBuffered s1 + 64) s1
  else
    let s2 := inj s1 5
    let s3 := flushGate inj s2 s2.cfg.flushInterval
    let r := allEmptyU s3
    if r.2 then cleanupLoggersU inj (preEraseFlush (cleanupContextsU r.1)) else r.1

def exitLoopU (u : UP) (inj : BSt → Nat → BSt) (tick : Nat) : Nat → BSt → BSt
  | 0, s => s
  | fuel + 1, s =>
    let r := allEmptyU s
    if r.2 then
      let s1 := flushSinks r.1
      cleanupLoggersU inj (preEraseFlush (cleanupContextsU s1))
    else
      let s0 := { r.1 with now := r.1.now + tick }
      let (s1, count) := populateU u inj s0
      let s2 := if count > 0 then batchLoopU inj (totalBuffered s1 + 64) s1 else s1
      exitLoopU u inj tick fuel s2

end Backend
