import QuillModel.Backend.PcSkeleton
/-!
The part of the backend state the thread-context bookkeeping lives in (`Core`, cut out of a state by `core`), the
invariant `CI` on it and its preservation by the five moves that touch it (register, thread start, thread exit, cache
refresh, removal). For C20 and C07.
-/
namespace Backend.PC

theorem filter_length_flip (l : List Nat) (i : Nat) (p p' : Nat → Bool) (hn : l.Nodup) (hi : i ∈ l)
    (hp : p i = false) (hp' : p' i = true) (hne : ∀ j, j ≠ i → p' j = p j) :
    (l.filter p').length = (l.filter p).length + 1 := by
  induction l with
  | nil => cases hi
  | cons x xs ih =>
    rw [List.nodup_cons] at hn
    by_cases hx : x = i
    · subst hx
      have hsame : xs.filter p' = xs.filter p := by
        apply List.filter_congr
        intro j hj
        exact hne j (fun h => hn.1 (h ▸ hj))
      simp [hp, hp', hsame]
    · have hi' : i ∈ xs := by
        rcases List.mem_cons.mp hi with h | h
        · exact absurd h.symm hx
        · exact h
      have := ih hn.2 hi'
      simp only [List.filter_cons, hne x hx]
      split <;> simp [this]

theorem filter_length_drop (l : List Nat) (i : Nat) (p : Nat → Bool) (hn : l.Nodup) (hi : i ∈ l) (hp : p i = true) :
    ((l.filter (· ≠ i)).filter p).length + 1 = (l.filter p).length := by
  induction l with
  | nil => cases hi
  | cons x xs ih =>
    rw [List.nodup_cons] at hn
    by_cases hx : x = i
    · subst hx
      have : xs.filter (· ≠ x) = xs := by
        apply List.filter_eq_self.mpr
        intro j hj; simp; exact fun h => hn.1 (h ▸ hj)
      rw [List.filter_cons_of_neg (by simp), this, List.filter_cons_of_pos hp]; rfl
    · have hi' : i ∈ xs := by
        rcases List.mem_cons.mp hi with h | h
        · exact absurd h.symm hx
        · exact h
      have := ih hn.2 hi'
      rw [List.filter_cons_of_pos (by simpa using hx)]
      by_cases hpx : p x = true
      · rw [List.filter_cons_of_pos hpx, List.filter_cons_of_pos hpx, List.length_cons, List.length_cons, this]
      · rw [List.filter_cons_of_neg hpx, List.filter_cons_of_neg hpx, this]

theorem mod_succ_mod (n M : Nat) : (n % M + 1) % M = (n + 1) % M := by
  rw [Nat.add_mod, Nat.mod_mod, ← Nat.add_mod]

theorem mod_pred_mod (n M : Nat) (hM : 0 < M) (hn : 0 < n) : (n % M + M - 1) % M = (n - 1) % M := by
  have hdm := Nat.div_add_mod n M
  have h : n % M + M - 1 + M * (n / M) = (n - 1) + M := by omega
  calc (n % M + M - 1) % M = (n % M + M - 1 + M * (n / M)) % M := (Nat.add_mul_mod_self_left ..).symm
    _ = ((n - 1) + M) % M := by rw [h]
    _ = (n - 1) % M := Nat.add_mod_right ..

structure TC where
  valid : Bool
  owner : Nat
  deriving DecidableEq, Repr

structure AC where
  id : Nat
  alive : Bool
  ctx : Option Nat
  deriving DecidableEq, Repr

/-- what the thread-context bookkeeping reads of a state: contexts and actors cut down to the fields it needs -/
structure Core where
  bits : Nat
  ths : List TC
  registry : List Nat
  cache : List Nat
  newFlag : Bool
  cnt : Nat
  actors : List AC
  deriving DecidableEq, Repr

def core (s : BSt) : Core :=
  { bits := s.cfg.invalidBits, ths := s.ths.map (fun t => ⟨t.valid, t.actor⟩), registry := s.registry,
    cache := s.cache, newFlag := s.newFlag, cnt := s.invalidCnt,
    actors := s.actors.map (fun x => ⟨x.id, x.alive, x.ctx⟩) }

def Core.valid (c : Core) (i : Nat) : Bool := (c.ths.getD i ⟨true, 0⟩).valid
def Core.nInvalid (c : Core) : Nat := (c.registry.filter (fun i => !c.valid i)).length
def Core.live (c : Core) (a : Nat) : Option AC := c.actors.find? (fun x => x.id = a ∧ x.alive)

/-- live actors have distinct ids and own valid, registered contexts; the registry is duplicate-free and within range;
    the cache is a part of it, all of it while `newFlag` is down; `cnt` is the number of invalid registered contexts
    modulo `2 ^ bits`; every valid context has a live owner -/
structure CI (c : Core) : Prop where
  ids : c.actors.Pairwise (fun x y => x.alive = true → y.alive = true → x.id ≠ y.id)
  own : ∀ x ∈ c.actors, x.alive = true → ∀ i, x.ctx = some i → c.ths[i]? = some ⟨true, x.id⟩ ∧ i ∈ c.registry
  regNodup : c.registry.Nodup
  regLt : ∀ i ∈ c.registry, i < c.ths.length
  sub : ∀ i ∈ c.cache, i ∈ c.registry
  cnt : c.cnt = c.nInvalid % 2 ^ c.bits
  fresh : c.newFlag = false → c.cache = c.registry
  owned : ∀ i, i < c.ths.length → c.valid i = true → ∃ x ∈ c.actors, x.alive = true ∧ x.ctx = some i

def Core.register (c : Core) (a : Nat) : Core :=
  { c with ths := c.ths ++ [⟨true, a⟩], registry := c.registry ++ [c.ths.length], newFlag := true,
           actors := c.actors.map (fun x => if x.id = a ∧ x.alive then { x with ctx := some c.ths.length } else x) }

def Core.tstart (c : Core) (a : Nat) : Core := { c with actors := c.actors ++ [⟨a, true, none⟩] }

def Core.refresh (c : Core) : Core := if c.newFlag then { c with cache := c.registry, newFlag := false } else c

def Core.remove (c : Core) (i : Nat) : Core :=
  { c with registry := c.registry.filter (· ≠ i), cache := c.cache.filter (· ≠ i),
           cnt := (c.cnt + 2 ^ c.bits - 1) % 2 ^ c.bits }

def Core.exit (c : Core) (a : Nat) : Core :=
  let c1 := { c with actors := c.actors.map (fun x => if x.id = a ∧ x.alive then { x with alive := false } else x) }
  match (c.live a).bind (·.ctx) with
  | some i => { c1 with ths := updAt c.ths i (fun t => { t with valid := false }), cnt := (c.cnt + 1) % 2 ^ c.bits }
  | none => c1

theorem valid_lt (c : Core) (i : Nat) (h : c.valid i = false) : i < c.ths.length := by
  unfold Core.valid at h
  by_cases hi : i < c.ths.length
  · exact hi
  · rw [List.getD_eq_getElem?_getD, List.getElem?_eq_none (by omega)] at h; cases h

theorem CI.recache {c : Core} (h : CI c) : CI { c with cache := c.registry, newFlag := false } :=
  { h with sub := fun _ hi => hi, fresh := fun _ => rfl }

theorem CI.refresh {c : Core} (h : CI c) : CI c.refresh := by
  unfold Core.refresh
  split
  · exact h.recache
  · exact h

theorem CI.tstart {c : Core} (h : CI c) (a : Nat) (hn : c.live a = none) : CI (c.tstart a) := by
  have hno : ∀ x ∈ c.actors, x.alive = true → x.id ≠ a := by
    intro x hx hal hid
    have := List.find?_eq_none.mp hn x hx
    simp [hid, hal] at this
  refine { h with ids := ?_, own := ?_, owned := ?_ }
  · simp only [Core.tstart]
    rw [List.pairwise_append]
    refine ⟨h.ids, List.pairwise_singleton _ _, ?_⟩
    intro x hx y hy hax _
    simp only [List.mem_singleton] at hy
    subst hy
    exact hno x hx hax
  · intro x hx hal i hi
    simp only [Core.tstart, List.mem_append, List.mem_singleton] at hx
    rcases hx with hx | hx
    · exact h.own x hx hal i hi
    · subst hx; cases hi
  · intro i hi hv
    obtain ⟨x, hx, h1, h2⟩ := h.owned i hi hv
    exact ⟨x, by simp only [Core.tstart, List.mem_append]; exact Or.inl hx, h1, h2⟩

theorem find_unique {α} (id : α → Nat) (alive : α → Bool) : ∀ (l : List α),
    l.Pairwise (fun x y => alive x = true → alive y = true → id x ≠ id y) → ∀ x ∈ l, alive x = true →
    l.find? (fun y => id y = id x ∧ alive y) = some x
  | [], _, _, hx, _ => by cases hx
  | y :: ys, hids, x, hx, hal => by
    rw [List.pairwise_cons] at hids
    rw [List.find?_cons]
    rcases List.mem_cons.mp hx with rfl | hx'
    · simp [hal]
    · have hne : ¬ (id y = id x ∧ alive y = true) := fun hy => hids.1 x hx' hy.2 hal hy.1
      simp only [hne, decide_false]
      exact find_unique id alive ys hids.2 x hx' hal

theorem live_unique {c : Core} (h : CI c) {x : AC} (hx : x ∈ c.actors) (hal : x.alive = true) :
    c.live x.id = some x := find_unique AC.id AC.alive c.actors h.ids x hx hal

theorem live_mem {c : Core} {a : Nat} {x : AC} (h : c.live a = some x) : x ∈ c.actors ∧ x.id = a ∧ x.alive = true := by
  unfold Core.live at h
  have h1 := List.mem_of_find?_eq_some h
  have h2 := List.find?_some h
  simp only [decide_eq_true_eq] at h2
  exact ⟨h1, h2.1, h2.2⟩

theorem valid_of_getElem? {c : Core} {i : Nat} {t : TC} (h : c.ths[i]? = some t) : c.valid i = t.valid := by
  unfold Core.valid; rw [List.getD_eq_getElem?_getD, h]; rfl

theorem ids_map {l : List AC} (g : AC → AC) (hid : ∀ w, (g w).id = w.id) (hal : ∀ w, (g w).alive = true → w.alive = true)
    (h : l.Pairwise (fun x y => x.alive = true → y.alive = true → x.id ≠ y.id)) :
    (l.map g).Pairwise (fun x y => x.alive = true → y.alive = true → x.id ≠ y.id) := by
  rw [List.pairwise_map]
  apply h.imp
  intro y z hyz hy hz
  rw [hid, hid]
  exact hyz (hal _ hy) (hal _ hz)

theorem CI.register {c : Core} (h : CI c) (a : Nat) (x : AC) (hx : c.live a = some x) (hc : x.ctx = none) :
    CI (c.register a) := by
  obtain ⟨hxm, hxid, hxal⟩ := live_mem hx
  have hvalid : ∀ j, j < c.ths.length → (c.register a).valid j = c.valid j := by
    intro j hj
    simp only [Core.valid, Core.register, List.getD_eq_getElem?_getD, List.getElem?_append_left hj]
  have hvalidn : (c.register a).valid c.ths.length = true := by
    simp [Core.valid, Core.register, List.getD_eq_getElem?_getD]
  refine ⟨?_, ?_, ?_, ?_, ?_, ?_, ?_, ?_⟩
  · refine ids_map _ (fun w => ?_) (fun w => ?_) h.ids
    · split <;> rfl
    · split <;> exact id
  · intro y' hy' hal i hi
    simp only [Core.register, List.mem_map] at hy'
    obtain ⟨y, hy, rfl⟩ := hy'
    by_cases hya : y.id = a ∧ y.alive = true
    · simp only [hya, and_self, if_true] at hi hal ⊢
      cases hi
      simp only [Core.register]
      refine ⟨by simp, by simp⟩
    · simp only [hya, if_false] at hi hal ⊢
      obtain ⟨h1, h2⟩ := h.own y hy hal i hi
      have hlt : i < c.ths.length := by
        rcases Nat.lt_or_ge i c.ths.length with hlt | hge
        · exact hlt
        · rw [List.getElem?_eq_none hge] at h1; cases h1
      simp only [Core.register]
      exact ⟨by rw [List.getElem?_append_left hlt]; exact h1, List.mem_append_left _ h2⟩
  · simp only [Core.register]
    rw [List.nodup_append]
    refine ⟨h.regNodup, by simp, ?_⟩
    intro i hi j hj
    simp only [List.mem_singleton] at hj
    subst hj
    exact Nat.ne_of_lt (h.regLt i hi)
  · intro i hi
    simp only [Core.register, List.mem_append, List.mem_singleton, List.length_append, List.length_singleton] at hi ⊢
    rcases hi with hi | hi
    · have := h.regLt i hi; omega
    · omega
  · intro i hi
    simp only [Core.register] at hi ⊢
    exact List.mem_append_left _ (h.sub i hi)
  · have : (c.register a).nInvalid = c.nInvalid := by
      unfold Core.nInvalid
      have hreg : (c.register a).registry = c.registry ++ [c.ths.length] := rfl
      rw [hreg, List.filter_append]
      have h1 : c.registry.filter (fun i => !(c.register a).valid i) = c.registry.filter (fun i => !c.valid i) := by
        apply List.filter_congr
        intro j hj; rw [hvalid j (h.regLt j hj)]
      rw [h1]
      simp [hvalidn]
    show c.cnt = _
    rw [this]; exact h.cnt
  · intro hf; cases hf
  · intro i hi hv
    simp only [Core.register, List.length_append, List.length_singleton] at hi
    by_cases hin : i = c.ths.length
    · subst hin
      refine ⟨{ x with ctx := some c.ths.length }, ?_, hxal, rfl⟩
      simp only [Core.register, List.mem_map]
      exact ⟨x, hxm, by simp [hxid, hxal]⟩
    · have hlt : i < c.ths.length := by omega
      rw [hvalid i hlt] at hv
      obtain ⟨y, hy, hyal, hyc⟩ := h.owned i hlt hv
      refine ⟨y, ?_, hyal, hyc⟩
      simp only [Core.register, List.mem_map]
      refine ⟨y, hy, ?_⟩
      have : ¬ (y.id = a ∧ y.alive = true) := by
        intro hya
        have := live_unique h hy hyal
        rw [hya.1, hx] at this
        cases this
        rw [hc] at hyc; cases hyc
      simp [this]

theorem CI.remove {c : Core} (h : CI c) (i : Nat) (hi : i ∈ c.cache) (hv : c.valid i = false) : CI (c.remove i) := by
  have hir := h.sub i hi
  refine ⟨h.ids, ?_, ?_, ?_, ?_, ?_, ?_, h.owned⟩
  · intro y hy hal j hj
    obtain ⟨h1, h2⟩ := h.own y hy hal j hj
    refine ⟨h1, ?_⟩
    simp only [Core.remove, List.mem_filter]
    refine ⟨h2, ?_⟩
    have : c.valid j = true := valid_of_getElem? h1
    have : j ≠ i := fun e => by rw [e, hv] at this; cases this
    simpa using this
  · exact h.regNodup.filter _
  · intro j hj
    simp only [Core.remove, List.mem_filter] at hj
    exact h.regLt j hj.1
  · intro j hj
    simp only [Core.remove, List.mem_filter] at hj ⊢
    exact ⟨h.sub j hj.1, hj.2⟩
  · have hdrop := filter_length_drop c.registry i (fun j => !c.valid j) h.regNodup hir (by simp [hv])
    have hM : 0 < 2 ^ c.bits := Nat.pos_of_ne_zero (by simp)
    have hpos : 0 < c.nInvalid := by unfold Core.nInvalid; omega
    have : (c.remove i).nInvalid = c.nInvalid - 1 := by
      unfold Core.nInvalid
      show ((c.registry.filter (· ≠ i)).filter (fun j => !c.valid j)).length = _
      omega
    show (c.cnt + 2 ^ c.bits - 1) % 2 ^ c.bits = _
    rw [this, h.cnt]
    exact mod_pred_mod _ _ hM hpos
  · intro hf
    show c.cache.filter (· ≠ i) = c.registry.filter (· ≠ i)
    rw [h.fresh hf]

theorem CI.exit {c : Core} (h : CI c) (a : Nat) : CI (c.exit a) := by
  have hmapmem : ∀ y' ∈ c.actors.map (fun x => if x.id = a ∧ x.alive = true then { x with alive := false } else x),
      y'.alive = true → y' ∈ c.actors ∧ ¬ (y'.id = a) := by
    intro y' hy' hal
    simp only [List.mem_map] at hy'
    obtain ⟨y, hy, rfl⟩ := hy'
    by_cases hya : y.id = a ∧ y.alive = true
    · simp [hya] at hal
    · simp only [hya, if_false] at hal ⊢
      exact ⟨hy, fun e => hya ⟨e, hal⟩⟩
  have hids' : (c.actors.map (fun x => if x.id = a ∧ x.alive = true then { x with alive := false } else x)).Pairwise
      (fun x y => x.alive = true → y.alive = true → x.id ≠ y.id) := by
    refine ids_map _ (fun w => ?_) (fun w => ?_) h.ids
    · split <;> rfl
    · split
      · intro hh; cases hh
      · exact id
  have hkeep : ∀ y ∈ c.actors, y.alive = true → y.id ≠ a →
      y ∈ c.actors.map (fun x => if x.id = a ∧ x.alive = true then { x with alive := false } else x) := by
    intro y hy _ hne
    simp only [List.mem_map]
    exact ⟨y, hy, by simp [hne]⟩
  unfold Core.exit
  simp only []
  cases hctx : (c.live a).bind (·.ctx) with
  | none =>
    simp only []
    refine ⟨hids', ?_, h.regNodup, h.regLt, h.sub, h.cnt, h.fresh, ?_⟩
    · intro y' hy' hal i hi
      exact h.own y' (hmapmem y' hy' hal).1 hal i hi
    · intro i hi hv
      obtain ⟨y, hy, hyal, hyc⟩ := h.owned i hi hv
      refine ⟨y, hkeep y hy hyal ?_, hyal, hyc⟩
      -- the exiting actor owns no context
      intro e
      have := live_unique h hy hyal
      rw [e] at this
      rw [this, Option.bind_some, hyc] at hctx
      cases hctx
  | some i =>
    cases hl : c.live a with
    | none => rw [hl] at hctx; cases hctx
    | some x =>
      have hxc : x.ctx = some i := by rw [hl] at hctx; exact hctx
      obtain ⟨hxm, hxid, hxal⟩ := live_mem hl
      simp only []
      obtain ⟨hti, hireg⟩ := h.own x hxm hxal i hxc
      have hilt : i < c.ths.length := by
        rcases Nat.lt_or_ge i c.ths.length with hlt | hge
        · exact hlt
        · rw [List.getElem?_eq_none hge] at hti; cases hti
      have hvi : c.valid i = true := valid_of_getElem? hti
      have hget : ∀ j, (updAt c.ths i (fun t => { t with valid := false }))[j]? =
          if j = i then (c.ths[j]?).map (fun t => { t with valid := false }) else c.ths[j]? := by
        intro j
        simp only [updAt, List.getElem?_mapIdx]
        by_cases hj : j = i
        · simp [hj]
        · simp [hj]
      refine ⟨hids', ?_, h.regNodup, ?_, h.sub, ?_, h.fresh, ?_⟩
      · intro y' hy' hal j hj
        obtain ⟨hy, hne⟩ := hmapmem y' hy' hal
        obtain ⟨h1, h2⟩ := h.own y' hy hal j hj
        refine ⟨?_, h2⟩
        have hji : j ≠ i := by
          intro e; rw [e, hti] at h1
          have : y'.id = x.id := by
            have := congrArg TC.owner (Option.some.inj h1); exact this.symm
          exact hne (this.trans hxid)
        show (updAt c.ths i _)[j]? = _
        rw [hget]; simp only [hji, if_false]; exact h1
      · intro j hj
        show j < (updAt c.ths i _).length
        rw [updAt_length]; exact h.regLt j hj
      · have hflip := filter_length_flip c.registry i (fun j => !c.valid j)
          (fun j => !(Core.valid { c with ths := updAt c.ths i (fun t => { t with valid := false }) } j)) h.regNodup hireg
          (by simp [hvi])
          (by simp only [Core.valid, List.getD_eq_getElem?_getD, hget, if_true, hti]; rfl)
          (by intro j hj; simp only [Core.valid, List.getD_eq_getElem?_getD, hget, hj, if_false])
        show (c.cnt + 1) % 2 ^ c.bits = _
        have : Core.nInvalid { c with
            actors := c.actors.map (fun x => if x.id = a ∧ x.alive = true then { x with alive := false } else x),
            ths := updAt c.ths i (fun t => { t with valid := false }),
            cnt := (c.cnt + 1) % 2 ^ c.bits } = c.nInvalid + 1 := hflip
        rw [this, h.cnt]; exact mod_succ_mod _ _
      · intro j hj hv
        have hjlt : j < c.ths.length := by
          have : j < (updAt c.ths i (fun t => { t with valid := false })).length := hj
          rw [updAt_length] at this; exact this
        have hji : j ≠ i := by
          intro e
          have : Core.valid { c with ths := updAt c.ths i (fun t => { t with valid := false }) } j = true := hv
          simp only [Core.valid, List.getD_eq_getElem?_getD, hget, e, if_true, hti] at this
          cases this
        have hvj : c.valid j = true := by
          have : Core.valid { c with ths := updAt c.ths i (fun t => { t with valid := false }) } j = true := hv
          simpa only [Core.valid, List.getD_eq_getElem?_getD, hget, hji, if_false] using this
        obtain ⟨y, hy, hyal, hyc⟩ := h.owned j hjlt hvj
        refine ⟨y, hkeep y hy hyal ?_, hyal, hyc⟩
        intro e
        have := live_unique h hy hyal
        rw [e, hl] at this; cases this
        rw [hxc] at hyc; cases hyc; exact hji rfl

end Backend.PC
