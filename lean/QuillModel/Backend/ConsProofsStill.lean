import QuillModel.Backend.ConsProofsFront
import QuillModel.Backend.ConsProofsWrites
import QuillModel.Backend.CtxRel
/-!
Every step is the pop of a front event or is still (`Prim.pop_or_still`). A still step (`Still`) pops nothing (neither
the global pop history nor a context's `popped` changes), appends no `write` event, keeps the configuration, keeps sink
list and backtrace ring of every logger there is and creates loggers without a ring. The invariants that relate the
history of `write` events to the pop history are closed through it: `InvP`, `InvW`, `InvO`, `InvRg` by `Closed.of_still`
(one line for the still steps, the argument for the pop), `Frozen` and `OrdInv`, which need `Inv` of the state reached, by
`Closed.of_still_inv` (ConsProofsExact.lean), `WInvR.closedOn` by `Prim.pop_or_still` itself.
-/
namespace Backend.PA

abbrev PSame := CtxRel (fun _ _ => True) (fun t t' => t'.popped = t.popped)

theorem PSame.of_ths {s s' : BSt} (h : s'.ths = s.ths) : PSame s s' := CtxRel.of_ths (CtxParts.ofView (·.popped)) h trivial

theorem PSame.setTh (s : BSt) (i : Nat) (f : Th → Th) (hf : ∀ t, (f t).popped = t.popped) : PSame s (s.setTh i f) :=
  CtxRel.setTh (CtxParts.ofView (·.popped)) s i f (hf _)

theorem PSame.frontRel : FrontRel PSame :=
  CtxRel.frontRel (CtxParts.ofView (·.popped)) (fun _ _ _ _ => trivial) (fun _ _ => trivial) (fun _ _ _ _ _ _ hp => hp) (fun _ _ => rfl)
    (fun _ _ _ _ => rfl) (fun _ _ _ => rfl)

structure Still (s s' : BSt) : Prop where
  cfg : s'.cfg = s.cfg
  popLog : s'.popLog = s.popLog
  ps : PSame s s'
  pops : ∀ p, cntP s' p = cntP s p
  log : ∃ evs, s'.log = evs ++ s.log ∧ ∀ e ∈ evs, isWriteEv e = false
  lgsLe : s.lgs.length ≤ s'.lgs.length
  lgsOld : ∀ i, i < s.lgs.length → (s'.lgOf i).sinks = (s.lgOf i).sinks ∧ (s'.lgOf i).bt = (s.lgOf i).bt
  lgsNew : ∀ i, s.lgs.length ≤ i → (s'.lgOf i).bt = none

theorem Still.of_ffr {s s' : BSt} (f : FFrame s s') (p : PSame s s') : Still s s' :=
  ⟨f.cfg, f.popLog, p, f.pops, f.log, f.lgsLe, fun i hi => (f.lgsOld i hi).2, f.lgsNew⟩

theorem Still.of_frame {s s' : BSt} (f : Frame s s') : Still s s' :=
  ⟨f.cfg, f.popLog, .of_ths f.ths, cntP_of_ths f.ths, f.log, Nat.le_of_eq f.lgsLen.symm, fun i _ => (f.lgs i).2,
   fun i hi => by rw [(f.lgs i).2.2, lgOf_default_of_ge s i hi]; rfl⟩

theorem Still.of_hk {s s' : BSt} (k : Hk s s') : Still s s' := .of_ffr (.of_hk k) ⟨trivial, fun j => by rw [k.th j]⟩

theorem Still.then_frame {a b b' c : BSt} (h : Still a b) (f : Frame b b') (e : c = { b' with reported := c.reported }) :
    Still a c := by
  rw [e]
  exact ⟨f.cfg.trans h.cfg, f.popLog.trans h.popLog, h.ps.trans (CtxParts.ofView (·.popped)) (PSame.of_ths f.ths),
    fun p => (cntP_of_ths f.ths p).trans (h.pops p),
    LogExt.trans h.log f.log,
    Nat.le_trans h.lgsLe (Nat.le_of_eq f.lgsLen.symm),
    fun i hi => ⟨(f.lgs i).2.1.trans (h.lgsOld i hi).1, (f.lgs i).2.2.trans (h.lgsOld i hi).2⟩,
    fun i hi => (f.lgs i).2.2.trans (h.lgsNew i hi)⟩

theorem Still.failReset (s : BSt) (i : Nat) : Still s (failReset s i) :=
  (Still.of_ffr (FFrame.setTh s i (fun t => { t with fail := 0 }) (fun _ => rfl)) (.setTh s i _ (fun _ => rfl))).then_frame
    (Frame.emit _ _ rfl) rfl

theorem Still.front (s : BSt) (f : FOp) : Still s (applyFront s f).1 :=
  .of_ffr (applyFront_ffr s f) (PSame.frontRel.applyFront s f)

theorem Prim.pop_or_still {al : FOp → Bool} {s s' : BSt} (st : Prim al s s') :
    (∃ i x rest, (s.th i).buf = x :: rest ∧ s' = popStep s i x rest) ∨ Still s s' := by
  cases st with
  | frame f => exact .inr (.of_frame f)
  | refresh => exact .inr (.of_hk (refreshCache_hk _))
  | ctxEmpty => exact .inr (.of_hk (ctxEmpty_hk _ _))
  | dropCtx => exact .inr (.of_hk (dropCtx_hk _ _))
  | prepRead | commitRead => exact .inr (.of_hk (Hk.setTh _ _ _ (fun _ => rfl)))
  | readOne => exact .inr (.of_hk (readOne_hk _ _ _ _))
  | pop i x rest hb => exact .inl ⟨i, x, rest, hb, rfl⟩
  | failReset => exact .inr (Still.failReset _ _)
  | front => exact .inr (Still.front _ _)

theorem ClosedOn.of_still {al : FOp → Bool} {P : BSt → Prop} (still : ∀ {s s'}, P s → Still s s' → P s')
    (pop : ∀ s i st rest, P s → (s.th i).buf = st :: rest → P (popStep s i st rest)) : ClosedOn al P :=
  closedOn_iff.mpr fun s s' st h => by
    rcases st.pop_or_still with ⟨i, x, rest, hb, rfl⟩ | q
    · exact pop s i x rest h hb
    · exact still h q

theorem Closed.of_still {P : BSt → Prop} (still : ∀ {s s'}, P s → Still s s' → P s')
    (pop : ∀ s i st rest, P s → (s.th i).buf = st :: rest → P (popStep s i st rest)) : Closed P :=
  (ClosedOn.of_still still pop).toClosed

theorem Still.next {s s' : BSt} (h : Still s s') : NExt s s' := .of_nowrite h.log

/-- every sink list is kept or was empty (`lgOf` of an index beyond the list) -/
theorem Still.sinks {s s' : BSt} (h : Still s s') (i : Nat) :
    (s'.lgOf i).sinks = (s.lgOf i).sinks ∨ (s.lgOf i).sinks = [] := by
  by_cases hi : i < s.lgs.length
  · exact Or.inl (h.lgsOld i hi).1
  · right
    rw [lgOf_default_of_ge s i (by omega)]
    rfl

end Backend.PA
