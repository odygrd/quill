import QuillModel.Backend.ConcGrow
import QuillModel.Backend.DrainProgress
/-!
# Progress of the backend under a quiet runner (C06: `flush_log()` returns as long as the backend keeps running)

A *quiet* injection runner performs no frontend operation at the hook sites (`runInj []`). Under a quiet runner, with
every pending record past its grace period (`Ripe`), every poll that finds a pending record pops at least one
event; no record is added; hence after as many polls as there are pending records everything has been popped — in
particular a Flush statement, whose flag is then raised (`FI.popFlag`).
-/
namespace Backend.PB

variable {inj : BSt → Nat → BSt} {c : Cfg} {fl : Nat} {s : BSt}

theorem populate_quiet (hq : Quiet inj) (h : PIo c fl s) (hr : Ripe s) :
    Fr s (populate inj s).1 ∧ (∃ fl' C', PI c none fl' (fun _ => False) C' (populate inj s).1) ∧
    (∀ i ∈ (populate inj s).1.registry, chain ((populate inj s).1.th i) ≠ [] → ((populate inj s).1.th i).buf ≠ []) ∧
    ((∃ i ∈ (populate inj s).1.registry, chain ((populate inj s).1.th i) ≠ []) → (populate inj s).2 ≠ 0) := by
  have g1 : Fr s (populate inj s).1 := fr_read.populate (Fr.quiet hq) s
  -- a pending record of the pass's result was pending, first in its context and ripe, when the pass started
  have key : ∀ i, chain ((populate inj s).1.th i) ≠ [] →
      ((populate inj s).1.th i).buf ≠ [] ∧ (populate inj s).2 ≠ 0 := by
    intro i hne
    rw [(g1.th i).chain] at hne
    cases hd : chain (s.th i) with
    | nil => exact absurd hd hne
    | cons h0 rest =>
      have hripe : h0.ts + c.grace ≤ s.now := by
        rw [← h.cfgEq]; exact hr i h0 (by rw [hd]; exact List.mem_cons_self ..)
      obtain ⟨_, hb, _, hc⟩ := populate_conc hq.injOK (fun s k => (Fr.quiet hq s k).grow) h i h0 (by rw [hd]; rfl) hripe
      exact ⟨hb, hc⟩
  exact ⟨g1, PIo.populate hq.injOK h, fun i _ hne => (key i hne).1, fun ⟨i, _, hne⟩ => (key i hne).2⟩

theorem poll_quiet (hq : Quiet inj) (h : PIo c fl s) (hr : Ripe s) :
    Sub s (Backend.poll inj s) ∧ ((∃ i, chain (s.th i) ≠ []) → pendingCount (Backend.poll inj s) < pendingCount s) := by
  obtain ⟨g1, ⟨fl', C', hp⟩, g3, g4⟩ := populate_quiet hq h hr
  refine ⟨g1.sub.trans (sub_back.pollTail hq.sub s), fun ⟨i, hne⟩ => ?_⟩
  have hir : i ∈ (populate inj s).1.registry := by rw [g1.reg]; exact h.reg i hne
  have hci : chain ((populate inj s).1.th i) ≠ [] := by rw [(g1.th i).chain]; exact hne
  have hb := g3 i hir hci
  rw [poll_eq]
  -- the pass left a buffered event in the cache and every unread queue behind a non-empty buffer: the guard answers no
  refine Nat.lt_of_lt_of_le ((pollTail_pops (fun x => pendingCount x < pendingCount (populate inj s).1) _ (g4 ⟨i, hir, hci⟩)
    (processLowest_quiet hq _ ⟨i, hp.bufCache i hir hb, hb⟩).2
    (fun _ => Nat.lt_of_lt_of_le (processLowest_quiet hq _ ⟨i, hp.toPIo.hasPending.1.bufCache i
      (by rw [(fr_hasPending _).reg]; exact hir) ((fr_hasPending _).buf_ne hb), (fr_hasPending _).buf_ne hb⟩).2
      (fr_hasPending _).sub.pending_le)
    (fun x fuel hx => Nat.lt_of_le_of_lt ((Fr.quiet hq x 4).sub.trans (batchLoop_sub hq fuel _)).pending_le hx)).resolve_right
    fun hblk => ?_) g1.sub.pending_le
  rw [hasPending_false hp.toPIo g3] at hblk
  exact Bool.false_ne_true hblk.2

end Backend.PB

namespace Backend

def quietOp : Op → Bool
  | .poll [] => true
  | .front (.tick _) => true
  | _ => false

def isPoll : Op → Bool
  | .poll _ => true
  | _ => false

theorem quietOp_cases {o : Op} (h : quietOp o = true) : (∃ dt, o = .front (.tick dt)) ∨ o = .poll [] := by
  cases o with
  | front f =>
    cases f with
    | tick dt => exact .inl ⟨dt, rfl⟩
    | _ => cases h
  | poll table =>
    cases table with
    | nil => exact .inr rfl
    | cons _ _ => cases h
  | exit => cases h

def pollCount (ops : List Op) : Nat := (ops.filter isPoll).length

theorem pollCount_cons (o : Op) (os : List Op) : pollCount (o :: os) = (if isPoll o = true then 1 else 0) + pollCount os := by
  unfold pollCount
  rw [List.filter_cons]
  split <;> simp [Nat.add_comm]

namespace PB

structure PG (s : BSt) : Prop where
  gi : GI s
  fi : FI none [] s
  ripe : Ripe s
  run : s.backendGone = false

theorem quiet_applyOp {s : BSt} (h : PG s) (o : Op) (ho : quietOp o = true) :
    PG (applyOp s o).1 ∧ Sub s (applyOp s o).1 ∧
    pendingCount (applyOp s o).1 ≤ pendingCount s - (if isPoll o = true then 1 else 0) := by
  have hgi := h.gi.applyOp o
  have hfi := h.fi.applyOp o
  rcases quietOp_cases ho with ⟨dt, rfl⟩ | rfl
  · have hsub : Sub s (applyOp s (.front (.tick dt))).1 := sub_clock s dt
    exact ⟨⟨hgi, hfi, hsub.ripe h.ripe, h.run⟩, hsub, hsub.pending_le⟩
  · obtain ⟨fl, hI⟩ := h.gi
    have hI' : PIo s.cfg fl { s with siteCnt := [] } := hI.frame rfl
    have hr' : Ripe { s with siteCnt := [] } := h.ripe
    obtain ⟨p1, p2⟩ := poll_quiet quiet_runInj_nil hI' hr'
    have e := applyOp_poll h.run []
    have hsub : Sub s (applyOp s (.poll [])).1 := by
      rw [e]
      have p0 : Sub s { s with siteCnt := [] } := Sub.ofTh rfl rfl rfl rfl (fun _ hf => hf) (fun _ => ThFr.refl _)
      exact p0.trans p1
    refine ⟨⟨hgi, hfi, hsub.ripe h.ripe, by rw [hsub.glob.gone]; exact h.run⟩, hsub, ?_⟩
    -- a poll that finds something pending pops; one that finds nothing leaves nothing
    have hle := hsub.pending_le
    show _ ≤ pendingCount s - 1
    by_cases h0 : pendingCount s = 0
    · rw [h0] at hle ⊢; exact hle
    · have hlt : pendingCount (applyOp s (.poll [])).1 < pendingCount s := by rw [e]; exact p2 (pending_pos h0)
      exact Nat.le_sub_one_of_lt hlt

theorem quiet_run (ops : List Op) : ∀ s, PG s → (∀ o ∈ ops, quietOp o = true) →
    PG (runOps s ops) ∧ Sub s (runOps s ops) ∧ pendingCount (runOps s ops) ≤ pendingCount s - pollCount ops := by
  induction ops with
  | nil => intro s h _; exact ⟨h, Sub.refl _, Nat.le_refl _⟩
  | cons o os ih =>
    intro s h hq
    obtain ⟨a1, a2, a3⟩ := quiet_applyOp h o (hq o (List.mem_cons_self ..))
    obtain ⟨b1, b2, b3⟩ := ih (applyOp s o).1 a1 (fun o' ho' => hq o' (List.mem_cons_of_mem _ ho'))
    rw [runOps_cons, pollCount_cons]
    exact ⟨b1, a2.trans b2, Nat.le_trans b3 (by rw [Nat.sub_add_eq]; exact Nat.sub_le_sub_right a3 _)⟩

theorem quiet_run_empty {s : BSt} (h : PG s) (ops : List Op) (hq : ∀ o ∈ ops, quietOp o = true)
    (hn : pendingCount s ≤ pollCount ops) (j : Nat) : chain ((runOps s ops).th j) = [] :=
  pending_zero (by have := (quiet_run ops s h hq).2.2; omega) j

theorem quiet_run_drains {s : BSt} (h : PG s) (ops : List Op) (hq : ∀ o ∈ ops, quietOp o = true)
    (hn : pendingCount s ≤ pollCount ops) (i : Nat) (st : Stmt) (f : Nat) (hst : st ∈ (s.th i).accepted)
    (hk : st.kind = .flush f) : f ∈ (runOps s ops).flags := by
  obtain ⟨b1, b2, _⟩ := quiet_run ops s h hq
  have hacc : st ∈ ((runOps s ops).th i).accepted := by rw [(b2.th i).acc]; exact hst
  rcases flush_flag_or_pending b1.fi hacc hk with h1 | h1
  · exact h1
  · rw [quiet_run_empty h ops hq hn i] at h1; cases h1

theorem ripe_after_tick {s : BSt} (h : GI s) (dt : Nat) (hdt : s.cfg.grace ≤ dt) :
    Ripe (applyOp s (.front (.tick dt))).1 := by
  obtain ⟨fl, hI⟩ := h
  intro j r hr
  have := hI.leNow j r hr
  show r.ts + s.cfg.grace ≤ s.now + dt
  omega

theorem PG.after_tick {s : BSt} (hgi : GI s) (hfi : FI none [] s) (hrun : s.backendGone = false) (dt : Nat)
    (hdt : s.cfg.grace ≤ dt) : PG (applyOp s (.front (.tick dt))).1 :=
  ⟨hgi.applyOp _, hfi.applyOp _, ripe_after_tick hgi dt hdt, hrun⟩

end PB
end Backend
