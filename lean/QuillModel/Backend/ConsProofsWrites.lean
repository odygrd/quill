import QuillModel.Backend.ConsProofsDispatch
/-!
The count of ordinary `write` events (`wcount`): by the exact block of `writeToSinks_spec` (`EventLog.lean`),
`writeToSinks` adds at most the multiplicity of a sink in the list. The count reads only the keys of the ordinary writes
(`wkeys`, `wcount_eq_wkeys`), so "appends no ordinary write" (`NExt`) is one notion for the counts and for the order.
-/
namespace Backend.PA

/-- no sink is scheduled to throw on `write_log` -/
def NoWriteFault (s : BSt) : Prop := ∀ sid, (s.sinkOf sid).wthrow = []

theorem NoWriteFault.of_core {s s' : BSt} (h : NoWriteFault s) (c : Core s s') : NoWriteFault s' :=
  fun sid => (c.sinks sid).wthrow.trans (h sid)

theorem writeToSinks_nofault (st : Stmt) : ∀ (sids : List Nat) (s : BSt), NoWriteFault s →
    (writeToSinks s st sids).2 = false
  | [], _, _ => rfl
  | sid :: rest, s, h => by
    unfold writeToSinks
    dsimp only
    have hcopy := (Frame.setSinkCopy s sid { s.sinkOf sid with wcalls := (s.sinkOf sid).wcalls + 1 }
      ⟨rfl, rfl, rfl, rfl, rfl, rfl⟩).core
    split
    · rw [if_neg (by simp [throwsAt, h sid])]
      exact writeToSinks_nofault st rest _ (h.of_core (hcopy.trans (Core.emit _ _)))
    · exact writeToSinks_nofault st rest s h

/-- a `write` of statement `id` to sink `sid` that is not a backtrace replay -/
def ordWrite (sid id : Nat) : Ev → Bool
  | .write s i l _ _ => s == sid && i == id && l != 9
  | _ => false

def wcount (log : List Ev) (sid id : Nat) : Nat := log.countP (ordWrite sid id)

/-- `(sink, id, ts)` of an ordinary `write` event (a replayed backtrace statement, level 9, is not ordinary) -/
def ordKey : Ev → Option (Nat × Nat × Nat)
  | .write sid id l ts _ => if l = 9 then none else some (sid, id, ts)
  | _ => none

/-- the ordinary writes of a history, in the order of the history (newest first) -/
def wkeys (log : List Ev) : List (Nat × Nat × Nat) := log.filterMap ordKey

theorem wkeys_append (a b : List Ev) : wkeys (a ++ b) = wkeys a ++ wkeys b := by simp [wkeys, List.filterMap_append]

theorem ordKey_of_not_write {e : Ev} (h : isWriteEv e = false) : ordKey e = none := by
  cases e <;> simp_all [isWriteEv, ordKey]

theorem wkeys_nowrite {evs : List Ev} (h : ∀ e ∈ evs, isWriteEv e = false) : wkeys evs = [] := by
  unfold wkeys
  rw [List.filterMap_eq_nil_iff]
  intro e he
  exact ordKey_of_not_write (h e he)

theorem ordWrite_eq_ordKey (sid id : Nat) (e : Ev) :
    ordWrite sid id e = (ordKey e).any (fun k => k.1 == sid && k.2.1 == id) := by
  cases e with
  | write s i l ts n =>
    simp only [ordWrite, ordKey]
    by_cases hl : l = 9 <;> simp [hl]
  | _ => rfl

theorem wcount_eq_wkeys (log : List Ev) (sid id : Nat) :
    wcount log sid id = (wkeys log).countP (fun k => k.1 == sid && k.2.1 == id) := by
  induction log with
  | nil => rfl
  | cons e l ih =>
    unfold wcount wkeys at ih ⊢
    rw [List.countP_cons, List.filterMap_cons, ih, ordWrite_eq_ordKey]
    cases ordKey e <;> simp [List.countP_cons]

theorem wcount_append (a b : List Ev) (sid id : Nat) : wcount (a ++ b) sid id = wcount a sid id + wcount b sid id := by
  simp [wcount, List.countP_append]

theorem wcount_of_wkeys_nil {evs : List Ev} (h : wkeys evs = []) (sid id : Nat) : wcount evs sid id = 0 := by
  rw [wcount_eq_wkeys, h]
  rfl

theorem wcount_nowrite {evs l : List Ev} (h : ∀ e ∈ evs, isWriteEv e = false) (sid id : Nat) :
    wcount (evs ++ l) sid id = wcount l sid id := by
  rw [wcount_append, wcount_of_wkeys_nil (wkeys_nowrite h), Nat.zero_add]

theorem wcount_emit_nowrite (s : BSt) (e : Ev) (h : isWriteEv e = false) (sid id : Nat) :
    wcount (s.emit e).log sid id = wcount s.log sid id :=
  wcount_nowrite (evs := [e]) (by simpa using h) sid id

/-- the write `k` is a write of the statement `st` -/
def keyOf (k : Nat × Nat × Nat) (st : Stmt) : Prop := k.2.1 = st.id ∧ k.2.2 = st.ts ∧ st.lvl ≠ 9

def NExt (s s' : BSt) : Prop := ∃ evs, s'.log = evs ++ s.log ∧ wkeys evs = []

theorem NExt.trans {a b c : BSt} (h1 : NExt a b) (h2 : NExt b c) : NExt a c := by
  obtain ⟨e1, he1, hn1⟩ := h1
  obtain ⟨e2, he2, hn2⟩ := h2
  exact ⟨e2 ++ e1, by rw [he2, he1, List.append_assoc], by rw [wkeys_append, hn1, hn2]; rfl⟩

theorem NExt.of_nowrite {s s' : BSt} (h : ∃ evs, s'.log = evs ++ s.log ∧ ∀ e ∈ evs, isWriteEv e = false) : NExt s s' := by
  obtain ⟨evs, he, hn⟩ := h
  exact ⟨evs, he, wkeys_nowrite hn⟩

theorem NExt.of_frame {s s' : BSt} (f : Frame s s') : NExt s s' := .of_nowrite f.log

theorem NExt.wcount {s s' : BSt} (h : NExt s s') (sid id : Nat) : wcount s'.log sid id = wcount s.log sid id := by
  obtain ⟨evs, he, hn⟩ := h
  rw [he, wcount_append, wcount_of_wkeys_nil hn, Nat.zero_add]

theorem wcount_cons_nowrite (e : Ev) (l : List Ev) (h : isWriteEv e = false) (sid id : Nat) :
    wcount (e :: l) sid id = wcount l sid id :=
  wcount_nowrite (evs := [e]) (by simpa using h) sid id

theorem wcount_Ws (st : Stmt) (sid id : Nat) (l : List Nat) :
    wcount ((l.map (W st)).reverse) sid id = if st.lvl ≠ 9 ∧ st.id = id then l.count sid else 0 := by
  unfold wcount
  rw [List.countP_reverse, List.countP_map]
  by_cases hc : st.lvl ≠ 9 ∧ st.id = id
  · rw [if_pos hc]
    exact List.countP_congr (fun x _ => by simp [W, ordWrite, hc.1, hc.2])
  · rw [if_neg hc, List.countP_eq_zero]
    intro x _
    simp only [Function.comp, W, ordWrite, Bool.and_eq_true, beq_iff_eq, bne_iff_ne]
    exact fun h => hc ⟨h.2, h.1.2⟩

end Backend.PA
