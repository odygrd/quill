import QuillModel.Backend.FrontShape
import QuillModel.Backend.PcBasic
import QuillModel.Backend.EventLog
/-!
For C16 (level / filter decisions): what a log call does once the level check has passed (`enqFlow_granted`,
`enqFlow_refused`), and what `_write_log_statement` (`writeToSinks`) hands to which sink.
-/
namespace Backend.PC

/-- the record a log call builds: `callStmt` under the name the statements of C16 use -/
def mkStmt (s : BSt) (a lgi : Nat) (kind : Kind) (lvl len : Nat) (dyn : Bool) (id : Nat) (named : Bool) : Stmt :=
  { id := id, kind := kind, lg := lgi, lvl := lvl, ts := s.now,
    size := stmtSize s.cfg kind id len dyn (s.lgOf lgi).gid, actor := a, named := named }

theorem tryEnq_snd (s : BSt) (ci : Nat) (st : Stmt) :
    (tryEnq s ci st).2 = (qPrepareWrite s.cfg (s.th ci).q st.size).2 := by
  unfold tryEnq
  dsimp only
  split <;> simp only [*]

theorem tryEnq_granted {s s2 : BSt} {ci : Nat} {st : Stmt} (h : tryEnq s ci st = (s2, true)) :
    s2 = s.setTh ci (fun t => { t with
      q := qFinishCommit s.cfg (qPrepareWrite s.cfg (s.th ci).q st.size).1 st.size,
      qStmts := t.qStmts ++ [{ st with enqAt := s.now }], accepted := t.accepted ++ [{ st with enqAt := s.now }] }) := by
  unfold tryEnq at h
  dsimp only at h
  split at h
  · exact (Prod.mk.inj h).1.symm
  · cases (Prod.mk.inj h).2

theorem tryEnq_refused {s s2 : BSt} {ci : Nat} {st : Stmt} (h : tryEnq s ci st = (s2, false)) :
    s2 = s.setTh ci (fun t => { t with q := (qPrepareWrite s.cfg (s.th ci).q st.size).1 }) := by
  unfold tryEnq at h
  dsimp only at h
  split at h
  · cases (Prod.mk.inj h).2
  · exact (Prod.mk.inj h).1.symm

theorem enqFlow_granted (s : BSt) (a : Nat) (st : Stmt) (cont : Nat) (first initial : Bool)
    (hk : st.kind = .log) (hc : cont = 0 ∨ cont = 5)
    (hwf : ∀ x i, s.actor a = some x → x.ctx = some i → i < s.ths.length)
    (hg : (qPrepareWrite s.cfg (((ensureCtx s a).1.th (ensureCtx s a).2).q) st.size).2 = true) :
    let e := ensureCtx s a
    let r := enqFlow s a st cont first initial
    (r.1.th e.2).accepted = (e.1.th e.2).accepted ++ [{ st with enqAt := s.now }] ∧
    (r.1.th e.2).qStmts = (e.1.th e.2).qStmts ++ [{ st with enqAt := s.now }] ∧
    (r.1.th e.2).discarded = (e.1.th e.2).discarded ∧
    (∀ j, j ≠ e.2 → r.1.th j = e.1.th j) ∧
    r.2 = obsLog st cont (some true) st.size := by
  intro e r
  have hlt : e.2 < e.1.ths.length := ensureCtx_lt s a hwf
  have hnow : e.1.now = s.now := ensureCtx_now s a
  have hg' : (tryEnq e.1 e.2 st).2 = true := by rw [tryEnq_snd, ensureCtx_cfg]; exact hg
  have haf : ∀ x : BSt, afterEnq x a st cont = (x, obsLog st cont (some true) st.size) := by
    intro x; rcases hc with rfl | rfl <;> simp [afterEnq, hk]
  have hsh : EnqShape s a st cont first initial r := enqFlow_shape ..
  have he : ensureCtx s a = e := rfl
  clear_value r e
  cases hsh with
  | granted h1 h2 =>
    cases h1.symm.trans he
    cases tryEnq_granted h2
    rw [haf]
    refine ⟨?_, ?_, ?_, ?_, rfl⟩
    · show ((BSt.setTh _ _ _).th _).accepted = _
      rw [th_setTh_same _ _ hlt, hnow]
    · show ((BSt.setTh _ _ _).th _).qStmts = _
      rw [th_setTh_same _ _ hlt, hnow]
    · show ((BSt.setTh _ _ _).th _).discarded = _
      rw [th_setTh_same _ _ hlt]
    · intro j hj
      exact th_setTh_ne _ _ hj
  | dropped h1 h2 | dropRetry h1 h2 | blocked h1 h2 =>
    cases h1.symm.trans he
    rw [h2] at hg'
    cases hg'

theorem bumpFail_lists (d : Bool) (s : BSt) (ci : Nat) (st : Stmt) (j : Nat) :
    ((bumpFail d s ci st).th j).accepted = (s.th j).accepted ∧ ((bumpFail d s ci st).th j).qStmts = (s.th j).qStmts ∧
      ((bumpFail d s ci st).th j).buf = (s.th j).buf := by
  unfold bumpFail
  split
  · exact ⟨accepted_setTh _ _ _ _ (fun _ => rfl), qStmts_setTh _ _ _ _ (fun _ => rfl), buf_setTh _ _ _ _ (fun _ => rfl)⟩
  · exact ⟨rfl, rfl, rfl⟩

theorem enqFlow_refused (s : BSt) (a : Nat) (st : Stmt) (cont : Nat) (first initial : Bool)
    (hk : st.kind = .log) (hc : cont = 0 ∨ cont = 5)
    (hwf : ∀ x i, s.actor a = some x → x.ctx = some i → i < s.ths.length)
    (hg : (qPrepareWrite s.cfg (((ensureCtx s a).1.th (ensureCtx s a).2).q) st.size).2 = false) :
    let e := ensureCtx s a
    let r := enqFlow s a st cont first initial
    (∀ j, (r.1.th j).accepted = (e.1.th j).accepted ∧ (r.1.th j).qStmts = (e.1.th j).qStmts ∧
          (r.1.th j).buf = (e.1.th j).buf) ∧
    (s.cfg.dropping = true →
        (r.1.th e.2).discarded = (e.1.th e.2).discarded + 1 ∧ (∀ x, r.1.actor a = some x → x.pend = .none)) ∧
    (s.cfg.dropping = false → (∀ x, r.1.actor a = some x → x.pend = .retry st cont)) := by
  intro e r
  have hlt : e.2 < e.1.ths.length := ensureCtx_lt s a hwf
  have hg' : (tryEnq e.1 e.2 st).2 = false := by rw [tryEnq_snd, ensureCtx_cfg]; exact hg
  have hsh : EnqShape s a st cont first initial r := enqFlow_shape ..
  have he : ensureCtx s a = e := rfl
  clear_value r e
  -- the refused attempt only rewrites the queue's cached positions
  have hq : ∀ {s1 s2 : BSt} {ci : Nat}, tryEnq s1 ci st = (s2, false) → ∀ j,
      (s2.th j).accepted = (s1.th j).accepted ∧ (s2.th j).qStmts = (s1.th j).qStmts ∧ (s2.th j).buf = (s1.th j).buf := by
    intro s1 s2 ci h2 j
    cases tryEnq_refused h2
    exact ⟨accepted_setTh _ _ _ _ (fun _ => rfl), qStmts_setTh _ _ _ _ (fun _ => rfl), buf_setTh _ _ _ _ (fun _ => rfl)⟩
  cases hsh with
  | granted h1 h2 =>
    cases h1.symm.trans he
    rw [h2] at hg'
    cases hg'
  | @dropped s1 s2 ci h1 h2 hd =>
    cases h1.symm.trans he
    refine ⟨fun j => ?_, fun _ => ⟨?_, fun x hx => pend_setActor _ _ _ x hx⟩, fun h => (by rw [hd] at h; cases h)⟩
    · have hb := bumpFail_lists true s2 ci st j
      have h0 := hq h2 j
      exact ⟨hb.1.trans h0.1, hb.2.1.trans h0.2.1, hb.2.2.trans h0.2.2⟩
    · cases tryEnq_refused h2
      show ((bumpFail _ _ _ _).th _).discarded = _
      simp only [bumpFail, hk, isLogKind, if_true]
      rw [th_setTh_same _ _ (by rw [ths_length_setTh]; exact hlt), th_setTh_same _ _ hlt]
  | dropRetry _ _ _ hn => exact absurd hc hn
  | @blocked s1 s2 ci h1 h2 hd =>
    cases h1.symm.trans he
    refine ⟨fun j => ?_, fun h => (by rw [hd] at h; cases h), fun _ x hx => pend_setActor _ _ _ x hx⟩
    have h0 := hq h2 j
    show ((ite _ _ _ : BSt).th j).accepted = _ ∧ ((ite _ _ _ : BSt).th j).qStmts = _ ∧ ((ite _ _ _ : BSt).th j).buf = _
    split
    · have hb := bumpFail_lists false s2 ci st j
      exact ⟨hb.1.trans h0.1, hb.2.1.trans h0.2.1, hb.2.2.trans h0.2.2⟩
    · exact h0

/-- all fields but the call counters agree -/
structure SinkCfgEq (k k' : Sink) : Prop where
  sid : k'.sid = k.sid
  lvl : k'.lvl = k.lvl
  filtM : k'.filtM = k.filtM
  filtR : k'.filtR = k.filtR
  wthrow : k'.wthrow = k.wthrow
  fthrow : k'.fthrow = k.fthrow
  userRef : k'.userRef = k.userRef
  alive : k'.alive = k.alive

theorem SinkCfgEq.refl (k : Sink) : SinkCfgEq k k := ⟨rfl, rfl, rfl, rfl, rfl, rfl, rfl, rfl⟩
theorem SinkCfgEq.trans {a b c : Sink} (h1 : SinkCfgEq a b) (h2 : SinkCfgEq b c) : SinkCfgEq a c := by
  obtain ⟨a1, a2, a3, a4, a5, a6, a7, a8⟩ := h1
  obtain ⟨b1, b2, b3, b4, b5, b6, b7, b8⟩ := h2
  exact ⟨b1.trans a1, b2.trans a2, b3.trans a3, b4.trans a4, b5.trans a5, b6.trans a6, b7.trans a7, b8.trans a8⟩

theorem sinkAccepts_cfgEq {k k' : Sink} (h : SinkCfgEq k k') (st : Stmt) : sinkAccepts k' st = sinkAccepts k st := by
  obtain ⟨_, h2, h3, h4, _⟩ := h
  simp only [sinkAccepts, h2, h3, h4]

theorem sinkOf_setSink_counters (s : BSt) (sid : Nat) (k' : Sink) (hk : SinkCfgEq (s.sinkOf sid) k') (sid' : Nat) :
    SinkCfgEq (s.sinkOf sid') ((s.setSink sid (fun _ => k')).sinkOf sid') := by
  by_cases hex : ∃ x ∈ s.sinks, x.sid = sid
  · rcases sinkOf_setSink_cases s sid (fun _ => k') (fun _ _ => hk.1.trans (sinkOf_sid hex)) sid' with
      e | ⟨rfl, _, e⟩ <;> rw [e]
    · exact SinkCfgEq.refl _
    · exact hk
  · rw [setSink_absent s sid _ hex]; exact SinkCfgEq.refl _

@[simp] theorem sinkOf_emit (s : BSt) (e : Ev) (sid : Nat) : (s.emit e).sinkOf sid = s.sinkOf sid := rfl
@[simp] theorem log_emit (s : BSt) (e : Ev) : (s.emit e).log = e :: s.log := rfl
@[simp] theorem log_setSink (s : BSt) (sid : Nat) (f : Sink → Sink) : (s.setSink sid f).log = s.log := rfl

theorem bump_cfgEq (k : Sink) : SinkCfgEq k { k with wcalls := k.wcalls + 1 } := ⟨rfl, rfl, rfl, rfl, rfl, rfl, rfl, rfl⟩

theorem writeToSinks_cfgEq (st : Stmt) (sids : List Nat) (s : BSt) (sid' : Nat) :
    SinkCfgEq (s.sinkOf sid') ((writeToSinks s st sids).1.sinkOf sid') := by
  have h := (sinkKeep (fun k => (k.sid, k.lvl, k.filtM, k.filtR, k.wthrow, k.fthrow, k.userRef, k.alive)) (fun _ _ => rfl)
    (fun _ _ => rfl)).writeToSinks st sids s sid'
  simp only [Prod.mk.injEq] at h
  obtain ⟨a1, a2, a3, a4, a5, a6, a7, a8⟩ := h
  exact ⟨a1, a2, a3, a4, a5, a6, a7, a8⟩

def writeEv (st : Stmt) (sid : Nat) : Ev := .write sid st.id st.lvl st.ts st.named

theorem writeToSinks_append (st : Stmt) : ∀ (l1 l2 : List Nat) (s : BSt),
    writeToSinks s st (l1 ++ l2) =
      if (writeToSinks s st l1).2 then writeToSinks s st l1 else writeToSinks (writeToSinks s st l1).1 st l2
  | [], l2, s => by simp [writeToSinks]
  | sid :: rest, l2, s => by
    simp only [List.cons_append, writeToSinks]
    split
    · split
      · simp
      · exact writeToSinks_append st rest l2 _
    · exact writeToSinks_append st rest l2 _

end Backend.PC
