import QuillModel.Backend.ConsProofsStill
/-!
`InvW`: in every reachable state the number of ordinary `write` events of statement `id` at sink `sid` in the
whole history is bounded by what the statements popped so far account for (each popped ordinary statement
with that id contributes the multiplicity of `sid` in its logger's sink list). Together with the conservation
invariant (each accepted statement is popped at most once) this is "at most once per sink". What is said here for any
kind of popped statement (`grant`) also serves the level-inclusive count of `LiftRing*`. What one processed event appends is
one equation on the keys of the ordinary writes (`PExt`, `popStep_pext`): the bound here, the expansion of `LiftOrder` and
the counts of `ConsProofsExact` all read it.
-/
namespace Backend.PA

/-- backtrace rings hold only backtrace-level statements -/
def RingOK (s : BSt) : Prop := ∀ i r, (s.lgOf i).bt = some r → ∀ x ∈ r.items, x.lvl = 9

def popBound (s : BSt) (sid id : Nat) : Nat :=
  ((s.popLog.filter (fun st => isOrd st && st.id == id)).map (fun st => (s.lgOf st.lg).sinks.count sid)).sum

structure InvW (s : BSt) : Prop where
  ring : RingOK s
  bound : ∀ sid id, wcount s.log sid id ≤ popBound s sid id

/-- `popBound` is the case of the ordinary statements with one id -/
def grant (q : Stmt → Bool) (s : BSt) (sid : Nat) : Nat :=
  ((s.popLog.filter q).map (fun st => (s.lgOf st.lg).sinks.count sid)).sum

theorem grant_mono (q : Stmt → Bool) {s s' : BSt} (hpop : s'.popLog = s.popLog)
    (hlg : ∀ i, (s'.lgOf i).sinks = (s.lgOf i).sinks ∨ (s.lgOf i).sinks = []) (sid : Nat) :
    grant q s sid ≤ grant q s' sid := by
  unfold grant
  rw [hpop]
  apply List.sum_map_le
  intro st _
  rcases hlg st.lg with e | e
  · rw [e]; exact Nat.le_refl _
  · rw [e]; simp

theorem grant_pop (q : Stmt → Bool) (s : BSt) (i : Nat) (st : Stmt) (rest : List Stmt) (sid : Nat) :
    grant q (popStep s i st rest) sid = (if q st = true then (s.lgOf st.lg).sinks.count sid else 0) + grant q s sid := by
  obtain ⟨s2, c, e⟩ := popStep_eq s i st rest
  have hfun : (fun x : Stmt => ((popStep s i st rest).lgOf x.lg).sinks.count sid) =
      (fun x : Stmt => (s.lgOf x.lg).sinks.count sid) :=
    funext (fun x => by rw [e]; exact congrArg (List.count sid) (c.lgs x.lg).2)
  unfold grant
  rw [popStep_popLog, hfun, List.filter_cons]
  by_cases hq : q st = true
  · rw [if_pos hq, if_pos hq, List.map_cons, List.sum_cons]
  · rw [if_neg hq, if_neg hq, Nat.zero_add]

theorem grant_eq_zero {q : Stmt → Bool} {s : BSt} (hz : s.popLog.countP q = 0) (sid : Nat) : grant q s sid = 0 := by
  unfold grant
  rw [List.countP_eq_length_filter] at hz
  rw [List.length_eq_zero_iff.mp hz]
  rfl

theorem _root_.Backend.RingAll.still {p : Nat → Stmt → Prop} {s s' : BSt} (h : RingAll p s) (q : Still s s') : RingAll p s' :=
  h.of_old (fun i hi => (q.lgsOld i hi).2) q.lgsNew

theorem InvW.still {s s' : BSt} (h : InvW s) (q : Still s s') : InvW s' :=
  ⟨RingAll.still h.ring q, fun sid id => by
    rw [q.next.wcount]
    exact Nat.le_trans (h.bound sid id) (grant_mono _ q.popLog q.sinks sid)⟩

theorem writeToSinks_lgs (st : Stmt) (sids : List Nat) (s : BSt) : (writeToSinks s st sids).1.lgs = s.lgs :=
  lgs_sinkRel.writeToSinks st sids s


theorem popStep_ringAll {p : Nat → Stmt → Prop} (hp : ∀ st : Stmt, st.lvl = 9 → p st.lg st) {s : BSt} (h : RingAll p s)
    (i : Nat) (st : Stmt) (rest : List Stmt) : RingAll p (popStep s i st rest) := by
  obtain ⟨s2, f, e⟩ := popStep_frame s i st rest
  rw [e]
  exact (processEvent_ringAll hp h st).of_bt (fun j => (f.lgs j).2.2)

theorem NExt.of_ext {s s' : BSt} (h : LogExt (fun e => ordKey e = none) s s') : NExt s s' := by
  obtain ⟨evs, he, hn⟩ := h
  exact ⟨evs, he, List.filterMap_eq_nil_iff.mpr hn⟩

/-- what one processed event appends: an ordinary statement is dispatched, and then — as for every other event
    from the start — no ordinary write follows (a backtrace flush replays level-9 statements only) -/
theorem processEvent_next {s : BSt} (h : RingOK s) (st : Stmt) :
    NExt (if isOrd st = true then (dispatch s st).1 else s) (processEvent s st).1 := by
  refine NExt.of_ext ((processEvent_log s st).mono fun e he => ?_)
  rcases he with (rfl | ⟨x, hx, sid, _, rfl | rfl⟩) | ⟨_, rfl | ⟨x, _, rfl | rfl⟩⟩
  · rfl
  · unfold ringOf at hx
    cases hb : (s.lgOf st.lg).bt with
    | none => rw [hb] at hx; cases hx
    | some r => rw [hb] at hx; simp [W, ordKey, h st.lg r hb x hx]
  all_goals rfl

/-- the same for the pop: the notification of an escaped exception is no write -/
theorem popStep_next {s : BSt} (h : RingOK s) (i : Nat) (st : Stmt) (rest : List Stmt) :
    NExt (if isOrd st = true then (dispatch s st).1 else s) (popStep s i st rest) := by
  obtain ⟨s2, f, e⟩ := popStep_frame s i st rest
  obtain ⟨evs, he, hz⟩ := (processEvent_next h st).trans (NExt.of_frame f)
  exact ⟨evs, by rw [e]; exact he, hz⟩

def keyAt (x : Stmt) (sid : Nat) : Nat × Nat × Nat := (sid, x.id, x.ts)

theorem wkeys_Ws_eq (st : Stmt) (h9 : st.lvl ≠ 9) (l : List Nat) :
    wkeys ((l.map (W st)).reverse) = (l.map (keyAt st)).reverse := by
  unfold wkeys
  rw [List.filterMap_reverse]
  congr 1
  induction l with
  | nil => rfl
  | cons x xs ih =>
    rw [List.map_cons, List.map_cons, List.filterMap_cons, ih]
    simp [W, ordKey, h9, keyAt]

/-- `b` lists the sinks that a dispatch of `st` in `s` writes to: the accepting sinks of its logger, all of them or those
    before the first one that throws (`writeToSinks_spec`) -/
def Written (s : BSt) (st : Stmt) (b : List Nat) : Prop :=
  ((dispatch s st).2 = false ∧ b = (s.lgOf st.lg).sinks.filter (acc s st)) ∨
  ∃ pre f post, (s.lgOf st.lg).sinks = pre ++ f :: post ∧ (dispatch s st).2 = true ∧ acc s st f = true ∧
    b = pre.filter (acc s st)

theorem Written.sublist {s : BSt} {st : Stmt} {b : List Nat} (h : Written s st b) : b.Sublist (s.lgOf st.lg).sinks := by
  rcases h with ⟨_, rfl⟩ | ⟨pre, f, post, e, _, _, rfl⟩
  · exact List.filter_sublist
  · rw [e]; exact List.filter_sublist.trans (List.sublist_append_left pre _)

/-- `s'` has the history of `s` plus events whose ordinary writes are those of `st` at the sinks `b`, in the order of `b`;
    `b` is what a dispatch writes to if `st` is ordinary, and empty otherwise. `NExt` is the case `b = []`. -/
structure PExt (st : Stmt) (s s' : BSt) (b : List Nat) : Prop where
  log : ∃ evs, s'.log = evs ++ s.log ∧ wkeys evs = (b.map (keyAt st)).reverse
  dec : if isOrd st = true then Written s st b else b = []

theorem PExt.of_next {s s' : BSt} {st : Stmt} (h : NExt (if isOrd st = true then (dispatch s st).1 else s) s') :
    ∃ b, PExt st s s' b := by
  obtain ⟨evs, he, hn⟩ := h
  split at he
  · next ho =>
    have h9 := (isOrd_iff.mp ho).2
    rcases writeToSinks_spec st (s.lgOf st.lg).sinks s with ⟨d, e⟩ | ⟨pre, f, post, e1, d, a, e⟩
    · exact ⟨_, ⟨_, by rw [he, dispatch, e, ← List.append_assoc], by rw [wkeys_append, hn, wkeys_Ws_eq st h9]; rfl⟩,
        by rw [if_pos ho]; exact .inl ⟨d, rfl⟩⟩
    · refine ⟨_, ⟨evs ++ Ev.wthrow f st.id :: ((pre.filter (acc s st)).map (W st)).reverse,
        by rw [he, dispatch, e, List.append_assoc], ?_⟩, by rw [if_pos ho]; exact .inr ⟨pre, f, post, e1, d, a, rfl⟩⟩
      rw [wkeys_append, hn]
      -- the `wthrow` event is no write
      exact wkeys_Ws_eq st h9 _
  · next ho => exact ⟨[], ⟨evs, he, hn⟩, by rw [if_neg ho]⟩

theorem processEvent_pext {s : BSt} (h : RingOK s) (st : Stmt) : ∃ b, PExt st s (processEvent s st).1 b :=
  PExt.of_next (processEvent_next h st)

theorem popStep_pext {s : BSt} (h : RingOK s) (i : Nat) (st : Stmt) (rest : List Stmt) :
    ∃ b, PExt st s (popStep s i st rest) b :=
  PExt.of_next (popStep_next h i st rest)

theorem PExt.sublist {s s' : BSt} {st : Stmt} {b : List Nat} (h : PExt st s s' b) : b.Sublist (s.lgOf st.lg).sinks := by
  have h2 := h.dec
  split at h2
  · exact h2.sublist
  · rw [h2]; exact List.nil_sublist _

theorem PExt.ord {s s' : BSt} {st : Stmt} {b : List Nat} (h : PExt st s s' b) (hb : b ≠ []) : isOrd st = true := by
  have h2 := h.dec
  split at h2
  · assumption
  · exact absurd h2 hb

theorem wcount_of_keys {evs : List Ev} {st : Stmt} {b : List Nat} (h : wkeys evs = (b.map (keyAt st)).reverse)
    (sid id : Nat) : wcount evs sid id = if st.id = id then b.count sid else 0 := by
  rw [wcount_eq_wkeys, h, List.countP_reverse, List.countP_map]
  split
  · next e => exact List.countP_congr (fun x _ => by simp [keyAt, e])
  · next e => exact List.countP_eq_zero.mpr (fun x _ => by simp [keyAt, e])

theorem PExt.count {s s' : BSt} {st : Stmt} {b : List Nat} (h : PExt st s s' b) (sid id : Nat) :
    wcount s'.log sid id = (if st.id = id then b.count sid else 0) + wcount s.log sid id := by
  obtain ⟨evs, he, hk⟩ := h.log
  rw [he, wcount_append, wcount_of_keys hk]

theorem PExt.count_le {s s' : BSt} {st : Stmt} {b : List Nat} (h : PExt st s s' b) (sid id : Nat) :
    wcount s'.log sid id ≤
      wcount s.log sid id + (if isOrd st = true ∧ st.id = id then (s.lgOf st.lg).sinks.count sid else 0) := by
  rw [h.count]
  have hs := h.sublist.count_le sid
  by_cases hb : b = []
  · subst hb
    simp
  · have ho := h.ord hb
    simp only [ho, true_and]
    split <;> omega

theorem InvW.pop {s : BSt} (h : InvW s) (i : Nat) (st : Stmt) (rest : List Stmt) : InvW (popStep s i st rest) := by
  refine ⟨popStep_ringAll (fun _ hl => hl) h.ring i st rest, fun sid id => ?_⟩
  obtain ⟨b, hb⟩ := popStep_pext h.ring i st rest
  refine Nat.le_trans (hb.count_le sid id) ?_
  have := h.bound sid id
  have hg : popBound (popStep s i st rest) sid id =
      (if (isOrd st && st.id == id) = true then (s.lgOf st.lg).sinks.count sid else 0) + popBound s sid id :=
    grant_pop (fun st => isOrd st && st.id == id) s i st rest sid
  rw [hg]
  simp only [Bool.and_eq_true, beq_iff_eq]
  split <;> omega

theorem InvW.closed : Closed InvW := Closed.of_still InvW.still (fun _ i st rest h _ => h.pop i st rest)

end Backend.PA
