import QuillModel.Backend.QLink
import QuillModel.Backend.ConsProofsBasics
/-!
What the bounded-queue calls of the backend model do to the fields the conservation invariant reads
(`wpos`, `rpos`, newest published writer position, `recs`, `nread`), and the coherence predicate `QCoh`
between a context's abstract record list `qStmts` and the byte-exact queue state `q`.
-/
namespace Backend.PA
open Spsc

/-- the fields of the queue state that the coherence invariant reads -/
structure QSame (q q' : St) : Prop where
  wpos : q'.wpos = q.wpos
  rpos : q'.rpos = q.rpos
  wh : q'.wHist = q.wHist
  recs : q'.recs = q.recs
  nread : q'.nread = q.nread

theorem QSame.refl (q : St) : QSame q q := ⟨rfl, rfl, rfl, rfl, rfl⟩

theorem qPrepareWrite_same (c : Cfg) (q : St) (n : Nat) : QSame q (qPrepareWrite c q n).1 := by
  obtain ⟨_, _, e⟩ := qPrepareWrite_upd c q n
  rw [e]; exact ⟨rfl, rfl, rfl, rfl, rfl⟩

theorem qEmpty_same (c : Cfg) (q : St) : QSame q (qEmpty c q).1 := by
  obtain ⟨_, _, e, _⟩ := qEmpty_upd c q
  rw [e]; exact ⟨rfl, rfl, rfl, rfl, rfl⟩

theorem qPrepareRead_same (c : Cfg) (q : St) : QSame q (qPrepareRead c q).1 :=
  qPrepareRead_fst c q ▸ qEmpty_same c q

theorem qCommitRead_same (c : Cfg) (q : St) : QSame q (qCommitRead c q) := by
  obtain ⟨_, e⟩ := qCommitRead_upd c q
  rw [e]; exact ⟨rfl, rfl, rfl, rfl, rfl⟩

/-- coherence between the abstract record list and the byte-exact queue state: the newest published
    writer position is the writer position (records are committed as soon as they are finished), the
    distance writer − reader is the total size of the pending records, the records written but not yet
    finished by the reader are exactly the pending ones (by size), and no record is empty -/
structure QCoh (q : St) (pending : List Stmt) : Prop where
  pub : q.wHist.headD 0 = q.wpos
  dist : q.wpos = q.rpos + (pending.map (·.size)).sum
  nle : q.nread ≤ q.recs.length
  recs : q.recs.drop q.nread = pending.map (·.size)
  pos : ∀ st ∈ pending, 0 < st.size

theorem QCoh.of_same {q q' : St} {l : List Stmt} (h : QCoh q l) (e : QSame q q') : QCoh q' l :=
  ⟨by rw [e.wh, e.wpos]; exact h.pub, by rw [e.wpos, e.rpos]; exact h.dist,
   by rw [e.recs, e.nread]; exact h.nle, by rw [e.recs, e.nread]; exact h.recs, h.pos⟩

theorem QCoh.qlink {q : St} {l : List Stmt} (h : QCoh q l) : QLink q l := ⟨h.pub, h.dist, h.pos⟩

theorem QCoh.of_qlink {q : St} {l : List Stmt} (h : QLink q l) (hn : q.nread ≤ q.recs.length)
    (hr : q.recs.drop q.nread = l.map (·.size)) : QCoh q l := ⟨h.pub, h.dist, hn, hr, h.pos⟩

theorem QCoh.empty {c : Cfg} {q : St} {l : List Stmt} (h : QCoh q l) (he : (qEmpty c q).2 = true) : l = [] :=
  h.qlink.nil_of_empty he

theorem QCoh.init (cap batch : Nat) : QCoh (Spsc.init cap batch) [] :=
  ⟨rfl, rfl, Nat.le_refl _, rfl, by simp⟩

theorem QCoh.enq {c : Cfg} {q : St} {l : List Stmt} (h : QCoh q l) (st : Stmt) (hp : 0 < st.size) :
    QCoh (qFinishCommit c q st.size) (l ++ [st]) := by
  refine .of_qlink (h.qlink.enq c st hp) ?_ ?_
  · show q.nread ≤ (q.recs ++ [st.size]).length
    have := h.nle
    rw [List.length_append]; omega
  · show (q.recs ++ [st.size]).drop q.nread = _
    rw [List.drop_append_of_le_length h.nle, h.recs]; simp

theorem QCoh.read {c : Cfg} {q : St} {st : Stmt} {rest : List Stmt} (h : QCoh q (st :: rest)) :
    QCoh (qFinishRead c q st.size) rest := by
  have hr := h.recs
  have hlt : q.nread < q.recs.length := by
    by_cases hh : q.nread < q.recs.length
    · exact hh
    · rw [List.drop_eq_nil_of_le (by omega)] at hr; simp at hr
  refine .of_qlink (h.qlink.read c) hlt ?_
  show q.recs.drop (q.nread + 1) = _
  rw [← List.drop_drop, hr]; simp

end Backend.PA
