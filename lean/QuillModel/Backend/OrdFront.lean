import QuillModel.Backend.OrdInv
import QuillModel.Backend.PcSkeleton
/-!
Frontend operations preserve the ordering invariant `PI` (for every cut-off, every set of unread contexts).
-/
namespace Backend.PB

variable {c : Cfg} {ex : Option Nat} {fl : Nat} {T : Nat → Prop} {C : List Nat} {s : BSt}

theorem PI.tick (h : PI c ex fl T C s) (dt : Nat) : PI c ex fl T C { s with now := s.now + dt } :=
  { h with
    floorNow := Nat.le_trans h.floorNow (Nat.sub_le_sub_right (Nat.le_add_right _ _) _)
    leNow := fun i st hst => Nat.le_trans (h.leNow i st hst) (Nat.le_add_right _ _)
    pend := fun a x st hx hex hp =>
      let ⟨h1, h2, h3⟩ := h.pend a x st hx hex hp
      ⟨Nat.le_trans h1 (Nat.le_add_right _ _), h2, h3⟩
    ord := fun hg0 hr0 hp => (h.ord hg0 hr0 hp).congr rfl rfl (fun _ => rfl) (fun _ => rfl) }

theorem not_pend_none (st : Stmt) : ¬ isPendOf Pend.none st := by
  rintro ⟨c, h | h⟩ <;> cases h
theorem not_pend_flag (f : Nat) (st : Stmt) : ¬ isPendOf (Pend.flag f) st := by
  rintro ⟨c, h | h⟩ <;> cases h

theorem actor_setActor_cases {s : BSt} {a b : Nat} {g : Actor → Actor} {x' : Actor}
    (hid : ∀ x, (g x).id = x.id) (hal : ∀ x, (g x).alive = x.alive)
    (h : (s.setActor a g).actor b = some x') :
    (b ≠ a ∧ s.actor b = some x') ∨ (b = a ∧ ∃ x, s.actor a = some x ∧ x' = g x) := by
  by_cases hb : b = a
  · subst hb
    rw [actor_setActor_same s b g hid hal] at h
    cases hx : s.actor b with
    | none => rw [hx] at h; simp at h
    | some x => rw [hx] at h; right; exact ⟨rfl, x, rfl, by simpa using h.symm⟩
  · rw [actor_setActor_ne s g hid hb] at h; left; exact ⟨hb, h⟩

/-- The actors are replaced: every live actor afterwards either has no context and no parked statement, or is a live
    actor of `s` with the same context whose parked statement (if not exempt) is fine. -/
theorem PI.actors {ex' : Option Nat} {acts : List Actor} (h : PI c ex fl T C s)
    (key : ∀ b x', ({ s with actors := acts } : BSt).actor b = some x' →
      (x'.ctx = none ∧ ∀ st, ¬ isPendOf x'.pend st) ∨
      ∃ x, s.actor b = some x ∧ x'.ctx = x.ctx ∧ ∀ st, some b ≠ ex' → isPendOf x'.pend st →
        st.ts ≤ s.now ∧ 0 < st.size ∧ ∀ i, x.ctx = some i → ∀ r ∈ chain (s.th i), r.ts ≤ st.ts) :
    PI c ex' fl T C { s with actors := acts } :=
  { h with
    ctxLt := fun b x' i hx hi => by
      rcases key b x' hx with ⟨h0, _⟩ | ⟨x, h1, hc, _⟩
      · rw [h0] at hi; cases hi
      · exact h.ctxLt b x i h1 (hc ▸ hi)
    ctxReg := fun b x' i hx hi => by
      rcases key b x' hx with ⟨h0, _⟩ | ⟨x, h1, hc, _⟩
      · rw [h0] at hi; cases hi
      · exact h.ctxReg b x i h1 (hc ▸ hi)
    ctxInj := fun b d x' y' i hx hy hxi hyi => by
      rcases key b x' hx with ⟨h0, _⟩ | ⟨x, h1, hc, _⟩
      · rw [h0] at hxi; cases hxi
      · rcases key d y' hy with ⟨h0, _⟩ | ⟨y, h2, hd, _⟩
        · rw [h0] at hyi; cases hyi
        · exact h.ctxInj b d x y i h1 h2 (hc ▸ hxi) (hd ▸ hyi)
    pend := fun b x' st hx hb hpd => by
      rcases key b x' hx with ⟨_, h0⟩ | ⟨x, _, hc, hp⟩
      · exact absurd hpd (h0 st)
      · obtain ⟨p1, p2, p3⟩ := hp st hb hpd
        exact ⟨p1, p2, fun i hi => p3 i (hc ▸ hi)⟩
    ord := fun hg0 hr0 hp => (h.ord hg0 hr0 hp).congr rfl rfl (fun _ => rfl) (fun _ => rfl) }

theorem PI.setActor {ex' : Option Nat} (h : PI c ex fl T C s) (a : Nat) (g : Actor → Actor)
    (hid : ∀ x, (g x).id = x.id) (hal : ∀ x, (g x).alive = x.alive) (hctx : ∀ x, (g x).ctx = x.ctx)
    (hex : ∀ b, b ≠ a → some b ≠ ex' → some b ≠ ex)
    (hp : ∀ x st, s.actor a = some x → some a ≠ ex' → isPendOf (g x).pend st →
          st.ts ≤ s.now ∧ 0 < st.size ∧ ∀ i, x.ctx = some i → ∀ r ∈ chain (s.th i), r.ts ≤ st.ts) :
    PI c ex' fl T C (s.setActor a g) := by
  refine h.actors (fun b x' hx => .inr ?_)
  rcases actor_setActor_cases hid hal hx with ⟨hne, h1⟩ | ⟨rfl, x, h1, rfl⟩
  · exact ⟨x', h1, rfl, fun st hb hpd => h.pend b x' st h1 (hex b hne hb) hpd⟩
  · exact ⟨x, h1, hctx x, fun st hb hpd => hp x st h1 hb hpd⟩

theorem PI.setActor_keep (h : PI c ex fl T C s) (a : Nat) (g : Actor → Actor)
    (hid : ∀ x, (g x).id = x.id) (hal : ∀ x, (g x).alive = x.alive) (hctx : ∀ x, (g x).ctx = x.ctx)
    (hpe : ∀ x, (g x).pend = x.pend) : PI c ex fl T C (s.setActor a g) :=
  h.setActor a g hid hal hctx (fun _ _ hb => hb) (fun x st hx hb hpd => h.pend a x st hx hb (by rw [hpe] at hpd; exact hpd))

theorem PI.setActor_clear {a : Nat} (h : PI c (some a) fl T C s) (g : Actor → Actor)
    (hid : ∀ x, (g x).id = x.id) (hal : ∀ x, (g x).alive = x.alive) (hctx : ∀ x, (g x).ctx = x.ctx)
    (hpe : ∀ x st, ¬ isPendOf (g x).pend st) : PI c none fl T C (s.setActor a g) :=
  h.setActor a g hid hal hctx (fun _ hne _ hh => hne (Option.some.inj hh)) (fun x st _ _ hpd => absurd hpd (hpe x st))

theorem PI.setActor_clear' {a : Nat} (h : PI c none fl T C s) (g : Actor → Actor)
    (hid : ∀ x, (g x).id = x.id) (hal : ∀ x, (g x).alive = x.alive) (hctx : ∀ x, (g x).ctx = x.ctx)
    (hpe : ∀ x st, ¬ isPendOf (g x).pend st) : PI c none fl T C (s.setActor a g) :=
  (h.unex (a := a)).setActor_clear g hid hal hctx hpe

theorem PI.killActor (h : PI c ex fl T C s) (a : Nat) (g : Actor → Actor)
    (hid : ∀ x, (g x).id = x.id) (hal : ∀ x, (g x).alive = false) : PI c ex fl T C (s.setActor a g) := by
  refine h.actors (fun b x' hx => .inr ?_)
  by_cases hb : b = a
  · subst hb
    rw [show ({ s with actors := _ } : BSt).actor b = (s.setActor b g).actor b from rfl, actor_setActor_kill s b g hal] at hx
    cases hx
  · rw [show ({ s with actors := _ } : BSt).actor b = (s.setActor a g).actor b from rfl, actor_setActor_ne s g hid hb] at hx
    exact ⟨x', hx, rfl, fun st hbe hpd => h.pend b x' st hx hbe hpd⟩

theorem PI.addActor (h : PI c ex fl T C s) (a : Nat) (ha : s.actor a = none) :
    PI c ex fl T C { s with actors := s.actors ++ [{ id := a }] } := by
  refine h.actors (fun b x' hx => ?_)
  rw [actor_append s a b ha] at hx
  by_cases hb : b = a
  · rw [if_pos hb] at hx
    cases hx
    exact .inl ⟨rfl, not_pend_none⟩
  · rw [if_neg hb] at hx
    exact .inr ⟨x', hx, rfl, fun st hbe hpd => h.pend b x' st hx hbe hpd⟩

theorem chain_mkTh (c : Cfg) (a : Nat) : chain (mkTh c a) = [] := rfl

theorem qc_mkTh (c : Cfg) (a : Nat) : QC (mkTh c a) := ⟨rfl, rfl, (fun _ h => by cases h), ⟨0, Nat.zero_le _, rfl⟩⟩

theorem qc_default : QC (default : Th) := ⟨rfl, rfl, (fun _ h => by cases h), ⟨0, Nat.zero_le _, rfl⟩⟩

/-- `get_local_thread_context`: the context of `a` exists afterwards, is `a`'s alone, and is empty if new -/
theorem PI.ensureCtx_eq (h : PI c ex fl T C s) {a : Nat} {x : Actor} (hx : s.actor a = some x) {s1 : BSt} {ci : Nat}
    (he : Backend.ensureCtx s a = (s1, ci)) :
    PI c ex fl T C s1 ∧ s1.now = s.now ∧ s1.cfg = s.cfg ∧ ∃ x', s1.actor a = some x' ∧ x'.ctx = some ci ∧ x'.pend = x.pend ∧
      ∀ r ∈ chain (s1.th ci), ∃ i, x.ctx = some i ∧ r ∈ chain (s.th i) := by
  unfold Backend.ensureCtx at he
  simp only [hx, Option.bind_some] at he
  cases hc : x.ctx with
  | some i =>
    rw [hc] at he
    cases he
    exact ⟨h, rfl, rfl, x, hx, hc, rfl, fun r hr => ⟨_, rfl, hr⟩⟩
  | none =>
    rw [hc] at he
    cases he
    generalize hn : s.ths.length = n
    let sA : BSt := { s with ths := s.ths ++ [mkTh s.cfg a], registry := s.registry ++ [n], newFlag := true }
    let g : Actor → Actor := fun x => { x with ctx := some n }
    have hth : ∀ j, (sA.setActor a g).th j = if j = n then mkTh s.cfg a else s.th j := by
      intro j
      rw [← hn]
      exact th_append (s := s) rfl j
    have hid : ∀ y, (g y).id = y.id := fun _ => rfl
    have hal : ∀ y, (g y).alive = y.alive := fun _ => rfl
    have hact : ∀ b x', (sA.setActor a g).actor b = some x' →
        (b ≠ a ∧ s.actor b = some x') ∨ (b = a ∧ x' = g x) := by
      intro b x' hb
      rcases actor_setActor_cases hid hal hb with ⟨h1, h2⟩ | ⟨h1, x0, h2, h3⟩
      · exact Or.inl ⟨h1, h2⟩
      · refine .inr ⟨h1, ?_⟩
        have : s.actor a = some x0 := h2
        rw [hx] at this
        cases this
        exact h3
    -- a clause about one context holds of the new, empty one for no reason and is inherited by the others
    have hall : ∀ {Φ : Nat → Th → Prop}, Φ n (mkTh s.cfg a) → (∀ j, j ≠ n → Φ j (s.th j)) →
        ∀ j, Φ j ((sA.setActor a g).th j) := by
      intro Φ h0 h1 j
      rw [hth]; split
      · rename_i e; exact e ▸ h0
      · rename_i hne; exact h1 j hne
    have hreg : ∀ j, j ≠ n → j ∈ s.registry ++ [n] → j ∈ s.registry := fun j hne hj =>
      (List.mem_append.mp hj).resolve_right fun h1 => hne (List.mem_singleton.mp h1)
    have hprem : PremI (sA.setActor a g) → PremI s := fun hp j st hst => by
      have := hp j st
      rw [hth] at this
      by_cases hj : j = n
      · rw [th_default_of_ge s j (by omega)] at hst; cases hst
      · rw [if_neg hj] at this; exact this hst
    refine ⟨?_, rfl, rfl, g x, ?_, rfl, rfl, ?_⟩
    · exact { h with
        sorted := hall (Φ := fun _ t => (chain t).Pairwise (fun a b => a.ts ≤ b.ts)) List.Pairwise.nil fun j _ => h.sorted j
        leNow := hall (Φ := fun _ t => ∀ st ∈ chain t, st.ts ≤ s.now) (fun _ hst => nomatch hst) fun j _ => h.leNow j
        qc := hall (Φ := fun _ t => QC t) (qc_mkTh _ _) fun j _ => h.qc j
        reg := hall (Φ := fun j t => chain t ≠ [] → j ∈ s.registry ++ [n]) (fun hc => absurd rfl hc)
          fun j _ hc => List.mem_append_left _ (h.reg j hc)
        bufCache := fun j => hall (Φ := fun j t => j ∈ s.registry ++ [n] → t.buf ≠ [] → j ∈ s.cache)
          (fun _ hb => absurd rfl hb) (fun j hne hjr => h.bufCache j (hreg j hne hjr)) j
        cacheReg := fun i hi => List.mem_append_left _ (h.cacheReg i hi)
        fresh := fun hf => nomatch hf
        ctxLt := fun b x' i hb hi => by
          show i < (s.ths ++ [mkTh s.cfg a]).length
          rw [List.length_append, hn]
          rcases hact b x' hb with ⟨_, h2⟩ | ⟨_, rfl⟩
          · exact Nat.lt_succ_of_lt (hn ▸ h.ctxLt b x' i h2 hi)
          · cases hi; exact Nat.lt_succ_self _
        ctxReg := fun b x' i hb hi => by
          rcases hact b x' hb with ⟨_, h2⟩ | ⟨_, rfl⟩
          · obtain ⟨r1, r2⟩ := h.ctxReg b x' i h2 hi
            have := h.ctxLt b x' i h2 hi
            refine ⟨List.mem_append_left _ r1, ?_⟩
            rw [hth, if_neg (by omega)]; exact r2
          · cases hi
            refine ⟨List.mem_append_right _ (List.mem_singleton.mpr rfl), ?_⟩
            rw [hth, if_pos rfl]; rfl
        ctxInj := fun b d x' y' i hb hd hxi hyi => by
          -- a context index an actor of `s` holds is below `n`, the index of the new context
          rcases hact b x' hb with ⟨_, h1⟩ | ⟨rfl, rfl⟩ <;> rcases hact d y' hd with ⟨_, h2⟩ | ⟨rfl, rfl⟩
          · exact h.ctxInj b d x' y' i h1 h2 hxi hyi
          · cases hyi
            have := h.ctxLt b x' n h1 hxi
            omega
          · cases hxi
            have := h.ctxLt d y' n h2 hyi
            omega
          · rfl
        pend := fun b x' st hb hbe hpd => by
          rcases hact b x' hb with ⟨_, h1⟩ | ⟨rfl, rfl⟩
          · obtain ⟨p1, p2, p3⟩ := h.pend b x' st h1 hbe hpd
            refine ⟨p1, p2, fun i hi => ?_⟩
            have := h.ctxLt b x' i h1 hi
            rw [hth, if_neg (by omega)]; exact p3 i hi
          · obtain ⟨p1, p2, _⟩ := h.pend b x st hx hbe hpd
            refine ⟨p1, p2, fun i hi => ?_⟩
            cases hi
            rw [hth, if_pos rfl, chain_mkTh]; intro r hr; cases hr
        capOK := hall (Φ := fun j t => j < (s.ths ++ [mkTh s.cfg a]).length → t.q.cap = s.cfg.qcap) (fun _ => rfl)
          fun j hne hj => h.capOK j (by rw [List.length_append, hn] at hj; exact hn ▸ Nat.lt_of_le_of_ne (Nat.le_of_lt_succ hj) hne)
        ord := fun hg0 hr0 hp => by
          have o := h.ord hg0 hr0 (hprem hp)
          exact {
            popSorted := o.popSorted
            above := fun p hpp i => hall (Φ := fun i t => i ∈ s.registry ++ [n] → ∀ st ∈ chain t, p.ts ≤ st.ts)
              (fun _ _ hst => nomatch hst) (fun i hne hir => o.above p hpp i (hreg i hne hir)) i
            popFloor := o.popFloor
            bufFloor := hall (Φ := fun _ t => ∀ st ∈ t.buf, st.ts ≤ fl) (fun _ hst => nomatch hst) fun i _ => o.bufFloor i
            late := fun i => hall (Φ := fun i t => i ∈ s.registry ++ [n] → ¬ T i → t.buf = [] → ∀ st ∈ t.qStmts, fl ≤ st.ts)
              (fun _ _ _ _ hst => nomatch hst) (fun i hne hir => o.late i (hreg i hne hir)) i } }
    · have : (sA.setActor a g).actor a = (sA.actor a).map g := actor_setActor_same sA a g hid hal
      rw [this]
      show (s.actor a).map g = _
      rw [hx]
      rfl
    · intro r hr
      have : (sA.setActor a g).th n = mkTh s.cfg a := by rw [hth, if_pos rfl]
      rw [this, chain_mkTh] at hr; cases hr

theorem PI.ensureCtx (h : PI c ex fl T C s) (a : Nat) (x : Actor) (hx : s.actor a = some x) :
    PI c ex fl T C (ensureCtx s a).1 ∧ (ensureCtx s a).1.now = s.now ∧ (ensureCtx s a).1.cfg = s.cfg ∧
    ∃ x', (ensureCtx s a).1.actor a = some x' ∧ x'.ctx = some (ensureCtx s a).2 ∧ x'.pend = x.pend ∧
      ∀ r ∈ chain ((ensureCtx s a).1.th (ensureCtx s a).2), ∃ i, x.ctx = some i ∧ r ∈ chain (s.th i) :=
  h.ensureCtx_eq hx (s1 := (Backend.ensureCtx s a).1) (ci := (Backend.ensureCtx s a).2) rfl

theorem PI.enq {a : Nat} (h : PI c (some a) fl T C s) (x : Actor) (hx : s.actor a = some x) (ci : Nat)
    (hctx : x.ctx = some ci) (st : Stmt) (hts : st.ts ≤ s.now) (henq : st.enqAt = s.now)
    (hfit : ∀ r ∈ chain (s.th ci), r.ts ≤ st.ts) (f : Th → Th)
    (hf : (f (s.th ci)).buf = (s.th ci).buf ∧ (f (s.th ci)).qStmts = (s.th ci).qStmts ++ [st] ∧
      (f (s.th ci)).accepted = (s.th ci).accepted ++ [st] ∧ (f (s.th ci)).valid = (s.th ci).valid ∧
      (f (s.th ci)).q.cap = (s.th ci).q.cap)
    (hqc : QC (f (s.th ci))) :
    PI c (some a) fl T C (s.setTh ci f) := by
  have hchain : chain (f (s.th ci)) = chain (s.th ci) ++ [st] := by
    simp only [chain, hf.1, hf.2.1, List.append_assoc]
  have hcases := th_setTh_or s ci f
  have hprem : PremI (s.setTh ci f) → PremI s ∧ s.now ≤ st.ts + s.cfg.grace := by
    intro hp
    have hlt := h.ctxLt a x ci hx hctx
    refine ⟨premI_of_setTh (fun r hr => by rw [hf.2.2.1]; exact List.mem_append_left _ hr) hp, ?_⟩
    · have := hp ci st
      rw [th_setTh_same s f hlt, hf.2.2.1, henq] at this
      exact this (List.mem_append_right _ (List.mem_singleton.mpr rfl))
  obtain ⟨f1, f2, _, f7, f9⟩ := hf
  refine h.updTh ci f s.popLog rfl ?_ ?_ hqc (fun _ => (h.ctxReg a x ci hx hctx).1)
    (by rw [f1]; exact h.bufCache ci) (fun _ _ _ _ hv => f7.trans hv) f9
    (fun b y r hy hb _ hi => absurd (h.ctxInj b a y x ci hy hx hi hctx) (fun e => hb (by rw [e]))) ?_
  · rw [hchain]
    refine List.pairwise_append.mpr ⟨h.sorted ci, List.pairwise_singleton _ _, fun r hr b hb => ?_⟩
    rw [List.mem_singleton.mp hb]; exact hfit r hr
  · rw [hchain]; intro r hr
    rcases List.mem_append.mp hr with h2 | h2
    · exact h.leNow ci r h2
    · rw [List.mem_singleton.mp h2]; exact hts
  · intro hg0 hr0 hp
    obtain ⟨hp0, hgood⟩ := hprem hp
    have o := h.ord hg0 hr0 hp0
    have hfl : fl ≤ st.ts := by have := h.floorNow; omega
    exact {
      popSorted := o.popSorted
      above := fun p hpp j hj => by
        rcases hcases j with h1 | ⟨rfl, h1⟩
        · rw [h1]; exact o.above p hpp j hj
        · rw [h1, hchain]; intro r hr
          rcases List.mem_append.mp hr with h2 | h2
          · exact o.above p hpp j hj r h2
          · rw [List.mem_singleton.mp h2]; exact Nat.le_trans (o.popFloor p hpp) hfl
      popFloor := o.popFloor
      bufFloor := fun j => by
        rcases hcases j with h1 | ⟨rfl, h1⟩
        · rw [h1]; exact o.bufFloor j
        · rw [h1, f1]; exact o.bufFloor j
      late := fun j hj hT => by
        rcases hcases j with h1 | ⟨rfl, h1⟩
        · rw [h1]; exact o.late j hj hT
        · rw [h1, f1, f2]; intro hb r hr
          rcases List.mem_append.mp hr with h2 | h2
          · exact o.late j hj hT hb r h2
          · rw [List.mem_singleton.mp h2]; exact hfl }

theorem PI.tryEnq {a : Nat} (h : PI c (some a) fl T C s) (x : Actor) (hx : s.actor a = some x) (ci : Nat)
    (hctx : x.ctx = some ci) (st : Stmt) (hts : st.ts ≤ s.now) (hsz : 0 < st.size)
    (hfit : ∀ r ∈ chain (s.th ci), r.ts ≤ st.ts) {s2 : BSt} {ok : Bool} (he : Backend.tryEnq s ci st = (s2, ok)) :
    PI c (some a) fl T C s2 ∧ s2.now = s.now ∧ (∀ b, s2.actor b = s.actor b) ∧
    (ok = false → ∀ i, chain (s2.th i) = chain (s.th i)) := by
  unfold Backend.tryEnq at he
  simp only at he
  have f2 := qPrepareWrite_fields s.cfg (s.th ci).q st.size
  split at he <;> cases he
  · refine ⟨?_, rfl, fun _ => rfl, fun hh => by cases hh⟩
    have hl := ((h.qc ci).qlink.prepareWrite s.cfg st.size).enq s.cfg { st with enqAt := s.now } hsz
    have hc := ((h.qc ci).qcache.congr f2.2.2.2.1 f2.2.2.1).enq s.cfg { st with enqAt := s.now }
    exact h.enq x hx ci hctx { st with enqAt := s.now } hts rfl hfit _
      ⟨rfl, rfl, rfl, rfl, (qFinishCommit_cap _ _ _).trans f2.2.2.2.2⟩ (.of_qlink hl hc)
  · have hf : ThEq (s.th ci) ((fun t : Th => { t with q := (qPrepareWrite s.cfg (s.th ci).q st.size).1 }) (s.th ci)) :=
      ThEq.ofQ' _ _ f2
    exact ⟨h.setTh_frame ci _ hf, rfl, fun _ => rfl, fun _ i => chain_setTh_frame s ci _ hf i⟩

theorem PI.afterEnq (h : PI c none fl T C s) (a : Nat) (st : Stmt) (cont : Nat) :
    PI c none fl T C (afterEnq s a st cont).1 := by
  unfold Backend.afterEnq
  split
  · refine h.setActor_clear' _ (fun _ => rfl) (fun _ => rfl) (fun _ => rfl) ?_
    intro _ st; exact not_pend_flag _ st
  · exact h.frame rfl
  · exact h
  · dsimp only
    refine PI.setActor_clear' ?_ _ (fun _ => rfl) (fun _ => rfl) (fun _ => rfl) ?_
    · exact h.frame rfl
    · intro _ st; exact not_pend_flag _ st
  · exact h

/-- what `enqFlow` needs of a state in which the record was refused: it may still be parked behind `a`'s queue -/
structure Refused (c : Cfg) (fl : Nat) (T : Nat → Prop) (C : List Nat) (now a : Nat) (st : Stmt) (y : BSt) : Prop where
  pi : PI c (some a) fl T C y
  now : y.now = now
  fit : ∀ x i, y.actor a = some x → x.ctx = some i → ∀ r ∈ chain (y.th i), r.ts ≤ st.ts

theorem Refused.bumpFail {now a : Nat} {st : Stmt} {y : BSt} (h : Refused c fl T C now a st y) (d : Bool) (ci : Nat)
    (st' : Stmt) : Refused c fl T C now a st (bumpFail d y ci st') := by
  unfold Backend.bumpFail
  split
  · have hg : ThEq (y.th ci) ((fun t : Th => { t with
        fail := t.fail + 1, discarded := t.discarded + (if d then 1 else 0),
        blockedCalls := t.blockedCalls + (if d then 0 else 1) }) (y.th ci)) :=
      ⟨rfl, rfl, rfl, rfl, rfl, rfl, rfl, .inl rfl, rfl⟩
    exact ⟨h.pi.setTh_frame ci _ hg, h.now, fun x i hx hi => by rw [chain_setTh_frame y ci _ hg i]; exact h.fit x i hx hi⟩
  · exact h

theorem Refused.retry {now a : Nat} {st : Stmt} {y : BSt} (h : Refused c fl T C now a st y) (hts : st.ts ≤ now)
    (hsz : 0 < st.size) (cont : Nat) : PI c none fl T C (setPend y a (.retry st cont)) := by
  refine h.pi.setActor a _ (fun _ => rfl) (fun _ => rfl) (fun _ => rfl) (fun _ hne _ hh => hne (Option.some.inj hh)) ?_
  intro x st' hx _ hpd
  have : st' = st := by
    obtain ⟨c, hc | hc⟩ := hpd
    · cases hc
    · simp only [Pend.retry.injEq] at hc; exact hc.1.symm
  subst this
  exact ⟨by rw [h.now]; exact hts, hsz, fun i hi => h.fit x i hx hi⟩

theorem PI.clearPend {a : Nat} (h : PI c (some a) fl T C s) : PI c none fl T C (setPend s a .none) :=
  h.setActor_clear _ (fun _ => rfl) (fun _ => rfl) (fun _ => rfl) (fun _ st => not_pend_none st)

/-- what actor `x` (of id `a`) may enqueue or park: a record not older than what its context holds -/
def Fits (s : BSt) (x : Actor) (st : Stmt) : Prop :=
  st.ts ≤ s.now ∧ 0 < st.size ∧ ∀ i, x.ctx = some i → ∀ r ∈ chain (s.th i), r.ts ≤ st.ts

theorem PI.enqFlow (h : PI c none fl T C s) (a : Nat) (x : Actor) (hx : s.actor a = some x) (st : Stmt)
    (cont : Nat) (first initial : Bool) (hts : st.ts ≤ s.now) (hsz : 0 < st.size)
    (hfit : ∀ i, x.ctx = some i → ∀ r ∈ chain (s.th i), r.ts ≤ st.ts) :
    PI c none fl T C (enqFlow s a st cont first initial).1 := by
  obtain ⟨h1, hnow1, _, x1, hx1, hc1, _, hch1⟩ := h.ensureCtx a x hx
  -- with the context `ci` known: `a` is exempt, owns `ci`, and the record is not older than what `ci` holds
  exact enqFlow_rule
    (fun ci y => PI c (some a) fl T C y ∧ y.now = s.now ∧ (∃ x1, y.actor a = some x1 ∧ x1.ctx = some ci) ∧
      ∀ r ∈ chain (y.th ci), r.ts ≤ st.ts)
    (fun _ y => Refused c fl T C s.now a st y) (PI c none fl T C)
    ⟨h1.unex, hnow1, ⟨x1, hx1, hc1⟩, fun r hr => let ⟨i, hi, hr'⟩ := hch1 r hr; hfit i hi r hr'⟩
    (fun ci y ⟨hy, hn, ⟨x1, hx1, hc1⟩, hf⟩ _ =>
      (hy.tryEnq x1 hx1 ci hc1 st (hn ▸ hts) hsz hf (s2 := (Backend.tryEnq y ci st).1) (ok := (Backend.tryEnq y ci st).2) rfl).1.clearPend.afterEnq
        a st cont)
    (fun ci y ⟨hy, hn, ⟨x1, hx1, hc1⟩, hf⟩ hok => by
      obtain ⟨h2, hnow2, hact2, hfail2⟩ :=
        hy.tryEnq x1 hx1 ci hc1 st (hn ▸ hts) hsz hf (s2 := (Backend.tryEnq y ci st).1) (ok := (Backend.tryEnq y ci st).2) rfl
      refine ⟨h2, hnow2.trans hn, fun x2 i hx2 hi => ?_⟩
      rw [hact2, hx1] at hx2
      cases hx2
      rw [hc1] at hi
      cases hi
      rw [hfail2 hok]; exact hf)
    (fun _ _ hy _ => hy.bumpFail ..)
    (fun _ _ hy _ _ => hy.pi.clearPend)
    (fun _ _ hy _ => hy.retry hts hsz cont)

theorem isPendOf_stall {st st' : Stmt} {c : Nat} (h : isPendOf (.stall st c) st') : st' = st := by
  obtain ⟨c, hc | hc⟩ := h
  · simp only [Pend.stall.injEq] at hc; exact hc.1.symm
  · cases hc

theorem isPendOf_retry {st st' : Stmt} {c : Nat} (h : isPendOf (.retry st c) st') : st' = st := by
  obtain ⟨c, hc | hc⟩ := h
  · cases hc
  · simp only [Pend.retry.injEq] at hc; exact hc.1.symm

theorem PI.invalidate (h : PI c ex fl T C s) (i : Nat) (hno : ∀ b y, s.actor b = some y → y.ctx ≠ some i) :
    PI c ex fl T C (s.setTh i (fun t => { t with valid := false })) := by
  refine h.updTh i (fun t => { t with valid := false }) s.popLog rfl (h.sorted i) (h.leNow i)
    ⟨(h.qc i).wpos, (h.qc i).sum, (h.qc i).pos, (h.qc i).wc⟩ (h.reg i) (h.bufCache i)
    (fun b y hy hi => absurd hi (hno b y hy)) rfl (fun b y r hy hb hpd hi => absurd hi (hno b y hy)) ?_
  intro hg0 hr0 hp
  have hφ : ∀ {α} (φ : Th → α), (∀ t, φ { t with valid := false } = φ t) →
      ∀ j, φ ((s.setTh i (fun t => { t with valid := false })).th j) = φ (s.th j) :=
    fun φ hf j => th_setTh_proj φ s i j _ hf
  have o := h.ord hg0 hr0 (fun j r hr => hp j r (by rw [hφ (·.accepted) (fun _ => rfl)]; exact hr))
  exact o.congr rfl rfl (hφ (·.buf) (fun _ => rfl)) (hφ (·.qStmts) (fun _ => rfl))

theorem PI.texitCtx (h : PI c none fl T C s) (a i : Nat) (hci : (s.actor a).bind (·.ctx) = some i) :
    PI c none fl T C { (s.setActor a (fun x => { x with alive := false })).setTh i (fun t => { t with valid := false }) with
                       invalidCnt := counterMod s.cfg (s.invalidCnt + 1) } := by
  have hk := h.killActor a (fun x => { x with alive := false }) (fun _ => rfl) (fun _ => rfl)
  refine PI.frame (PI.invalidate hk i ?_) rfl
  intro b y hy hyi
  -- a live actor other than `a` with the same context: excluded by `ctxInj`
  have hne : b ≠ a := by
    intro e; subst e
    rw [actor_setActor_kill s b (fun x => { x with alive := false }) (fun _ => rfl)] at hy
    cases hy
  rw [actor_setActor_ne s (fun x => { x with alive := false }) (fun _ => rfl) hne] at hy
  cases hxa : s.actor a with
  | none => rw [hxa] at hci; cases hci
  | some xa =>
    rw [hxa] at hci
    exact hne (h.ctxInj b a y xa i hy hxa hyi hci)

theorem PI.rules : FrontRules (fun _ => True) (PI c none fl T C) (fun a st s => ∀ x, s.actor a = some x → Fits s x st) :=
  .ofStrip (fun _ _ e h => h.frame (of_stripLg core (fun _ => rfl) e)) {
    enq := fun _ a x st _ _ _ _ h hx hA => let ⟨p1, p2, p3⟩ := hA x hx; h.enqFlow a x hx st _ _ _ p1 p2 p3
    stall := fun _ a _ st _ _ h _ hA => h.setActor a _ (fun _ => rfl) (fun _ => rfl) (fun _ => rfl) (fun _ _ hb => hb)
      (fun x3 _ hx3 _ hpd => isPendOf_stall hpd ▸ hA x3 hx3)
    parked := fun s a x st cont _ h hx hp =>
      have ⟨p1, p2, p3⟩ := h.pend a x st hx (by simp) ⟨cont, hp⟩
      ⟨fun x' hx' => by cases hx.symm.trans hx'; exact ⟨p1, p2, p3⟩,
       fun _ _ => ⟨Nat.le_refl _, p2, fun i _ r hr => h.leNow i r hr⟩⟩
    flagDone := fun _ a _ _ _ h _ _ _ => (h.unex (a := a)).clearPend
    actorMisc := fun _ a f h hf => h.setActor_keep a f (fun x => (hf x).1) (fun x => (hf x).2.1) (fun x => (hf x).2.2.1)
      (fun x => (hf x).2.2.2)
    pre := fun _ _ _ _ _ _ _ _ h hp _ _ =>
      have h1 := h.frame (hp.proj core (fun _ _ _ _ => rfl))
      ⟨h1, fun _ _ _ _ _ _ => ⟨Nat.le_refl _, stmtSize_pos _ _ _ _ _ _ h1.hdr, fun i _ r hr => h1.leNow i r hr⟩⟩
    tick := fun _ dt h => h.tick dt
    tstart := fun _ a _ h ha => h.addActor a ha
    texitCtx := fun _ a i _ h _ hci => PI.texitCtx h a i hci
    texitNoCtx := fun _ a _ h _ _ => h.killActor a _ (fun _ => rfl) (fun _ => rfl) }

theorem PI.resume (h : PI c none fl T C s) (a : Nat) : PI c none fl T C (resume s a).1 :=
  PI.rules.toActorRules.resume_fst h a

theorem PI.applyFront (h : PI c none fl T C s) (f : FOp) : PI c none fl T C (applyFront s f).1 :=
  PI.rules.front h f

theorem PI.runInj (h : PI c none fl T C s) (table : List (Nat × Nat × List FOp)) (site : Nat) :
    PI c none fl T C (runInj table s site) :=
  (PC.runInj_pres (fun _ _ hb => hb.frame rfl) (fun _ _ _ _ _ hb => hb.frame rfl) (fun _ f hb => hb.applyFront f)
    table).keeps s site h

end Backend.PB
