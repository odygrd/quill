import QuillModel.Backend.FlushTop
import QuillModel.Backend.EventLog
/-!
By what a flush of the sinks extends the event log (`flushSinks_log`). A flush request is never
dropped or counted (`flush_enq_outcome`), and `resume` releases its caller exactly when the flag has been raised
(`resume_flag`).
-/
namespace Backend.PB

/-- `_flush_and_run_active_sinks`: one `flushed` / `fthrow` event for every active sink, nothing else but the
    failure notifications -/
theorem flushSinks_log (s : BSt) : ∃ blk, (flushSinks s).log = blk ++ s.log ∧
    (∀ sid ∈ activeSinks s, Ev.flushed sid ∈ blk ∨ Ev.fthrow sid ∈ blk) ∧
    (∀ e ∈ blk, (∃ sid, e = Ev.flushed sid ∨ e = Ev.fthrow sid) ∨ e = Ev.notify "n:ffail") := by
  obtain ⟨evs, he, hv, _⟩ := PA.flushSinks_spec s
  obtain ⟨evs', he', hf⟩ := Backend.flushSinks_log s
  obtain rfl : evs' = evs := List.append_cancel_right (he'.symm.trans he)
  refine ⟨evs', he, fun sid hs => ?_, fun e hm => (hf e hm).elim .inr (fun ⟨sid, _, h⟩ => .inl ⟨sid, h⟩)⟩
  rw [← hv] at hs
  obtain ⟨e, hm, hvis⟩ := List.mem_filterMap.mp hs
  rw [List.mem_reverse] at hm
  cases e <;> cases hvis
  · exact .inl hm
  · exact .inr hm

theorem popSt_flush (s : BSt) (i : Nat) (st : Stmt) (rest : List Stmt) {f : Nat} (hk : st.kind = .flush f) :
    PC.popSt s i st rest =
      { (flushSinks s).setTh i (fun t => { t with buf := rest, popped := t.popped ++ [st] }) with
        popLog := st :: (flushSinks s).popLog } := by
  unfold PC.popSt
  rw [processEvent_flush s st f hk]

def Cnt (t : Th) : Nat × Nat × Nat := (t.fail, t.discarded, t.blockedCalls)

theorem cnt_ensureCtx (s : BSt) (a i : Nat) : Cnt ((Backend.ensureCtx s a).1.th i) = Cnt (s.th i) := by
  unfold Backend.ensureCtx
  split
  · rfl
  · exact th_newCtx_congr Cnt s a rfl i

theorem cnt_tryEnq (s : BSt) (ci : Nat) (st : Stmt) (i : Nat) : Cnt ((Backend.tryEnq s ci st).1.th i) = Cnt (s.th i) := by
  unfold Backend.tryEnq
  simp only
  split
  · exact th_setTh_proj Cnt _ _ _ _ (fun _ => rfl)
  · exact th_setTh_proj Cnt _ _ _ _ (fun _ => rfl)

theorem ensureCtx_actor {s : BSt} {a : Nat} {x : Actor} (hx : s.actor a = some x) :
    ∃ x', (Backend.ensureCtx s a).1.actor a = some x' := by
  unfold Backend.ensureCtx
  split
  · exact ⟨x, hx⟩
  · simp only
    refine ⟨{ x with ctx := some s.ths.length }, ?_⟩
    have := actor_setActor_same ({ s with ths := s.ths ++ [mkTh s.cfg a], registry := s.registry ++ [s.ths.length], newFlag := true } : BSt)
      a (fun x => { x with ctx := some s.ths.length }) (fun _ => rfl) (fun _ => rfl)
    rw [this]
    show (s.actor a).map _ = _
    rw [hx]; rfl

theorem pendOf_set_const (y : BSt) (a : Nat) (g : Actor → Actor) (hid : ∀ x, (g x).id = x.id)
    (hal : ∀ x, (g x).alive = x.alive) (p' : Pend) (hp : ∀ x, (g x).pend = p') {x : Actor} (hx : y.actor a = some x) :
    pendOf (y.setActor a g) a = some p' := by
  unfold pendOf
  rw [actor_setActor_same y a g hid hal, hx]; simp [hp]

/-- A flush request is never dropped and never counted. For a `flush_log` call (`cont = 1`) of a live actor,
    on every queue type: if the reservation is granted the record is committed and the caller waits for its flag;
    if it is refused (full queue — dropping or blocking) the caller is parked to retry the same request; in both
    cases no failure / drop / blocked counter of any context changes. -/
theorem flush_enq_outcome (s : BSt) (a : Nat) (st : Stmt) (f : Nat) (first initial : Bool) (x : Actor)
    (hx : s.actor a = some x) (hk : st.kind = .flush f) :
    ((Backend.tryEnq (Backend.ensureCtx s a).1 (Backend.ensureCtx s a).2 st).2 = true →
        pendOf (Backend.enqFlow s a st 1 first initial).1 a = some (.flag f)) ∧
    ((Backend.tryEnq (Backend.ensureCtx s a).1 (Backend.ensureCtx s a).2 st).2 = false →
        pendOf (Backend.enqFlow s a st 1 first initial).1 a = some (.retry st 1)) ∧
    (∀ i, Cnt ((Backend.enqFlow s a st 1 first initial).1.th i) = Cnt (s.th i)) := by
  have hbump : ∀ d (y : BSt) ci, bumpFail d y ci st = y := by
    intro d y ci
    simp only [bumpFail, hk, isLogKind, Bool.false_eq_true, if_false]
  -- after the attempt, granted or refused, the actor is still there and no counter has moved
  have key : ∀ {s1 s2 ci ok}, Backend.ensureCtx s a = (s1, ci) → Backend.tryEnq s1 ci st = (s2, ok) →
      (Backend.tryEnq (Backend.ensureCtx s a).1 (Backend.ensureCtx s a).2 st).2 = ok ∧
      (∃ x2, s2.actor a = some x2) ∧ ∀ i, Cnt (s2.th i) = Cnt (s.th i) := by
    intro s1 s2 ci ok hc he
    obtain ⟨x1, hx1⟩ := ensureCtx_actor hx
    have c1 := cnt_ensureCtx s a
    rw [hc] at hx1 c1
    have c2 := cnt_tryEnq s1 ci st
    have hact2 : (Backend.tryEnq s1 ci st).1.actor a = s1.actor a := by
      unfold Backend.tryEnq; simp only; split <;> rfl
    rw [he] at c2 hact2
    exact ⟨by rw [hc, he], ⟨x1, hact2.trans hx1⟩, fun i => (c2 i).trans (c1 i)⟩
  have hset : ∀ {y : BSt} {x2 : Actor} (p : Pend), y.actor a = some x2 → pendOf (setPend y a p) a = some p :=
    fun p hx2 => pendOf_set_const _ a (fun x => { x with pend := p }) (fun _ => rfl) (fun _ => rfl) p (fun _ => rfl) hx2
  have hs := enqFlow_shape s a st 1 first initial
  generalize Backend.enqFlow s a st 1 first initial = r at hs ⊢
  cases hs with
  | @granted _ s2 _ hc he =>
    obtain ⟨hok, ⟨x2, hx2⟩, hcnt⟩ := key hc he
    have hx3 : (setPend s2 a .none).actor a = some { x2 with pend := .none } := by
      refine (actor_setActor_same s2 a (fun x => { x with pend := .none }) (fun _ => rfl) (fun _ => rfl)).trans ?_
      rw [hx2]; rfl
    simp only [Backend.afterEnq, hk]
    exact ⟨fun _ => hset _ hx3, fun h => (by rw [hok] at h; cases h), hcnt⟩
  | dropped hc he _ h1 => exact absurd h1 (by omega)
  | dropRetry hc he =>
    obtain ⟨hok, ⟨x2, hx2⟩, hcnt⟩ := key hc he
    rw [hbump]
    exact ⟨fun h => (by rw [hok] at h; cases h), fun _ => hset _ hx2, hcnt⟩
  | blocked hc he =>
    obtain ⟨hok, ⟨x2, hx2⟩, hcnt⟩ := key hc he
    rw [hbump, ite_self]
    exact ⟨fun h => (by rw [hok] at h; cases h), fun _ => hset _ hx2, hcnt⟩

theorem resume_flag (s : BSt) (a : Nat) (x : Actor) (f : Nat) (hx : s.actor a = some x) (hp : x.pend = .flag f) :
    (f ∈ s.flags → pendOf (Backend.resume s a).1 a = some .none ∧ (Backend.resume s a).2 = "done") ∧
    (f ∉ s.flags → (Backend.resume s a).1 = s ∧ (Backend.resume s a).2 = "parked:sleep") := by
  unfold Backend.resume
  simp only [hx, Option.map_some, hp]
  constructor
  · intro hf
    have : s.flags.contains f = true := by simpa using hf
    rw [if_pos this]
    refine ⟨?_, rfl⟩
    exact pendOf_set_const s a (fun x => { x with pend := .none }) (fun _ => rfl) (fun _ => rfl) _ (fun _ => rfl) hx
  · intro hf
    have : ¬ (s.flags.contains f = true) := by simpa using hf
    rw [if_neg this]
    exact ⟨rfl, rfl⟩

theorem earlier_popped {s : BSt} (hF : FI none [] s) (hG : GI s) (hg : s.cfg.grace ≠ 0)
    (hr : s.cfg.refreshAfterSample = true) (hp : GracePremise s) {i : Nat} {st : Stmt}
    (hst : st ∈ (s.th i).popped) {k : Nat} {r : Stmt} (hr' : r ∈ (s.th k).accepted)
    (hlt : r.ts < st.ts) : r ∈ (s.th k).popped := by
  obtain ⟨fl, hI, o⟩ := hG.ord hg hr hp
  have hpl := hF.plog i st hst
  rw [hF.cons k, List.append_assoc] at hr'
  rcases List.mem_append.mp hr' with h | h
  · exact h
  · exfalso
    have hk : k ∈ s.registry := hI.reg k (by
      intro he
      have hc : r ∈ chain (s.th k) := h
      rw [he] at hc; cases hc)
    have := o.above st hpl k hk r h
    omega

end Backend.PB
