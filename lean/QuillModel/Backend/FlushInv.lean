import QuillModel.Backend.OrdBack3
/-!
The flush invariant `FI ex pf s` (C06): per context `accepted = popped ++ buf ++ qStmts`, and everything popped is in the
global `popLog`; a raised flag stems from a popped Flush statement or from a removal request some context accepted; flag
numbers are unique over all statements accepted anywhere or parked in a call. `pf`: flags whose Flush statement has been
popped and which `processLowest` is about to raise. `ex`: an actor whose parked statement is momentarily exempt (inside `enqFlow`).
-/
namespace Backend.PB

def flagOfK : Kind → Option Nat
  | .flush f => some f
  | .removal f => some f
  | _ => none

def flagOf (st : Stmt) : Option Nat := flagOfK st.kind

def flagsIn (l : List Stmt) : List Nat := l.filterMap flagOf

theorem flagsIn_append (l r : List Stmt) : flagsIn (l ++ r) = flagsIn l ++ flagsIn r := by
  simp [flagsIn, List.filterMap_append]

theorem mem_flagsIn {l : List Stmt} {f : Nat} : f ∈ flagsIn l ↔ ∃ st ∈ l, flagOf st = some f := by
  simp [flagsIn, List.mem_filterMap]

/-- the parked call of the live actor `a`, if any -/
def pendOf (s : BSt) (a : Nat) : Option Pend := (s.actor a).map (·.pend)

structure FI (ex : Option Nat) (pf : List Nat) (s : BSt) : Prop where
  cons : ∀ i, (s.th i).accepted = (s.th i).popped ++ (s.th i).buf ++ (s.th i).qStmts
  plog : ∀ i, ∀ p ∈ (s.th i).popped, p ∈ s.popLog
  flg : ∀ f ∈ s.flags, (∃ i, ∃ st ∈ (s.th i).popped, st.kind = .flush f) ∨
      (∃ i, ∃ st ∈ (s.th i).accepted, st.kind = .removal f)
  flgP : ∀ f ∈ pf, ∃ i, ∃ st ∈ (s.th i).popped, st.kind = .flush f
  /-- conversely: the flag of every popped Flush statement is raised (or about to be: `pf`) -/
  popFlag : ∀ i, ∀ st ∈ (s.th i).popped, ∀ f, st.kind = .flush f → f ∈ s.flags ∨ f ∈ pf
  rem : ∀ gf ∈ s.removalFlags, ∃ i, ∃ st ∈ (s.th i).accepted, st.kind = .removal gf.2
  accLt : ∀ i, ∀ f ∈ flagsIn (s.th i).accepted, f < s.nextFlag
  accNodup : ∀ i, (flagsIn (s.th i).accepted).Nodup
  accDisj : ∀ i j, i ≠ j → ∀ f ∈ flagsIn (s.th i).accepted, f ∉ flagsIn (s.th j).accepted
  pendFresh : ∀ a p st f, pendOf s a = some p → some a ≠ ex → isPendOf p st → flagOf st = some f →
      f < s.nextFlag ∧ (∀ i, f ∉ flagsIn (s.th i).accepted) ∧
      (∀ b q st', b ≠ a → pendOf s b = some q → isPendOf q st' → flagOf st' ≠ some f)

/-- what `FI` sees of a context -/
structure ThEq2 (t t' : Th) : Prop where
  buf : t'.buf = t.buf
  q : t'.qStmts = t.qStmts
  acc : t'.accepted = t.accepted
  pop : t'.popped = t.popped

theorem ThEq2.refl (t : Th) : ThEq2 t t := ⟨rfl, rfl, rfl, rfl⟩
theorem ThEq2.trans {a b c : Th} (h1 : ThEq2 a b) (h2 : ThEq2 b c) : ThEq2 a c :=
  ⟨h2.buf.trans h1.buf, h2.q.trans h1.q, h2.acc.trans h1.acc, h2.pop.trans h1.pop⟩

/-- `s'` differs from `s` only in fields `FI` cannot see -/
structure Same2 (s s' : BSt) : Prop where
  th : ∀ i, ThEq2 (s.th i) (s'.th i)
  act : ∀ a, pendOf s' a = pendOf s a
  pop : s'.popLog = s.popLog
  flags : s'.flags = s.flags
  rem : s'.removalFlags = s.removalFlags
  nf : s'.nextFlag = s.nextFlag

theorem Same2.refl (s : BSt) : Same2 s s := ⟨fun _ => ThEq2.refl _, fun _ => rfl, rfl, rfl, rfl, rfl⟩
theorem Same2.trans {a b c : BSt} (h1 : Same2 a b) (h2 : Same2 b c) : Same2 a c :=
  ⟨fun i => (h1.th i).trans (h2.th i), fun x => (h2.act x).trans (h1.act x), h2.pop.trans h1.pop,
   h2.flags.trans h1.flags, h2.rem.trans h1.rem, h2.nf.trans h1.nf⟩

/-- the general transfer between states with the same `accepted` lists, where `popped` may grow; the clause about parked
    calls is asked of the new state -/
theorem FI.congr {ex ex' pf pf'} {s s' : BSt} (h : FI ex pf s)
    (hacc : ∀ i, (s'.th i).accepted = (s.th i).accepted)
    (hpopd : ∀ i, ∀ p ∈ (s.th i).popped, p ∈ (s'.th i).popped)
    (hcons : ∀ i, (s'.th i).accepted = (s'.th i).popped ++ (s'.th i).buf ++ (s'.th i).qStmts)
    (hplog : ∀ i, ∀ p ∈ (s'.th i).popped, p ∈ s'.popLog)
    (hflags : s'.flags = s.flags) (hrem : s'.removalFlags = s.removalFlags) (hnf : s'.nextFlag = s.nextFlag)
    (hpf : ∀ f ∈ pf', f ∈ pf ∨ ∃ i, ∃ st ∈ (s'.th i).popped, st.kind = .flush f)
    (hsub : ∀ f ∈ pf, f ∈ pf')
    (hnew : ∀ i, ∀ st ∈ (s'.th i).popped, ∀ f, st.kind = .flush f → st ∈ (s.th i).popped ∨ f ∈ pf')
    (hpend : ∀ a p st f, pendOf s' a = some p → some a ≠ ex' → isPendOf p st → flagOf st = some f →
      f < s.nextFlag ∧ (∀ i, f ∉ flagsIn (s.th i).accepted) ∧
      (∀ b q st', b ≠ a → pendOf s' b = some q → isPendOf q st' → flagOf st' ≠ some f)) :
    FI ex' pf' s' where
  cons := hcons
  plog := hplog
  flg := fun f hf => by
    rw [hflags] at hf
    rcases h.flg f hf with ⟨i, st, h1, h2⟩ | ⟨i, st, h1, h2⟩
    · exact Or.inl ⟨i, st, hpopd i st h1, h2⟩
    · exact Or.inr ⟨i, st, by rw [hacc]; exact h1, h2⟩
  flgP := fun f hf => by
    rcases hpf f hf with h1 | h1
    · obtain ⟨i, st, h2, h3⟩ := h.flgP f h1
      exact ⟨i, st, hpopd i st h2, h3⟩
    · exact h1
  popFlag := fun i st hst f hk => by
    rcases hnew i st hst f hk with h1 | h1
    · rcases h.popFlag i st h1 f hk with h2 | h2
      · exact Or.inl (by rw [hflags]; exact h2)
      · exact Or.inr (hsub f h2)
    · exact Or.inr h1
  rem := fun gf hgf => by
    rw [hrem] at hgf
    obtain ⟨i, st, h1, h2⟩ := h.rem gf hgf
    exact ⟨i, st, by rw [hacc]; exact h1, h2⟩
  accLt := fun i => by rw [hacc, hnf]; exact h.accLt i
  accNodup := fun i => by rw [hacc]; exact h.accNodup i
  accDisj := fun i j => by rw [hacc, hacc]; exact h.accDisj i j
  pendFresh := fun a p st f ha hex hp hf => by
    obtain ⟨p1, p2, p3⟩ := hpend a p st f ha hex hp hf
    exact ⟨by rw [hnf]; exact p1, fun i => by rw [hacc]; exact p2 i, p3⟩

theorem FI.pendKeep {ex pf} {s s' : BSt} (h : FI ex pf s) (hact : ∀ a, pendOf s' a = pendOf s a) :
    ∀ a p st f, pendOf s' a = some p → some a ≠ ex → isPendOf p st → flagOf st = some f →
      f < s.nextFlag ∧ (∀ i, f ∉ flagsIn (s.th i).accepted) ∧
      (∀ b q st', b ≠ a → pendOf s' b = some q → isPendOf q st' → flagOf st' ≠ some f) := by
  intro a p st f ha hex hp hf
  rw [hact] at ha
  obtain ⟨p1, p2, p3⟩ := h.pendFresh a p st f ha hex hp hf
  exact ⟨p1, p2, fun b q st' hb hq => p3 b q st' hb (by rw [hact] at hq; exact hq)⟩

theorem FI.congrAP {ex pf} {pf' : List Nat} {s s' : BSt} (h : FI ex pf s)
    (hacc : ∀ i, (s'.th i).accepted = (s.th i).accepted)
    (hpopd : ∀ i, ∀ p ∈ (s.th i).popped, p ∈ (s'.th i).popped)
    (hcons : ∀ i, (s'.th i).accepted = (s'.th i).popped ++ (s'.th i).buf ++ (s'.th i).qStmts)
    (hplog : ∀ i, ∀ p ∈ (s'.th i).popped, p ∈ s'.popLog)
    (hact : ∀ a, pendOf s' a = pendOf s a) (hflags : s'.flags = s.flags)
    (hrem : s'.removalFlags = s.removalFlags) (hnf : s'.nextFlag = s.nextFlag)
    (hpf : ∀ f ∈ pf', f ∈ pf ∨ ∃ i, ∃ st ∈ (s'.th i).popped, st.kind = .flush f)
    (hsub : ∀ f ∈ pf, f ∈ pf')
    (hnew : ∀ i, ∀ st ∈ (s'.th i).popped, ∀ f, st.kind = .flush f → st ∈ (s.th i).popped ∨ f ∈ pf') :
    FI ex pf' s' :=
  h.congr hacc hpopd hcons hplog hflags hrem hnf hpf hsub hnew (h.pendKeep hact)

theorem FI.congrTh {ex ex' pf} {s s' : BSt} (h : FI ex pf s) (hth : ∀ i, ThEq2 (s.th i) (s'.th i))
    (hpop : s'.popLog = s.popLog) (hflags : s'.flags = s.flags) (hrem : s'.removalFlags = s.removalFlags)
    (hnf : s'.nextFlag = s.nextFlag)
    (hpend : ∀ a p st f, pendOf s' a = some p → some a ≠ ex' → isPendOf p st → flagOf st = some f →
      f < s.nextFlag ∧ (∀ i, f ∉ flagsIn (s.th i).accepted) ∧
      (∀ b q st', b ≠ a → pendOf s' b = some q → isPendOf q st' → flagOf st' ≠ some f)) : FI ex' pf s' :=
  h.congr (fun i => (hth i).acc) (fun i p hp => by rw [(hth i).pop]; exact hp)
    (fun i => by rw [(hth i).acc, (hth i).pop, (hth i).buf, (hth i).q]; exact h.cons i)
    (fun i p hp => by rw [hpop]; rw [(hth i).pop] at hp; exact h.plog i p hp)
    hflags hrem hnf (fun _ hf => .inl hf) (fun _ hf => hf)
    (fun i st hst _ _ => .inl (by rw [(hth i).pop] at hst; exact hst)) hpend

theorem FI.same {ex pf} {s s' : BSt} (h : FI ex pf s) (hs : Same2 s s') : FI ex pf s' :=
  h.congrTh hs.th hs.pop hs.flags hs.rem hs.nf (h.pendKeep hs.act)

/-- the part of the state `FI` can see (whole lists) -/
structure Core2 where
  ths : List Th
  actors : List Actor
  popLog : List Stmt
  flags : List Nat
  removalFlags : List (Nat × Nat)
  nextFlag : Nat

def core2 (s : BSt) : Core2 := ⟨s.ths, s.actors, s.popLog, s.flags, s.removalFlags, s.nextFlag⟩

theorem Same2.ofCore {s s' : BSt} (hc : core2 s' = core2 s) : Same2 s s' := by
  have h7 : s'.actors = s.actors := congrArg Core2.actors hc
  exact ⟨rel_of_ths ThEq2.refl (congrArg Core2.ths hc), fun a => by simp only [pendOf, BSt.actor, h7],
    congrArg Core2.popLog hc, congrArg Core2.flags hc, congrArg Core2.removalFlags hc, congrArg Core2.nextFlag hc⟩

theorem FI.frame {ex pf} {s s' : BSt} (h : FI ex pf s) (hc : core2 s' = core2 s) : FI ex pf s' :=
  h.same (Same2.ofCore hc)

theorem Same2.setTh (s : BSt) (i : Nat) (f : Th → Th) (hf : ThEq2 (s.th i) (f (s.th i))) : Same2 s (s.setTh i f) :=
  ⟨rel_setTh ThEq2.refl s i f hf, fun _ => rfl, rfl, rfl, rfl, rfl⟩

theorem FI.unex {pf} {s : BSt} {a : Nat} (h : FI none pf s) : FI (some a) pf s :=
  { h with pendFresh := fun b x st f hx _ hp hf => h.pendFresh b x st f hx (by simp) hp hf }

theorem SLOL.core2 {s s' : BSt} (h : SLOL s s') : core2 s' = core2 s := by
  obtain ⟨a, b, c, d, rfl⟩ := h; rfl

end Backend.PB
