import QuillModel.Backend.CtxCore
import QuillModel.Backend.PcKept
/-!
The thread-context invariant `CInv` (= `CI` on the core of a model state) holds along every schedule:
effect of every primitive of the model on the core, the `Closed CInv` instance, `CInv_runOps`. For C20 and C07.
-/
namespace Backend.PC

/-- the state without what the dispatch side writes (sinks, event lists, logger objects) -/
def stripOut (s : BSt) : BSt := { s with sinks := [], out := [], log := [], lgs := [] }

theorem core_of_stripOut {s s' : BSt} (h : stripOut s' = stripOut s) : core s' = core s :=
  show core (stripOut s') = core (stripOut s) from congrArg core h

@[simp] theorem stripOut_setSink (s : BSt) (sid : Nat) (f : Sink → Sink) : stripOut (s.setSink sid f) = stripOut s := rfl

theorem stripOut_dispRel : DispRel (fun s s' => stripOut s' = stripOut s) :=
  .of_eq stripOut (fun _ _ _ => rfl) (fun _ _ => rfl) (fun _ _ _ => rfl)

theorem flushSinks_strip (s : BSt) : stripOut (flushSinks s) = stripOut s := stripOut_dispRel.flushSinks s

theorem preEraseFlush_strip (s : BSt) : stripOut (preEraseFlush s) = stripOut s :=
  preEraseFlush_pres (fun x => stripOut x = stripOut s) (fun x h => (flushSinks_strip x).trans h) s rfl

theorem procSt_strip (s : BSt) (st : Stmt) : stripOut (procSt s st) = stripOut s := stripOut_dispRel.procSt s st

theorem core_setTh (s : BSt) (i : Nat) (f : Th → Th) (h1 : ∀ t, (f t).valid = t.valid) (h2 : ∀ t, (f t).actor = t.actor) :
    core (s.setTh i f) = core s := by
  have := map_updAt s.ths i f (fun t => (⟨t.valid, t.actor⟩ : TC)) (fun t => by simp only [h1 t, h2 t])
  simp only [core, BSt.setTh, this]

theorem core_setActor (s : BSt) (a : Nat) (f : Actor → Actor)
    (h1 : ∀ x, (f x).id = x.id) (h2 : ∀ x, (f x).alive = x.alive) (h3 : ∀ x, (f x).ctx = x.ctx) :
    core (s.setActor a f) = core s := by
  have : (s.actors.map (fun x => if x.id = a ∧ x.alive then f x else x)).map (fun x => (⟨x.id, x.alive, x.ctx⟩ : AC)) =
      s.actors.map (fun x => ⟨x.id, x.alive, x.ctx⟩) := by
    rw [List.map_map]
    apply List.map_congr_left
    intro x _
    simp only [Function.comp]
    split
    · simp only [h1 x, h2 x, h3 x]
    · rfl
  simp only [core, BSt.setActor, this]

@[simp] theorem core_setLg (s : BSt) (i : Nat) (f : Lg → Lg) : core (s.setLg i f) = core s := rfl
@[simp] theorem core_setSink (s : BSt) (sid : Nat) (f : Sink → Sink) : core (s.setSink sid f) = core s := rfl
@[simp] theorem core_emit (s : BSt) (e : Ev) : core (s.emit e) = core s := rfl

theorem live_core (s : BSt) (a : Nat) :
    (core s).live a = (s.actor a).map (fun x => ⟨x.id, x.alive, x.ctx⟩) := by
  simp only [Core.live, core, BSt.actor, List.find?_map]
  rfl

theorem core_refresh (s : BSt) : core (refreshCache s) = (core s).refresh := by
  unfold refreshCache Core.refresh
  show core (if s.newFlag = true then _ else _) = if s.newFlag = true then _ else _
  split <;> rfl

theorem core_removeSt (s : BSt) (i : Nat) : core (removeSt s i) = (core s).remove i := by
  unfold removeSt
  rw [core_setTh _ i (fun t => { t with removed := true }) (fun _ => rfl) (fun _ => rfl)]
  rfl

theorem core_ensureCtx (s : BSt) (a : Nat) :
    core (ensureCtx s a).1 = if ((s.actor a).bind (·.ctx)).isSome then core s else (core s).register a := by
  unfold ensureCtx
  cases h : (s.actor a).bind (·.ctx) with
  | some i => rfl
  | none =>
    simp only [Option.isSome_none, Bool.false_eq_true, if_false]
    simp only [core, BSt.setActor, Core.register, List.map_append, List.map_cons, List.map_nil, mkTh,
      List.length_map, List.map_map]
    congr 1
    apply List.map_congr_left
    intro x _
    simp only [Function.comp]
    split <;> rfl

theorem live_ctx (s : BSt) (a : Nat) : ((core s).live a).bind (·.ctx) = (s.actor a).bind (·.ctx) := by
  rw [live_core]
  cases s.actor a <;> rfl

theorem core_kill (s : BSt) (a : Nat) :
    (s.setActor a (fun x => { x with alive := false })).actors.map (fun x => (⟨x.id, x.alive, x.ctx⟩ : AC)) =
      (core s).actors.map (fun x => if x.id = a ∧ x.alive = true then { x with alive := false } else x) := by
  simp only [BSt.setActor, core, List.map_map]
  apply List.map_congr_left
  intro x _
  simp only [Function.comp]
  split <;> rfl

theorem core_texitNoCtx (s : BSt) (a : Nat) (hc : (s.actor a).bind (·.ctx) = none) :
    core (s.setActor a (fun x => { x with alive := false })) = (core s).exit a := by
  unfold Core.exit
  simp only [live_ctx, hc]
  simp only [core, core_kill]
  rfl

theorem core_texitCtx (s : BSt) (a i : Nat) (hc : (s.actor a).bind (·.ctx) = some i) :
    core { (s.setActor a (fun x => { x with alive := false })).setTh i (fun t => { t with valid := false }) with
           invalidCnt := counterMod s.cfg (s.invalidCnt + 1) } = (core s).exit a := by
  unfold Core.exit
  simp only [live_ctx, hc]
  simp only [core, BSt.setTh, counterMod]
  rw [core_kill]
  congr 1
  simp only [updAt, ths_setActor]
  apply List.ext_getElem?
  intro j
  simp only [List.getElem?_mapIdx, List.getElem?_map]
  cases s.ths[j]? with
  | none => rfl
  | some t => simp only [Option.map_some]; split <;> rfl

def CInv (s : BSt) : Prop := CI (core s)

theorem CInv_of_core {s s' : BSt} (h : core s' = core s) (hs : CInv s) : CInv s' := by
  unfold CInv; rw [h]; exact hs

theorem core_tryEnq (s : BSt) (ci : Nat) (st : Stmt) : core (tryEnq s ci st).1 = core s := by
  unfold tryEnq; simp only []
  split <;> simp only [core_setTh, implies_true]

theorem core_afterEnq (s : BSt) (a : Nat) (st : Stmt) (cont : Nat) : core (afterEnq s a st cont).1 = core s := by
  unfold afterEnq
  split <;> simp only [core_setActor, core_setLg, implies_true]
  rfl

theorem core_setMisc (s : BSt) (a : Nat) (f : Actor → Actor)
    (hf : ∀ x, (f x).id = x.id ∧ (f x).alive = x.alive ∧ (f x).ctx = x.ctx := by exact fun _ => ⟨rfl, rfl, rfl⟩) :
    core (s.setActor a f) = core s :=
  core_setActor s a f (fun x => (hf x).1) (fun x => (hf x).2.1) (fun x => (hf x).2.2)

theorem core_enqFlow (s : BSt) (a : Nat) (st : Stmt) (cont : Nat) (first initial : Bool) :
    core (enqFlow s a st cont first initial).1 = core (ensureCtx s a).1 :=
  have hb : ∀ d s2 ci, core (bumpFail d s2 ci st) = core s2 := fun d s2 ci => by
    unfold bumpFail
    split
    · exact core_setTh _ _ _ (fun _ => rfl) (fun _ => rfl)
    · rfl
  enqFlow_rule (fun _ x => core x = core (ensureCtx s a).1) (fun _ x => core x = core (ensureCtx s a).1)
    (fun x => core x = core (ensureCtx s a).1) rfl
    (fun ci x hx _ => (core_afterEnq ..).trans ((core_setMisc ..).trans ((core_tryEnq x ci st).trans hx)))
    (fun ci x hx _ => (core_tryEnq x ci st).trans hx) (fun _ _ hx _ => (hb ..).trans hx)
    (fun _ _ hx _ _ => (core_setMisc ..).trans hx) (fun _ _ hx _ => (core_setMisc ..).trans hx)

theorem CInv_ensureCtx {s : BSt} (hs : CInv s) (a : Nat) (ha : (s.actor a).isSome = true) : CInv (ensureCtx s a).1 := by
  unfold CInv
  rw [core_ensureCtx]
  split
  · exact hs
  · rename_i hc
    obtain ⟨y, hy⟩ := Option.isSome_iff_exists.mp ha
    have hyc : y.ctx = none := by
      rw [hy] at hc; simp only [Option.bind_some] at hc
      cases h : y.ctx with
      | none => rfl
      | some i => rw [h] at hc; simp at hc
    exact CI.register hs a ⟨y.id, y.alive, y.ctx⟩ (by rw [live_core, hy]; rfl) hyc

theorem CInv_enqFlow {s : BSt} (hs : CInv s) (a : Nat) (ha : (s.actor a).isSome = true) (st : Stmt) (cont : Nat)
    (first initial : Bool) : CInv (enqFlow s a st cont first initial).1 :=
  CInv_of_core (core_enqFlow s a st cont first initial) (CInv_ensureCtx hs a ha)

theorem CInv_rules : FrontRules (fun _ => True) CInv (fun _ _ _ => True) :=
  .ofStrip (fun _ _ e h => CInv_of_core (of_stripLg core (fun _ => rfl) e) h) {
    enq := fun _ a _ _ _ _ _ _ h hx _ => CInv_enqFlow h a (by rw [hx]; rfl) ..
    stall := fun _ _ _ _ _ _ h _ _ => CInv_of_core (core_setMisc ..) h
    parked := fun _ _ _ _ _ _ _ _ _ => ⟨trivial, trivial⟩
    flagDone := fun _ _ _ _ _ h _ _ _ => CInv_of_core (core_setMisc ..) h
    actorMisc := fun s a f h hf => CInv_of_core (core_setMisc s a f (fun x => ⟨(hf x).1, (hf x).2.1, (hf x).2.2.1⟩)) h
    pre := fun _ _ _ _ _ _ _ _ h hp _ _ => ⟨CInv_of_core (hp.proj core (fun _ _ _ _ => rfl)) h, fun _ _ _ _ => trivial⟩
    tick := fun _ _ h => CInv_of_core rfl h
    tstart := fun s a _ h ha => by
      have hcore : core ({ s with actors := s.actors ++ [{ id := a }] } : BSt) = (core s).tstart a := by
        simp only [core, Core.tstart, List.map_append, List.map_cons, List.map_nil]
      unfold CInv
      rw [hcore]
      exact CI.tstart h a (by rw [live_core, ha]; rfl)
    texitCtx := fun s a i _ h _ hc => by
      unfold CInv
      rw [core_texitCtx s a i hc]
      exact CI.exit h a
    texitNoCtx := fun s a _ h _ hc => by
      unfold CInv
      rw [core_texitNoCtx s a hc]
      exact CI.exit h a }

theorem CInv_front (s : BSt) (f : FOp) (hs : CInv s) : CInv (applyFront s f).1 :=
  CInv_rules.front hs f

theorem core_ctxEmpty (s : BSt) (i : Nat) : core (ctxEmpty s i).1 = core s := by
  unfold ctxEmpty; simp only [core_setTh, implies_true]

theorem core_allEmpty (s : BSt) : core (allEmpty s).1 = (core s).refresh :=
  allEmpty_of_refresh (fun x => core x = (core s).refresh) (fun x i h => (core_ctxEmpty x i).trans h) s (core_refresh s)

theorem refresh_keeps (c : Core) :
    c.refresh.bits = c.bits ∧ c.refresh.ths = c.ths ∧ c.refresh.registry = c.registry ∧ c.refresh.actors = c.actors := by
  unfold Core.refresh
  split <;> exact ⟨rfl, rfl, rfl, rfl⟩

theorem allEmpty_keeps (s : BSt) :
    (allEmpty s).1.cfg.invalidBits = s.cfg.invalidBits ∧ (core (allEmpty s).1).ths = (core s).ths ∧
    (allEmpty s).1.registry = s.registry ∧ (core (allEmpty s).1).actors = (core s).actors := by
  have h := core_allEmpty s
  have k := refresh_keeps (core s)
  exact ⟨(congrArg Core.bits h).trans k.1, (congrArg Core.ths h).trans k.2.1, (congrArg Core.registry h).trans k.2.2.1,
    (congrArg Core.actors h).trans k.2.2.2⟩

theorem refresh_newFlag (c : Core) : c.refresh.newFlag = false := by
  unfold Core.refresh
  split
  · rfl
  · next h => exact Bool.eq_false_iff.mpr h

theorem refreshCache_newFlag (s : BSt) : (refreshCache s).newFlag = false :=
  (congrArg Core.newFlag (core_refresh s)).trans (refresh_newFlag _)

theorem allEmpty_newFlag (s : BSt) : (allEmpty s).1.newFlag = false :=
  (congrArg Core.newFlag (core_allEmpty s)).trans (refresh_newFlag _)

theorem valid_core (s : BSt) (i : Nat) : (core s).valid i = (s.th i).valid := by
  simp only [Core.valid, core, BSt.th, List.getD_eq_getElem?_getD, List.getElem?_map]
  cases s.ths[i]? <;> rfl

/-- the state without what the logger clean-up writes besides the cache refresh -/
def stripL (s : BSt) : BSt :=
  { s with sinks := [], out := [], log := [], lgs := [], hasInvalidLoggers := false, flags := [], flagLog := [],
           removalFlags := [], siteCnt := [] }

/-- with nothing injected at hook site 9, `cleanupLoggers` touches the rest of the state only through the emptiness
    checks: a function of the state that reads neither what the clean-up writes, nor the cache, nor a queue's cached
    positions has the same value afterwards -/
theorem cleanupLoggers_eq_of {α} (φ : BSt → α) (inj : BSt → Nat → BSt) (hq : Quiet9 inj)
    (h0 : ∀ x : BSt, φ { x with cache := x.registry, newFlag := false } = φ x) (h1 : ∀ x i, φ (ctxEmpty x i).1 = φ x)
    (hL : ∀ x, φ (stripL x) = φ x) (s : BSt) : φ (cleanupLoggers inj s) = φ s := by
  have hAll : ∀ x, φ (allEmpty x).1 = φ x := allEmpty_eq φ h0 h1
  replace hL : ∀ x y, stripL y = stripL x → φ y = φ x := fun x y h => (hL y).symm.trans ((congrArg φ h).trans (hL x))
  -- `by rfl`: the state `y` is read off the goal before the equation between the stripped states is checked
  apply cleanupLoggers_pres (fun x => φ x = φ s) inj _ _ _ _ _ _ s rfl
  · intro x hx
    obtain ⟨sc, h⟩ := hq x
    rw [h]; exact (hL x _ (by rfl)).trans hx
  · intro x b hx; exact (hL x _ (by rfl)).trans hx
  · intro x hx; exact (hAll x).trans hx
  · intro x i hx _ _; exact ((hL (allEmpty x).1 _ (by rfl)).trans (hAll x)).trans hx
  · intro x sid hx _ _; exact (hL x _ (by rfl)).trans hx
  · intro x f g hx _; exact (hL x _ (by rfl)).trans hx

theorem core_readPrepSt (s : BSt) (i : Nat) : core (readPrepSt s i) = core s := by
  unfold readPrepSt; simp only [core_setTh, implies_true]
theorem core_decodeSt (s : BSt) (st : Stmt) : core (decodeSt s st) = core s := by
  unfold decodeSt; split <;> rfl
theorem core_moveSt (s : BSt) (i : Nat) (st : Stmt) (rest : List Stmt) : core (moveSt s i st rest) = core s := by
  unfold moveSt; simp only [core_setTh, implies_true]
theorem core_readOneSt (s : BSt) (i : Nat) (st : Stmt) (rest : List Stmt) : core (readOneSt s i st rest) = core s := by
  unfold readOneSt; rw [core_moveSt, core_decodeSt, core_readPrepSt]
theorem core_reportSt (s : BSt) (i : Nat) : core (reportSt s i) = core s := by
  have : core (reportSt s i) = core (s.setTh i (fun t => { t with fail := 0 })) := rfl
  rw [this]; simp only [core_setTh, implies_true]
theorem core_popSt (s : BSt) (i : Nat) (st : Stmt) (rest : List Stmt) : core (popSt s i st rest) = core s := by
  rw [popSt_proc]
  exact (core_setTh (procSt s st) i (fun t => { t with buf := rest, popped := t.popped ++ [st] }) (fun _ => rfl)
    (fun _ => rfl)).trans (core_of_stripOut (stripOut_dispRel.procSt s st))

theorem keptB_of_core (Q : Core → Prop) (hrc : ∀ c : Core, Q c → Q { c with cache := c.registry, newFlag := false })
    (hrm : ∀ (c : Core) i, Q c → i ∈ c.cache → c.valid i = false → Q (c.remove i)) :
    KeptB (fun _ => True) (fun s => Q (core s)) where
  book _ _ _ _ _ _ h := h
  emitInj _ _ _ _ _ h := h
  note _ h := h
  recache s _ h := hrc (core s) h
  rdQ s i f _ h hf _ := by
    rw [core_setTh s i f (hf.proj (·.valid) (fun _ _ => rfl)) (hf.proj (·.actor) (fun _ _ => rfl))]; exact h
  dropCtx s i _ h hc hv _ _ := by
    rw [core_removeSt, core_ctxEmpty]
    exact hrm (core s) i h hc (by rw [valid_core]; exact hv)
  erase _ _ _ _ _ h _ _ := h
  reap _ _ _ h _ _ := h
  flagRemoval _ _ _ _ _ _ h _ _ := h
  flushSinks s _ h := by rw [core_of_stripOut (flushSinks_strip s)]; exact h
  readOne s i st rest _ h _ _ := by rw [core_readOneSt]; exact h
  report s i _ h _ := by rw [core_reportSt]; exact h
  pop s i st rest _ h _ _ := by rw [core_popSt]; exact h
  raise _ _ h _ := h

theorem CInv_kept : Kept (fun _ => True) CInv :=
  { keptB_of_core CI (fun _ h => h.recache) (fun _ i h => h.remove i) with
    front := fun s f _ h => CInv_front s f h }

theorem CInv_closed : Closed CInv := CInv_kept.closed

theorem CInv_runOps (s0 : BSt) (h0 : CInv s0) (ops : List Op) : CInv (runOps s0 ops) :=
  runOps_closed CInv_closed ops s0 h0

end Backend.PC
