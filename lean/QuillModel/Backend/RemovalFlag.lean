import QuillModel.Backend.SinkBack
/-!
# The removal-flag invariant `RI` (C17: "`remove_logger_blocking` returns only after the logger is gone")

`RI s`, kept by every frontend operation and every backend step under arbitrary injections (`FRI_closed`, on top of
the C17 invariant `FInv`):
* every accepted record names an existing logger object; un-erased logger objects carry distinct names;
* every recorded pair `(g, f)` of `removalFlags` stems from an accepted removal record with flag `f` whose logger
  object is named `g`;
* everything in the pop history is in the popped history of some context;
* every raised flag is the flag of a popped Flush record, or of an accepted removal record *whose logger object
  is erased*.
The last clause is established at the flag-raising step of the logger clean-up (`RI_flagRemoval`): the skeleton
hands over that an object of the recorded name, not erased when the clean-up started, is erased now (`ErasedNow`),
and the uniqueness of names among un-erased objects *at the start of the clean-up* identifies it with the record's
own object — whatever frontend operations ran at hook site 9 in between (they cannot un-erase nor rename).
-/
namespace Backend.PC

/-- the invariant behind "a removal flag is raised only after the erase" -/
structure RI (s : BSt) : Prop where
  accLg : ∀ i st, st ∈ (s.th i).accepted → st.lg < s.lgs.length
  uniq : ∀ i j, i < s.lgs.length → j < s.lgs.length → (s.lgOf i).erased = false → (s.lgOf j).erased = false →
    (s.lgOf i).gid = (s.lgOf j).gid → i = j
  rfi : ∀ p ∈ s.removalFlags, ∃ i st, st ∈ (s.th i).accepted ∧ st.kind = .removal p.2 ∧ (s.lgOf st.lg).gid = p.1
  pl : ∀ p ∈ s.popLog, ∃ i, p ∈ (s.th i).popped
  bw : ∀ f ∈ s.flags, (∃ i st, st ∈ (s.th i).popped ∧ st.kind = .flush f) ∨
    (∃ i st, st ∈ (s.th i).accepted ∧ st.kind = .removal f ∧ (s.lgOf st.lg).erased = true)

/-- the popped and the accepted histories only grow; `lg` is the logger of the one record that may have been accepted -/
def AccRel (lg : Option Nat) (s s' : BSt) : Prop :=
  ∀ i, (∀ x ∈ (s.th i).popped, x ∈ (s'.th i).popped) ∧ (∀ x ∈ (s.th i).accepted, x ∈ (s'.th i).accepted) ∧
    (∀ x ∈ (s'.th i).accepted, x ∈ (s.th i).accepted ∨ some x.lg = lg)

theorem AccRel.refl (lg : Option Nat) (s : BSt) : AccRel lg s s := fun _ => ⟨fun _ h => h, fun _ h => h, fun _ h => Or.inl h⟩
theorem AccRel.trans {lg : Option Nat} {a b c : BSt} (h1 : AccRel lg a b) (h2 : AccRel lg b c) : AccRel lg a c :=
  fun i => ⟨fun x hx => (h2 i).1 x ((h1 i).1 x hx), fun x hx => (h2 i).2.1 x ((h1 i).2.1 x hx), fun x hx => by
    rcases (h2 i).2.2 x hx with h | h
    · exact (h1 i).2.2 x h
    · exact Or.inr h⟩
theorem AccRel.weaken {s s' : BSt} (h : AccRel none s s') (lg : Option Nat) : AccRel lg s s' :=
  fun i => ⟨(h i).1, (h i).2.1, fun x hx => by
    rcases (h i).2.2 x hx with h' | h'
    · exact Or.inl h'
    · cases h'⟩
theorem AccRel.of_ths {s s' : BSt} (h : s'.ths = s.ths) (lg : Option Nat) : AccRel lg s s' := by
  intro i
  have : s'.th i = s.th i := by simp only [BSt.th, h]
  rw [this]; exact ⟨fun _ hx => hx, fun _ hx => hx, fun _ hx => Or.inl hx⟩

theorem AccRel.setTh_keep (s : BSt) (i : Nat) (f : Th → Th) (h1 : ∀ t, (f t).accepted = t.accepted)
    (h2 : ∀ t, ∀ x ∈ t.popped, x ∈ (f t).popped) (lg : Option Nat) : AccRel lg s (s.setTh i f) := by
  intro j
  rw [th_setTh]; split
  · rw [h1]; exact ⟨h2 _, fun _ hx => hx, fun _ hx => Or.inl hx⟩
  · exact ⟨fun _ hx => hx, fun _ hx => hx, fun _ hx => Or.inl hx⟩

theorem RI.grow {s s' : BSt} (h : RI s) (lg : Option Nat) (ha : AccRel lg s s') (hlg : ∀ l, lg = some l → l < s.lgs.length)
    (hm : LgMono s s') (f1 : s'.flags = s.flags) (f2 : s'.removalFlags = s.removalFlags)
    (f3 : ∀ p ∈ s'.popLog, p ∈ s.popLog ∨ ∃ i, p ∈ (s'.th i).popped) : RI s' := by
  have hacc : ∀ i st, st ∈ (s'.th i).accepted → st.lg < s.lgs.length := by
    intro i st hst
    rcases (ha i).2.2 st hst with h1 | h1
    · exact h.accLg i st h1
    · exact hlg st.lg h1.symm
  refine ⟨fun i st hst => by rw [hm.1]; exact hacc i st hst, ?_, ?_, ?_, ?_⟩
  · intro i j hi hj ei ej eg
    rw [hm.1] at hi hj
    rw [(hm.2 i).1, (hm.2 j).1] at eg
    apply h.uniq i j hi hj _ _ eg
    · cases he : (s.lgOf i).erased
      · rfl
      · rw [(hm.2 i).2 he] at ei; cases ei
    · cases he : (s.lgOf j).erased
      · rfl
      · rw [(hm.2 j).2 he] at ej; cases ej
  · intro p hp
    rw [f2] at hp
    obtain ⟨i, st, h1, h2, h3⟩ := h.rfi p hp
    exact ⟨i, st, (ha i).2.1 st h1, h2, by rw [(hm.2 st.lg).1]; exact h3⟩
  · intro p hp
    rcases f3 p hp with hp | hp
    · obtain ⟨i, h1⟩ := h.pl p hp
      exact ⟨i, (ha i).1 p h1⟩
    · exact hp
  · intro f hf'
    rw [f1] at hf'
    rcases h.bw f hf' with ⟨i, st, h1, h2⟩ | ⟨i, st, h1, h2, h3⟩
    · exact Or.inl ⟨i, st, (ha i).1 st h1, h2⟩
    · exact Or.inr ⟨i, st, (ha i).2.1 st h1, h2, (hm.2 st.lg).2 h3⟩

theorem RI.step {s s' : BSt} (h : RI s) (lg : Option Nat) (ha : AccRel lg s s') (hlg : ∀ l, lg = some l → l < s.lgs.length)
    (hm : LgMono s s') (hf : fv3 s' = fv3 s) : RI s' := by
  simp only [fv3, Prod.mk.injEq] at hf
  exact h.grow lg ha hlg hm hf.1 hf.2.1 (fun p hp => Or.inl (hf.2.2 ▸ hp))

theorem RI.same {s s' : BSt} (h : RI s) (ht : s'.ths = s.ths) (hl : s'.lgs = s.lgs) (hf : fv3 s' = fv3 s) : RI s' :=
  h.step none (AccRel.of_ths ht none) (fun _ h => by cases h) (LgMono.of_lgs hl) hf

theorem hist_append (s X : BSt) (t : Th) (hX : X.ths = s.ths ++ [t]) (ht : t.accepted = [] ∧ t.popped = []) (i : Nat) :
    (X.th i).accepted = (s.th i).accepted ∧ (X.th i).popped = (s.th i).popped := by
  rcases Nat.lt_trichotomy i s.ths.length with hi | hi | hi
  · rw [th_append hX, if_neg (Nat.ne_of_lt hi)]; exact ⟨rfl, rfl⟩
  · subst hi
    rw [th_append hX, if_pos rfl, ht.1, ht.2]
    simp only [BSt.th, List.getD_eq_getElem?_getD, List.getElem?_eq_none (Nat.le_refl _)]
    exact ⟨rfl, rfl⟩
  · simp only [BSt.th, List.getD_eq_getElem?_getD, hX]
    rw [List.getElem?_eq_none (by simp; omega), List.getElem?_eq_none (by omega)]
    exact ⟨rfl, rfl⟩

theorem ensureCtx_acc (s : BSt) (a : Nat) : AccRel none s (ensureCtx s a).1 := by
  unfold ensureCtx
  split
  · exact AccRel.refl none s
  · simp only []
    intro i
    simp only [th_setActor]
    obtain ⟨h1, h2⟩ := hist_append s ({ s with ths := s.ths ++ [mkTh s.cfg a], registry := s.registry ++ [s.ths.length], newFlag := true } : BSt) (mkTh s.cfg a) rfl ⟨rfl, rfl⟩ i
    rw [h1, h2]
    exact ⟨fun _ hx => hx, fun _ hx => hx, fun _ hx => Or.inl hx⟩

theorem tryEnq_acc (s : BSt) (ci : Nat) (st : Stmt) : AccRel (some st.lg) s (tryEnq s ci st).1 := by
  unfold tryEnq
  simp only []
  split
  · intro i
    rw [th_setTh]; split
    · refine ⟨fun _ hx => hx, fun x hx => List.mem_append_left _ hx, fun x hx => ?_⟩
      have hx' : x ∈ (s.th i).accepted ++ [{ st with enqAt := s.now }] := hx
      rcases List.mem_append.mp hx' with hx' | hx'
      · exact Or.inl hx'
      · simp only [List.mem_singleton] at hx'; right; rw [hx']
    · exact ⟨fun _ hx => hx, fun _ hx => hx, fun _ hx => Or.inl hx⟩
  · exact AccRel.setTh_keep s ci _ (by intro _; rfl) (by intro _ _ hx; exact hx) _

theorem AccRel.setActor (X : BSt) (a : Nat) (g : Actor → Actor) (lg : Option Nat) : AccRel lg X (X.setActor a g) :=
  AccRel.of_ths rfl lg

theorem afterEnq_acc (s : BSt) (a : Nat) (st : Stmt) (cont : Nat) (lg : Option Nat) :
    AccRel lg s (afterEnq s a st cont).1 := by
  unfold afterEnq
  split <;> exact AccRel.of_ths (by rfl) lg

theorem bumpFail_acc (d : Bool) (s : BSt) (ci : Nat) (st : Stmt) (lg : Option Nat) : AccRel lg s (bumpFail d s ci st) := by
  unfold bumpFail
  split
  · exact AccRel.setTh_keep s ci _ (by intro _; rfl) (by intro _ _ hx; exact hx) lg
  · exact AccRel.refl lg s

theorem enqFlow_acc (s : BSt) (a : Nat) (st : Stmt) (cont : Nat) (first initial : Bool) :
    AccRel (some st.lg) s (enqFlow s a st cont first initial).1 :=
  enqFlow_rule (fun _ => AccRel (some st.lg) s) (fun _ => AccRel (some st.lg) s) (AccRel (some st.lg) s)
    ((ensureCtx_acc s a).weaken _)
    (fun ci x hx _ =>
      ((hx.trans (tryEnq_acc x ci st)).trans (AccRel.setActor _ a _ _)).trans (afterEnq_acc _ a st cont _))
    (fun ci x hx _ => hx.trans (tryEnq_acc x ci st))
    (fun _ x hx _ => hx.trans (bumpFail_acc _ x _ st _))
    (fun _ x hx _ _ => hx.trans (AccRel.setActor x a _ _))
    (fun _ x hx _ => hx.trans (AccRel.setActor x a _ _))

theorem RI.of_gev {s s' : BSt} (h : RI s) (ht : s'.ths = s.ths) (hg : gev s' = gev s) (hf : fv3 s' = fv3 s) : RI s' :=
  h.step none (AccRel.of_ths ht none) (fun _ h => by cases h) (LgMono.of_gev hg) hf

theorem RI.newLogger {s : BSt} (h : RI s) (g : Nat) (sl : List Nat) (nm : List (Nat × Nat))
    (hno : ∀ i, i < s.lgs.length → (s.lgOf i).gid = g → (s.lgOf i).erased = true) :
    RI { s with lgs := s.lgs ++ [{ gid := g, sinks := sl }], names := nm } := by
  have hlt := lgOf_newLogger_lt s g sl nm
  have hnew := lgOf_newLogger_new s g sl nm
  refine ⟨?_, ?_, ?_, h.pl, ?_⟩
  · intro i st hst
    have := h.accLg i st hst
    show st.lg < (s.lgs ++ [_]).length
    simp; omega
  · intro i j hi hj ei ej eg
    rcases lt_newLogger hi with hi' | hi' <;> rcases lt_newLogger hj with hj' | hj'
    · rw [hlt i hi'] at ei eg; rw [hlt j hj'] at ej eg
      exact h.uniq i j hi' hj' ei ej eg
    · subst hj'; rw [hlt i hi'] at ei eg; rw [hnew] at eg
      have := hno i hi' eg; rw [this] at ei; cases ei
    · subst hi'; rw [hlt j hj'] at ej eg; rw [hnew] at eg
      have := hno j hj' eg.symm; rw [this] at ej; cases ej
    · rw [hi', hj']
  · intro p hp
    obtain ⟨i, st, a1, a2, a3⟩ := h.rfi p hp
    exact ⟨i, st, a1, a2, by rw [hlt st.lg (h.accLg i st a1)]; exact a3⟩
  · intro f hf
    rcases h.bw f hf with ⟨i, st, a1, a2⟩ | ⟨i, st, a1, a2, a3⟩
    · exact Or.inl ⟨i, st, a1, a2⟩
    · exact Or.inr ⟨i, st, a1, a2, by rw [hlt st.lg (h.accLg i st a1)]; exact a3⟩

/-- a record may be enqueued or parked if its logger object exists, which `LA` says of a parked record and of a usable
    logger -/
theorem RI.rules : FrontRules LA RI (fun _ st s => st.lg < s.lgs.length) where
  enq := fun s a _ st cont first initial _ h _ hA =>
    h.step (some st.lg) (enqFlow_acc s a st cont first initial) (fun _ hl => by cases hl; exact hA)
      (LgMono.of_gev (of_sinkPart gev gev_sinkPart (sinkPart_stepRel.enqFlow ..))) (fv3_frontRel.steps.toStepRel.enqFlow ..)
  stall := fun _ _ _ _ _ _ h _ _ => h.of_gev rfl rfl rfl
  parked := fun _ _ x st _ hL _ hx hp =>
    have := (hL.1.pendOK x (actor_find hx).2.2 (actor_find hx).2.1 st (by rcases hp with e | e <;> rw [e] <;> rfl)).2.2
    ⟨this, this⟩
  flagDone := fun _ _ _ _ _ h _ _ _ => h.of_gev rfl rfl rfl
  actorMisc := fun _ _ _ h _ => h.of_gev rfl rfl rfl
  pre := fun _ _ _ _ _ _ _ hL h hp hl _ =>
    ⟨h.of_gev (hp.proj (·.ths) (fun _ _ _ _ => rfl)) (hp.proj gev (fun _ _ _ _ => rfl)) (hp.proj fv3 (fun _ _ _ _ => rfl)),
     fun _ _ _ _ => (hp.proj (·.lgs.length) (fun _ _ _ _ => rfl)).symm ▸ (loggerOf_facts hL hl).2.2.1⟩
  tick := fun _ _ h => h.of_gev rfl rfl rfl
  tstart := fun _ _ _ h _ => h.of_gev rfl rfl rfl
  texitCtx := fun s a i _ h _ _ =>
    h.step none ((AccRel.setActor s a _ none).trans (AccRel.setTh_keep _ i _ (by intro _; rfl) (by intro _ _ hx; exact hx) none))
      (fun _ hh => by cases hh) (LgMono.of_gev rfl) rfl
  texitNoCtx := fun _ _ _ h _ _ => h.of_gev rfl rfl rfl
  remove := fun s _ g lgi _ h _ _ _ =>
    h.of_gev rfl (gev_setLg (dropName s g) lgi (fun l => { l with valid := false }) (fun _ => ⟨rfl, rfl⟩)) rfl
  createExisting := fun _ _ _ _ h _ _ _ => h.of_gev rfl rfl rfl
  createNew := fun _ g sl _ h _ _ hex => h.newLogger g sl _ (fun i hi hg => by
    have := List.find?_eq_none.mp hex i (List.mem_range.mpr hi)
    simp only [hg, true_and, Bool.not_eq_true', decide_eq_true_eq, Bool.not_eq_false] at this
    exact this)
  setLevel := fun s _ _ _ h _ => h.of_gev rfl (gev_setLg s _ _ (fun _ => ⟨rfl, rfl⟩)) rfl
  setSinkLevel := fun _ _ _ h => h.of_gev rfl rfl rfl
  dropSink := fun _ _ _ h =>
    h.of_gev ((SinkRel.of_eq (·.ths) (fun _ _ _ => rfl) (fun _ _ => rfl)).reapSinks (fun _ _ => rfl) _ _)
      (reapSinks_gev _ _) (fv3_frontRel.steps.reapSinks _ _)

theorem RI_front (s : BSt) (f : FOp) (hF : FInv s) (h : RI s) : RI (applyFront s f).1 :=
  RI.rules.applyFront (fun _ _ _ _ _ hp hL => hL.callPre hp) s f hF.1.2 h

theorem fv3_of_strip {s s' : BSt} (h : stripOut s' = stripOut s) : fv3 s' = fv3 s := by
  have : fv3 (stripOut s') = fv3 (stripOut s) := by rw [h]
  exact this

theorem ths_of_strip {s s' : BSt} (h : stripOut s' = stripOut s) : s'.ths = s.ths := by
  have : (stripOut s').ths = (stripOut s).ths := by rw [h]
  exact this

theorem LgKeep.lgMono {s s' : BSt} (h : LgKeep s s') : LgMono s s' :=
  ⟨h.len, fun j => ⟨h.gid j, fun he => by rw [h.erased j]; exact he⟩⟩

theorem RI.setTh_keep {s : BSt} (h : RI s) (i : Nat) (f : Th → Th) (h1 : ∀ t, (f t).accepted = t.accepted)
    (h2 : ∀ t, (f t).popped = t.popped) : RI (s.setTh i f) :=
  h.step none (AccRel.setTh_keep s i f h1 (fun t x hx => by rw [h2]; exact hx) none) (fun _ h => by cases h) (LgMono.of_lgs rfl) rfl

theorem RI_ctxEmpty {s : BSt} (h : RI s) (i : Nat) : RI (ctxEmpty s i).1 := by
  unfold ctxEmpty; exact h.setTh_keep i _ (fun _ => rfl) (fun _ => rfl)

theorem RI_removeSt {s : BSt} (h : RI s) (i : Nat) : RI (removeSt s i) := by
  unfold removeSt
  refine RI.setTh_keep ?_ i _ (fun _ => rfl) (fun _ => rfl)
  exact h.same rfl rfl rfl

theorem RI_erase {x : BSt} (h : RI x) (i : Nat) : RI (x.setLg i (fun l => { l with erased := true })) :=
  h.step none (AccRel.of_ths (by rfl) none) (fun _ h => by cases h) (LgMono.erase x i) (by rfl)

theorem RI_flagRemoval {s0 s : BSt} (h0 : RI s0) (h : RI s) (f g : Nat) (he : ErasedNow s0 s g)
    (hf : ∃ g', s.removalFlags.find? (·.1 = g) = some (g', f)) :
    RI { s with flags := f :: s.flags, flagLog := (f, s.log.length) :: s.flagLog,
                removalFlags := s.removalFlags.filter (·.1 ≠ g) } := by
  refine ⟨h.accLg, h.uniq, ?_, h.pl, ?_⟩
  · intro p hp
    exact h.rfi p (List.mem_filter.mp hp).1
  · intro f' hf'
    rcases List.mem_cons.mp hf' with hf' | hf'
    · subst hf'
      obtain ⟨g', hfind⟩ := hf
      have hm := List.mem_of_find?_eq_some hfind
      have hg := List.find?_some hfind
      simp only [decide_eq_true_eq] at hg
      obtain ⟨i, st, h1, h2, h3⟩ := h.rfi _ hm
      simp only [hg] at h3
      right
      refine ⟨i, st, h1, h2, ?_⟩
      obtain ⟨hm0, j, hj, ej, gj, ej'⟩ := he
      have hlt := h.accLg i st h1
      cases hes : (s.lgOf st.lg).erased
      · exfalso
        have e0 : (s0.lgOf st.lg).erased = false := by
          cases he0 : (s0.lgOf st.lg).erased
          · rfl
          · rw [(hm0.2 st.lg).2 he0] at hes; cases hes
        have : st.lg = j := h0.uniq st.lg j (by rw [← hm0.1]; exact hlt) hj e0 ej
          (by rw [gj, ← (hm0.2 st.lg).1]; exact h3)
        rw [this, ej'] at hes; cases hes
      · exact hes
    · exact h.bw f' hf'

theorem flushSinks_RI {s : BSt} (h : RI s) : RI (flushSinks s) := by
  exact h.same (ths_of_strip (flushSinks_strip s)) (lgs_sinkRel.flushSinks s) (fv3_of_strip (flushSinks_strip s))

/-- decoding a removal record writes down `(name of its logger object, its flag)`; the record is in the accepted
    history of its context -/
theorem RI_readOneSt {s : BSt} (hT : TInv s) (h : RI s) (i : Nat) (st : Stmt) (rest : List Stmt)
    (hq : (s.th i).qStmts = st :: rest) : RI (readOneSt s i st rest) := by
  have hi := qStmts_head_lt hq
  have hacc : st ∈ (s.th i).accepted := by
    rw [(hT.ths i hi).cons, hq]
    exact List.mem_append_right _ List.mem_cons_self
  have h1 : RI (readPrepSt s i) := by unfold readPrepSt; exact h.setTh_keep i _ (fun _ => rfl) (fun _ => rfl)
  have hacc1 : st ∈ ((readPrepSt s i).th i).accepted := by
    unfold readPrepSt; rw [th_setTh]; split <;> exact hacc
  have h2 : RI (decodeSt (readPrepSt s i) st) := by
    generalize readPrepSt s i = x at h1 hacc1
    unfold decodeSt; split
    · rename_i f hk
      refine ⟨h1.accLg, h1.uniq, ?_, h1.pl, h1.bw⟩
      intro p hp
      have hp' : p ∈ x.removalFlags ++ [((x.lgOf st.lg).gid, f)] := hp
      rcases List.mem_append.mp hp' with hp' | hp'
      · exact h1.rfi p hp'
      · simp only [List.mem_singleton] at hp'
        subst hp'
        exact ⟨i, st, hacc1, hk, rfl⟩
    · exact h1
  unfold readOneSt moveSt
  exact h2.setTh_keep i _ (fun _ => rfl) (fun _ => rfl)

theorem RI_reportSt {s : BSt} (h : RI s) (i : Nat) : RI (reportSt s i) := by
  have h1 : RI (s.setTh i (fun t => { t with fail := 0 })) := h.setTh_keep i _ (fun _ => rfl) (fun _ => rfl)
  unfold reportSt
  exact h1.same rfl rfl rfl

theorem RI_popSt {s : BSt} (h : RI s) (i : Nat) (st : Stmt) (rest : List Stmt) (hb : (s.th i).buf = st :: rest) :
    RI (popSt s i st rest) := by
  have ht := ths_of_strip (procSt_strip s st)
  have hf := fv3_of_strip (procSt_strip s st)
  simp only [fv3, Prod.mk.injEq] at hf
  have hi : i < (procSt s st).ths.length := by rw [ht]; exact buf_head_lt hb
  rw [popSt_proc]
  have ha : AccRel none (procSt s st) ((procSt s st).setTh i (fun t => { t with buf := rest, popped := t.popped ++ [st] })) :=
    AccRel.setTh_keep _ i _ (by intro _; rfl) (by intro _ _ hx; exact List.mem_append_left _ hx) none
  refine h.grow none ((AccRel.of_ths ht none).trans (ha.trans (AccRel.of_ths rfl none))) (fun _ h => by cases h)
    (procSt_lgKeep s st).lgMono hf.1 hf.2.1 (fun p hp => ?_)
  rcases List.mem_cons.mp hp with e | hp
  · refine Or.inr ⟨i, ?_⟩
    show p ∈ (((procSt s st).setTh i _).th i).popped
    rw [th_setTh_same _ _ hi, e]
    exact List.mem_append_right _ List.mem_cons_self
  · exact Or.inl (hf.2.2 ▸ hp)

theorem RI_raiseSt {s : BSt} (h : RI s) (f : Nat) (hg : ∃ st, s.popLog.head? = some st ∧ st.kind = .flush f) :
    RI (raiseSt s f) := by
  refine ⟨h.accLg, h.uniq, h.rfi, h.pl, ?_⟩
  intro f' hf'
  rcases List.mem_cons.mp hf' with hf' | hf'
  · subst hf'
    obtain ⟨st, h1, h2⟩ := hg
    obtain ⟨i, hi⟩ := h.pl st (List.mem_of_mem_head? h1)
    exact Or.inl ⟨i, st, hi, h2⟩
  · exact h.bw f' hf'

/-- the invariant behind C17's "flag after erase" -/
def FRI (s : BSt) : Prop := FInv s ∧ RI s

theorem RI_kept : Kept FInv RI where
  book _ _ _ _ _ _ h := h.same rfl rfl rfl
  emitInj _ _ _ _ _ h := h.same rfl rfl rfl
  note _ h := h.same rfl rfl rfl
  recache _ _ h := h.same rfl rfl rfl
  rdQ _ i f _ h hf _ := h.setTh_keep i f (hf.proj (·.accepted) (fun _ _ => rfl)) (hf.proj (·.popped) (fun _ _ => rfl))
  dropCtx _ i _ h _ _ _ _ := RI_removeSt (RI_ctxEmpty h i) i
  erase _ i _ _ _ h' _ _ := RI_erase h' i
  reap _ _ _ h _ _ := h.same rfl rfl rfl
  flagRemoval _ _ f g h0 _ h he hf := RI_flagRemoval h0 h f g he hf
  flushSinks _ _ h := flushSinks_RI h
  readOne _ i st rest hp h _ hq := RI_readOneSt hp.1.1.2 h i st rest hq
  report _ i _ h _ := RI_reportSt h i
  pop _ i st rest _ h _ hb := RI_popSt h i st rest hb
  raise _ f h hg := RI_raiseSt h f hg
  front s f hp h := RI_front s f hp h

theorem FRI_closed : Closed FRI := (FInv_kept.and RI_kept).closed

theorem FRI_runOps (s0 : BSt) (h0 : FRI s0) (ops : List Op) : FRI (runOps s0 ops) :=
  runOps_closed FRI_closed ops s0 h0

/-- Flag numbers identify their record (`FI.flag_unique`), so the record of which `RI.bw` speaks is this one — and not
    a popped Flush record -/
theorem RI.flag_after_erase {pf : List Nat} {s : BSt} (hR : RI s) (hF : PB.FI none pf s) {i : Nat} {st : Stmt} {f : Nat}
    (hst : st ∈ (s.th i).accepted) (hk : st.kind = .removal f) (hf : f ∈ s.flags) : (s.lgOf st.lg).erased = true := by
  have hfo : ∀ {x : Stmt} {k : Kind}, x.kind = k → PB.flagOf x = PB.flagOfK k := fun h => by rw [PB.flagOf, h]
  rcases hR.bw f hf with ⟨j, st', h1, h2⟩ | ⟨j, st', h1, h2, h3⟩
  · have hacc : st' ∈ (s.th j).accepted := by
      rw [hF.cons j]; exact List.mem_append_left _ (List.mem_append_left _ h1)
    have := (hF.flag_unique hst hacc (hfo hk) (hfo h2)).2
    rw [this, h2] at hk; cases hk
  · have := (hF.flag_unique hst h1 (hfo hk) (hfo h2)).2
    rw [this]; exact h3

/-- by `LA0`, a waiting record and a parked call go through un-erased objects -/
theorem RI.gone_when_flag {pf : List Nat} {s : BSt} (hR : RI s) (hF : PB.FI none pf s) (hL : LA0 s) {i : Nat} {st : Stmt}
    {f : Nat} (hst : st ∈ (s.th i).accepted) (hk : st.kind = .removal f) (hf : f ∈ s.flags) :
    (s.lgOf st.lg).erased = true ∧
    (∀ j st', st' ∈ (s.th j).accepted → st'.lg = st.lg → st' ∈ (s.th j).popped) ∧
    (∀ x ∈ s.actors, x.alive = true → ∀ st', pendStmt x.pend = some st' → st'.lg ≠ st.lg) := by
  have her := hR.flag_after_erase hF hst hk hf
  refine ⟨her, fun j st' hacc hlg => ?_, fun x hx hal st' hst' hlg => ?_⟩
  · have hj : j < s.ths.length := by
      apply Decidable.byContradiction
      intro hj
      rw [th_default_of_ge s j (Nat.le_of_not_lt hj)] at hacc
      cases hacc
    refine popped_of_accepted (hF.cons j) hacc fun h => ?_
    have := hL.live j hj st' h
    rw [hlg, her] at this; cases this
  · have := (hL.pendOK x hx hal st' hst').2.1
    rw [hlg, her] at this; cases this

theorem lgOf_gid_inj {s : BSt} (h : (s.lgs.map (·.gid)).Nodup) (i j : Nat) (hi : i < s.lgs.length) (hj : j < s.lgs.length)
    (hg : (s.lgOf i).gid = (s.lgOf j).gid) : i = j := by
  have hne : ∀ a b (ha : a < s.lgs.length) (hb : b < s.lgs.length), a < b → (s.lgOf a).gid ≠ (s.lgOf b).gid := by
    intro a b ha hb hab
    have := List.pairwise_iff_getElem.mp h a b (by rw [List.length_map]; exact ha) (by rw [List.length_map]; exact hb) hab
    rw [List.getElem_map, List.getElem_map] at this
    simp only [BSt.lgOf, List.getD_eq_getElem?_getD, List.getElem?_eq_getElem ha, List.getElem?_eq_getElem hb,
      Option.getD_some]
    exact this
  rcases Nat.lt_trichotomy i j with hlt | heq | hgt
  · exact absurd hg (hne i j hi hj hlt)
  · exact heq
  · exact absurd hg.symm (hne j i hj hi hgt)

theorem RI_start {s : BSt} (hths : s.ths = []) (hfl : s.flags = []) (hrf : s.removalFlags = []) (hpl : s.popLog = [])
    (hd : ∀ i j, i < s.lgs.length → j < s.lgs.length → (s.lgOf i).erased = false → (s.lgOf j).erased = false →
      (s.lgOf i).gid = (s.lgOf j).gid → i = j) : RI s := by
  have hth : ∀ i, (s.th i).accepted = [] := fun i => by simp [BSt.th, hths]; rfl
  refine ⟨fun i st hst => ?_, hd, fun p hp => ?_, fun p hp => ?_, fun f hf => ?_⟩
  · rw [hth] at hst; cases hst
  · rw [hrf] at hp; cases hp
  · rw [hpl] at hp; cases hp
  · rw [hfl] at hf; cases hf

end Backend.PC

namespace Backend
open Backend.PC

/-- initial states of the removal theorems (`Props/C17*.lean`) -/
structure RemovalFresh (s : BSt) : Prop where
  fresh : LoggerFresh s
  flags : s.flags = []
  removalFlags : s.removalFlags = []
  popLog : s.popLog = []
  distinct : ∀ i j, i < s.lgs.length → j < s.lgs.length → (s.lgOf i).erased = false → (s.lgOf j).erased = false →
    (s.lgOf i).gid = (s.lgOf j).gid → i = j

theorem RemovalFresh.inv {s : BSt} (h : RemovalFresh s) : FRI s :=
  ⟨h.fresh.inv, RI_start h.fresh.1.1 h.flags h.removalFlags h.popLog h.distinct⟩

end Backend
