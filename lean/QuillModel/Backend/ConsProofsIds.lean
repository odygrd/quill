import QuillModel.Backend.ConsProofsCoreFront
/-!
`InvB`: statement ids identify statements. Every `Event::Log` statement that was accepted by some queue or is
carried by a parked call has an id below `nextId`, and no id occurs twice (over all contexts and all parked
calls together). Counting formulation: `tot s id ≤ 1`.
-/
namespace Backend.PA

def cntL (id : Nat) (l : List Stmt) : Nat := l.countP (fun st => isLogKind st.kind && st.id == id)

def pendL : Pend → List Stmt
  | .stall s _ => [s]
  | .retry s _ => [s]
  | _ => []

def cntA (s : BSt) (id : Nat) : Nat := (s.ths.map (fun t => cntL id t.accepted)).sum
def cntBa (s : BSt) (a id : Nat) : Nat :=
  ((s.actors.filter (fun x => x.id = a ∧ x.alive)).map (fun x => cntL id (pendL x.pend))).sum
def cntBo (s : BSt) (a id : Nat) : Nat :=
  ((s.actors.filter (fun x => !decide (x.id = a ∧ x.alive))).map (fun x => cntL id (pendL x.pend))).sum
def cntB (s : BSt) (id : Nat) : Nat := (s.actors.map (fun x => cntL id (pendL x.pend))).sum
def tot (s : BSt) (id : Nat) : Nat := cntA s id + cntB s id

def UniqA (s : BSt) : Prop := ∀ a, (s.actors.filter (fun x => x.id = a ∧ x.alive)).length ≤ 1

structure InvB (s : BSt) : Prop where
  uniq : ∀ id, tot s id ≤ 1
  lt : ∀ id, s.nextId ≤ id → tot s id = 0
  ua : UniqA s

/-- `InvB` with `φ id` phantom occurrences of each id counted in addition (`φ = 0`: `InvB`; `φ` = indicator of one id:
    that id is in use nowhere, although it lies below `nextId` — a discarded call) -/
structure InvBφ (φ : Nat → Nat) (s : BSt) : Prop where
  uniq : ∀ id, tot s id + φ id ≤ 1
  lt : ∀ id, s.nextId ≤ id → tot s id + φ id = 0
  ua : UniqA s

theorem cntL_append (id : Nat) (l r : List Stmt) : cntL id (l ++ r) = cntL id l + cntL id r := by
  simp [cntL, List.countP_append]

theorem sum_filter_split {α} (l : List α) (c : α → Bool) (h : α → Nat) :
    (l.map h).sum = ((l.filter c).map h).sum + ((l.filter (fun x => !c x)).map h).sum := by
  induction l with
  | nil => rfl
  | cons x xs ih =>
    by_cases hc : c x = true
    · rw [List.filter_cons_of_pos hc, List.filter_cons_of_neg (by simp [hc])]
      simp only [List.map_cons, List.sum_cons, ih]
      omega
    · rw [List.filter_cons_of_neg hc, List.filter_cons_of_pos (by simpa using hc)]
      simp only [List.map_cons, List.sum_cons, ih]
      omega

theorem cntB_split (s : BSt) (a id : Nat) : cntB s id = cntBa s a id + cntBo s a id :=
  sum_filter_split s.actors (fun x => decide (x.id = a ∧ x.alive)) _

theorem cntA_setTh (s : BSt) (i : Nat) (f : Th → Th) (id : Nat) (hi : i < s.ths.length) :
    cntA (s.setTh i f) id + cntL id (s.th i).accepted = cntA s id + cntL id (f (s.th i)).accepted := by
  rw [th_eq_getElem s i hi]
  exact sum_map_updAt s.ths i f (fun t => cntL id t.accepted) hi

theorem cntA_setTh_same (s : BSt) (i : Nat) (f : Th → Th) (id : Nat)
    (hf : (f (s.th i)).accepted = (s.th i).accepted) : cntA (s.setTh i f) id = cntA s id := by
  by_cases hi : i < s.ths.length
  · have := cntA_setTh s i f id hi
    rw [hf] at this
    omega
  · rw [setTh_of_ge s i f (by omega)]

theorem filter_map_comm {α} (l : List α) (p : α → Bool) (g : α → α) (h : ∀ x, p (g x) = p x) :
    (l.map g).filter p = (l.filter p).map g := by
  rw [List.filter_map, (funext h : p ∘ g = p)]

def KeepsId (f : Actor → Actor) : Prop := ∀ x, (f x).id = x.id ∧ (f x).alive = x.alive

theorem setActor_actors (s : BSt) (a : Nat) (f : Actor → Actor) :
    (s.setActor a f).actors = s.actors.map (fun x => if decide (x.id = a ∧ x.alive) = true then f x else x) := by
  simp only [BSt.setActor, decide_eq_true_eq]

theorem keepsId_test {f : Actor → Actor} (hf : KeepsId f) (a b : Nat) (x : Actor) :
    decide ((if decide (x.id = a ∧ x.alive) = true then f x else x).id = b ∧
      (if decide (x.id = a ∧ x.alive) = true then f x else x).alive) = decide (x.id = b ∧ x.alive) := by
  split <;> simp [(hf x).1, (hf x).2]

theorem cntBo_setActor (s : BSt) (a : Nat) (f : Actor → Actor) (hf : KeepsId f) (id : Nat) :
    cntBo (s.setActor a f) a id = cntBo s a id := by
  unfold cntBo
  rw [setActor_actors, filter_map_comm _ (fun x => !decide (x.id = a ∧ x.alive)) _
    (fun x => congrArg (!·) (keepsId_test hf a a x)), List.map_map]
  exact congrArg List.sum (List.map_congr_left (fun x hx => by
    have : decide (x.id = a ∧ x.alive) = false := Eq.mp (Bool.not_eq_true' _) (List.mem_filter.mp hx).2
    simp only [Function.comp, this, Bool.false_eq_true, if_false]))

theorem filterA_setActor (s : BSt) (a : Nat) (f : Actor → Actor) (hf : KeepsId f) :
    (s.setActor a f).actors.filter (fun x => x.id = a ∧ x.alive) =
      (s.actors.filter (fun x => x.id = a ∧ x.alive)).map f := by
  rw [setActor_actors, filter_map_comm _ _ _ (keepsId_test hf a a)]
  exact List.map_congr_left (fun x hx => if_pos (List.mem_filter.mp hx).2)

theorem filterB_setActor_len (s : BSt) (a b : Nat) (f : Actor → Actor) (hf : KeepsId f) :
    ((s.setActor a f).actors.filter (fun x => x.id = b ∧ x.alive)).length =
      (s.actors.filter (fun x => x.id = b ∧ x.alive)).length := by
  rw [setActor_actors, filter_map_comm _ _ _ (keepsId_test hf a b), List.length_map]

theorem UniqA.setActor {s : BSt} (h : UniqA s) (a : Nat) (f : Actor → Actor) (hf : KeepsId f) :
    UniqA (s.setActor a f) := fun b => by rw [filterB_setActor_len s a b f hf]; exact h b

theorem cntBa_setPend_le {s : BSt} (h : UniqA s) (a : Nat) (f : Actor → Actor) (hf : KeepsId f) (p : Pend)
    (hp : ∀ x, (f x).pend = p) (id : Nat) : cntBa (s.setActor a f) a id ≤ cntL id (pendL p) := by
  unfold cntBa
  rw [filterA_setActor s a f hf]
  have hl := h a
  generalize s.actors.filter (fun x => x.id = a ∧ x.alive) = l at hl
  match l, hl with
  | [], _ => simp
  | [x], _ => simp [hp]
  | _ :: _ :: _, hl => simp at hl

theorem cntBa_setActor_same (s : BSt) (a : Nat) (f : Actor → Actor) (hf : KeepsId f)
    (hp : ∀ x, (f x).pend = x.pend) (id : Nat) : cntBa (s.setActor a f) a id = cntBa s a id := by
  unfold cntBa
  rw [filterA_setActor s a f hf, List.map_map]
  congr 1
  apply List.map_congr_left
  intro x _
  simp [hp]

theorem cntBa_ge {s : BSt} {a : Nat} {x : Actor} (h : s.actor a = some x) (id : Nat) :
    cntL id (pendL x.pend) ≤ cntBa s a id := by
  unfold cntBa
  obtain ⟨hid, hal, hm⟩ := actor_find h
  have hmem : x ∈ s.actors.filter (fun x => x.id = a ∧ x.alive) := List.mem_filter.mpr ⟨hm, by simp [hid, hal]⟩
  generalize s.actors.filter (fun x => x.id = a ∧ x.alive) = l at hmem
  induction l with
  | nil => cases hmem
  | cons y ys ih =>
    simp only [List.map_cons, List.sum_cons]
    rcases List.mem_cons.mp hmem with e | e
    · rw [e]
      omega
    · have := ih e; omega

theorem tot_eq (s : BSt) (a id : Nat) : tot s id = cntA s id + cntBa s a id + cntBo s a id := by
  unfold tot
  rw [cntB_split s a id]
  omega

end Backend.PA
