import QuillModel.Backend.LiftObsStep
/-!
`Step` for `enqFlow`, `frontCall`, `resume` and every frontend operation (`front_step`).
-/
namespace Backend.PC

theorem afterEnq_quiet {s : BSt} (ha : AOK s) (a : Nat) (st : Stmt) (cont : Nat) (hk : KC st.kind cont)
    (hc : ¬(cont = 0 ∨ cont = 5)) :
    (afterEnq s a st cont).1.ths = s.ths ∧ (afterEnq s a st cont).1.cfg = s.cfg ∧ (afterEnq s a st cont).1.log = s.log ∧
      AOK (afterEnq s a st cont).1 ∧ Quiet (afterEnq s a st cont).2 := by
  rcases hk with ⟨_, hc'⟩ | ⟨rfl, f, hk⟩ | ⟨rfl, c, f, hk⟩ | ⟨rfl, hk⟩ | ⟨rfl, f, hk⟩
  · exact absurd hc' hc
  · unfold Backend.afterEnq
    rw [hk]
    exact ⟨rfl, rfl, rfl, ha.setMisc a _ (fun _ => rfl) (fun _ _ => trivial), .sleep⟩
  · unfold Backend.afterEnq
    rw [hk]
    exact ⟨rfl, rfl, rfl, ha.of_eq rfl (Nat.le_refl _), .done⟩
  · unfold Backend.afterEnq
    exact ⟨rfl, rfl, rfl, ha, .done⟩
  · unfold Backend.afterEnq
    rw [hk]
    exact ⟨rfl, rfl, rfl, AOK.setMisc (s := { s.setLg st.lg (fun l => { l with valid := false }) with hasInvalidLoggers := true })
      (ha.of_eq rfl (Nat.le_refl _)) a _ (fun _ => rfl) (fun _ _ => trivial), .sleep⟩

theorem enqFlow_step (s : BSt) (a : Nat) (st : Stmt) (cont : Nat) (first initial : Bool) (hd : s.cfg.dropping = true)
    (ha : AOK s) (hw : wfSC st cont) :
    Step cont s (enqFlow s a st cont first initial).1 (enqFlow s a st cont first initial).2 := by
  have htry : ∀ {s1 s2 ci ok}, Backend.ensureCtx s a = (s1, ci) → Backend.tryEnq s1 ci st = (s2, ok) →
      s2.cfg.dropping = s.cfg.dropping ∧ injT s2.log = injT s.log ∧ AOK s2 ∧ ci < s2.ths.length ∧ dsum s2 = dsum s ∧
      asum s2 = asum s + (if ok = true ∧ isLogKind st.kind = true then 1 else 0) := by
    intro s1 s2 ci ok hc he
    obtain ⟨e1, e2, e3, e4, e5, e6⟩ := ensureCtx_facts ha hc
    obtain ⟨t1, t2, t3, t4, t5, t6⟩ := tryEnq_facts e6 he
    exact ⟨by rw [t1, e1], by rw [t2, e2], e5.of_eq t3 (Nat.le_of_eq t4.symm), by omega, by rw [t5, e3], by rw [t6, e4]⟩
  have hlk := hw.1.log_iff
  have hnl : ¬(cont = 0 ∨ cont = 5) → isLogKind st.kind = false := by
    intro hc
    cases h : isLogKind st.kind
    · rfl
    · exact absurd (hlk.mp h) hc
  have hs := Backend.enqFlow_shape s a st cont first initial
  generalize Backend.enqFlow s a st cont first initial = r at hs ⊢
  cases hs with
  | @granted _ s2 _ hc he =>
    obtain ⟨hdr, hlg, a2, _, hds, has⟩ := htry hc he
    have a3 : AOK (Backend.setPend s2 a .none) := a2.setMisc a _ (fun _ => rfl) (fun _ _ => trivial)
    by_cases hc : cont = 0 ∨ cont = 5
    · have hk : st.kind = .log := by
        rcases hw.1 with ⟨hk, _⟩ | ⟨rfl, _⟩ | ⟨rfl, _⟩ | ⟨rfl, _⟩ | ⟨rfl, _⟩
        · exact hk
        all_goals (rcases hc with hc | hc <;> cases hc)
      rw [afterEnq_log _ a st cont hk hc]
      refine ⟨hdr, hlg, a3, .acc hds ?_ hc ⟨st, hw.2 hk, rfl⟩⟩
      show asum s2 = asum s + 1
      rw [has, if_pos ⟨rfl, hlk.mpr hc⟩]
    · obtain ⟨q1, q2, q3, q4, q5⟩ := afterEnq_quiet a3 a st cont hw.1 hc
      refine ⟨by rw [q2]; exact hdr, by rw [q3]; exact hlg, q4, .quiet ?_ ?_ q5⟩
      · have : dsum (afterEnq (Backend.setPend s2 a .none) a st cont).1 = dsum s2 := by simp only [dsum, dk, q1]; rfl
        rw [this, hds]
      · have : asum (afterEnq (Backend.setPend s2 a .none) a st cont).1 = asum s2 := by simp only [asum, dk, q1]; rfl
        rw [this, has, hnl hc]
        simp
  | @dropped _ s2 ci hc he _ hk =>
    obtain ⟨hdr, hlg, a2, hci, hds, has⟩ := htry hc he
    -- an ordinary statement: the refusal is counted in `discarded` of its context
    have hb : bumpFail true s2 ci st = s2.setTh ci (fun t =>
        { t with fail := t.fail + 1, discarded := t.discarded + 1, blockedCalls := t.blockedCalls + 0 }) := by
      simp only [bumpFail, hlk.mpr hk, if_true]
    rw [hb]
    have hD : dsum (s2.setTh ci (fun t =>
          { t with fail := t.fail + 1, discarded := t.discarded + 1, blockedCalls := t.blockedCalls + 0 })) = dsum s + 1 := by
      rw [dsum_ths, sum_setTh s2 ci _ (·.discarded) hci 1 rfl, ← dsum_ths, hds]
    have hA : asum (s2.setTh ci (fun t =>
          { t with fail := t.fail + 1, discarded := t.discarded + 1, blockedCalls := t.blockedCalls + 0 })) = asum s := by
      rw [asum_ths, sum_setTh s2 ci _ _ hci 0 rfl, ← asum_ths, has]
      simp
    refine ⟨hdr, hlg, ?_, ?_⟩
    · exact AOK.setMisc (s := s2.setTh ci _) (a2.of_eq rfl (by simp)) a _ (fun _ => rfl) (fun _ _ => trivial)
    · by_cases h0 : cont = 0
      · rw [if_pos h0]
        exact .drop0 hD hA h0 ⟨st.id, rfl⟩
      · rw [if_neg h0]
        exact .drop5 hD hA (hk.resolve_left h0) ⟨st.id, rfl⟩
  | @dropRetry _ s2 ci hc he _ hk =>
    obtain ⟨hdr, hlg, a2, _, hds, has⟩ := htry hc he
    have hb : bumpFail true s2 ci st = s2 := by simp only [bumpFail, hnl hk, Bool.false_eq_true, if_false]
    rw [hb]
    refine ⟨hdr, hlg, a2.setMisc a _ (fun _ => rfl) (fun _ _ => hw), .quiet hds ?_ .sleep⟩
    show asum s2 = asum s
    rw [has]
    simp
  | blocked _ _ hb => rw [hd] at hb; cases hb

theorem Step.recont {c : Nat} {s s' : BSt} {t : String} (h : Step c s s' t) (h0 : c ≠ 0) (h5 : c ≠ 5) {c' : Nat} :
    Step c' s s' t := by
  refine ⟨h.drp, h.log, h.aok, ?_⟩
  cases h.out with
  | quiet a b q => exact .quiet a b q
  | acc _ _ hc _ => rcases hc with hc | hc <;> contradiction
  | drop0 _ _ hc _ => contradiction
  | drop5 _ _ hc _ => contradiction

theorem dk_setTh (s : BSt) (i : Nat) (f : Th → Th)
    (h : ∀ t, (f t).discarded = t.discarded ∧ (f t).accepted = t.accepted) : dk (s.setTh i f) = dk s := by
  simp only [dk, BSt.setTh]
  exact map_updAt s.ths i f _ (fun t => by rw [(h t).1, (h t).2])

theorem Step.noteCall {c : Nat} {s : BSt} {r : BSt × String} (h : Step c s r.1 r.2) (a g : Nat) :
    Step c s (noteCall r a g).1 (noteCall r a g).2 :=
  h.post rfl rfl rfl (h.aok.setMisc a _ (fun _ => rfl) (fun _ hx => hx))

theorem call_step (s : BSt) (a lgi : Nat) (kind : Kind) (lvl len cont : Nat) (dyn : Bool) (id : Nat) (named : Bool)
    (g : Nat) (hd : s.cfg.dropping = true) (ha : AOK s) (hkc : KC kind cont)
    (hsz : kind = .log → 0 < stmtSize s.cfg kind id len dyn (s.lgOf lgi).gid) :
    Step cont s (noteCall (frontCall s a lgi kind lvl len cont dyn id named) a g).1
      (noteCall (frontCall s a lgi kind lvl len cont dyn id named) a g).2 := by
  refine Step.noteCall ?_ a g
  have hs := frontCall_shape s a lgi kind lvl len cont dyn id named
  generalize Backend.frontCall s a lgi kind lvl len cont dyn id named = r at hs ⊢
  cases hs with
  | stalled =>
    refine Step.same rfl rfl rfl (ha.setMisc a _ (fun _ => rfl) (fun _ _ => ⟨hkc, hsz⟩)) ?_
    split
    · exact .idStall id
    · exact .stall
  | enq => exact enqFlow_step s a _ cont true true hd ha ⟨hkc, hsz⟩

/-- the continuation a frontend operation runs with (what its observation reports) -/
def contOf (s : BSt) : FOp → Nat
  | .log _ _ _ _ dyn => if dyn then 0 else 5
  | .resume a =>
    match ((s.actor a).map (·.pend) : Option Pend) with
    | some (Pend.stall _ c) => c
    | some (Pend.retry _ c) => c
    | _ => 1
  | .logNamed .. => 5
  | .logBt .. => 5
  | _ => 1

theorem resume_step {s : BSt} {a : Nat} {r : BSt × String} (hs : ResumeShape s a r) (hd : s.cfg.dropping = true)
    (ha : AOK s) : Step (contOf s (.resume a)) s r.1 r.2 := by
  cases hs with
  | @stall x st c hx hp =>
    have hw := (ha.actor hx).2
    rw [hp] at hw
    simp only [contOf, hx, hp, Option.map_some]
    exact enqFlow_step s a st c true false hd ha hw
  | @retryDrop x st c hx hp =>
    have hw := (ha.actor hx).2
    rw [hp] at hw
    simp only [contOf, hx, hp, Option.map_some]
    exact enqFlow_step s a { st with ts := s.now } c true false hd ha hw
  | retryBlock _ _ hb => rw [hd] at hb; cases hb
  | flagDone => exact Step.same rfl rfl rfl (ha.setMisc a _ (fun _ => rfl) (fun _ _ => True.intro)) .done
  | flagWait => exact Step.same rfl rfl rfl ha .sleep
  | noop => exact Step.same rfl rfl rfl ha .noop

theorem asLog_cont {s : BSt} {f : FOp} {a g lvl len cont : Nat} {dyn named : Bool}
    (hf : f.asLog = some (a, g, lvl, len, cont, dyn, named)) : contOf s f = cont ∧ (cont = 0 ∨ cont = 5) := by
  cases f with
  | log =>
    cases hf
    cases dyn <;> exact ⟨rfl, by decide⟩
  | logNamed | logBt =>
    cases hf
    exact ⟨rfl, .inr rfl⟩
  | _ => cases hf

theorem front_step (s : BSt) (f : FOp) (hd : s.cfg.dropping = true) (ha : AOK s) :
    Step (contOf s f) s (applyFront s f).1 (applyFront s f).2 := by
  have ha' : ∀ s' : BSt, s'.actors = s.actors → s'.ths = s.ths → AOK s' := fun s' h1 h2 => ha.of_eq h1 (Nat.le_of_eq (by rw [h2]))
  have hs := applyFront_shape s f
  generalize applyFront s f = r at hs ⊢
  induction hs with
  | noop f o ho =>
    refine Step.same rfl rfl rfl ha ?_
    rcases ho with rfl | ⟨_, rfl⟩
    · exact .noop
    · exact .query _ _
  | tick | setLevel | setSinkLevel => exact Step.same rfl rfl rfl (ha' _ rfl rfl) .ok
  | remove => exact Step.same rfl rfl rfl (ha' _ rfl rfl) .done
  | createExisting | createNew => exact Step.same rfl rfl rfl (ha' _ rfl rfl) (.created _)
  | tstart a =>
    refine Step.same rfl rfl rfl ?_ .ok
    intro x hx
    rcases List.mem_append.mp hx with hx | hx
    · exact ha x hx
    · simp only [List.mem_singleton] at hx
      subst hx
      exact ⟨fun i hi => (by cases hi), True.intro⟩
  | texitCtx a i =>
    have h1 : AOK (s.setActor a (fun x => { x with alive := false })) := ha.setMisc a _ (fun _ => rfl) (fun _ hx => hx)
    have hdk : dk ({ (s.setActor a (fun x => { x with alive := false })).setTh i (fun t => { t with valid := false }) with
        invalidCnt := counterMod s.cfg (s.invalidCnt + 1) } : BSt) = dk s :=
      dk_setTh (s.setActor a (fun x => { x with alive := false })) i _ (fun _ => ⟨rfl, rfl⟩)
    exact ⟨rfl, rfl, h1.of_eq rfl (by simp [BSt.setTh, updAt_length]),
      .quiet (by simp only [dsum, hdk]) (by simp only [asum, hdk]) .ok⟩
  | texitNoCtx a | armStall a => exact Step.same rfl rfl rfl (ha.setMisc a _ (fun _ => rfl) (fun _ hx => hx)) .ok
  | resume a hr =>
    have h := resume_step hr hd ha
    unfold clearCall
    split
    · exact h
    · split
      · exact h
      · exact h.post rfl rfl rfl (h.aok.setMisc a _ (fun _ => rfl) (fun _ hx => hx))
  | @call _ a g lgi lvl len cont id kind dyn named s1 hf hp =>
    -- the prepared state has the contexts, options and history of `s`
    have h1 := fun hkc hsz => (call_step s1 a lgi kind lvl len cont dyn id named g
      (by rw [hp.proj (·.cfg) (fun _ _ _ _ => rfl)]; exact hd)
      (ha' s1 (hp.proj (·.actors) (fun _ _ _ _ => rfl)) (hp.proj (·.ths) (fun _ _ _ _ => rfl))) hkc hsz).pre
      (hp.proj (·.ths) (fun _ _ _ _ => rfl)) (hp.proj (·.cfg) (fun _ _ _ _ => rfl)) (hp.proj (·.log) (fun _ _ _ _ => rfl))
    cases hf with
    | log hf =>
      obtain ⟨hc, h05⟩ := asLog_cont (s := s) hf
      rw [hc]
      exact h1 (.inl ⟨rfl, h05⟩) (fun _ => stmtSize_log_pos ..)
    | initBt _ _ cap fl =>
      exact (h1 (.inr (.inr (.inl ⟨rfl, cap, fl, rfl⟩))) (fun h => by cases h)).recont (by decide) (by decide)
    | flushBt => exact (h1 (.inr (.inr (.inr (.inl ⟨rfl, rfl⟩)))) (fun h => by cases h)).recont (by decide) (by decide)
    | flush => exact (h1 (.inr (.inl ⟨rfl, _, rfl⟩)) (fun h => by cases h)).recont (by decide) (by decide)
    | removeBlocking =>
      exact (h1 (.inr (.inr (.inr (.inr ⟨rfl, _, rfl⟩)))) (fun h => by cases h)).recont (by decide) (by decide)
  | @logSkip _ a g _ _ _ dyn =>
    refine Step.noteCall (s := s) (r := ({ s with nextId := s.nextId + 1 }, _)) (Step.same rfl rfl rfl (ha' _ rfl rfl) ?_) a g
    cases dyn
    · exact .ev0 s.nextId
    · exact .skip s.nextId
  | dropSink sid => exact .of_vw (vw_reapSinks [sid] (s.setSink sid (fun k => { k with userRef := false }))) ha .ok

end Backend.PC
