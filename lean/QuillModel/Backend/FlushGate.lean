import QuillModel.Backend.EventRel
/-!
The two exact frames of the dispatch side: `SOL` (only sinks and the event lists change; one projection per other field)
and `PB.SLOL` (… and the loggers), as instances of `SinkRel` / `DispRel`. Of the two flush call sites, `preEraseFlush`
(head of `_cleanup_invalidated_loggers`, the F33 repair) is within `SOL`, and `flushGate` (the idle branch of `_poll`,
gated on `sink_min_flush_interval`) is `flushSinks` when the interval is 0.
-/
namespace Backend

def SOL (s s' : BSt) : Prop := ∃ a c d, s' = { s with sinks := a, out := c, log := d }
theorem SOL.refl (s : BSt) : SOL s s := ⟨s.sinks, s.out, s.log, rfl⟩
theorem SOL.trans {a b c : BSt} (h1 : SOL a b) (h2 : SOL b c) : SOL a c := by
  obtain ⟨x1, x3, x4, rfl⟩ := h1
  obtain ⟨y1, y3, y4, rfl⟩ := h2
  exact ⟨y1, y3, y4, rfl⟩
theorem SOL.emit (s : BSt) (e : Ev) : SOL s (s.emit e) := ⟨s.sinks, e :: s.out, e :: s.log, rfl⟩
theorem SOL.setSink (s : BSt) (i : Nat) (f : Sink → Sink) : SOL s (s.setSink i f) := ⟨_, s.out, s.log, rfl⟩

theorem SOL.cfg {s s' : BSt} (h : SOL s s') : s'.cfg = s.cfg := by obtain ⟨_, _, _, rfl⟩ := h; rfl
theorem SOL.now {s s' : BSt} (h : SOL s s') : s'.now = s.now := by obtain ⟨_, _, _, rfl⟩ := h; rfl
theorem SOL.ths {s s' : BSt} (h : SOL s s') : s'.ths = s.ths := by obtain ⟨_, _, _, rfl⟩ := h; rfl
theorem SOL.registry {s s' : BSt} (h : SOL s s') : s'.registry = s.registry := by obtain ⟨_, _, _, rfl⟩ := h; rfl
theorem SOL.cache {s s' : BSt} (h : SOL s s') : s'.cache = s.cache := by obtain ⟨_, _, _, rfl⟩ := h; rfl
theorem SOL.newFlag {s s' : BSt} (h : SOL s s') : s'.newFlag = s.newFlag := by obtain ⟨_, _, _, rfl⟩ := h; rfl
theorem SOL.invalidCnt {s s' : BSt} (h : SOL s s') : s'.invalidCnt = s.invalidCnt := by obtain ⟨_, _, _, rfl⟩ := h; rfl
theorem SOL.lgs {s s' : BSt} (h : SOL s s') : s'.lgs = s.lgs := by obtain ⟨_, _, _, rfl⟩ := h; rfl
theorem SOL.names {s s' : BSt} (h : SOL s s') : s'.names = s.names := by obtain ⟨_, _, _, rfl⟩ := h; rfl
theorem SOL.hasInvalidLoggers {s s' : BSt} (h : SOL s s') : s'.hasInvalidLoggers = s.hasInvalidLoggers := by obtain ⟨_, _, _, rfl⟩ := h; rfl
theorem SOL.actors {s s' : BSt} (h : SOL s s') : s'.actors = s.actors := by obtain ⟨_, _, _, rfl⟩ := h; rfl
theorem SOL.removalFlags {s s' : BSt} (h : SOL s s') : s'.removalFlags = s.removalFlags := by obtain ⟨_, _, _, rfl⟩ := h; rfl
theorem SOL.flags {s s' : BSt} (h : SOL s s') : s'.flags = s.flags := by obtain ⟨_, _, _, rfl⟩ := h; rfl
theorem SOL.nextFlag {s s' : BSt} (h : SOL s s') : s'.nextFlag = s.nextFlag := by obtain ⟨_, _, _, rfl⟩ := h; rfl
theorem SOL.nextId {s s' : BSt} (h : SOL s s') : s'.nextId = s.nextId := by obtain ⟨_, _, _, rfl⟩ := h; rfl
theorem SOL.backendGone {s s' : BSt} (h : SOL s s') : s'.backendGone = s.backendGone := by obtain ⟨_, _, _, rfl⟩ := h; rfl
theorem SOL.siteCnt {s s' : BSt} (h : SOL s s') : s'.siteCnt = s.siteCnt := by obtain ⟨_, _, _, rfl⟩ := h; rfl
theorem SOL.reported {s s' : BSt} (h : SOL s s') : s'.reported = s.reported := by obtain ⟨_, _, _, rfl⟩ := h; rfl
theorem SOL.popLog {s s' : BSt} (h : SOL s s') : s'.popLog = s.popLog := by obtain ⟨_, _, _, rfl⟩ := h; rfl
theorem SOL.flagLog {s s' : BSt} (h : SOL s s') : s'.flagLog = s.flagLog := by obtain ⟨_, _, _, rfl⟩ := h; rfl
theorem SOL.lastFlush {s s' : BSt} (h : SOL s s') : s'.lastFlush = s.lastFlush := by obtain ⟨_, _, _, rfl⟩ := h; rfl
theorem SOL.th {s s' : BSt} (h : SOL s s') (i : Nat) : s'.th i = s.th i := by obtain ⟨_, _, _, rfl⟩ := h; rfl
theorem SOL.lgOf {s s' : BSt} (h : SOL s s') (i : Nat) : s'.lgOf i = s.lgOf i := by obtain ⟨_, _, _, rfl⟩ := h; rfl

theorem sol_sinkRel : SinkRel SOL := .of_setSink SOL.refl SOL.trans SOL.setSink (fun s e _ => SOL.emit s e)

theorem flushSinks_sol (s : BSt) : SOL s (flushSinks s) := sol_sinkRel.flushSinks s

theorem preEraseFlush_sol (s : BSt) : SOL s (preEraseFlush s) := by
  unfold preEraseFlush
  split
  · exact flushSinks_sol s
  · exact SOL.refl s

theorem flushGate_zero (inj : BSt → Nat → BSt) (s : BSt) : flushGate inj s 0 = flushSinks s := by
  unfold flushGate; rw [if_pos rfl]

namespace PB

def SLOL (s s' : BSt) : Prop := ∃ a b c d, s' = { s with sinks := a, lgs := b, out := c, log := d }

theorem SLOL.refl (s : BSt) : SLOL s s := ⟨s.sinks, s.lgs, s.out, s.log, rfl⟩
theorem SLOL.trans {a b c : BSt} (h1 : SLOL a b) (h2 : SLOL b c) : SLOL a c := by
  obtain ⟨x1, x2, x3, x4, rfl⟩ := h1
  obtain ⟨y1, y2, y3, y4, rfl⟩ := h2
  exact ⟨y1, y2, y3, y4, rfl⟩
theorem SLOL.emit (s : BSt) (e : Ev) : SLOL s (s.emit e) := ⟨s.sinks, s.lgs, e :: s.out, e :: s.log, rfl⟩
theorem SLOL.setSink (s : BSt) (i : Nat) (f : Sink → Sink) : SLOL s (s.setSink i f) := ⟨_, s.lgs, s.out, s.log, rfl⟩
theorem SLOL.setLg (s : BSt) (i : Nat) (f : Lg → Lg) : SLOL s (s.setLg i f) := ⟨s.sinks, _, s.out, s.log, rfl⟩

theorem slol_dispRel : DispRel SLOL where
  toSinkRel := .of_setSink SLOL.refl SLOL.trans SLOL.setSink (fun s e _ => SLOL.emit s e)
  setBt s i _ := SLOL.setLg s i _

theorem slol_flushSinks (s : BSt) : SLOL s (flushSinks s) := slol_dispRel.flushSinks s

theorem slol_procSt (s : BSt) (st : Stmt) : SLOL s (procSt s st) := slol_dispRel.procSt s st

end PB

end Backend
