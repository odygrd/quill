import QuillModel.Backend.ReplayStep
/-!
`bwcount log sid id` counts the `write` events of statement `id` at sink `sid`, backtrace level included. The whole-log
bound for level-9 statements is carried by a potential: every popped `Event::Log` statement with id `id` grants
`count sid (sinks of its logger)` writes (`btBound`); a statement sitting in a backtrace ring still owns its grant
(`ringPot`: occurrences of `id` in the ring of logger `j` × multiplicity of `sid` in `j`'s sink list, summed over the
loggers); a replay converts ring occupancy into writes and — with the repaired callback — always clears the ring:

  `bwcount s.log sid id + ringPot s sid id ≤ btBound s sid id`        (`InvRg.bound`)

No uniqueness of ids is needed for the invariant itself; uniqueness is used once, at the end, to bound `btBound`.
This file: the potential, its frame lemmas, and what one repaired replay does to it.
-/
namespace Backend.PA

def sumR (f : Nat → Nat) : Nat → Nat
  | 0 => 0
  | n + 1 => sumR f n + f n

theorem sumR_congr {f g : Nat → Nat} : ∀ (n : Nat), (∀ j, j < n → f j = g j) → sumR f n = sumR g n
  | 0, _ => rfl
  | n + 1, h => by
    simp only [sumR]
    rw [sumR_congr n (fun j hj => h j (by omega)), h n (by omega)]

theorem sumR_split (f : Nat → Nat) (i : Nat) : ∀ (n : Nat), i < n →
    sumR f n = f i + sumR (fun j => if j = i then 0 else f j) n
  | 0, h => by omega
  | n + 1, h => by
    simp only [sumR]
    by_cases hi : i = n
    · subst hi
      have : sumR (fun j => if j = i then 0 else f j) i = sumR f i :=
        sumR_congr i (fun j hj => by simp [show j ≠ i by omega])
      rw [this]
      simp only [if_true]
      omega
    · rw [sumR_split f i n (by omega)]
      simp [show n ≠ i by omega]
      omega

theorem sumR_extend (f : Nat → Nat) (n : Nat) : ∀ (m : Nat), n ≤ m → (∀ j, n ≤ j → j < m → f j = 0) →
    sumR f m = sumR f n
  | 0, h, _ => by
    have : n = 0 := by omega
    subst this
    rfl
  | m + 1, h, hz => by
    by_cases hm : n = m + 1
    · subst hm
      rfl
    · simp only [sumR]
      rw [sumR_extend f n m (by omega) (fun j h1 h2 => hz j h1 (by omega)), hz m (by omega) (by omega)]
      rfl

theorem sumR_update {f g : Nat → Nat} (i n : Nat) (hi : i < n) (h : ∀ j, j < n → j ≠ i → g j = f j) :
    sumR g n + f i = sumR f n + g i := by
  rw [sumR_split f i n hi, sumR_split g i n hi]
  have : sumR (fun j => if j = i then 0 else g j) n = sumR (fun j => if j = i then 0 else f j) n :=
    sumR_congr n (fun j hj => by
      by_cases hji : j = i
      · simp [hji]
      · simp [hji, h j hj hji])
  rw [this]
  omega

def itemsCnt (id : Nat) (items : List Stmt) : Nat := (items.filter (fun x => x.id == id)).length

def lgCnt (id : Nat) (l : Lg) : Nat :=
  match l.bt with
  | none => 0
  | some r => itemsCnt id r.items

def ringPot (s : BSt) (sid id : Nat) : Nat :=
  sumR (fun j => lgCnt id (s.lgOf j) * (s.lgOf j).sinks.count sid) s.lgs.length

def btBound (s : BSt) (sid id : Nat) : Nat :=
  ((s.popLog.filter (logq id)).map (fun st => (s.lgOf st.lg).sinks.count sid)).sum

/-- stored statements sit in the ring of their own logger -/
def RingLg (s : BSt) : Prop := ∀ i r, (s.lgOf i).bt = some r → ∀ x ∈ r.items, x.lg = i

structure InvRg (s : BSt) : Prop where
  rc : s.cfg.replayCatchesPerEvent = true
  ring : RingLg s
  bound : ∀ sid id, bwcount s.log sid id + ringPot s sid id ≤ btBound s sid id

theorem anyWrite_of_not_write {e : Ev} (h : isWriteEv e = false) (sid id : Nat) : anyWrite sid id e = false := by
  cases e <;> simp_all [isWriteEv, anyWrite]

theorem bwcount_nowrite {evs l : List Ev} (h : ∀ e ∈ evs, isWriteEv e = false) (sid id : Nat) :
    bwcount (evs ++ l) sid id = bwcount l sid id := by
  rw [bwcount_eq, bwcount_eq, List.countP_append]
  have : evs.countP (anyWrite sid id) = 0 := by
    rw [List.countP_eq_zero]
    intro e he
    simp [anyWrite_of_not_write (h e he)]
  omega

theorem lgCnt_default (id : Nat) : lgCnt id (default : Lg) = 0 := rfl

theorem ringPot_congr {s s' : BSt} (sid id : Nat) (hlen : s'.lgs.length = s.lgs.length)
    (h : ∀ j, j < s.lgs.length → (s'.lgOf j).bt = (s.lgOf j).bt ∧ (s'.lgOf j).sinks = (s.lgOf j).sinks) :
    ringPot s' sid id = ringPot s sid id := by
  unfold ringPot
  rw [hlen]
  apply sumR_congr
  intro j hj
  simp only [lgCnt, (h j hj).1, (h j hj).2]

/-- a still step adds no `write` and keeps every term of the potential (a new logger has no ring) -/
theorem InvRg.still {s s' : BSt} (h : InvRg s) (q : Still s s') : InvRg s' := by
  refine ⟨by rw [q.cfg]; exact h.rc, RingAll.still h.ring q, fun sid id => ?_⟩
  obtain ⟨evs, he, hn⟩ := q.log
  rw [he, bwcount_nowrite hn]
  have hpot : ringPot s' sid id = ringPot s sid id := by
    unfold ringPot
    rw [sumR_extend _ s.lgs.length s'.lgs.length q.lgsLe (fun j h1 _ => by simp [lgCnt, q.lgsNew j h1])]
    apply sumR_congr
    intro j hj
    simp only [lgCnt, (q.lgsOld j hj).1, (q.lgsOld j hj).2]
  rw [hpot]
  exact Nat.le_trans (h.bound sid id) (grant_mono _ q.popLog q.sinks sid)

theorem replayStep_lgs (s : BSt) (x : Stmt) : (replayStep s x).lgs = s.lgs := by
  unfold replayStep
  split
  · exact writeToSinks_lgs x _ s
  · exact writeToSinks_lgs x _ s

theorem foldl_replayStep_lgs : ∀ (l : List Stmt) (s : BSt), (l.foldl replayStep s).lgs = s.lgs
  | [], _ => rfl
  | x :: xs, s => by rw [List.foldl_cons, foldl_replayStep_lgs xs, replayStep_lgs]

theorem replay_itemsCnt (r : Ring) (id : Nat) : itemsCnt id r.replay = itemsCnt id r.items := by
  simp only [itemsCnt, Ring.replay, List.filter_append, List.length_append]
  rw [Nat.add_comm, ← List.length_append, ← List.filter_append, List.take_append_drop]

theorem replayRing_pot {s : BSt} (hc : s.cfg.replayCatchesPerEvent = true) (hr : RingLg s) (lgi sid id : Nat) :
    bwcount (replayRing s lgi).1.log sid id + ringPot (replayRing s lgi).1 sid id ≤
      bwcount s.log sid id + ringPot s sid id := by
  cases hbt : (s.lgOf lgi).bt with
  | none => simp [replayRing, hbt]
  | some r =>
    rw [C10_replay_is_per_event s lgi r hc hbt]
    have hlt := lgOf_bt_lt hbt
    have hlgs := foldl_replayStep_lgs r.replay s
    have h1 := foldl_replayStep_bwcount lgi sid id r.replay s (fun x hx => hr lgi r hbt x (replay_mem hx))
    have hcnt : (r.replay.filter (fun x => x.id == id)).length = itemsCnt id r.items := replay_itemsCnt r id
    rw [hcnt] at h1
    -- of the state after the fold only the history (`h1`) and the loggers (`hlgs`) are used
    generalize r.replay.foldl replayStep s = S at hlgs h1 ⊢
    show bwcount S.log sid id + ringPot (S.setLg lgi (fun l => { l with bt := some r.cleared })) sid id ≤ _
    -- the potential: index `lgi` drops to 0, everything else is unchanged
    have hpot : ringPot (S.setLg lgi (fun l => { l with bt := some r.cleared })) sid id +
        itemsCnt id r.items * (s.lgOf lgi).sinks.count sid = ringPot s sid id := by
      unfold ringPot
      rw [lgs_length_setLg, hlgs]
      have hu := sumR_update (f := fun j => lgCnt id (s.lgOf j) * (s.lgOf j).sinks.count sid)
        (g := fun j => lgCnt id ((S.setLg lgi (fun l => { l with bt := some r.cleared })).lgOf j) *
          ((S.setLg lgi (fun l => { l with bt := some r.cleared })).lgOf j).sinks.count sid)
        lgi s.lgs.length hlt (fun j _ hji => by
          simp only [lgOf_setLg, hji, false_and, if_false, lgOf_of_lgs hlgs])
      have hg : lgCnt id ((S.setLg lgi (fun l => { l with bt := some r.cleared })).lgOf lgi) = 0 := by
        rw [lgOf_setLg, if_pos ⟨rfl, by rw [hlgs]; exact hlt⟩]
        simp [lgCnt, itemsCnt, Ring.cleared]
      have hf : lgCnt id (s.lgOf lgi) = itemsCnt id r.items := by simp [lgCnt, hbt]
      simp only [hg, hf, Nat.zero_mul, Nat.add_zero] at hu
      omega
    omega

end Backend.PA
