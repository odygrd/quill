import QuillModel.Backend.ResumeProgress
import QuillModel.Backend.ConsProofsFront
/-!
# Every read ends committed: `Pub` holds in every state between two operations of a schedule

`PubOn S s`: every context of the set `S` with nothing left to read has its reader position published (`Pub`, see
`ResumeProgress.lean`). Frontend operations keep it (a refused reservation touches only the producer's cache, a
granted one leaves a record to read, a new context starts published); inside a poll the context that is being read
is exempt between its first `finish_read` and the `commit_read` that ends the read — every exit of `readQueue` ends
with that `commit_read`, and with the drain rule (`qp.drainPublish`) it publishes whenever nothing is left to read.
So for every schedule, with arbitrary frontend operations injected at every hook site: `PubOn S (runOps s0 ops)`
(`pubOn_runOps`) — for all contexts from a start state (`readsCommitted_runOps`), for the context of one caller from a
state in which it is published (`quiet_run_drained`, `drained_state`).
-/
namespace Backend.PB

def PubOn (S : Nat → Prop) (s : BSt) : Prop := ∀ j, S j → Pub (s.th j)

abbrev FP := CtxRel (fun _ _ => True) (fun t t' => Pub t → Pub t')

theorem fpParts : CtxParts (fun _ _ => True) (fun t t' => Pub t → Pub t') :=
  ⟨fun _ => trivial, fun _ _ => trivial, fun _ _ _ => trivial, fun _ h => h, fun h1 h2 h => h2 (h1 h)⟩

variable {S : Nat → Prop}

theorem FP.trans {a b c : BSt} (h1 : FP a b) (h2 : FP b c) : FP a c := CtxRel.trans fpParts h1 h2
theorem FP.on {s s' : BSt} (h : FP s s') (hp : PubOn S s) : PubOn S s' := fun j hj => h.th j (hp j hj)
theorem FP.ofThs {s s' : BSt} (h : s'.ths = s.ths) : FP s s' := .of_ths fpParts h trivial

theorem pub_mkTh (c : Cfg) (a : Nat) : Pub (mkTh c a) := fun _ => rfl

theorem qPrepareWrite_rh (c : Cfg) (q : Spsc.St) (n : Nat) : (qPrepareWrite c q n).1.rHist = q.rHist := by
  obtain ⟨_, _, e⟩ := qPrepareWrite_upd c q n
  rw [e]

theorem pub_misc (t t' : Th) (hq : t'.q = t.q) (hs : t'.qStmts = t.qStmts) : Pub t → Pub t' :=
  ThQ.pub ⟨by rw [hq], by rw [hq], hs⟩

theorem fp_front : FrontRel FP :=
  CtxRel.frontRel fpParts (fun _ _ _ _ => trivial) (fun _ _ => trivial) (fun _ _ hq hs _ _ _ => pub_misc _ _ hq hs)
    (fun _ _ _ => pub_mkTh _ _)
    (fun _ t st _ _ he => by have : t.qStmts ++ [st] = [] := he; simp at this)
    (fun _ _ _ => ThQ.pub ⟨qPrepareWrite_rh _ _ _, (qPrepareWrite_fields _ _ _).2.2.1, rfl⟩)

variable {inj : BSt → Nat → BSt}

theorem fp_back : BackRel FP :=
  CtxRel.backRel fpParts (fun _ => trivial) (fun _ _ hq hs _ _ => pub_misc _ _ hq hs)
    (fun _ _ => ThQ.pub ⟨qEmpty_rh _ _, (qEmpty_fields _ _).2.2.1, rfl⟩) (fun _ _ _ _ => ThQ.pub ⟨rfl, rfl, rfl⟩)

theorem PubOn.setTh {i : Nat} {s : BSt} (h : PubOn (fun j => S j ∧ j ≠ i) s) (f : Th → Th) :
    PubOn (fun j => S j ∧ j ≠ i) (s.setTh i f) :=
  fun j hj => by rw [th_setTh_ne s f hj.2]; exact h j hj
theorem PubOn.ofThs {s s' : BSt} (h : PubOn S s) (e : s'.ths = s.ths) : PubOn S s' := (FP.ofThs e).on h

theorem pubOn_readOne {i : Nat} {s : BSt} (h : PubOn (fun j => S j ∧ j ≠ i) s) (st : Stmt) (rest : List Stmt) :
    PubOn (fun j => S j ∧ j ≠ i) (fmtNote (PC.readOneSt s i st rest) st) := by
  refine PubOn.ofThs ?_ (fmtNote_ths _ st)
  obtain ⟨rf, e⟩ := readOneSt_eq s i st rest
  rw [e]
  exact (h.ofThs (s' := { s with removalFlags := rf }) rfl).setTh _

variable {c : Cfg} {fl : Nat} {C : List Nat}

theorem pubOn_readQueue (hi : InjOK inj) (hp : ∀ s k, FP s (inj s k)) (hdp : c.qp.drainPublish = true) (tsNow : Option Nat)
    (htn : c.grace ≠ 0 → c.refreshAfterSample = true → tsNow = some fl) (i : Nat) (hc : i ∈ C) (fuel : Nat)
    (T : Nat → Prop) (total : Nat) (s : BSt) (h : PI c none fl T C s) (hx : PubOn (fun j => S j ∧ j ≠ i) s)
    (h0 : total = 0 → S i → Pub (s.th i)) : PubOn S (Backend.readQueue inj tsNow i fuel total s) := by
  obtain ⟨⟨_, a⟩, b⟩ := pub_readQueue (inj := inj) (tsNow := tsNow) (i := i)
    (fun x => PI c none fl T C x ∧ PubOn (fun j => S j ∧ j ≠ i) x) (S i)
    (fun x h => ⟨h.1.qc i, by rw [h.1.cfgEq]; exact hdp⟩)
    (fun x h => ⟨h.1.same (same_readPrep x i), h.2.setTh _⟩) (fun x h => ⟨h.1.same (same_commit x i), h.2.setTh _⟩)
    (fun x st rest h hrd hq hel => by
      have hst : c.grace ≠ 0 → c.refreshAfterSample = true → st.ts ≤ fl := by
        intro hg0 hr0; rw [htn hg0 hr0] at hel; simpa [tsStop] using hel
      exact ⟨hi _ _ _ _ _ 3 ((h.1.readOne i hc st rest hq hst hrd).weakenT (T' := T) (fun _ hj => hj.1)),
        (hp _ 3).on (pubOn_readOne h.2 st rest)⟩)
    fuel total s ⟨h, hx⟩ h0
  intro j hj
  by_cases hji : j = i
  · rw [hji]; exact b (hji ▸ hj)
  · exact a j ⟨hj, hji⟩

variable {s : BSt}

/-- the read pass: the ordering invariant through its phases (`PIr`) beside "the contexts of `S` are published" -/
theorem pubOn_populate (hi : InjOK inj) (hp : ∀ s k, FP s (inj s k)) (hdp : c.qp.drainPublish = true)
    (h : PIo c fl s) (ha : PubOn S s) : PubOn S (Backend.populate inj s).1 :=
  (populate_rule (inj := inj) (fun x => (∃ fl, PIo c fl x) ∧ PubOn S x) (fun t l x => PIr c t l x ∧ PubOn S x)
    (fun x h => ⟨h.1.imp fun _ hx => hx.refresh, (fp_back.refresh x).on h.2⟩)
    (fun x h => ⟨h.1.imp fun _ hx => hi.pio hx 7, (hp x 7).on h.2⟩)
    (fun x ⟨⟨_, hx⟩, ha⟩ => ⟨PIr.enter hi hx, (enterSt_pres (FP x) inj (fun y h => h.trans (fp_back.refresh y)) (fun y k h => h.trans (hp y k)) x (fp_back.refl x)).on ha⟩)
    (fun _ _ x h => ⟨h.1.site hi 2, (hp x 2).on h.2⟩)
    (fun t i l fuel x h => ⟨h.1.read hi fuel, by
      obtain ⟨⟨fl', h1, h2, h3⟩, ha⟩ := h
      exact pubOn_readQueue hi hp hdp t h1 i (h2 i List.mem_cons_self) _ _ 0 x h3 (fun j hj => ha j hj.1) (fun _ hx => ha i hx)⟩)
    s ⟨⟨fl, h⟩, ha⟩).elim fun _ h => h.2

theorem pubOn_passRules (hi : InjOK inj) (hp : ∀ s k, FP s (inj s k)) (hdp : c.qp.drainPublish = true) :
    PassRules inj (fun x => (∃ fl, PIo c fl x) ∧ PubOn S x) (fun x => (∃ fl, PIf c fl x) ∧ PubOn S x)
      (fun x => (∃ fl, PIo c fl x) ∧ PubOn S x) :=
  fp_back.passRulesOn hp FP.on (PIo.passRules hi) (fun _ ⟨_, h⟩ ha => pubOn_populate hi hp hdp h ha)
    (fun _ _ => FP.ofThs rfl)

theorem pubOn_runOps {s : BSt} (h : GI s) (hdp : s.cfg.qp.drainPublish = true) (ha : PubOn S s) (ops : List Op) :
    PubOn S (runOps s ops) :=
  (PassRules.runOps (fun table => pubOn_passRules (S := S) (injOK_runInj table) (fp_front.runInj table) hdp)
    (fun x f ⟨⟨fl, hx⟩, ha⟩ => ⟨⟨fl, (PI.applyFront hx f).toPIo⟩, (fp_front.applyFront x f).on ha⟩)
    (fun _ ⟨⟨fl, hx⟩, ha⟩ => ⟨⟨fl, hx.frame rfl⟩, ha.ofThs rfl⟩)
    (fun _ ⟨⟨fl, hx⟩, ha⟩ => ⟨⟨fl, hx.frame rfl⟩, ha.ofThs rfl⟩) ops s ⟨h, ha⟩).2

/-- the hypothesis `ReadsCommitted` of the progress theorems holds in every reachable state -/
theorem readsCommitted_runOps {s0 : BSt} (h0 : Start s0) (hdp : s0.cfg.qp.drainPublish = true) (ops : List Op) (i : Nat) :
    ReadsCommitted (runOps s0 ops) i :=
  pubOn_runOps (S := fun _ => True) (start_GI h0) hdp
    (fun j _ => by rw [th_default_of_ge s0 j (by rw [h0.ths]; exact Nat.zero_le _)]; exact pub_default) ops i trivial

end Backend.PB

namespace Backend
namespace PB

theorem quiet_run_drained {s : BSt} (h : PG s) (ops : List Op) (hq : ∀ o ∈ ops, quietOp o = true)
    (hn : pendingCount s ≤ pollCount ops) (ci : Nat) (hlt : ci < s.ths.length)
    (hdp : s.cfg.qp.drainPublish = true) (hp : Pub (s.th ci)) :
    PG (runOps s ops) ∧ (runOps s ops).actors = s.actors ∧ (∀ j, chain ((runOps s ops).th j) = []) ∧
    Pub ((runOps s ops).th ci) :=
  ⟨(quiet_run ops s h hq).1, (quiet_run ops s h hq).2.1.glob.actors, quiet_run_empty h ops hq hn, pubOn_runOps (S := (· = ci)) h.gi hdp (fun _ e => e ▸ hp) ops ci rfl⟩

theorem drained_state {s : BSt} (hgi : GI s) (hfi : FI none [] s) (hrun : s.backendGone = false) (dt : Nat)
    (hdt : s.cfg.grace ≤ dt) (ops : List Op) (hq : ∀ o ∈ ops, quietOp o = true) (hn : pendingCount s ≤ pollCount ops)
    (hdp : s.cfg.qp.drainPublish = true) (a : Nat) (x : Actor) (hx : s.actor a = some x)
    (hcom : ∀ i, x.ctx = some i → Pub (s.th i)) :
    PG (runOps s (.front (.tick dt) :: ops)) ∧ (runOps s (.front (.tick dt) :: ops)).actor a = some x ∧
    (runOps s (.front (.tick dt) :: ops)).cfg = s.cfg ∧
    (∀ j, chain ((runOps s (.front (.tick dt) :: ops)).th j) = []) ∧
    ∀ i, x.ctx = some i → ((runOps s (.front (.tick dt) :: ops)).th i).qStmts = [] ∧
      Pub ((runOps s (.front (.tick dt) :: ops)).th i) := by
  have hpg := PG.after_tick hgi hfi hrun dt hdt
  rw [runOps_cons]
  obtain ⟨b1, b2, _⟩ := quiet_run ops _ hpg hq
  obtain ⟨fl, hI⟩ := hgi
  have hall := quiet_run_empty hpg ops hq hn
  have hact : (runOps (applyOp s (.front (.tick dt))).1 ops).actors = s.actors := b2.glob.actors
  refine ⟨b1, ?_, b2.glob.cfg, hall, fun i hc => ?_⟩
  · simp only [BSt.actor, hact]; exact hx
  · exact ⟨(List.append_eq_nil_iff.mp (hall i)).2, pubOn_runOps (S := fun j => x.ctx = some j) hpg.gi hdp hcom ops i hc⟩

/-- `flush_log()` of a caller parked on the retry of its refused request returns. State-level form: from `s`
    (reachable: `GI`, `FI`), backend running, drain rule; continuation = (clock past grace, quiet polls ≥ pending),
    `resume a`, (clock past grace, at least one quiet poll); then the flag is raised and the next `resume a` answers
    "done". -/
theorem flush_retry_returns {s : BSt} (hgi : GI s) (hfi : FI none [] s) (hrun : s.backendGone = false)
    (hdp : s.cfg.qp.drainPublish = true) (a : Nat) (x : Actor) (st : Stmt) (f : Nat) (hx : s.actor a = some x)
    (hp : x.pend = .retry st 1) (hk : st.kind = .flush f) (hsz : st.size ≤ s.cfg.qcap)
    (hcom : ∀ i, x.ctx = some i → Pub (s.th i))
    (dt1 : Nat) (hdt1 : s.cfg.grace ≤ dt1) (q1 : List Op) (hq1 : ∀ o ∈ q1, quietOp o = true)
    (hn1 : pendingCount s ≤ pollCount q1)
    (dt2 : Nat) (hdt2 : s.cfg.grace ≤ dt2) (q2 : List Op) (hq2 : ∀ o ∈ q2, quietOp o = true) (hn2 : 1 ≤ pollCount q2) :
    pendOf (applyOp (runOps s (.front (.tick dt1) :: q1)) (.front (.resume a))).1 a = some (.flag f) ∧
    f ∈ (runOps (applyOp (runOps s (.front (.tick dt1) :: q1)) (.front (.resume a))).1 (.front (.tick dt2) :: q2)).flags ∧
    (applyOp (runOps (applyOp (runOps s (.front (.tick dt1) :: q1)) (.front (.resume a))).1 (.front (.tick dt2) :: q2))
      (.front (.resume a))).2 = "done" := by
  obtain ⟨hpgA, hxA, hcfgA, hall, hd⟩ := drained_state hgi hfi hrun dt1 hdt1 q1 hq1 hn1 hdp a x hx hcom
  generalize runOps s (.front (.tick dt1) :: q1) = sA at hpgA hxA hcfgA hall hd ⊢
  obtain ⟨fl, hI⟩ := hpgA.gi
  obtain ⟨st', first, k1, k2, hres⟩ := resume_retry sA a x st 1 hxA hp
  have hok := grant_of_drained hI a x hxA st' (by rw [k2, hcfgA]; exact hsz) hd
  have hk' : st'.kind = .flush f := k1.trans hk
  have hout := (flush_enq_outcome sA a st' f first false x hxA hk').1 hok
  have hlt : (Backend.ensureCtx sA a).2 < (Backend.ensureCtx sA a).1.ths.length := by
    obtain ⟨h1, _, _, x', hx', hc', _⟩ := hI.ensureCtx a x hxA
    exact h1.ctxLt a x' _ hx' hc'
  obtain ⟨g1, g2, i, g3⟩ := enqFlow_granted_state sA a st' 1 first false hall hlt hok
  rw [← hres] at hout g1 g2 g3
  have hgiB := hpgA.gi.applyOp (.front (.resume a))
  have hfiB := hpgA.fi.applyOp (.front (.resume a))
  have hcfgB : (applyOp sA (.front (.resume a))).1.cfg = sA.cfg := applyOp_cfg _ _
  have hB : pendOf (applyOp sA (.front (.resume a))).1 a = some (.flag f) ∧
      pendingCount (applyOp sA (.front (.resume a))).1 ≤ 1 ∧
      (applyOp sA (.front (.resume a))).1.backendGone = false ∧
      { st' with enqAt := sA.now } ∈ ((applyOp sA (.front (.resume a))).1.th i).accepted := by
    show pendOf (applyFront sA (.resume a)).1 a = _ ∧ pendingCount (applyFront sA (.resume a)).1 ≤ 1 ∧
      (applyFront sA (.resume a)).1.backendGone = false ∧ _ ∈ ((applyFront sA (.resume a)).1.th i).accepted
    rcases (applyFront_resume sA a).2 with e | e
    · rw [e]; exact ⟨hout, g1, by rw [g2]; exact hpgA.run, g3⟩
    · rw [e]
      refine ⟨?_, g1, by show (Backend.resume sA a).1.backendGone = false; rw [g2]; exact hpgA.run, g3⟩
      exact (pendOf_setActor_keep (Backend.resume sA a).1 a (fun x => { x with inCall := none }) (fun _ => rfl) (fun _ => rfl)
        (fun _ => rfl) a).trans hout
  generalize (applyOp sA (.front (.resume a))).1 = sB at hgiB hfiB hcfgB hB ⊢
  obtain ⟨b1, b2, b3, b4⟩ := hB
  refine ⟨b1, ?_⟩
  have hpgB := PG.after_tick hgiB hfiB b3 dt2 (by rw [hcfgB, hcfgA]; exact hdt2)
  rw [runOps_cons]
  have hn : pendingCount (applyOp sB (.front (.tick dt2))).1 ≤ pollCount q2 := Nat.le_trans b2 hn2
  have hf := quiet_run_drains hpgB q2 hq2 hn i { st' with enqAt := sA.now } f b4 hk'
  refine ⟨hf, ?_⟩
  obtain ⟨xB, hxB, hpB⟩ := pendOf_some b1
  have hact : (runOps (applyOp sB (.front (.tick dt2))).1 q2).actors = sB.actors := (quiet_run q2 _ hpgB hq2).2.1.glob.actors
  have hxC : (runOps (applyOp sB (.front (.tick dt2))).1 q2).actor a = some xB := by
    simp only [BSt.actor, hact]; exact hxB
  show (applyFront _ (.resume a)).2 = "done"
  rw [(applyFront_resume _ a).1]
  exact ((resume_flag _ a xB f hxC hpB).1 hf).2

end PB
end Backend
