import QuillModel.Backend.UPubInv
/-!
The failure counter of a context with an unbounded queue type is never read, reset or reported by the backend
(`_check_failure_counter` handles bounded queue types only): along every operation list of the U machine it equals the
number of ordinary log calls ever refused at the maximum capacity (`discarded` on a dropping build, `blockedCalls` on a
blocking one).
-/
namespace Backend.US
open Backend.UQ

def Ctr (_ : Nat) (t : Th) : Prop := t.fail = t.discarded + t.blockedCalls

theorem uPrepareRead_ctr (c : Cfg) (t : Th) :
    (uPrepareRead c t).1.fail = t.fail ∧ (uPrepareRead c t).1.discarded = t.discarded ∧
    (uPrepareRead c t).1.blockedCalls = t.blockedCalls := by
  unfold uPrepareRead
  dsimp only
  split
  · exact ⟨rfl, rfl, rfl⟩
  · split
    · exact ⟨rfl, rfl, rfl⟩
    · split <;> exact ⟨rfl, rfl, rfl⟩

theorem uRead_ctr (c : Cfg) (follow : Bool) (fuel : Nat) (t : Th) :
    (uRead c follow fuel t).1.fail = t.fail ∧ (uRead c follow fuel t).1.discarded = t.discarded ∧
    (uRead c follow fuel t).1.blockedCalls = t.blockedCalls :=
  (uRead_rel (I := fun _ => True)
    (R := fun t t' => t'.fail = t.fail ∧ t'.discarded = t.discarded ∧ t'.blockedCalls = t.blockedCalls) c follow
    (fun _ => ⟨rfl, rfl, rfl⟩) (fun h1 h2 => ⟨h2.1.trans h1.1, h2.2.1.trans h1.2.1, h2.2.2.trans h1.2.2⟩)
    (fun t _ => ⟨trivial, uPrepareRead_ctr c t⟩) fuel t trivial).2

theorem ctr_of {t t' : Th} (h : Ctr 0 t) (h1 : t'.fail = t.fail) (h2 : t'.discarded = t.discarded)
    (h3 : t'.blockedCalls = t.blockedCalls) : Ctr 0 t' := by
  unfold Ctr at *
  rw [h1, h2, h3]
  exact h

theorem ctr_closed (u : UP) : TClosed u Ctr where
  dflt := fun _ => rfl
  fresh := fun _ _ _ => rfl
  prepW := fun _ c t n _ h => by
    obtain ⟨q, more, e⟩ := uPrepareWrite_chain c u.qmax t n
    rw [e]
    exact h
  enq := fun _ c t st _ _ h => by
    obtain ⟨q, more, e⟩ := uPrepareWrite_chain c u.qmax t st.size
    rw [e]
    exact h
  shrink := fun _ c t w _ h => by
    unfold uShrink
    split
    · exact h
    · exact h
  bump := fun _ t d1 d2 hd h => by
    unfold Ctr at *
    show t.fail + 1 = t.discarded + d1 + (t.blockedCalls + d2)
    omega
  inval := fun _ _ h => h

variable {u : UP} {c : Cfg}

theorem ctr_readT {s : BSt} (h : GI Ctr c s) (u : UP) (i : Nat) :
    GI Ctr c (s.setTh i (fun t => (uRead s.cfg u.follow (t.more.length + 1) t).1)) :=
  h.setTh i _ (fun ht => (uRead_spec s.cfg u.follow _ _ ht (by omega)).ti ht)
    (fun _ hT => by
      obtain ⟨a, b, d⟩ := uRead_ctr s.cfg u.follow ((s.th i).more.length + 1) (s.th i)
      exact ctr_of hT a b d)

theorem ctr_closedR (u : UP) (c : Cfg) : ClosedR u (GI Ctr c) where
  aux := fun _ _ h h1 h2 h3 => h.aux h1 h2 h3
  readT := fun _ i h => ctr_readT h u i
  commitT := fun s i h => h.setTh i _ (fun ht => ht.commitRead s.cfg) (fun _ hT => hT)
  readStep := fun _ i st rest h hq ho =>
    h.readStep u i st rest (ctr_readT h u i) hq ho (fun _ _ hT => ctr_of hT rfl rfl rfl)

theorem ctr_closedU (u : UP) (c : Cfg) : ClosedU u (GI Ctr c) where
  aux := fun _ _ h h1 h2 h3 => h.aux h1 h2 h3
  emptyT := fun s i h => h.setTh i _ (fun ht => ht.emptyTest s.cfg) (fun _ hT => hT)
  dropT := fun _ i h => h.setTh i _ (fun ht => ht.same rfl rfl rfl rfl rfl rfl) (fun _ hT => hT)
  popT := fun _ i st rest h hb => h.setTh i _ (fun ht => ht.pop st rest hb) (fun _ hT => hT)
  front := fun _ f h => h.frontU (ctr_closed u) f
  readQ := fun table tsNow i qcap0 fuel s h =>
    readQ_of_steps (ctr_closedR u c) (runInjU u table) (fun s k hs => GI.runInjU (ctr_closed u) table s k hs)
      tsNow i qcap0 fuel 0 s h

end Backend.US
