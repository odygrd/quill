import QuillModel.Backend.ConsProofsSkel
/-!
What processing one transit event (`processEvent`: dispatch to the sinks, backtrace ring, flush) does to the
rest of the state: nothing but the sinks' call counters, the loggers' backtrace rings and the event log. With it the
two steps of the backend that move a record (`readOne`, `popStep`) are written as one update of a context after such a
change (`readOne_eq`, `popStep_frame`, `popStep_eq`).
-/
namespace Backend.PA

/-- like `Frame`, but `write` events may be emitted and backtrace rings may change -/
structure Core (s s' : BSt) : Prop where
  cfg : s'.cfg = s.cfg
  ths : s'.ths = s.ths
  actors : s'.actors = s.actors
  registry : s'.registry = s.registry
  cache : s'.cache = s.cache
  newFlag : s'.newFlag = s.newFlag
  nextId : s'.nextId = s.nextId
  popLog : s'.popLog = s.popLog
  reported : s'.reported = s.reported
  names : s'.names = s.names
  lgsLen : s'.lgs.length = s.lgs.length
  lgs : ∀ i, (s'.lgOf i).gid = (s.lgOf i).gid ∧ (s'.lgOf i).sinks = (s.lgOf i).sinks
  sinks : ∀ sid, SinkSame (s.sinkOf sid) (s'.sinkOf sid)
  flags : ∀ f ∈ s.flags, f ∈ s'.flags
  log : ∃ evs, s'.log = evs ++ s.log

theorem Frame.core {s s' : BSt} (h : Frame s s') : Core s s' :=
  ⟨h.cfg, h.ths, h.actors, h.registry, h.cache, h.newFlag, h.nextId, h.popLog, h.reported, h.names, h.lgsLen,
   fun i => ⟨(h.lgs i).1, (h.lgs i).2.1⟩, h.sinks, h.flags, by obtain ⟨e, he, _⟩ := h.log; exact ⟨e, he⟩⟩

theorem Core.refl (s : BSt) : Core s s := (Frame.refl s).core

theorem Core.trans {a b c : BSt} (h1 : Core a b) (h2 : Core b c) : Core a c := by
  obtain ⟨e1, he1⟩ := h1.log
  obtain ⟨e2, he2⟩ := h2.log
  exact ⟨h2.cfg.trans h1.cfg, h2.ths.trans h1.ths, h2.actors.trans h1.actors, h2.registry.trans h1.registry,
    h2.cache.trans h1.cache, h2.newFlag.trans h1.newFlag, h2.nextId.trans h1.nextId, h2.popLog.trans h1.popLog,
    h2.reported.trans h1.reported, h2.names.trans h1.names, h2.lgsLen.trans h1.lgsLen,
    fun i => ⟨(h2.lgs i).1.trans (h1.lgs i).1, (h2.lgs i).2.trans (h1.lgs i).2⟩,
    fun sid => (h1.sinks sid).trans (h2.sinks sid), fun f hf => h2.flags f (h1.flags f hf),
    ⟨e2 ++ e1, by rw [he2, he1, List.append_assoc]⟩⟩

theorem Core.emit (s : BSt) (e : Ev) : Core s (s.emit e) :=
  ⟨rfl, rfl, rfl, rfl, rfl, rfl, rfl, rfl, rfl, rfl, rfl, fun _ => ⟨rfl, rfl⟩, fun _ => SinkSame.refl _,
   fun _ h => h, ⟨[e], rfl⟩⟩

theorem Core.setLg (s : BSt) (i : Nat) (f : Lg → Lg) (hf : ∀ l, (f l).gid = l.gid ∧ (f l).sinks = l.sinks) :
    Core s (s.setLg i f) :=
  ⟨rfl, rfl, rfl, rfl, rfl, rfl, rfl, rfl, rfl, rfl, by simp,
   fun j => by
     rw [lgOf_setLg]
     split
     · exact hf _
     · exact ⟨rfl, rfl⟩,
   fun _ => SinkSame.refl _, fun _ h => h, ⟨[], rfl⟩⟩

theorem core_dispRel : DispRel Core :=
  ⟨⟨Core.refl, Core.trans,
    fun s sid => (Frame.setSinkCopy s sid { s.sinkOf sid with wcalls := (s.sinkOf sid).wcalls + 1 } ⟨rfl, rfl, rfl, rfl, rfl, rfl⟩).core,
    fun s sid => (Frame.setSinkCopy s sid { s.sinkOf sid with fcalls := (s.sinkOf sid).fcalls + 1 } ⟨rfl, rfl, rfl, rfl, rfl, rfl⟩).core,
    fun s e _ => Core.emit s e⟩,
   fun s i _ => Core.setLg s i _ (fun _ => ⟨rfl, rfl⟩)⟩

theorem dispatch_core (s : BSt) (st : Stmt) : Core s (dispatch s st).1 := core_dispRel.dispatch s st

theorem processEvent_core (s : BSt) (st : Stmt) : Core s (processEvent s st).1 := core_dispRel.processEvent s st

/-- the `Frame` step is the noting of a removal flag; stated once so that no invariant has to unfold `readOne` -/
theorem readOne_eq (s : BSt) (i : Nat) (st : Stmt) (rest : List Stmt) :
    ∃ s0, Frame s s0 ∧ readOne s i st rest =
      s0.setTh i (fun t => { t with q := qFinishRead s.cfg (qPrepareRead s.cfg (s.th i).q).1 st.size,
                                    qStmts := rest, buf := t.buf ++ [st] }) := by
  obtain ⟨rf, e⟩ := readOneSt_eq s i st rest
  exact ⟨_, Frame.of_misc rfl, e⟩

/-- the `Frame` step is the one `notify` event that reports an escaped exception -/
theorem popStep_frame (s : BSt) (i : Nat) (st : Stmt) (rest : List Stmt) :
    ∃ s2, Frame (processEvent s st).1 s2 ∧ popStep s i st rest =
      ({ s2 with popLog := st :: s2.popLog } : BSt).setTh i (fun t => { t with buf := rest, popped := t.popped ++ [st] }) := by
  unfold popStep
  dsimp only
  generalize Backend.processEvent s st = r
  split
  · exact ⟨_, Frame.emit _ _ rfl, rfl⟩
  · exact ⟨_, Frame.refl _, rfl⟩

theorem popStep_eq (s : BSt) (i : Nat) (st : Stmt) (rest : List Stmt) :
    ∃ s2, Core s s2 ∧ popStep s i st rest =
      ({ s2 with popLog := st :: s2.popLog } : BSt).setTh i (fun t => { t with buf := rest, popped := t.popped ++ [st] }) :=
  ⟨procSt s st, core_dispRel.procSt s st, rfl⟩

theorem popStep_popLog (s : BSt) (i : Nat) (st : Stmt) (rest : List Stmt) :
    (popStep s i st rest).popLog = st :: s.popLog := by
  obtain ⟨s2, c, e⟩ := popStep_eq s i st rest
  rw [e]
  exact congrArg (st :: ·) c.popLog

end Backend.PA
