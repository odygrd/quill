import QuillModel.Backend.QLink
import QuillModel.Backend.Basics
/-!
# The ordering invariant of the backend model (C05; reused by C06)

`PI c ex fl T C s`:
* `fl` — the cut-off (`ts_now`) sampled by the current / most recent pass of the backend;
* `T`  — the contexts the current pass has not yet read (`fun _ => True` outside a pass);
* `C`  — the context cache (`s.cache = C`; frontend operations never touch it);
* `ex` — an actor whose parked statement is momentarily exempt from the `pend` clause (inside `enqFlow`).

The ordering clauses (`Ord`) hold in the configuration C05 speaks about (`grace ≠ 0`, `refreshAfterSample`) and under
its premise `PremI` (every accepted record was committed within the grace period of its timestamp); the structural
clauses hold unconditionally.
-/
namespace Backend.PB

theorem th_setTh_or (s : BSt) (i : Nat) (f : Th → Th) (j : Nat) :
    (s.setTh i f).th j = s.th j ∨ (j = i ∧ (s.setTh i f).th j = f (s.th i)) := by
  rcases th_setTh_cases s i j f with h | ⟨h1, _, h2⟩
  · exact .inl h
  · exact .inr ⟨h1, h2⟩

theorem actor_spec {s : BSt} {a : Nat} {x : Actor} (h : s.actor a = some x) : x.id = a ∧ x.alive = true := by
  have := List.find?_some h
  simpa using this

def chain (t : Th) : List Stmt := t.buf ++ t.qStmts

/-- coupling of the byte-level queue with the abstract record list -/
structure QC (t : Th) : Prop where
  wpos : t.q.wpos = t.q.wHist.headD 0
  sum : t.q.wHist.headD 0 = t.q.rpos + (t.qStmts.map (·.size)).sum
  pos : ∀ st ∈ t.qStmts, 0 < st.size
  /-- the reader's cached writer position is a record boundary ahead of (or at) the reader position -/
  wc : ∃ k, k ≤ t.qStmts.length ∧ t.q.wcache = t.q.rpos + ((t.qStmts.take k).map (·.size)).sum

/-- the premise of C05, per context index -/
def PremI (s : BSt) : Prop := ∀ i, ∀ st ∈ (s.th i).accepted, st.enqAt ≤ st.ts + s.cfg.grace

def isPendOf (p : Pend) (st : Stmt) : Prop := ∃ cont, p = .stall st cont ∨ p = .retry st cont

structure Ord (fl : Nat) (T : Nat → Prop) (s : BSt) : Prop where
  popSorted : s.popLog.Pairwise (fun a b => b.ts ≤ a.ts)
  above : ∀ p ∈ s.popLog, ∀ i ∈ s.registry, ∀ st ∈ chain (s.th i), p.ts ≤ st.ts
  popFloor : ∀ p ∈ s.popLog, p.ts ≤ fl
  bufFloor : ∀ i, ∀ st ∈ (s.th i).buf, st.ts ≤ fl
  late : ∀ i ∈ s.registry, ¬ T i → (s.th i).buf = [] → ∀ st ∈ (s.th i).qStmts, fl ≤ st.ts

structure PI (c : Cfg) (ex : Option Nat) (fl : Nat) (T : Nat → Prop) (C : List Nat) (s : BSt) : Prop where
  cfgEq : s.cfg = c
  hdr : 0 < s.cfg.hdr
  floorNow : fl ≤ s.now - s.cfg.grace
  cacheEq : s.cache = C
  sorted : ∀ i, (chain (s.th i)).Pairwise (fun a b => a.ts ≤ b.ts)
  leNow : ∀ i, ∀ st ∈ chain (s.th i), st.ts ≤ s.now
  qc : ∀ i, QC (s.th i)
  reg : ∀ i, chain (s.th i) ≠ [] → i ∈ s.registry
  bufCache : ∀ i ∈ s.registry, (s.th i).buf ≠ [] → i ∈ s.cache
  cacheReg : ∀ i ∈ s.cache, i ∈ s.registry
  fresh : s.newFlag = false → ∀ i ∈ s.registry, i ∈ s.cache
  ctxLt : ∀ a x i, s.actor a = some x → x.ctx = some i → i < s.ths.length
  ctxReg : ∀ a x i, s.actor a = some x → x.ctx = some i → i ∈ s.registry ∧ (s.th i).valid = true
  ctxInj : ∀ a b x y i, s.actor a = some x → s.actor b = some y → x.ctx = some i → y.ctx = some i → a = b
  pend : ∀ a x st, s.actor a = some x → some a ≠ ex → isPendOf x.pend st →
           st.ts ≤ s.now ∧ 0 < st.size ∧ ∀ i, x.ctx = some i → ∀ r ∈ chain (s.th i), r.ts ≤ st.ts
  capOK : ∀ i, i < s.ths.length → (s.th i).q.cap = s.cfg.qcap
  ord : c.grace ≠ 0 → c.refreshAfterSample = true → PremI s → Ord fl T s

theorem Ord.congr {fl T} {s s' : BSt} (o : Ord fl T s) (hpop : s'.popLog = s.popLog) (hreg : s'.registry = s.registry)
    (hbuf : ∀ i, (s'.th i).buf = (s.th i).buf) (hq : ∀ i, (s'.th i).qStmts = (s.th i).qStmts) : Ord fl T s' := by
  have hch : ∀ i, chain (s'.th i) = chain (s.th i) := fun i => by rw [chain, chain, hbuf, hq]
  exact {
    popSorted := by rw [hpop]; exact o.popSorted
    above := by rw [hpop, hreg]; intro p hp i hi; rw [hch]; exact o.above p hp i hi
    popFloor := by rw [hpop]; exact o.popFloor
    bufFloor := by intro i; rw [hbuf]; exact o.bufFloor i
    late := by rw [hreg]; intro i; rw [hbuf, hq]; exact o.late i }

/-- what the invariant sees of a context -/
structure ThEq (t t' : Th) : Prop where
  buf : t'.buf = t.buf
  q : t'.qStmts = t.qStmts
  acc : t'.accepted = t.accepted
  wpos : t'.q.wpos = t.q.wpos
  wh : t'.q.wHist.headD 0 = t.q.wHist.headD 0
  rpos : t'.q.rpos = t.q.rpos
  valid : t'.valid = t.valid
  wc : t'.q.wcache = t.q.wcache ∨ t'.q.wcache = t'.q.wHist.headD 0
  cap : t'.q.cap = t.q.cap

theorem ThEq.refl (t : Th) : ThEq t t := ⟨rfl, rfl, rfl, rfl, rfl, rfl, rfl, .inl rfl, rfl⟩

theorem ThEq.chain {t t' : Th} (h : ThEq t t') : chain t' = chain t := by
  simp only [PB.chain, h.buf, h.q]

theorem QC.qlink {t : Th} (h : QC t) : QLink t.q t.qStmts := ⟨h.wpos.symm, h.wpos.trans h.sum, h.pos⟩

theorem QC.qcache {t : Th} (h : QC t) : QCache t.q t.qStmts := by
  obtain ⟨k, _, hw⟩ := h.wc
  exact ⟨t.qStmts.take k, t.qStmts.drop k, (List.take_append_drop k _).symm, hw⟩

theorem QC.of_qlink {t : Th} (h : QLink t.q t.qStmts) (hc : QCache t.q t.qStmts) : QC t := by
  obtain ⟨pre, suf, e, hw⟩ := hc
  refine ⟨h.pub.symm, h.pub.trans h.dist, h.pos, pre.length, by rw [e, List.length_append]; omega, ?_⟩
  rw [e, List.take_left]; exact hw

theorem ThEq.qc {t t' : Th} (h : ThEq t t') (hq : QC t) : QC t' := by
  have hl : QLink t'.q t'.qStmts := h.q ▸ hq.qlink.congr h.wpos h.rpos h.wh
  refine .of_qlink hl ?_
  rcases h.wc with e | e
  · exact h.q ▸ hq.qcache.congr e h.rpos
  · exact ⟨t'.qStmts, [], (List.append_nil _).symm, by rw [e, hl.pub, hl.dist]⟩

theorem ThEq.trans {a b c : Th} (h1 : ThEq a b) (h2 : ThEq b c) : ThEq a c :=
  ⟨h2.buf.trans h1.buf, h2.q.trans h1.q, h2.acc.trans h1.acc, h2.wpos.trans h1.wpos, h2.wh.trans h1.wh,
   h2.rpos.trans h1.rpos, h2.valid.trans h1.valid, by
    rcases h2.wc with e | e
    · rcases h1.wc with e1 | e1
      · exact .inl (e.trans e1)
      · exact .inr (by rw [e, e1, h2.wh])
    · exact .inr e, h2.cap.trans h1.cap⟩

/-- `s'` differs from `s` only in fields the invariant cannot see -/
structure Same (s s' : BSt) : Prop where
  cfg : s'.cfg = s.cfg
  now : s'.now = s.now
  th : ∀ i, ThEq (s.th i) (s'.th i)
  len : s'.ths.length = s.ths.length
  reg : s'.registry = s.registry
  cache : s'.cache = s.cache
  nf : s'.newFlag = s.newFlag
  act : ∀ a, s'.actor a = s.actor a
  pop : s'.popLog = s.popLog

theorem Same.refl (s : BSt) : Same s s := ⟨rfl, rfl, fun _ => ThEq.refl _, rfl, rfl, rfl, rfl, fun _ => rfl, rfl⟩

theorem Same.trans {a b c : BSt} (h1 : Same a b) (h2 : Same b c) : Same a c :=
  ⟨h2.cfg.trans h1.cfg, h2.now.trans h1.now, fun i => (h1.th i).trans (h2.th i), h2.len.trans h1.len,
   h2.reg.trans h1.reg, h2.cache.trans h1.cache, h2.nf.trans h1.nf, fun a => (h2.act a).trans (h1.act a), h2.pop.trans h1.pop⟩

theorem Same.premI {s s' : BSt} (hs : Same s s') (hp : PremI s') : PremI s := fun i st hst => by
  have := hp i st (by rw [(hs.th i).acc]; exact hst)
  rwa [hs.cfg] at this

theorem PI.same {ex fl T C} {s s' : BSt} (h : PI c ex fl T C s) (hs : Same s s') : PI c ex fl T C s' where
  cfgEq := by rw [hs.cfg]; exact h.cfgEq
  hdr := by rw [hs.cfg]; exact h.hdr
  floorNow := by rw [hs.cfg, hs.now]; exact h.floorNow
  cacheEq := by rw [hs.cache]; exact h.cacheEq
  sorted := fun i => by rw [(hs.th i).chain]; exact h.sorted i
  leNow := fun i => by rw [(hs.th i).chain, hs.now]; exact h.leNow i
  qc := fun i => (hs.th i).qc (h.qc i)
  reg := fun i => by rw [(hs.th i).chain, hs.reg]; exact h.reg i
  bufCache := fun i => by rw [(hs.th i).buf, hs.cache, hs.reg]; exact h.bufCache i
  cacheReg := by rw [hs.cache, hs.reg]; exact h.cacheReg
  fresh := by rw [hs.cache, hs.reg, hs.nf]; exact h.fresh
  ctxLt := fun a x i => by rw [hs.act, hs.len]; exact h.ctxLt a x i
  ctxReg := fun a x i => by rw [hs.act, hs.reg, (hs.th i).valid]; exact h.ctxReg a x i
  ctxInj := fun a b x y i => by rw [hs.act, hs.act]; exact h.ctxInj a b x y i
  pend := fun a x st hx hex hp => by
    rw [hs.act] at hx
    obtain ⟨h1, h2, h3⟩ := h.pend a x st hx hex hp
    refine ⟨by rw [hs.now]; exact h1, h2, fun i hi r hr => ?_⟩
    rw [(hs.th i).chain] at hr; exact h3 i hi r hr
  capOK := fun i hi => by rw [(hs.th i).cap, hs.cfg]; exact h.capOK i (by rw [← hs.len]; exact hi)
  ord := fun hg0 hr0 hp =>
    (h.ord hg0 hr0 (hs.premI hp)).congr hs.pop hs.reg (fun i => (hs.th i).buf) (fun i => (hs.th i).q)

/-- the part of the state the invariant can see (whole lists) -/
structure Core where
  cfg : Cfg
  now : Nat
  ths : List Th
  registry : List Nat
  cache : List Nat
  newFlag : Bool
  actors : List Actor
  popLog : List Stmt

def core (s : BSt) : Core := ⟨s.cfg, s.now, s.ths, s.registry, s.cache, s.newFlag, s.actors, s.popLog⟩

theorem th_of_core {s s' : BSt} (hc : core s' = core s) (i : Nat) : s'.th i = s.th i :=
  th_of_ths_eq (congrArg Core.ths hc) i

theorem Same.ofCore {s s' : BSt} (hc : core s' = core s) : Same s s' := by
  have h3 : s'.ths = s.ths := congrArg Core.ths hc
  have h7 : s'.actors = s.actors := congrArg Core.actors hc
  refine ⟨congrArg Core.cfg hc, congrArg Core.now hc, fun i => ?_, by rw [h3], congrArg Core.registry hc,
    congrArg Core.cache hc, congrArg Core.newFlag hc, fun a => ?_, congrArg Core.popLog hc⟩
  · rw [th_of_core hc]; exact ThEq.refl _
  · simp only [BSt.actor, h7]

theorem PI.frame {ex fl T C} {s s' : BSt} (h : PI c ex fl T C s) (hc : core s' = core s) : PI c ex fl T C s' :=
  h.same (Same.ofCore hc)

@[simp] theorem core_setLg (s : BSt) (i : Nat) (f : Lg → Lg) : core (s.setLg i f) = core s := rfl
@[simp] theorem core_setSink (s : BSt) (i : Nat) (f : Sink → Sink) : core (s.setSink i f) = core s := rfl
@[simp] theorem core_emit (s : BSt) (e : Ev) : core (s.emit e) = core s := rfl

theorem Same.setTh (s : BSt) (i : Nat) (f : Th → Th) (hf : ThEq (s.th i) (f (s.th i))) : Same s (s.setTh i f) := by
  refine ⟨rfl, rfl, fun j => ?_, ths_length_setTh s i f, rfl, rfl, rfl, fun _ => rfl, rfl⟩
  rcases th_setTh_cases s i j f with h1 | ⟨rfl, _, h1⟩
  · rw [h1]; exact ThEq.refl _
  · rw [h1]; exact hf

theorem PI.setTh_frame {ex fl T C} {s : BSt} (h : PI c ex fl T C s) (i : Nat) (f : Th → Th)
    (hf : ThEq (s.th i) (f (s.th i))) : PI c ex fl T C (s.setTh i f) :=
  h.same (Same.setTh s i f hf)

theorem premI_of_setTh {s : BSt} {i : Nat} {f : Th → Th} (hacc : ∀ r ∈ (s.th i).accepted, r ∈ (f (s.th i)).accepted)
    (hp : PremI (s.setTh i f)) : PremI s := by
  intro j r hr
  have := hp j r
  rcases th_setTh_or s i f j with h1 | ⟨rfl, h1⟩
  · rw [h1] at this; exact this hr
  · rw [h1] at this; exact this (hacc r hr)

/-- One context is replaced (and the pop log set): the clauses about a single context are asked of the new context only,
    the ordering clauses of the new state. With `pl := s.popLog` the new state is `s.setTh i f` (`hs'` is `rfl`). -/
theorem PI.updTh {ex fl T C} {T' : Nat → Prop} {s s' : BSt} (h : PI c ex fl T C s) (i : Nat) (f : Th → Th) (pl : List Stmt)
    (hs' : s' = { s.setTh i f with popLog := pl })
    (hsorted : (chain (f (s.th i))).Pairwise (fun a b => a.ts ≤ b.ts))
    (hleNow : ∀ st ∈ chain (f (s.th i)), st.ts ≤ s.now)
    (hqc : QC (f (s.th i)))
    (hreg : chain (f (s.th i)) ≠ [] → i ∈ s.registry)
    (hbc : i ∈ s.registry → (f (s.th i)).buf ≠ [] → i ∈ s.cache)
    (hvalid : ∀ b y, s.actor b = some y → y.ctx = some i → (s.th i).valid = true → (f (s.th i)).valid = true)
    (hcap : (f (s.th i)).q.cap = (s.th i).q.cap)
    (hpend : ∀ b y r, s.actor b = some y → some b ≠ ex → isPendOf y.pend r → y.ctx = some i →
      ∀ q ∈ chain (f (s.th i)), q.ts ≤ r.ts)
    (hord : c.grace ≠ 0 → c.refreshAfterSample = true → PremI s' → Ord fl T' s') : PI c ex fl T' C s' := by
  subst hs'
  have hcases : ∀ j, ({ s.setTh i f with popLog := pl } : BSt).th j = s.th j ∨
      (j = i ∧ ({ s.setTh i f with popLog := pl } : BSt).th j = f (s.th i)) :=
    th_setTh_or s i f
  exact { h with
    sorted := fun j => by
      rcases hcases j with h1 | ⟨rfl, h1⟩ <;> rw [h1]
      · exact h.sorted j
      · exact hsorted
    leNow := fun j => by
      rcases hcases j with h1 | ⟨rfl, h1⟩ <;> rw [h1]
      · exact h.leNow j
      · exact hleNow
    qc := fun j => by
      rcases hcases j with h1 | ⟨rfl, h1⟩ <;> rw [h1]
      · exact h.qc j
      · exact hqc
    reg := fun j => by
      rcases hcases j with h1 | ⟨rfl, h1⟩ <;> rw [h1]
      · exact h.reg j
      · exact hreg
    bufCache := fun j => by
      rcases hcases j with h1 | ⟨rfl, h1⟩ <;> rw [h1]
      · exact h.bufCache j
      · exact hbc
    ctxLt := fun b y j hy hj => (ths_length_setTh s i f).symm ▸ h.ctxLt b y j hy hj
    ctxReg := fun b y j hy hj => by
      obtain ⟨r1, r2⟩ := h.ctxReg b y j hy hj
      refine ⟨r1, ?_⟩
      rcases hcases j with h1 | ⟨rfl, h1⟩ <;> rw [h1]
      · exact r2
      · exact hvalid b y hy hj r2
    capOK := fun j hj => by
      have hj' : j < s.ths.length := (ths_length_setTh s i f) ▸ hj
      rcases hcases j with h1 | ⟨rfl, h1⟩ <;> rw [h1]
      · exact h.capOK j hj'
      · exact hcap.trans (h.capOK j hj')
    pend := fun b y r hy hb hpd => by
      obtain ⟨p1, p2, p3⟩ := h.pend b y r hy hb hpd
      refine ⟨p1, p2, fun j hj => ?_⟩
      rcases hcases j with h1 | ⟨rfl, h1⟩ <;> rw [h1]
      · exact p3 j hj
      · exact hpend b y r hy hb hpd hj
    ord := hord }

theorem chain_setTh_frame (s : BSt) (i : Nat) (f : Th → Th) (hf : ThEq (s.th i) (f (s.th i))) (j : Nat) :
    chain ((s.setTh i f).th j) = chain (s.th j) :=
  ((Same.setTh s i f hf).th j).chain

theorem PI.weakenT {ex fl T T' C} {s : BSt} (h : PI c ex fl T C s) (hT : ∀ i, T i → T' i) : PI c ex fl T' C s :=
  { h with ord := fun hg0 hr0 hp => { h.ord hg0 hr0 hp with late := fun i hr hi => (h.ord hg0 hr0 hp).late i hr (fun ht => hi (hT i ht)) } }

theorem PI.newFloor {ex fl T C} {s : BSt} (h : PI c ex fl T C s) (fl' : Nat) (h1 : fl ≤ fl')
    (h2 : fl' ≤ s.now - s.cfg.grace) : PI c ex fl' (fun _ => True) C s :=
  { h with
    floorNow := h2
    ord := fun hg0 hr0 hp => { h.ord hg0 hr0 hp with
      popFloor := fun p hpp => Nat.le_trans ((h.ord hg0 hr0 hp).popFloor p hpp) h1
      bufFloor := fun i st hst => Nat.le_trans ((h.ord hg0 hr0 hp).bufFloor i st hst) h1
      late := fun _ _ hi => absurd trivial hi } }

theorem PI.unex {fl T C} {s : BSt} {a : Nat} (h : PI c none fl T C s) : PI c (some a) fl T C s :=
  { h with pend := fun b x st hx _ hp => h.pend b x st hx (by simp) hp }

theorem qPrepareWrite_fields (c : Cfg) (q : Spsc.St) (n : Nat) :
    (qPrepareWrite c q n).1.wpos = q.wpos ∧ (qPrepareWrite c q n).1.wHist = q.wHist ∧
    (qPrepareWrite c q n).1.rpos = q.rpos ∧ (qPrepareWrite c q n).1.wcache = q.wcache ∧
    (qPrepareWrite c q n).1.cap = q.cap := by
  obtain ⟨_, _, e⟩ := qPrepareWrite_upd c q n
  rw [e]; exact ⟨rfl, rfl, rfl, rfl, rfl⟩

theorem qFinishCommit_cap (c : Cfg) (q : Spsc.St) (n : Nat) : (qFinishCommit c q n).cap = q.cap := rfl

theorem qEmpty_fields (c : Cfg) (q : Spsc.St) :
    (qEmpty c q).1.wpos = q.wpos ∧ (qEmpty c q).1.wHist = q.wHist ∧ (qEmpty c q).1.rpos = q.rpos ∧
    ((qEmpty c q).1.wcache = q.wcache ∨ (qEmpty c q).1.wcache = (qEmpty c q).1.wHist.headD 0) ∧
    (qEmpty c q).1.cap = q.cap := by
  obtain ⟨_, _, e, hw⟩ := qEmpty_upd c q
  rw [e]; exact ⟨rfl, rfl, rfl, hw, rfl⟩

theorem qPrepareRead_fields (c : Cfg) (q : Spsc.St) :
    (qPrepareRead c q).1.wpos = q.wpos ∧ (qPrepareRead c q).1.wHist = q.wHist ∧
    (qPrepareRead c q).1.rpos = q.rpos ∧
    ((qPrepareRead c q).1.wcache = q.wcache ∨ (qPrepareRead c q).1.wcache = (qPrepareRead c q).1.wHist.headD 0) ∧
    (qPrepareRead c q).1.cap = q.cap :=
  qPrepareRead_fst c q ▸ qEmpty_fields c q

theorem qCommitRead_fields (c : Cfg) (q : Spsc.St) :
    (qCommitRead c q).wpos = q.wpos ∧ (qCommitRead c q).wHist = q.wHist ∧ (qCommitRead c q).rpos = q.rpos ∧
    (qCommitRead c q).wcache = q.wcache ∧ (qCommitRead c q).cap = q.cap := by
  obtain ⟨_, e⟩ := qCommitRead_upd c q
  rw [e]; exact ⟨rfl, rfl, rfl, rfl, rfl⟩

theorem ThEq.ofQ (t : Th) (q' : Spsc.St) (h : q'.wpos = t.q.wpos ∧ q'.wHist = t.q.wHist ∧ q'.rpos = t.q.rpos ∧
    (q'.wcache = t.q.wcache ∨ q'.wcache = q'.wHist.headD 0) ∧ q'.cap = t.q.cap) : ThEq t { t with q := q' } :=
  ⟨rfl, rfl, rfl, h.1, by simp [h.2.1], h.2.2.1, rfl, h.2.2.2.1, h.2.2.2.2⟩

theorem ThEq.ofQ' (t : Th) (q' : Spsc.St) (h : q'.wpos = t.q.wpos ∧ q'.wHist = t.q.wHist ∧ q'.rpos = t.q.rpos ∧
    q'.wcache = t.q.wcache ∧ q'.cap = t.q.cap) : ThEq t { t with q := q' } :=
  ThEq.ofQ t q' ⟨h.1, h.2.1, h.2.2.1, .inl h.2.2.2.1, h.2.2.2.2⟩

theorem QC.nil_of_eq {t : Th} (h : QC t) (he : t.q.wHist.headD 0 = t.q.rpos) : t.qStmts = [] :=
  h.qlink.nil_of_eq he

theorem QC.empty_true {t : Th} (h : QC t) (c : Cfg) (he : t.qStmts = []) : (qEmpty c t.q).2 = true :=
  (he ▸ h.qcache).empty_true (he ▸ h.qlink) c

end Backend.PB
