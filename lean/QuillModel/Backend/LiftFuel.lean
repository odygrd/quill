import QuillModel.Backend.ConsProofsFront
/-!
Loop fuel of `readQueue` (`_read_and_decode_frontend_queue`), part 1: the exit observer `readExits` (true when the
read loop leaves through one of the exits the C++ has, false when the model's fuel ran out first), independence of
the result from the fuel once a real exit is reached, and sufficiency of the fuel from a decreasing measure.
-/
namespace Backend.PA

/-- mirrors the recursion of `readQueue`: does the loop reach a real exit (`prepare_read` offers nothing, the next
    record is newer than `ts_now`, byte or transit limit reached) within `fuel` iterations? -/
def readExits (inj : BSt → Nat → BSt) (tsNow : Option Nat) (i : Nat) : Nat → Nat → BSt → Bool
  | 0, _, _ => false
  | fuel + 1, total, s =>
    if !(qPrepareRead s.cfg (s.th i).q).2 then true else
    match (s.th i).qStmts with
    | [] => true
    | st :: rest =>
      if future tsNow st then true else
      let s4 := inj (readOneF s i st rest) 3
      if total + st.size < s4.cfg.qcap ∧ (s4.th i).buf.length < s4.cfg.hard then
        readExits inj tsNow i fuel (total + st.size) s4
      else true

theorem readExits_zero (inj : BSt → Nat → BSt) (tsNow : Option Nat) (i total : Nat) (s : BSt) :
    readExits inj tsNow i 0 total s = false := rfl

theorem readExits_succ (inj : BSt → Nat → BSt) (tsNow : Option Nat) (i fuel total : Nat) (s : BSt) :
    readExits inj tsNow i (fuel + 1) total s =
      (if !(qPrepareRead s.cfg (s.th i).q).2 then true else
       match (s.th i).qStmts with
       | [] => true
       | st :: rest =>
         if future tsNow st then true else
         let s4 := inj (readOneF s i st rest) 3
         if total + st.size < s4.cfg.qcap ∧ (s4.th i).buf.length < s4.cfg.hard then
           readExits inj tsNow i fuel (total + st.size) s4
         else true) := by
  rw [readExits]

theorem readQueue_iter (inj : BSt → Nat → BSt) (tsNow : Option Nat) (i total : Nat) (s : BSt) :
    (∃ e, ∀ fuel, readQueue inj tsNow i (fuel + 1) total s = e ∧ readExits inj tsNow i (fuel + 1) total s = true) ∨
    (∃ st rest, (s.th i).qStmts = st :: rest ∧ ∀ fuel,
      readQueue inj tsNow i (fuel + 1) total s =
        readQueue inj tsNow i fuel (total + st.size) (inj (readOneF s i st rest) 3) ∧
      readExits inj tsNow i (fuel + 1) total s =
        readExits inj tsNow i fuel (total + st.size) (inj (readOneF s i st rest) 3)) := by
  -- both functions unfolded once, for every fuel; each branch below evaluates the loop's conditions in both
  have hQ := fun fuel => readQueue_succ inj tsNow i fuel total s
  have hE := fun fuel => readExits_succ inj tsNow i fuel total s
  by_cases hr : (qPrepareRead s.cfg (s.th i).q).2 = true
  · cases hq : (s.th i).qStmts with
    | nil =>
      simp only [hr, hq, Bool.not_true, Bool.false_eq_true, if_false] at hQ hE
      exact .inl ⟨_, fun fuel => ⟨hQ fuel, hE fuel⟩⟩
    | cons st rest =>
      by_cases hfu : future tsNow st = true
      · simp only [hr, hq, hfu, Bool.not_true, Bool.false_eq_true, if_false, if_true] at hQ hE
        exact .inl ⟨_, fun fuel => ⟨hQ fuel, hE fuel⟩⟩
      · by_cases hc : total + st.size < (inj (readOneF s i st rest) 3).cfg.qcap ∧
            ((inj (readOneF s i st rest) 3).th i).buf.length < (inj (readOneF s i st rest) 3).cfg.hard
        · simp only [hr, hq, hfu, hc, Bool.not_true, Bool.false_eq_true, if_false, and_self, if_true] at hQ hE
          exact .inr ⟨st, rest, rfl, fun fuel => ⟨hQ fuel, hE fuel⟩⟩
        · simp only [hr, hq, hfu, hc, Bool.not_true, Bool.false_eq_true, if_false] at hQ hE
          exact .inl ⟨_, fun fuel => ⟨hQ fuel, hE fuel⟩⟩
  · simp only [hr, Bool.not_false, if_true] at hQ hE
    exact .inl ⟨_, fun fuel => ⟨hQ fuel, hE fuel⟩⟩

theorem readQueue_fuel_mono (inj : BSt → Nat → BSt) (tsNow : Option Nat) (i : Nat) :
    ∀ (f total : Nat) (s : BSt), readExits inj tsNow i f total s = true → ∀ f', f ≤ f' →
      readQueue inj tsNow i f' total s = readQueue inj tsNow i f total s ∧ readExits inj tsNow i f' total s = true
  | 0, total, s, h => by
    rw [readExits_zero] at h
    cases h
  | f + 1, total, s, h => by
    intro f' hf'
    cases f' with
    | zero => exact absurd hf' (Nat.not_succ_le_zero f)
    | succ g =>
      rcases readQueue_iter inj tsNow i total s with ⟨e, he⟩ | ⟨st, rest, _, hstep⟩
      · exact ⟨(he g).1.trans (he f).1.symm, (he g).2⟩
      · have ih := readQueue_fuel_mono inj tsNow i f _ _ ((hstep f).2 ▸ h) g (Nat.le_of_succ_le_succ hf')
        exact ⟨(hstep g).1.trans (ih.1.trans (hstep f).1.symm), (hstep g).2.trans ih.2⟩

theorem readExits_of_measure (inj : BSt → Nat → BSt) (tsNow : Option Nat) (i : Nat) (μ : BSt → Nat)
    (hstep : ∀ s st rest, (s.th i).qStmts = st :: rest → μ (inj (readOneF s i st rest) 3) < μ s) :
    ∀ (f total : Nat) (s : BSt), μ s < f → readExits inj tsNow i f total s = true
  | 0, _, _, h => by omega
  | f + 1, total, s, h => by
    rcases readQueue_iter inj tsNow i total s with ⟨e, he⟩ | ⟨st, rest, hq, hit⟩
    · exact (he f).2
    · rw [(hit f).2]
      exact readExits_of_measure inj tsNow i μ hstep f _ _ (Nat.lt_of_lt_of_le (hstep s st rest hq) (Nat.le_of_lt_succ h))

theorem readOneF_eq (s : BSt) (i : Nat) (st : Stmt) (rest : List Stmt) :
    (readOneF s i st rest).siteCnt = (readOne s i st rest).siteCnt ∧ (readOneF s i st rest).ths = (readOne s i st rest).ths ∧
    (readOneF s i st rest).cfg = (readOne s i st rest).cfg := by
  unfold readOneF fmtNote
  split <;> exact ⟨rfl, rfl, rfl⟩

theorem readOne_siteCnt (s : BSt) (i : Nat) (st : Stmt) (rest : List Stmt) :
    (readOne s i st rest).siteCnt = s.siteCnt := by
  rw [(readOne_hk s i st rest).misc]

theorem readOne_qStmts (s : BSt) (i : Nat) (st : Stmt) (rest : List Stmt) (hi : i < s.ths.length) :
    ((readOne s i st rest).th i).qStmts = rest := by
  obtain ⟨s0, f, e⟩ := readOne_eq s i st rest
  rw [e, th_setTh_same _ _ (f.ths ▸ hi)]

end Backend.PA
