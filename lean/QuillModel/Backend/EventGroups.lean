import QuillModel.Backend.EventLog
/-!
The events the dispatch side appends come in groups: a `write`, a `flushed`, a `wthrow` with the report `n:wfail` right
after it, an `fthrow` with `n:ffail` right after it, the report `n:nobt`. A function that returns "an exception escaped"
has left the `wthrow` and owes the report (`owed`); with what is owed the block it appended is a sequence of groups
(`writeToSinks_grps … processEvent_grps`). Whatever is additive over the log and cancels on each group — a count of faults
against a count of reports, a balance — is therefore kept, and each fault is followed at once by its report.
-/
namespace Backend
open PA (W acc)

/-- events the machine emits together (newest first) -/
inductive Grp : List Ev → Prop
  | write (sid id lvl ts nm) : Grp [.write sid id lvl ts nm]
  | wfail (sid id) : Grp [.notify "n:wfail", .wthrow sid id]
  | flushed (sid) : Grp [.flushed sid]
  | ffail (sid) : Grp [.notify "n:ffail", .fthrow sid]
  | nobt : Grp [.notify "n:nobt"]

inductive Grps : List Ev → Prop
  | nil : Grps []
  | cons {g l} : Grp g → Grps l → Grps (g ++ l)

theorem Grps.append {a b : List Ev} (ha : Grps a) (hb : Grps b) : Grps (a ++ b) := by
  induction ha with
  | nil => exact hb
  | cons hg _ ih => rw [List.append_assoc]; exact .cons hg ih

theorem Grps.one {g : List Ev} (h : Grp g) : Grps g := by
  have := Grps.cons h .nil
  rwa [List.append_nil] at this

def reportOf : Ev → Option String
  | .wthrow .. => some "n:wfail"
  | .fthrow _ => some "n:ffail"
  | _ => none

theorem Grp.reported {g : List Ev} (h : Grp g) {a b : List Ev} {e : Ev} {m : String} (hg : g = a ++ e :: b)
    (hm : reportOf e = some m) : a = [.notify m] := by
  cases h <;> rcases a with _ | ⟨x, _ | ⟨y, a⟩⟩ <;>
    simp only [List.nil_append, List.cons_append, List.cons.injEq, List.nil_eq, List.append_eq_nil_iff, reduceCtorEq,
      and_false] at hg
  all_goals first
    | (obtain ⟨rfl, _⟩ := hg; cases hm)
    | (obtain ⟨rfl, rfl, _⟩ := hg; cases hm; rfl)

/-- in a sequence of groups every fault has its report right after it (the log is newest first) -/
theorem Grps.reported {l : List Ev} (h : Grps l) : ∀ {a b : List Ev} {e : Ev} {m : String}, l = a ++ e :: b →
    reportOf e = some m → ∃ a', a = a' ++ [.notify m] := by
  induction h with
  | nil => intro a _ _ _ hl; cases a <;> cases hl
  | @cons g l' hg _ ih =>
    intro a b e m hl hm
    rcases List.append_eq_append_iff.mp hl with ⟨c, hc1, hc2⟩ | ⟨c, hc1, hc2⟩
    · obtain ⟨a', rfl⟩ := ih hc2 hm
      exact ⟨g ++ a', by rw [hc1, List.append_assoc]⟩
    · cases c with
      | nil =>
        obtain ⟨a', ha'⟩ := ih (a := []) hc2.symm hm
        cases a' <;> cases ha'
      | cons x c' =>
        rw [List.cons_append, List.cons.injEq] at hc2
        obtain ⟨rfl, _⟩ := hc2
        exact ⟨[], hg.reported hc1 hm⟩

def owed : Bool → List Ev
  | true => [.notify "n:wfail"]
  | false => []

theorem grps_Ws (st : Stmt) (l : List Nat) : Grps ((l.map (W st)).reverse) := by
  induction l with
  | nil => exact .nil
  | cons x xs ih =>
    rw [List.map_cons, List.reverse_cons]
    exact ih.append (.one (.write ..))

theorem writeToSinks_grps (st : Stmt) (sids : List Nat) (s : BSt) :
    ∃ blk, (writeToSinks s st sids).1.log = blk ++ s.log ∧ Grps (owed (writeToSinks s st sids).2 ++ blk) := by
  rcases writeToSinks_spec st sids s with ⟨h1, h2⟩ | ⟨pre, f, post, _, h1, _, h2⟩
  · exact ⟨_, h2, by rw [h1]; exact grps_Ws st _⟩
  · refine ⟨_ :: _, h2, ?_⟩
    rw [h1]
    show Grps ([Ev.notify "n:wfail", Ev.wthrow f st.id] ++ _)
    exact .cons (.wfail f st.id) (grps_Ws st _)

theorem dispatch_grps (s : BSt) (st : Stmt) :
    ∃ blk, (dispatch s st).1.log = blk ++ s.log ∧ Grps (owed (dispatch s st).2 ++ blk) := writeToSinks_grps st _ s

theorem replayGo_grps (l : List Stmt) (s : BSt) :
    ∃ blk, (replayRing.go s l).1.log = blk ++ s.log ∧ Grps (owed (replayRing.go s l).2 ++ blk) := by
  have step : ∀ (st : Stmt) (x : BSt), (∃ b, x.log = b ++ s.log ∧ Grps b) →
      ∃ b, (dispatch x st).1.log = b ++ s.log ∧ Grps (owed (dispatch x st).2 ++ b) := fun st x ⟨b, hb, g⟩ => by
    obtain ⟨e1, h1, g1⟩ := dispatch_grps x st
    exact ⟨e1 ++ b, by rw [h1, hb, List.append_assoc], by rw [← List.append_assoc]; exact g1.append g⟩
  refine replayGo_rule (fun _ x => ∃ b, x.log = b ++ s.log ∧ Grps b)
    (fun x f => ∃ b, x.log = b ++ s.log ∧ Grps (owed f ++ b)) (fun _ h => h) (fun st _ x h hd => ?_)
    (fun st _ x h hd => ?_) (fun st _ x h hd => ?_) l s ⟨[], rfl, .nil⟩
  · have := step st x h; rwa [hd] at this
  · obtain ⟨b, hb, g⟩ := step st x h
    rw [hd] at g
    exact ⟨.notify "n:wfail" :: b, by simp [BSt.emit, hb], g⟩
  · have := step st x h; rwa [hd] at this

theorem replayRing_grps (s : BSt) (lgi : Nat) :
    ∃ blk, (replayRing s lgi).1.log = blk ++ s.log ∧ Grps (owed (replayRing s lgi).2 ++ blk) := by
  unfold replayRing
  split
  · exact ⟨[], rfl, .nil⟩
  · next r _ =>
    dsimp only
    obtain ⟨e, h, g⟩ := replayGo_grps r.replay s
    cases hb : (replayRing.go s r.replay).2 with
    | true => rw [if_pos rfl]; exact ⟨e, h, by rw [hb]; rw [hb] at g; exact g⟩
    | false => rw [if_neg Bool.false_ne_true]; rw [hb] at g; exact ⟨e, h, g⟩

theorem flushSinks_grps (s : BSt) : ∃ blk, (flushSinks s).log = blk ++ s.log ∧ Grps blk := by
  have step : ∀ (x : BSt) (g : List Ev), Grp g → (∃ blk, x.log = blk ++ s.log ∧ Grps blk) →
      ∃ blk, g ++ x.log = blk ++ s.log ∧ Grps blk := fun x g hg ⟨b, hb, gb⟩ =>
    ⟨g ++ b, by rw [hb, List.append_assoc], .cons hg gb⟩
  exact flushSinks_rule (fun _ x => ∃ blk, x.log = blk ++ s.log ∧ Grps blk) (fun _ x sid => step x _ (.flushed sid))
    (fun _ x sid => step x _ (.ffail sid)) s ⟨[], rfl, .nil⟩

def owedM : Option String → List Ev
  | some m => [.notify m]
  | none => []

theorem processEvent_grps (s : BSt) (st : Stmt) :
    ∃ blk, (processEvent s st).1.log = blk ++ s.log ∧ Grps (owedM (processEvent s st).2.1 ++ blk) := by
  have hrep : ∀ x : BSt, ∃ blk, (replayRing x st.lg).1.log = blk ++ x.log ∧
      Grps (owedM (if (replayRing x st.lg).2 then some "n:wfail" else none) ++ blk) := by
    intro x
    obtain ⟨e, h, g⟩ := replayRing_grps x st.lg
    refine ⟨e, h, ?_⟩
    cases hb : (replayRing x st.lg).2 <;> rw [hb] at g <;> exact g
  obtain ⟨e1, h1, g1⟩ := dispatch_grps s st
  have hs := processEvent_shape s st
  generalize processEvent s st = r at hs ⊢
  cases hs with
  | writeFail _ _ hw => rw [hw] at g1; exact ⟨e1, h1, g1⟩
  | replay _ _ hw =>
    rw [hw] at g1
    obtain ⟨e2, h2, g2⟩ := hrep (dispatch s st).1
    exact ⟨e2 ++ e1, by rw [h2, h1, List.append_assoc], by rw [← List.append_assoc]; exact g2.append g1⟩
  | plain _ _ hw => rw [hw] at g1; exact ⟨e1, h1, g1⟩
  | store | initBt | removal => exact ⟨[], rfl, .nil⟩
  | noRing => exact ⟨[], rfl, .one .nobt⟩
  | flushBt => exact hrep s
  | flush => exact flushSinks_grps s

theorem procSt_grps (s : BSt) (st : Stmt) : ∃ blk, (procSt s st).log = blk ++ s.log ∧ Grps blk := by
  obtain ⟨blk, hl, hg⟩ := processEvent_grps s st
  unfold procSt
  split
  · next m hm => rw [hm] at hg; exact ⟨.notify m :: blk, by simp [BSt.emit, hl], hg⟩
  · next hm => rw [hm] at hg; exact ⟨blk, hl, hg⟩

end Backend
