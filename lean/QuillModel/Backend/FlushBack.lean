import QuillModel.Backend.FlushFront
import QuillModel.Backend.QuietRel
/-!
The backend preserves the flush invariant `FI`: reading moves records from queue to buffer (FIFO), popping appends to
`popped` / `popLog`, a flag is raised only for a popped Flush statement or a decoded removal request. The steps are put
together by the rules of `Pass.lean` (`FI.closedW`, `FI.passRules`): the index `pf` moves only between the pop of a Flush
statement and the raising of its flag `f`, where it is `f :: pf` (`FI.processLowest`); in every other phase of a pass the
invariant is `FI none pf`.
-/
namespace Backend.PB

variable {ex : Option Nat} {pf : List Nat} {s : BSt}

theorem FI.weakenPf {pf' : List Nat} (h : FI ex pf s) (hsub : ∀ f ∈ pf', f ∈ pf)
    (hfl : ∀ f ∈ pf, f ∈ pf' ∨ f ∈ s.flags) : FI ex pf' s :=
  { h with
    flgP := fun f hf => h.flgP f (hsub f hf)
    popFlag := fun i st hst f hk => by
      rcases h.popFlag i st hst f hk with h1 | h1
      · exact Or.inl h1
      · rcases hfl f h1 with h2 | h2
        · exact Or.inr h2
        · exact Or.inl h2 }

theorem FI.raise (h : FI ex pf s) (f : Nat) (hf : f ∈ pf) (fl : List (Nat × Nat)) :
    FI ex pf { s with flags := f :: s.flags, flagLog := fl } :=
  { h with
    flg := fun g hg => by
      rcases List.mem_cons.mp hg with rfl | hg
      · exact Or.inl (h.flgP g hf)
      · exact h.flg g hg
    popFlag := fun i st hst g hk => by
      rcases h.popFlag i st hst g hk with h1 | h1
      · exact Or.inl (List.mem_cons_of_mem _ h1)
      · exact Or.inr h1 }

theorem FI.raiseRemoval (h : FI ex pf s) (gid f : Nat) (hm : (gid, f) ∈ s.removalFlags) (fl : List (Nat × Nat)) :
    FI ex pf { s with flags := f :: s.flags, flagLog := fl, removalFlags := s.removalFlags.filter (·.1 ≠ gid) } :=
  { h with
    flg := fun g hg => by
      rcases List.mem_cons.mp hg with rfl | hg
      · exact Or.inr (h.rem (gid, g) hm)
      · exact h.flg g hg
    popFlag := fun i st hst g hk => by
      rcases h.popFlag i st hst g hk with h1 | h1
      · exact Or.inl (List.mem_cons_of_mem _ h1)
      · exact Or.inr h1
    rem := fun gf hgf => h.rem gf (List.mem_filter.mp hgf).1 }

theorem FI.decode (h : FI ex pf s) (i : Nat) (st : Stmt) (hst : st ∈ (s.th i).accepted) (gid f : Nat)
    (hk : st.kind = .removal f) : FI ex pf { s with removalFlags := s.removalFlags ++ [(gid, f)] } :=
  { h with
    rem := fun gf hgf => by
      rcases List.mem_append.mp hgf with h1 | h1
      · exact h.rem gf h1
      · rw [List.mem_singleton.mp h1]; exact ⟨i, st, hst, hk⟩ }

def InjOK2 (inj : BSt → Nat → BSt) : Prop := ∀ pf s site, FI none pf s → FI none pf (inj s site)

theorem injOK2_runInj (table : List (Nat × Nat × List FOp)) : InjOK2 (runInj table) :=
  fun _ _ site h => h.runInj table site

theorem same2_quiet : QuietRel Same2 where
  refl := Same2.refl
  trans := Same2.trans
  reg _ _ _ _ _ _ _ := Same2.ofCore rfl
  setThMisc s i f hf hp := Same2.setTh s i f ⟨(hf _).2.2.1, (hf _).2.1, (hf _).2.2.2, hp _⟩
  ctxEmpty s i := Same2.setTh s i _ ⟨rfl, rfl, rfl, rfl⟩
  note _ _ := Same2.ofCore rfl

theorem same2_allEmpty (s : BSt) : Same2 s (allEmpty s).1 := same2_quiet.allEmpty s

theorem same2_hasPending (s : BSt) : Same2 s (hasPending s).1 := same2_quiet.hasPending s

theorem FI.cleanupLoggers {inj : BSt → Nat → BSt} (hi : InjOK2 inj) (h : FI none pf s) :
    FI none pf (cleanupLoggers inj s) :=
  cleanupLoggers_pres (FI none pf) inj (fun _ hx => hi _ _ 9 hx) (fun _ _ hx => hx.frame rfl)
    (fun x hx => hx.same (same2_allEmpty x)) (fun x _ hx _ _ => (hx.same (same2_allEmpty x)).frame rfl)
    (fun _ _ hx _ _ => hx.frame rfl) (fun _ f g hx hm => hx.raiseRemoval g f hm _) s h

variable {inj : BSt → Nat → BSt}

theorem FI.cleanupContexts (h : FI none pf s) : FI none pf (Backend.cleanupContexts s) :=
  h.same (same2_quiet.cleanupContexts s)

theorem same2_commitSt (s : BSt) (i : Nat) : Same2 s (PC.commitSt s i) := Same2.setTh s i _ ⟨rfl, rfl, rfl, rfl⟩
theorem same2_readPrepSt (s : BSt) (i : Nat) : Same2 s (PC.readPrepSt s i) := Same2.setTh s i _ ⟨rfl, rfl, rfl, rfl⟩

theorem FI.moveTh (h : FI ex pf s) (i : Nat) (f : Th → Th)
    (hf : (f (s.th i)).accepted = (s.th i).accepted ∧ (f (s.th i)).popped = (s.th i).popped ∧
      (f (s.th i)).buf ++ (f (s.th i)).qStmts = (s.th i).buf ++ (s.th i).qStmts) : FI ex pf (s.setTh i f) := by
  obtain ⟨f1, f2, f3⟩ := hf
  have hacc : ∀ j, ((s.setTh i f).th j).accepted = (s.th j).accepted :=
    rel_setTh (r := fun t t' => t'.accepted = t.accepted) (fun _ => rfl) s i f f1
  have hpop : ∀ j, ((s.setTh i f).th j).popped = (s.th j).popped :=
    rel_setTh (r := fun t t' => t'.popped = t.popped) (fun _ => rfl) s i f f2
  refine h.congrAP hacc (fun j p hp => by rw [hpop]; exact hp) ?_ (fun j p hp => by rw [hpop] at hp; exact h.plog j p hp)
    (fun _ => rfl) rfl rfl rfl (fun f hf => Or.inl hf) (fun f hf => hf)
    (fun j st hst f _ => Or.inl (by rw [hpop] at hst; exact hst))
  intro j
  rcases th_setTh_cases s i j f with h1 | ⟨rfl, _, h1⟩
  · rw [h1]; exact h.cons j
  · rw [h1, f1, f2, List.append_assoc, f3, ← List.append_assoc]; exact h.cons j

theorem FI.readOne (h : FI none pf s) (i : Nat) (st : Stmt) (rest : List Stmt) (hq : (s.th i).qStmts = st :: rest) :
    FI none pf (PC.readOneSt s i st rest) := by
  unfold PC.readOneSt
  have hs1 := same2_readPrepSt s i
  have h1 := h.same hs1
  have hq1 : ((PC.readPrepSt s i).th i).qStmts = st :: rest := by rw [(hs1.th i).q]; exact hq
  have hmem : st ∈ ((PC.readPrepSt s i).th i).accepted := by
    rw [h1.cons i, hq1]; simp
  have h2 : FI none pf (PC.decodeSt (PC.readPrepSt s i) st) ∧
      ((PC.decodeSt (PC.readPrepSt s i) st).th i).qStmts = st :: rest := by
    unfold PC.decodeSt
    split
    · rename_i f hk
      exact ⟨h1.decode i st hmem _ f hk, hq1⟩
    · exact ⟨h1, hq1⟩
  generalize PC.decodeSt (PC.readPrepSt s i) st = s2 at h2
  refine h2.1.moveTh i _ ⟨rfl, rfl, ?_⟩
  show ((s2.th i).buf ++ [st]) ++ rest = _
  rw [h2.2]; simp

theorem FI.popTh (h : FI none pf s) (j : Nat) (st : Stmt) (rest : List Stmt) (hb : (s.th j).buf = st :: rest)
    (hmem : st ∈ s.popLog) (pf' : List Nat) (hpf' : ∀ f ∈ pf', f ∈ pf ∨ st.kind = .flush f)
    (hsub : ∀ f ∈ pf, f ∈ pf') (hst' : ∀ f, st.kind = .flush f → f ∈ pf') :
    FI none pf' (s.setTh j (fun t => { t with buf := rest, popped := t.popped ++ [st] })) := by
  have hlt : j < s.ths.length := buf_head_lt hb
  -- the update gets a name: its projections `g1`–`g4` then rewrite `(g t).accepted` …, which they do not under a literal `fun`
  generalize hg : (fun t : Th => { t with buf := rest, popped := t.popped ++ [st] }) = g
  have g1 : ∀ t, (g t).accepted = t.accepted := fun t => by rw [← hg]
  have g2 : ∀ t, (g t).popped = t.popped ++ [st] := fun t => by rw [← hg]
  have g3 : ∀ t, (g t).buf = rest := fun t => by rw [← hg]
  have g4 : ∀ t, (g t).qStmts = t.qStmts := fun t => by rw [← hg]
  have hcases := fun i => th_setTh_cases s j i g
  have hacc := fun i => th_setTh_proj (·.accepted) s j i g g1
  have hpopd : ∀ i, ∀ p ∈ (s.th i).popped, p ∈ ((s.setTh j g).th i).popped :=
    rel_setTh (r := fun t t' => ∀ p ∈ t.popped, p ∈ t'.popped) (fun _ _ hp => hp) s j g
      (fun p hp => by rw [g2]; exact List.mem_append_left _ hp)
  refine h.congrAP hacc hpopd ?_ ?_ (fun _ => rfl) rfl rfl rfl ?_ hsub ?_
  · intro i
    rcases hcases i with h1 | ⟨hij, _, h1⟩
    · rw [h1]; exact h.cons i
    · rw [h1, g1, g2, g3, g4, h.cons j, hb]; simp
  · intro i p hp
    rcases hcases i with h1 | ⟨hij, _, h1⟩
    · rw [h1] at hp; exact h.plog i p hp
    · rw [h1, g2] at hp
      rcases List.mem_append.mp hp with h2 | h2
      · exact h.plog j p h2
      · rw [List.mem_singleton.mp h2]; exact hmem
  · intro f hf
    rcases hpf' f hf with h1 | h1
    · exact Or.inl h1
    · right
      refine ⟨j, st, ?_, h1⟩
      rw [th_setTh_same s g hlt, g2]
      exact List.mem_append_right _ (List.mem_singleton.mpr rfl)
  · intro i r hr f hk
    rcases hcases i with h1 | ⟨hij, _, h1⟩
    · rw [h1] at hr; exact Or.inl hr
    · rw [h1, g2] at hr
      rcases List.mem_append.mp hr with h2 | h2
      · exact Or.inl (by rw [hij]; exact h2)
      · rw [List.mem_singleton.mp h2] at hk; exact Or.inr (hst' f hk)

/-- the pop as the pass takes it (the event processed, its failure noted, the record popped): `FI` sees only the pop, and
    the flag of a popped Flush statement joins `pf` -/
theorem FI.popSt (h : FI none pf s) (j : Nat) (st : Stmt) (rest : List Stmt) (hb : (s.th j).buf = st :: rest)
    (pf' : List Nat) (hpf' : ∀ f ∈ pf', f ∈ pf ∨ st.kind = .flush f)
    (hsub : ∀ f ∈ pf, f ∈ pf') (hst' : ∀ f, st.kind = .flush f → f ∈ pf') : FI none pf' (PC.popSt s j st rest) := by
  have hc : core2 (procSt s st) = core2 s := (slol_dispRel.procSt s st).core2
  rw [popSt_proc]
  generalize procSt s st = X at hc ⊢
  have h0 : FI none pf { X with popLog := st :: X.popLog } :=
    (h.frame hc).congrAP (fun _ => rfl) (fun _ _ hp => hp) (h.frame hc).cons
      (fun i p hp => List.mem_cons_of_mem _ ((h.frame hc).plog i p hp))
      (fun _ => rfl) rfl rfl rfl (fun f hf => Or.inl hf) (fun f hf => hf) (fun i r hr f _ => Or.inl hr)
  have hth : X.th j = s.th j := th_of_ths_eq (congrArg Core2.ths hc) j
  exact h0.popTh j st rest (hth ▸ hb) (List.mem_cons_self ..) pf' hpf' hsub hst'

theorem FI.flushSinks (h : FI ex pf s) : FI ex pf (Backend.flushSinks s) := h.frame (slol_flushSinks s).core2

theorem FI.closedW : ClosedW (FI none pf) where
  note _ h := h.frame rfl
  clock _ _ h := h.frame rfl
  lastFlush _ h := h.frame rfl
  refresh x h := h.same (same2_quiet.refresh x)
  allEmpty x h := h.same (same2_allEmpty x)
  hasPending x h := h.same (same2_hasPending x)
  cleanupContexts _ h := h.cleanupContexts
  flushSinks _ h := h.flushSinks
  readPrep x i h := h.same (same2_readPrepSt x i)
  commit x i h := h.same (same2_commitSt x i)
  readOne _ i st rest h _ hq := h.readOne i st rest hq
  report x i h _ := (h.same (Same2.setTh x i (fun t => { t with fail := 0 }) ⟨rfl, rfl, rfl, rfl⟩)).frame rfl

theorem FI.readQueue (hi : InjOK2 inj) (tsNow : Option Nat) (i : Nat) (fuel : Nat) :
    ∀ (total : Nat) (s : BSt), FI none pf s → FI none pf (Backend.readQueue inj tsNow i fuel total s) :=
  readQueue_okW FI.closedW (hi pf) tsNow i fuel

theorem FI.flushGate (hi : InjOK2 inj) (h : FI none pf s) (n : Nat) : FI none pf (Backend.flushGate inj s n) :=
  flushGate_okW FI.closedW (hi pf) s n h

theorem FI.preEraseFlush (h : FI none pf s) : FI none pf (Backend.preEraseFlush s) :=
  preEraseFlush_pres (FI none pf) FI.closedW.flushSinks s h

theorem FI.processLowest (hi : InjOK2 inj) (h : FI none pf s) : FI none pf (Backend.processLowest inj s).1 :=
  processLowest_rule (FI none pf) (FI none pf) (fun f => FI none (f :: pf)) (fun _ hx => hx)
    (fun x _ st rest hx _ hb hn => hx.popSt _ st rest hb pf (fun _ hg => .inl hg) (fun _ hg => hg)
      (fun g hg => by rw [processEvent_flush x st g hg] at hn; cases hn))
    (fun _ _ st rest f hx _ hb hk => hx.popSt _ st rest hb (f :: pf)
      (fun g hg => (List.mem_cons.mp hg).elim (fun e => .inr (e ▸ hk)) .inl) (fun _ hg => List.mem_cons_of_mem _ hg)
      (fun g hg => by rw [hk] at hg; cases hg; exact List.mem_cons_self ..))
    (fun _ x i hx hf => hi _ _ 8 (FI.closedW.report x i hx hf))
    (fun _ _ hx => hx.cleanupContexts)
    (fun f _ hx => (hx.raise f (List.mem_cons_self ..) _).weakenPf (fun _ hg => List.mem_cons_of_mem _ hg)
      (fun g hg => (List.mem_cons.mp hg).elim (fun e => .inr (e ▸ List.mem_cons_self ..)) .inl)) s h

theorem FI.populate (hi : InjOK2 inj) (h : FI none pf s) : FI none pf (Backend.populate inj s).1 :=
  populate_okW FI.closedW (hi pf) s h

theorem FI.passRules (hi : InjOK2 inj) : PassRules inj (FI none pf) (FI none pf) (FI none pf) :=
  FI.closedW.passRules (hi pf) (fun _ h => h.processLowest hi) (fun _ h => h.cleanupLoggers hi)

theorem FI.exitLoop (hi : InjOK2 inj) (tick fuel : Nat) : ∀ s, FI none pf s → FI none pf (Backend.exitLoop inj tick fuel s) :=
  (FI.passRules hi).exitLoop tick fuel

theorem FI.applyOp (h : FI none pf s) (o : Op) : FI none pf (Backend.applyOp s o).1 :=
  PassRules.applyOp (fun table => FI.passRules (injOK2_runInj table)) (fun _ f hx => hx.applyFront f)
    (fun _ hx => hx.frame rfl) (fun _ hx => hx.frame rfl) s o h

theorem FI.runOps (h : FI none pf s) (ops : List Op) : FI none pf (Backend.runOps s ops) :=
  List.foldl_inv (FI none pf) _ (fun _ o hx => hx.applyOp o) ops s h

end Backend.PB
