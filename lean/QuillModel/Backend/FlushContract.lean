import QuillModel.Backend.ConsProofsPop
import QuillModel.Backend.SinkBack
/-!
The flush contract over positions of the event log (C06). `CI fz s` relates the event history `log` (newest first) to the
loggers and to `flagLog`:
* a sink whose newest event is a `write` (an *unflushed* sink, `unfl`) belongs to a logger that is not erased — so the
  next `_flush_and_run_active_sinks` flushes it (with the F12 repair: loggers marked invalid are still covered);
* `fz` — no sink at all is unflushed (after `flushSinks`, until the next dispatch): a logger is only erased then;
* for every entry `(f, n)` of `flagLog`: in the history as it was when the flag was raised (the oldest `n` events) no
  sink is unflushed, and no ordinary write of a statement popped before the Flush statement of `f` comes later.
At the pop the proof uses the invariants of the other bundles: every buffered record refers to a live logger (`PC.FInv`),
backtrace rings hold backtrace statements and ordinary statement ids are unique in the pop history (`PA.Inv`), flag numbers
are unique (`FI`). These three walk through a pass together, as the conjunction `XS` of three instances of the rules of
`Pass.lean` (`XS.passRules`), and the contract walks beside them (`TI.passRules`): `CI false` in every phase but the idle
tail, where a logger may be erased and the invariant says whether anything is unflushed (`CIg`).
-/
namespace Backend.PB

def isWr (sid : Nat) : Ev → Bool
  | .write s _ _ _ _ => s == sid
  | _ => false

def isFl (sid : Nat) : Ev → Bool
  | .flushed s => s == sid
  | .fthrow s => s == sid
  | _ => false

def neutral : Ev → Bool
  | .write .. => false
  | .flushed _ => false
  | .fthrow _ => false
  | _ => true

/-- the newest event of sink `sid` in the log is a write: the sink holds unflushed output -/
def unfl (sid : Nat) : List Ev → Bool
  | [] => false
  | e :: l => if isWr sid e then true else if isFl sid e then false else unfl sid l

theorem neutral_isWr {e : Ev} (h : neutral e = true) (sid : Nat) : isWr sid e = false := by
  cases e <;> simp_all [neutral, isWr]
theorem neutral_isFl {e : Ev} (h : neutral e = true) (sid : Nat) : isFl sid e = false := by
  cases e <;> simp_all [neutral, isFl]
theorem neutral_ordWrite {e : Ev} (h : neutral e = true) (sid id : Nat) : PA.ordWrite sid id e = false := by
  cases e <;> simp_all [neutral, PA.ordWrite]

theorem ordWrite_of_isWr {sid : Nat} {e : Ev} (h : isWr sid e = false) (id : Nat) : PA.ordWrite sid id e = false := by
  cases e <;> simp_all [isWr, PA.ordWrite]

theorem wcount_zero {new : List Ev} {sid id : Nat} (h : ∀ e ∈ new, PA.ordWrite sid id e = false) :
    PA.wcount new sid id = 0 := by
  unfold PA.wcount
  rw [List.countP_eq_zero]
  intro e he
  rw [h e he]
  exact Bool.false_ne_true

theorem unfl_append (sid : Nat) (new l : List Ev) :
    unfl sid (new ++ l) = match new.find? (fun e => isWr sid e || isFl sid e) with
      | some e => isWr sid e
      | none => unfl sid l := by
  induction new with
  | nil => rfl
  | cons e es ih =>
    rw [List.cons_append, unfl, List.find?_cons]
    cases hw : isWr sid e with
    | true => simp only [Bool.true_or, if_true, hw]
    | false =>
      cases hf : isFl sid e with
      | true => simp only [Bool.false_eq_true, if_false, if_true, Bool.or_true, hw]
      | false => simpa only [Bool.false_eq_true, if_false, Bool.or_false] using ih

theorem unfl_append_plain (sid : Nat) (new l : List Ev) (h : ∀ e ∈ new, isWr sid e = false ∧ isFl sid e = false) :
    unfl sid (new ++ l) = unfl sid l := by
  rw [unfl_append, List.find?_eq_none.mpr (fun e he => by simp [h e he])]

theorem unfl_append_flushed (sid : Nat) (new l : List Ev) (hw : ∀ e ∈ new, isWr sid e = false)
    (hf : ∃ e ∈ new, isFl sid e = true) : unfl sid (new ++ l) = false := by
  rw [unfl_append]
  split
  · rename_i e he; exact hw e (List.mem_of_find?_eq_some he)
  · rename_i hn
    obtain ⟨e, he, hfe⟩ := hf
    have := List.find?_eq_none.mp hn e he
    simp [hfe] at this

theorem unfl_append_true (sid : Nat) (new l : List Ev) (h : unfl sid (new ++ l) = true) :
    unfl sid l = true ∨ ∃ e ∈ new, isWr sid e = true := by
  rw [unfl_append] at h
  split at h
  · rename_i e he; exact .inr ⟨e, List.mem_of_find?_eq_some he, h⟩
  · exact .inl h

/-- reading `unfl … = false`: every write of the sink is followed (towards the newer end) by a flush of that sink -/
theorem unfl_false_split (sid : Nat) (a b : List Ev) (e : Ev) (h : unfl sid (a ++ e :: b) = false)
    (he : isWr sid e = true) : ∃ x ∈ a, isFl sid x = true := by
  rw [unfl_append] at h
  split at h
  · rename_i x hx
    exact ⟨x, List.mem_of_find?_eq_some hx, by simpa [h] using List.find?_some hx⟩
  · simp [unfl, he] at h

structure CI (fz : Bool) (s : BSt) : Prop where
  cfgF : s.cfg.flushInvalidatedLoggers = true
  cfgE : s.cfg.flushInterval = 0 ∨ s.cfg.flushBeforeLoggerErase = true
  act : ∀ sid, unfl sid s.log = true → ∃ i, (s.lgOf i).erased = false ∧ sid ∈ (s.lgOf i).sinks
  fzc : fz = true → ∀ sid, unfl sid s.log = false
  fl1 : ∀ fn ∈ s.flagLog, fn.2 ≤ s.log.length ∧ ∀ sid, unfl sid (s.log.drop (s.log.length - fn.2)) = false
  fl2 : ∀ fn ∈ s.flagLog, fn.1 ∈ s.flags
  fl3 : ∀ f ∈ s.flags, ∃ n, (f, n) ∈ s.flagLog
  wr : ∀ fn ∈ s.flagLog, ∀ i pre st more, (s.th i).popped = pre ++ st :: more → st.kind = .flush fn.1 →
        ∀ r ∈ pre, PA.isOrd r = true → ∀ sid, PA.wcount (s.log.take (s.log.length - fn.2)) sid r.id = 0

theorem CI.weaken {fz : Bool} {s : BSt} (h : CI fz s) : CI false s :=
  { h with fzc := fun hf => by cases hf }

/-- the oldest `n` entries of a log (newest first) are not affected by what is put in front -/
theorem drop_append_oldest {α} (new l : List α) {n : Nat} (hn : n ≤ l.length) :
    (new ++ l).drop ((new ++ l).length - n) = l.drop (l.length - n) := by
  have e : (new ++ l).length - n = new.length + (l.length - n) := by rw [List.length_append, Nat.add_sub_assoc hn]
  rw [e, List.drop_append, List.drop_of_length_le (Nat.le_add_right _ _), Nat.add_sub_cancel_left, List.nil_append]

theorem take_append_oldest {α} (new l : List α) {n : Nat} (hn : n ≤ l.length) :
    (new ++ l).take ((new ++ l).length - n) = new ++ l.take (l.length - n) := by
  have e : (new ++ l).length - n = new.length + (l.length - n) := by rw [List.length_append, Nat.add_sub_assoc hn]
  rw [e, List.take_append, List.take_of_length_le (Nat.le_add_right _ _), Nat.add_sub_cancel_left]

theorem CI.grow {fz fz' : Bool} {s s' : BSt} (h : CI fz s) (hcfg : s'.cfg = s.cfg) (new : List Ev) (hlog : s'.log = new ++ s.log)
    (hfl : s'.flagLog = s.flagLog) (hflags : s'.flags = s.flags)
    (hpop : ∀ i, (s'.th i).popped = (s.th i).popped)
    (hact : ∀ sid, unfl sid s'.log = true → ∃ i, (s'.lgOf i).erased = false ∧ sid ∈ (s'.lgOf i).sinks)
    (hfz : fz' = true → ∀ sid, unfl sid s'.log = false)
    (hw : ∀ fn ∈ s.flagLog, ∀ i pre st more, (s.th i).popped = pre ++ st :: more → st.kind = .flush fn.1 →
        ∀ r ∈ pre, PA.isOrd r = true → ∀ sid, PA.wcount new sid r.id = 0) : CI fz' s' := by
  refine ⟨by rw [hcfg]; exact h.cfgF, by rw [hcfg]; exact h.cfgE, hact, hfz, ?_, ?_, ?_, ?_⟩
  · intro fn hfn
    rw [hfl] at hfn
    obtain ⟨h1, h2⟩ := h.fl1 fn hfn
    rw [hlog, drop_append_oldest new s.log h1]
    exact ⟨by rw [List.length_append]; exact Nat.le_trans h1 (Nat.le_add_left _ _), h2⟩
  · intro fn hfn; rw [hfl] at hfn; rw [hflags]; exact h.fl2 fn hfn
  · intro f hf; rw [hflags] at hf; rw [hfl]; exact h.fl3 f hf
  · intro fn hfn i pre st more hp hk r hr ho sid
    rw [hfl] at hfn
    rw [hpop] at hp
    rw [hlog, take_append_oldest new s.log (h.fl1 fn hfn).1, PA.wcount_append,
      h.wr fn hfn i pre st more hp hk r hr ho sid, hw fn hfn i pre st more hp hk r hr ho sid]

/-- what a frontend operation may do to the things `CI` mentions -/
structure FRel (s s' : BSt) : Prop where
  cfg : s'.cfg = s.cfg
  log : ∃ new, s'.log = new ++ s.log ∧ ∀ e ∈ new, neutral e = true
  lg : ∀ i sid, (s.lgOf i).erased = false → sid ∈ (s.lgOf i).sinks → (s'.lgOf i).erased = false ∧ sid ∈ (s'.lgOf i).sinks
  fl : s'.flagLog = s.flagLog
  flags : s'.flags = s.flags
  pop : ∀ i, (s'.th i).popped = (s.th i).popped

theorem FRel.refl (s : BSt) : FRel s s :=
  ⟨rfl, LogExt.refl s, fun _ _ h1 h2 => ⟨h1, h2⟩, rfl, rfl, fun _ => rfl⟩

theorem FRel.trans {a b c : BSt} (h1 : FRel a b) (h2 : FRel b c) : FRel a c :=
  ⟨h2.cfg.trans h1.cfg, LogExt.trans h1.log h2.log,
   fun i sid he hs => h2.lg i sid (h1.lg i sid he hs).1 (h1.lg i sid he hs).2, h2.fl.trans h1.fl, h2.flags.trans h1.flags,
   fun i => (h2.pop i).trans (h1.pop i)⟩

theorem CI.frel {fz : Bool} {s s' : BSt} (h : CI fz s) (r : FRel s s') : CI fz s' := by
  obtain ⟨new, hlog, hn⟩ := r.log
  have hun : ∀ sid, unfl sid s'.log = unfl sid s.log := fun sid => by
    rw [hlog]; exact unfl_append_plain sid new _ (fun e he => ⟨neutral_isWr (hn e he) sid, neutral_isFl (hn e he) sid⟩)
  refine h.grow r.cfg new hlog r.fl r.flags r.pop ?_ ?_ ?_
  · intro sid hs
    rw [hun] at hs
    obtain ⟨i, h1, h2⟩ := h.act sid hs
    exact ⟨i, r.lg i sid h1 h2⟩
  · intro hf sid; rw [hun]; exact h.fzc hf sid
  · intro fn _ i pre st more _ _ x _ _ sid
    exact wcount_zero (fun e he => neutral_ordWrite (hn e he) sid x.id)

theorem FRel.ofEq {s s' : BSt} (h0 : s'.cfg = s.cfg) (h1 : s'.log = s.log) (h2 : s'.lgs = s.lgs) (h3 : s'.flagLog = s.flagLog)
    (h4 : s'.flags = s.flags) (h5 : s'.ths = s.ths) : FRel s s' :=
  ⟨h0, LogExt.of_eq h1, fun i sid he hs => by rw [lgOf_of_lgs h2]; exact ⟨he, hs⟩, h3, h4,
   rel_of_ths (r := fun t t' => t'.popped = t.popped) (fun _ => rfl) h5⟩

theorem CI.same {fz : Bool} {s s' : BSt} (h : CI fz s) (hcfg : s'.cfg = s.cfg) (hlog : s'.log = s.log) (hlgs : s'.lgs = s.lgs)
    (hfl : s'.flagLog = s.flagLog) (hflags : s'.flags = s.flags) (hths : s'.ths = s.ths) : CI fz s' :=
  h.frel (FRel.ofEq hcfg hlog hlgs hfl hflags hths)

theorem FRel.setTh (s : BSt) (i : Nat) (f : Th → Th) (hf : ∀ t, (f t).popped = t.popped) : FRel s (s.setTh i f) :=
  ⟨rfl, LogExt.refl s, fun _ _ h1 h2 => ⟨h1, h2⟩, rfl, rfl, fun j => th_setTh_proj (·.popped) s i j f hf⟩

theorem FRel.setLg (s : BSt) (i : Nat) (f : Lg → Lg) (hf : ∀ l, (f l).erased = l.erased ∧ (f l).sinks = l.sinks) :
    FRel s (s.setLg i f) := by
  refine ⟨rfl, LogExt.refl s, fun j sid he hs => ?_, rfl, rfl, fun _ => rfl⟩
  rw [lgOf_setLg_proj (·.erased) s i j f (fun l => (hf l).1), lgOf_setLg_proj (·.sinks) s i j f (fun l => (hf l).2)]
  exact ⟨he, hs⟩

theorem FRel.emit (s : BSt) (e : Ev) (he : neutral e = true) : FRel s (s.emit e) :=
  ⟨rfl, LogExt.emit s e he, fun _ _ h1 h2 => ⟨h1, h2⟩, rfl, rfl, fun _ => rfl⟩

/-- nothing the frontend emits is a write or a flush, no logger is erased or loses a sink, and a new logger takes an index
    no sink list was read at -/
theorem frel_front : FrontSteps FRel where
  refl := FRel.refl
  trans := FRel.trans
  tick _ _ := FRel.ofEq rfl rfl rfl rfl rfl rfl
  act _ _ _ _ _ _ _ _ := FRel.ofEq rfl rfl rfl rfl rfl rfl
  setThMisc s i f _ hf := FRel.setTh s i f hf
  ensureCtx s a := by
    unfold Backend.ensureCtx
    split
    · exact FRel.refl _
    · exact ⟨rfl, LogExt.refl s, fun _ _ h1 h2 => ⟨h1, h2⟩, rfl, rfl, th_newCtx_congr (·.popped) s a rfl⟩
  tryEnq s ci st := by
    unfold Backend.tryEnq
    simp only
    split <;> exact FRel.setTh s ci _ (fun _ => rfl)
  setLg s i f hf := FRel.setLg s i f (fun l => by rw [hf l]; exact ⟨rfl, rfl⟩)
  newLg s g sl := by
    refine ⟨rfl, LogExt.refl s, fun i sid he hs => ?_, rfl, rfl, fun _ => rfl⟩
    rw [lgOf_append (s := s) rfl i, if_neg (Nat.ne_of_lt (lgOf_lt_of_sink hs))]
    exact ⟨he, hs⟩
  setSink _ _ _ _ := FRel.ofEq rfl rfl rfl rfl rfl rfl
  dtor s sid := FRel.emit s _ rfl
  injEv s _ _ _ _ := FRel.emit s _ rfl

theorem frel_runInj (table : List (Nat × Nat × List FOp)) (s : BSt) (site : Nat) :
    FRel s (Backend.runInj table s site) := frel_front.runInj table s site

theorem processEvent_writes (s : BSt) (st : Stmt)
    (hring : ∀ r, (s.lgOf st.lg).bt = some r → ∀ x ∈ r.items, x.lg = st.lg) (hk : ∀ f, st.kind ≠ .flush f) :
    ∃ evs, (processEvent s st).1.log = evs ++ s.log ∧
      ∀ e ∈ evs, ∀ sid, isWr sid e = true → sid ∈ (s.lgOf st.lg).sinks := by
  refine (processEvent_ext s st).mono fun e he sid hw => ?_
  have hW : ∀ {x : Stmt}, wEv x (s.lgOf x.lg).sinks e → sid ∈ (s.lgOf x.lg).sinks := by
    rintro x ⟨k, hk, rfl | rfl⟩
    · exact beq_iff_eq.mp hw ▸ hk
    · cases hw
  rcases he with ⟨_, he⟩ | (rfl | ⟨x, hx, he⟩) | ⟨⟨f, hf⟩, _⟩
  · exact hW he
  · cases hw
  · unfold ringOf at hx
    cases hb : (s.lgOf st.lg).bt with
    | none => rw [hb] at hx; cases hx
    | some r => rw [hb] at hx; exact hring r hb x hx ▸ hW he
  · exact absurd hf (hk f)

variable {inj : BSt → Nat → BSt}

theorem frel_quiet : QuietRel FRel where
  refl := FRel.refl
  trans := FRel.trans
  reg _ _ _ _ _ _ _ := FRel.ofEq rfl rfl rfl rfl rfl rfl
  setThMisc s i f _ hf := FRel.setTh s i f hf
  ctxEmpty s i := FRel.setTh s i _ (fun _ => rfl)
  note s _ := FRel.emit s _ rfl

theorem frel_read : ReadRel FRel :=
  frel_quiet.readRel (fun s i f hf => FRel.setTh s i f (fun t => by rw [hf t])) (fun _ _ => FRel.ofEq rfl rfl rfl rfl rfl rfl)

/-- stated for a variable `y`: asked for `(raiseSt X f).log = X.log` with a large `X`, the unifier first compares
    `raiseSt X f` with `X` and runs both -/
theorem raiseSt_spec (y : BSt) (f : Nat) :
    (PC.raiseSt y f).flags.head? = some f ∧
    (PC.raiseSt y f).flagLog.head? = some (f, (PC.raiseSt y f).log.length) ∧
    (PC.raiseSt y f).log = y.log :=
  ⟨rfl, rfl, rfl⟩

/-- When the backend processes a Flush event (it is the minimum front), it flushes every
    active sink, pops the event, (reports failure counters, cleans up contexts) and only then raises the flag:
    the log at the moment of the raise ends with `mid ++ blk ++ (the log before)`, `blk` holding a
    `flushed`/`fthrow` event for every active sink. -/
theorem flush_step (hrel : ∀ s k, FRel s (inj s k)) (s : BSt) (j : Nat) (st : Stmt)
    (rest : List Stmt) (f : Nat) (hl : lowest s = some j) (hb : (s.th j).buf = st :: rest) (hk : st.kind = .flush f) :
    (Backend.processLowest inj s).2 = true ∧
    (Backend.processLowest inj s).1.flags.head? = some f ∧
    (Backend.processLowest inj s).1.flagLog.head? = some (f, (Backend.processLowest inj s).1.log.length) ∧
    ∃ mid blk, (Backend.processLowest inj s).1.log = mid ++ blk ++ s.log ∧
      (∀ sid ∈ activeSinks s, Ev.flushed sid ∈ blk ∨ Ev.fthrow sid ∈ blk) ∧
      (∀ e ∈ blk, (∃ sid, e = Ev.flushed sid ∨ e = Ev.fthrow sid) ∨ e = Ev.notify "n:ffail") := by
  have hpl : Backend.processLowest inj s = (PC.raiseSt (flushTail inj (PC.popSt s j st rest)) f, true) := by
    rw [Backend.processLowest_eq]
    simp only [hl, hb, processEvent_flush s st f hk]
  rw [hpl]
  obtain ⟨p1, p2, p3⟩ := raiseSt_spec (flushTail inj (PC.popSt s j st rest)) f
  obtain ⟨blk, e1, e2, e3⟩ := flushSinks_log s
  obtain ⟨mid, em, _⟩ := (frel_quiet.flushTail hrel (PC.popSt s j st rest)).log
  have el : (PC.popSt s j st rest).log = (flushSinks s).log := by rw [popSt_flush s j st rest hk]; rfl
  exact ⟨rfl, p1, p2, mid, blk, by rw [p3, em, el, e1, List.append_assoc], e2, e3⟩

theorem mem_activeSinks_of {s : BSt} (hF : s.cfg.flushInvalidatedLoggers = true) {i sid : Nat}
    (he : (s.lgOf i).erased = false) (hs : sid ∈ (s.lgOf i).sinks) : sid ∈ activeSinks s := by
  have hi := lgOf_lt_of_sink hs
  have hlg : s.lgOf i = s.lgs[i] := lgOf_eq_getElem s i hi
  unfold activeSinks
  simp only
  rw [List.mem_eraseDups, List.mem_flatMap]
  refine ⟨s.lgs[i], ?_, by rw [← hlg]; exact hs⟩
  rw [mem_insSorted, List.mem_filter]
  refine ⟨List.getElem_mem hi, ?_⟩
  rw [← hlg, he, hF]; simp

theorem CI.flushSinks {fz : Bool} {s : BSt} (h : CI fz s) : CI true (Backend.flushSinks s) := by
  obtain ⟨blk, e1, e2, e3⟩ := flushSinks_log s
  have hnw : ∀ e ∈ blk, ∀ sid, isWr sid e = false := by
    intro e he sid
    rcases e3 e he with ⟨k, rfl | rfl⟩ | rfl <;> rfl
  have hall : ∀ sid, unfl sid (blk ++ s.log) = false := by
    intro sid
    by_cases hu : unfl sid s.log = true
    · obtain ⟨i, he, hs⟩ := h.act sid hu
      have hact := mem_activeSinks_of h.cfgF he hs
      apply unfl_append_flushed sid blk _ (fun e he' => hnw e he' sid)
      rcases e2 sid hact with hm | hm
      · exact ⟨_, hm, by simp [isFl]⟩
      · exact ⟨_, hm, by simp [isFl]⟩
    · cases hx : unfl sid (blk ++ s.log) with
      | false => rfl
      | true =>
        rcases unfl_append_true sid blk _ hx with h1 | ⟨e, he, hw⟩
        · exact absurd h1 hu
        · rw [hnw e he sid] at hw; cases hw
  -- apart from the log only `sinks` and `out` change
  obtain ⟨a, c, d, hsh⟩ := flushSinks_sol s
  rw [hsh] at e1 ⊢
  have hun := fun sid => (congrArg (unfl sid) e1).trans (hall sid)
  exact h.grow rfl blk e1 rfl rfl (fun i => rfl) (fun sid hs => absurd ((hun sid).symm.trans hs) Bool.false_ne_true)
    (fun _ => hun)
    (fun fn _ i pre st more _ _ r _ _ sid => wcount_zero (fun e he => ordWrite_of_isWr (hnw e he sid) r.id))

theorem CI.erase {s : BSt} (h : CI true s) (i : Nat) : CI true (s.setLg i (fun l => { l with erased := true })) :=
  h.grow rfl [] rfl rfl rfl (fun _ => rfl)
    (fun sid hs => absurd ((h.fzc rfl sid).symm.trans hs) Bool.false_ne_true)
    (fun _ sid => h.fzc rfl sid)
    (fun _ _ _ _ _ _ _ _ _ _ _ _ => rfl)

theorem CI.raise {s : BSt} (h : CI true s) (f : Nat) (rf : List (Nat × Nat)) :
    CI true { s with flags := f :: s.flags, flagLog := (f, s.log.length) :: s.flagLog, removalFlags := rf } := by
  refine ⟨h.cfgF, h.cfgE, h.act, h.fzc, ?_, ?_, ?_, ?_⟩
  · intro fn hfn
    rcases List.mem_cons.mp hfn with rfl | hfn
    · refine ⟨Nat.le_refl _, fun sid => ?_⟩
      show unfl sid (s.log.drop (s.log.length - s.log.length)) = false
      rw [Nat.sub_self, List.drop_zero]; exact h.fzc rfl sid
    · exact h.fl1 fn hfn
  · intro fn hfn
    rcases List.mem_cons.mp hfn with rfl | hfn
    · exact List.mem_cons_self ..
    · exact List.mem_cons_of_mem _ (h.fl2 fn hfn)
  · intro g hg
    rcases List.mem_cons.mp hg with rfl | hg
    · exact ⟨s.log.length, List.mem_cons_self ..⟩
    · obtain ⟨n, hn⟩ := h.fl3 g hg; exact ⟨n, List.mem_cons_of_mem _ hn⟩
  · intro fn hfn i pre st more hp hk r hr ho sid
    rcases List.mem_cons.mp hfn with rfl | hfn
    · show PA.wcount (s.log.take (s.log.length - s.log.length)) sid r.id = 0
      rw [Nat.sub_self, List.take_zero]; rfl
    · exact h.wr fn hfn i pre st more hp hk r hr ho sid

theorem CI.cleanupLoggers (hrel : ∀ s k, FRel s (inj s k)) {s : BSt} (h : CI true s) :
    CI true (Backend.cleanupLoggers inj s) :=
  cleanupLoggers_pres (CI true) inj (fun x hx => hx.frel (hrel x 9)) (fun _ _ hx => hx.frel (FRel.ofEq rfl rfl rfl rfl rfl rfl))
    (fun x hx => hx.frel (frel_quiet.allEmpty x)) (fun x i hx _ _ => (hx.frel (frel_quiet.allEmpty x)).erase i)
    (fun x sid hx _ _ => hx.frel (FRel.trans (b := x.setSink sid (fun k => { k with alive := false }))
      (FRel.ofEq rfl rfl rfl rfl rfl rfl) (FRel.emit _ _ rfl)))
    (fun _ _ _ hx _ => hx.raise _ _) s h

theorem flushGate_cfg (hrel : ∀ s k, FRel s (inj s k)) (s : BSt) (n : Nat) : (Backend.flushGate inj s n).cfg = s.cfg :=
  flushGate_pres (fun x => x.cfg = s.cfg) inj (fun x h => (flushSinks_sol x).cfg.trans h) (fun x h => (hrel x 7).cfg.trans h)
    (fun _ h => h) s n rfl

/-- the idle flush behind `sink_min_flush_interval`: with interval 0 nothing is left unflushed; otherwise the invariant is
    merely kept (whether or not the gate opened) -/
theorem CI.flushGate (hrel : ∀ s k, FRel s (inj s k)) {fz : Bool} {s : BSt} (h : CI fz s) :
    ∃ fz', CI fz' (Backend.flushGate inj s s.cfg.flushInterval) ∧
      ((Backend.flushGate inj s s.cfg.flushInterval).cfg.flushInterval = 0 → fz' = true) := by
  by_cases h0 : s.cfg.flushInterval = 0
  · rw [h0, flushGate_zero]; exact ⟨true, h.flushSinks, fun _ => rfl⟩
  · refine ⟨false, ?_, fun hc => absurd (by rw [flushGate_cfg hrel] at hc; exact hc) h0⟩
    exact flushGate_pres (CI false) inj (fun _ hx => hx.flushSinks.weaken) (fun x hx => hx.frel (hrel x 7))
      (fun _ hx => hx.frel (FRel.ofEq rfl rfl rfl rfl rfl rfl)) s _ h.weaken

/-- the erase is preceded by a flush (`_cleanup_invalidated_loggers` with its head flush, F33): either nothing was
    unflushed on entry (interval 0: the idle pass has just flushed; `_exit`: the final flush), or the head of the clean-up
    flushes every sink still reachable before any logger is erased -/
theorem CI.eraseTail (hrel : ∀ s k, FRel s (inj s k)) {fz : Bool} {s : BSt} (h : CI fz s)
    (hz : s.cfg.flushInterval = 0 → fz = true) :
    CI false (Backend.cleanupLoggers inj (Backend.preEraseFlush s)) := by
  unfold Backend.preEraseFlush
  by_cases hE : s.cfg.flushBeforeLoggerErase = true
  · by_cases hI : s.hasInvalidLoggers = true
    · rw [hE, hI]
      simp only [Bool.and_self, if_true]
      exact (h.flushSinks.cleanupLoggers hrel).weaken
    · have hI' : s.hasInvalidLoggers = false := by simpa using hI
      rw [hI']
      simp only [Bool.and_false, Bool.false_eq_true, if_false]
      rw [cleanupLoggers_fold, hI']
      exact h.weaken
  · have h0 := h.cfgE.resolve_right hE
    have hfz := hz h0
    subst hfz
    have hE' : s.cfg.flushBeforeLoggerErase = false := by simpa using hE
    rw [hE']
    simp only [Bool.false_and, Bool.false_eq_true, if_false]
    exact (h.cleanupLoggers hrel).weaken

theorem append_singleton_split {α} {l pre more : List α} {x st : α} (h : l ++ [x] = pre ++ st :: more) :
    (∃ more', l = pre ++ st :: more' ∧ more = more' ++ [x]) ∨ (l = pre ∧ st = x ∧ more = []) := by
  -- compare the last elements
  rcases List.eq_nil_or_concat more with rfl | ⟨more', y, rfl⟩
  · obtain ⟨h1, h2⟩ := List.append_inj' h rfl
    exact .inr ⟨h1, (List.cons.inj h2).1.symm, rfl⟩
  · rw [List.concat_eq_append, ← List.cons_append, ← List.append_assoc] at h
    obtain ⟨h1, h2⟩ := List.append_inj' h rfl
    exact .inl ⟨more', h1, by rw [List.concat_eq_append, (List.cons.inj h2).1]⟩

theorem CI.popTh {fz : Bool} {s : BSt} (h : CI fz s) (j : Nat) (x : Stmt) (rest : List Stmt)
    (hx : ∀ fn ∈ s.flagLog, x.kind ≠ .flush fn.1) :
    CI fz { s.setTh j (fun t => { t with buf := rest, popped := t.popped ++ [x] }) with popLog := x :: s.popLog } := by
  refine ⟨h.cfgF, h.cfgE, h.act, h.fzc, h.fl1, h.fl2, h.fl3, ?_⟩
  intro fn hfn i pre st more hp hk r hr ho sid
  have hth : ({ s.setTh j (fun t => { t with buf := rest, popped := t.popped ++ [x] }) with popLog := x :: s.popLog } : BSt).th i =
      (s.setTh j (fun t => { t with buf := rest, popped := t.popped ++ [x] })).th i := rfl
  rw [hth] at hp
  rcases th_setTh_cases s j i (fun t => { t with buf := rest, popped := t.popped ++ [x] }) with h1 | ⟨rfl, _, h1⟩
  · rw [h1] at hp; exact h.wr fn hfn i pre st more hp hk r hr ho sid
  · rw [h1] at hp
    rcases append_singleton_split hp with ⟨more', e1, _⟩ | ⟨_, e2, _⟩
    · exact h.wr fn hfn i pre st more' e1 hk r hr ho sid
    · rw [e2] at hk; exact absurd hk (hx fn hfn)

theorem CI.processEvent {fz : Bool} {s : BSt} (h : CI fz s) (x : Stmt) (hk : ∀ f, x.kind ≠ .flush f)
    (hlive : (s.lgOf x.lg).erased = false)
    (hring : ∀ r, (s.lgOf x.lg).bt = some r → ∀ y ∈ r.items, y.lg = x.lg) (hro : PA.RingOK s)
    (hpu : PA.isOrd x = true → ∀ fn ∈ s.flagLog, ∀ i pre st more, (s.th i).popped = pre ++ st :: more →
      st.kind = .flush fn.1 → ∀ r ∈ pre, PA.isOrd r = true → r.id ≠ x.id) :
    CI false (Backend.processEvent s x).1 := by
  obtain ⟨evs, e1, e2⟩ := processEvent_writes s x hring hk
  obtain ⟨a, b, c, d, hsh⟩ := slol_dispRel.processEvent s x
  have hlg : ∀ i, ((Backend.processEvent s x).1.lgOf i).erased = (s.lgOf i).erased ∧
      ((Backend.processEvent s x).1.lgOf i).sinks = (s.lgOf i).sinks :=
    fun i => ⟨(PC.lgKeep_dispRel.processEvent s x).erased i, (PC.lgKeep_dispRel.processEvent s x).sinks i⟩
  refine h.grow (by rw [hsh]) evs e1 (by rw [hsh]) (by rw [hsh]) (fun i => by rw [hsh]; rfl) ?_
    (fun hf => by cases hf) ?_
  · intro sid hs
    rw [e1] at hs
    rcases unfl_append_true sid evs _ hs with h1 | ⟨e, he, hw⟩
    · obtain ⟨i, he', hs'⟩ := h.act sid h1
      exact ⟨i, by rw [(hlg i).1]; exact he', by rw [(hlg i).2]; exact hs'⟩
    · exact ⟨x.lg, by rw [(hlg x.lg).1]; exact hlive, by rw [(hlg x.lg).2]; exact e2 e he sid hw⟩
  · intro fn hfn i pre st more hp hkf r hr ho sid
    obtain ⟨_, hx⟩ := PA.processEvent_pext hro x
    have hb := hx.count_le sid r.id
    rw [e1, PA.wcount_append] at hb
    have hne : ¬ (PA.isOrd x = true ∧ x.id = r.id) := by
      rintro ⟨h1, h2⟩
      exact hpu h1 fn hfn i pre st more hp hkf r hr ho h2.symm
    rw [if_neg hne] at hb
    omega

/-- what the pop needs from the invariants of the other bundles, in the state it starts from -/
structure Ext (s : BSt) : Prop where
  live : ∀ j x rest, (s.th j).buf = x :: rest → (s.lgOf x.lg).erased = false
  ring : ∀ i r, (s.lgOf i).bt = some r → ∀ y ∈ r.items, y.lg = i
  ringOK : PA.RingOK s
  puniq : ∀ j x rest, (s.th j).buf = x :: rest → PA.isOrd x = true → ∀ r ∈ s.popLog, PA.isOrd r = true → r.id ≠ x.id
  fi : ∃ pf, FI none pf s

/-- the pop of an event other than a Flush: its writes go to sinks of a live logger -/
theorem CI.popPlain {fz : Bool} {s : BSt} (h : CI fz s) (hx : Ext s) (j : Nat) (x : Stmt) (rest : List Stmt)
    (hb : (s.th j).buf = x :: rest) (hn : (Backend.processEvent s x).2.2 = none) : CI false (PC.popSt s j x rest) := by
  obtain ⟨pf, hfi⟩ := hx.fi
  have hk : ∀ f, x.kind ≠ .flush f := by
    intro f hf
    rw [processEvent_flush s x f hf] at hn; cases hn
  have h1 : CI false (Backend.processEvent s x).1 := by
    refine h.processEvent x hk (hx.live j x rest hb) (hx.ring x.lg) hx.ringOK ?_
    intro ho fn hfn i pre st more hp hkf r hr hor
    refine hx.puniq j x rest hb ho r ?_ hor
    exact hfi.plog i r (by rw [hp]; exact List.mem_append_left _ hr)
  rw [popSt_proc]
  exact (procSt_pres (CI false) s x h1 (fun _ => h1.frel (FRel.emit _ _ rfl))).popTh j x rest (fun fn _ => hk fn.1)

/-- the pop of a Flush event: every sink has just been flushed, and its flag is not among those raised -/
theorem CI.popFlush {fz : Bool} {pf : List Nat} {s : BSt} (h : CI fz s) (hfi : FI none pf s) (j : Nat) (x : Stmt)
    (rest : List Stmt) (hb : (s.th j).buf = x :: rest) {f : Nat} (hk : x.kind = .flush f) :
    CI true (PC.popSt s j x rest) := by
  have h1 : CI true (Backend.flushSinks s) := h.flushSinks
  rw [popSt_flush s j x rest hk]
  refine h1.popTh j x rest (fun fn hfn hkk => ?_)
  rw [hk] at hkk
  simp only [Kind.flush.injEq] at hkk
  have hfl2 : fn.1 ∈ (Backend.flushSinks s).flags := h1.fl2 fn hfn
  rw [(flushSinks_sol s).flags] at hfl2
  exact FI.buf_flag_not_raised hfi (by rw [hb]; exact List.mem_cons_self ..) hk (by rw [hkk]; exact hfl2)

/-- between the pop of a Flush event and the raising of its flag nothing is written, so nothing is unflushed at the raise -/
theorem CI.processLowest (hrel : ∀ s k, FRel s (inj s k)) {fz : Bool} {s : BSt} (h : CI fz s) (hx : Ext s) :
    CI false (Backend.processLowest inj s).1 :=
  processLowest_rule (fun x => CI fz x ∧ Ext x) (CI false) (fun _ => CI true) (fun _ hx => hx.1.weaken)
    (fun _ j st rest hx _ hb hn => hx.1.popPlain hx.2 j st rest hb hn)
    (fun _ j st rest _ hx _ hb hk => hx.2.fi.elim fun _ hfi => hx.1.popFlush hfi j st rest hb hk)
    (fun _ x i hx _ => hx.frel (frel_quiet.report hrel x i))
    (fun _ x hx => hx.frel (frel_quiet.cleanupContexts x))
    (fun f _ hx => (hx.raise f _).weaken) s ⟨h, hx⟩

/-- the invariants of bundle A: conservation / queue coupling, unique ids, bounded writes, pop-history merge -/
def PAI (s : BSt) : Prop := (PA.InvA s ∧ PA.InvB s) ∧ (PA.InvW s ∧ PA.InvP s)

theorem PAI.closed : PA.Closed PAI := (PA.InvA.closed.and PA.InvB.closed).and (PA.InvW.closed.and PA.InvP.closed)

theorem PAI.inv {s : BSt} (h : PAI s) : PA.Inv s := ⟨h.1.1, h.1.2, h.2.1, h.2.2⟩

structure XS (s : BSt) : Prop where
  a : PAI s
  c : PC.FInv s
  f : ∃ pf, FI none pf s

theorem XS.ext {s : BSt} (h : XS s) : Ext s where
  live := fun j x rest hb =>
    h.c.la0.live j (buf_head_lt hb) x (Or.inr (by rw [hb]; exact List.mem_cons_self ..))
  ring := fun i r hbt => h.c.2.ring i (lgOf_bt_lt hbt) r hbt
  ringOK := h.a.2.1.ring
  puniq := fun j x rest hb ho r hr hor hid => by
    -- after the pop of `x` bundle A's invariant still says that the ordinary statements with its id were popped at most once
    have hpost : PA.Inv (PA.popStep s j x rest) := (PAI.closed.pop s j x rest h.a hb).inv
    have hlen := Nat.le_trans (hpost.countP_ord_le x.id) (hpost.b.cA_logq_le x.id)
    have hpl : (PA.popStep s j x rest).popLog = x :: s.popLog := by
      obtain ⟨s2, hc, e⟩ := PA.popStep_eq s j x rest
      rw [e]
      exact congrArg (x :: ·) hc.popLog
    rw [hpl, List.countP_cons_of_pos (by simp only [PA.pq, ho, beq_self_eq_true, Bool.and_self])] at hlen
    have : 0 < s.popLog.countP (PA.pq x.id) :=
      List.countP_pos_iff.mpr ⟨r, hr, by simp only [PA.pq, hor, hid, beq_self_eq_true, Bool.and_self]⟩
    omega
  fi := h.f

/-- what the flush contract asks of an injection runner: it keeps the three invariants `XS` is made of and stays within `FRel` -/
structure InjX (inj : BSt → Nat → BSt) : Prop where
  a : ∀ s k, PAI s → PAI (inj s k)
  c : PC.InjOK PC.FInv inj
  f : InjOK2 inj
  r : ∀ s k, FRel s (inj s k)

theorem injX_runInj (table : List (Nat × Nat × List FOp)) : InjX (runInj table) :=
  ⟨fun s k h => PA.runInj_closed PAI.closed table s k h, PC.runInj_ok PC.FInv_closed table, injOK2_runInj table,
   fun s k => frel_runInj table s k⟩

theorem XS.iff (s : BSt) : XS s ↔ (PAI s ∧ PC.FInv s) ∧ ∃ pf, FI none pf s :=
  ⟨fun h => ⟨⟨h.a, h.c⟩, h.f⟩, fun h => ⟨h.1.1, h.1.2, h.2⟩⟩

theorem XS.passRules (hj : InjX inj) : PassRules inj XS XS XS :=
  (((PAI.closed.toB.passRules inj hj.a).and (PC.FInv_closed.toClosedB.toC.passRules hj.c)).and
    (PassRules.ex fun _ => FI.passRules hj.f)).congr XS.iff XS.iff XS.iff

-- the injection runner plays no part in the fields `allEmpty`, `finalFlush`, `gclean`: they are read off at the empty table
theorem XS.allEmpty {s : BSt} (h : XS s) : XS (Backend.allEmpty s).1 :=
  (XS.passRules (injX_runInj [])).allEmpty s h

theorem XS.flushSinks {s : BSt} (h : XS s) : XS (Backend.flushSinks s) :=
  (XS.passRules (injX_runInj [])).finalFlush s h

theorem XS.checkFailures (hj : InjX inj) {s : BSt} (h : XS s) : XS (Backend.checkFailures inj s) :=
  (XS.passRules hj).check s h

theorem XS.cleanupContexts {s : BSt} (h : XS s) : XS (Backend.cleanupContexts s) :=
  (XS.passRules (injX_runInj [])).gclean s h

theorem XS.cleanupLoggers (hj : InjX inj) {s : BSt} (h : XS s) : XS (Backend.cleanupLoggers inj s) :=
  ⟨PA.cleanupLoggers_closed PAI.closed.toClosedH inj hj.a s h.a, PC.cleanupLoggers_okC PC.FInv_closed.toClosedB.toC hj.c s h.c,
   h.f.imp fun _ hf => hf.cleanupLoggers hj.f⟩

theorem XS.exitLoop (hj : InjX inj) (tick fuel : Nat) {s : BSt} (h : XS s) : XS (Backend.exitLoop inj tick fuel s) :=
  (XS.passRules hj).exitLoop tick fuel s h

structure TI (s : BSt) : Prop where
  x : XS s
  c : CI false s

/-- the contract in the idle tail of a pass, where a logger may be erased: nothing is unflushed if the flush gate is
    always open -/
def CIg (s : BSt) : Prop := ∃ fz, CI fz s ∧ (s.cfg.flushInterval = 0 → fz = true)

theorem CIg.frel {s s' : BSt} (h : CIg s) (r : FRel s s') : CIg s' :=
  h.elim fun fz h1 => ⟨fz, h1.1.frel r, fun h0 => h1.2 (r.cfg ▸ h0)⟩

theorem TI.passRules (hj : InjX inj) : PassRules inj TI TI (fun s => XS s ∧ CIg s) :=
  have X := XS.passRules hj
  { populate := fun s h => ⟨X.populate s h.x, h.c.frel (frel_read.populate hj.r s)⟩
    idle := fun _ h => h
    lowest := fun s h => ⟨X.lowest s h.x, h.c.processLowest hj.r h.x.ext⟩
    pending := fun s h => ⟨⟨(X.pending s h.x).1, h.c.frel (frel_quiet.hasPending s)⟩,
      fun _ => ⟨(X.pending s h.x).1, h.c.frel (frel_quiet.hasPending s)⟩⟩
    site := fun s k h => ⟨X.site s k h.x, h.c.frel (hj.r s k)⟩
    allEmpty := fun s h => ⟨X.allEmpty s h.x, h.c.frel (frel_quiet.allEmpty s)⟩
    check := fun s h => ⟨X.check s h.x, h.c.frel (frel_quiet.checkFailures hj.r s)⟩
    clock := fun s n h => ⟨X.clock s n h.x, h.c.frel (FRel.ofEq rfl rfl rfl rfl rfl rfl)⟩
    gate := fun s h => ⟨X.gate s h.x, h.c.flushGate hj.r⟩
    finalFlush := fun s h => ⟨X.finalFlush s h.x, true, h.c.flushSinks, fun _ => rfl⟩
    gcheck := fun s h => ⟨X.gcheck s h.1, h.2.frel (frel_quiet.checkFailures hj.r s)⟩
    gallEmpty := fun s h => ⟨X.gallEmpty s h.1, h.2.frel (frel_quiet.allEmpty s)⟩
    gclean := fun s h => ⟨X.gclean s h.1, h.2.frel (frel_quiet.cleanupContexts s)⟩
    gidle := fun _ h => ⟨h.1, h.2.elim fun _ h1 => h1.1.weaken⟩
    erase := fun s h => ⟨X.erase s h.1, h.2.elim fun _ h1 => h1.1.eraseTail hj.r h1.2⟩ }

theorem CI.exitLoop (hj : InjX inj) (tick fuel : Nat) : ∀ (s : BSt) (fz : Bool), CI fz s → XS s →
    CI false (Backend.exitLoop inj tick fuel s) :=
  fun s _ h hx => ((TI.passRules hj).exitLoop tick fuel s ⟨hx, h.weaken⟩).c

theorem TI.front {s : BSt} (h : TI s) (f : FOp) : TI (Backend.applyFront s f).1 :=
  ⟨⟨PAI.closed.front s f h.x.a, PC.FInv_closed.front s f h.x.c, h.x.f.imp fun _ hf => hf.applyFront f⟩,
   h.c.frel (frel_front.applyFront s f)⟩

theorem TI.resetSites {s : BSt} (h : TI s) : TI { s with siteCnt := [] } :=
  ⟨⟨PAI.closed.frame s _ h.x.a (PA.Frame.of_misc rfl),
    PC.FInv_closed.siteCnt s [] h.x.c, h.x.f.imp fun _ hf => hf.frame rfl⟩,
   h.c.frel (FRel.ofEq rfl rfl rfl rfl rfl rfl)⟩

theorem TI.gone {s : BSt} (h : TI s) : TI { s with backendGone := true } :=
  ⟨⟨PAI.closed.frame s _ h.x.a (PA.Frame.of_misc rfl), PC.FInv_closed.gone s h.x.c, h.x.f.imp fun _ hf => hf.frame rfl⟩,
   h.c.frel (FRel.ofEq rfl rfl rfl rfl rfl rfl)⟩

theorem TI.applyOp {s : BSt} (h : TI s) (o : Op) : TI (Backend.applyOp s o).1 :=
  PassRules.applyOp (fun table => TI.passRules (injX_runInj table)) (fun _ f hx => hx.front f) (fun _ hx => hx.resetSites)
    (fun _ hx => hx.gone) s o h

theorem TI.runOps {s : BSt} (h : TI s) (ops : List Op) : TI (Backend.runOps s ops) :=
  List.foldl_inv TI _ (fun _ o hx => hx.applyOp o) ops s h

end Backend.PB

namespace Backend

/-- a freshly started system, for the flush contract: the initial states of the other bundles (no thread, no event,
    `PC.FInv`: names resolve, sinks alive and distinct, no backtrace storage — every `LoggerFresh` state), no flag raised or
    logged yet, the F12 repair in force (the flush covers loggers marked invalid), and — F33 — either
    `sink_min_flush_interval = 0` (the idle pass that erases a logger has just flushed) or the clean-up flushes before it
    erases (`flushBeforeLoggerErase`, the repair) -/
structure StartC (s : BSt) : Prop where
  a : PA.Fresh s
  c : PC.FInv s
  f : StartF s
  flagLog : s.flagLog = []
  f12 : s.cfg.flushInvalidatedLoggers = true
  f33 : s.cfg.flushInterval = 0 ∨ s.cfg.flushBeforeLoggerErase = true

namespace PB

theorem start_TI {s : BSt} (h : StartC s) : TI s := by
  have hinv := h.a.inv
  refine ⟨⟨⟨⟨hinv.a, hinv.b⟩, ⟨hinv.w, hinv.p⟩⟩, h.c, ⟨[], start_FI h.f⟩⟩, ?_⟩
  have hlog : s.log = [] := h.a.log
  refine ⟨h.f12, h.f33, ?_, (fun hf => by cases hf), ?_, ?_, ?_, ?_⟩
  · intro sid hs; rw [hlog] at hs; cases hs
  · intro fn hfn; rw [h.flagLog] at hfn; cases hfn
  · intro fn hfn; rw [h.flagLog] at hfn; cases hfn
  · intro f hf; rw [h.f.flags] at hf; cases hf
  · intro fn hfn; rw [h.flagLog] at hfn; cases hfn

end PB

/-- every system that is fresh in the sense of the three proof bundles, with no flag logged and the F12 repair in
    force, is a start state of the contract -/
theorem C06_startC (s : BSt) (ha : PA.Fresh s) (hc : LoggerFresh s) (hf : StartF s) (h1 : s.flagLog = [])
    (h2 : s.cfg.flushInvalidatedLoggers = true)
    (h3 : s.cfg.flushInterval = 0 ∨ s.cfg.flushBeforeLoggerErase = true) : StartC s := ⟨ha, hc.inv, hf, h1, h2, h3⟩

end Backend
