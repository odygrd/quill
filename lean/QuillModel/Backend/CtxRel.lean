import QuillModel.Backend.BackRel
import QuillModel.Backend.FrontRel
/-!
Two-state relations of the shape "a relation `G` on the fields outside the contexts, and a relation `r` between every
context before and after" (`CtxRel G r`). The context table changes in three ways only — not at all, one context
rewritten, a fresh context appended — so `r` has to be checked on single contexts (`rel_of_ths`, `rel_setTh`,
`rel_newCtx`), and the obligations of `BackRel` / `FrontRel` become facts about one `Th` and about `G`
(`CtxRel.backRel`, `CtxRel.frontRel`).
-/
namespace Backend

variable {r : Th → Th → Prop} {G : BSt → BSt → Prop}

/-- the state `ensureCtx` builds when it registers a context for `a` -/
def newCtxSt (s : BSt) (a : Nat) : BSt :=
  ({ s with ths := s.ths ++ [mkTh s.cfg a], registry := s.registry ++ [s.ths.length], newFlag := true } : BSt).setActor a
    (fun x => { x with ctx := some s.ths.length })

structure CtxRel (G : BSt → BSt → Prop) (r : Th → Th → Prop) (s s' : BSt) : Prop where
  glob : G s s'
  th : ∀ j, r (s.th j) (s'.th j)

structure CtxParts (G : BSt → BSt → Prop) (r : Th → Th → Prop) : Prop where
  grefl : ∀ s, G s s
  gtrans : ∀ {a b c}, G a b → G b c → G a c
  gsetTh : ∀ s i f, G s (s.setTh i f)
  rrefl : ∀ t, r t t
  rtrans : ∀ {a b c}, r a b → r b c → r a c

theorem CtxRel.refl (p : CtxParts G r) (s : BSt) : CtxRel G r s s := ⟨p.grefl s, fun _ => p.rrefl _⟩

theorem CtxRel.trans (p : CtxParts G r) {a b c : BSt} (h1 : CtxRel G r a b) (h2 : CtxRel G r b c) : CtxRel G r a c :=
  ⟨p.gtrans h1.glob h2.glob, fun j => p.rtrans (h1.th j) (h2.th j)⟩

theorem CtxRel.of_ths (p : CtxParts G r) {s s' : BSt} (e : s'.ths = s.ths) (g : G s s') : CtxRel G r s s' :=
  ⟨g, rel_of_ths p.rrefl e⟩

theorem CtxRel.setTh (p : CtxParts G r) (s : BSt) (i : Nat) (f : Th → Th) (hf : r (s.th i) (f (s.th i))) :
    CtxRel G r s (s.setTh i f) := ⟨p.gsetTh s i f, rel_setTh p.rrefl s i f hf⟩

theorem CtxParts.ofView {α} (φ : Th → α) : CtxParts (fun _ _ => True) (fun t t' => φ t' = φ t) :=
  ⟨fun _ => trivial, fun _ _ => trivial, fun _ _ _ => trivial, fun _ => rfl, fun h1 h2 => h2.trans h1⟩

theorem CtxRel.backRel (p : CtxParts G r) (ghk : ∀ {s s'}, CtxSame s s' → G s s')
    (rmisc : ∀ t t' : Th, t'.q = t.q → t'.qStmts = t.qStmts → t'.buf = t.buf → t'.accepted = t.accepted → r t t')
    (rempty : ∀ c (t : Th), r t { t with q := (qEmpty c t.q).1 })
    (rpop : ∀ (t : Th) st rest, t.buf = st :: rest → r t { t with buf := rest, popped := t.popped ++ [st] }) :
    BackRel (CtxRel G r) where
  refl := CtxRel.refl p
  trans := CtxRel.trans p
  hk := fun h => .of_ths p h.ths (ghk h)
  setThMisc := fun s i f hf => .setTh p s i f (rmisc _ _ (hf _).1 (hf _).2.1 (hf _).2.2.1 (hf _).2.2.2)
  ctxEmpty := fun s i => .setTh p s i _ (rempty _ _)
  pop := fun s i st rest hb => (CtxRel.setTh p s i _ (rpop _ st rest hb)).trans p (.of_ths p rfl (ghk (.of_eq rfl)))

theorem CtxRel.frontRel (p : CtxParts G r) (gmisc : ∀ {s s' : BSt}, s'.ths = s.ths → s'.cfg = s.cfg → s.now ≤ s'.now →
      s'.registry = s.registry → G s s')
    (gnew : ∀ s a, G s (newCtxSt s a))
    (rmisc : ∀ t t' : Th, t'.q = t.q → t'.qStmts = t.qStmts → t'.buf = t.buf → t'.accepted = t.accepted →
      t'.popped = t.popped → r t t')
    (rnew : ∀ c a, r default (mkTh c a))
    (renq : ∀ c (t : Th) (st : Stmt) n, r t { t with q := qFinishCommit c (qPrepareWrite c t.q n).1 n,
                                                     qStmts := t.qStmts ++ [st], accepted := t.accepted ++ [st] })
    (rfull : ∀ c (t : Th) n, r t { t with q := (qPrepareWrite c t.q n).1 }) : FrontRel (CtxRel G r) where
  refl := CtxRel.refl p
  trans := CtxRel.trans p
  tick := fun _ _ => .of_ths p rfl (gmisc rfl rfl (Nat.le_add_right _ _) rfl)
  misc := fun _ _ _ _ _ _ _ _ _ _ _ _ => .of_ths p rfl (gmisc rfl rfl (Nat.le_refl _) rfl)
  setThMisc := fun s i f hf hp => .setTh p s i f (rmisc _ _ (hf _).1 (hf _).2.1 (hf _).2.2.1 (hf _).2.2.2 (hp _))
  ensureCtx := fun s a => by
    unfold Backend.ensureCtx
    split
    · exact CtxRel.refl p s
    · exact ⟨gnew s a, rel_newCtx p.rrefl s a (rnew _ _)⟩
  tryEnq := fun s ci st => by
    unfold Backend.tryEnq
    simp only
    split
    · exact .setTh p s ci _ (renq s.cfg (s.th ci) { st with enqAt := s.now } st.size)
    · exact .setTh p s ci _ (rfull _ _ _)

end Backend
