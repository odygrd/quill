import QuillModel.Backend.Ops
/-!
Observation texts of the model (`applyFront`, `applyOp`): classifiers on the characters of a text, the list of quiet
formats, the observation-collecting run. Definitions and `runObs_fst` (lemmas: `Backend/LiftObsStr.lean`, `Backend/LiftObsStep.lean`).
-/
namespace Backend.PC

/-- the text ends with ` ev=1 bytes=0`: what a refused ordinary log call prints -/
def isDropObs (t : String) : Bool := " ev=1 bytes=0".toList.isSuffixOf t.toList

/-- the text ends with ` ret=0 ev=1 bytes=0`: what a refused LOG_DYNAMIC call prints -/
def isRet0Obs (t : String) : Bool := " ret=0 ev=1 bytes=0".toList.isSuffixOf t.toList

/-- the text ends with ` ev=1 bytes=<digits>` (at least one digit): an ordinary log call that reached the reservation -/
def isAttemptObs (t : String) : Bool :=
  !((t.toList.reverse.takeWhile Char.isDigit).isEmpty) &&
    " ev=1 bytes=".toList.reverse.isPrefixOf (t.toList.reverse.dropWhile Char.isDigit)

/-- every observation format of `applyFront` / `applyOp` that is not the line of an attempted ordinary log call -/
inductive Quiet : String → Prop
  | ok : Quiet "ok"
  | noop : Quiet "noop"
  | done : Quiet "done"
  | ev : Quiet "ev"
  | sleep : Quiet "parked:sleep"
  | stall : Quiet "parked:stall"
  | idStall (n : Nat) : Quiet s!"id={n} parked:stall"
  | idSleep (n : Nat) : Quiet s!"id={n} parked:sleep"
  | skip (n : Nat) : Quiet s!"id={n} skip ev=0 bytes=0"
  | ev0 (n : Nat) : Quiet s!"id={n} ev=0 bytes=0"
  | created (k : Nat) : Quiet s!"ok valid=1 nsinks={k}"
  | query (a b : Nat) : Quiet s!"contexts={a} loggers={b}"

/-- the texts of the results of the injected operations of a history -/
def injT : List Ev → List String
  | [] => []
  | .inj _ _ _ r :: l => r :: injT l
  | _ :: l => injT l

end Backend.PC

namespace Backend
/-- run a whole schedule, keeping the observation of every top-level operation (oldest first) -/
def runObs (s : BSt) : List Op → BSt × List String
  | [] => (s, [])
  | o :: os => ((runObs (applyOp s o).1 os).1, (applyOp s o).2 :: (runObs (applyOp s o).1 os).2)

theorem runObs_fst : ∀ (ops : List Op) (s : BSt), (runObs s ops).1 = runOps s ops
  | [], _ => rfl
  | o :: os, s => by
    show (runObs (applyOp s o).1 os).1 = runOps (applyOp s o).1 os
    exact runObs_fst os _
end Backend
