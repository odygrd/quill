import QuillModel.Backend.ConsProofsOnce
/-!
Lift of the pop order to the observable event log: in every reachable state the sequence of
ordinary (`lvl ≠ 9`) `Ev.write` events of the whole history `log` is an *expansion* of the pop history `popLog` —
each popped statement is replaced by zero or more `write` events that carry its id and its timestamp, in pop order
(`Blow`). The property theorems are in `Props/C05Write.lean`.
-/
namespace Backend.PA

/-- `l` (write keys, newest first) arises from `p` (popped statements, newest first) by replacing every statement by
    zero or more writes of that statement -/
inductive Blow : List (Nat × Nat × Nat) → List Stmt → Prop
  | nil : Blow [] []
  | skip {l p} (x : Stmt) : Blow l p → Blow l (x :: p)
  | copy {l p} {x : Stmt} (k : Nat × Nat × Nat) : keyOf k x → Blow l (x :: p) → Blow (k :: l) (x :: p)

theorem Blow.mem {l p} (h : Blow l p) : ∀ k ∈ l, ∃ x ∈ p, keyOf k x := by
  induction h with
  | nil =>
    intro k hk
    cases hk
  | skip x _ ih => intro k hk; obtain ⟨y, hy, hky⟩ := ih k hk; exact ⟨y, List.mem_cons_of_mem _ hy, hky⟩
  | copy k hk _ ih =>
    intro k' hk'
    rcases List.mem_cons.mp hk' with e | e
    · subst e
      exact ⟨_, List.mem_cons_self, hk⟩
    · exact ih k' e

theorem Blow.sorted {l p} (h : Blow l p) (hp : p.Pairwise (fun a b => b.ts ≤ a.ts)) :
    l.Pairwise (fun a b => b.2.2 ≤ a.2.2) := by
  induction h with
  | nil => exact List.Pairwise.nil
  | skip x _ ih => exact ih (List.Pairwise.of_cons hp)
  | @copy l p x k hk hb ih =>
    refine List.Pairwise.cons ?_ (ih hp)
    intro k' hk'
    obtain ⟨y, hy, hky⟩ := hb.mem k' hk'
    rw [hk.2.1, hky.2.1]
    rcases List.mem_cons.mp hy with e | e
    · subst e
      exact Nat.le_refl _
    · exact (List.pairwise_cons.mp hp).1 y e

theorem Blow.pop {l p} (h : Blow l p) (x : Stmt) : ∀ (new : List (Nat × Nat × Nat)), (∀ k ∈ new, keyOf k x) →
    Blow (new ++ l) (x :: p)
  | [], _ => Blow.skip x h
  | k :: rest, hn =>
    Blow.copy k (hn k List.mem_cons_self) (Blow.pop h x rest (fun k' hk' => hn k' (List.mem_cons_of_mem _ hk')))

structure InvO (s : BSt) : Prop where
  ring : RingOK s
  blow : Blow (wkeys s.log) s.popLog

theorem InvO.still {s s' : BSt} (h : InvO s) (q : Still s s') : InvO s' := by
  obtain ⟨evs, he, hn⟩ := q.next
  refine ⟨RingAll.still h.ring q, ?_⟩
  rw [he, wkeys_append, hn, q.popLog]
  exact h.blow

theorem InvO.pop {s : BSt} (h : InvO s) (i : Nat) (st : Stmt) (rest : List Stmt) : InvO (popStep s i st rest) := by
  obtain ⟨b, hb⟩ := popStep_pext h.ring i st rest
  obtain ⟨evs, he, hk⟩ := hb.log
  refine ⟨popStep_ringAll (fun _ hl => hl) h.ring i st rest, ?_⟩
  rw [he, wkeys_append, hk, popStep_popLog]
  refine h.blow.pop st _ (fun k hkm => ?_)
  obtain ⟨sid, hsid, rfl⟩ := List.mem_map.mp (List.mem_reverse.mp hkm)
  exact ⟨rfl, rfl, (isOrd_iff.mp (hb.ord (List.ne_nil_of_mem hsid))).2⟩

theorem InvO.closed : Closed InvO := Closed.of_still InvO.still (fun _ i st rest h _ => h.pop i st rest)

theorem InvO.start {s : BSt} (hr : RingOK s) (hl : s.log = []) (hp : s.popLog = []) : InvO s :=
  ⟨hr, by rw [hl, hp]; exact Blow.nil⟩

theorem InvO.run {s : BSt} (h : InvO s) (ops : List Op) : InvO (runOps s ops) := runOps_closed InvO.closed ops s h

end Backend.PA
