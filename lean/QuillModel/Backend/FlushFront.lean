import QuillModel.Backend.FlushInv
/-!
Frontend operations preserve the flush invariant `FI`.
-/
namespace Backend.PB

variable {ex : Option Nat} {pf : List Nat} {s : BSt}

theorem pendOf_setActor_keep (s : BSt) (a : Nat) (g : Actor → Actor) (hid : ∀ x, (g x).id = x.id)
    (hal : ∀ x, (g x).alive = x.alive) (hp : ∀ x, (g x).pend = x.pend) (b : Nat) :
    pendOf (s.setActor a g) b = pendOf s b := by
  unfold pendOf
  by_cases hb : b = a
  · subst hb; rw [actor_setActor_same s b g hid hal]
    cases s.actor b with
    | none => rfl
    | some x => simp [hp]
  · rw [actor_setActor_ne s g hid hb]

theorem pendOf_setActor_set (s : BSt) (a : Nat) (g : Actor → Actor) (hid : ∀ x, (g x).id = x.id)
    (hal : ∀ x, (g x).alive = x.alive) (p' : Pend) (hp : ∀ x, (g x).pend = p') :
    (∀ p, pendOf (s.setActor a g) a = some p → p = p') ∧ (∀ b, b ≠ a → pendOf (s.setActor a g) b = pendOf s b) := by
  unfold pendOf
  refine ⟨fun p h => ?_, fun b hb => by rw [actor_setActor_ne s g hid hb]⟩
  rw [actor_setActor_same s a g hid hal] at h
  cases hx : s.actor a with
  | none => rw [hx] at h; cases h
  | some x => rw [hx] at h; simp [hp] at h; exact h.symm

/-- the statement `st` of actor `a` carries a flag number nobody else has -/
def Fresh (s : BSt) (a : Nat) (st : Stmt) : Prop :=
  ∀ f, flagOf st = some f → f < s.nextFlag ∧ (∀ i, f ∉ flagsIn (s.th i).accepted) ∧
    (∀ b q st', b ≠ a → pendOf s b = some q → isPendOf q st' → flagOf st' ≠ some f)

theorem Fresh.same {s s' : BSt} {a : Nat} {st : Stmt} (h : Fresh s a st) (hs : Same2 s s') : Fresh s' a st := by
  intro f hf
  obtain ⟨p1, p2, p3⟩ := h f hf
  refine ⟨by rw [hs.nf]; exact p1, fun i => by rw [(hs.th i).acc]; exact p2 i, fun b q st' hb hq => ?_⟩
  rw [hs.act] at hq; exact p3 b q st' hb hq

theorem Fresh.congr {s : BSt} {a : Nat} {st st' : Stmt} (h : Fresh s a st) (he : flagOf st' = flagOf st) : Fresh s a st' := by
  intro f hf; rw [he] at hf; exact h f hf

theorem Fresh.none {s : BSt} {a : Nat} {st : Stmt} (h : flagOf st = none) : Fresh s a st := by
  intro f hf; rw [h] at hf; cases hf

/-- the parked call of `a` changes to `p'` (or `a` disappears); everything else is as in `s` -/
theorem FI.setPend {ex' : Option Nat} {s' : BSt} (h : FI ex pf s) (a : Nat) (p' : Pend)
    (hth : ∀ i, ThEq2 (s.th i) (s'.th i)) (hpop : s'.popLog = s.popLog) (hflags : s'.flags = s.flags)
    (hrem : s'.removalFlags = s.removalFlags) (hnf : s'.nextFlag = s.nextFlag)
    (hP : ∀ p, pendOf s' a = some p → p = p') (hO : ∀ b, b ≠ a → pendOf s' b = pendOf s b)
    (hex : ∀ b, b ≠ a → some b ≠ ex' → some b ≠ ex)
    (hp : ∀ st, isPendOf p' st → Fresh s a st) : FI ex' pf s' := by
  refine h.congrTh hth hpop hflags hrem hnf ?_
  intro b p st f hb hbe hpd hf
  by_cases hba : b = a
  · subst hba
    have := hP p hb; subst this
    obtain ⟨p1, p2, p3⟩ := hp st hpd f hf
    exact ⟨p1, p2, fun c q st' hc hq => p3 c q st' hc (by rw [hO c hc] at hq; exact hq)⟩
  · rw [hO b hba] at hb
    obtain ⟨p1, p2, p3⟩ := h.pendFresh b p st f hb (hex b hba hbe) hpd hf
    refine ⟨p1, p2, fun c q st' hc hq hpq => ?_⟩
    by_cases hca : c = a
    · subst hca
      have := hP q hq; subst this
      intro hfl
      exact (hp st' hpq f hfl).2.2 b p st hba hb hpd hf
    · rw [hO c hca] at hq; exact p3 c q st' hc hq hpq

theorem FI.setActor_set {ex' : Option Nat} (h : FI ex pf s) (a : Nat) (g : Actor → Actor) (hid : ∀ x, (g x).id = x.id)
    (hal : ∀ x, (g x).alive = x.alive) (p' : Pend) (hpe : ∀ x, (g x).pend = p')
    (hex : ∀ b, b ≠ a → some b ≠ ex' → some b ≠ ex) (hp : ∀ st, isPendOf p' st → Fresh s a st) :
    FI ex' pf (s.setActor a g) :=
  have hh := pendOf_setActor_set s a g hid hal p' hpe
  h.setPend a p' (fun _ => ThEq2.refl _) rfl rfl rfl rfl hh.1 hh.2 hex hp

theorem FI.setActor_keep (h : FI ex pf s) (a : Nat) (g : Actor → Actor) (hid : ∀ x, (g x).id = x.id)
    (hal : ∀ x, (g x).alive = x.alive) (hpe : ∀ x, (g x).pend = x.pend) : FI ex pf (s.setActor a g) :=
  h.same ⟨fun _ => ThEq2.refl _, pendOf_setActor_keep s a g hid hal hpe, rfl, rfl, rfl, rfl⟩

theorem FI.setActor_clear {a : Nat} {ex : Option Nat} (h : FI ex pf s) (g : Actor → Actor) (hid : ∀ x, (g x).id = x.id)
    (hal : ∀ x, (g x).alive = x.alive) (p' : Pend) (hpe : ∀ x, (g x).pend = p') (hn : ∀ st, ¬ isPendOf p' st)
    (hex : ex = none ∨ ex = some a) : FI none pf (s.setActor a g) :=
  h.setActor_set a g hid hal p' hpe
    (fun b hne _ => by
      rcases hex with e | e
      · rw [e]; exact Option.some_ne_none b
      · rw [e]; exact fun hh => hne (Option.some.inj hh))
    (fun st hst => absurd hst (hn st))

theorem FI.killActor (h : FI ex pf s) (a : Nat) (g : Actor → Actor) (hid : ∀ x, (g x).id = x.id)
    (hal : ∀ x, (g x).alive = false) : FI ex pf (s.setActor a g) := by
  refine h.setPend a Pend.none (fun _ => ThEq2.refl _) rfl rfl rfl rfl ?_ ?_ (fun _ _ hb => hb)
    (fun st hst => absurd hst (not_pend_none st))
  · intro p hp; unfold pendOf at hp; rw [actor_setActor_kill s a g hal] at hp; cases hp
  · intro b hb; unfold pendOf; rw [actor_setActor_ne s g hid hb]

theorem FI.addActor (h : FI ex pf s) (a : Nat) (ha : s.actor a = none) :
    FI ex pf { s with actors := s.actors ++ [{ id := a }] } := by
  refine h.setPend a Pend.none (fun _ => ThEq2.refl _) rfl rfl rfl rfl ?_ ?_ (fun _ _ hb => hb)
    (fun st hst => absurd hst (not_pend_none st))
  · intro p hp; unfold pendOf at hp; rw [actor_append s a a ha, if_pos rfl] at hp
    simp at hp; exact hp.symm
  · intro b hb; unfold pendOf; rw [actor_append s a b ha, if_neg hb]

theorem pendOf_setCtx (s0 : BSt) (a n b : Nat) :
    pendOf (s0.setActor a (fun x => { x with ctx := some n })) b = pendOf s0 b :=
  pendOf_setActor_keep s0 a (fun x => { x with ctx := some n }) (fun _ => rfl) (fun _ => rfl) (fun _ => rfl) b

theorem th_newCtx_congr {α} (g : Th → α) (s : BSt) (a : Nat) (hg : g (mkTh s.cfg a) = g default) (i : Nat) :
    g ((({ s with ths := s.ths ++ [mkTh s.cfg a], registry := s.registry ++ [s.ths.length], newFlag := true } : BSt).setActor a
      (fun x => { x with ctx := some s.ths.length })).th i) = g (s.th i) :=
  rel_newCtx (r := fun t t' => g t' = g t) (fun _ => rfl) s a hg i

theorem same2_ensureCtx (s : BSt) (a : Nat) : Same2 s (Backend.ensureCtx s a).1 := by
  unfold Backend.ensureCtx
  split
  · exact Same2.refl _
  · exact ⟨rel_newCtx ThEq2.refl s a ⟨rfl, rfl, rfl, rfl⟩, fun b => pendOf_setCtx _ a _ b, rfl, rfl, rfl, rfl⟩

theorem FI.enq {a : Nat} (h : FI (some a) pf s) (ci : Nat) (st : Stmt) (hfr : Fresh s a st) (f : Th → Th)
    (hf : (f (s.th ci)).buf = (s.th ci).buf ∧ (f (s.th ci)).qStmts = (s.th ci).qStmts ++ [st] ∧
      (f (s.th ci)).accepted = (s.th ci).accepted ++ [st] ∧ (f (s.th ci)).popped = (s.th ci).popped) :
    FI (some a) pf (s.setTh ci f) := by
  obtain ⟨f1, f2, f3, f4⟩ := hf
  have hcases := fun j => th_setTh_cases s ci j f
  have hacc : ∀ j r, r ∈ (s.th j).accepted → r ∈ ((s.setTh ci f).th j).accepted :=
    rel_setTh (r := fun t t' => ∀ r ∈ t.accepted, r ∈ t'.accepted) (fun _ _ hr => hr) s ci f
      (fun r hr => by rw [f3]; exact List.mem_append_left _ hr)
  have hpopd : ∀ j, ((s.setTh ci f).th j).popped = (s.th j).popped :=
    rel_setTh (r := fun t t' => t'.popped = t.popped) (fun _ => rfl) s ci f f4
  have hfl : ∀ j g, g ∈ flagsIn ((s.setTh ci f).th j).accepted → g ∈ flagsIn (s.th j).accepted ∨ (j = ci ∧ flagOf st = some g) := by
    intro j g hg
    rcases hcases j with h1 | ⟨rfl, _, h1⟩
    · rw [h1] at hg; exact Or.inl hg
    · rw [h1, f3, flagsIn_append] at hg
      rcases List.mem_append.mp hg with h2 | h2
      · exact Or.inl h2
      · right; refine ⟨rfl, ?_⟩
        obtain ⟨r, hr, hrf⟩ := mem_flagsIn.mp h2
        rw [List.mem_singleton.mp hr] at hrf; exact hrf
  exact {
    cons := fun j => by
      rcases hcases j with h1 | ⟨rfl, _, h1⟩
      · rw [h1]; exact h.cons j
      · rw [h1, f1, f2, f3, f4, h.cons j]; simp [List.append_assoc]
    plog := fun j => by rw [hpopd]; exact h.plog j
    flg := fun g hg => by
      rcases h.flg g hg with ⟨i, r, h1, h2⟩ | ⟨i, r, h1, h2⟩
      · exact Or.inl ⟨i, r, by rw [hpopd]; exact h1, h2⟩
      · exact Or.inr ⟨i, r, hacc i r h1, h2⟩
    flgP := fun g hg => by
      obtain ⟨i, r, h1, h2⟩ := h.flgP g hg
      exact ⟨i, r, by rw [hpopd]; exact h1, h2⟩
    popFlag := fun i => by rw [hpopd]; exact h.popFlag i
    rem := fun gf hgf => by
      obtain ⟨i, r, h1, h2⟩ := h.rem gf hgf
      exact ⟨i, r, hacc i r h1, h2⟩
    accLt := fun j g hg => by
      rcases hfl j g hg with h1 | ⟨_, h1⟩
      · exact h.accLt j g h1
      · exact (hfr g h1).1
    accNodup := fun j => by
      rcases hcases j with h1 | ⟨rfl, _, h1⟩
      · rw [h1]; exact h.accNodup j
      · rw [h1, f3, flagsIn_append]
        refine List.nodup_append.mpr ⟨h.accNodup j, ?_, ?_⟩
        · unfold flagsIn; cases hfo : flagOf st <;> simp [hfo]
        · intro g hg1 g' hg2 hgg; subst hgg
          obtain ⟨r, hr, hrf⟩ := mem_flagsIn.mp hg2
          rw [List.mem_singleton.mp hr] at hrf
          exact (hfr g hrf).2.1 j hg1
    accDisj := fun i j hij g hg hg' => by
      rcases hfl i g hg with h1 | ⟨e1, h1⟩ <;> rcases hfl j g hg' with h2 | ⟨e2, h2⟩
      · exact h.accDisj i j hij g h1 h2
      · exact (hfr g h2).2.1 i h1
      · exact (hfr g h1).2.1 j h2
      · exact hij (e1.trans e2.symm)
    pendFresh := fun b p r g hb hbe hpd hg => by
      obtain ⟨p1, p2, p3⟩ := h.pendFresh b p r g hb hbe hpd hg
      refine ⟨p1, fun i hi => ?_, p3⟩
      rcases hfl i g hi with h1 | ⟨_, h1⟩
      · exact p2 i h1
      · have hba : b ≠ a := fun e => hbe (by rw [e])
        exact (hfr g h1).2.2 b p r hba hb hpd hg }

theorem FI.tryEnq {a : Nat} (h : FI (some a) pf s) (ci : Nat) (st : Stmt) (hfr : Fresh s a st) :
    FI (some a) pf (Backend.tryEnq s ci st).1 ∧
    ((Backend.tryEnq s ci st).2 = false → Same2 s (Backend.tryEnq s ci st).1) := by
  unfold Backend.tryEnq
  simp only
  split
  · refine ⟨?_, fun hh => by cases hh⟩
    exact h.enq ci { st with enqAt := s.now } (hfr.congr rfl) _ ⟨rfl, rfl, rfl, rfl⟩
  · have := Same2.setTh s ci (fun t => { t with q := (qPrepareWrite s.cfg (s.th ci).q st.size).1 }) ⟨rfl, rfl, rfl, rfl⟩
    exact ⟨h.same this, fun _ => this⟩

theorem FI.afterEnq (h : FI none pf s) (a : Nat) (st : Stmt) (cont : Nat) :
    FI none pf (Backend.afterEnq s a st cont).1 := by
  unfold Backend.afterEnq
  split
  · exact h.setActor_clear (a := a) _ (fun _ => rfl) (fun _ => rfl) _ (fun _ => rfl) (fun st => not_pend_flag _ st) (Or.inl rfl)
  · exact h.frame rfl
  · exact h
  · dsimp only
    refine FI.setActor_clear (a := a) ?_ _ (fun _ => rfl) (fun _ => rfl) _ (fun _ => rfl) (fun st => not_pend_flag _ st) (Or.inl rfl)
    exact h.frame rfl
  · exact h

theorem Same2.bumpFail (d : Bool) (s : BSt) (ci : Nat) (st : Stmt) : Same2 s (Backend.bumpFail d s ci st) := by
  unfold Backend.bumpFail
  split
  · exact Same2.setTh s ci _ ⟨rfl, rfl, rfl, rfl⟩
  · exact Same2.refl s

theorem FI.enqFlow (h : FI none pf s) (a : Nat) (st : Stmt) (cont : Nat) (first initial : Bool)
    (hfr : Fresh s a st) : FI none pf (Backend.enqFlow s a st cont first initial).1 := by
  have hnone : ∀ {y}, FI (some a) pf y → FI none pf (Backend.setPend y a .none) := fun hy =>
    hy.setActor_clear _ (fun _ => rfl) (fun _ => rfl) Pend.none (fun _ => rfl) not_pend_none (Or.inr rfl)
  have hs1 := same2_ensureCtx s a
  -- with the context known and after a refusal alike: `a` is exempt, its record still fresh
  exact enqFlow_rule (fun _ x => FI (some a) pf x ∧ Fresh x a st) (fun _ x => FI (some a) pf x ∧ Fresh x a st) (FI none pf)
    ⟨(h.same hs1).unex, hfr.same hs1⟩
    (fun ci _ hx _ => (hnone (hx.1.tryEnq ci st hx.2).1).afterEnq a st cont)
    (fun ci _ hx hok => ⟨(hx.1.tryEnq ci st hx.2).1, hx.2.same ((hx.1.tryEnq ci st hx.2).2 hok)⟩)
    (fun _ _ hx _ => ⟨hx.1.same (Same2.bumpFail ..), hx.2.same (Same2.bumpFail ..)⟩)
    (fun _ _ hx _ _ => hnone hx.1)
    (fun _ _ hx _ => hx.1.setActor_set a _ (fun _ => rfl) (fun _ => rfl) (Pend.retry st cont) (fun _ => rfl)
      (fun b hne _ hh => hne (Option.some.inj hh)) (fun _ hpd => isPendOf_retry hpd ▸ hx.2))

theorem FI.bumpFlag (h : FI none pf s) : FI none pf { s with nextFlag := s.nextFlag + 1 } :=
  { h with
    accLt := fun i f hf => Nat.lt_succ_of_lt (h.accLt i f hf)
    pendFresh := fun a p st f hp he hpd hf =>
      let ⟨p1, p2, p3⟩ := h.pendFresh a p st f hp he hpd hf
      ⟨Nat.lt_succ_of_lt p1, p2, p3⟩ }

theorem fresh_new (h : FI none pf s) (a : Nat) (st : Stmt) (hf : flagOf st = some s.nextFlag) :
    Fresh { s with nextFlag := s.nextFlag + 1 } a st := by
  intro f hff
  rw [hf] at hff; cases hff
  refine ⟨Nat.lt_succ_self _, fun i hi => Nat.lt_irrefl _ (h.accLt i _ hi), fun b q st' _ hq hpd hfl => ?_⟩
  exact Nat.lt_irrefl _ (h.pendFresh b q st' _ hq (by simp) hpd hfl).1

theorem fresh_noFlag (s : BSt) (a : Nat) {kind : Kind} (hk : flagOfK kind = none) (st : Stmt) (hst : st.kind = kind) :
    Fresh s a st :=
  Fresh.none (by rw [flagOf, hst, hk])

/-- a record may be enqueued or parked by `a` if the flag number it carries, if any, is nobody else's -/
theorem FI.rules : FrontRules (fun _ => True) (FI none pf) (fun a st s => Fresh s a st) :=
  .ofStrip (fun _ _ e h => h.frame (of_stripLg core2 (fun _ => rfl) e)) {
    enq := fun _ a _ st _ _ _ _ h _ hfr => h.enqFlow a st _ _ _ hfr
    stall := fun _ a _ st cont _ h _ hfr => h.setActor_set a _ (fun _ => rfl) (fun _ => rfl) (Pend.stall st cont) (fun _ => rfl)
      (fun _ _ hb => hb) (fun _ hpd => isPendOf_stall hpd ▸ hfr)
    parked := fun s a x st cont _ h hx hp =>
      have : Fresh s a st := fun f hf => h.pendFresh a _ _ f (by rw [pendOf, hx]; rfl) (by simp) ⟨cont, hp⟩ hf
      ⟨this, this.congr rfl⟩
    flagDone := fun _ a _ _ _ h _ _ _ =>
      h.setActor_clear (a := a) _ (fun _ => rfl) (fun _ => rfl) Pend.none (fun _ => rfl) not_pend_none (Or.inl rfl)
    actorMisc := fun _ a f h hf => h.setActor_keep a f (fun x => (hf x).1) (fun x => (hf x).2.1) (fun x => (hf x).2.2.2)
    pre := fun s g kind id s1 a lgi _ h hp _ _ => by
      -- a flush or removal request carries the flag number the call has just drawn
      cases hp with
      | log => exact ⟨h.frame rfl, fun _ _ _ _ => fresh_noFlag _ a rfl _ rfl⟩
      | initBt | flushBt => exact ⟨h, fun _ _ _ _ => fresh_noFlag _ a rfl _ rfl⟩
      | flush => exact ⟨h.bumpFlag, fun _ _ _ _ => fresh_new h a _ rfl⟩
      | removal => exact ⟨h.bumpFlag.frame rfl, fun _ _ _ _ => (fresh_new h a _ rfl).same (Same2.ofCore rfl)⟩
    tick := fun _ _ h => h.frame rfl
    tstart := fun _ a _ h ha => h.addActor a ha
    texitCtx := fun _ a i _ h _ _ =>
      ((h.killActor a (fun x => { x with alive := false }) (fun _ => rfl) (fun _ => rfl)).same
        (Same2.setTh _ i (fun t => { t with valid := false }) ⟨rfl, rfl, rfl, rfl⟩)).frame rfl
    texitNoCtx := fun _ a _ h _ _ => h.killActor a _ (fun _ => rfl) (fun _ => rfl) }

theorem FI.resume (h : FI none pf s) (a : Nat) : FI none pf (Backend.resume s a).1 :=
  FI.rules.toActorRules.resume_fst h a

theorem FI.applyFront (h : FI none pf s) (f : FOp) : FI none pf (Backend.applyFront s f).1 :=
  FI.rules.front h f

theorem FI.runInj (h : FI none pf s) (table : List (Nat × Nat × List FOp)) (site : Nat) :
    FI none pf (Backend.runInj table s site) :=
  (PC.runInj_pres (fun _ _ hb => hb.frame rfl) (fun _ _ _ _ _ hb => hb.frame rfl) (fun _ f hb => hb.applyFront f)
    table).keeps s site h

end Backend.PB
