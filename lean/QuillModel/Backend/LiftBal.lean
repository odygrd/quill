import QuillModel.Backend.SinkBack
import QuillModel.Backend.EventGroups
/-!
Balance invariants over the observable event log (skeleton `Backend.PC.Closed`, which lists every primitive of the backend
separately — `flushSinks`, `report`, `pop`, `reap`, the injected-operation marker — so that an invariant that counts
events can be carried through every schedule).

For a weight `d : Ev → Int` on events and a weight `b` on the ghost counter `reported`,
`bal s = Σ_{e ∈ s.log} d e + b * s.reported` is constant along every schedule as soon as the weights cancel on the few
event groups the machine emits together (`WtOK`): a `wthrow` with its `n:wfail` notification, an `fthrow` with its
`n:ffail`, a `n:dropped:<k>:a<t>` / `n:blocked:<k>:a<t>` notification with the `k` added to `reported` — and are 0 on
every other event the machine emits.
Helper lemmas only; the property theorems are in `Props/C08Log.lean` and `Props/C10Faults.lean`.
-/
namespace Backend.PC

structure Wt where
  d : Ev → Int
  b : Int

def Wt.sum (W : Wt) : List Ev → Int
  | [] => 0
  | e :: l => W.d e + W.sum l

theorem Wt.sum_append (W : Wt) (a b : List Ev) : W.sum (a ++ b) = W.sum a + W.sum b := by
  induction a with
  | nil => simp [Wt.sum]
  | cons e l ih => simp only [List.cons_append, Wt.sum, ih]; omega

theorem Wt.sum_eq (W : Wt) (φ : List Ev → Int) (h0 : φ [] = 0) (hc : ∀ e l, φ (e :: l) = W.d e + φ l) :
    ∀ l, W.sum l = φ l
  | [] => h0.symm
  | e :: l => by rw [Wt.sum, Wt.sum_eq W φ h0 hc l, hc]

def bal (W : Wt) (s : BSt) : Int := W.sum s.log + W.b * (s.reported : Int)

/-- the part of the state `bal` reads -/
def lr (s : BSt) : List Ev × Nat := (s.log, s.reported)

variable {W : Wt}

theorem bal_lr {s s' : BSt} (h : lr s' = lr s) : bal W s' = bal W s := by
  have h1 : s'.log = s.log := congrArg Prod.fst h
  have h2 : s'.reported = s.reported := congrArg Prod.snd h
  unfold bal; rw [h1, h2]

theorem bal_emit (s : BSt) (e : Ev) : bal W (s.emit e) = W.d e + bal W s := by
  show W.sum (e :: s.log) + W.b * (s.reported : Int) = _
  unfold bal; simp only [Wt.sum]; omega

theorem bal_setSink (s : BSt) (i : Nat) (f : Sink → Sink) : bal W (s.setSink i f) = bal W s := rfl
theorem bal_setLg (s : BSt) (i : Nat) (f : Lg → Lg) : bal W (s.setLg i f) = bal W s := rfl
theorem bal_setTh (s : BSt) (i : Nat) (f : Th → Th) : bal W (s.setTh i f) = bal W s := rfl

/-- the text of a failure-counter notification (`_check_failure_counter`) -/
def reportStr (dropping : Bool) (n a : Nat) : String :=
  if dropping then s!"n:dropped:{n}:a{a}" else s!"n:blocked:{n}:a{a}"

structure WtOK (W : Wt) : Prop where
  inj : ∀ a b c d, W.d (.inj a b c d) = 0
  dtor : ∀ sid, W.d (.sinkDtor sid) = 0
  write : ∀ a b c d e, W.d (.write a b c d e) = 0
  flushed : ∀ sid, W.d (.flushed sid) = 0
  ffail : ∀ sid, W.d (.fthrow sid) + W.d (.notify "n:ffail") = 0
  wfail : ∀ sid id, W.d (.wthrow sid id) + W.d (.notify "n:wfail") = 0
  nobt : W.d (.notify "n:nobt") = 0
  fmterr : W.d (.notify "n:fmterr") = 0
  report : ∀ dr n a, 0 < n → W.d (.notify (reportStr dr n a)) + W.b * (n : Int) = 0

theorem bal_ext {s s' : BSt} {evs : List Ev} (hl : s'.log = evs ++ s.log) (hr : s'.reported = s.reported) :
    bal W s' = W.sum evs + bal W s := by
  unfold bal
  rw [hl, hr, Wt.sum_append]
  omega

theorem Wt.sum_grps (hW : WtOK W) {l : List Ev} (h : Grps l) : W.sum l = 0 := by
  induction h with
  | nil => rfl
  | cons hg _ ih =>
    rw [Wt.sum_append, ih]
    cases hg with
    | write a b c d e => simp only [Wt.sum, hW.write]; rfl
    | wfail sid id => have := hW.wfail sid id; simp only [Wt.sum]; omega
    | flushed sid => simp only [Wt.sum, hW.flushed]; rfl
    | ffail sid => have := hW.ffail sid; simp only [Wt.sum]; omega
    | nobt => simp only [Wt.sum, hW.nobt]; rfl

theorem reported_dispRel : DispRel (fun s s' => s'.reported = s.reported) :=
  .of_eq (·.reported) (fun _ _ _ => rfl) (fun _ _ => rfl) (fun _ _ _ => rfl)

theorem flushSinks_bal (hW : WtOK W) (s : BSt) : bal W (flushSinks s) = bal W s := by
  obtain ⟨blk, hl, hg⟩ := flushSinks_grps s
  rw [bal_ext hl (reported_dispRel.flushSinks s), Wt.sum_grps hW hg]
  omega

theorem popSt_bal (hW : WtOK W) (s : BSt) (i : Nat) (st : Stmt) (rest : List Stmt) :
    bal W (popSt s i st rest) = bal W s := by
  obtain ⟨blk, hl, hg⟩ := procSt_grps s st
  rw [popSt_proc]
  show bal W (procSt s st) = bal W s
  rw [bal_ext hl (reported_dispRel.procSt s st), Wt.sum_grps hW hg]
  omega

theorem reportSt_bal (hW : WtOK W) (s : BSt) (i : Nat) (hf : (s.th i).fail > 0) : bal W (reportSt s i) = bal W s := by
  have h := hW.report s.cfg.dropping (s.th i).fail (s.th i).actor hf
  show W.sum (Ev.notify (reportStr s.cfg.dropping (s.th i).fail (s.th i).actor) :: s.log) +
    W.b * ((s.reported + (s.th i).fail : Nat) : Int) = _
  unfold bal
  simp only [Wt.sum]
  rw [Int.natCast_add, Int.mul_add]
  omega

/-- the frontend reports nothing, and the two events it emits weigh nothing -/
theorem bal_front (hW : WtOK W) : FrontSteps (fun s s' => bal W s' = bal W s) where
  refl _ := rfl
  trans h h' := h'.trans h
  tick _ _ := rfl
  act _ _ _ _ _ _ _ _ := rfl
  setThMisc _ _ _ _ _ := rfl
  ensureCtx s a := by unfold ensureCtx; split <;> rfl
  tryEnq s ci st := by unfold tryEnq; simp only []; split <;> rfl
  setLg _ _ _ _ := rfl
  newLg _ _ _ := rfl
  setSink _ _ _ _ := rfl
  dtor s sid := by rw [bal_emit, hW.dtor]; omega
  injEv s _ _ _ _ := by rw [bal_emit, hW.inj]; omega

theorem applyFront_bal (hW : WtOK W) (s : BSt) (f : FOp) : bal W (applyFront s f).1 = bal W s :=
  (bal_front hW).applyFront s f

def BalInv (W : Wt) (c : Int) (s : BSt) : Prop := bal W s = c

theorem BalInv.lr {c : Int} {s s' : BSt} (h : BalInv W c s) (e : lr s' = lr s) : BalInv W c s' := by
  unfold BalInv; rw [bal_lr e]; exact h

theorem BalInv.kept (hW : WtOK W) (c : Int) : Kept (fun _ => True) (BalInv W c) where
  book _ _ _ _ _ _ h := h.lr rfl
  emitInj s a b c d h := by unfold BalInv; rw [bal_emit, hW.inj]; unfold BalInv at h; omega
  note s h := by unfold BalInv; rw [bal_emit, hW.fmterr]; unfold BalInv at h; omega
  recache _ _ h := h.lr rfl
  rdQ _ _ _ _ h _ _ := h.lr rfl
  dropCtx _ _ _ h _ _ _ _ := h.lr rfl
  erase _ _ _ _ _ h' _ _ := h'.lr rfl
  reap s sid _ h _ _ := by unfold BalInv; rw [bal_emit, bal_setSink, hW.dtor]; unfold BalInv at h; omega
  flagRemoval _ _ _ _ _ _ h _ _ := h.lr rfl
  flushSinks s _ h := by unfold BalInv; rw [flushSinks_bal hW]; exact h
  readOne s i st rest _ h _ _ := h.lr (by
    unfold readOneSt moveSt decodeSt readPrepSt
    split <;> rfl)
  report s i _ h hf := by unfold BalInv; rw [reportSt_bal hW s i hf]; exact h
  pop s i st rest _ h _ _ := by unfold BalInv; rw [popSt_bal hW]; exact h
  raise _ _ h _ := h.lr rfl
  front s f _ h := by unfold BalInv; rw [applyFront_bal hW]; exact h

theorem BalInv.closed (hW : WtOK W) (c : Int) : Closed (BalInv W c) := (BalInv.kept hW c).closed

theorem bal_runOps (hW : WtOK W) (s0 : BSt) (ops : List Op) : bal W (runOps s0 ops) = bal W s0 :=
  runOps_closed (BalInv.closed hW (bal W s0)) ops s0 rfl

end Backend.PC
