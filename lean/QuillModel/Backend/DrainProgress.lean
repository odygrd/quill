import QuillModel.Backend.DrainProofs
/-!
Progress of the exit loop: the number of waiting statements (`pendingTotal`, the same number as bundle B's
`PB.pendingCount`) never grows during the drain — quiet backend steps are `PB.Sub` steps —, every processed event takes
exactly one out, and the loop ends once a bound on the iterations still to come has fallen to zero
(`exitEnds_of_bound`; `exit_terminates`, `DrainTerminate.lean`, gives the bound). Helper lemmas for C07 (drain part).
-/
namespace Backend.PC

def pendingTotal (s : BSt) : Nat := ((bq s).map (fun p => p.1.length + p.2.length)).sum

theorem pendingTotal_of_bq {s s' : BSt} (h : bq s' = bq s) : pendingTotal s' = pendingTotal s := by
  unfold pendingTotal; rw [h]

theorem pendingCount_eq_total (s : BSt) : PB.pendingCount s = pendingTotal s := by
  unfold PB.pendingCount pendingTotal bq
  rw [List.map_map, sum_ths_range s _ rfl _ (Nat.le_refl _)]
  congr 1
  apply List.map_congr_left
  intro j _
  exact List.length_append

theorem pendingTotal_popSt (s : BSt) (i : Nat) (st : Stmt) (rest : List Stmt) (hb : (s.th i).buf = st :: rest) :
    pendingTotal (popSt s i st rest) + 1 = pendingTotal s := by
  rw [← pendingCount_eq_total, ← pendingCount_eq_total]
  exact PB.pendingCount_popSt s i st rest hb

theorem exitBody_pending_le (tick : Nat) (s : BSt) : pendingTotal (exitBody (runInj []) tick s) ≤ pendingTotal s := by
  rw [← pendingCount_eq_total, ← pendingCount_eq_total]
  exact ((sub_passRules s).exitBody tick s (PB.Sub.refl s)).pending_le

theorem exitLoop_pending_le (tick fuel : Nat) (s : BSt) : pendingTotal (exitLoop (runInj []) tick fuel s) ≤ pendingTotal s := by
  rw [← pendingCount_eq_total, ← pendingCount_eq_total]
  exact ((sub_passRules s).exitLoop tick fuel s (PB.Sub.refl s)).pending_le

theorem processLowest_pending {inj : BSt → Nat → BSt} (hq : PB.Quiet inj) (s : BSt) (h : (processLowest inj s).2 = true) :
    pendingTotal (processLowest inj s).1 + 1 = pendingTotal s := by
  rw [processLowest_eq] at h
  cases hl : lowest s with
  | none => rw [hl] at h; cases h
  | some i =>
    rw [hl] at h
    cases hb : (s.th i).buf with
    | nil => simp only [hb] at h; cases h
    | cons st rest =>
      -- the pop takes one statement out; the tail of a Flush event (report, context clean-up, flag) moves none
      have hp := pendingTotal_popSt s i st rest hb
      refine processLowest_tail (fun x => pendingTotal x + 1 = pendingTotal s) (fun _ x => pendingTotal x + 1 = pendingTotal s)
        s i st rest (fun _ x j hx _ => ?_) (fun _ x hx => ?_) (fun _ _ hx => hx) hl hb (fun _ => hp) (fun _ _ => hp)
      · obtain ⟨sc, e⟩ := hq (reportSt x j) 8
        rw [e]
        exact (congrArg (· + 1) (pendingTotal_of_bq (bq_reportSt x j))).trans hx
      · rw [pendingTotal_of_bq (bq_cleanupContexts x)]; exact hx

/-- the `n`-th state of the exit loop (as long as it keeps going) -/
def exitIter (inj : BSt → Nat → BSt) (tick : Nat) : Nat → BSt → BSt
  | 0, s => s
  | n + 1, s => exitIter inj tick n (exitBody inj tick s)

theorem exitEnds_of_bound (inj : BSt → Nat → BSt) (tick : Nat) (M : BSt → Nat → Prop)
    (step : ∀ s m, M s m → (allEmpty s).2 = false → ∃ m', m' < m ∧ M (exitBody inj tick s) m') :
    ∀ (fuel : Nat) (s : BSt) (m : Nat), M s m → m < fuel → exitEnds inj tick fuel s
  | 0, _, _, _, hf => by omega
  | fuel + 1, s, m, hm, hf => by
    cases he : (allEmpty s).2
    · obtain ⟨m', hlt, hm'⟩ := step s m hm he
      exact Or.inr ⟨he, exitEnds_of_bound inj tick M step fuel _ m' hm' (by omega)⟩
    · exact Or.inl he

theorem exit_terminates_of_progress (inj : BSt → Nat → BSt) (tick fuel : Nat) (s : BSt)
    (hp : ∀ n, (allEmpty (exitIter inj tick n s)).2 = false →
      pendingTotal (exitBody inj tick (exitIter inj tick n s)) < pendingTotal (exitIter inj tick n s))
    (hf : pendingTotal s < fuel) : exitEnds inj tick fuel s :=
  exitEnds_of_bound inj tick
    (fun x m => (∀ n, (allEmpty (exitIter inj tick n x)).2 = false →
      pendingTotal (exitBody inj tick (exitIter inj tick n x)) < pendingTotal (exitIter inj tick n x)) ∧ pendingTotal x ≤ m)
    (fun x _ h he => ⟨pendingTotal (exitBody inj tick x), Nat.lt_of_lt_of_le (h.1 0 he) h.2, fun n => h.1 (n + 1), Nat.le_refl _⟩)
    fuel s _ ⟨hp, Nat.le_refl _⟩ hf

end Backend.PC
