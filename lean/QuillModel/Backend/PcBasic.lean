import QuillModel.Backend.Ops
import QuillModel.Backend.Basics
/-!
Rewriting lemmas for the state accessors of the backend model (`setTh`, `setActor`, `ensureCtx`, `noteCall`), used by
the invariants of contexts, levels, loggers and the drain (C16, C17, C20, C07).
-/
namespace Backend.PC

@[simp] theorem th_setActor (s : BSt) (a i : Nat) (f : Actor → Actor) : (s.setActor a f).th i = s.th i := rfl
@[simp] theorem ths_setActor (s : BSt) (a : Nat) (f : Actor → Actor) : (s.setActor a f).ths = s.ths := rfl
@[simp] theorem cfg_setActor (s : BSt) (a : Nat) (f : Actor → Actor) : (s.setActor a f).cfg = s.cfg := rfl
@[simp] theorem cfg_setTh (s : BSt) (a : Nat) (f : Th → Th) : (s.setTh a f).cfg = s.cfg := rfl
@[simp] theorem now_setTh (s : BSt) (a : Nat) (f : Th → Th) : (s.setTh a f).now = s.now := rfl
@[simp] theorem actor_setTh (s : BSt) (i a : Nat) (f : Th → Th) : (s.setTh i f).actor a = s.actor a := rfl
theorem ensureCtx_lt (s : BSt) (a : Nat)
    (hwf : ∀ x i, s.actor a = some x → x.ctx = some i → i < s.ths.length) :
    (ensureCtx s a).2 < (ensureCtx s a).1.ths.length := by
  unfold ensureCtx
  cases h : (s.actor a).bind (·.ctx) with
  | some i =>
    simp only
    cases hx : s.actor a with
    | none => simp [hx] at h
    | some x => simp [hx] at h; exact hwf x i hx h
  | none => simp

theorem ensureCtx_cfg (s : BSt) (a : Nat) : (ensureCtx s a).1.cfg = s.cfg := by
  unfold ensureCtx; split <;> rfl
theorem ensureCtx_now (s : BSt) (a : Nat) : (ensureCtx s a).1.now = s.now := by
  unfold ensureCtx; split <;> rfl

theorem accepted_setTh (s : BSt) (i j : Nat) (f : Th → Th) (h : ∀ t, (f t).accepted = t.accepted) :
    ((s.setTh i f).th j).accepted = (s.th j).accepted := th_setTh_proj (·.accepted) s i j f h
theorem qStmts_setTh (s : BSt) (i j : Nat) (f : Th → Th) (h : ∀ t, (f t).qStmts = t.qStmts) :
    ((s.setTh i f).th j).qStmts = (s.th j).qStmts := th_setTh_proj (·.qStmts) s i j f h
theorem buf_setTh (s : BSt) (i j : Nat) (f : Th → Th) (h : ∀ t, (f t).buf = t.buf) :
    ((s.setTh i f).th j).buf = (s.th j).buf := th_setTh_proj (·.buf) s i j f h

theorem pend_setActor (X : BSt) (a : Nat) (p : Pend) (x : Actor)
    (hx : (X.setActor a (fun x => { x with pend := p })).actor a = some x) : x.pend = p := by
  rw [actor_setActor_same X a (fun x => { x with pend := p }) (fun _ => rfl) (fun _ => rfl)] at hx
  cases hy : X.actor a with
  | none => simp [hy] at hx
  | some y => simp [hy] at hx; rw [← hx]

theorem noteCall_idle (r : BSt × String) (a g : Nat)
    (h : ((r.1.actor a).map isParked).getD false = false) :
    noteCall r a g = (r.1.setActor a (fun x => { x with inCall := none }), r.2) := by
  simp [noteCall, h]

theorem getD_of_map_eq {α β} (g : α → β) {l l' : List α} (h : l'.map g = l.map g) (j : Nat) (d : α) :
    g (l'.getD j d) = g (l.getD j d) := by
  have hj : (l'[j]?).map g = (l[j]?).map g := by rw [← List.getElem?_map, ← List.getElem?_map, h]
  rw [List.getD_eq_getElem?_getD, List.getD_eq_getElem?_getD]
  cases h1 : l'[j]? with
  | none =>
    cases h2 : l[j]? with
    | none => rfl
    | some y => rw [h1, h2] at hj; cases hj
  | some x =>
    cases h2 : l[j]? with
    | none => rw [h1, h2] at hj; cases hj
    | some y => rw [h1, h2] at hj; exact Option.some.inj hj

end Backend.PC
