import QuillModel.Backend.UQueue
import QuillModel.Backend.ConsProofsQueue
/-!
Queue-level facts of the chain (`Backend/UQueue.lean`): the per-node coherence `QCoh` of the bounded machine, extended by
what the consumer's cached writer position marks (a prefix of the pending records), lifted along the chain. The chain
in sequentially consistent mode is a FIFO of records: `CCoh q more l` says that the pending statements `l` are the
concatenation, node by node, of the unread records of every node.
-/
namespace Backend.UQ
open Spsc Backend.PA

def ssum (l : List Stmt) : Nat := (l.map (·.size)).sum

@[simp] theorem ssum_nil : ssum [] = 0 := rfl
@[simp] theorem ssum_cons (x : Stmt) (l : List Stmt) : ssum (x :: l) = x.size + ssum l := by simp [ssum]
@[simp] theorem ssum_append (a b : List Stmt) : ssum (a ++ b) = ssum a + ssum b := by simp [ssum]

structure NI (q : St) (a : List Stmt) : Prop where
  coh : QCoh q a
  wc : ∃ pre suf, a = pre ++ suf ∧ q.wcache = q.rpos + ssum pre

theorem NI.init (cap batch : Nat) : NI (Spsc.init cap batch) [] :=
  ⟨QCoh.init cap batch, [], [], rfl, rfl⟩

theorem qPrepareWrite_rc (c : Cfg) (q : St) (n : Nat) :
    (qPrepareWrite c q n).1.wcache = q.wcache ∧ (qPrepareWrite c q n).1.rpos = q.rpos := by
  obtain ⟨_, _, e⟩ := qPrepareWrite_upd c q n
  rw [e]; exact ⟨rfl, rfl⟩

theorem NI.prepareWrite {c : Cfg} {q : St} {a : List Stmt} (h : NI q a) (n : Nat) : NI (qPrepareWrite c q n).1 a :=
  ⟨h.coh.of_same (qPrepareWrite_same c q n), QCache.congr h.wc (qPrepareWrite_rc c q n).1 (qPrepareWrite_rc c q n).2⟩

theorem NI.enq {c : Cfg} {q : St} {a : List Stmt} (h : NI q a) (st : Stmt) (hp : 0 < st.size) :
    NI (qFinishCommit c q st.size) (a ++ [st]) :=
  ⟨h.coh.enq st hp, QCache.enq h.wc c st⟩

theorem NI.commitWrite {c : Cfg} {q : St} {a : List Stmt} (h : NI q a) : NI (absApi c.qp q .commitWrite).1 a := by
  obtain ⟨pre, suf, e, hw⟩ := h.wc
  have hc := h.coh
  refine ⟨⟨?_, ?_, ?_, ?_, hc.pos⟩, pre, suf, e, ?_⟩ <;> simp only [absApi, apiOps, run, step, List.headD_cons]
  · exact hc.dist
  · exact hc.nle
  · exact hc.recs
  · exact hw

theorem prepareRead_cases (c : Cfg) (q : St) :
    ((qPrepareRead c q).1 = q ∧ q.wcache ≠ q.rpos ∧ (qPrepareRead c q).2 = true) ∨
    (q.wcache = q.rpos ∧ (qPrepareRead c q).1.wcache = q.wHist.headD 0 ∧
      ((qPrepareRead c q).2 = true ↔ q.wHist.headD 0 ≠ q.rpos)) := by
  simp only [qPrepareRead, absApi, apiOps, apiObs]
  by_cases hw : q.wcache = q.rpos
  · right
    refine ⟨hw, ?_, ?_⟩
    · simp [hw, run, step]
    · simp only [hw, if_true, run, step]
      by_cases h2 : q.wHist.head?.getD 0 = q.rpos <;> simp [h2]
  · left
    simp [hw, run]

theorem NI.prepareRead {c : Cfg} {q : St} {a : List Stmt} (h : NI q a) : NI (qPrepareRead c q).1 a :=
  ⟨h.coh.of_same (qPrepareRead_same c q), qPrepareRead_fst c q ▸ QCache.emptyTest h.wc h.coh.qlink c⟩

theorem NI.ne_of_ahead {q : St} {a : List Stmt} (h : NI q a) (hne : q.wcache ≠ q.rpos) : a ≠ [] := by
  obtain ⟨pre, suf, e, hw⟩ := h.wc
  intro hn
  subst hn
  have hp : pre = [] := (List.append_eq_nil_iff.mp e.symm).1
  rw [hp] at hw
  exact hne (by simpa using hw)

theorem NI.offered {c : Cfg} {q : St} {a : List Stmt} (h : NI q a) (ho : (qPrepareRead c q).2 = true) :
    a ≠ [] ∧ (qPrepareRead c q).1.wcache ≠ (qPrepareRead c q).1.rpos := by
  have hc := h.coh
  have hs := qPrepareRead_same c q
  rcases prepareRead_cases c q with ⟨e, hne, _⟩ | ⟨hw, e, hiff⟩
  · rw [e]
    exact ⟨h.ne_of_ahead hne, hne⟩
  · have h1 := hiff.mp ho
    rw [e, hs.rpos]
    refine ⟨?_, h1⟩
    intro hnil; subst hnil
    have hd : q.wpos = q.rpos := by simpa using hc.dist
    exact h1 (hc.pub.trans hd)

theorem NI.refused {c : Cfg} {q : St} {a : List Stmt} (h : NI q a) (ho : (qPrepareRead c q).2 = false) : a = [] :=
  h.coh.qlink.nil_of_eq (qPrepareRead_false c q ho)

theorem NI.read {c : Cfg} {q : St} {st : Stmt} {rest : List Stmt} (h : NI q (st :: rest)) (hne : q.wcache ≠ q.rpos) :
    NI (qFinishRead c q st.size) rest :=
  ⟨h.coh.read, QCache.read h.wc hne c⟩

theorem qCommitRead_rc (c : Cfg) (q : St) : (qCommitRead c q).wcache = q.wcache ∧ (qCommitRead c q).cap = q.cap := by
  obtain ⟨_, e⟩ := qCommitRead_upd c q
  rw [e]; exact ⟨rfl, rfl⟩

theorem NI.commitRead {c : Cfg} {q : St} {a : List Stmt} (h : NI q a) : NI (qCommitRead c q) a :=
  ⟨h.coh.of_same (qCommitRead_same c q), QCache.congr h.wc (qCommitRead_rc c q).1 (qCommitRead_same c q).rpos⟩

theorem NI.emptyTest {c : Cfg} {q : St} {a : List Stmt} (h : NI q a) : NI (qEmpty c q).1 a := by
  rw [← qPrepareRead_fst]; exact h.prepareRead

def CCoh : St → List St → List Stmt → Prop
  | q, [], l => NI q l
  | q, p :: rest, l => ∃ a b, l = a ++ b ∧ NI q a ∧ CCoh p rest b

theorem CCoh.updLast {f : St → St} {x : List Stmt} (hf : ∀ p a, NI p a → NI (f p) (a ++ x)) :
    ∀ (more : List St) (q : St) (l : List Stmt), CCoh q more l →
      CCoh (updLast f q more).1 (updLast f q more).2 (l ++ x)
  | [], q, l, h => hf q l h
  | p :: rest, q, l, h => by
    obtain ⟨a, b, e, hq, hr⟩ := h
    exact ⟨a, b ++ x, by rw [e, List.append_assoc], hq, CCoh.updLast hf rest p b hr⟩

theorem CCoh.updLast0 {f : St → St} (hf : ∀ p a, NI p a → NI (f p) a) (more : List St) (q : St) (l : List Stmt)
    (h : CCoh q more l) : CCoh (Backend.updLast f q more).1 (Backend.updLast f q more).2 l := by
  have := CCoh.updLast (f := f) (x := []) (fun p a hp => by simpa using hf p a hp) more q l h
  simpa using this

theorem CCoh.snoc (n : St) (hn : NI n []) : ∀ (more : List St) (q : St) (l : List Stmt), CCoh q more l → CCoh q (more ++ [n]) l
  | [], q, l, h => ⟨l, [], by simp, h, hn⟩
  | p :: rest, q, l, h => by
    obtain ⟨a, b, e, hq, hr⟩ := h
    exact ⟨a, b, e, hq, CCoh.snoc n hn rest p b hr⟩

theorem CCoh.updHead {f : St → St} (hf : ∀ a, NI q a → NI (f q) a) {more : List St} {l : List Stmt}
    (h : CCoh q more l) : CCoh (f q) more l := by
  cases more with
  | nil => exact hf l h
  | cons p rest => obtain ⟨a, b, e, hq, hr⟩ := h; exact ⟨a, b, e, hf a hq, hr⟩

theorem CCoh.head {q : St} {more : List St} {l : List Stmt} (h : CCoh q more l) : ∃ a b, l = a ++ b ∧ NI q a := by
  cases more with
  | nil => exact ⟨l, [], by simp, h⟩
  | cons p rest => obtain ⟨a, b, e, hq, _⟩ := h; exact ⟨a, b, e, hq⟩

theorem CCoh.read {c : Cfg} {q : St} {more : List St} {st : Stmt} {rest : List Stmt} (h : CCoh q more (st :: rest))
    (hoff : ∀ a, NI q a → a ≠ []) (hne : q.wcache ≠ q.rpos) : CCoh (qFinishRead c q st.size) more rest := by
  cases more with
  | nil => exact NI.read h hne
  | cons p r =>
    obtain ⟨a, b, e, hq, hr⟩ := h
    cases a with
    | nil => exact absurd rfl (hoff [] hq)
    | cons x a' =>
      simp only [List.cons_append, List.cons.injEq] at e
      obtain ⟨e1, e2⟩ := e
      subst e1
      exact ⟨a', b, e2, NI.read hq hne, hr⟩

end Backend.UQ
