import QuillModel.Backend.PcSkeleton
/-!
The obligations of `Closed`, over elementary moves and relative to an invariant already established: `Kept P Q` — from a
state where `P` holds, every step of the machine keeps `Q`. A tower of invariants `P₀`, `P₀ ∧ P₁`, `P₀ ∧ P₁ ∧ P₂` … is a
chain `Kept ⊤ P₀`, `Kept P₀ P₁`, `Kept (P₀ ∧ P₁) P₂` glued by `Kept.and`, each storey listing only its own conjunct, and
`Kept.closed` gives the `Closed` instance of the whole; `KeptB` and `KeptC` stand to `ClosedB` and `ClosedC` in the same
way. `refreshCache` and the loops `allEmpty`, `hasPending` and `cleanupContexts` are derived here, once, from three moves:
re-caching, a move of the reader on one queue, the drop of one context behind its guards.
-/
namespace Backend.PC
open Spsc

/-- the three moves of the reader on a queue that leave the ghost lists alone -/
inductive QRd (c : Cfg) (q : St) : St → Prop
  | prep : QRd c q (qPrepareRead c q).1
  | commit : QRd c q (qCommitRead c q)
  | probe : QRd c q (qEmpty c q).1

def QOnly (f : Th → Th) : Prop := ∀ t, f t = { t with q := (f t).q }

theorem QOnly.proj {f : Th → Th} (h : QOnly f) {α} (g : Th → α) (hg : ∀ t q, g { t with q := q } = g t) (t : Th) :
    g (f t) = g t := by
  rw [h t]; exact hg t _

structure KeptC (P Q : BSt → Prop) : Prop where
  book : ∀ s sc n lf g il, Q s →
    Q { s with siteCnt := sc, now := n, lastFlush := lf, backendGone := g, hasInvalidLoggers := il }
  note : ∀ s, Q s → Q (s.emit (.notify "n:fmterr"))
  recache : ∀ s, P s → Q s → Q { s with cache := s.registry, newFlag := false }
  rdQ : ∀ s i (f : Th → Th), P s → Q s → QOnly f → QRd s.cfg (s.th i).q (f (s.th i)).q → Q (s.setTh i f)
  /-- what the context clean-up knows of the context it drops -/
  dropCtx : ∀ s i, P s → Q s → i ∈ s.cache → (s.th i).valid = false → (ctxEmpty s i).2 = true →
    (s.cfg.cleanupKeepsUnreported = true → (s.th i).fail = 0) → Q (removeSt (ctxEmpty s i).1 i)
  /-- the erase behind an emptiness check that answered yes; the check itself (`allEmpty`, derived from `recache` and
      `rdQ`) has kept both invariants -/
  erase : ∀ s i, P s → Q s → P (Backend.allEmpty s).1 → Q (Backend.allEmpty s).1 → (s.lgOf i).valid = false →
    (Backend.allEmpty s).2 = true → Q ((Backend.allEmpty s).1.setLg i (fun l => { l with erased := true }))
  reap : ∀ s sid, P s → Q s → (s.sinkOf sid).alive = true → sinkRefs s sid = 0 →
    Q ((s.setSink sid (fun k => { k with alive := false })).emit (.sinkDtor sid))
  flagRemoval : ∀ s0 s f g, Q s0 → P s → Q s → ErasedNow s0 s g →
    (∃ g', s.removalFlags.find? (·.1 = g) = some (g', f)) →
    Q { s with flags := f :: s.flags, flagLog := (f, s.log.length) :: s.flagLog,
               removalFlags := s.removalFlags.filter (·.1 ≠ g) }
  flushSinks : ∀ s, P s → Q s → Q (flushSinks s)
  readOne : ∀ s i st rest, P s → Q s → (qPrepareRead s.cfg (s.th i).q).2 = true → (s.th i).qStmts = st :: rest →
    Q (readOneSt s i st rest)
  report : ∀ s i, P s → Q s → (s.th i).fail > 0 → Q (reportSt s i)
  pop : ∀ s i st rest, P s → Q s → lowest s = some i → (s.th i).buf = st :: rest → Q (popSt s i st rest)
  raise : ∀ s f, Q s → (∃ st, s.popLog.head? = some st ∧ st.kind = .flush f) → Q (raiseSt s f)

structure KeptB (P Q : BSt → Prop) : Prop extends KeptC P Q where
  emitInj : ∀ s a b c d, Q s → Q (s.emit (.inj a b c d))

structure Kept (P Q : BSt → Prop) : Prop extends KeptB P Q where
  front : ∀ s f, P s → Q s → Q (applyFront s f).1

section
variable {P : BSt → Prop} (hP : KeptC (fun _ => True) P)
include hP

theorem KeptC.ctxEmpty (s : BSt) (i : Nat) (h : P s) : P (ctxEmpty s i).1 :=
  hP.rdQ s i (fun t => { t with q := (qEmpty s.cfg (s.th i).q).1 }) trivial h (fun _ => rfl) .probe

theorem KeptC.refresh (s : BSt) (h : P s) : P (refreshCache s) := by
  rcases refreshCache_cases s with e | e <;> rw [e]
  · exact h
  · exact hP.recache s trivial h

theorem KeptC.allEmpty (s : BSt) (h : P s) : P (allEmpty s).1 := allEmpty_pres P hP.refresh hP.ctxEmpty s h

theorem KeptC.go (fuel : Nat) (s : BSt) (h : P s) : P (cleanupContexts.go fuel s) :=
  go_rule P hP.ctxEmpty (fun x i hx => hP.dropCtx x i trivial hx) fuel s h

theorem KeptC.closedC : ClosedC P where
  note := hP.note
  clock s n h := hP.book s s.siteCnt n s.lastFlush s.backendGone s.hasInvalidLoggers h
  gone s h := hP.book s s.siteCnt s.now s.lastFlush true s.hasInvalidLoggers h
  lastFlush s n h := hP.book s s.siteCnt s.now n s.backendGone s.hasInvalidLoggers h
  refresh := hP.refresh
  allEmpty := hP.allEmpty
  hasPending s h := hasPending_pres P hP.refresh hP.ctxEmpty s h
  cleanupContexts s h := cleanupContexts_rule P hP.ctxEmpty (fun x i hx => hP.dropCtx x i trivial hx) s h
  invFlag s b h := hP.book s s.siteCnt s.now s.lastFlush s.backendGone b h
  erase s i h := hP.erase s i trivial h trivial (hP.allEmpty s h)
  reap s sid h := hP.reap s sid trivial h
  flagRemoval s0 s f g h0 h := hP.flagRemoval s0 s f g h0 trivial h
  flushSinks s h := hP.flushSinks s trivial h
  readPrep s i h := hP.rdQ s i _ trivial h (fun _ => rfl) .prep
  commit s i h := hP.rdQ s i (fun t => { t with q := qCommitRead s.cfg t.q }) trivial h (fun _ => rfl) .commit
  readOne s i st rest h := hP.readOne s i st rest trivial h
  report s i h := hP.report s i trivial h
  pop s i st rest h := hP.pop s i st rest trivial h
  raise := hP.raise

end

theorem KeptB.closedB {P : BSt → Prop} (hP : KeptB (fun _ => True) P) : ClosedB P :=
  hP.toKeptC.closedC.toB (fun s x h => hP.book s x s.now s.lastFlush s.backendGone s.hasInvalidLoggers h) hP.emitInj

theorem Kept.closed {P : BSt → Prop} (hP : Kept (fun _ => True) P) : Closed P :=
  { hP.toKeptB.closedB with front := fun s f h => hP.front s f trivial h }

theorem KeptC.and {P Q : BSt → Prop} (hP : KeptC (fun _ => True) P) (hQ : KeptC P Q) :
    KeptC (fun _ => True) (fun s => P s ∧ Q s) where
  book s sc n lf g il h := ⟨hP.book s sc n lf g il h.1, hQ.book s sc n lf g il h.2⟩
  note s h := ⟨hP.note s h.1, hQ.note s h.2⟩
  recache s _ h := ⟨hP.recache s trivial h.1, hQ.recache s h.1 h.2⟩
  rdQ s i f _ h hf hq := ⟨hP.rdQ s i f trivial h.1 hf hq, hQ.rdQ s i f h.1 h.2 hf hq⟩
  dropCtx s i _ h hc hv he hz := ⟨hP.dropCtx s i trivial h.1 hc hv he hz, hQ.dropCtx s i h.1 h.2 hc hv he hz⟩
  erase s i _ h _ h' hv he := ⟨hP.erase s i trivial h.1 trivial h'.1 hv he, hQ.erase s i h.1 h.2 h'.1 h'.2 hv he⟩
  reap s sid _ h ha hr := ⟨hP.reap s sid trivial h.1 ha hr, hQ.reap s sid h.1 h.2 ha hr⟩
  flagRemoval s0 s f g h0 _ h he hf :=
    ⟨hP.flagRemoval s0 s f g h0.1 trivial h.1 he hf, hQ.flagRemoval s0 s f g h0.2 h.1 h.2 he hf⟩
  flushSinks s _ h := ⟨hP.flushSinks s trivial h.1, hQ.flushSinks s h.1 h.2⟩
  readOne s i st rest _ h hr hq := ⟨hP.readOne s i st rest trivial h.1 hr hq, hQ.readOne s i st rest h.1 h.2 hr hq⟩
  report s i _ h hf := ⟨hP.report s i trivial h.1 hf, hQ.report s i h.1 h.2 hf⟩
  pop s i st rest _ h hl hb := ⟨hP.pop s i st rest trivial h.1 hl hb, hQ.pop s i st rest h.1 h.2 hl hb⟩
  raise s f h hg := ⟨hP.raise s f h.1 hg, hQ.raise s f h.2 hg⟩

theorem KeptB.and {P Q : BSt → Prop} (hP : KeptB (fun _ => True) P) (hQ : KeptB P Q) :
    KeptB (fun _ => True) (fun s => P s ∧ Q s) :=
  { hP.toKeptC.and hQ.toKeptC with emitInj := fun s a b c d h => ⟨hP.emitInj s a b c d h.1, hQ.emitInj s a b c d h.2⟩ }

theorem Kept.and {P Q : BSt → Prop} (hP : Kept (fun _ => True) P) (hQ : Kept P Q) :
    Kept (fun _ => True) (fun s => P s ∧ Q s) :=
  { hP.toKeptB.and hQ.toKeptB with front := fun s f _ h => ⟨hP.front s f trivial h.1, hQ.front s f h.1 h.2⟩ }

end Backend.PC
