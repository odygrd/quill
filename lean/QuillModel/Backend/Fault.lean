import QuillModel.Backend.Ops
/-!
# The backend machine with the extended fault model (w2_faults)

`Backend/Sched.lean` knows one kind of sink fault (a `std::exception` with text thrown by `write_log` / `flush_sink`).
This file is the same machine with

* **fault kinds** (`Sink.wkind`, `Sink.fkind`): what the catch handlers of `_process_lowest_timestamp_transit_event`,
  `_replay_backtrace_event`, `_flush_and_run_active_sinks` hand to the notifier is `e.what()` for a `std::exception`
  — which may be the EMPTY string — and `"Caught unhandled exception."` otherwise;
* **override patterns that cannot be built** (`Sink.patFails`): `_write_log_statement` creates the sink's own
  `PatternFormatter` lazily INSIDE the per-sink loop, after `apply_all_filters` accepted the statement and before
  `write_log` (`FCfg.patInLoop`, extracted). The constructor throws, the member stays null, so every later statement that
  reaches that sink throws again;
* **exceptions that escape the read pass** (`BSt.udt`, `BSt.dthrow`): the argument decoder of a user-defined type throws in
  `_populate_transit_event_from_frontend_queue`, i.e. after `prepare_read` and the `ts > ts_now` test, before `finish_read`,
  `push_back` and — for the records read earlier in the same pass — before `commit_read`. Nothing catches it inside
  `_populate_transit_events_from_frontend_queues` (`FCfg.readAborts`, extracted), so `_poll` is over: the run loop and
  `ManualBackendWorker::poll_one` catch it around `_poll()` and report `e.what()`.

Every function below is the function of the same name in `Sched.lean` plus these faults; with no fault armed they compute
the same states (`Props/Faults.lean`). The driver replays the harness on THIS machine.
-/
namespace Backend

/-- structural facts of the code the fault machine is parametric in (extracted; the defaults are the current tree) -/
structure FCfg where
  /-- the override formatter is created inside the per-sink loop, after the level/filter test -/
  patInLoop : Bool := true
  /-- an exception raised while a queue is read escapes the read pass (no per-queue catch) -/
  readAborts : Bool := true
  /-- the handlers of `_process_lowest_timestamp_transit_event` call the notifier whatever the text is -/
  notifyAlways : Bool := true
  deriving Repr

def kindAt (l : List (Nat × Nat)) (k : Nat) : Nat := ((l.find? (·.1 = k)).map (·.2)).getD 0

/-- what the catch handlers hand to the notifier: `e.what()` (canonical `base`), the empty text, or the catch-all text -/
def faultNote (base : String) : Nat → String
  | 0 => base
  | 1 => "n:empty"
  | _ => "n:unhandled"

/-- `_write_log_statement`. Returns the state and the text of the exception that escaped, if any. -/
def writeToSinksF (s : BSt) (st : Stmt) : List Nat → BSt × Option String
  | [] => (s, none)
  | sid :: rest =>
    let k := s.sinkOf sid
    if sinkAccepts k st then
      -- `if (sink->_override_pattern_formatter_options) { if (!sink->_override_pattern_formatter) make_shared<PatternFormatter>(…)`
      if k.patFails then (s, some "n:patfail") else
      let k' := { k with wcalls := k.wcalls + 1 }
      let s1 := s.setSink sid (fun _ => k')
      if throwsAt k.wthrow k'.wcalls then
        (s1.emit (.wthrow sid st.id), some (faultNote "n:wfail" (kindAt k.wkind k'.wcalls)))
      else writeToSinksF (s1.emit (.write sid st.id st.lvl st.ts st.named)) st rest
    else writeToSinksF s st rest

/-- `_dispatch_transit_event_to_sinks`; with `patInLoop = false` (the hoisted variant) every override formatter of the
    logger's sinks is created before the loop -/
def dispatchF (fc : FCfg) (s : BSt) (st : Stmt) : BSt × Option String :=
  let sinks := (s.lgOf st.lg).sinks
  if !fc.patInLoop && sinks.any (fun sid => (s.sinkOf sid).patFails) then (s, some "n:patfail")
  else writeToSinksF s st sinks

def replayGoF (fc : FCfg) (s : BSt) : List Stmt → BSt × Option String
  | [] => (s, none)
  | x :: xs =>
    let r := dispatchF fc s x
    match r.2 with
    | some m => if r.1.cfg.replayCatchesPerEvent then replayGoF fc (r.1.emit (.notify m)) xs else r
    | none => replayGoF fc r.1 xs

def replayRingF (fc : FCfg) (s : BSt) (lgi : Nat) : BSt × Option String :=
  match (s.lgOf lgi).bt with
  | none => (s, none)
  | some r =>
    let res := replayGoF fc s r.replay
    if res.2.isSome then res else (res.1.setLg lgi (fun l => { l with bt := some r.cleared }), none)

/-- `_flush_and_run_active_sinks`: per-sink try/catch, the notifier gets the text of the kind thrown -/
def flushSinksF (s : BSt) : BSt :=
  (activeSinks s).foldl (fun s sid =>
    let k := s.sinkOf sid
    let k' := { k with fcalls := k.fcalls + 1 }
    let s1 := s.setSink sid (fun _ => k')
    if throwsAt k.fthrow k'.fcalls then
      (s1.emit (.fthrow sid)).emit (.notify (faultNote "n:ffail" (kindAt k.fkind k'.fcalls)))
    else s1.emit (.flushed sid)) s

/-- `_flush_and_run_active_sinks(_, interval)` (see `flushGate`): interval 0 = always; else the clock read (site 7) and the gate -/
def flushGateF (inj : BSt → Nat → BSt) (s : BSt) (interval : Nat) : BSt :=
  if interval = 0 then flushSinksF s
  else
    let s1 := inj s 7
    if interval < s1.now - s1.lastFlush then flushSinksF { s1 with lastFlush := s1.now } else s1

/-- F33 repair, head of `_cleanup_invalidated_loggers` (see `preEraseFlush`) -/
def preEraseFlushF (s : BSt) : BSt :=
  if s.cfg.flushBeforeLoggerErase && s.hasInvalidLoggers then flushSinksF s else s

def processEventF (fc : FCfg) (s : BSt) (st : Stmt) : BSt × Option String × Option Nat :=
  match st.kind with
  | .log =>
    if st.lvl ≠ 9 then
      let r := dispatchF fc s st
      if r.2.isSome then (r.1, r.2, none) else
      let lg := r.1.lgOf st.lg
      if lg.btFlush ≤ st.lvl ∧ lg.bt.isSome then
        let r2 := replayRingF fc r.1 st.lg
        (r2.1, r2.2, none)
      else (r.1, none, none)
    else
      match (s.lgOf st.lg).bt with
      | some ring => (s.setLg st.lg (fun l => { l with bt := some (ring.store st) }), none, none)
      | none => (s, some "n:nobt", none)
  | .initBt cap _ =>
    let ring := ((s.lgOf st.lg).bt.getD {}).setCapacity cap
    (s.setLg st.lg (fun l => { l with bt := some ring }), none, none)
  | .flushBt =>
    let r := replayRingF fc s st.lg
    (r.1, r.2, none)
  | .flush f => (flushSinksF s, none, some f)
  | .removal _ => (s, none, none)

/-- the handlers of `_process_lowest_timestamp_transit_event`: the notifier is called in the handler, with whatever text
    (`notifyAlways`); the variant that keeps the text and reports after the pop `if (!text.empty())` drops the empty one -/
def reportF (fc : FCfg) (s : BSt) : Option String → BSt
  | some m => if !fc.notifyAlways && m == "n:empty" then s else s.emit (.notify m)
  | none => s

/-- `_process_lowest_timestamp_transit_event` -/
def processLowestF (fc : FCfg) (inj : BSt → Nat → BSt) (s : BSt) : BSt × Bool :=
  match lowest s with
  | none => (s, false)
  | some i =>
    match (s.th i).buf with
    | [] => (s, false)
    | st :: rest =>
      let (s1, exc, flag) := processEventF fc s st
      let s2 := reportF fc s1 exc
      let s3 := { s2.setTh i (fun t => { t with buf := rest, popped := t.popped ++ [st] }) with popLog := st :: s2.popLog }
      match flag with
      | some f =>
        let s3' := if s3.cfg.reportBeforeFlushCleanup then checkFailures inj s3 else s3
        let s4 := cleanupContexts s3'
        ({ s4 with flags := f :: s4.flags, flagLog := (f, s4.log.length) :: s4.flagLog }, true)
      | none => (s3, true)

/-- `_read_and_decode_frontend_queue`; the Boolean says that an exception escaped (the decoder of a user-defined type
    threw): the record offered by `prepare_read` stays in the queue, nothing read before it in this pass is committed -/
def readQueueF (inj : BSt → Nat → BSt) (tsNow : Option Nat) (i : Nat) : Nat → Nat → BSt → BSt × Bool
  | 0, total, s => (if total ≠ 0 then s.setTh i (fun t => { t with q := qCommitRead s.cfg t.q }) else s, false)
  | fuel + 1, total, s =>
    let th := s.th i
    let r := qPrepareRead s.cfg th.q
    let s1 := s.setTh i (fun t => { t with q := r.1 })
    let fin (s : BSt) : BSt := if total ≠ 0 then s.setTh i (fun t => { t with q := qCommitRead s.cfg t.q }) else s
    if !r.2 then (fin s1, false) else
    match th.qStmts with
    | [] => (fin s1, false)
    | st :: rest =>
      if (match tsNow with | some t => decide (t < st.ts) | none => false) then (fin s1, false) else
      -- `format_args_decoder(read_pos, _format_args_store)`: user code for a user-defined type
      let isU := isLogKind st.kind && s1.udt.contains st.id   -- (control events carry the id 0)
      let s1 := if isU then { s1 with dcalls := s1.dcalls + 1 } else s1
      if isU && s1.dthrow.contains s1.dcalls then (s1.emit (.notify s!"dthrow:{s1.dcalls}"), true) else
      let s2 := match st.kind with
        | .removal f => { s1 with removalFlags := s1.removalFlags ++ [((s1.lgOf st.lg).gid, f)] }
        | _ => s1
      let s3 := s2.setTh i (fun t => { t with q := qFinishRead s2.cfg t.q st.size, qStmts := rest, buf := t.buf ++ [st] })
      let s4 := inj (fmtNote s3 st) 3
      let total' := total + st.size
      if total' < s4.cfg.qcap ∧ (s4.th i).buf.length < s4.cfg.hard then readQueueF inj tsNow i fuel total' s4
      else (s4.setTh i (fun t => { t with q := qCommitRead s4.cfg t.q }), false)

/-- one step of the pass over the cached contexts; `acc.2.2`: an exception is in flight (the rest of the pass is skipped) -/
def passStepF (fc : FCfg) (inj : BSt → Nat → BSt) (tsNow : Option Nat) (acc : BSt × Nat × Bool) (i : Nat) : BSt × Nat × Bool :=
  if acc.2.2 then acc else
  let sA := inj acc.1 2
  let r := readQueueF inj tsNow i ((sA.th i).qStmts.length + 64) 0 sA
  if r.2 then
    if fc.readAborts then (r.1, acc.2.1, true)
    -- the variant with a try/catch around the read of ONE queue: report, go on with the next queue
    else (r.1.emit (.notify "n:dfail"), acc.2.1 + (r.1.th i).buf.length, false)
  else (r.1, acc.2.1 + (r.1.th i).buf.length, false)

/-- `_populate_transit_events_from_frontend_queues` -/
def populateF (fc : FCfg) (inj : BSt → Nat → BSt) (s : BSt) : BSt × Nat × Bool :=
  let s := if s.cfg.refreshAfterSample then s else refreshCache s
  let s := if s.cfg.grace = 0 then s else inj s 7
  let tsNow := tsNowOf s
  let s1 := inj s 1
  let s2 := if s.cfg.refreshAfterSample then refreshCache s1 else s1
  s2.cache.foldl (passStepF fc inj tsNow) (s2, 0, false)

def batchLoopF (fc : FCfg) (inj : BSt → Nat → BSt) : Nat → BSt → BSt
  | 0, s => s
  | fuel + 1, s =>
    let r := hasPending s
    if r.2 then r.1 else
    let p := processLowestF fc inj r.1
    if !p.2 then p.1 else batchLoopF fc inj fuel (inj p.1 4)

/-- `_poll`; an exception that escaped the read pass ends the poll, the caller of `_poll()` reports it -/
def pollF (fc : FCfg) (inj : BSt → Nat → BSt) (s : BSt) : BSt :=
  let (s1, count, aborted) := populateF fc inj s
  if aborted then s1.emit (.notify "n:dfail") else
  if count ≠ 0 then
    if count < s1.cfg.soft then (processLowestF fc inj s1).1
    else batchLoopF fc inj (totalBuffered s1 + 64) s1
  else
    let s2 := inj s1 5
    let s3 := checkFailures inj (flushGateF inj s2 s2.cfg.flushInterval)
    let r := allEmpty s3
    if r.2 then cleanupLoggers inj (preEraseFlushF (cleanupContexts r.1)) else r.1

/-- `_exit` (read-pass faults are disarmed by the caller: an exception there ends the backend thread) -/
def exitLoopF (fc : FCfg) (inj : BSt → Nat → BSt) (tick : Nat) : Nat → BSt → BSt
  | 0, s => s
  | fuel + 1, s =>
    let r := allEmpty s
    if r.2 then
      let s1 := flushSinksF (checkFailures inj r.1)
      cleanupLoggers inj (preEraseFlushF (cleanupContexts s1))
    else
      let s0 := { r.1 with now := r.1.now + tick }
      let (s1, count, aborted) := populateF fc inj s0
      if aborted then s1 else
      let s2 := if count > 0 then batchLoopF fc inj (totalBuffered s1 + 64) s1 else s1
      exitLoopF fc inj tick fuel s2

/-- operations of the fault machine: those of `Ops.lean`, a log call whose argument is the user-defined type with the
    throwing decoder (`LOG_INFO`, same bytes as a string argument), and arming the k-th decode of such an argument -/
inductive OpF
  | base (o : Op)
  | logU (a g len : Nat)
  | armDecode (k : Nat)
  deriving Repr, Inhabited

def applyOpF (fc : FCfg) (s : BSt) : OpF → BSt × String
  | .base (.front f) => applyFront s f
  | .base (.poll table) =>
    if s.backendGone then (s, "noop") else (pollF fc (runInj table) { s with siteCnt := [] }, "ev")
  | .base .exit =>
    if s.backendGone then (s, "noop") else
    ({ exitLoopF fc (runInj []) 1000 100000 { s with siteCnt := [], dthrow := [] } with backendGone := true }, "ev")
  | .logU a g len =>
    let r := applyFront s (.log a g 4 len false)
    if r.1.nextId ≠ s.nextId then ({ r.1 with udt := s.nextId :: r.1.udt }, r.2) else r
  | .armDecode k => ({ s with dthrow := k :: s.dthrow }, "ok")

def runOpsF (fc : FCfg) (s : BSt) (ops : List OpF) : BSt := ops.foldl (fun s o => (applyOpF fc s o).1) s

end Backend
