import QuillModel.Backend.EventRel
import QuillModel.Backend.Basics
/-!
What the dispatch side appends to the event log, function by function. `LogExt p s s'`: the log of `s'` is that of `s` plus
events satisfying `p`. For each of `writeToSinks`, `dispatch`, the replay loop, `replayRing`, `flushSinks`, `reapSinks` and
`processEvent` the events it can leave are named (`wEv`, `rEv`, `fEv`, `tailEv`) and the function is shown to append only
those; "appends no ordinary write", "calls only into sinks of the logger", "appends no destruction" are then `LogExt.mono` with
a case analysis on the event, and none of them walks a function. For `writeToSinks` and `flushSinks` the appended block is
known exactly (`writeToSinks_spec`, `flushSinks_spec`); a count on it is a list computation. What is kept of the stored
backtrace statements is `RingAll`. What the same functions do to the rest of the state is a `SinkRel` (`EventRel.lean`).
-/
namespace Backend

def LogExt (P : Ev → Prop) (s s' : BSt) : Prop := ∃ new, s'.log = new ++ s.log ∧ ∀ e ∈ new, P e

section
variable {P : Ev → Prop}

theorem LogExt.refl (s : BSt) : LogExt P s s := ⟨[], rfl, fun _ h => nomatch h⟩

theorem LogExt.trans {a b c : BSt} (h1 : LogExt P a b) (h2 : LogExt P b c) : LogExt P a c := by
  obtain ⟨n1, e1, m1⟩ := h1
  obtain ⟨n2, e2, m2⟩ := h2
  exact ⟨n2 ++ n1, by rw [e2, e1, List.append_assoc], fun e he => (List.mem_append.mp he).elim (m2 e) (m1 e)⟩

theorem LogExt.of_eq {s s' : BSt} (h : s'.log = s.log) : LogExt P s s' := ⟨[], h, fun _ h => nomatch h⟩

theorem LogExt.emit (s : BSt) (e : Ev) (he : P e) : LogExt P s (s.emit e) :=
  ⟨[e], rfl, fun x hx => by rw [List.mem_singleton.mp hx]; exact he⟩

theorem LogExt.mono {Q : Ev → Prop} {s s' : BSt} (h : LogExt P s s') (hpq : ∀ e, P e → Q e) : LogExt Q s s' := by
  obtain ⟨evs, he, hp⟩ := h
  exact ⟨evs, he, fun e h => hpq e (hp e h)⟩

end

theorem sinkKeep {α} (φ : Sink → α) (hw : ∀ k n, φ { k with wcalls := n } = φ k) (hf : ∀ k n, φ { k with fcalls := n } = φ k) :
    SinkRel (fun s s' => ∀ j, φ (s'.sinkOf j) = φ (s.sinkOf j)) := by
  have copy : ∀ (s : BSt) sid (k' : Sink), k'.sid = (s.sinkOf sid).sid → φ k' = φ (s.sinkOf sid) →
      ∀ j, φ ((s.setSink sid (fun _ => k')).sinkOf j) = φ (s.sinkOf j) := by
    intro s sid k' hs hk j
    by_cases hex : ∃ x ∈ s.sinks, x.sid = sid
    · rcases sinkOf_setSink_cases s sid (fun _ => k') (fun _ _ => hs.trans (sinkOf_sid hex)) j with e | ⟨rfl, _, e⟩ <;> rw [e]
      exact hk
    · rw [setSink_absent s sid _ hex]
  exact ⟨fun _ _ => rfl, fun h h' j => (h' j).trans (h j), fun s sid => copy s sid _ rfl (hw ..),
    fun s sid => copy s sid _ rfl (hf ..), fun _ _ _ _ => rfl⟩

namespace PA

def acc (s : BSt) (st : Stmt) (sid : Nat) : Bool := sinkAccepts (s.sinkOf sid) st

/-- the event a successful `write_log` leaves -/
def W (st : Stmt) (sid : Nat) : Ev := .write sid st.id st.lvl st.ts st.named

end PA
open PA (acc W)

/-- which sinks take a statement is settled by level and filter, which no call changes -/
theorem acc_sinkRel : SinkRel (fun s s' => ∀ st, acc s' st = acc s st) := by
  have h := sinkKeep (fun k => (k.lvl, k.filtM, k.filtR)) (fun _ _ => rfl) (fun _ _ => rfl)
  refine ⟨fun _ _ => rfl, fun h1 h2 st => (h2 st).trans (h1 st), fun s sid st => ?_, fun s sid st => ?_, fun _ _ _ _ => rfl⟩ <;>
    funext j
  · have := h.wcall s sid j
    simp only [Prod.mk.injEq] at this
    simp only [acc, sinkAccepts, this.1, this.2.1, this.2.2]
  · have := h.fcall s sid j
    simp only [Prod.mk.injEq] at this
    simp only [acc, sinkAccepts, this.1, this.2.1, this.2.2]

/-- Either no exception escapes and the events appended to the history are exactly one `write` per accepting sink of the
    list, in list order; or the list splits at the first accepting sink whose `write_log` throws: the accepting sinks
    before it were written, it left a `wthrow`, the sinks after it were not visited. (`log` is newest first, hence the
    `reverse`.) -/
theorem writeToSinks_spec (st : Stmt) : ∀ (sids : List Nat) (s : BSt),
    ((writeToSinks s st sids).2 = false ∧
      (writeToSinks s st sids).1.log = ((sids.filter (acc s st)).map (W st)).reverse ++ s.log) ∨
    (∃ pre sid post, sids = pre ++ sid :: post ∧ (writeToSinks s st sids).2 = true ∧ acc s st sid = true ∧
      (writeToSinks s st sids).1.log = Ev.wthrow sid st.id :: ((pre.filter (acc s st)).map (W st)).reverse ++ s.log)
  | [], s => Or.inl ⟨rfl, rfl⟩
  | sid :: rest, s => by
    unfold writeToSinks
    dsimp only
    by_cases ha : sinkAccepts (s.sinkOf sid) st = true
    · rw [if_pos ha]
      split
      · exact Or.inr ⟨[], sid, rest, rfl, rfl, ha, rfl⟩
      · have hacc := acc_sinkRel.trans (acc_sinkRel.wcall s sid) (acc_sinkRel.emit _ (.write sid st.id st.lvl st.ts st.named) rfl) st
        rcases writeToSinks_spec st rest _ with ⟨h1, h2⟩ | ⟨pre, sid', post, h1, h2, h3, h4⟩
        · left
          refine ⟨h1, ?_⟩
          rw [h2, hacc, List.filter_cons_of_pos (by exact ha)]
          simp [W, BSt.emit, BSt.setSink]
        · right
          refine ⟨sid :: pre, sid', post, by rw [h1]; rfl, h2, by rw [← hacc]; exact h3, ?_⟩
          rw [h4, hacc, List.filter_cons_of_pos (by exact ha)]
          simp [W, BSt.emit, BSt.setSink]
    · rw [if_neg ha]
      rcases writeToSinks_spec st rest s with ⟨h1, h2⟩ | ⟨pre, sid', post, h1, h2, h3, h4⟩
      · left
        refine ⟨h1, ?_⟩
        rw [h2, List.filter_cons_of_neg (by exact ha)]
      · right
        refine ⟨sid :: pre, sid', post, by rw [h1]; rfl, h2, h3, ?_⟩
        rw [h4, List.filter_cons_of_neg (by exact ha)]

/-- the events one `_write_log_statement` of `st` over the sinks `sids` can leave -/
def wEv (st : Stmt) (sids : List Nat) (e : Ev) : Prop := ∃ sid ∈ sids, e = W st sid ∨ e = .wthrow sid st.id

theorem wEv_Ws {st : Stmt} {sids l : List Nat} (hl : ∀ x ∈ l, x ∈ sids) : ∀ e ∈ (l.map (W st)).reverse, wEv st sids e := by
  intro e he
  obtain ⟨x, hx, rfl⟩ := List.mem_map.mp (List.mem_reverse.mp he)
  exact ⟨x, hl x hx, .inl rfl⟩

theorem writeToSinks_log (st : Stmt) (sids : List Nat) (s : BSt) : LogExt (wEv st sids) s (writeToSinks s st sids).1 := by
  rcases writeToSinks_spec st sids s with ⟨_, h2⟩ | ⟨pre, f, post, h1, _, _, h4⟩
  · exact ⟨_, h2, wEv_Ws (fun x hx => (List.mem_filter.mp hx).1)⟩
  · refine ⟨_ :: _, h4, fun e he => ?_⟩
    rcases List.mem_cons.mp he with rfl | he
    · exact ⟨f, by rw [h1]; simp, .inr rfl⟩
    · exact wEv_Ws (fun x hx => by rw [h1]; exact List.mem_append_left _ (List.mem_filter.mp hx).1) e he

theorem dispatch_log (s : BSt) (st : Stmt) : LogExt (wEv st (s.lgOf st.lg).sinks) s (dispatch s st).1 :=
  writeToSinks_log st _ s

def rEv (s : BSt) (l : List Stmt) (e : Ev) : Prop := e = .notify "n:wfail" ∨ ∃ x ∈ l, wEv x (s.lgOf x.lg).sinks e

theorem rEv_lgs {s s' : BSt} (h : s'.lgs = s.lgs) {l : List Stmt} {e : Ev} (he : rEv s' l e) : rEv s l e := by
  unfold rEv BSt.lgOf at he ⊢
  rw [h] at he
  exact he

theorem replayGo_log (l : List Stmt) (s : BSt) : LogExt (rEv s l) s (replayRing.go s l).1 := by
  -- along the loop: the statements still to replay are of `l`, the loggers are those of `s`
  have step : ∀ (st : Stmt) (p : List Stmt) (x : BSt),
      (∀ y ∈ st :: p, y ∈ l) ∧ x.lgs = s.lgs ∧ LogExt (rEv s l) s x →
      (∀ y ∈ p, y ∈ l) ∧ (dispatch x st).1.lgs = s.lgs ∧ LogExt (rEv s l) s (dispatch x st).1 := fun st p x ⟨hm, hl, h⟩ =>
    ⟨fun y hy => hm y (List.mem_cons_of_mem _ hy), (lgs_sinkRel.dispatch x st).trans hl,
      h.trans ((dispatch_log x st).mono (fun e he => rEv_lgs hl (.inr ⟨st, hm st List.mem_cons_self, he⟩)))⟩
  exact replayGo_rule (fun p x => (∀ y ∈ p, y ∈ l) ∧ x.lgs = s.lgs ∧ LogExt (rEv s l) s x)
    (fun x _ => LogExt (rEv s l) s x) (fun _ h => h.2.2) (fun st p x h _ => step st p x h)
    (fun st p x h _ => by
      obtain ⟨a, b, c⟩ := step st p x h
      exact ⟨a, b, c.trans (LogExt.emit _ _ (.inl rfl))⟩)
    (fun st p x h _ => (step st p x h).2.2) l s ⟨fun _ h => h, rfl, LogExt.refl s⟩

theorem replay_mem {r : Ring} {x : Stmt} (hx : x ∈ r.replay) : x ∈ r.items := by
  simp only [Ring.replay, List.mem_append] at hx
  rcases hx with hx | hx
  · exact List.mem_of_mem_drop hx
  · exact List.mem_of_mem_take hx

def ringOf (s : BSt) (i : Nat) : List Stmt := ((s.lgOf i).bt.map (·.items)).getD []

theorem replayRing_log (s : BSt) (lgi : Nat) : LogExt (rEv s (ringOf s lgi)) s (replayRing s lgi).1 := by
  unfold replayRing
  split
  · exact LogExt.refl s
  · next r hr =>
    dsimp only
    have h1 : LogExt (rEv s (ringOf s lgi)) s (replayRing.go s r.replay).1 :=
      (replayGo_log r.replay s).mono (fun e he => he.imp_right fun ⟨y, hy, h⟩ => ⟨y, by
        simp only [ringOf, hr, Option.map_some, Option.getD_some]; exact replay_mem hy, h⟩)
    split
    · exact h1
    · exact h1

namespace PA

def flushVisit : Ev → Option Nat
  | .flushed sid => some sid
  | .fthrow sid => some sid
  | _ => none

def isFlushEv : Ev → Bool
  | .flushed _ => true
  | .fthrow _ => true
  | .notify m => m == "n:ffail"
  | _ => false

/-- `_flush_and_run_active_sinks`, whatever throws: the history grows by flush events only, and read in
    order they visit exactly the active sinks, each once, in `LoggerManager` order — a sink whose `flush_sink`
    throws leaves `fthrow` (+ the notification) instead of `flushed`, and the sinks after it are still visited. -/
theorem flushSinks_spec (s : BSt) :
    ∃ evs, (flushSinks s).log = evs ++ s.log ∧ evs.reverse.filterMap flushVisit = activeSinks s ∧
      ∀ e ∈ evs, isFlushEv e = true := by
  have step : ∀ (p : List Nat) (x : BSt) (sid : Nat) (ev : List Ev), ev.reverse.filterMap flushVisit = [sid] →
      (∀ e ∈ ev, isFlushEv e = true) →
      (∃ evs, x.log = evs ++ s.log ∧ evs.reverse.filterMap flushVisit ++ sid :: p = activeSinks s ∧
        ∀ e ∈ evs, isFlushEv e = true) →
      ∃ evs, ev ++ x.log = evs ++ s.log ∧ evs.reverse.filterMap flushVisit ++ p = activeSinks s ∧
        ∀ e ∈ evs, isFlushEv e = true := fun p x sid ev hv hf ⟨evs, h1, h2, h3⟩ => by
    refine ⟨ev ++ evs, by rw [h1, List.append_assoc], ?_, fun e he => (List.mem_append.mp he).elim (hf e) (h3 e)⟩
    rw [List.reverse_append, List.filterMap_append, hv, List.append_assoc]
    exact h2
  obtain ⟨evs, h1, h2, h3⟩ := flushSinks_rule
    (fun p x => ∃ evs, x.log = evs ++ s.log ∧ evs.reverse.filterMap flushVisit ++ p = activeSinks s ∧
      ∀ e ∈ evs, isFlushEv e = true)
    (fun p x sid => step p x sid [.flushed sid] rfl (fun e he => by rw [List.mem_singleton.mp he]; rfl))
    (fun p x sid => step p x sid [.notify "n:ffail", .fthrow sid] rfl (fun e he => by
      rcases List.mem_cons.mp he with rfl | he
      · rfl
      · rw [List.mem_singleton.mp he]; rfl))
    s ⟨[], rfl, rfl, fun _ h => nomatch h⟩
  exact ⟨evs, h1, by rwa [List.append_nil] at h2, h3⟩

end PA
open PA (flushVisit isFlushEv)

def fEv (sids : List Nat) (e : Ev) : Prop := e = .notify "n:ffail" ∨ ∃ sid ∈ sids, e = .flushed sid ∨ e = .fthrow sid

theorem flushSinks_log (s : BSt) : LogExt (fEv (activeSinks s)) s (flushSinks s) := by
  obtain ⟨evs, he, hv, hf⟩ := PA.flushSinks_spec s
  refine ⟨evs, he, fun e hm => ?_⟩
  have hin : ∀ sid, flushVisit e = some sid → sid ∈ activeSinks s := fun sid h => by
    rw [← hv]
    exact List.mem_filterMap.mpr ⟨e, List.mem_reverse.mpr hm, h⟩
  have := hf e hm
  cases e with
  | flushed sid => exact .inr ⟨sid, hin sid rfl, .inl rfl⟩
  | fthrow sid => exact .inr ⟨sid, hin sid rfl, .inr rfl⟩
  | notify m => exact .inl (by simp only [isFlushEv, beq_iff_eq] at this; rw [this])
  | _ => cases this

theorem reapSinks_log (sids : List Nat) (s : BSt) :
    LogExt (fun e => ∃ sid ∈ sids, e = .sinkDtor sid) s (reapSinks s sids) :=
  (reapSinks_rule (fun p x => (∀ y ∈ p, y ∈ sids) ∧ LogExt (fun e => ∃ sid ∈ sids, e = .sinkDtor sid) s x)
    (fun _ _ sid h _ _ => ⟨fun y hy => h.1 y (List.mem_cons_of_mem _ hy),
      h.2.trans ((LogExt.of_eq rfl).trans (LogExt.emit _ _ ⟨sid, h.1 sid List.mem_cons_self, rfl⟩))⟩)
    (fun _ _ _ h _ => ⟨fun y hy => h.1 y (List.mem_cons_of_mem _ hy), h.2⟩) sids s ⟨fun _ h => h, LogExt.refl s⟩).2

def RingAll (p : Nat → Stmt → Prop) (s : BSt) : Prop := ∀ i r, (s.lgOf i).bt = some r → ∀ x ∈ r.items, p i x

theorem RingAll.of_bt {p : Nat → Stmt → Prop} {s s' : BSt} (h : RingAll p s) (hbt : ∀ i, (s'.lgOf i).bt = (s.lgOf i).bt) :
    RingAll p s' :=
  fun i r hr => h i r (hbt i ▸ hr)

theorem RingAll.of_old {p : Nat → Stmt → Prop} {s s' : BSt} (h : RingAll p s)
    (hold : ∀ i, i < s.lgs.length → (s'.lgOf i).bt = (s.lgOf i).bt)
    (hnew : ∀ i, s.lgs.length ≤ i → (s'.lgOf i).bt = none) : RingAll p s' := by
  intro i r hr
  by_cases hi : i < s.lgs.length
  · exact h i r (hold i hi ▸ hr)
  · rw [hnew i (by omega)] at hr
    cases hr

theorem RingAll.setLg {p : Nat → Stmt → Prop} {s : BSt} (h : RingAll p s) (i : Nat) (f : Lg → Lg)
    (hf : ∀ r, (f (s.lgOf i)).bt = some r → ∀ x ∈ r.items, p i x) : RingAll p (s.setLg i f) := by
  intro j r hr
  rw [lgOf_setLg] at hr
  split at hr
  · next hc =>
    rw [hc.1] at hr ⊢
    exact hf r hr
  · exact h j r hr

theorem dispatch_ringAll {p : Nat → Stmt → Prop} {s : BSt} (h : RingAll p s) (st : Stmt) : RingAll p (dispatch s st).1 :=
  h.of_bt (fun i => by rw [lgOf_of_lgs (lgs_sinkRel.dispatch s st)])

/-- a replay leaves the rings alone or clears the one it replayed -/
theorem replayRing_ringAll {p : Nat → Stmt → Prop} {s : BSt} (h : RingAll p s) (lgi : Nat) :
    RingAll p (replayRing s lgi).1 := by
  unfold replayRing
  split
  · exact h
  · next r hr =>
    dsimp only
    have h3 : RingAll p (replayRing.go s r.replay).1 := h.of_bt (fun i => by rw [lgOf_of_lgs (lgs_sinkRel.replayGo r.replay s)])
    split
    · exact h3
    · refine h3.setLg _ _ (fun r' hr' x hx => ?_)
      simp only [Option.some.injEq] at hr'
      rw [← hr'] at hx
      simp [Ring.cleared] at hx

theorem ring_store_mem {r : Ring} {st x : Stmt} (hx : x ∈ (r.store st).items) : x ∈ r.items ∨ x = st := by
  unfold Ring.store at hx
  split at hx
  · exact Or.inl hx
  · split at hx
    · rcases List.mem_append.mp hx with hx | hx
      · exact Or.inl hx
      · simp at hx
        exact Or.inr hx
    · exact List.mem_or_eq_of_mem_set hx

theorem ring_setCapacity_mem {r : Ring} {c : Nat} {x : Stmt} (hx : x ∈ (r.setCapacity c).items) : x ∈ r.items := by
  unfold Ring.setCapacity at hx
  split at hx
  · exact hx
  · simp at hx

/-- one processed event stores nothing but, in the ring of its logger, a backtrace-level statement -/
theorem processEvent_ringAll {p : Nat → Stmt → Prop} (hp : ∀ st : Stmt, st.lvl = 9 → p st.lg st) {s : BSt}
    (h : RingAll p s) (st : Stmt) : RingAll p (processEvent s st).1 := by
  have hs := processEvent_shape s st
  generalize processEvent s st = r at hs ⊢
  cases hs with
  | writeFail | plain => exact dispatch_ringAll h st
  | replay => exact replayRing_ringAll (dispatch_ringAll h st) st.lg
  | @store ring _ hl hr =>
    refine h.setLg _ _ (fun r' hr' x hx => ?_)
    simp only [Option.some.injEq] at hr'
    rw [← hr'] at hx
    rcases ring_store_mem hx with hx | hx
    · exact h st.lg ring hr x hx
    · rw [hx]
      exact hp st hl
  | noRing | removal => exact h
  | initBt =>
    refine h.setLg _ _ (fun r' hr' x hx => ?_)
    simp only [Option.some.injEq] at hr'
    rw [← hr'] at hx
    have hx' := ring_setCapacity_mem hx
    cases hb : (s.lgOf st.lg).bt with
    | none =>
      rw [hb] at hx'
      simp at hx'
    | some r0 =>
      rw [hb] at hx'
      exact h st.lg r0 hb x hx'
  | flushBt => exact replayRing_ringAll h st.lg
  | flush => exact h.of_bt (fun i => by rw [lgOf_of_lgs (lgs_sinkRel.flushSinks s)])

namespace PA
/-- an ordinary log statement: `Event::Log` at a level other than `LogLevel::Backtrace` (9) -/
def isOrd (st : Stmt) : Bool := isLogKind st.kind && st.lvl != 9
end PA
open PA (isOrd)

theorem PA.isOrd_iff {st : Stmt} : isOrd st = true ↔ st.kind = .log ∧ st.lvl ≠ 9 := by
  cases hk : st.kind <;> simp [isOrd, isLogKind, hk]

/-- the events processing `st` can leave after the dispatch of `st` itself -/
def tailEv (s : BSt) (st : Stmt) (e : Ev) : Prop :=
  rEv s (ringOf s st.lg) e ∨ ((∃ f, st.kind = .flush f) ∧ fEv (activeSinks s) e)

/-- what one processed event appends: the dispatch of an ordinary statement (`dispatch_log`), and after it — for
    every other event from the start — a replay of the ring of its logger or a flush -/
theorem processEvent_log (s : BSt) (st : Stmt) :
    LogExt (tailEv s st) (if isOrd st = true then (dispatch s st).1 else s) (processEvent s st).1 := by
  have hs := processEvent_shape s st
  generalize processEvent s st = r at hs ⊢
  have hno : ∀ {c : Prop}, (st.kind = .log → st.lvl ≠ 9 → c) → isOrd st = true → c :=
    fun h ho => h (PA.isOrd_iff.mp ho).1 (PA.isOrd_iff.mp ho).2
  cases hs with
  | writeFail hk hl _ | plain hk hl _ _ => rw [if_pos (PA.isOrd_iff.mpr ⟨hk, hl⟩)]; exact LogExt.refl _
  | replay hk hl _ _ =>
    rw [if_pos (PA.isOrd_iff.mpr ⟨hk, hl⟩)]
    have hlg : (dispatch s st).1.lgs = s.lgs := lgs_sinkRel.dispatch s st
    refine (replayRing_log _ st.lg).mono (fun e he => .inl ?_)
    have : ringOf (dispatch s st).1 st.lg = ringOf s st.lg := by unfold ringOf BSt.lgOf; rw [hlg]
    rw [this] at he
    exact rEv_lgs hlg he
  | store _ hl _ | noRing _ hl _ => rw [if_neg (hno fun _ h => h hl)]; exact LogExt.of_eq rfl
  | initBt hk | removal hk => rw [if_neg (hno fun h _ => by rw [h] at hk; cases hk)]; exact LogExt.of_eq rfl
  | flushBt hk => rw [if_neg (hno fun h _ => by rw [h] at hk; cases hk)]; exact (replayRing_log s st.lg).mono (fun _ => .inl)
  | flush hk =>
    rw [if_neg (hno fun h _ => by rw [h] at hk; cases hk)]
    exact (flushSinks_log s).mono (fun _ he => .inr ⟨⟨_, hk⟩, he⟩)

theorem processEvent_ext (s : BSt) (st : Stmt) :
    LogExt (fun e => (isOrd st = true ∧ wEv st (s.lgOf st.lg).sinks e) ∨ tailEv s st e) s (processEvent s st).1 := by
  refine LogExt.trans ?_ ((processEvent_log s st).mono (fun _ => .inr))
  split
  · next ho => exact (dispatch_log s st).mono (fun _ he => .inl ⟨ho, he⟩)
  · exact LogExt.refl s

theorem procSt_ringAll {p : Nat → Stmt → Prop} (hp : ∀ st : Stmt, st.lvl = 9 → p st.lg st) {s : BSt}
    (h : RingAll p s) (st : Stmt) : RingAll p (procSt s st) := by
  unfold procSt
  split
  · exact (processEvent_ringAll hp h st).of_bt (fun _ => rfl)
  · exact processEvent_ringAll hp h st

theorem procSt_ext (s : BSt) (st : Stmt) :
    LogExt (fun e => (∃ m, e = .notify m) ∨ (isOrd st = true ∧ wEv st (s.lgOf st.lg).sinks e) ∨ tailEv s st e) s
      (procSt s st) := by
  have h := (processEvent_ext s st).mono (Q := fun e => (∃ m, e = .notify m) ∨ _) (fun _ => .inr)
  unfold procSt
  split
  · exact h.trans (LogExt.emit _ _ (.inl ⟨_, rfl⟩))
  · exact h

end Backend
