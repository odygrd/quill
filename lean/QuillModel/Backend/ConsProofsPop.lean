import QuillModel.Backend.ConsProofsOnce
import QuillModel.Backend.ConsProofsIdsFront
/-!
`InvP`: the global pop history `popLog` is a merge of the per-context `popped` histories (same number of
occurrences of any kind of statement). With `InvA` (popped is a prefix of accepted), `InvB` (ids identify
statements) and `InvW` (writes are bounded by the pops) this gives "at most once per sink" by statement id.
-/
namespace Backend.PA

def InvP (s : BSt) : Prop := ∀ p : Stmt → Bool, s.popLog.countP p = cntP s p

theorem InvP.of_eq {s s' : BSt} (h : InvP s) (h1 : s'.popLog = s.popLog) (h2 : ∀ p, cntP s' p = cntP s p) : InvP s' :=
  fun p => by rw [h1, h2]; exact h p

theorem cntP_setTh_append (s : BSt) (i : Nat) (f : Th → Th) (x : Stmt) (p : Stmt → Bool) (hi : i < s.ths.length)
    (hf : (f (s.th i)).popped = (s.th i).popped ++ [x]) : cntP (s.setTh i f) p = cntP s p + [x].countP p := by
  have := sum_map_updAt s.ths i f (fun t => t.popped.countP p) hi
  rw [← th_eq_getElem s i hi, hf, List.countP_append] at this
  simp only [cntP, BSt.setTh]
  omega

theorem InvP.closed : Closed InvP :=
  Closed.of_still (fun h q => h.of_eq q.popLog q.pops) (fun s i st rest h hb => by
    obtain ⟨s2, c, e⟩ := popStep_eq s i st rest
    rw [e]
    intro p
    show (st :: s2.popLog).countP p = cntP (s2.setTh i _) p
    rw [cntP_setTh_append s2 i _ st p (c.ths ▸ buf_head_lt hb) rfl, cntP_of_ths c.ths, c.popLog, List.countP_cons, h p]
    simp)

structure Inv (s : BSt) : Prop where
  a : InvA s
  b : InvB s
  w : InvW s
  p : InvP s

theorem Inv.run {s : BSt} (h : Inv s) (ops : List Op) : Inv (runOps s ops) :=
  ⟨runOps_closed InvA.closed ops s h.a, runOps_closed InvB.closed ops s h.b,
   runOps_closed InvW.closed ops s h.w, runOps_closed InvP.closed ops s h.p⟩

/-- a freshly started system: no context, no actor, nothing logged yet, no logger with backtrace storage (the sinks,
    the loggers otherwise, the clock and every configuration parameter except a non-empty record header are arbitrary) -/
structure Fresh (s : BSt) : Prop where
  hdr : 0 < s.cfg.hdr
  ths : s.ths = []
  actors : s.actors = []
  log : s.log = []
  popLog : s.popLog = []
  rings : ∀ i, (s.lgOf i).bt = none

theorem Fresh.inv {s : BSt} (h : Fresh s) : Inv s := by
  have hth : ∀ i, s.th i = default := th_of_ths_nil h.ths
  have htot : ∀ id, tot s id = 0 := fun id => by
    unfold tot cntA cntB
    rw [h.ths, h.actors]
    rfl
  refine ⟨⟨h.hdr, fun i => by rw [hth]; exact ThOK.default, ?_, ?_, ?_⟩, ⟨?_, ?_, ?_⟩, ⟨?_, ?_⟩, ?_⟩
  · intro x hx
    rw [h.actors] at hx
    cases hx
  · intro x hx
    rw [h.actors] at hx
    cases hx
  · intro i hi
    rw [h.ths] at hi
    cases hi
  · intro id
    rw [htot]
    exact Nat.zero_le 1
  · intro id _
    exact htot id
  · intro a
    rw [h.actors]
    exact Nat.zero_le 1
  · intro i r hr
    rw [h.rings i] at hr
    cases hr
  · intro sid id
    unfold wcount
    rw [h.log]
    exact Nat.zero_le _
  · intro p
    unfold cntP
    rw [h.ths, h.popLog]
    rfl

theorem Fresh.of_no_rings {s : BSt} (hh : 0 < s.cfg.hdr) (ht : s.ths = []) (ha : s.actors = []) (hl : s.log = [])
    (hp : s.popLog = []) (hb : ∀ l ∈ s.lgs, l.bt = none) : Fresh s :=
  ⟨hh, ht, ha, hl, hp, lgOf_bt_none hb⟩

def cA (s : BSt) (p : Stmt → Bool) : Nat := (s.ths.map (fun t => t.accepted.countP p)).sum

def logq (id : Nat) : Stmt → Bool := fun st => isLogKind st.kind && st.id == id

theorem cntA_eq_cA (s : BSt) (id : Nat) : cntA s id = cA s (logq id) := rfl

theorem cntP_le_cA {s : BSt} (h : InvA s) (p : Stmt → Bool) : cntP s p ≤ cA s p := by
  apply List.sum_map_le
  intro t ht
  obtain ⟨i, _, rfl⟩ := mem_ths s ht
  rw [(h.th i).cons, List.countP_append, List.countP_append]; omega

theorem cA_mono (s : BSt) (p q : Stmt → Bool) (h : ∀ x, p x = true → q x = true) : cA s p ≤ cA s q := by
  apply List.sum_map_le
  intro t _
  exact List.countP_mono_left (fun x _ hx => h x hx)

theorem countP_split {α} (l : List α) (p r : α → Bool) :
    l.countP p = l.countP (fun x => p x && r x) + l.countP (fun x => p x && !r x) := by
  induction l with
  | nil => rfl
  | cons x xs ih =>
    simp only [List.countP_cons, ih]
    cases p x <;> cases r x <;> simp <;> omega

theorem sum_map_add {α} (l : List α) (f g : α → Nat) : (l.map (fun x => f x + g x)).sum = (l.map f).sum + (l.map g).sum := by
  induction l with
  | nil => rfl
  | cons x xs ih => simp only [List.map_cons, List.sum_cons, ih]; omega

theorem cA_split (s : BSt) (p r : Stmt → Bool) :
    cA s p = cA s (fun x => p x && r x) + cA s (fun x => p x && !r x) := by
  unfold cA
  rw [← sum_map_add]
  congr 1
  apply List.map_congr_left
  intro t _
  exact countP_split _ p r

theorem le_sum_of_getElem (l : List Nat) (i : Nat) (hi : i < l.length) : l[i] ≤ l.sum := by
  induction l generalizing i with
  | nil => cases hi
  | cons x xs ih =>
    cases i with
    | zero => simp
    | succ j =>
      simp only [List.getElem_cons_succ, List.sum_cons]
      have := ih j (by simpa using hi)
      omega

theorem th_le_sum_map (s : BSt) (g : Th → Nat) {i : Nat} (hi : i < s.ths.length) : g (s.th i) ≤ (s.ths.map g).sum := by
  have h := le_sum_of_getElem (s.ths.map g) i (by simpa using hi)
  rwa [List.getElem_map, ← th_eq_getElem s i hi] at h

theorem cA_pos {s : BSt} {i : Nat} {st : Stmt} (hm : st ∈ (s.th i).accepted) (p : Stmt → Bool) (hp : p st = true) :
    1 ≤ cA s p :=
  Nat.le_trans (List.countP_pos_iff.mpr ⟨st, hm, hp⟩)
    (th_le_sum_map s (fun t => t.accepted.countP p) (lt_length_of_th (P := fun t => st ∈ t.accepted) hm List.not_mem_nil))

theorem sum_map_const {α} (l : List α) (g : α → Nat) (c : Nat) (h : ∀ x ∈ l, g x = c) : (l.map g).sum = l.length * c := by
  induction l with
  | nil => simp
  | cons x xs ih =>
    simp only [List.map_cons, List.sum_cons, List.length_cons]
    rw [h x (by simp), ih (fun y hy => h y (by simp [hy])), Nat.succ_mul]; omega

theorem InvB.cA_logq_le {s : BSt} (h : InvB s) (id : Nat) : cA s (logq id) ≤ 1 := by
  rw [← cntA_eq_cA]
  have := h.uniq id
  unfold tot at this
  omega

def pq (id : Nat) : Stmt → Bool := fun x => isOrd x && x.id == id

theorem pq_logq (id : Nat) (x : Stmt) (h : pq id x = true) : logq id x = true := by
  simp only [pq, isOrd, Bool.and_eq_true, beq_iff_eq] at h
  simp [logq, h.1.1, h.2]

theorem Inv.countP_ord_le {s : BSt} (h : Inv s) (id : Nat) :
    s.popLog.countP (pq id) ≤ cA s (logq id) := by
  rw [h.p]
  exact Nat.le_trans (cntP_le_cA h.a _) (cA_mono s _ _ (pq_logq id))

theorem Inv.unwritten_of_unpopped {s : BSt} (h : Inv s) (id : Nat) (hz : s.popLog.countP (pq id) = 0) (sid : Nat) :
    wcount s.log sid id = 0 := by
  have hb := h.w.bound sid id
  rw [show popBound s sid id = 0 from grant_eq_zero hz sid] at hb
  exact Nat.le_zero.mp hb

/-- the grants of one statement id collapse to one statement's: ids are unique, `popped` is a prefix of `accepted`
    (`q`: any kind of `Event::Log` statements with the id of `st`) -/
theorem Inv.grant_le {s : BSt} (h : Inv s) {i : Nat} {st : Stmt} (hm : st ∈ (s.th i).accepted) (q : Stmt → Bool)
    (hq : ∀ x, q x = true → logq st.id x = true) (hqst : q st = true) (sid : Nat) :
    grant q s sid ≤ (s.lgOf st.lg).sinks.count sid := by
  unfold grant
  have hle : cA s q ≤ 1 := Nat.le_trans (cA_mono s q _ hq) (h.b.cA_logq_le st.id)
  -- every popped statement of this kind is logged through the same logger
  have hlg : ∀ x ∈ s.popLog.filter q, x.lg = st.lg := by
    intro x hx
    obtain ⟨hxm, hxq⟩ := List.mem_filter.mp hx
    by_cases hne : x.lg = st.lg
    · exact hne
    exfalso
    have h1 : 1 ≤ s.popLog.countP (fun y : Stmt => q y && !(y.lg == st.lg)) :=
      List.countP_pos_iff.mpr ⟨x, hxm, by simp [hxq, hne]⟩
    have h2 : 1 ≤ cA s (fun y : Stmt => q y && !(y.lg == st.lg)) := by
      have := h.p (fun y : Stmt => q y && !(y.lg == st.lg))
      have := cntP_le_cA h.a (fun y : Stmt => q y && !(y.lg == st.lg))
      omega
    have h3 : 1 ≤ cA s (fun y => q y && (y.lg == st.lg)) := cA_pos hm _ (by simp [hqst])
    have h4 := cA_split s q (fun y => y.lg == st.lg)
    omega
  rw [sum_map_const _ _ ((s.lgOf st.lg).sinks.count sid) (fun x hx => by rw [hlg x hx])]
  have hlen : (s.popLog.filter q).length ≤ 1 := by
    rw [← List.countP_eq_length_filter]
    have h1 := h.p q
    have h2 := cntP_le_cA h.a q
    omega
  generalize (s.popLog.filter q).length = n at hlen
  match n, hlen with
  | 0, _ => simp
  | 1, _ => simp

/-- at most once: an ordinary statement accepted by some queue is written to sink `sid` at most as often
    as `sid` occurs in its logger's sink list — over the whole history, whatever the schedule. -/
theorem Inv.at_most_once {s : BSt} (h : Inv s) (i : Nat) (st : Stmt) (hm : st ∈ (s.th i).accepted)
    (hord : isOrd st = true) (sid : Nat) : wcount s.log sid st.id ≤ (s.lgOf st.lg).sinks.count sid :=
  Nat.le_trans (h.w.bound sid st.id) (h.grant_le hm (pq st.id) (pq_logq st.id) (by simp [pq, hord]) sid)

/-- one pop of an ordinary statement (`Event::Log`, not at the backtrace level): what follows the events of `dispatch`
    is a backtrace flush it triggers and the notification of an escaped exception -/
theorem popStep_ord_log {s : BSt} (h : RingOK s) (i : Nat) (st : Stmt) (rest : List Stmt) (hord : isOrd st = true) :
    ∃ evs, (popStep s i st rest).log = evs ++ (dispatch s st).1.log ∧ ∀ sid id, wcount evs sid id = 0 := by
  have hn := popStep_next h i st rest
  rw [if_pos hord] at hn
  obtain ⟨evs, he, hz⟩ := hn
  exact ⟨evs, he, wcount_of_wkeys_nil hz⟩

end Backend.PA
