import QuillModel.Backend.Model
import QuillModel.Spsc.ApiEq
/-!
The six queue calls of the backend model (`qPrepareWrite`, `qFinishCommit`, `qPrepareRead`, `qEmpty`, `qFinishRead`,
`qCommitRead`) written out: the resulting queue state as a record update of the argument, and the answer. Under
sequential consistency a reload returns the newest published position, so each call is a function of `q` alone.
Every fact the invariants need about a call is a projection of its equation here.

Three of the calls move no data: `prepare_write` may refresh the producer's cache, `prepare_read` and `empty` the
consumer's (the same refresh), `commit_read` may publish. `_upd` says which fields that leaves alone.
-/
namespace Backend
open Spsc

/-- `finish_write(n); commit_write()`: the record is appended and published at once -/
theorem qFinishCommit_eq (c : Cfg) (q : St) (n : Nat) :
    qFinishCommit c q n = { step c.qp q (.write n) with wHist := (q.wpos + n) :: q.wHist } := rfl

theorem qFinishRead_eq (c : Cfg) (q : St) (n : Nat) :
    qFinishRead c q n = { q with rpos := q.rpos + n, nread := q.nread + 1 } := rfl

theorem qCommitRead_eq (c : Cfg) (q : St) :
    qCommitRead c q = if publishes c.qp q then { q with rHist := q.rpos :: q.rHist } else q := rfl

/-- `prepare_write(n)`: if the cached reader position leaves too little room, it is reloaded and the test repeated -/
theorem qPrepareWrite_eq (c : Cfg) (q : St) (n : Nat) :
    qPrepareWrite c q n =
      if q.free < n then
        ({ q with rcache := q.rHist.headD 0, pHb := if c.qp.syncR then max q.pHb (q.rHist.headD 0) else q.pHb },
          decide (n ≤ q.cap - (q.wpos - q.rHist.headD 0)))
      else (q, true) := by
  unfold qPrepareWrite
  rw [absApi_prepareWrite]
  split
  · by_cases h2 : q.cap - (q.wpos - q.rHist.headD 0) < n
    · simp only [if_pos h2, decide_eq_false (Nat.not_le.mpr h2)]
    · simp only [if_neg h2, decide_eq_true (Nat.le_of_not_lt h2)]
  · rfl

/-- `empty()`: only a consumer whose cached writer position says "nothing" reloads it; the answer is `true` iff
    even the reloaded position is the reader position -/
theorem qEmpty_eq (c : Cfg) (q : St) :
    qEmpty c q =
      if q.wcache = q.rpos then
        ({ q with wcache := q.wHist.headD 0, cHb := if c.qp.syncW then max q.cHb (q.wHist.headD 0) else q.cHb },
          decide (q.wHist.headD 0 = q.rpos))
      else (q, false) := by
  unfold qEmpty
  rw [absApi_empty]
  split <;> rfl

theorem qPrepareRead_eq (c : Cfg) (q : St) : qPrepareRead c q = ((qEmpty c q).1, !(qEmpty c q).2) := by
  unfold qPrepareRead
  rw [qEmpty_eq, absApi_prepareRead]
  split
  · by_cases h2 : q.wHist.headD 0 = q.rpos
    · simp only [if_pos h2, decide_eq_true h2, Bool.not_true]
    · simp only [if_neg h2, decide_eq_false h2, Bool.not_false]
  · rfl

theorem qEmpty_iff (c : Cfg) (q : St) : (qEmpty c q).2 = true ↔ q.wcache = q.rpos ∧ q.wHist.headD 0 = q.rpos := by
  rw [qEmpty_eq]
  split
  · next h => simp only [decide_eq_true_eq, h, true_and]
  · next h => simp only [h, false_and]; exact ⟨fun h' => Bool.noConfusion h', False.elim⟩

theorem qEmpty_true (c : Cfg) (q : St) (h : (qEmpty c q).2 = true) : q.wHist.headD 0 = q.rpos :=
  ((qEmpty_iff c q).mp h).2

theorem qPrepareRead_snd (c : Cfg) (q : St) : (qPrepareRead c q).2 = !(qEmpty c q).2 := by rw [qPrepareRead_eq]

theorem qPrepareRead_fst (c : Cfg) (q : St) : (qPrepareRead c q).1 = (qEmpty c q).1 := by rw [qPrepareRead_eq]

theorem qPrepareRead_true (c : Cfg) (q : St) (h : (qPrepareRead c q).2 = true) :
    (qPrepareRead c q).1.wcache ≠ (qPrepareRead c q).1.rpos := by
  rw [qPrepareRead_snd, qEmpty_eq] at h
  rw [qPrepareRead_fst, qEmpty_eq]
  split at h
  · next hw => rw [if_pos hw]; simpa using h
  · next hw => rw [if_neg hw]; exact hw

theorem qPrepareRead_false (c : Cfg) (q : St) (h : (qPrepareRead c q).2 = false) : q.wHist.headD 0 = q.rpos :=
  qEmpty_true c q (by rw [qPrepareRead_snd] at h; simpa using h)

theorem qPrepareWrite_iff (c : Cfg) (q : St) (n : Nat) :
    (qPrepareWrite c q n).2 = true ↔ n ≤ q.free ∨ n ≤ q.cap - (q.wpos - q.rHist.headD 0) := by
  rw [qPrepareWrite_eq]
  split
  · next h => simp only [decide_eq_true_eq]; exact ⟨.inr, fun h' => h'.resolve_left (Nat.not_le.mpr h)⟩
  · next h => exact ⟨fun _ => .inl (Nat.le_of_not_lt h), fun _ => rfl⟩

theorem qPrepareWrite_grant (c : Cfg) (q : St) (n : Nat) (h : q.rHist.headD 0 = q.wpos) (hn : n ≤ q.cap) :
    (qPrepareWrite c q n).2 = true :=
  (qPrepareWrite_iff c q n).mpr (.inr (by rw [h]; omega))

/-- `commit_read()` with the drain rule: a reader that has caught up with the writer position it knows publishes -/
theorem qCommitRead_pub (c : Cfg) (q : St) (hdp : c.qp.drainPublish = true) (hw : q.wcache = q.rpos) :
    (qCommitRead c q).rHist.headD 0 = q.rpos := by
  have hp : publishes c.qp q = true := by simp [publishes, hdp, hw]
  rw [qCommitRead_eq, if_pos hp]; rfl

theorem qPrepareWrite_upd (c : Cfg) (q : St) (n : Nat) :
    ∃ r h, (qPrepareWrite c q n).1 = { q with rcache := r, pHb := h } := by
  rw [qPrepareWrite_eq]
  split
  · exact ⟨_, _, rfl⟩
  · exact ⟨q.rcache, q.pHb, rfl⟩

theorem qEmpty_upd (c : Cfg) (q : St) :
    ∃ w h, (qEmpty c q).1 = { q with wcache := w, cHb := h } ∧ (w = q.wcache ∨ w = q.wHist.headD 0) := by
  rw [qEmpty_eq]
  split
  · exact ⟨_, _, rfl, .inr rfl⟩
  · exact ⟨q.wcache, q.cHb, rfl, .inl rfl⟩

theorem qPrepareRead_upd (c : Cfg) (q : St) :
    ∃ w h, (qPrepareRead c q).1 = { q with wcache := w, cHb := h } ∧ (w = q.wcache ∨ w = q.wHist.headD 0) :=
  qPrepareRead_fst c q ▸ qEmpty_upd c q

theorem qCommitRead_upd (c : Cfg) (q : St) : ∃ rh, qCommitRead c q = { q with rHist := rh } := by
  rw [qCommitRead_eq]
  split
  · exact ⟨_, rfl⟩
  · exact ⟨q.rHist, rfl⟩

theorem qEmpty_idem (c : Cfg) (q : St) (h : (qEmpty c q).2 = true) : (qEmpty c (qEmpty c q).1).2 = true := by
  obtain ⟨h1, h2⟩ := (qEmpty_iff c q).mp h
  rw [qEmpty_iff]
  rw [qEmpty_eq, if_pos h1]
  exact ⟨h2, h2⟩

end Backend
