import QuillModel.Backend.OrdBack1
/-!
Reading a queue (the do-while rule), the minimum front, and popping it (the crux of C05).
-/
namespace Backend.PB

variable {c : Cfg} {fl : Nat} {T : Nat → Prop} {C : List Nat} {s : BSt}

theorem PI.cover (h : PI c none fl T C s) (i : Nat)
    (hl : c.grace ≠ 0 → c.refreshAfterSample = true → (s.th i).buf = [] → ∀ st ∈ (s.th i).qStmts, fl ≤ st.ts) :
    PI c none fl (fun j => T j ∧ j ≠ i) C s :=
  { h with ord := fun hg0 hr0 hp => { h.ord hg0 hr0 hp with
      late := fun j hj hT hb => by
        by_cases hji : j = i
        · subst hji; exact hl hg0 hr0 hb
        · exact (h.ord hg0 hr0 hp).late j hj (fun ht => hT ⟨ht, hji⟩) hb } }

theorem PI.move (h : PI c none fl T C s) (i : Nat) (hc : i ∈ s.cache) (st : Stmt) (rest : List Stmt)
    (hq : (s.th i).qStmts = st :: rest) (hst : c.grace ≠ 0 → c.refreshAfterSample = true → st.ts ≤ fl) (f : Th → Th)
    (hf : (f (s.th i)).buf = (s.th i).buf ++ [st] ∧ (f (s.th i)).qStmts = rest ∧
      (f (s.th i)).accepted = (s.th i).accepted ∧ (f (s.th i)).valid = (s.th i).valid ∧
      (f (s.th i)).q.cap = (s.th i).q.cap)
    (hqc : QC (f (s.th i))) :
    PI c none fl (fun j => T j ∧ j ≠ i) C (s.setTh i f) := by
  obtain ⟨f1, f2, f3, f7, f9⟩ := hf
  have hchain : chain (f (s.th i)) = chain (s.th i) := by
    simp only [chain, f1, f2, hq, List.append_assoc, List.singleton_append]
  have hcases := th_setTh_or s i f
  have hch : ∀ j, chain ((s.setTh i f).th j) = chain (s.th j) := by
    intro j; rcases hcases j with h1 | ⟨rfl, h1⟩
    · rw [h1]
    · rw [h1, hchain]
  have hprem : PremI (s.setTh i f) → PremI s := premI_of_setTh (fun r hr => by rw [f3]; exact hr)
  refine h.updTh i f s.popLog rfl (hchain ▸ h.sorted i) (hchain ▸ h.leNow i) hqc
    (hchain ▸ h.reg i) (fun _ _ => hc) (fun _ _ _ _ hv => f7.trans hv) f9
    (fun b y r hy hb hpd hi => hchain ▸ (h.pend b y r hy hb hpd).2.2 i hi) ?_
  · intro hg0 hr0 hp
    have o := h.ord hg0 hr0 (hprem hp)
    exact {
      popSorted := o.popSorted
      above := fun p hpp j hj => by rw [hch]; exact o.above p hpp j hj
      popFloor := o.popFloor
      bufFloor := fun j => by
        rcases hcases j with h1 | ⟨rfl, h1⟩
        · rw [h1]; exact o.bufFloor j
        · rw [h1, f1]; intro r hr
          rcases List.mem_append.mp hr with h2 | h2
          · exact o.bufFloor j r h2
          · rw [List.mem_singleton.mp h2]; exact hst hg0 hr0
      late := fun j hj hT => by
        by_cases hji : j = i
        · subst hji
          rw [th_setTh_same s f (qStmts_head_lt hq), f1]; intro hb; simp at hb
        · rw [th_setTh_ne s f hji]; exact o.late j hj (fun ht => hT ⟨ht, hji⟩) }

def rqPrep (s : BSt) (i : Nat) : BSt := s.setTh i (fun t => { t with q := (qPrepareRead s.cfg (s.th i).q).1 })
theorem same_commit (s : BSt) (i : Nat) : Same s (PC.commitSt s i) :=
  Same.setTh s i _ (ThEq.ofQ' _ _ (qCommitRead_fields _ _))

theorem same_readPrep (s : BSt) (i : Nat) : Same s (PC.readPrepSt s i) :=
  Same.setTh s i _ (ThEq.ofQ _ _ (qPrepareRead_fields _ _))

theorem PI.readOne (h : PI c none fl T C s) (i : Nat) (hc : i ∈ C) (st : Stmt) (rest : List Stmt)
    (hq : (s.th i).qStmts = st :: rest) (hst : c.grace ≠ 0 → c.refreshAfterSample = true → st.ts ≤ fl)
    (hrd : (qPrepareRead s.cfg (s.th i).q).2 = true) :
    PI c none fl (fun j => T j ∧ j ≠ i) C (fmtNote (PC.readOneSt s i st rest) st) := by
  suffices h0 : PI c none fl (fun j => T j ∧ j ≠ i) C (PC.readOneSt s i st rest) by
    unfold fmtNote
    split
    · exact h0.frame rfl
    · exact h0
  unfold PC.readOneSt PC.moveSt
  have hlt : i < s.ths.length := qStmts_head_lt hq
  obtain ⟨rf, e⟩ := decodeSt_same (PC.readPrepSt s i) st
  have hs : Same s (PC.decodeSt (PC.readPrepSt s i) st) := (same_readPrep s i).trans (e ▸ Same.ofCore rfl)
  have hw : ((PC.decodeSt (PC.readPrepSt s i) st).th i).q.wcache ≠ ((PC.decodeSt (PC.readPrepSt s i) st).th i).q.rpos := by
    have e1 : (PC.decodeSt (PC.readPrepSt s i) st).th i = (PC.readPrepSt s i).th i := by rw [e]; rfl
    rw [e1]
    unfold PC.readPrepSt
    rw [th_setTh_same s _ hlt]
    exact qPrepareRead_true _ _ hrd
  generalize PC.decodeSt (PC.readPrepSt s i) st = s2 at hs hw ⊢
  have h2 : PI c none fl T C s2 := h.same hs
  have hq2 : (s2.th i).qStmts = st :: rest := by rw [(hs.th i).q]; exact hq
  exact h2.move i (by rw [h2.cacheEq]; exact hc) st rest hq2 hst _ ⟨rfl, rfl, rfl, rfl, rfl⟩
    (.of_qlink ((hq2 ▸ (h2.qc i).qlink).read s2.cfg) ((hq2 ▸ (h2.qc i).qcache).read hw s2.cfg))

variable {inj : BSt → Nat → BSt}

theorem headLe_of_sorted {l : List Stmt} (hs : l.Pairwise (fun a b => a.ts ≤ b.ts)) {a : Stmt} {as : List Stmt}
    (hl : l = a :: as) : ∀ r ∈ l, a.ts ≤ r.ts := by
  subst hl
  intro r hr
  rcases List.mem_cons.mp hr with rfl | hr
  · exact Nat.le_refl _
  · exact (List.pairwise_cons.mp hs).1 r hr

/-- the read of context `i` takes it out of the contexts still to be read: an exit of the first iteration leaves
    nothing queued, or a sorted queue that starts above the cut-off; an iteration that moves a record leaves the buffer
    non-empty -/
theorem PI.readQueue_rule (hi : InjOK inj) (tsNow : Option Nat)
    (htn : c.grace ≠ 0 → c.refreshAfterSample = true → tsNow = some fl) (i : Nat) (hc : i ∈ C) (T : Nat → Prop) :
    (∀ fuel total s, PI c none fl (fun j => T j ∧ j ≠ i) C s →
      PI c none fl (fun j => T j ∧ j ≠ i) C (Backend.readQueue inj tsNow i fuel total s)) ∧
    (∀ fuel total s, PI c none fl T C s →
      PI c none fl (fun j => T j ∧ j ≠ i) C (Backend.readQueue inj tsNow i (fuel + 1) total s)) := by
  refine Backend.readQueue_rule (PI c none fl T C) (PI c none fl (fun j => T j ∧ j ≠ i) C)
    (fun _ h => h.weakenT fun _ hj => hj.1) (fun s h hstop => ?_) (fun s st rest h hrd hq hel => ?_)
    (fun s h => h.same (same_commit s i))
  · refine (h.cover i fun hg0 hr0 _ r hr => ?_).same (same_readPrep s i)
    rcases hstop with hr' | ⟨_, hq | ⟨st, rest, hq, hel⟩⟩
    · rw [(h.qc i).nil_of_eq (qPrepareRead_false _ _ hr')] at hr; cases hr
    · rw [hq] at hr; cases hr
    · have hlt : fl < st.ts := by
        unfold tsStop at hel
        rw [htn hg0 hr0] at hel; exact of_decide_eq_true hel
      have := headLe_of_sorted (List.pairwise_append.mp (h.sorted i)).2.1 hq r hr
      omega
  · have hst : c.grace ≠ 0 → c.refreshAfterSample = true → st.ts ≤ fl := by
      intro hg0 hr0
      unfold tsStop at hel
      rw [htn hg0 hr0] at hel
      exact Nat.le_of_not_lt (of_decide_eq_false hel)
    exact hi _ _ _ _ _ 3 (h.readOne i hc st rest hq hst hrd)

theorem PI.readQueue_first (hi : InjOK inj) (tsNow : Option Nat)
    (htn : c.grace ≠ 0 → c.refreshAfterSample = true → tsNow = some fl) (i : Nat) (hc : i ∈ C) (fuel total : Nat) (s : BSt)
    (h : PI c none fl T C s) :
    PI c none fl (fun j => T j ∧ j ≠ i) C (Backend.readQueue inj tsNow i (fuel + 1) total s) :=
  (PI.readQueue_rule hi tsNow htn i hc T).2 fuel total s h

theorem PI.readQueue (hi : InjOK inj) (tsNow : Option Nat)
    (htn : c.grace ≠ 0 → c.refreshAfterSample = true → tsNow = some fl) (i : Nat) (hc : i ∈ C) (fuel : Nat) :
    ∀ (T : Nat → Prop) (total : Nat) (s : BSt), PI c none fl T C s → PI c none fl T C (Backend.readQueue inj tsNow i fuel total s) := by
  intro T total s h
  cases fuel with
  | zero =>
    rw [Backend.readQueue_zero]
    split
    · exact h.same (same_commit s i)
    · exact h
  | succ n => exact (h.readQueue_first hi tsNow htn i hc n total s).weakenT fun _ hj => hj.1

def lowStep (s : BSt) (acc : Option (Nat × Nat)) (i : Nat) : Option (Nat × Nat) :=
  match (s.th i).buf.head? with
  | none => acc
  | some st => match acc with
    | none => some (i, st.ts)
    | some (_, m) => if st.ts < m then some (i, st.ts) else acc

/-- the scan for the minimum front over the contexts `P` visited so far: none has a buffered event, or the candidate is
    one of them and its front is the least -/
def LowInv (s : BSt) (P : Nat → Prop) : Option (Nat × Nat) → Prop
  | none => ∀ i, P i → (s.th i).buf = []
  | some (j, m) => P j ∧ (∃ st rest, (s.th j).buf = st :: rest ∧ st.ts = m) ∧
      ∀ i, P i → ∀ f fs, (s.th i).buf = f :: fs → m ≤ f.ts

theorem LowInv.congr {s : BSt} {P Q : Nat → Prop} {acc : Option (Nat × Nat)} (h : LowInv s P acc)
    (hQ : ∀ i, Q i ↔ P i) : LowInv s Q acc := by
  rw [show Q = P from funext fun i => propext (hQ i)]; exact h

theorem low_fold (s : BSt) (l : List Nat) : ∀ (acc : Option (Nat × Nat)) (P : Nat → Prop), LowInv s P acc →
    LowInv s (fun i => P i ∨ i ∈ l) (l.foldl (lowStep s) acc) := by
  induction l with
  | nil => intro acc P h; exact h.congr (fun i => ⟨fun hi => hi.resolve_right List.not_mem_nil, .inl⟩)
  | cons x xs ih =>
    intro acc P h
    rw [List.foldl_cons]
    have key : LowInv s (fun i => P i ∨ i = x) (lowStep s acc x) := by
      unfold lowStep
      cases hb : (s.th x).buf with
      | nil =>
        simp only [List.head?_nil]
        cases acc with
        | none => exact fun i hi => hi.elim (h i) (fun e => e ▸ hb)
        | some jm =>
          refine ⟨.inl h.1, h.2.1, fun i hi f fs hf => hi.elim (fun hp => h.2.2 i hp f fs hf) (fun e => ?_)⟩
          subst e; rw [hb] at hf; cases hf
      | cons st rest =>
        simp only [List.head?_cons]
        cases acc with
        | none =>
          refine ⟨.inr rfl, ⟨st, rest, hb, rfl⟩, fun i hi f fs hf => hi.elim (fun hp => ?_) (fun e => ?_)⟩
          · have := h i hp; rw [this] at hf; cases hf
          · subst e; rw [hb] at hf; cases hf; exact Nat.le_refl _
        | some jm =>
          obtain ⟨j, m⟩ := jm
          simp only
          split
          · rename_i hlt
            refine ⟨.inr rfl, ⟨st, rest, hb, rfl⟩, fun i hi f fs hf => hi.elim (fun hp => ?_) (fun e => ?_)⟩
            · have := h.2.2 i hp f fs hf; omega
            · subst e; rw [hb] at hf; cases hf; exact Nat.le_refl _
          · rename_i hge
            refine ⟨.inl h.1, h.2.1, fun i hi f fs hf => hi.elim (fun hp => h.2.2 i hp f fs hf) (fun e => ?_)⟩
            subst e; rw [hb] at hf; cases hf; omega
    exact (ih _ _ key).congr (fun i => by rw [List.mem_cons, or_assoc])

theorem lowest_eq (s : BSt) : lowest s = (s.cache.foldl (lowStep s) none).map (·.1) := rfl

theorem lowest_some {s : BSt} {j : Nat} (h : lowest s = some j) :
    j ∈ s.cache ∧
    ∃ st rest, (s.th j).buf = st :: rest ∧ ∀ i ∈ s.cache, ∀ f fs, (s.th i).buf = f :: fs → st.ts ≤ f.ts := by
  rw [lowest_eq] at h
  have := low_fold s s.cache none (fun _ => False) (fun i hi => hi.elim)
  cases hr : List.foldl (lowStep s) none s.cache with
  | none => rw [hr] at h; cases h
  | some jm =>
    obtain ⟨j', m⟩ := jm
    rw [hr] at h this
    cases h
    obtain ⟨hj, ⟨st, rest, h1, h2⟩, h3⟩ := this
    exact ⟨hj.resolve_left id, st, rest, h1, fun i hi f fs hf => by rw [h2]; exact h3 i (Or.inr hi) f fs hf⟩

theorem lowest_spec {s : BSt} {j : Nat} (h : lowest s = some j) :
    ∃ st rest, (s.th j).buf = st :: rest ∧ ∀ i ∈ s.cache, ∀ f fs, (s.th i).buf = f :: fs → st.ts ≤ f.ts :=
  (lowest_some h).2

/-- a pop is allowed: every registered context with an empty buffer holds only records at or above the cut-off -/
def PIf (c : Cfg) (fl : Nat) (s : BSt) : Prop :=
  PIo c fl s ∧ (c.grace ≠ 0 → c.refreshAfterSample = true → PremI s →
    ∀ i ∈ s.registry, (s.th i).buf = [] → ∀ r ∈ (s.th i).qStmts, fl ≤ r.ts)

theorem PIf.same {s s' : BSt} (h : PIf c fl s) (hs : Same s s') : PIf c fl s' :=
  ⟨h.1.same hs, fun hg0 hr0 hp i hir hbi r hr => by
    rw [hs.reg] at hir; rw [(hs.th i).buf] at hbi; rw [(hs.th i).q] at hr
    exact h.2 hg0 hr0 (hs.premI hp) i hir hbi r hr⟩

theorem lowest_core {s s' : BSt} (hc : core s' = core s) : lowest s' = lowest s := by
  have h5 : s'.cache = s.cache := congrArg Core.cache hc
  simp only [lowest, th_of_core hc, h5]

/-- the crux of C05: the minimum front is ≤ everything buffered or queued in any registered context -/
theorem PIf.pop (h : PIf c fl s) (j : Nat) (hlow : lowest s = some j) (st : Stmt) (rest : List Stmt)
    (hb : (s.th j).buf = st :: rest) (f : Th → Th)
    (hf : (f (s.th j)).buf = rest ∧ (f (s.th j)).qStmts = (s.th j).qStmts ∧ (f (s.th j)).accepted = (s.th j).accepted ∧
      (f (s.th j)).q = (s.th j).q ∧ (f (s.th j)).valid = (s.th j).valid) :
    PIo c fl { s.setTh j f with popLog := st :: s.popLog } := by
  obtain ⟨h, hall⟩ := h
  obtain ⟨hj, st', rest', hb', hmin⟩ := lowest_some hlow
  rw [hb] at hb'; cases hb'
  obtain ⟨f1, f2, f3, f4, f5⟩ := hf
  let s' : BSt := { s.setTh j f with popLog := st :: s.popLog }
  have hcases : ∀ i, s'.th i = s.th i ∨ (i = j ∧ s'.th i = f (s.th j)) :=
    th_setTh_or s j f
  have hcj : chain (s.th j) = st :: chain (f (s.th j)) := by simp only [chain, hb, f1, f2, List.cons_append]
  have hsub : ∀ i r, r ∈ chain (s'.th i) → r ∈ chain (s.th i) := by
    intro i r hr
    rcases hcases i with h1 | ⟨rfl, h1⟩
    · rw [h1] at hr; exact hr
    · rw [h1] at hr; rw [hcj]; exact List.mem_cons_of_mem _ hr
  have hprem : PremI s' → PremI s := premI_of_setTh (i := j) (f := f) (fun r hr => by rw [f3]; exact hr)
  unfold PIo at *
  have q0 := h.qc j
  refine h.updTh j f (st :: s.popLog) rfl ?_ (fun r hr => h.leNow j r (hcj ▸ List.mem_cons_of_mem _ hr))
    ⟨by rw [f4]; exact q0.wpos, by rw [f4, f2]; exact q0.sum, by rw [f2]; exact q0.pos, by rw [f4, f2]; exact q0.wc⟩
    (fun _ => h.reg j (by rw [hcj]; exact List.cons_ne_nil _ _)) (fun _ _ => hj) (fun _ _ _ _ hv => f5.trans hv)
    (by rw [f4])
    (fun b y r hy hb hpd hi q hq => (h.pend b y r hy hb hpd).2.2 j hi q (hcj ▸ List.mem_cons_of_mem _ hq)) ?_
  · have := h.sorted j
    rw [hcj] at this
    exact (List.pairwise_cons.mp this).2
  · intro hg0 hr0 hp
    have hp0 := hprem hp
    have o := h.ord hg0 hr0 hp0
    have hstfl : st.ts ≤ fl := o.bufFloor j st (by rw [hb]; exact List.mem_cons_self ..)
    have hjr : j ∈ s.registry := h.cacheReg j hj
    -- a context with an empty buffer holds only records at or above the cut-off, which bounds every buffered record;
    -- one with a buffered front is sorted, and its front is at or above the minimum front
    have hcrux : ∀ i ∈ s.registry, ∀ r ∈ chain (s.th i), st.ts ≤ r.ts := by
      intro i hi r hr
      cases hbi : (s.th i).buf with
      | nil =>
        have : r ∈ (s.th i).qStmts := by simpa [chain, hbi] using hr
        have := hall hg0 hr0 hp0 i hi hbi r this
        omega
      | cons f0 fs =>
        have hic : i ∈ s.cache := h.bufCache i hi (by rw [hbi]; simp)
        have h1 := hmin i hic f0 fs hbi
        have h2 := headLe_of_sorted (h.sorted i) (by simp only [chain, hbi, List.cons_append]; rfl) r hr
        omega
    exact {
      popSorted := List.pairwise_cons.mpr ⟨fun p hpp =>
        o.above p hpp j hjr st (by rw [hcj]; exact List.mem_cons_self ..), o.popSorted⟩
      above := fun p hpp i hi r hr => by
        rcases List.mem_cons.mp hpp with rfl | hpp
        · exact hcrux i hi r (hsub i r hr)
        · exact o.above p hpp i hi r (hsub i r hr)
      popFloor := fun p hpp => by
        rcases List.mem_cons.mp hpp with rfl | hpp
        · exact hstfl
        · exact o.popFloor p hpp
      bufFloor := fun i r hr => by
        rcases hcases i with h1 | ⟨rfl, h1⟩
        · rw [h1] at hr; exact o.bufFloor i r hr
        · rw [h1, f1] at hr; exact o.bufFloor i r (by rw [hb]; exact List.mem_cons_of_mem _ hr)
      late := fun _ _ hT => absurd trivial hT }

theorem PIf.popSt (h : PIf c fl s) {j : Nat} (hlow : lowest s = some j) {st : Stmt} {rest : List Stmt}
    (hb : (s.th j).buf = st :: rest) : PIo c fl (PC.popSt s j st rest) := by
  have hcore : core (procSt s st) = core s := (slol_dispRel.procSt s st).core
  rw [popSt_proc]
  exact (h.same (Same.ofCore hcore)).pop j ((lowest_core hcore).trans hlow) st rest ((th_of_core hcore j).symm ▸ hb) _
    ⟨rfl, rfl, rfl, rfl, rfl⟩

/-- `_process_lowest_timestamp_transit_event`: after the pop of a Flush event nothing more is known than outside -/
theorem PIo.processLowest (hi : InjOK inj) (h : PIo c fl s)
    (hall : c.grace ≠ 0 → c.refreshAfterSample = true → PremI s →
      ∀ i ∈ s.registry, (s.th i).buf = [] → ∀ r ∈ (s.th i).qStmts, fl ≤ r.ts) :
    PIo c fl (processLowest inj s).1 :=
  processLowest_rule (PIf c fl) (PIo c fl) (fun _ => PIo c fl) (fun _ hx => hx.1)
    (fun _ _ _ _ hx hl hb _ => hx.popSt hl hb) (fun _ _ _ _ _ hx hl hb _ => hx.popSt hl hb)
    (fun _ _ i hx _ => hi.pio (hx.report i) 8) (fun _ _ hx => hx.cleanupContexts) (fun _ _ hx => hx.frame rfl) s ⟨h, hall⟩

end Backend.PB
