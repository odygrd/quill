import QuillModel.Backend.LiftFuel
/-!
Loop fuel of `readQueue`, part 2: a frontend operation commits at most one record to a context's queue and does not
touch the hook-site visit counters (`QB`); hence the operations injected at one visit of a site add at most as many
records as there are operations, and the budget of site-3 operations still to come (`budget`) pays for them.
-/
namespace Backend.PA

/-- `s'` has the visit counters of `s`, and every context's queue holds at most `n` records more -/
structure QB (n : Nat) (s s' : BSt) : Prop where
  sc : s'.siteCnt = s.siteCnt
  q : ∀ i, ((s'.th i).qStmts.length ≤ (s.th i).qStmts.length + n)

theorem QB.refl (s : BSt) : QB 0 s s := ⟨rfl, fun _ => Nat.le_refl _⟩

theorem QB.trans {n m : Nat} {a b c : BSt} (h1 : QB n a b) (h2 : QB m b c) : QB (n + m) a c :=
  ⟨h2.sc.trans h1.sc, fun i => by
    have := h1.q i
    have := h2.q i
    omega⟩

theorem QB.mono {n m : Nat} {a b : BSt} (h : QB n a b) (hnm : n ≤ m) : QB m a b :=
  ⟨h.sc, fun i => Nat.le_trans (h.q i) (Nat.add_le_add_left hnm _)⟩

theorem QB.of_ths {s s' : BSt} (h1 : s'.siteCnt = s.siteCnt) (h2 : s'.ths = s.ths) : QB 0 s s' :=
  ⟨h1, fun i => by simp [BSt.th, h2]⟩

theorem QB.one_of_ths {s s' : BSt} (h1 : s'.siteCnt = s.siteCnt) (h2 : s'.ths = s.ths) : QB 1 s s' :=
  (QB.of_ths h1 h2).mono (by omega)

theorem QB.one_refl (s : BSt) : QB 1 s s := (QB.refl s).mono (by omega)

theorem QB.setTh (n : Nat) (s : BSt) (j : Nat) (f : Th → Th)
    (hf : ∀ t, (f t).qStmts.length ≤ t.qStmts.length + n) : QB n s (s.setTh j f) :=
  ⟨rfl, fun i => by
    rw [th_setTh]
    split
    · exact hf _
    · omega⟩

theorem QB.zero_trans {n : Nat} {a b c : BSt} (h1 : QB 0 a b) (h2 : QB n b c) : QB n a c :=
  Nat.zero_add n ▸ h1.trans h2

theorem QB.trans_zero {n : Nat} {a b c : BSt} (h1 : QB n a b) (h2 : QB 0 b c) : QB n a c := h1.trans h2

theorem ensureCtx_qb (s : BSt) (a : Nat) : QB 0 s (ensureCtx s a).1 := by
  unfold ensureCtx
  split
  · exact QB.refl s
  · refine ⟨rfl, fun i => ?_⟩
    show ((s.ths ++ [mkTh s.cfg a]).getD i default).qStmts.length ≤ (s.ths.getD i default).qStmts.length + 0
    rw [List.getD_eq_getElem?_getD, List.getD_eq_getElem?_getD]
    by_cases h1 : i < s.ths.length
    · rw [List.getElem?_append_left h1]
      exact Nat.le_refl _
    · -- beyond the old contexts: the new one, whose queue is empty, or the default
      rw [List.getElem?_append_right (Nat.le_of_not_lt h1), List.getElem?_eq_none (l := s.ths) (Nat.le_of_not_lt h1)]
      cases i - s.ths.length with
      | zero => exact Nat.le_of_eq rfl
      | succ k => exact Nat.le_of_eq rfl

theorem tryEnq_qb (s : BSt) (ci : Nat) (st : Stmt) : QB 1 s (tryEnq s ci st).1 := by
  unfold tryEnq
  dsimp only
  split
  · exact QB.setTh 1 s ci _ (fun t => by simp)
  · exact (QB.setTh 0 s ci _ (fun t => by simp)).mono (by omega)

theorem afterEnq_qb (s : BSt) (a : Nat) (st : Stmt) (cont : Nat) : QB 0 s (afterEnq s a st cont).1 := by
  unfold afterEnq
  split <;> exact QB.of_ths rfl rfl

theorem bumpFail_qb (d : Bool) (s : BSt) (ci : Nat) (st : Stmt) : QB 0 s (bumpFail d s ci st) := by
  unfold bumpFail
  split
  · exact QB.setTh 0 s ci _ (fun t => Nat.le_refl _)
  · exact QB.refl s

theorem enqFlow_qb (s : BSt) (a : Nat) (st : Stmt) (cont : Nat) (first initial : Bool) :
    QB 1 s (enqFlow s a st cont first initial).1 :=
  have hset : ∀ {s3 : BSt} (p : Pend), QB 1 s s3 → QB 1 s (setPend s3 a p) :=
    fun _ h3 => h3.trans_zero (QB.of_ths rfl rfl)
  -- `tryEnq` is the one step of the flow that can add a record
  enqFlow_rule (fun _ => QB 0 s) (fun _ => QB 1 s) (QB 1 s) (ensureCtx_qb s a)
    (fun ci x hx _ => (hset _ (hx.zero_trans (tryEnq_qb x ci st))).trans_zero (afterEnq_qb _ a st cont))
    (fun ci x hx _ => hx.zero_trans (tryEnq_qb x ci st)) (fun _ _ hx _ => hx.trans_zero (bumpFail_qb _ _ _ st))
    (fun _ _ hx _ _ => hset _ hx) (fun _ _ hx _ => hset _ hx)

theorem call_qb (s : BSt) (a lgi : Nat) (kind : Kind) (lvl len cont : Nat) (dyn : Bool) (id : Nat) (named : Bool)
    (g : Nat) : QB 1 s (noteCall (frontCall s a lgi kind lvl len cont dyn id named) a g).1 :=
  call_rule (QB 1 s) (QB 1 s) g (fun _ => QB.one_of_ths rfl rfl) (enqFlow_qb ..)
    (fun _ hx => hx.trans_zero (QB.of_ths rfl rfl))

theorem resume_qb {s : BSt} {a : Nat} {r : BSt × String} (hs : ResumeShape s a r) : QB 1 s (clearCall r a).1 :=
  have h1 : QB 1 s r.1 :=
    resume_rule (QB 1 s) hs (fun _ _ _ _ _ _ _ _ => enqFlow_qb ..) (fun _ _ _ _ _ => QB.one_of_ths rfl rfl) (QB.one_refl s)
  clearCall_pres (QB 1 s) h1 (fun _ => h1.trans_zero (QB.of_ths rfl rfl))

theorem reapSinks_qb (sids : List Nat) (s : BSt) : QB 0 s (reapSinks s sids) :=
  (.of_setSink QB.refl QB.zero_trans (fun _ _ _ => QB.of_ths rfl rfl) (fun _ _ _ => QB.of_ths rfl rfl) : SinkRel (QB 0)).reapSinks (fun _ _ => QB.of_ths rfl rfl) sids s

theorem applyFront_qb (s : BSt) (f : FOp) : QB 1 s (applyFront s f).1 := by
  have hcall : ∀ s0 : BSt, s0.siteCnt = s.siteCnt → s0.ths = s.ths → ∀ a lgi kind lvl len cont dyn id named g,
      QB 1 s (noteCall (frontCall s0 a lgi kind lvl len cont dyn id named) a g).1 :=
    fun s0 h1 h2 a lgi kind lvl len cont dyn id named g => (QB.of_ths h1 h2).zero_trans (call_qb s0 ..)
  have hs := applyFront_shape s f
  generalize applyFront s f = r at hs ⊢
  induction hs with
  | noop => exact QB.one_refl s
  | tick | tstart | texitNoCtx | armStall | logSkip | remove | createExisting | createNew | setLevel | setSinkLevel =>
    exact QB.one_of_ths rfl rfl
  | texitCtx a i =>
    have h1 : QB 0 s (s.setActor a (fun x => { x with alive := false })) := QB.of_ths rfl rfl
    have h2 := h1.trans_zero (QB.setTh 0 _ i (fun t => { t with valid := false }) (fun t => Nat.le_refl _))
    refine QB.mono (n := 0) ?_ (Nat.zero_le 1)
    exact h2.trans_zero (QB.of_ths rfl rfl)
  | resume a hr => exact resume_qb hr
  | call _ hp => exact hcall _ (hp.proj (·.siteCnt) (fun _ _ _ _ => rfl)) (hp.proj (·.ths) (fun _ _ _ _ => rfl)) ..
  | dropSink sid =>
    have h1 : QB 0 s (s.setSink sid (fun k => { k with userRef := false })) := QB.of_ths rfl rfl
    exact (h1.trans_zero (reapSinks_qb [sid] _)).mono (Nat.zero_le 1)

theorem injStep_qb (site k : Nat) (s : BSt) (f : FOp) : QB 1 s (injStep site k s f) := by
  unfold injStep injRes
  split
  · exact QB.one_of_ths rfl rfl
  · exact (applyFront_qb s f).trans_zero (QB.of_ths rfl rfl)

theorem injFold_qb (site k : Nat) : ∀ (ops : List FOp) (s : BSt), QB ops.length s (ops.foldl (injStep site k) s)
  | [], s => QB.refl s
  | f :: fs, s => by
    simp only [List.foldl_cons, List.length_cons]
    have := (injStep_qb site k s f).trans (injFold_qb site k fs _)
    rw [Nat.add_comm] at this
    exact this

/-- operations the table schedules at visits `K`, `K+1`, … of site 3 (an upper bound: of several entries for the same
    visit only the first is ever run) -/
def budget : List (Nat × Nat × List FOp) → Nat → Nat
  | [], _ => 0
  | e :: t, K => (if e.1 = 3 ∧ K ≤ e.2.1 then e.2.2.length else 0) + budget t K

def site3Ops (table : List (Nat × Nat × List FOp)) : Nat :=
  ((table.filter (·.1 = 3)).map (·.2.2.length)).sum

theorem budget_head_succ_le (e : Nat × Nat × List FOp) (K : Nat) :
    (if e.1 = 3 ∧ K + 1 ≤ e.2.1 then e.2.2.length else 0) ≤ (if e.1 = 3 ∧ K ≤ e.2.1 then e.2.2.length else 0) := by
  by_cases h1 : e.1 = 3 ∧ K + 1 ≤ e.2.1
  · rw [if_pos h1, if_pos ⟨h1.1, Nat.le_of_succ_le h1.2⟩]
    exact Nat.le_refl _
  · rw [if_neg h1]
    exact Nat.zero_le _

theorem budget_succ_le : ∀ (t : List (Nat × Nat × List FOp)) (K : Nat), budget t (K + 1) ≤ budget t K
  | [], _ => Nat.le_refl _
  | e :: t, K => Nat.add_le_add (budget_head_succ_le e K) (budget_succ_le t K)

theorem budget_le_site3Ops : ∀ (t : List (Nat × Nat × List FOp)) (K : Nat), budget t K ≤ site3Ops t
  | [], _ => Nat.le_refl _
  | e :: t, K => by
    have ih := budget_le_site3Ops t K
    unfold site3Ops at ih ⊢
    simp only [budget, List.filter_cons]
    by_cases h : e.1 = 3
    · simp only [h, decide_true, if_true, List.map_cons, List.sum_cons, true_and]
      split <;> omega
    · simp only [h, decide_false, false_and, if_false]
      simpa using ih

theorem budget_find : ∀ (t : List (Nat × Nat × List FOp)) (K : Nat) (e : Nat × Nat × List FOp),
    t.find? (fun x => x.1 = 3 ∧ x.2.1 = K) = some e → e.2.2.length + budget t (K + 1) ≤ budget t K
  | [], _, _, h => by cases h
  | x :: t, K, e, h => by
    simp only [List.find?_cons] at h
    simp only [budget]
    by_cases hx : x.1 = 3 ∧ x.2.1 = K
    · simp only [hx, and_self, decide_true] at h
      cases h
      have := budget_succ_le t K
      have e1 : x.1 = 3 ∧ K ≤ x.2.1 := ⟨hx.1, by omega⟩
      have e2 : ¬ (x.1 = 3 ∧ K + 1 ≤ x.2.1) := by omega
      rw [if_pos e1, if_neg e2]
      omega
    · simp only [hx, decide_false] at h
      have := budget_find t K e h
      have := budget_head_succ_le x K
      omega

theorem budget_eq_zero_of_no3 (t : List (Nat × Nat × List FOp)) (h : ∀ e ∈ t, e.1 ≠ 3) (K : Nat) : budget t K = 0 := by
  induction t with
  | nil => rfl
  | cons e t ih =>
    simp only [budget]
    rw [if_neg (fun hc => h e (List.mem_cons_self ..) hc.1), ih (fun x hx => h x (List.mem_cons_of_mem _ hx))]

theorem runInj3_budget (table : List (Nat × Nat × List FOp)) (s : BSt) (i : Nat) :
    ((runInj table s 3).th i).qStmts.length + budget table (siteK (runInj table s 3) 3)
      ≤ (s.th i).qStmts.length + budget table (siteK s 3) := by
  rw [runInj_eq]
  have hK : ∀ x : BSt, x.siteCnt = (3, siteK s 3) :: s.siteCnt.filter (·.1 ≠ 3) → siteK x 3 = siteK s 3 + 1 := by
    intro x hx
    simp [siteK, hx]
  split
  · rw [hK { s with siteCnt := (3, siteK s 3) :: s.siteCnt.filter (·.1 ≠ 3) } rfl]
    have := budget_succ_le table (siteK s 3)
    show (s.th i).qStmts.length + _ ≤ _
    omega
  · next a b ops hf =>
    have hb := budget_find table (siteK s 3) _ hf
    have hq := injFold_qb 3 (siteK s 3) ops
      { s with siteCnt := (3, siteK s 3) :: s.siteCnt.filter (·.1 ≠ 3) }
    rw [hK _ hq.sc]
    have := hq.q i
    have e : (({ s with siteCnt := (3, siteK s 3) :: s.siteCnt.filter (·.1 ≠ 3) } : BSt).th i) = s.th i := rfl
    rw [e] at this
    simp only at hb
    omega

def readMeasure (table : List (Nat × Nat × List FOp)) (i : Nat) (s : BSt) : Nat :=
  (s.th i).qStmts.length + budget table (siteK s 3)

theorem readMeasure_step (table : List (Nat × Nat × List FOp)) (i : Nat) (s : BSt) (st : Stmt) (rest : List Stmt)
    (hq : (s.th i).qStmts = st :: rest) :
    readMeasure table i (runInj table (readOneF s i st rest) 3) < readMeasure table i s := by
  have h1 := runInj3_budget table (readOneF s i st rest) i
  have hF := readOneF_eq s i st rest
  have h2 : siteK (readOneF s i st rest) 3 = siteK s 3 := by
    unfold siteK
    rw [hF.1, readOne_siteCnt]
  have h3 : ((readOneF s i st rest).th i).qStmts = rest := by
    have : (readOneF s i st rest).th i = (readOne s i st rest).th i := by simp only [BSt.th, hF.2.1]
    rw [this, readOne_qStmts s i st rest (qStmts_head_lt hq)]
  rw [h2, h3] at h1
  unfold readMeasure
  rw [hq, List.length_cons]
  omega

end Backend.PA
