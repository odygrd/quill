import QuillModel.Backend.Basics
/-!
Rewriting lemmas about `updAt` and the state accessors of the backend model (`th`/`setTh`, `lgOf`/`setLg`,
`sinkOf`/`setSink`, `setActor`, `emit`), used by the invariant proofs for C03 / C08 / C10.
-/
namespace Backend.PA

attribute [simp] th_setTh lgOf_setLg ths_length_setTh lgs_length_setLg

theorem updAt_append_left {α} (l r : List α) (i : Nat) (f : α → α) (h : i < l.length) :
    updAt (l ++ r) i f = updAt l i f ++ r := by
  induction l generalizing i with
  | nil => cases h
  | cons x xs ih =>
    cases i with
    | zero => rw [List.cons_append, updAt_cons_zero, updAt_cons_zero, List.cons_append]
    | succ k =>
      rw [List.cons_append, updAt_cons_succ, updAt_cons_succ, List.cons_append, ih k (Nat.lt_of_succ_lt_succ h)]

@[simp] theorem setTh_cfg (s : BSt) (i f) : (s.setTh i f).cfg = s.cfg := rfl
@[simp] theorem setTh_actors (s : BSt) (i f) : (s.setTh i f).actors = s.actors := rfl
@[simp] theorem setTh_lgs (s : BSt) (i f) : (s.setTh i f).lgs = s.lgs := rfl
@[simp] theorem setTh_sinks (s : BSt) (i f) : (s.setTh i f).sinks = s.sinks := rfl
@[simp] theorem setTh_log (s : BSt) (i f) : (s.setTh i f).log = s.log := rfl
@[simp] theorem setTh_registry (s : BSt) (i f) : (s.setTh i f).registry = s.registry := rfl
@[simp] theorem setTh_cache (s : BSt) (i f) : (s.setTh i f).cache = s.cache := rfl
@[simp] theorem setTh_nextId (s : BSt) (i f) : (s.setTh i f).nextId = s.nextId := rfl
@[simp] theorem setTh_popLog (s : BSt) (i f) : (s.setTh i f).popLog = s.popLog := rfl
@[simp] theorem setTh_reported (s : BSt) (i f) : (s.setTh i f).reported = s.reported := rfl
@[simp] theorem setTh_names (s : BSt) (i f) : (s.setTh i f).names = s.names := rfl
@[simp] theorem setTh_flags (s : BSt) (i f) : (s.setTh i f).flags = s.flags := rfl
@[simp] theorem setTh_lgOf (s : BSt) (i f j) : (s.setTh i f).lgOf j = s.lgOf j := rfl
@[simp] theorem setTh_sinkOf (s : BSt) (i f j) : (s.setTh i f).sinkOf j = s.sinkOf j := rfl
@[simp] theorem setTh_actor (s : BSt) (i f a) : (s.setTh i f).actor a = s.actor a := rfl

@[simp] theorem setActor_cfg (s : BSt) (a f) : (s.setActor a f).cfg = s.cfg := rfl
@[simp] theorem setActor_ths (s : BSt) (a f) : (s.setActor a f).ths = s.ths := rfl
@[simp] theorem setActor_th (s : BSt) (a f i) : (s.setActor a f).th i = s.th i := rfl
@[simp] theorem setActor_lgs (s : BSt) (a f) : (s.setActor a f).lgs = s.lgs := rfl
@[simp] theorem setActor_lgOf (s : BSt) (a f i) : (s.setActor a f).lgOf i = s.lgOf i := rfl
@[simp] theorem setActor_sinks (s : BSt) (a f) : (s.setActor a f).sinks = s.sinks := rfl
@[simp] theorem setActor_log (s : BSt) (a f) : (s.setActor a f).log = s.log := rfl
@[simp] theorem setActor_registry (s : BSt) (a f) : (s.setActor a f).registry = s.registry := rfl
@[simp] theorem setActor_cache (s : BSt) (a f) : (s.setActor a f).cache = s.cache := rfl
@[simp] theorem setActor_nextId (s : BSt) (a f) : (s.setActor a f).nextId = s.nextId := rfl
@[simp] theorem setActor_popLog (s : BSt) (a f) : (s.setActor a f).popLog = s.popLog := rfl
@[simp] theorem setActor_reported (s : BSt) (a f) : (s.setActor a f).reported = s.reported := rfl
@[simp] theorem setActor_names (s : BSt) (a f) : (s.setActor a f).names = s.names := rfl
@[simp] theorem setActor_flags (s : BSt) (a f) : (s.setActor a f).flags = s.flags := rfl

@[simp] theorem setLg_cfg (s : BSt) (i f) : (s.setLg i f).cfg = s.cfg := rfl
@[simp] theorem setLg_ths (s : BSt) (i f) : (s.setLg i f).ths = s.ths := rfl
@[simp] theorem setLg_th (s : BSt) (i f j) : (s.setLg i f).th j = s.th j := rfl
@[simp] theorem setLg_actors (s : BSt) (i f) : (s.setLg i f).actors = s.actors := rfl
@[simp] theorem setLg_actor (s : BSt) (i f a) : (s.setLg i f).actor a = s.actor a := rfl
@[simp] theorem setLg_sinks (s : BSt) (i f) : (s.setLg i f).sinks = s.sinks := rfl
@[simp] theorem setLg_sinkOf (s : BSt) (i f j) : (s.setLg i f).sinkOf j = s.sinkOf j := rfl
@[simp] theorem setLg_log (s : BSt) (i f) : (s.setLg i f).log = s.log := rfl
@[simp] theorem setLg_registry (s : BSt) (i f) : (s.setLg i f).registry = s.registry := rfl
@[simp] theorem setLg_cache (s : BSt) (i f) : (s.setLg i f).cache = s.cache := rfl
@[simp] theorem setLg_nextId (s : BSt) (i f) : (s.setLg i f).nextId = s.nextId := rfl
@[simp] theorem setLg_popLog (s : BSt) (i f) : (s.setLg i f).popLog = s.popLog := rfl
@[simp] theorem setLg_reported (s : BSt) (i f) : (s.setLg i f).reported = s.reported := rfl
@[simp] theorem setLg_names (s : BSt) (i f) : (s.setLg i f).names = s.names := rfl
@[simp] theorem setLg_flags (s : BSt) (i f) : (s.setLg i f).flags = s.flags := rfl
@[simp] theorem setSink_cfg (s : BSt) (i f) : (s.setSink i f).cfg = s.cfg := rfl
@[simp] theorem setSink_ths (s : BSt) (i f) : (s.setSink i f).ths = s.ths := rfl
@[simp] theorem setSink_th (s : BSt) (i f j) : (s.setSink i f).th j = s.th j := rfl
@[simp] theorem setSink_actors (s : BSt) (i f) : (s.setSink i f).actors = s.actors := rfl
@[simp] theorem setSink_actor (s : BSt) (i f a) : (s.setSink i f).actor a = s.actor a := rfl
@[simp] theorem setSink_lgs (s : BSt) (i f) : (s.setSink i f).lgs = s.lgs := rfl
@[simp] theorem setSink_lgOf (s : BSt) (i f j) : (s.setSink i f).lgOf j = s.lgOf j := rfl
@[simp] theorem setSink_log (s : BSt) (i f) : (s.setSink i f).log = s.log := rfl
@[simp] theorem setSink_registry (s : BSt) (i f) : (s.setSink i f).registry = s.registry := rfl
@[simp] theorem setSink_cache (s : BSt) (i f) : (s.setSink i f).cache = s.cache := rfl
@[simp] theorem setSink_nextId (s : BSt) (i f) : (s.setSink i f).nextId = s.nextId := rfl
@[simp] theorem setSink_popLog (s : BSt) (i f) : (s.setSink i f).popLog = s.popLog := rfl
@[simp] theorem setSink_reported (s : BSt) (i f) : (s.setSink i f).reported = s.reported := rfl
@[simp] theorem setSink_names (s : BSt) (i f) : (s.setSink i f).names = s.names := rfl
@[simp] theorem setSink_flags (s : BSt) (i f) : (s.setSink i f).flags = s.flags := rfl

@[simp] theorem emit_cfg (s : BSt) (e) : (s.emit e).cfg = s.cfg := rfl
@[simp] theorem emit_ths (s : BSt) (e) : (s.emit e).ths = s.ths := rfl
@[simp] theorem emit_th (s : BSt) (e i) : (s.emit e).th i = s.th i := rfl
@[simp] theorem emit_actors (s : BSt) (e) : (s.emit e).actors = s.actors := rfl
@[simp] theorem emit_actor (s : BSt) (e a) : (s.emit e).actor a = s.actor a := rfl
@[simp] theorem emit_lgs (s : BSt) (e) : (s.emit e).lgs = s.lgs := rfl
@[simp] theorem emit_lgOf (s : BSt) (e i) : (s.emit e).lgOf i = s.lgOf i := rfl
@[simp] theorem emit_sinks (s : BSt) (e) : (s.emit e).sinks = s.sinks := rfl
@[simp] theorem emit_sinkOf (s : BSt) (e i) : (s.emit e).sinkOf i = s.sinkOf i := rfl
@[simp] theorem emit_log (s : BSt) (e) : (s.emit e).log = e :: s.log := rfl
@[simp] theorem emit_registry (s : BSt) (e) : (s.emit e).registry = s.registry := rfl
@[simp] theorem emit_cache (s : BSt) (e) : (s.emit e).cache = s.cache := rfl
@[simp] theorem emit_nextId (s : BSt) (e) : (s.emit e).nextId = s.nextId := rfl
@[simp] theorem emit_popLog (s : BSt) (e) : (s.emit e).popLog = s.popLog := rfl
@[simp] theorem emit_reported (s : BSt) (e) : (s.emit e).reported = s.reported := rfl
@[simp] theorem emit_names (s : BSt) (e) : (s.emit e).names = s.names := rfl
@[simp] theorem emit_flags (s : BSt) (e) : (s.emit e).flags = s.flags := rfl

end Backend.PA
