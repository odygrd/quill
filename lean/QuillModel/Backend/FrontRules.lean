import QuillModel.Backend.FrontShape
import QuillModel.Backend.EventRel
/-!
One rule per function of the frontend, for arbitrary predicates: what is kept by the steps of the function — each given
what the function knows when it takes the step — is kept by the function. `enqFlow_rule` speaks of one predicate per
phase of an enqueue attempt (`E ci`: the context `ci` of the caller is known; `R ci`: the queue has refused; `Q`: the
attempt is over), `call_rule` and `resume_rule` of the state between the attempt and the note of the logger (`Q`) and of
the state the operation leaves (`P`); a two-state relation `R` is walked as the predicate `R s`. `ActorRules` /
`FrontRules` list, for a one-state predicate kept by every operation, the obligations per kind of step — the steps of an
enqueue attempt are one obligation (`enq`, from `enqFlow_rule`), given the notion `A` of a record the actor may enqueue
or park — and `FrontRules.applyFront` walks `FrontShape` once (`FrontRules.front`, `ActorRules.resume_fst`: a predicate
that rests on no other invariant); `FrontRules.ofStrip` is the case of a predicate that reads neither names, loggers nor
sinks. Last the injection runner, which runs frontend operations at a hook site of the backend (`runInj_rule`), and the
runners with nothing scheduled at hook site 9 (`PC.Quiet9`).
-/
namespace Backend

/-- whether actor `a` is parked in `x` (as `noteCall` and `clearCall` ask) -/
abbrev parkedIn (x : BSt) (a : Nat) : Bool := ((x.actor a).map isParked).getD false

/-- `enqFlow`: the record is enqueued in, or parked behind, the context `ensureCtx` returns. A bump happens once per
    blocked call; a refused call returns only from a dropping queue, and only if it reports a result. -/
theorem enqFlow_rule {s : BSt} {a : Nat} {st : Stmt} {cont : Nat} {first initial : Bool} (E R : Nat → BSt → Prop)
    (Q : BSt → Prop)
    (ctx : E (ensureCtx s a).2 (ensureCtx s a).1)
    (granted : ∀ ci x, E ci x → (tryEnq x ci st).2 = true → Q (afterEnq (setPend (tryEnq x ci st).1 a .none) a st cont).1)
    (refused : ∀ ci x, E ci x → (tryEnq x ci st).2 = false → R ci (tryEnq x ci st).1)
    (bump : ∀ ci x, R ci x → (s.cfg.dropping = false → first = true) → R ci (bumpFail s.cfg.dropping x ci st))
    (drop : ∀ ci x, R ci x → s.cfg.dropping = true → cont = 0 ∨ cont = 5 → Q (setPend x a .none))
    (park : ∀ ci x, R ci x → (s.cfg.dropping = true → ¬(cont = 0 ∨ cont = 5)) → Q (setPend x a (.retry st cont))) :
    Q (enqFlow s a st cont first initial).1 := by
  have hE : ∀ {s1 ci}, ensureCtx s a = (s1, ci) → E ci s1 := fun hc => by rw [hc] at ctx; exact ctx
  have hR : ∀ {s1 s2 ci}, ensureCtx s a = (s1, ci) → tryEnq s1 ci st = (s2, false) → R ci s2 := fun hc he => by
    have := refused _ _ (hE hc) (by rw [he])
    rwa [he] at this
  have hs := enqFlow_shape s a st cont first initial
  generalize enqFlow s a st cont first initial = r at hs ⊢
  cases hs with
  | granted hc he =>
    have := granted _ _ (hE hc) (by rw [he])
    rwa [he] at this
  | dropped hc he hd hk => exact drop _ _ (hd ▸ bump _ _ (hR hc he) (fun h => by rw [hd] at h; cases h)) hd hk
  | dropRetry hc he hd hk =>
    exact park _ _ (hd ▸ bump _ _ (hR hc he) (fun h => by rw [hd] at h; cases h)) (fun _ => hk)
  | @blocked _ _ ci hc he hd =>
    refine park ci _ ?_ (fun h => by rw [hd] at h; cases h)
    split
    · next hf => exact hd ▸ bump _ _ (hR hc he) (fun _ => hf)
    · exact hR hc he

/-- a statement-producing public call with the note of the logger it went through: the armed stall parks the record the
    call has built, otherwise the record goes through `enqFlow`; `Q` holds before the note -/
theorem call_rule (Q P : BSt → Prop) {s : BSt} {a lgi : Nat} {kind : Kind} {lvl len cont : Nat} {dyn : Bool} {id : Nat}
    {named : Bool} (g : Nat)
    (stall : ((s.actor a).map (·.stallArmed)).getD false = true →
      Q (s.setActor a (fun x => { x with stallArmed := false, pend := .stall (callStmt s a lgi kind lvl len dyn id named) cont })))
    (enq : Q (enqFlow s a (callStmt s a lgi kind lvl len dyn id named) cont true).1)
    (note : ∀ x, Q x → P (x.setActor a (fun y => { y with inCall := if parkedIn x a then some g else none }))) :
    P (noteCall (frontCall s a lgi kind lvl len cont dyn id named) a g).1 := by
  refine note _ ?_
  have hs := frontCall_shape s a lgi kind lvl len cont dyn id named
  generalize frontCall s a lgi kind lvl len cont dyn id named = r at hs ⊢
  cases hs with
  | stalled h => exact stall h
  | enq => exact enq

/-- `resume`: a parked record `st0` is tried again, as it is or (a dropping queue's retry is a fresh call) with the time
    of the retry; a raised flag ends the wait. The tail of the operation is `clearCall_pres`. -/
theorem resume_rule (Q : BSt → Prop) {s : BSt} {a : Nat} {r : BSt × String} (hr : ResumeShape s a r)
    (enq : ∀ x st0 cont st first, s.actor a = some x → x.pend = .stall st0 cont ∨ x.pend = .retry st0 cont →
      st = st0 ∨ st = { st0 with ts := s.now } → Q (enqFlow s a st cont first false).1)
    (done : ∀ x f, s.actor a = some x → x.pend = .flag f → s.flags.contains f = true → Q (setPend s a .none))
    (idle : Q s) : Q r.1 := by
  cases hr with
  | stall hx hp => exact enq _ _ _ _ _ hx (.inl hp) (.inl rfl)
  | retryDrop hx hp => exact enq _ _ _ _ _ hx (.inr hp) (.inr rfl)
  | retryBlock hx hp => exact enq _ _ _ _ _ hx (.inr hp) (.inl rfl)
  | flagDone hx hp hf => exact done _ _ hx hp hf
  | flagWait | noop => exact idle

theorem idle_actor {s : BSt} {a : Nat} (h : idleActor s a = true) : ∃ x, s.actor a = some x ∧ isParked x = false := by
  unfold idleActor at h
  cases hx : s.actor a with
  | none => rw [hx] at h; cases h
  | some x => rw [hx] at h; exact ⟨x, rfl, by simpa using h⟩

/-- the obligations of a predicate `P` kept, from a state where `B` holds, by what the frontend does to actors and their
    contexts, one per kind of step. `A a st s`: actor `a` may enqueue or park the record `st` in `s` -/
structure ActorRules (B P : BSt → Prop) (A : Nat → Stmt → BSt → Prop) : Prop where
  enq : ∀ s a x st cont first initial, B s → P s → s.actor a = some x → A a st s →
    P (enqFlow s a st cont first initial).1
  stall : ∀ s a x st cont, B s → P s → s.actor a = some x → A a st s →
    P (s.setActor a (fun x => { x with stallArmed := false, pend := .stall st cont }))
  /-- the record a parked call holds may be tried again, also with the time of the retry -/
  parked : ∀ s a x st cont, B s → P s → s.actor a = some x → x.pend = .stall st cont ∨ x.pend = .retry st cont →
    A a st s ∧ A a { st with ts := s.now } s
  flagDone : ∀ s a x f, B s → P s → s.actor a = some x → x.pend = .flag f → s.flags.contains f = true →
    P (setPend s a .none)
  /-- any change of an actor that keeps its id, life, context and held record: arming the stall (`stallArmed`), the note
      of the logger a call went through (`inCall`) -/
  actorMisc : ∀ s a (f : Actor → Actor), P s →
    (∀ x, (f x).id = x.id ∧ (f x).alive = x.alive ∧ (f x).ctx = x.ctx ∧ (f x).pend = x.pend) → P (s.setActor a f)
  pre : ∀ s g kind id s1 a lgi, B s → P s → CallPre s g kind id s1 → loggerOf s g = some lgi → idleActor s a = true →
    P s1 ∧ ∀ lvl len dyn named, A a (callStmt s1 a lgi kind lvl len dyn id named) s1
  tick : ∀ s dt, P s → P { s with now := s.now + dt }
  tstart : ∀ s a, B s → P s → s.actor a = none → P { s with actors := s.actors ++ [{ id := a }] }
  texitCtx : ∀ s a i, B s → P s → idleActor s a = true → (s.actor a).bind (·.ctx) = some i →
    P { (s.setActor a (fun x => { x with alive := false })).setTh i (fun t => { t with valid := false }) with
        invalidCnt := counterMod s.cfg (s.invalidCnt + 1) }
  texitNoCtx : ∀ s a, B s → P s → idleActor s a = true → (s.actor a).bind (·.ctx) = none →
    P (s.setActor a (fun x => { x with alive := false }))

structure FrontRules (B P : BSt → Prop) (A : Nat → Stmt → BSt → Prop) : Prop extends ActorRules B P A where
  remove : ∀ s a g lgi, B s → P s → loggerBusy s g = false → loggerOf s g = some lgi → idleActor s a = true →
    P { (dropName s g).setLg lgi (fun l => { l with valid := false }) with hasInvalidLoggers := true }
  createExisting : ∀ s g i, B s → P s → loggerBusy s g = false →
    (List.range s.lgs.length).find? (fun i => (s.lgOf i).gid = g ∧ !(s.lgOf i).erased) = some i → (s.lgOf i).valid = true →
    P { dropName s g with names := (dropName s g).names ++ [(g, i)] }
  createNew : ∀ s g sl, B s → P s → loggerBusy s g = false →
    sl.any (fun sid => !(s.sinks.any (fun k => k.sid = sid ∧ k.alive))) = false →
    (List.range s.lgs.length).find? (fun i => (s.lgOf i).gid = g ∧ !(s.lgOf i).erased) = none →
    P { dropName s g with lgs := s.lgs ++ [{ gid := g, sinks := sl }], names := (dropName s g).names ++ [(g, s.lgs.length)] }
  setLevel : ∀ s g lvl lgi, P s → loggerOf s g = some lgi → P (s.setLg lgi (fun l => { l with level := lvl }))
  setSinkLevel : ∀ s sid lvl, P s → P (s.setSink sid (fun k => { k with lvl := lvl }))
  dropSink : ∀ s sid, B s → P s → P (reapSinks (s.setSink sid (fun k => { k with userRef := false })) [sid])

section
variable {B P : BSt → Prop} {A : Nat → Stmt → BSt → Prop} (h : ActorRules B P A)
include h

theorem ActorRules.call {s : BSt} {a : Nat} {x : Actor} (hB : B s) (hP : P s) (hx : s.actor a = some x) (lgi : Nat)
    (kind : Kind) (lvl len cont : Nat) (dyn : Bool) (id : Nat) (named : Bool) (g : Nat)
    (hA : A a (callStmt s a lgi kind lvl len dyn id named) s) :
    P (noteCall (frontCall s a lgi kind lvl len cont dyn id named) a g).1 :=
  call_rule P P g (fun _ => h.stall s a x _ cont hB hP hx hA) (h.enq s a x _ cont true true hB hP hx hA)
    (fun y hy => h.actorMisc y a _ hy (fun _ => ⟨rfl, rfl, rfl, rfl⟩))

theorem ActorRules.ofResume {s : BSt} {a : Nat} {r : BSt × String} (hB : B s) (hP : P s) (hr : ResumeShape s a r) :
    P r.1 :=
  resume_rule P hr
    (fun x st0 cont st first hx hp hst => by
      have hA := h.parked s a x st0 cont hB hP hx hp
      exact h.enq s a x st cont first false hB hP hx (by rcases hst with rfl | rfl; exact hA.1; exact hA.2))
    (fun x f hx hp hf => h.flagDone s a x f hB hP hx hp hf) hP

theorem ActorRules.resume {s : BSt} {a : Nat} {r : BSt × String} (hB : B s) (hP : P s) (hr : ResumeShape s a r) :
    P (clearCall r a).1 :=
  clearCall_pres P (h.ofResume hB hP hr) (fun _ => h.actorMisc _ a _ (h.ofResume hB hP hr) (fun _ => ⟨rfl, rfl, rfl, rfl⟩))

end

theorem ActorRules.resume_fst {P : BSt → Prop} {A : Nat → Stmt → BSt → Prop} (h : ActorRules (fun _ => True) P A) {s : BSt}
    (hP : P s) (a : Nat) : P (Backend.resume s a).1 :=
  h.ofResume trivial hP (resume_shape s a)

section
variable {B P : BSt → Prop} {A : Nat → Stmt → BSt → Prop} (h : FrontRules B P A)
include h

/-- every frontend operation; of `B` only that the preparation of a call keeps it -/
theorem FrontRules.applyFront (hpre : ∀ s g kind id s1, CallPre s g kind id s1 → B s → B s1) (s : BSt) (f : FOp) (hB : B s)
    (hP : P s) : P (applyFront s f).1 := by
  have hcall : ∀ {g kind id s1 a lgi}, CallPre s g kind id s1 → loggerOf s g = some lgi → idleActor s a = true →
      ∀ lvl len cont dyn named, P (noteCall (frontCall s1 a lgi kind lvl len cont dyn id named) a g).1 := by
    intro g kind id s1 a lgi hp hl hi lvl len cont dyn named
    obtain ⟨x, hx, _⟩ := idle_actor hi
    have h1 := h.pre s g kind id s1 a lgi hB hP hp hl hi
    have hx1 : s1.actor a = some x := by rw [hp.same]; exact hx
    exact h.toActorRules.call (hpre s g kind id s1 hp hB) h1.1 hx1 lgi kind lvl len cont dyn id named g (h1.2 ..)
  have hf := applyFront_shape s f
  generalize Backend.applyFront s f = r at hf ⊢
  induction hf with
  | noop => exact hP
  | tick dt => exact h.tick s dt hP
  | tstart a hn => exact h.tstart s a hB hP (by cases hx : s.actor a with | none => rfl | some _ => rw [hx] at hn; cases hn)
  | texitCtx a i hi hc => exact h.texitCtx s a i hB hP hi hc
  | texitNoCtx a hi hc => exact h.texitNoCtx s a hB hP hi hc
  | resume a hr => exact h.toActorRules.resume hB hP hr
  | armStall a => exact h.actorMisc s a _ hP (fun _ => ⟨rfl, rfl, rfl, rfl⟩)
  | call _ hp hl hi => exact hcall hp hl hi ..
  | logSkip _ hl hi =>
    exact h.actorMisc _ _ _ (h.pre s _ _ _ _ _ _ hB hP .log hl hi).1 (fun _ => ⟨rfl, rfl, rfl, rfl⟩)
  | remove a g hb hl hi => exact h.remove s a g _ hB hP hb hl hi
  | createExisting a g sl _ hb _ he hv => exact h.createExisting s g _ hB hP hb he hv
  | createNew a g sl _ hb hs he => exact h.createNew s g sl hB hP hb hs he
  | setLevel g lvl hl => exact h.setLevel s g lvl _ hP hl
  | setSinkLevel sid lvl => exact h.setSinkLevel s sid lvl hP
  | dropSink sid => exact h.dropSink s sid hB hP

end

theorem FrontRules.front {P : BSt → Prop} {A : Nat → Stmt → BSt → Prop} (h : FrontRules (fun _ => True) P A) {s : BSt}
    (hP : P s) (f : FOp) : P (Backend.applyFront s f).1 :=
  h.applyFront (fun _ _ _ _ _ _ _ => trivial) s f trivial hP

/-- the state without what the operations on names, loggers and sinks write -/
def stripLg (s : BSt) : BSt :=
  { s with names := [], lgs := [], hasInvalidLoggers := false, sinks := [], out := [], log := [] }

theorem stripLg_with (s : BSt) (nm lg hi sk o l) :
    stripLg { s with names := nm, lgs := lg, hasInvalidLoggers := hi, sinks := sk, out := o, log := l } = stripLg s := rfl

theorem stripLg_dropName (s : BSt) (g : Nat) : stripLg (dropName s g) = stripLg s := stripLg_with s ..

theorem stripLg_setLg (s : BSt) (i : Nat) (f : Lg → Lg) : stripLg (s.setLg i f) = stripLg s := stripLg_with s ..

theorem stripLg_setSink (s : BSt) (sid : Nat) (f : Sink → Sink) : stripLg (s.setSink sid f) = stripLg s := stripLg_with s ..

theorem stripLg_emit (s : BSt) (e : Ev) : stripLg (s.emit e) = stripLg s := stripLg_with s ..

theorem stripLg_reapSinks (s : BSt) (l : List Nat) : stripLg (reapSinks s l) = stripLg s :=
  (SinkRel.of_eq stripLg stripLg_setSink stripLg_emit).reapSinks (fun s sid => stripLg_setSink s sid _) l s

theorem of_stripLg {α} (φ : BSt → α) (hφ : ∀ s, φ (stripLg s) = φ s) {s s' : BSt} (e : stripLg s' = stripLg s) :
    φ s' = φ s := by
  rw [← hφ s', e, hφ]

theorem FrontRules.ofStrip {B P : BSt → Prop} {A : Nat → Stmt → BSt → Prop}
    (frame : ∀ s s', stripLg s' = stripLg s → P s → P s') (c : ActorRules B P A) : FrontRules B P A :=
  { c with
    remove := fun s _ _ _ _ h _ _ _ =>
      frame s _ ((stripLg_with ..).trans ((stripLg_setLg ..).trans (stripLg_dropName ..))) h
    createExisting := fun s _ _ _ h _ _ _ => frame s _ ((stripLg_with ..).trans (stripLg_dropName ..)) h
    createNew := fun s _ _ _ h _ _ _ => frame s _ ((stripLg_with ..).trans (stripLg_dropName ..)) h
    setLevel := fun s _ _ _ h _ => frame s _ (stripLg_setLg ..) h
    setSinkLevel := fun s _ _ h => frame s _ (stripLg_setSink ..) h
    dropSink := fun s _ _ h => frame s _ ((stripLg_reapSinks ..).trans (stripLg_setSink ..)) h }

/-- the frontend operation an injection runs: at site 9 (inside the logger clean-up, which holds the manager's lock) a
    call that needs that lock does nothing -/
def injRes (site : Nat) (s : BSt) (f : FOp) : BSt × String :=
  if site = 9 && f.needsManagerLock then (s, "noop") else applyFront s f

theorem injRes_cases (site : Nat) (s : BSt) (f : FOp) : injRes site s f = (s, "noop") ∨ injRes site s f = applyFront s f := by
  unfold injRes
  split
  · exact .inl rfl
  · exact .inr rfl

def injStep (site k : Nat) (s : BSt) (f : FOp) : BSt :=
  (injRes site s f).1.emit (.inj site k f.show (injRes site s f).2)

theorem injStep_pres (P : BSt → Prop) {site k : Nat} {x : BSt} {f : FOp} (hx : P x)
    (front : (site = 9 → f.needsManagerLock = false) → P (applyFront x f).1)
    (mark : ∀ y r, P y → P (y.emit (.inj site k f.show r))) : P (injStep site k x f) := by
  refine mark _ _ ?_
  unfold injRes
  split
  · exact hx
  · next h => exact front (fun h9 => by simpa [h9] using h)

def siteK (s : BSt) (site : Nat) : Nat := ((s.siteCnt.find? (·.1 = site)).map (·.2)).getD 0 + 1

theorem runInj_eq (table : List (Nat × Nat × List FOp)) (s : BSt) (site : Nat) :
    runInj table s site =
      match table.find? (fun x => x.1 = site ∧ x.2.1 = siteK s site) with
      | none => { s with siteCnt := (site, siteK s site) :: s.siteCnt.filter (·.1 ≠ site) }
      | some (_, _, ops) =>
        ops.foldl (injStep site (siteK s site)) { s with siteCnt := (site, siteK s site) :: s.siteCnt.filter (·.1 ≠ site) } := by
  unfold runInj; rfl

theorem runInj_nil (s : BSt) (site : Nat) :
    runInj [] s site = { s with siteCnt := (site, siteK s site) :: s.siteCnt.filter (·.1 ≠ site) } := by
  rw [runInj_eq]; rfl

/-- the injection runner: the visit of the site is counted, then the operations the table schedules for this visit
    run one by one, each followed by its marker (`injStep`) -/
theorem runInj_rule (P : BSt → Prop) (table : List (Nat × Nat × List FOp)) (s : BSt) (site : Nat)
    (count : P { s with siteCnt := (site, siteK s site) :: s.siteCnt.filter (·.1 ≠ site) })
    (step : ∀ e ∈ table, e.1 = site → ∀ f ∈ e.2.2, ∀ x, P x → P (injStep site (siteK s site) x f)) :
    P (runInj table s site) := by
  rw [runInj_eq]
  split
  · exact count
  · next ops hfind =>
    have hs := List.find?_some hfind
    simp only [decide_eq_true_eq] at hs
    exact List.foldl_inv_mem P _ ops _ (fun x f hf hx => step _ (List.mem_of_find?_eq_some hfind) hs.1 f hf x hx) count

namespace PC

def Quiet9 (inj : BSt → Nat → BSt) : Prop := ∀ s, ∃ sc, inj s 9 = { s with siteCnt := sc }

theorem runInj_quiet9 (table : List (Nat × Nat × List FOp)) (h : ∀ e ∈ table, e.1 ≠ 9) : Quiet9 (runInj table) := by
  intro s
  rw [runInj_eq]
  split
  · exact ⟨_, rfl⟩
  · rename_i a b ops hf
    have hm := List.mem_of_find?_eq_some hf
    have hp := List.find?_some hf
    simp only [decide_eq_true_eq] at hp
    exact absurd hp.1 (h _ hm)

theorem runInj_nil_quiet9 : Quiet9 (runInj []) := runInj_quiet9 [] (fun _ h => by cases h)

end PC

end Backend
