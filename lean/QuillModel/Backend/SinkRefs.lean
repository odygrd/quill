import QuillModel.Backend.SinkBack
/-!
The converse of `LS.dead` ("a destroyed sink is unreferenced"): a sink that is alive is referenced — by the user
or by a logger object that is not erased. Unlike `LS` this is not stable under every micro-step of the backend: between
the erase of a logger object and the visit of its sinks by `cleanup_unused_sinks` (with hook site 9 after every
destructor) the sinks of that logger are alive and possibly unreferenced. `RP pend` is the statement with the list of
sinks still to be visited; every step other than the erase keeps `RP pend` for every `pend`, the erase of logger `i`
adds the sinks of `i`, a visit removes its sink. Helper lemmas for C17.
-/
namespace Backend.PC

/-- every live sink of the system is referenced, or is one of the sinks `pend` the running clean-up still has to visit -/
def RP (pend : List Nat) (x : BSt) : Prop :=
  ∀ sid ∈ x.sinks.map (·.sid), (x.sinkOf sid).alive = true → RefdBy x sid ∨ sid ∈ pend

theorem RP.transport {x x' : BSt} {pend : List Nat} (h : RP pend x)
    (hs : x'.sinks.map (·.sid) = x.sinks.map (·.sid))
    (hk : ∀ sid, (x'.sinkOf sid).alive = true → (x.sinkOf sid).alive = true)
    (hu : ∀ sid, (x.sinkOf sid).userRef = true → (x'.sinkOf sid).userRef = true)
    (hl : ∀ i, i < x.lgs.length → (x.lgOf i).erased = false →
      i < x'.lgs.length ∧ (x'.lgOf i).erased = false ∧ (x'.lgOf i).sinks = (x.lgOf i).sinks) : RP pend x' := by
  intro sid hsid ha
  rw [hs] at hsid
  rcases h sid hsid (hk sid ha) with hr | hp
  · left
    rcases hr with hr | ⟨i, hi, he, hm⟩
    · exact Or.inl (hu sid hr)
    · obtain ⟨a, b, c⟩ := hl i hi he
      exact Or.inr ⟨i, a, b, by rw [c]; exact hm⟩
  · exact Or.inr hp

theorem RP.keep {x x' : BSt} {pend : List Nat} (h : RP pend x) (hk : SinkKeep x x') : RP pend x' :=
  h.transport hk.sids (fun sid ha => hk.alive sid ▸ ha) (fun sid hu => (hk.userRef sid).trans hu)
    (fun i hi he => ⟨hk.lgLen ▸ hi, (hk.erased i).trans he, hk.lgSinks i⟩)

theorem RP_of_sview {x x' : BSt} {pend : List Nat} (h : RP pend x) (hv : sview x' = sview x) : RP pend x' :=
  h.keep (.of_sview hv)

theorem RP_of_fields {x x' : BSt} {pend : List Nat} (h1 : x'.sinks = x.sinks) (h2 : x'.lgs = x.lgs) (h : RP pend x) :
    RP pend x' :=
  RP_of_sview (x := { x with log := x'.log }) (h.transport rfl (fun _ ha => ha) (fun _ hu => hu) (fun _ hi he => ⟨hi, he, rfl⟩))
    (by simp only [sview, h1, h2])

theorem RP_out {x x' : BSt} {pend : List Nat} {evs : List Ev} (h : RP pend x) (ho : OutStep x x' evs) : RP pend x' :=
  h.keep ho.keep

theorem RP.mono {x : BSt} {p p' : List Nat} (h : RP p x) (hp : ∀ y ∈ p, y ∈ p') : RP p' x := by
  intro sid hs ha
  rcases h sid hs ha with h1 | h1
  · exact Or.inl h1
  · exact Or.inr (hp sid h1)

theorem RP_kill {x : BSt} {pend : List Nat} {sid : Nat} (hr : sinkRefs x sid = 0) (h : RP (sid :: pend) x) :
    RP pend ((x.setSink sid (fun k => { k with alive := false })).emit (.sinkDtor sid)) := by
  obtain ⟨hsame, hne, hsids⟩ := sinkOf_kill hr
  intro sid' hsid' ha'
  have hsid'' : sid' ∈ (x.setSink sid (fun k => { k with alive := false })).sinks.map (·.sid) := hsid'
  have ha'' : ((x.setSink sid (fun k => { k with alive := false })).sinkOf sid').alive = true := ha'
  by_cases hs : sid' = sid
  · subst hs
    rw [hsame] at ha''; cases ha''
  · rw [hne sid' hs] at ha''
    rw [hsids] at hsid''
    rcases h sid' hsid'' ha'' with hr' | hp
    · left
      rcases hr' with hu | ⟨i, hi, he, hm⟩
      · left
        show ((x.setSink sid (fun k => { k with alive := false })).sinkOf sid').userRef = true
        rw [hne sid' hs]; exact hu
      · exact Or.inr ⟨i, hi, he, hm⟩
    · right
      rcases List.mem_cons.mp hp with hp | hp
      · exact absurd hp hs
      · exact hp

theorem RP_skip {x : BSt} {pend : List Nat} {sid : Nat}
    (hc : ¬ ((x.sinkOf sid).alive = true ∧ sinkRefs x sid = 0)) (h : RP (sid :: pend) x) : RP pend x := by
  intro sid' hsid' ha'
  rcases h sid' hsid' ha' with hr | hp
  · exact Or.inl hr
  · rcases List.mem_cons.mp hp with hp | hp
    · subst hp
      left
      apply refd_of_sinkRefs_pos
      have : sinkRefs x sid' ≠ 0 := fun hz => hc ⟨ha', hz⟩
      omega
    · exact Or.inr hp

theorem RP_reapSinks (pend : List Nat) : ∀ (sids : List Nat) (x : BSt), RP (sids ++ pend) x → RP pend (reapSinks x sids) :=
  reapSinks_rule (fun p x => RP (p ++ pend) x) (fun _ _ _ h _ hr => RP_kill hr h) (fun _ _ _ h hc => RP_skip hc h)

theorem RP_erase {x : BSt} {pend : List Nat} (h : RP pend x) (i : Nat) :
    RP ((x.lgOf i).sinks ++ pend) (x.setLg i (fun l => { l with erased := true })) := by
  intro sid hsid ha
  rcases h sid hsid ha with hr | hp
  · rcases hr with hu | ⟨j, hj, he, hm⟩
    · exact Or.inl (Or.inl hu)
    · by_cases hji : j = i
      · subst hji
        exact Or.inr (List.mem_append_left _ hm)
      · left; right
        refine ⟨j, by rw [lgs_length_setLg]; exact hj, ?_, ?_⟩
        · rw [lgOf_setLg]; simp only [hji, false_and, if_false]; exact he
        · rw [lgOf_setLg]; simp only [hji, false_and, if_false]; exact hm
  · exact Or.inr (List.mem_append_right _ hp)

theorem RP_newLogger {s : BSt} {pend : List Nat} (h : RP pend s) (g : Nat) (sl : List Nat) (nm : List (Nat × Nat)) :
    RP pend { s with lgs := s.lgs ++ [{ gid := g, sinks := sl }], names := nm } := by
  have hlt := lgOf_newLogger_lt s g sl nm
  refine h.transport rfl (fun _ ha => ha) (fun _ hu => hu) ?_
  intro i hi he
  refine ⟨?_, by rw [hlt i hi]; exact he, by rw [hlt i hi]⟩
  show i < (s.lgs ++ [({ gid := g, sinks := sl } : Lg)]).length
  simp only [List.length_append, List.length_singleton]; omega

theorem RP_front (pend : List Nat) (s : BSt) (f : FOp) (h : RP pend s) : RP pend (applyFront s f).1 := by
  rcases front_sinkPart s f with e | ⟨_, g, sl, nm, _, _, e⟩ | ⟨sid, lvl, _, e⟩ | ⟨sid, e⟩
  · exact RP_of_sview h (of_sinkPart sview sview_sinkPart e)
  · rw [e]
    exact RP_newLogger h g sl nm
  · rw [e]
    refine h.transport (setSink_sids s sid _ (fun y _ hy => hy)) ?_ ?_ (fun i hi he => ⟨hi, he, rfl⟩)
    · intro sid' ha
      rw [← sinkOf_setSink_proj (·.alive) s sid (fun k => { k with lvl := lvl }) (fun _ h => h) (fun _ => rfl) sid']
      exact ha
    · intro sid' hu
      rw [sinkOf_setSink_proj (·.userRef) s sid (fun k => { k with lvl := lvl }) (fun _ h => h) (fun _ => rfl) sid']
      exact hu
  · rw [e]
    apply RP_reapSinks pend [sid]
    -- the user's reference is gone: the sink is visited at once
    intro sid' hsid' ha'
    have hsids : (s.setSink sid (fun k => { k with userRef := false })).sinks.map (·.sid) = s.sinks.map (·.sid) :=
      setSink_sids s sid _ (fun y _ hy => hy)
    rw [hsids] at hsid'
    rw [sinkOf_setSink_proj (·.alive) s sid (fun k => { k with userRef := false }) (fun _ h => h) (fun _ => rfl) sid'] at ha'
    by_cases hs : sid' = sid
    · right; rw [hs]; exact List.mem_append_left _ List.mem_cons_self
    · rcases h sid' hsid' ha' with hr | hp
      · left
        rcases hr with hu | ⟨i, hi, he, hm⟩
        · left
          rw [sinkOf_setSink_ne s (fun k => { k with userRef := false }) (fun _ h => h) hs]; exact hu
        · exact Or.inr ⟨i, hi, he, hm⟩
      · exact Or.inr (List.mem_append_right _ hp)

def NoDtorIn (evs : List Ev) : Prop := ∀ e ∈ evs, ∀ sid, isDtor sid e = false

theorem EvsOn.noDtor {ok : List Nat} {evs : List Ev} (h : EvsOn ok evs) : NoDtorIn evs := fun e he => (h e he).2

theorem NoDtorIn.append {a b : List Ev} (h1 : NoDtorIn a) (h2 : NoDtorIn b) : NoDtorIn (a ++ b) := by
  intro e he
  rcases List.mem_append.mp he with he | he
  · exact h1 e he
  · exact h2 e he

theorem procSt_out (s : BSt) (st : Stmt) : ∃ evs, OutStep s (procSt s st) evs ∧ NoDtorIn evs := by
  refine OutStep.of_log (keep_dispRel.procSt s st) ((procSt_ext s st).mono fun e he => ?_)
  have hw : ∀ {x l}, wEv x l e → ∀ sid, isDtor sid e = false := fun h => (wEv_on h).2
  rcases he with ⟨_, rfl⟩ | ⟨_, he⟩ | (rfl | ⟨x, _, he⟩) | ⟨_, rfl | ⟨x, _, rfl | rfl⟩⟩
  · exact fun _ => rfl
  · exact hw he
  · exact fun _ => rfl
  · exact hw he
  all_goals exact fun _ => rfl

theorem RP_popSt {s : BSt} {pend : List Nat} (h : RP pend s) (i : Nat) (st : Stmt) (rest : List Stmt) :
    RP pend (popSt s i st rest) := by
  obtain ⟨evs, h1, _⟩ := procSt_out s st
  rw [popSt_proc]
  exact RP_of_fields (x := procSt s st) rfl rfl (RP_out h h1)

end Backend.PC
