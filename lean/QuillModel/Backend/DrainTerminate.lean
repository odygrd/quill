import QuillModel.Backend.FlushProgress
/-!
Termination of the exit loop with the frontend stopped, built on the progress lemmas of bundle B
(`PB.populate_quiet`, `PB.batchLoop_quiet_lt`, the queue coupling `PB.QC` with `QC.empty_true`): an iteration keeps the
ordering invariant `PIo`, adds nothing, advances the clock by `tick`, and pops at least one event once every pending
record is past its grace period; with nothing pending the emptiness check answers yes. Helper lemmas for C07 (drain).
-/
namespace Backend.PC

theorem allEmpty_fold_true (l : List Nat) : ∀ (acc : BSt × Bool), (∀ i, PB.QC (acc.1.th i)) → acc.2 = true →
    (∀ i, PB.chain (acc.1.th i) = []) →
    (l.foldl (fun (acc : BSt × Bool) i => ((ctxEmpty acc.1 i).1, acc.2 && (ctxEmpty acc.1 i).2)) acc).2 = true := by
  induction l with
  | nil => intro acc _ h _; exact h
  | cons x xs ih =>
    intro acc hqc hacc hno
    rw [List.foldl_cons]
    have hs := PB.same_ctxEmpty acc.1 x
    apply ih
    · intro i; exact (hs.th i).qc (hqc i)
    · have hc := hno x
      unfold PB.chain at hc
      obtain ⟨hb, hq⟩ := List.append_eq_nil_iff.mp hc
      have h1 := (hqc x).empty_true acc.1.cfg hq
      show (acc.2 && (ctxEmpty acc.1 x).2) = true
      unfold ctxEmpty
      simp only [hacc, h1, hb, List.isEmpty_nil, Bool.and_self]
    · intro i; rw [(hs.th i).chain]; exact hno i

theorem allEmpty_of_nothing_pending {c : Cfg} {fl : Nat} {s : BSt} (h : PB.PIo c fl s)
    (hno : ∀ i, PB.chain (s.th i) = []) : (allEmpty s).2 = true := by
  unfold allEmpty
  simp only []
  have hr := h.refresh
  apply allEmpty_fold_true _ _ hr.qc rfl
  intro i
  rw [((PB.fr_refresh s).th i).chain]; exact hno i

theorem fr_populate {inj : BSt → Nat → BSt} (hq : PB.Quiet inj) (s : BSt) : PB.Fr s (populate inj s).1 :=
  PB.fr_read.populate (PB.Fr.quiet hq) s

/-- the state an iteration of the exit loop reads the queues in: after the emptiness check, the clock advanced -/
def exitTicked (tick : Nat) (s : BSt) : BSt := { (allEmpty s).1 with now := (allEmpty s).1.now + tick }

theorem exitBody_eq (inj : BSt → Nat → BSt) (tick : Nat) (s : BSt) :
    exitBody inj tick s =
      if (populate inj (exitTicked tick s)).2 > 0
      then batchLoop inj (totalBuffered (populate inj (exitTicked tick s)).1 + 64) (populate inj (exitTicked tick s)).1
      else (populate inj (exitTicked tick s)).1 := rfl

theorem exitBody_quiet {inj : BSt → Nat → BSt} (hq : PB.Quiet inj) (tick : Nat) {c : Cfg} {fl : Nat} {s : BSt}
    (h : PB.PIo c fl s) :
    (∃ fl', PB.PIo c fl' (exitBody inj tick s)) ∧ PB.Sub s (exitBody inj tick s) ∧
    s.now + tick ≤ (exitBody inj tick s).now ∧
    (PB.Ripe (exitTicked tick s) → (∃ i, PB.chain (s.th i) ≠ []) →
      PB.pendingCount (exitBody inj tick s) < PB.pendingCount s) := by
  have hi := hq.injOK
  have fa : PB.Fr s (allEmpty s).1 := PB.fr_allEmpty s
  have ha : PB.PIo c fl (allEmpty s).1 := h.allEmpty
  have ht : PB.PIo c fl (exitTicked tick s) := ha.tick tick
  have s0 : PB.Sub s (exitTicked tick s) := fa.sub.trans (PB.sub_clock _ tick)
  have hnow : s.now + tick = (exitTicked tick s).now := by
    show s.now + tick = (allEmpty s).1.now + tick
    rw [fa.now]
  have fp : PB.Fr (exitTicked tick s) (populate inj (exitTicked tick s)).1 := fr_populate hq _
  obtain ⟨fl1, C1, hp⟩ := PB.PIo.populate hi ht
  have hp' : PB.PIo c fl1 (populate inj (exitTicked tick s)).1 := hp.toPIo
  rw [exitBody_eq]
  refine ⟨?_, ?_, ?_, ?_⟩
  · exact (PB.PIo.passRules hi).exitBody tick s ⟨fl, h⟩
  · exact (PB.sub_back.passRules PB.sub_read hq.sub PB.sub_clock s).exitBody tick s (PB.Sub.refl s)
  · rw [hnow]
    split
    · exact (fp.sub.trans (PB.batchLoop_sub hq _ _)).glob.now
    · exact fp.sub.glob.now
  · intro hr hx
    obtain ⟨g1, _, g3, g4⟩ := PB.populate_quiet hq ht hr
    have hle0 := s0.pending_le
    have hle1 := g1.sub.pending_le
    have hex : ∃ i ∈ (populate inj (exitTicked tick s)).1.registry,
        PB.chain ((populate inj (exitTicked tick s)).1.th i) ≠ [] := by
      obtain ⟨i, hne⟩ := hx
      have hne0 : PB.chain ((exitTicked tick s).th i) ≠ [] := by
        have e1 : PB.chain ((exitTicked tick s).th i) = PB.chain ((allEmpty s).1.th i) := rfl
        rw [e1, (fa.th i).chain]; exact hne
      exact ⟨i, by rw [g1.reg]; exact ht.reg i hne0, by rw [(g1.th i).chain]; exact hne0⟩
    have hc := g4 hex
    have hpos : (populate inj (exitTicked tick s)).2 > 0 := Nat.pos_of_ne_zero hc
    rw [if_pos hpos]
    have hlt : PB.pendingCount (batchLoop inj ((totalBuffered (populate inj (exitTicked tick s)).1 + 63) + 1)
        (populate inj (exitTicked tick s)).1) < PB.pendingCount (populate inj (exitTicked tick s)).1 :=
      PB.batchLoop_quiet_lt hq _ hp' g3 hex
    have e : totalBuffered (populate inj (exitTicked tick s)).1 + 64 =
        (totalBuffered (populate inj (exitTicked tick s)).1 + 63) + 1 := rfl
    rw [e]; omega

theorem exit_terminates {inj : BSt → Nat → BSt} (hq : PB.Quiet inj) (tick N0 : Nat) (c : Cfg)
    (fuel k fl : Nat) (s : BSt) (h : PB.PIo c fl s) (hb : ∀ j, ∀ r ∈ PB.chain (s.th j), r.ts ≤ N0)
    (hk : N0 + c.grace ≤ s.now + (k + 1) * tick) (hf : PB.pendingCount s + k < fuel) : exitEnds inj tick fuel s := by
  -- the bound: one iteration per pending record, after the `k` that only let the clock pass the grace period
  refine exitEnds_of_bound inj tick (fun x m => ∃ k fl, PB.PIo c fl x ∧ (∀ j, ∀ r ∈ PB.chain (x.th j), r.ts ≤ N0) ∧
    N0 + c.grace ≤ x.now + (k + 1) * tick ∧ PB.pendingCount x + k ≤ m) ?_ fuel s _ ⟨k, fl, h, hb, hk, Nat.le_refl _⟩ hf
  rintro s m ⟨k, fl, h, hb, hk, hm⟩ he
  have hx : ∃ i, PB.chain (s.th i) ≠ [] := Classical.byContradiction fun hno =>
    Bool.false_ne_true (he.symm.trans (allEmpty_of_nothing_pending h fun i =>
      Classical.byContradiction fun hne => hno ⟨i, hne⟩))
  obtain ⟨⟨fl', h'⟩, hsub, hnow, hprog⟩ := exitBody_quiet hq tick h
  have hb' : ∀ j, ∀ r ∈ PB.chain ((exitBody inj tick s).th j), r.ts ≤ N0 :=
    fun j r hr => hb j r ((hsub.th j).chain.subset hr)
  have hle := hsub.pending_le
  cases k with
  | zero =>
    have hripe : PB.Ripe (exitTicked tick s) := by
      intro j r hr
      have e1 : PB.chain ((exitTicked tick s).th j) = PB.chain ((allEmpty s).1.th j) := rfl
      rw [e1, ((PB.fr_allEmpty s).th j).chain] at hr
      have hcfg : (exitTicked tick s).cfg = c := by
        show (allEmpty s).1.cfg = c
        rw [(PB.fr_allEmpty s).cfg]; exact h.cfgEq
      have hn : (exitTicked tick s).now = s.now + tick := by
        show (allEmpty s).1.now + tick = _
        rw [(PB.fr_allEmpty s).now]
      rw [hcfg, hn]
      have := hb j r hr
      omega
    have hlt := hprog hripe hx
    exact ⟨_, by omega, 0, fl', h', hb', by omega, Nat.le_refl _⟩
  | succ k' =>
    refine ⟨PB.pendingCount (exitBody inj tick s) + k', by omega, k', fl', h', hb', ?_, Nat.le_refl _⟩
    have e : (k' + 1 + 1) * tick = (k' + 1) * tick + tick := by rw [Nat.add_mul, Nat.one_mul]
    rw [e] at hk
    omega

end Backend.PC
