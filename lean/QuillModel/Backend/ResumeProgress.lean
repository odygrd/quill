import QuillModel.Backend.FlushProgress
/-!
# A drained queue is published, and a published drained queue grants (C09 on the backend model)

`Pub t`: once the reader has consumed every record of the context, the reader position it published (the newest
value of `rHist`, which is what a producer reload returns) is its reader position. With the drain rule of
`commit_read` (`qp.drainPublish`, extracted) this is what every `commit_read` at the end of a read establishes
(`pub_readQueue`; carried through every schedule in `PubInv.lean`); the lemmas here derive the grant from it.
-/
namespace Backend.PB

theorem qEmpty_rh (c : Cfg) (q : Spsc.St) : (qEmpty c q).1.rHist = q.rHist := by
  obtain ⟨_, _, e, _⟩ := qEmpty_upd c q
  rw [e]

theorem qPrepareRead_rh (c : Cfg) (q : Spsc.St) : (qPrepareRead c q).1.rHist = q.rHist :=
  qPrepareRead_fst c q ▸ qEmpty_rh c q

theorem qFinishRead_rh (c : Cfg) (q : Spsc.St) (n : Nat) : (qFinishRead c q n).rHist = q.rHist := rfl

def Pub (t : Th) : Prop := t.qStmts = [] → t.q.rHist.headD 0 = t.q.rpos

end Backend.PB
namespace Backend
/-- the reads of context `i` have been committed: if nothing is left to read, the reader position has been published
    (`rHist` is the history of published reader positions, newest first). Every read of a queue that consumed
    something ends with `commit_read`, so this holds in every state between two operations of a schedule
    (`PB.readsCommitted_runOps`, `Backend/PubInv.lean`). -/
def ReadsCommitted (s : BSt) (i : Nat) : Prop :=
  (s.th i).qStmts = [] → (s.th i).q.rHist.headD 0 = (s.th i).q.rpos
end Backend
namespace Backend.PB

/-- the fields `Pub` reads -/
structure ThQ (t t' : Th) : Prop where
  rh : t'.q.rHist = t.q.rHist
  rpos : t'.q.rpos = t.q.rpos
  q : t'.qStmts = t.qStmts

theorem ThQ.pub {t t' : Th} (h : ThQ t t') (hp : Pub t) : Pub t' := by
  intro he; rw [h.rh, h.rpos]; exact hp (by rw [← h.q]; exact he)

variable {inj : BSt → Nat → BSt}

theorem pub_commit (c : Cfg) (t : Th) (hqc : QC t) (hdp : c.qp.drainPublish = true) :
    Pub { t with q := qCommitRead c t.q } := by
  intro he
  have he' : t.qStmts = [] := he
  obtain ⟨k, _, hw⟩ := hqc.wc
  rw [he'] at hw
  simp only [List.take_nil, List.map_nil, List.sum_nil, Nat.add_zero] at hw
  show (qCommitRead c t.q).rHist.headD 0 = (qCommitRead c t.q).rpos
  rw [(qCommitRead_fields c t.q).2.2.1]
  exact qCommitRead_pub c t.q hdp hw

theorem pub_default : Pub (default : Th) := fun _ => rfl

theorem pub_commitSt (s : BSt) (i : Nat) (hqc : QC (s.th i)) (hdp : s.cfg.qp.drainPublish = true) :
    Pub ((PC.commitSt s i).th i) := by
  unfold PC.commitSt
  by_cases hlt : i < s.ths.length
  · rw [th_setTh_same s _ hlt]; exact pub_commit _ _ hqc hdp
  · rw [th_default_of_ge _ i (by rw [ths_length_setTh]; omega)]; exact pub_default

theorem pub_readPrep (s : BSt) (i : Nat) (hp : Pub (s.th i)) : Pub ((PC.readPrepSt s i).th i) := by
  have ht : ThQ (s.th i) { s.th i with q := (qPrepareRead s.cfg (s.th i).q).1 } :=
    ⟨qPrepareRead_rh _ _, (qPrepareRead_fields _ _).2.2.1, rfl⟩
  exact rel_setTh (r := fun t t' => Pub t → Pub t') (fun _ h => h) s i
    (fun t => { t with q := (qPrepareRead s.cfg (s.th i).q).1 }) ht.pub i hp

/-- The read of context `i` ends published (if it matters: `A`), for any property `Inv` that the steps of the read
    keep and that gives the coupling of context `i` and the drain rule. Inside the read the context is published only while
    nothing has been read; every exit after that ends with `commit_read`, and a `commit_read` with nothing left to read
    publishes. -/
theorem pub_readQueue {tsNow : Option Nat} {i : Nat} (Inv : BSt → Prop) (A : Prop)
    (hqc : ∀ x, Inv x → QC (x.th i) ∧ x.cfg.qp.drainPublish = true)
    (hprep : ∀ x, Inv x → Inv (PC.readPrepSt x i)) (hcommit : ∀ x, Inv x → Inv (PC.commitSt x i))
    (hone : ∀ x st rest, Inv x → (qPrepareRead x.cfg (x.th i).q).2 = true → (x.th i).qStmts = st :: rest →
      tsStop tsNow st = false → Inv (inj (fmtNote (PC.readOneSt x i st rest) st) 3))
    (fuel total : Nat) (s : BSt) (hs : Inv s) (hp : total = 0 → A → Pub (s.th i)) :
    Inv (Backend.readQueue inj tsNow i fuel total s) ∧ (A → Pub ((Backend.readQueue inj tsNow i fuel total s).th i)) := by
  have hfull : ∀ x, Inv x → Inv (PC.commitSt x i) ∧ (A → Pub ((PC.commitSt x i).th i)) :=
    fun x hx => ⟨hcommit x hx, fun _ => pub_commitSt x i (hqc x hx).1 (hqc x hx).2⟩
  exact (readQueue_ruleN (inj := inj) (tsNow := tsNow) (i := i)
    (fun n x => Inv x ∧ (n = 0 → A → Pub (x.th i))) (fun n x => Inv x ∧ (n = 0 → A → Pub (x.th i)))
    (fun x => Inv x ∧ (A → Pub (x.th i))) (fun _ _ h => h)
    (fun n x h _ => ⟨hprep x h.1, fun e a => pub_readPrep x i (h.2 e a)⟩)
    (fun n x h => by
      split
      · exact hfull x h.1
      · rename_i h0; exact ⟨h.1, h.2 (Classical.not_not.mp h0)⟩)
    (fun n x st rest h hr hq hl => ⟨hone x st rest h.1 hr hq hl, fun e => by
      have := (hqc x h.1).1.pos st (by rw [hq]; exact List.mem_cons_self ..)
      omega⟩)
    (fun n x h => hfull x h.1)).1 fuel total s ⟨hs, hp⟩

structure PQ (ci : Nat) (s : BSt) : Prop where
  lt : ci < s.ths.length
  dp : s.cfg.qp.drainPublish = true
  qc : QC (s.th ci)
  pub : Pub (s.th ci)

theorem PQ.ofThs {ci : Nat} {s s' : BSt} (h : PQ ci s) (h1 : s'.ths = s.ths) (h2 : s'.cfg = s.cfg) : PQ ci s' := by
  have e : s'.th ci = s.th ci := th_of_ths_eq h1 ci
  exact ⟨by rw [h1]; exact h.lt, by rw [h2]; exact h.dp, by rw [e]; exact h.qc, by rw [e]; exact h.pub⟩

theorem PQ.refresh {ci : Nat} {s : BSt} (h : PQ ci s) : PQ ci (refreshCache s) := by
  unfold refreshCache; split
  · exact h.ofThs rfl rfl
  · exact h

theorem tryEnq_accepted (s : BSt) (ci : Nat) (st : Stmt) (hlt : ci < s.ths.length) (hok : (Backend.tryEnq s ci st).2 = true) :
    ((Backend.tryEnq s ci st).1.th ci).accepted = (s.th ci).accepted ++ [{ st with enqAt := s.now }] ∧
    ((Backend.tryEnq s ci st).1.th ci).qStmts = (s.th ci).qStmts ++ [{ st with enqAt := s.now }] := by
  rcases tryEnq_cases s ci st with ⟨_, e⟩ | ⟨_, e⟩ <;> rw [e] at hok ⊢
  · rw [th_setTh_same s _ hlt]; exact ⟨rfl, rfl⟩
  · cases hok

/-- the reservation attempt of the next `log_statement` / retry succeeds; an actor without a context gets a fresh, empty
    queue -/
theorem grant_of_drained {c : Cfg} {ex : Option Nat} {fl : Nat} {T : Nat → Prop} {C : List Nat} {s : BSt}
    (h : PI c ex fl T C s) (a : Nat) (x : Actor) (hx : s.actor a = some x) (st : Stmt) (hsz : st.size ≤ s.cfg.qcap)
    (hd : ∀ i, x.ctx = some i → (s.th i).qStmts = [] ∧ Pub (s.th i)) :
    (Backend.tryEnq (Backend.ensureCtx s a).1 (Backend.ensureCtx s a).2 st).2 = true := by
  rw [PC.tryEnq_snd]
  unfold Backend.ensureCtx
  simp only [hx, Option.bind_some]
  cases hc : x.ctx with
  | some i =>
    simp only
    obtain ⟨h1, h2⟩ := hd i hc
    have hq := h.qc i
    apply qPrepareWrite_grant
    · rw [h2 h1, hq.wpos, hq.sum, h1]; simp
    · rw [h.capOK i (h.ctxLt a x i hx hc)]; exact hsz
  | none =>
    simp only
    have hth : ∀ j, (({ s with ths := s.ths ++ [mkTh s.cfg a], registry := s.registry ++ [s.ths.length], newFlag := true } : BSt).setActor a
        (fun x => { x with ctx := some s.ths.length })).th j = if j = s.ths.length then mkTh s.cfg a else s.th j :=
      fun j => th_append (s := s) rfl j
    rw [hth, if_pos rfl]
    apply qPrepareWrite_grant
    · rfl
    · exact hsz

theorem enqFlow_ok (s : BSt) (a : Nat) (st : Stmt) (cont : Nat) (first initial : Bool)
    (hok : (Backend.tryEnq (Backend.ensureCtx s a).1 (Backend.ensureCtx s a).2 st).2 = true) :
    Backend.enqFlow s a st cont first initial =
      Backend.afterEnq ((Backend.tryEnq (Backend.ensureCtx s a).1 (Backend.ensureCtx s a).2 st).1.setActor a
        (fun x => { x with pend := .none })) a st cont := by
  have hs := enqFlow_shape s a st cont first initial
  generalize Backend.enqFlow s a st cont first initial = r at hs ⊢
  cases hs with
  | granted hc he => rw [hc, he]; rfl
  | dropped hc he | dropRetry hc he | blocked hc he => rw [hc, he] at hok; cases hok

theorem afterEnq_log_obs (s : BSt) (a : Nat) (st : Stmt) (hk : st.kind = .log) (cont : Nat) (hc : cont = 0 ∨ cont = 5) :
    Backend.afterEnq s a st cont = (s, obsLog st cont (some true) st.size) := by
  unfold Backend.afterEnq
  rcases hc with rfl | rfl <;> simp [hk]

theorem enqFlow_after_drain {c : Cfg} {ex : Option Nat} {fl : Nat} {T : Nat → Prop} {C : List Nat} {s : BSt}
    (h : PI c ex fl T C s) (a : Nat) (x : Actor) (hx : s.actor a = some x) (st : Stmt) (hsz : st.size ≤ s.cfg.qcap)
    (hd : ∀ i, x.ctx = some i → (s.th i).qStmts = [] ∧ Pub (s.th i)) (cont : Nat) (first initial : Bool) :
    Backend.enqFlow s a st cont first initial =
      Backend.afterEnq ((Backend.tryEnq (Backend.ensureCtx s a).1 (Backend.ensureCtx s a).2 st).1.setActor a
        (fun x => { x with pend := .none })) a st cont ∧
    ((Backend.enqFlow s a st cont first initial).1.th (Backend.ensureCtx s a).2).accepted =
      ((Backend.ensureCtx s a).1.th (Backend.ensureCtx s a).2).accepted ++ [{ st with enqAt := s.now }] := by
  have hok := grant_of_drained h a x hx st hsz hd
  have e := enqFlow_ok s a st cont first initial hok
  refine ⟨e, ?_⟩
  obtain ⟨h1, hnow, _, x', hx', hc', _⟩ := h.ensureCtx a x hx
  have hlt := h1.ctxLt a x' _ hx' hc'
  have := (tryEnq_accepted _ _ st hlt hok).1
  rw [hnow] at this
  rw [e, ← this]
  simp only [BSt.th, afterEnq_ths]
  rfl

end Backend.PB

namespace Backend
namespace PB

theorem resume_retry_blocking (s : BSt) (a : Nat) (x : Actor) (st : Stmt) (k : Nat) (hx : s.actor a = some x)
    (hp : x.pend = .retry st k) (hb : s.cfg.dropping = false) : Backend.resume s a = Backend.enqFlow s a st k false := by
  unfold Backend.resume
  rw [hx]
  simp only [Option.map_some, hp, hb]
  rfl

theorem tryEnq_actor (s : BSt) (ci : Nat) (st : Stmt) (b : Nat) : (Backend.tryEnq s ci st).1.actor b = s.actor b := by
  rcases tryEnq_cases s ci st with ⟨_, e⟩ | ⟨_, e⟩ <;> rw [e] <;> rfl

/-- the `resume` of a caller parked on a retry performs the next attempt with the same request (on a dropping queue
    it is a fresh call: new timestamp, same kind and size) -/
theorem resume_retry (s : BSt) (a : Nat) (x : Actor) (st : Stmt) (k : Nat) (hx : s.actor a = some x)
    (hp : x.pend = .retry st k) :
    ∃ st' first, st'.kind = st.kind ∧ st'.size = st.size ∧ Backend.resume s a = Backend.enqFlow s a st' k first false := by
  unfold Backend.resume
  rw [hx]
  simp only [Option.map_some, hp]
  split
  · exact ⟨{ st with ts := s.now }, true, rfl, rfl, rfl⟩
  · exact ⟨st, false, rfl, rfl, rfl⟩

theorem applyFront_resume (s : BSt) (a : Nat) :
    (applyFront s (.resume a)).2 = (Backend.resume s a).2 ∧
    ((applyFront s (.resume a)).1 = (Backend.resume s a).1 ∨
     (applyFront s (.resume a)).1 = (Backend.resume s a).1.setActor a (fun x => { x with inCall := none })) := by
  refine ⟨?_, clearCall_fst (Backend.resume s a) a⟩
  show (clearCall (Backend.resume s a) a).2 = _
  unfold clearCall
  split
  · rfl
  · split <;> rfl

theorem ensureCtx_chain {s : BSt} (h : ∀ j, chain (s.th j) = []) (a : Nat) :
    (∀ j, chain ((Backend.ensureCtx s a).1.th j) = []) ∧ (Backend.ensureCtx s a).1.backendGone = s.backendGone ∧
    (Backend.ensureCtx s a).1.flags = s.flags := by
  unfold Backend.ensureCtx
  split
  · exact ⟨h, rfl, rfl⟩
  · simp only
    exact ⟨fun j => (th_newCtx_congr chain s a rfl j).trans (h j), rfl, rfl⟩

theorem enqFlow_granted_state (s : BSt) (a : Nat) (st : Stmt) (cont : Nat) (first initial : Bool)
    (hall : ∀ j, chain (s.th j) = []) (hlt : (Backend.ensureCtx s a).2 < (Backend.ensureCtx s a).1.ths.length)
    (hok : (Backend.tryEnq (Backend.ensureCtx s a).1 (Backend.ensureCtx s a).2 st).2 = true) :
    pendingCount (Backend.enqFlow s a st cont first initial).1 ≤ 1 ∧
    (Backend.enqFlow s a st cont first initial).1.backendGone = s.backendGone ∧
    (∃ i, { st with enqAt := s.now } ∈ ((Backend.enqFlow s a st cont first initial).1.th i).accepted) := by
  rw [enqFlow_ok s a st cont first initial hok]
  obtain ⟨c1, c2, _⟩ := ensureCtx_chain hall a
  have hnow : (Backend.ensureCtx s a).1.now = s.now := by
    unfold Backend.ensureCtx; split <;> rfl
  rcases he : Backend.ensureCtx s a with ⟨s1, ci⟩
  rw [he] at hok c1 c2 hnow hlt
  simp only at hok c1 c2 hnow hlt ⊢
  have h1 : (qPrepareWrite s1.cfg (s1.th ci).q st.size).2 = true := by rw [← PC.tryEnq_snd]; exact hok
  have hte : (Backend.tryEnq s1 ci st).1 = s1.setTh ci (fun t => { t with
      q := qFinishCommit s1.cfg (qPrepareWrite s1.cfg (s1.th ci).q st.size).1 st.size,
      qStmts := t.qStmts ++ [{ st with enqAt := s1.now }], accepted := t.accepted ++ [{ st with enqAt := s1.now }] }) := by
    unfold Backend.tryEnq; simp only [h1, if_true]
  have hths : ∀ S : BSt, ∀ j, (Backend.afterEnq (S.setActor a (fun x => { x with pend := .none })) a st cont).1.th j = S.th j := by
    intro S j; simp only [BSt.th, afterEnq_ths]; rfl
  have hgone : ∀ S : BSt, (Backend.afterEnq (S.setActor a (fun x => { x with pend := .none })) a st cont).1.backendGone = S.backendGone := by
    intro S; unfold Backend.afterEnq; split <;> rfl
  refine ⟨?_, ?_, ?_⟩
  · -- only context `ci` changes: from nothing pending anywhere to the one record
    have e : ∀ S : BSt, (Backend.afterEnq (S.setActor a (fun x => { x with pend := .none })) a st cont).1.ths = S.ths :=
      fun S => afterEnq_ths _ a st cont
    rw [pendingCount_of_ths (e _), hte]
    have h0 : pendingCount s1 = 0 := Classical.byContradiction fun h => (pending_pos h).elim fun j hj => hj (c1 j)
    have h2 := pendingCount_setTh s1 ci (fun t => { t with
      q := qFinishCommit s1.cfg (qPrepareWrite s1.cfg (s1.th ci).q st.size).1 st.size,
      qStmts := t.qStmts ++ [{ st with enqAt := s1.now }], accepted := t.accepted ++ [{ st with enqAt := s1.now }] }) hlt
    obtain ⟨hb, hq⟩ := List.append_eq_nil_iff.mp (c1 ci)
    rw [h0, c1 ci] at h2
    simp only [chain, hb, hq, List.nil_append, List.length_cons, List.length_nil, Nat.add_zero, Nat.zero_add] at h2
    exact Nat.le_of_eq h2
  · rw [hgone, hte]; exact c2
  · refine ⟨ci, ?_⟩
    rw [hths, hte, th_setTh_same s1 _ hlt, hnow]
    exact List.mem_append_right _ (List.mem_singleton.mpr rfl)

theorem pendOf_some {s : BSt} {a : Nat} {p : Pend} (h : pendOf s a = some p) : ∃ x, s.actor a = some x ∧ x.pend = p := by
  unfold pendOf at h
  cases hx : s.actor a with
  | none => rw [hx] at h; cases h
  | some x => rw [hx] at h; simp only [Option.map_some, Option.some.injEq] at h; exact ⟨x, rfl, h⟩

end PB

open PB

theorem retry_granted_of_read {s : BSt} (hgi : GI s) (a : Nat) (x : Actor) (st : Stmt) (k : Nat)
    (hx : s.actor a = some x) (hp : x.pend = .retry st k) (hblk : s.cfg.dropping = false) (hsz : st.size ≤ s.cfg.qcap)
    (hd : ∀ i, x.ctx = some i → (s.th i).qStmts = [] ∧ Pub (s.th i)) :
    ((resume s a).1.th (ensureCtx s a).2).accepted =
      ((ensureCtx s a).1.th (ensureCtx s a).2).accepted ++ [{ st with enqAt := s.now }] ∧
    (st.kind = .log → k = 0 ∨ k = 5 →
      (resume s a).2 = obsLog st k (some true) st.size ∧ pendOf (resume s a).1 a = some .none) := by
  obtain ⟨fl, hI⟩ := hgi
  have hres := resume_retry_blocking s a x st k hx hp hblk
  obtain ⟨e1, e2⟩ := enqFlow_after_drain hI a x hx st hsz hd k false false
  refine ⟨by rw [hres]; exact e2, fun hk hk' => ?_⟩
  rw [hres, e1, afterEnq_log_obs _ a st hk k hk']
  refine ⟨rfl, ?_⟩
  obtain ⟨x1, hx1⟩ := ensureCtx_actor hx
  exact pendOf_set_const _ a (fun x => { x with pend := .none }) (fun _ => rfl) (fun _ => rfl) .none (fun _ => rfl)
    (x := x1) ((tryEnq_actor _ _ _ _).trans hx1)

theorem call_accepted_of_read {s : BSt} (hgi : GI s) (a : Nat) (x : Actor) (hx : s.actor a = some x)
    (hst : x.stallArmed = false) (hd : ∀ i, x.ctx = some i → (s.th i).qStmts = [] ∧ Pub (s.th i))
    (lgi lvl len id : Nat) (dyn named : Bool) (k : Nat) (hk : k = 0 ∨ k = 5)
    (hsz : stmtSize s.cfg .log id len dyn (s.lgOf lgi).gid ≤ s.cfg.qcap) :
    ∃ st : Stmt, st.id = id ∧ st.kind = .log ∧ st.size = stmtSize s.cfg .log id len dyn (s.lgOf lgi).gid ∧
      (frontCall s a lgi .log lvl len k dyn id named).2 = obsLog st k (some true) st.size ∧
      ((frontCall s a lgi .log lvl len k dyn id named).1.th (ensureCtx s a).2).accepted =
        ((ensureCtx s a).1.th (ensureCtx s a).2).accepted ++ [{ st with enqAt := s.now }] := by
  obtain ⟨fl, hI⟩ := hgi
  let st : Stmt := { id := id, kind := .log, lg := lgi, lvl := lvl, ts := s.now,
                     size := stmtSize s.cfg .log id len dyn (s.lgOf lgi).gid, actor := a, named := named }
  have hfc : frontCall s a lgi .log lvl len k dyn id named = enqFlow s a st k true := by
    rw [frontCall_eq, hx, if_neg (by simp [hst])]
    rfl
  obtain ⟨e1, e2⟩ := enqFlow_after_drain hI a x hx st hsz hd k true true
  refine ⟨st, rfl, rfl, rfl, ?_, ?_⟩
  · rw [hfc, e1, afterEnq_log_obs _ a st rfl k hk]
  · rw [hfc]; exact e2

end Backend
