import QuillModel.Backend.ConsProofsFault
/-!
The repaired backtrace replay (`Cfg.replayCatchesPerEvent`), one stored statement at a time: the replay loop is the fold of
`replayStep` over the ring (`C10_replay_is_per_event`), and what one step and the fold add to the level-inclusive write
count `bwcount`.
-/
namespace Backend
open Backend.PA

/-- writes of statement `id` to sink `sid`, backtrace level included (`wcount` counts ordinary writes only) -/
def bwcount (log : List Ev) (sid id : Nat) : Nat :=
  log.countP (fun e => match e with | .write s i _ _ _ => s == sid && i == id | _ => false)

/-- what the repaired callback does with one stored statement -/
def replayStep (s : BSt) (x : Stmt) : BSt :=
  if (dispatch s x).2 then (dispatch s x).1.emit (.notify "n:wfail") else (dispatch s x).1

theorem replayStep_core (s : BSt) (x : Stmt) : Core s (replayStep s x) := by
  unfold replayStep
  split
  · exact (dispatch_core s x).trans (Frame.emit _ _ rfl).core
  · exact dispatch_core s x

theorem replayStep_cfg (s : BSt) (x : Stmt) : (replayStep s x).cfg = s.cfg := (replayStep_core s x).cfg

theorem replayGo_repaired : ∀ (l : List Stmt) (s : BSt), s.cfg.replayCatchesPerEvent = true →
    replayRing.go s l = (l.foldl replayStep s, false)
  | [], _, _ => rfl
  | x :: xs, s, h => by
    have hc : (dispatch s x).1.cfg.replayCatchesPerEvent = true := by rw [(dispatch_core s x).cfg]; exact h
    unfold replayRing.go
    rw [List.foldl_cons, show replayStep s x =
      if (dispatch s x).2 then (dispatch s x).1.emit (.notify "n:wfail") else (dispatch s x).1 from rfl]
    dsimp only
    cases (dispatch s x).2
    · exact replayGo_repaired xs _ hc
    · simp only [hc, if_true]
      exact replayGo_repaired xs _ hc

/-- **the repaired replay is per event:** with the ring `r` of logger `lgi`, the state after the replay is the fold of
    `replayStep` over `r.replay` (ring order, oldest first) with the ring cleared — for every state and fault schedule -/
theorem C10_replay_is_per_event (s : BSt) (lgi : Nat) (r : Ring) (hc : s.cfg.replayCatchesPerEvent = true)
    (hr : (s.lgOf lgi).bt = some r) :
    replayRing s lgi = ((r.replay.foldl replayStep s).setLg lgi (fun l => { l with bt := some r.cleared }), false) := by
  unfold replayRing
  rw [hr]
  simp only [replayGo_repaired r.replay s hc, Bool.false_eq_true, if_false]

theorem foldl_replayStep_lgsLen : ∀ (l : List Stmt) (s : BSt), (l.foldl replayStep s).lgs.length = s.lgs.length
  | [], _ => rfl
  | x :: xs, s => by
    rw [List.foldl_cons, foldl_replayStep_lgsLen xs, (replayStep_core s x).lgsLen]

def anyWrite (sid id : Nat) : Ev → Bool
  | .write s i _ _ _ => s == sid && i == id
  | _ => false

theorem bwcount_eq (log : List Ev) (sid id : Nat) : bwcount log sid id = log.countP (anyWrite sid id) := by
  unfold bwcount; congr 1

theorem bwcount_cons (e : Ev) (log : List Ev) (sid id : Nat) :
    bwcount (e :: log) sid id = bwcount log sid id + (if anyWrite sid id e then 1 else 0) := by
  rw [bwcount_eq, bwcount_eq, List.countP_cons]

theorem bwcount_append (a b : List Ev) (sid id : Nat) : bwcount (a ++ b) sid id = bwcount a sid id + bwcount b sid id := by
  rw [bwcount_eq, bwcount_eq, bwcount_eq, List.countP_append]

theorem bwcount_Ws (st : Stmt) (sid id : Nat) (l : List Nat) :
    bwcount ((l.map (W st)).reverse) sid id = if st.id = id then l.count sid else 0 := by
  rw [bwcount_eq, List.countP_reverse, List.countP_map]
  by_cases hc : st.id = id
  · rw [if_pos hc]
    exact List.countP_congr (fun x _ => by simp [W, anyWrite, hc])
  · rw [if_neg hc, List.countP_eq_zero]
    intro x _
    simp [W, anyWrite, hc]

/-- by `writeToSinks_spec`: the writes are those of the accepting sinks of the list, or of a part of it -/
theorem writeToSinks_bwcount (st : Stmt) (sid id : Nat) (sids : List Nat) (s : BSt) :
    bwcount (writeToSinks s st sids).1.log sid id ≤
      bwcount s.log sid id + (if st.id = id then sids.count sid else 0) := by
  rcases writeToSinks_spec st sids s with ⟨_, h2⟩ | ⟨pre, f, post, h1, _, _, h4⟩
  · rw [h2, bwcount_append, bwcount_Ws]
    have := (List.filter_sublist (l := sids) (p := acc s st)).count_le sid
    split <;> omega
  · rw [h4, bwcount_append, bwcount_cons, bwcount_Ws, h1]
    have := (List.filter_sublist (l := pre) (p := acc s st)).count_le sid
    have := (List.sublist_append_left pre (f :: post)).count_le sid
    simp only [anyWrite, Bool.false_eq_true, if_false, Nat.add_zero]
    split <;> omega

theorem replayStep_bwcount (s : BSt) (x : Stmt) (sid id : Nat) :
    bwcount (replayStep s x).log sid id ≤
      bwcount s.log sid id + (if x.id = id then (s.lgOf x.lg).sinks.count sid else 0) := by
  have h := writeToSinks_bwcount x sid id (s.lgOf x.lg).sinks s
  unfold replayStep
  split
  · show bwcount (Ev.notify "n:wfail" :: (dispatch s x).1.log) sid id ≤ _
    rw [bwcount_cons]
    exact h
  · exact h

theorem foldl_replayStep_bwcount (lgi sid id : Nat) : ∀ (l : List Stmt) (s : BSt), (∀ x ∈ l, x.lg = lgi) →
    bwcount (l.foldl replayStep s).log sid id ≤
      bwcount s.log sid id + (l.filter (fun x => x.id == id)).length * (s.lgOf lgi).sinks.count sid
  | [], s, _ => by simp
  | x :: xs, s, hl => by
    rw [List.foldl_cons]
    have ih := foldl_replayStep_bwcount lgi sid id xs (replayStep s x) (fun y hy => hl y (List.mem_cons_of_mem _ hy))
    rw [((replayStep_core s x).lgs lgi).2] at ih
    have h1 := replayStep_bwcount s x sid id
    rw [hl x List.mem_cons_self] at h1
    rw [List.filter_cons]
    by_cases hx : x.id = id
    · simp only [hx, beq_self_eq_true, if_true, List.length_cons] at h1 ⊢
      rw [Nat.succ_mul]; omega
    · have : (x.id == id) = false := by simpa using hx
      simp only [hx, if_false, this, Bool.false_eq_true] at h1 ⊢
      omega


end Backend
