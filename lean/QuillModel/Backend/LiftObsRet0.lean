import QuillModel.Backend.LiftObsRun
/-!
Runs without static-macro log operations: no actor is ever parked with continuation 5 (`N5`), so no step has the outcome
`Out.drop5`; and the counting invariant of `LiftObsRun.lean` relative to a set of allowed frontend operations (`P0`).
-/
namespace Backend.PC

def pendCont : Pend → Option Nat
  | .stall _ c => some c
  | .retry _ c => some c
  | _ => none

/-- no actor is parked in a static-macro log call -/
def N5 (s : BSt) : Prop := ∀ x ∈ s.actors, pendCont x.pend ≠ some 5

/-- `LOG_<LEVEL>` (static level), `LOG_INFO` with a named placeholder, `LOG_BACKTRACE` -/
def isStaticOp : FOp → Bool
  | .log _ _ _ _ dyn => !dyn
  | .logNamed .. => true
  | .logBt .. => true
  | _ => false

theorem N5.of_actors {s s' : BSt} (h : N5 s) (e : s'.actors = s.actors) : N5 s' := by
  intro x hx; rw [e] at hx; exact h x hx

theorem N5.setActor {s : BSt} (h : N5 s) (a : Nat) (f : Actor → Actor)
    (hf : ∀ x, pendCont x.pend ≠ some 5 → pendCont (f x).pend ≠ some 5) : N5 (s.setActor a f) := by
  intro y hy
  obtain ⟨x, hx, rfl⟩ := mem_setActor hy
  split
  · exact hf x (h x hx)
  · exact h x hx

theorem ensureCtx_n5 {s : BSt} (h : N5 s) (a : Nat) : N5 (ensureCtx s a).1 := by
  unfold Backend.ensureCtx
  split
  · exact h
  · exact N5.setActor (s := { s with ths := s.ths ++ [mkTh s.cfg a], registry := s.registry ++ [s.ths.length], newFlag := true })
      (h.of_actors rfl) a _ (fun _ hx => hx)

theorem afterEnq_n5 {s : BSt} (h : N5 s) (a : Nat) (st : Stmt) (cont : Nat) : N5 (afterEnq s a st cont).1 := by
  unfold Backend.afterEnq
  split
  · exact h.setActor a _ (fun _ _ => by simp [pendCont])
  · exact h.of_actors rfl
  · exact h
  · exact N5.setActor (s := { s.setLg st.lg (fun l => { l with valid := false }) with hasInvalidLoggers := true })
      (h.of_actors rfl) a _ (fun _ _ => by simp [pendCont])
  · exact h

theorem bumpFail_actors (d : Bool) (s : BSt) (ci : Nat) (st : Stmt) : (bumpFail d s ci st).actors = s.actors := by
  unfold bumpFail; split <;> rfl

theorem enqFlow_n5 {s : BSt} (h : N5 s) (a : Nat) (st : Stmt) (cont : Nat) (first initial : Bool) (hc : cont ≠ 5) :
    N5 (enqFlow s a st cont first initial).1 :=
  enqFlow_rule (fun _ => N5) (fun _ => N5) N5 (ensureCtx_n5 h a)
    (fun _ _ hx _ =>
      afterEnq_n5 ((hx.of_actors (tryEnq_actors ..)).setActor a _ (fun _ _ => by simp [pendCont])) a st cont)
    (fun _ _ hx _ => hx.of_actors (tryEnq_actors ..))
    (fun _ _ hx _ => hx.of_actors (bumpFail_actors ..))
    (fun _ _ hx _ _ => hx.setActor a _ (fun _ _ => by simp [pendCont]))
    (fun _ _ hx _ => hx.setActor a _ (fun _ _ => by simp [pendCont, hc]))

theorem call_n5 {s : BSt} (h : N5 s) (a lgi : Nat) (kind : Kind) (lvl len cont : Nat) (dyn : Bool) (id : Nat)
    (named : Bool) (g : Nat) (hc : cont ≠ 5) : N5 (noteCall (frontCall s a lgi kind lvl len cont dyn id named) a g).1 :=
  call_rule N5 N5 g (fun _ => h.setActor a _ (fun _ _ => by simp [pendCont, hc])) (enqFlow_n5 h a _ cont true true hc)
    (fun _ hx => hx.setActor a _ (fun _ hy => hy))

theorem resume_n5 {s : BSt} (h : N5 s) {a : Nat} {r : BSt × String} (hs : ResumeShape s a r) : N5 r.1 :=
  resume_rule N5 hs
    (fun x _ c _ _ hx hp _ => enqFlow_n5 h a _ c _ false (fun e =>
      h x (List.mem_of_find?_eq_some hx) (by rcases hp with hp | hp <;> rw [hp, e] <;> rfl)))
    (fun _ _ _ _ _ => h.setActor a _ (fun _ _ => by simp [pendCont])) h

theorem reapSinks_actors (sids : List Nat) (s : BSt) : (reapSinks s sids).actors = s.actors :=
  congrArg (·.2.2.1) (vw_reapSinks sids s)

theorem contOf_ne5 {s : BSt} (h : N5 s) (f : FOp) (hf : isStaticOp f = false) : contOf s f ≠ 5 := by
  cases f with
  | resume a =>
    cases hx : s.actor a with
    | none =>
      simp only [contOf, hx, Option.map_none]
      decide
    | some x =>
      have hw := h x (List.mem_of_find?_eq_some hx)
      simp only [contOf, hx, Option.map_some]
      cases hp : x.pend with
      | stall st c | retry st c =>
        rw [hp] at hw
        show c ≠ 5
        exact fun e => hw (congrArg some e)
      | none | flag =>
        show (1 : Nat) ≠ 5
        decide
  | log a g lvl len dyn =>
    cases dyn
    · cases hf
    · show (0 : Nat) ≠ 5
      decide
  | logNamed | logBt => cases hf
  | _ =>
    -- every other operation runs with continuation 1
    show (1 : Nat) ≠ 5
    decide

theorem front_n5 {s : BSt} (h : N5 s) (f : FOp) (hf : isStaticOp f = false) : N5 (applyFront s f).1 := by
  have hc := contOf_ne5 h f hf
  have hs := applyFront_shape s f
  generalize applyFront s f = r at hs ⊢
  induction hs with
  | noop => exact h
  | tick | remove | createExisting | createNew | setLevel | setSinkLevel => exact h.of_actors rfl
  | tstart a =>
    intro x hx
    rcases List.mem_append.mp hx with hx | hx
    · exact h x hx
    · simp only [List.mem_singleton] at hx
      subst hx
      simp [pendCont]
  | texitCtx a => exact N5.of_actors (h.setActor a (fun x => { x with alive := false }) (fun _ hx => hx)) rfl
  | texitNoCtx a | armStall a => exact h.setActor a _ (fun _ hx => hx)
  | resume a hr => exact clearCall_pres N5 (resume_n5 h hr) (fun _ => (resume_n5 h hr).setActor a _ (fun _ hx => hx))
  | call ho hp =>
    refine call_n5 (h.of_actors (hp.proj (·.actors) (fun _ _ _ _ => rfl))) _ _ _ _ _ _ _ _ _ _ ?_
    cases ho with
    | log hl => rw [(asLog_cont hl).1] at hc; exact hc
    | initBt | flushBt | flush | removeBlocking => decide
  | @logSkip _ a =>
    exact N5.setActor (s := { s with nextId := s.nextId + 1 }) (h.of_actors rfl) a _ (fun _ hx => hx)
  | dropSink sid => exact h.of_actors (reapSinks_actors _ _)

def opOK : Op → Bool
  | .front f => !isStaticOp f
  | .poll table => table.all (fun e => e.2.2.all (fun f => !isStaticOp f))
  | .exit => true

def P0 (c : Nat) (s : BSt) : Prop := Pd (fun d _ => d) isRet0Obs c s ∧ N5 s

theorem out_ret0 {c d a d' a' : Nat} {t : String} (h : Out c d a d' a' t) (h5 : c ≠ 5) : d' = d + wt isRet0Obs t := by
  cases h with
  | quiet hd _ hq => rw [wt_false (quiet_cls hq).2.1, hd]; rfl
  | acc hd _ hc ht =>
    obtain ⟨st, hsz, rfl⟩ := ht
    rw [wt_false (acc_cls st c hc hsz).2.1, hd]; rfl
  | drop0 hd _ _ ht => obtain ⟨n, rfl⟩ := ht; rw [wt_true (drop0_cls n).2.1, hd]
  | drop5 _ _ hc _ => exact absurd hc h5

theorem P0.congr {c : Nat} {s s' : BSt} (hv : vw s' = vw s) (h : P0 c s) : P0 c s' :=
  ⟨Pd.congr hv h.1, h.2.of_actors (congrArg (·.2.2.1) hv)⟩

theorem P0.closedC (c : Nat) : ClosedC (P0 c) := closedC_of_congr (fun _ _ hv h => P0.congr hv h)

theorem P0.step {c : Nat} {s : BSt} (h : P0 c s) (f : FOp) (hf : isStaticOp f = false) :
    P0 (c + wt isRet0Obs (applyFront s f).2) (applyFront s f).1 := by
  have st := front_step s f h.1.1 h.1.2.1
  refine ⟨⟨st.drp.trans h.1.1, st.aok, ?_⟩, front_n5 h.2 f hf⟩
  have e := out_ret0 st.out (contOf_ne5 h.2 f hf)
  have e0 : dsum s = cntT isRet0Obs (injT s.log) + c := h.1.2.2
  show dsum (applyFront s f).1 = cntT isRet0Obs (injT (applyFront s f).1.log) + (c + wt isRet0Obs (applyFront s f).2)
  rw [e, st.log, e0]; omega

theorem P0.injStep {c : Nat} {s : BSt} (h : P0 c s) (site k : Nat) (f : FOp) (hf : isStaticOp f = false) :
    P0 c (injStep site k s f) := by
  have h1 : P0 (c + wt isRet0Obs (injRes site s f).2) (injRes site s f).1 := by
    rcases injRes_cases site s f with e | e <;> rw [e]
    · rw [wt_false (quiet_cls .noop).2.1]
      exact h
    · exact h.step f hf
  exact ⟨h1.1.record site k f.show, h1.2.of_actors rfl⟩

theorem P0.injOK {c : Nat} (table : List (Nat × Nat × List FOp))
    (ht : table.all (fun e => e.2.2.all (fun f => !isStaticOp f)) = true) : InjOK (P0 c) (runInj table) := by
  refine injOK_of_injStep table (fun _ _ h => P0.congr rfl h) (fun e he f hf site k _ hx => hx.injStep site k f ?_)
  have := List.all_eq_true.mp (List.all_eq_true.mp ht e he) f hf
  simpa using this

theorem P0.applyOp {c : Nat} {s : BSt} (h : P0 c s) (o : Op) (ho : opOK o = true) :
    P0 (c + wt isRet0Obs (applyOp s o).2) (applyOp s o).1 :=
  applyOp_wt (wt_false (quiet_cls .ev).2.1) (wt_false (quiet_cls .noop).2.1) P0.closedC (fun _ _ _ h => P0.congr rfl h) h o
    (fun f e => h.step f (by subst e; simpa [opOK] using ho))
    (fun table e => by
      rcases e with rfl | ⟨_, rfl⟩
      · exact P0.injOK table ho
      · exact P0.injOK [] rfl)

theorem P0.run : ∀ (ops : List Op) (c : Nat) (s : BSt), (∀ o ∈ ops, opOK o = true) → P0 c s →
    P0 (c + cntT isRet0Obs (runObs s ops).2) (runOps s ops) :=
  run_wt (fun _ _ o ho h => h.applyOp o ho)

end Backend.PC
