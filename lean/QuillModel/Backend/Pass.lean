import QuillModel.Backend.RunLemmas
import QuillModel.Backend.FrontRules
/-!
The backend pass (`poll`, `exitLoop`, their loops and clean-ups), cut once into pieces and walked once, for all bundles.
In this order: the pieces between hook sites; the equations that restate each function of `Sched.lean` over them; what a
piece changes; then one rule per function, for an arbitrary injection runner: what is kept by the steps of the function
— each given what the function knows when it takes the step — is kept by the function. The rules speak of one predicate
per phase of the pass (`readQueue_rule`, `populate_rule`, `processLowest_rule`, `TailRules`, `PassRules`), a `_pres` lemma
is the rule for one property that needs none of what the steps know, and `PassRules.runOps` concludes for every schedule.
`ClosedW` is the case of one property throughout (`_okW`: a rule at a `ClosedW`; the bundles' `_closed`, `_okC`, `_okG`
lemmas are the same at their own lists of obligations). The skeletons of the bundles (`ConsProofsSkel.lean`, `PcSkeleton.lean`,
`BackRel.lean`) only translate their lists of obligations into these hypotheses; a two-state relation `R` is walked as the
property `R s0`. The runner `runInj` itself is walked in `FrontRules.lean`.

The pieces in `namespace PC` keep the prefix under which the statements of bundle C name them.
-/
namespace Backend

namespace PC

def readPrepSt (s : BSt) (i : Nat) : BSt :=
  s.setTh i (fun t => { t with q := (qPrepareRead s.cfg (s.th i).q).1 })

def commitSt (s : BSt) (i : Nat) : BSt := s.setTh i (fun t => { t with q := qCommitRead s.cfg t.q })

def decodeSt (s1 : BSt) (st : Stmt) : BSt :=
  match st.kind with
  | .removal f => { s1 with removalFlags := s1.removalFlags ++ [((s1.lgOf st.lg).gid, f)] }
  | _ => s1

def moveSt (s2 : BSt) (i : Nat) (st : Stmt) (rest : List Stmt) : BSt :=
  s2.setTh i (fun t => { t with q := qFinishRead s2.cfg t.q st.size, qStmts := rest, buf := t.buf ++ [st] })

def readOneSt (s : BSt) (i : Nat) (st : Stmt) (rest : List Stmt) : BSt :=
  moveSt (decodeSt (readPrepSt s i) st) i st rest

/-- `_check_failure_counter`: the report of context `i` (before the notifier's hook site) -/
def reportSt (s : BSt) (i : Nat) : BSt :=
  { (s.setTh i (fun t => { t with fail := 0 })).emit
      (.notify (if s.cfg.dropping then s!"n:dropped:{(s.th i).fail}:a{(s.th i).actor}" else s!"n:blocked:{(s.th i).fail}:a{(s.th i).actor}"))
    with reported := s.reported + (s.th i).fail }

def popSt (s : BSt) (i : Nat) (st : Stmt) (rest : List Stmt) : BSt :=
  let r := processEvent s st
  let s2 := match r.2.1 with | some m => r.1.emit (.notify m) | none => r.1
  { s2.setTh i (fun t => { t with buf := rest, popped := t.popped ++ [st] }) with popLog := st :: s2.popLog }

def raiseSt (s : BSt) (f : Nat) : BSt :=
  { s with flags := f :: s.flags, flagLog := (f, s.log.length) :: s.flagLog }

def popS0 (s : BSt) : BSt := if s.cfg.refreshAfterSample then s else refreshCache s
def popS1 (inj : BSt → Nat → BSt) (s : BSt) : BSt := if (popS0 s).cfg.grace = 0 then popS0 s else inj (popS0 s) 7
def popS2 (inj : BSt → Nat → BSt) (s : BSt) : BSt :=
  if (popS1 inj s).cfg.refreshAfterSample then refreshCache (inj (popS1 inj s) 1) else inj (popS1 inj s) 1

def popStep (inj : BSt → Nat → BSt) (tsNow : Option Nat) (acc : BSt × Nat) (i : Nat) : BSt × Nat :=
  (readQueue inj tsNow i (((inj acc.1 2).th i).qStmts.length + 64) 0 (inj acc.1 2),
   acc.2 + ((readQueue inj tsNow i (((inj acc.1 2).th i).qStmts.length + 64) 0 (inj acc.1 2)).th i).buf.length)

def lgOrder (s : BSt) : List Nat :=
  insSorted (fun a b => decide ((s.lgOf a).gid ≤ (s.lgOf b).gid))
    ((List.range s.lgs.length).filter (fun i => !(s.lgOf i).erased))

/-- one iteration of the exit loop that did not find everything empty -/
def exitBody (inj : BSt → Nat → BSt) (tick : Nat) (s : BSt) : BSt :=
  let p := populate inj { (allEmpty s).1 with now := (allEmpty s).1.now + tick }
  if p.2 > 0 then batchLoop inj (totalBuffered p.1 + 64) p.1 else p.1

/-- what the loop does when it finds everything empty: report, flush, reclaim -/
def exitFinal (inj : BSt → Nat → BSt) (s : BSt) : BSt :=
  cleanupLoggers inj (preEraseFlush (cleanupContexts (flushSinks (checkFailures inj (allEmpty s).1))))

end PC
open PC

/-! ### The other pieces (the statements of no bundle name them) -/

/-- `_populate_transit_event_from_frontend_queue` stops at a record whose timestamp is past `ts_now` -/
def tsStop (tsNow : Option Nat) (st : Stmt) : Bool :=
  match tsNow with | some t => decide (t < st.ts) | none => false

/-- `_process_lowest_timestamp_transit_event` after the pop of a Flush event: the failure report (where configured before
    the clean-up) and the context clean-up -/
def flushTail (inj : BSt → Nat → BSt) (y : BSt) : BSt :=
  cleanupContexts (if y.cfg.reportBeforeFlushCleanup then checkFailures inj y else y)

def removeSt (s1 : BSt) (i : Nat) : BSt :=
  ({ s1 with registry := s1.registry.filter (· ≠ i), cache := s1.cache.filter (· ≠ i),
             invalidCnt := counterMod s1.cfg (s1.invalidCnt + 2 ^ s1.cfg.invalidBits - 1) } : BSt).setTh i
    (fun t => { t with removed := true })

def lgStep (inj : BSt → Nat → BSt) (acc : BSt × List Nat) (i : Nat) : BSt × List Nat :=
  if (acc.1.lgOf i).valid then acc else
  if (allEmpty acc.1).2 then
    (reapSinksInj inj ((allEmpty acc.1).1.setLg i (fun l => { l with erased := true })) (acc.1.lgOf i).sinks,
      acc.2 ++ [(acc.1.lgOf i).gid])
  else ({ (allEmpty acc.1).1 with hasInvalidLoggers := true }, acc.2)

def flagStep (s : BSt) (gid : Nat) : BSt :=
  match s.removalFlags.find? (·.1 = gid) with
  | some (_, f) => { s with flags := f :: s.flags, flagLog := (f, s.log.length) :: s.flagLog,
                            removalFlags := s.removalFlags.filter (·.1 ≠ gid) }
  | none => s

/-- the first loop of the logger clean-up; the state, and the names of the loggers erased -/
def lgFold (inj : BSt → Nat → BSt) (s : BSt) : BSt × List Nat :=
  (lgOrder { s with hasInvalidLoggers := false }).foldl (lgStep inj) ({ s with hasInvalidLoggers := false }, [])

/-- how an idle pass and the exit loop end -/
def eraseTail (inj : BSt → Nat → BSt) (s : BSt) : BSt := cleanupLoggers inj (preEraseFlush (cleanupContexts s))

/-- the idle branch of `_poll` -/
def idlePass (inj : BSt → Nat → BSt) (s1 : BSt) : BSt :=
  let s3 := checkFailures inj (flushGate inj (inj s1 5) (inj s1 5).cfg.flushInterval)
  if (allEmpty s3).2 then eraseTail inj (allEmpty s3).1 else (allEmpty s3).1

/-- `_poll` after the read pass, which found `r.2` events -/
def pollTail (inj : BSt → Nat → BSt) (r : BSt × Nat) : BSt :=
  if r.2 ≠ 0 then
    if r.2 < r.1.cfg.soft then (processLowest inj r.1).1 else batchLoop inj (totalBuffered r.1 + 64) r.1
  else idlePass inj r.1

/-- the state `populate` starts reading from, given the state `s` in which the cut-off is sampled -/
def enterSt (inj : BSt → Nat → BSt) (s : BSt) : BSt :=
  if s.cfg.refreshAfterSample then refreshCache (inj s 1) else inj s 1

theorem readQueue_zero (inj : BSt → Nat → BSt) (tsNow : Option Nat) (i total : Nat) (s : BSt) :
    readQueue inj tsNow i 0 total s = (if total ≠ 0 then commitSt s i else s) := rfl

theorem readQueue_succ (inj : BSt → Nat → BSt) (tsNow : Option Nat) (i fuel total : Nat) (s : BSt) :
    readQueue inj tsNow i (fuel + 1) total s =
      (let fin (x : BSt) : BSt := if total ≠ 0 then commitSt x i else x
       if !(qPrepareRead s.cfg (s.th i).q).2 then fin (readPrepSt s i) else
       match (s.th i).qStmts with
       | [] => fin (readPrepSt s i)
       | st :: rest =>
         if tsStop tsNow st then fin (readPrepSt s i) else
         let s4 := inj (fmtNote (readOneSt s i st rest) st) 3
         if total + st.size < s4.cfg.qcap ∧ (s4.th i).buf.length < s4.cfg.hard
         then readQueue inj tsNow i fuel (total + st.size) s4 else commitSt s4 i) := by
  rw [readQueue]
  rfl

theorem checkFailures_eq (inj : BSt → Nat → BSt) (s : BSt) :
    checkFailures inj s = s.cache.foldl (fun s i => if (s.th i).fail > 0 then inj (reportSt s i) 8 else s) s := rfl

theorem popSt_proc (s : BSt) (i : Nat) (st : Stmt) (rest : List Stmt) :
    popSt s i st rest =
      { (procSt s st).setTh i (fun t => { t with buf := rest, popped := t.popped ++ [st] }) with
        popLog := st :: (procSt s st).popLog } := rfl

theorem processLowest_eq (inj : BSt → Nat → BSt) (s : BSt) :
    processLowest inj s =
      match lowest s with
      | none => (s, false)
      | some i =>
        match (s.th i).buf with
        | [] => (s, false)
        | st :: rest =>
          match (processEvent s st).2.2 with
          | some f => (raiseSt (flushTail inj (popSt s i st rest)) f, true)
          | none => (popSt s i st rest, true) := by
  unfold processLowest
  cases lowest s with
  | none => rfl
  | some i =>
    dsimp only
    cases (s.th i).buf with
    | nil => rfl
    | cons st rest => rfl

namespace PC

theorem ctxEmpty_popLog (s : BSt) (i : Nat) : (ctxEmpty s i).1.popLog = s.popLog := rfl

theorem findFirst_nil (s : BSt) : cleanupContexts.go.findFirst s [] = (s, none) := rfl

theorem go_zero (s : BSt) : cleanupContexts.go 0 s = s := rfl

theorem exitLoop_zero (inj : BSt → Nat → BSt) (tick : Nat) (s : BSt) : exitLoop inj tick 0 s = s := rfl

end PC

theorem findFirst_cons (s : BSt) (i : Nat) (rest : List Nat) :
    cleanupContexts.go.findFirst s (i :: rest) =
      if (s.th i).valid then cleanupContexts.go.findFirst s rest
      else if (ctxEmpty s i).2 && (!s.cfg.cleanupKeepsUnreported || (s.th i).fail == 0) then ((ctxEmpty s i).1, some i)
      else cleanupContexts.go.findFirst (ctxEmpty s i).1 rest := rfl

theorem go_succ (fuel : Nat) (s : BSt) :
    cleanupContexts.go (fuel + 1) s =
      match cleanupContexts.go.findFirst s s.cache with
      | (s1, none) => s1
      | (s1, some i) => cleanupContexts.go fuel (removeSt s1 i) := rfl

theorem cleanupContexts_eq (s : BSt) :
    cleanupContexts s = if s.invalidCnt = 0 then s else cleanupContexts.go (s.cache.length + 1) s := rfl

theorem populate_eq (inj : BSt → Nat → BSt) (s : BSt) :
    populate inj s = (popS2 inj s).cache.foldl (popStep inj (tsNowOf (popS1 inj s))) (popS2 inj s, 0) := rfl

theorem popS2_eq (inj : BSt → Nat → BSt) (s : BSt) : popS2 inj s = enterSt inj (popS1 inj s) := rfl

theorem cleanupLoggers_fold (inj : BSt → Nat → BSt) (s : BSt) :
    cleanupLoggers inj s = if !s.hasInvalidLoggers then s else (lgFold inj s).2.foldl flagStep (lgFold inj s).1 := by
  unfold cleanupLoggers
  split
  · rfl
  · rfl

theorem poll_eq (inj : BSt → Nat → BSt) (s : BSt) : poll inj s = pollTail inj (populate inj s) := rfl

theorem exitLoop_succ (inj : BSt → Nat → BSt) (tick fuel : Nat) (s : BSt) :
    exitLoop inj tick (fuel + 1) s =
      if (allEmpty s).2 then exitFinal inj s else exitLoop inj tick fuel (exitBody inj tick s) := by
  rw [exitLoop]
  simp only [exitFinal, exitBody]

theorem decodeSt_same (s : BSt) (st : Stmt) : ∃ rf, decodeSt s st = { s with removalFlags := rf } := by
  unfold decodeSt
  split
  · exact ⟨_, rfl⟩
  · exact ⟨s.removalFlags, rfl⟩

theorem readOneSt_eq (s : BSt) (i : Nat) (st : Stmt) (rest : List Stmt) :
    ∃ rf, readOneSt s i st rest = ({ s with removalFlags := rf } : BSt).setTh i (fun t =>
      { t with q := qFinishRead s.cfg (qPrepareRead s.cfg (s.th i).q).1 st.size, qStmts := rest, buf := t.buf ++ [st] }) := by
  obtain ⟨rf, e⟩ := decodeSt_same (readPrepSt s i) st
  refine ⟨rf, ?_⟩
  unfold readOneSt moveSt
  rw [e]
  exact setTh_setTh { s with removalFlags := rf } i _ _

theorem readOneSt_th (s : BSt) (i : Nat) (st : Stmt) (rest : List Stmt) (j : Nat) :
    (readOneSt s i st rest).th j = (s.setTh i (fun t =>
      { t with q := qFinishRead s.cfg (qPrepareRead s.cfg (s.th i).q).1 st.size, qStmts := rest, buf := t.buf ++ [st] })).th j := by
  obtain ⟨rf, e⟩ := readOneSt_eq s i st rest
  rw [e]; rfl

theorem fmtNote_ths (s : BSt) (st : Stmt) : (fmtNote s st).ths = s.ths := by
  unfold fmtNote; split <;> rfl

theorem readOne_proj {α} (φ : BSt → α) (h1 : ∀ (x : BSt) rf, φ { x with removalFlags := rf } = φ x)
    (h2 : ∀ (x : BSt) i f, φ (x.setTh i f) = φ x) (h3 : ∀ (x : BSt) e, φ (x.emit e) = φ x) (s : BSt) (i : Nat) (st : Stmt)
    (rest : List Stmt) : φ (fmtNote (readOneSt s i st rest) st) = φ s := by
  obtain ⟨rf, e⟩ := readOneSt_eq s i st rest
  have hn : φ (fmtNote (readOneSt s i st rest) st) = φ (readOneSt s i st rest) := by
    unfold fmtNote; split
    · exact h3 _ _
    · rfl
  rw [hn, e, h2, h1]

theorem procSt_cases (s : BSt) (st : Stmt) :
    (procSt s st = (processEvent s st).1 ∧ (processEvent s st).2.1 = none) ∨
      ∃ m, procSt s st = (processEvent s st).1.emit (.notify m) ∧ (processEvent s st).2.1 = some m := by
  unfold procSt
  split
  · next m hm => exact .inr ⟨m, rfl, hm⟩
  · next hm => exact .inl ⟨rfl, hm⟩

theorem ctxEmpty_fst (s : BSt) (i : Nat) :
    (ctxEmpty s i).1 = s.setTh i (fun t => { t with q := (qEmpty s.cfg (s.th i).q).1 }) := rfl

theorem ctxEmpty_snd (s : BSt) (i : Nat) :
    (ctxEmpty s i).2 = ((qEmpty s.cfg (s.th i).q).2 && (s.th i).buf.isEmpty) := rfl

theorem ctxEmpty_th (s : BSt) (i j : Nat) :
    (ctxEmpty s i).1.th j =
      if j = i ∧ j < s.ths.length then { s.th j with q := (qEmpty s.cfg (s.th i).q).1 } else s.th j := by
  unfold ctxEmpty; simp only []; rw [th_setTh]

theorem ctxEmpty_cfg (s : BSt) (i : Nat) : (ctxEmpty s i).1.cfg = s.cfg := rfl

theorem removeSt_th (s : BSt) (i j : Nat) (h : j ≠ i) : (removeSt s i).th j = s.th j := by
  unfold removeSt; rw [th_setTh_ne _ _ h]; rfl

theorem refreshCache_cases (s : BSt) :
    refreshCache s = s ∨ refreshCache s = { s with cache := s.registry, newFlag := false } := by
  unfold refreshCache
  split
  · exact .inr rfl
  · exact .inl rfl

theorem mem_ins {α} (le : α → α → Bool) (x y : α) : ∀ (l : List α), y ∈ insSorted.ins le x l ↔ y = x ∨ y ∈ l
  | [] => by simp [insSorted.ins]
  | z :: zs => by
    unfold insSorted.ins
    split
    · simp
    · simp only [List.mem_cons, mem_ins le x y zs]
      constructor
      · rintro (h | h | h)
        · exact Or.inr (Or.inl h)
        · exact Or.inl h
        · exact Or.inr (Or.inr h)
      · rintro (h | h | h)
        · exact Or.inr (Or.inl h)
        · exact Or.inl h
        · exact Or.inr (Or.inr h)

theorem mem_insSorted {α} (le : α → α → Bool) (y : α) : ∀ (l : List α), y ∈ insSorted le l ↔ y ∈ l
  | [] => by simp [insSorted]
  | x :: xs => by
    unfold insSorted
    rw [mem_ins, mem_insSorted le y xs, List.mem_cons]

theorem lgOrder_mem {s : BSt} {i : Nat} (h : i ∈ lgOrder s) : i < s.lgs.length ∧ (s.lgOf i).erased = false := by
  unfold lgOrder at h
  rw [mem_insSorted, List.mem_filter, List.mem_range] at h
  exact ⟨h.1, by simpa only [Bool.not_eq_true'] using h.2⟩

/-!
What an invariant knows may differ with the position in the pass — which contexts are still unread, whether the flag of a
popped Flush event is still to be raised — and the position is not a function of the state. So the rules speak of one
predicate per phase; a property that holds throughout takes the same predicate everywhere (`readQueue_pres`,
`populate_pres`, `ClosedW.passRules`). Every rule gives a step what the function knows when it takes it, and asks of the
injection runner only that it keeps the predicate of the phase its hook site lies in.
-/

theorem procSt_pres (P : BSt → Prop) (s : BSt) (st : Stmt) (h : P (processEvent s st).1)
    (hn : ∀ m, P ((processEvent s st).1.emit (.notify m))) : P (procSt s st) := by
  rcases procSt_cases s st with ⟨e, _⟩ | ⟨m, e, _⟩ <;> rw [e]
  · exact h
  · exact hn m

theorem allEmpty_of_refresh (P : BSt → Prop) (h1 : ∀ x i, P x → P (ctxEmpty x i).1) (s : BSt)
    (hs : P (refreshCache s)) : P (allEmpty s).1 := by
  unfold allEmpty
  exact List.foldl_inv_fst P (fun (acc : BSt × Bool) i => ((ctxEmpty acc.1 i).1, acc.2 && (ctxEmpty acc.1 i).2))
    (fun acc i h => h1 acc.1 i h) _ (refreshCache s, true) hs

theorem hasPending_of_refresh (P : BSt → Prop) (h1 : ∀ x i, P x → P (ctxEmpty x i).1) (s : BSt)
    (hs : P (refreshCache s)) : P (hasPending s).1 := by
  unfold hasPending
  simp only []
  apply List.foldl_inv_fst P _ _ _ _ hs
  intro acc i h
  split
  · exact h
  · split
    · exact h1 acc.1 i h
    · exact h

theorem allEmpty_pres (P : BSt → Prop) (h0 : ∀ x, P x → P (refreshCache x)) (h1 : ∀ x i, P x → P (ctxEmpty x i).1)
    (s : BSt) (hs : P s) : P (allEmpty s).1 :=
  allEmpty_of_refresh P h1 s (h0 s hs)

theorem hasPending_pres (P : BSt → Prop) (h0 : ∀ x, P x → P (refreshCache x)) (h1 : ∀ x i, P x → P (ctxEmpty x i).1)
    (s : BSt) (hs : P s) : P (hasPending s).1 :=
  hasPending_of_refresh P h1 s (h0 s hs)

theorem allEmpty_eq {α} (φ : BSt → α) (h0 : ∀ x : BSt, φ { x with cache := x.registry, newFlag := false } = φ x)
    (h1 : ∀ x i, φ (ctxEmpty x i).1 = φ x) (s : BSt) : φ (allEmpty s).1 = φ s := by
  refine allEmpty_pres (fun x => φ x = φ s) (fun x h => ?_) (fun x i h => (h1 x i).trans h) s rfl
  rcases refreshCache_cases x with e | e <;> rw [e]
  · exact h
  · exact (h0 x).trans h

theorem hasPending_eq {α} (φ : BSt → α) (h0 : ∀ x : BSt, φ { x with cache := x.registry, newFlag := false } = φ x)
    (h1 : ∀ x i, φ (ctxEmpty x i).1 = φ x) (s : BSt) : φ (hasPending s).1 = φ s := by
  refine hasPending_pres (fun x => φ x = φ s) (fun x h => ?_) (fun x i h => (h1 x i).trans h) s rfl
  rcases refreshCache_cases x with e | e <;> rw [e]
  · exact h
  · exact (h0 x).trans h

theorem allEmpty_lgs (s : BSt) : (allEmpty s).1.lgs = s.lgs := allEmpty_eq (·.lgs) (fun _ => rfl) (fun _ _ => rfl) s

/-- while the clean-up looks for a context to drop only emptiness probes happen; the context it returns is one of the
    list, invalidated, has just been found empty and passes the counter test; when it returns none, every context of the
    list was valid, or not empty when probed, or kept back for its unreported failure counter -/
theorem findFirst_rule (P : BSt → Prop) (h1 : ∀ x i, P x → P (ctxEmpty x i).1) :
    ∀ (l : List Nat) (x : BSt), P x → P (cleanupContexts.go.findFirst x l).1 ∧
      (∀ i, (cleanupContexts.go.findFirst x l).2 = some i → i ∈ l ∧
        ∃ x', P x' ∧ x'.cache = x.cache ∧ (x'.th i).valid = false ∧ (ctxEmpty x' i).2 = true ∧
          (x'.cfg.cleanupKeepsUnreported = true → (x'.th i).fail = 0) ∧
          (cleanupContexts.go.findFirst x l).1 = (ctxEmpty x' i).1) ∧
      ((cleanupContexts.go.findFirst x l).2 = none → ∀ i ∈ l, ∃ x', P x' ∧ ((x'.th i).valid = true ∨
        (ctxEmpty x' i).2 = false ∨ (x'.cfg.cleanupKeepsUnreported = true ∧ (x'.th i).fail ≠ 0)))
  | [], _, hx => ⟨hx, fun _ h => (by cases h), fun _ _ h => (by cases h)⟩
  | j :: rest, x, hx => by
    rw [findFirst_cons]
    split
    · rename_i hv
      obtain ⟨a, b, c⟩ := findFirst_rule P h1 rest x hx
      exact ⟨a, fun i hi => ⟨List.mem_cons_of_mem _ (b i hi).1, (b i hi).2⟩, fun hn i hi =>
        (List.mem_cons.mp hi).elim (fun e => ⟨x, hx, Or.inl (e ▸ hv)⟩) (c hn i)⟩
    · rename_i hv
      split
      · rename_i he
        refine ⟨h1 x j hx, fun i hi => ?_, fun hn => (by cases hn)⟩
        cases hi
        simp only [Bool.and_eq_true, Bool.or_eq_true, Bool.not_eq_true', beq_iff_eq] at he
        refine ⟨List.mem_cons_self, x, hx, rfl, by simpa using hv, he.1, fun hk => ?_, rfl⟩
        rcases he.2 with h | h
        · rw [hk] at h; cases h
        · exact h
      · rename_i he
        obtain ⟨a, b, c⟩ := findFirst_rule P h1 rest _ (h1 x j hx)
        refine ⟨a, fun i hi => ⟨List.mem_cons_of_mem _ (b i hi).1, (b i hi).2⟩, fun hn i hi =>
          (List.mem_cons.mp hi).elim (fun e => ⟨x, hx, Or.inr ?_⟩) (c hn i)⟩
        subst e
        simp only [Bool.and_eq_true, Bool.or_eq_true, Bool.not_eq_true', beq_iff_eq, not_and, not_or] at he
        cases hE : (ctxEmpty x i).2
        · exact Or.inl rfl
        · exact Or.inr ⟨by simpa using (he hE).1, (he hE).2⟩

/-- the context clean-up: a property kept by the emptiness probe and by dropping a context the probe has just found
    empty — a cached, invalidated one whose failure counter is reported — is kept by the whole clean-up -/
theorem go_rule (P : BSt → Prop) (h1 : ∀ x i, P x → P (ctxEmpty x i).1)
    (h2 : ∀ x i, P x → i ∈ x.cache → (x.th i).valid = false → (ctxEmpty x i).2 = true →
      (x.cfg.cleanupKeepsUnreported = true → (x.th i).fail = 0) → P (removeSt (ctxEmpty x i).1 i)) :
    ∀ (fuel : Nat) (x : BSt), P x → P (cleanupContexts.go fuel x)
  | 0, _, hx => hx
  | n + 1, x, hx => by
    rw [go_succ]
    obtain ⟨a, b, _⟩ := findFirst_rule P h1 x.cache x hx
    split
    · rename_i s1 heq; rw [heq] at a; exact a
    · rename_i s1 i heq
      rw [heq] at b
      obtain ⟨hm, x', hx', hc, hv, he, hz, e⟩ := b i rfl
      dsimp only at e
      rw [e]
      exact go_rule P h1 h2 n _ (h2 x' i hx' (hc ▸ hm) hv he hz)

theorem cleanupContexts_rule (P : BSt → Prop) (h1 : ∀ x i, P x → P (ctxEmpty x i).1)
    (h2 : ∀ x i, P x → i ∈ x.cache → (x.th i).valid = false → (ctxEmpty x i).2 = true →
      (x.cfg.cleanupKeepsUnreported = true → (x.th i).fail = 0) → P (removeSt (ctxEmpty x i).1 i))
    (s : BSt) (hs : P s) : P (cleanupContexts s) := by
  rw [cleanupContexts_eq]; split
  · exact hs
  · exact go_rule P h1 h2 _ _ hs

theorem cleanupContexts_pres (P : BSt → Prop) (h1 : ∀ x i, P x → P (ctxEmpty x i).1)
    (h2 : ∀ x i, P x → P (removeSt x i)) (s : BSt) (hs : P s) : P (cleanupContexts s) :=
  cleanupContexts_rule P h1 (fun x i hx _ _ _ _ => h2 _ i (h1 x i hx)) s hs

theorem cleanupContexts_popLog (s : BSt) : (cleanupContexts s).popLog = s.popLog :=
  cleanupContexts_pres (fun x => x.popLog = s.popLog) (fun _ _ h => h) (fun _ _ h => h) s rfl

/-- the first loop of the logger clean-up, for a predicate `A pend x removed` of the sinks still to be visited, the
    state and the names noted so far: what it must be stable under to hold at the end of the loop (with no sink left to
    visit). The erase of logger `i` happens behind an emptiness check of the current state that answered yes, `i` was not
    erased when the clean-up started, and its sinks become the ones to visit. -/
theorem lgFold_rule (inj : BSt → Nat → BSt) (s : BSt) (A : List Nat → BSt → List Nat → Prop)
    (h9 : ∀ p x r, A p x r → A p (inj x 9) r)
    (hInv : ∀ x r b, A [] x r → A [] { x with hasInvalidLoggers := b } r)
    (hAll : ∀ x r, A [] x r → A [] (allEmpty x).1 r)
    (hEr : ∀ x r i, i < s.lgs.length → (s.lgOf i).erased = false → A [] x r → (x.lgOf i).valid = false →
      (allEmpty x).2 = true →
      A (x.lgOf i).sinks ((allEmpty x).1.setLg i (fun l => { l with erased := true })) (r ++ [(x.lgOf i).gid]))
    (hReap : ∀ p x r sid, A (sid :: p) x r → (x.sinkOf sid).alive = true → sinkRefs x sid = 0 →
      A p ((x.setSink sid (fun k => { k with alive := false })).emit (.sinkDtor sid)) r)
    (hSkip : ∀ p x r sid, A (sid :: p) x r → ¬((x.sinkOf sid).alive = true ∧ sinkRefs x sid = 0) → A p x r)
    (hs : A [] s []) : A [] (lgFold inj s).1 (lgFold inj s).2 := by
  unfold lgFold
  refine List.foldl_inv_mem (fun acc : BSt × List Nat => A [] acc.1 acc.2) _ _ _ (fun acc i hi h => ?_) (hInv s [] false hs)
  obtain ⟨hlt, hne⟩ : i < s.lgs.length ∧ (s.lgOf i).erased = false := lgOrder_mem hi
  unfold lgStep
  split
  · exact h
  · next hv =>
    split
    · next he =>
      exact reapSinksInj_rule inj (fun p x => A p x _) (fun p x => h9 p x _) (fun p x => hReap p x _)
        (fun p x => hSkip p x _) _ _ (hEr acc.1 acc.2 i hlt hne h (Bool.eq_false_iff.mpr hv) he)
    · exact hInv _ _ true (hAll _ _ h)

/-- the logger clean-up: the first loop over `A pend x removed` (`lgFold_rule`), the second over `B removed x`: a flag
    is raised for a name the first loop noted, and it is the one recorded for that name -/
theorem cleanupLoggers_rule (inj : BSt → Nat → BSt) (s : BSt) (A : List Nat → BSt → List Nat → Prop)
    (B : List Nat → BSt → Prop)
    (h9 : ∀ p x r, A p x r → A p (inj x 9) r)
    (hInv : ∀ x r b, A [] x r → A [] { x with hasInvalidLoggers := b } r)
    (hAll : ∀ x r, A [] x r → A [] (allEmpty x).1 r)
    (hEr : ∀ x r i, i < s.lgs.length → (s.lgOf i).erased = false → A [] x r → (x.lgOf i).valid = false →
      (allEmpty x).2 = true →
      A (x.lgOf i).sinks ((allEmpty x).1.setLg i (fun l => { l with erased := true })) (r ++ [(x.lgOf i).gid]))
    (hReap : ∀ p x r sid, A (sid :: p) x r → (x.sinkOf sid).alive = true → sinkRefs x sid = 0 →
      A p ((x.setSink sid (fun k => { k with alive := false })).emit (.sinkDtor sid)) r)
    (hSkip : ∀ p x r sid, A (sid :: p) x r → ¬((x.sinkOf sid).alive = true ∧ sinkRefs x sid = 0) → A p x r)
    (hAB : ∀ x r, A [] x r → B r x)
    (hFlag : ∀ r x f g, B r x → g ∈ r → (∃ g', x.removalFlags.find? (·.1 = g) = some (g', f)) →
      B r { x with flags := f :: x.flags, flagLog := (f, x.log.length) :: x.flagLog,
                   removalFlags := x.removalFlags.filter (·.1 ≠ g) })
    (hs : A [] s []) : ∃ r, B r (cleanupLoggers inj s) := by
  rw [cleanupLoggers_fold]
  split
  · exact ⟨[], hAB s [] hs⟩
  · refine ⟨(lgFold inj s).2, List.foldl_inv_mem (B (lgFold inj s).2) _ _ _ (fun x g hg hx => ?_)
      (hAB _ _ (lgFold_rule inj s A h9 hInv hAll hEr hReap hSkip hs))⟩
    unfold flagStep
    split
    · rename_i g' f hfind
      exact hFlag _ x f g hx hg ⟨g', hfind⟩
    · exact hx

theorem cleanupLoggers_pres (P : BSt → Prop) (inj : BSt → Nat → BSt) (h9 : ∀ x, P x → P (inj x 9))
    (hInv : ∀ x b, P x → P { x with hasInvalidLoggers := b })
    (hAll : ∀ x, P x → P (allEmpty x).1)
    (hEr : ∀ x i, P x → (x.lgOf i).valid = false → (allEmpty x).2 = true →
      P ((allEmpty x).1.setLg i (fun l => { l with erased := true })))
    (hReap : ∀ x sid, P x → (x.sinkOf sid).alive = true → sinkRefs x sid = 0 →
      P ((x.setSink sid (fun k => { k with alive := false })).emit (.sinkDtor sid)))
    (hFlag : ∀ x f g, P x → (g, f) ∈ x.removalFlags →
      P { x with flags := f :: x.flags, flagLog := (f, x.log.length) :: x.flagLog,
                                        removalFlags := x.removalFlags.filter (·.1 ≠ g) })
    (s : BSt) (hs : P s) : P (cleanupLoggers inj s) :=
  (cleanupLoggers_rule inj s (fun _ x _ => P x) (fun _ => P) (fun _ x _ => h9 x) (fun x _ b => hInv x b) (fun x _ => hAll x)
    (fun x _ i _ _ hx hv he => hEr x i hx hv he) (fun _ x _ sid => hReap x sid) (fun _ _ _ _ h _ => h) (fun _ _ h => h)
    (fun _ x f g hx _ ⟨g', hfind⟩ => hFlag x f g hx (by
      have hg : g' = g := by simpa using List.find?_some hfind
      exact hg ▸ List.mem_of_find?_eq_some hfind)) hs).elim fun _ h => h

theorem checkFailures_pres (P : BSt → Prop) (inj : BSt → Nat → BSt)
    (h : ∀ x i, P x → (x.th i).fail > 0 → P (inj (reportSt x i) 8)) (s : BSt) (hs : P s) : P (checkFailures inj s) := by
  rw [checkFailures_eq]
  apply List.foldl_inv P _ _ _ _ hs
  intro x i hx
  split
  · next hf => exact h x i hx hf
  · exact hx

/-- why the read of context `i` ends without moving a record -/
def ReadStop (tsNow : Option Nat) (i : Nat) (s : BSt) : Prop :=
  (qPrepareRead s.cfg (s.th i).q).2 = false ∨
  ((qPrepareRead s.cfg (s.th i).q).2 = true ∧
    ((s.th i).qStmts = [] ∨ ∃ st rest, (s.th i).qStmts = st :: rest ∧ tsStop tsNow st = true))

/-- the do-while rule of `readQueue`: `I n` before the first iteration, `J n` after it, `n` the bytes read so far
    (`J → I`, so every later iteration may use the same obligations); `Q` at the end. An exit of the first iteration
    knows why it stopped; the commit at an exit happens only if something was read. -/
theorem readQueue_ruleN {inj : BSt → Nat → BSt} {tsNow : Option Nat} {i : Nat} (I J : Nat → BSt → Prop) (Q : BSt → Prop)
    (hJI : ∀ n s, J n s → I n s)
    (stop : ∀ n s, I n s → ReadStop tsNow i s → J n (readPrepSt s i))
    (fin : ∀ n s, J n s → Q (if n ≠ 0 then commitSt s i else s))
    (move : ∀ n s st rest, I n s → (qPrepareRead s.cfg (s.th i).q).2 = true → (s.th i).qStmts = st :: rest →
      tsStop tsNow st = false → J (n + st.size) (inj (fmtNote (readOneSt s i st rest) st) 3))
    (full : ∀ n s, J n s → Q (commitSt s i)) :
    (∀ fuel n s, J n s → Q (readQueue inj tsNow i fuel n s)) ∧
    (∀ fuel n s, I n s → Q (readQueue inj tsNow i (fuel + 1) n s)) := by
  have step : ∀ fuel, (∀ n s, J n s → Q (readQueue inj tsNow i fuel n s)) →
      ∀ n s, I n s → Q (readQueue inj tsNow i (fuel + 1) n s) := by
    intro fuel ih total s hs
    rw [readQueue_succ]
    have hfin : ReadStop tsNow i s → Q (if total ≠ 0 then commitSt (readPrepSt s i) i else readPrepSt s i) :=
      fun hg => fin _ _ (stop _ s hs hg)
    simp only []
    split
    · rename_i hr
      exact hfin (.inl (by simpa using hr))
    · rename_i hr
      have hr' : (qPrepareRead s.cfg (s.th i).q).2 = true := by simpa using hr
      split
      · rename_i hq
        exact hfin (.inr ⟨hr', .inl hq⟩)
      · rename_i st rest hq
        split
        · rename_i hl
          exact hfin (.inr ⟨hr', .inr ⟨st, rest, hq, hl⟩⟩)
        · rename_i hl
          have h3 := move _ s st rest hs hr' hq (by simpa using hl)
          split
          · exact ih _ _ h3
          · exact full _ _ h3
  have all : ∀ fuel n s, J n s → Q (readQueue inj tsNow i fuel n s) := by
    intro fuel
    induction fuel with
    | zero => exact fun n s hs => fin n s hs
    | succ k ih => exact fun n s hs => step k ih n s (hJI n s hs)
  exact ⟨all, fun fuel => step fuel (all fuel)⟩

/-- the rule without the byte count: `J` is also what holds at the end. The second half, from `I` with at least one
    iteration left, is what `populate_rule`'s `read` asks for. -/
theorem readQueue_rule {inj : BSt → Nat → BSt} {tsNow : Option Nat} {i : Nat} (I J : BSt → Prop)
    (hJI : ∀ s, J s → I s)
    (stop : ∀ s, I s → ReadStop tsNow i s → J (readPrepSt s i))
    (move : ∀ s st rest, I s → (qPrepareRead s.cfg (s.th i).q).2 = true → (s.th i).qStmts = st :: rest →
      tsStop tsNow st = false → J (inj (fmtNote (readOneSt s i st rest) st) 3))
    (commit : ∀ s, J s → J (commitSt s i)) :
    (∀ fuel total s, J s → J (readQueue inj tsNow i fuel total s)) ∧
    (∀ fuel total s, I s → J (readQueue inj tsNow i (fuel + 1) total s)) :=
  readQueue_ruleN (fun _ => I) (fun _ => J) J (fun _ => hJI) (fun _ => stop)
    (fun n s h => by split; exact commit s h; exact h) (fun _ => move) (fun _ => commit)

theorem readQueue_pres (P : BSt → Prop) (inj : BSt → Nat → BSt) (tsNow : Option Nat) (i : Nat)
    (hprep : ∀ x, P x → P (readPrepSt x i)) (hcommit : ∀ x, P x → P (commitSt x i))
    (hone : ∀ x st rest, P x → (qPrepareRead x.cfg (x.th i).q).2 = true → (x.th i).qStmts = st :: rest →
      P (inj (fmtNote (readOneSt x i st rest) st) 3)) :
    ∀ (fuel total : Nat) (s : BSt), P s → P (readQueue inj tsNow i fuel total s) :=
  (readQueue_rule P P (fun _ h => h) (fun x h _ => hprep x h) (fun x st rest h hr hq _ => hone x st rest h hr hq)
    hcommit).1

/-- the loop of the read pass over the cached contexts: `R l n` with the contexts `l` still unread and `n` events counted -/
theorem popFold_rule {inj : BSt → Nat → BSt} {t : Option Nat} (R : List Nat → Nat → BSt → Prop)
    (site2 : ∀ l n s, R l n s → R l n (inj s 2))
    (read : ∀ i l n fuel s, R (i :: l) n s →
      R l (n + ((readQueue inj t i (fuel + 1) 0 s).th i).buf.length) (readQueue inj t i (fuel + 1) 0 s)) :
    ∀ (l : List Nat) (acc : BSt × Nat), R l acc.2 acc.1 →
      R [] (l.foldl (popStep inj t) acc).2 (l.foldl (popStep inj t) acc).1 := by
  intro l
  induction l with
  | nil => exact fun _ h => h
  | cons i l ih =>
    intro acc h
    rw [List.foldl_cons]
    exact ih _ (read i l acc.2 _ _ (site2 _ _ _ h))

/-- `populate` with the count of the pass: `O1` from the optional first refresh up to the sampling of the cut-off (hook
    site 7 lies in between), then `R t l n` while reading with cut-off `t`, the contexts `l` still unread and `n` events
    counted. The first refresh is left to the instance, which knows whether it is taken. -/
theorem populate_ruleN {inj : BSt → Nat → BSt} (O1 : BSt → Prop) (R : Option Nat → List Nat → Nat → BSt → Prop)
    (site7 : ∀ x, O1 x → O1 (inj x 7))
    (enter : ∀ x, O1 x → R (tsNowOf x) (enterSt inj x).cache 0 (enterSt inj x))
    (site2 : ∀ t l n x, R t l n x → R t l n (inj x 2))
    (read : ∀ t i l n fuel x, R t (i :: l) n x →
      R t l (n + ((readQueue inj t i (fuel + 1) 0 x).th i).buf.length) (readQueue inj t i (fuel + 1) 0 x))
    (s : BSt) (h0 : O1 (popS0 s)) : ∃ t, R t [] (populate inj s).2 (populate inj s).1 := by
  rw [populate_eq, popS2_eq]
  have h1 : O1 (popS1 inj s) := by
    unfold popS1; split
    · exact h0
    · exact site7 _ h0
  exact ⟨_, popFold_rule (R (tsNowOf (popS1 inj s))) (site2 _) (read _) _ (_, 0) (enter _ h1)⟩

/-- `populate` without the count: `O` outside the pass; `R t l` while reading with cut-off `t`, the contexts `l` still unread -/
theorem populate_rule {inj : BSt → Nat → BSt} (O : BSt → Prop) (R : Option Nat → List Nat → BSt → Prop)
    (refresh : ∀ s, O s → O (refreshCache s))
    (site7 : ∀ s, O s → O (inj s 7))
    (enter : ∀ s, O s → R (tsNowOf s) (enterSt inj s).cache (enterSt inj s))
    (site2 : ∀ t l s, R t l s → R t l (inj s 2))
    (read : ∀ t i l fuel s, R t (i :: l) s → R t l (readQueue inj t i (fuel + 1) 0 s))
    (s : BSt) (hs : O s) : ∃ t, R t [] (populate inj s).1 :=
  populate_ruleN O (fun t l _ => R t l) site7 enter (fun t l _ => site2 t l) (fun t i l _ => read t i l) s (by
    unfold popS0; split
    · exact hs
    · exact refresh s hs)

theorem enterSt_pres (P : BSt → Prop) (inj : BSt → Nat → BSt) (hrefresh : ∀ x, P x → P (refreshCache x))
    (hinj : ∀ x k, P x → P (inj x k)) (s : BSt) (hs : P s) : P (enterSt inj s) := by
  unfold enterSt; split
  · exact hrefresh _ (hinj s 1 hs)
  · exact hinj s 1 hs

theorem populate_pres (P : BSt → Prop) (inj : BSt → Nat → BSt) (hrefresh : ∀ x, P x → P (refreshCache x))
    (hinj : ∀ x k, P x → P (inj x k))
    (hread : ∀ tsNow i fuel x, P x → P (readQueue inj tsNow i fuel 0 x))
    (s : BSt) (hs : P s) : P (populate inj s).1 :=
  (populate_rule P (fun _ _ => P) hrefresh (hinj · 7)
    (enterSt_pres P inj hrefresh hinj)
    (fun _ _ x hx => hinj x 2 hx) (fun t i _ _ x hx => hread t i _ x hx) s hs).elim fun _ h => h

/-- `_process_lowest_timestamp_transit_event` from the popped state on: `O` after an ordinary event; between the pop of
    a Flush event and the raising of its flag `f` (failure report with hook site 8, context clean-up) the predicate is `M f` -/
theorem processLowest_tail {inj : BSt → Nat → BSt} (O : BSt → Prop) (M : Nat → BSt → Prop) (s : BSt) (i : Nat)
    (st : Stmt) (rest : List Stmt)
    (report : ∀ f x j, M f x → (x.th j).fail > 0 → M f (inj (reportSt x j) 8))
    (clean : ∀ f x, M f x → M f (cleanupContexts x))
    (raise : ∀ f x, M f x → O (raiseSt x f))
    (hl : lowest s = some i) (hb : (s.th i).buf = st :: rest)
    (hp : (processEvent s st).2.2 = none → O (popSt s i st rest))
    (hpf : ∀ f, st.kind = .flush f → M f (popSt s i st rest)) : O (processLowest inj s).1 := by
  rw [processLowest_eq, hl]
  dsimp only
  rw [hb]
  dsimp only
  split
  · rename_i f hf
    apply raise
    apply clean
    split
    · exact checkFailures_pres (M f) inj (report f) _ (hpf f (processEvent_flag s st f hf))
    · exact hpf f (processEvent_flag s st f hf)
  · rename_i hn
    exact hp hn

/-- `processLowest`: `F` where a pop is allowed, `O` after it -/
theorem processLowest_rule {inj : BSt → Nat → BSt} (F O : BSt → Prop) (M : Nat → BSt → Prop)
    (idle : ∀ s, F s → O s)
    (pop : ∀ s i st rest, F s → lowest s = some i → (s.th i).buf = st :: rest → (processEvent s st).2.2 = none →
      O (popSt s i st rest))
    (popFlush : ∀ s i st rest f, F s → lowest s = some i → (s.th i).buf = st :: rest → st.kind = .flush f →
      M f (popSt s i st rest))
    (report : ∀ f s i, M f s → (s.th i).fail > 0 → M f (inj (reportSt s i) 8))
    (clean : ∀ f s, M f s → M f (cleanupContexts s))
    (raise : ∀ f s, M f s → O (raiseSt s f))
    (s : BSt) (hs : F s) : O (processLowest inj s).1 := by
  cases hl : lowest s with
  | none => rw [processLowest_eq, hl]; exact idle s hs
  | some i =>
    cases hb : (s.th i).buf with
    | nil => rw [processLowest_eq, hl]; dsimp only; rw [hb]; exact idle s hs
    | cons st rest =>
      exact processLowest_tail O M s i st rest report clean raise hl hb (pop s i st rest hs hl hb)
        (fun f hk => popFlush s i st rest f hs hl hb hk)

theorem flushGate_pres (P : BSt → Prop) (inj : BSt → Nat → BSt) (hflush : ∀ x, P x → P (flushSinks x))
    (h7 : ∀ x, P x → P (inj x 7)) (hlast : ∀ x, P x → P { x with lastFlush := x.now })
    (s : BSt) (n : Nat) (hs : P s) : P (flushGate inj s n) := by
  unfold flushGate
  split
  · exact hflush _ hs
  · simp only []
    split
    · exact hflush _ (hlast _ (h7 s hs))
    · exact h7 s hs

theorem preEraseFlush_pres (P : BSt → Prop) (hflush : ∀ x, P x → P (flushSinks x)) (s : BSt) (hs : P s) :
    P (preEraseFlush s) := by
  unfold preEraseFlush
  split
  · exact hflush _ hs
  · exact hs

/-- the batch loop alone: of the rules of the tail it needs the guard, the processing of one event and hook site 4 -/
theorem batchLoop_rule {inj : BSt → Nat → BSt} (O F : BSt → Prop)
    (pending : ∀ s, O s → O (hasPending s).1 ∧ ((hasPending s).2 = false → F (hasPending s).1))
    (lowest : ∀ s, F s → O (processLowest inj s).1) (site4 : ∀ s, O s → O (inj s 4)) :
    ∀ (fuel : Nat) (s : BSt), O s → O (batchLoop inj fuel s)
  | 0, _, hs => hs
  | fuel + 1, s, hs => by
    unfold batchLoop
    simp only []
    split
    · exact (pending s hs).1
    · rename_i hn
      have hl := lowest _ ((pending s hs).2 (by simpa using hn))
      split
      · exact hl
      · exact batchLoop_rule O F pending lowest site4 fuel _ (site4 _ hl)

/-- what a poll does after its read pass, over the phases `O` (outside), `F` (a pop is allowed: after a complete read
    pass, or after `hasPending` answered no) and `G` (the idle tail, from the flush gate to the logger clean-up).
    The fields are what the rules above conclude (`processLowest_rule`, `checkFailures_pres`, …). -/
structure TailRules (inj : BSt → Nat → BSt) (O F G : BSt → Prop) : Prop where
  /-- `F` may be forgotten (a pass that found nothing to pop, the exit loop between its read pass and its batch loop) -/
  idle : ∀ s, F s → O s
  lowest : ∀ s, F s → O (processLowest inj s).1
  /-- the guard of the batch loop: only its answer "nothing pending" allows the next pop -/
  pending : ∀ s, O s → O (hasPending s).1 ∧ ((hasPending s).2 = false → F (hasPending s).1)
  /-- hook sites 4 (batch loop) and 5 (idle branch) -/
  site : ∀ s k, O s → O (inj s k)
  gate : ∀ s, O s → G (flushGate inj s s.cfg.flushInterval)
  gcheck : ∀ s, G s → G (checkFailures inj s)
  gallEmpty : ∀ s, G s → G (Backend.allEmpty s).1
  gclean : ∀ s, G s → G (cleanupContexts s)
  /-- the idle tail ends here when something was not empty -/
  gidle : ∀ s, G s → O s
  erase : ∀ s, G s → O (cleanupLoggers inj (preEraseFlush s))

/-- an index that no step after the read pass moves may be forgotten -/
theorem TailRules.ex {ι : Type} {inj : BSt → Nat → BSt} {O F G : ι → BSt → Prop} (a : ∀ k, TailRules inj (O k) (F k) (G k)) :
    TailRules inj (fun s => ∃ k, O k s) (fun s => ∃ k, F k s) (fun s => ∃ k, G k s) where
  idle s := fun ⟨k, h⟩ => ⟨k, (a k).idle s h⟩
  lowest s := fun ⟨k, h⟩ => ⟨k, (a k).lowest s h⟩
  pending s := fun ⟨k, h⟩ => ⟨⟨k, ((a k).pending s h).1⟩, fun hn => ⟨k, ((a k).pending s h).2 hn⟩⟩
  site s n := fun ⟨k, h⟩ => ⟨k, (a k).site s n h⟩
  gate s := fun ⟨k, h⟩ => ⟨k, (a k).gate s h⟩
  gcheck s := fun ⟨k, h⟩ => ⟨k, (a k).gcheck s h⟩
  gallEmpty s := fun ⟨k, h⟩ => ⟨k, (a k).gallEmpty s h⟩
  gclean s := fun ⟨k, h⟩ => ⟨k, (a k).gclean s h⟩
  gidle s := fun ⟨k, h⟩ => ⟨k, (a k).gidle s h⟩
  erase s := fun ⟨k, h⟩ => ⟨k, (a k).erase s h⟩

/-- the whole pass and the exit loop: the read pass, and what `_exit` does besides -/
structure PassRules (inj : BSt → Nat → BSt) (O F G : BSt → Prop) : Prop extends TailRules inj O F G where
  populate : ∀ s, O s → F (populate inj s).1
  /-- the exit loop's own emptiness check, failure report (in `O`; `gcheck` is the idle tail's, in `G`), tick of the clock
      and last flush, after which it ends like an idle pass -/
  allEmpty : ∀ s, O s → O (allEmpty s).1
  check : ∀ s, O s → O (checkFailures inj s)
  clock : ∀ s tick, O s → O { s with now := s.now + tick }
  finalFlush : ∀ s, O s → G (flushSinks s)

theorem PassRules.and {inj : BSt → Nat → BSt} {O F G O' F' G' : BSt → Prop} (a : PassRules inj O F G)
    (b : PassRules inj O' F' G') :
    PassRules inj (fun s => O s ∧ O' s) (fun s => F s ∧ F' s) (fun s => G s ∧ G' s) where
  populate s h := ⟨a.populate s h.1, b.populate s h.2⟩
  idle s h := ⟨a.idle s h.1, b.idle s h.2⟩
  lowest s h := ⟨a.lowest s h.1, b.lowest s h.2⟩
  pending s h := ⟨⟨(a.pending s h.1).1, (b.pending s h.2).1⟩, fun hn => ⟨(a.pending s h.1).2 hn, (b.pending s h.2).2 hn⟩⟩
  site s k h := ⟨a.site s k h.1, b.site s k h.2⟩
  allEmpty s h := ⟨a.allEmpty s h.1, b.allEmpty s h.2⟩
  check s h := ⟨a.check s h.1, b.check s h.2⟩
  clock s n h := ⟨a.clock s n h.1, b.clock s n h.2⟩
  gate s h := ⟨a.gate s h.1, b.gate s h.2⟩
  finalFlush s h := ⟨a.finalFlush s h.1, b.finalFlush s h.2⟩
  gcheck s h := ⟨a.gcheck s h.1, b.gcheck s h.2⟩
  gallEmpty s h := ⟨a.gallEmpty s h.1, b.gallEmpty s h.2⟩
  gclean s h := ⟨a.gclean s h.1, b.gclean s h.2⟩
  gidle s h := ⟨a.gidle s h.1, b.gidle s h.2⟩
  erase s h := ⟨a.erase s h.1, b.erase s h.2⟩

theorem PassRules.ex {ι : Type} {inj : BSt → Nat → BSt} {O F G : ι → BSt → Prop} (a : ∀ k, PassRules inj (O k) (F k) (G k)) :
    PassRules inj (fun s => ∃ k, O k s) (fun s => ∃ k, F k s) (fun s => ∃ k, G k s) where
  toTailRules := TailRules.ex fun k => (a k).toTailRules
  populate s := fun ⟨k, h⟩ => ⟨k, (a k).populate s h⟩
  allEmpty s := fun ⟨k, h⟩ => ⟨k, (a k).allEmpty s h⟩
  check s := fun ⟨k, h⟩ => ⟨k, (a k).check s h⟩
  clock s n := fun ⟨k, h⟩ => ⟨k, (a k).clock s n h⟩
  finalFlush s := fun ⟨k, h⟩ => ⟨k, (a k).finalFlush s h⟩

theorem PassRules.congr {O F G O' F' G' : BSt → Prop} {inj : BSt → Nat → BSt} (a : PassRules inj O F G)
    (hO : ∀ s, O' s ↔ O s) (hF : ∀ s, F' s ↔ F s) (hG : ∀ s, G' s ↔ G s) : PassRules inj O' F' G' where
  populate s h := (hF _).mpr (a.populate s ((hO s).mp h))
  idle s h := (hO s).mpr (a.idle s ((hF s).mp h))
  lowest s h := (hO _).mpr (a.lowest s ((hF s).mp h))
  pending s h := ⟨(hO _).mpr (a.pending s ((hO s).mp h)).1, fun hn => (hF _).mpr ((a.pending s ((hO s).mp h)).2 hn)⟩
  site s k h := (hO _).mpr (a.site s k ((hO s).mp h))
  allEmpty s h := (hO _).mpr (a.allEmpty s ((hO s).mp h))
  check s h := (hO _).mpr (a.check s ((hO s).mp h))
  clock s n h := (hO _).mpr (a.clock s n ((hO s).mp h))
  gate s h := (hG _).mpr (a.gate s ((hO s).mp h))
  finalFlush s h := (hG _).mpr (a.finalFlush s ((hO s).mp h))
  gcheck s h := (hG _).mpr (a.gcheck s ((hG s).mp h))
  gallEmpty s h := (hG _).mpr (a.gallEmpty s ((hG s).mp h))
  gclean s h := (hG _).mpr (a.gclean s ((hG s).mp h))
  gidle s h := (hO s).mpr (a.gidle s ((hG s).mp h))
  erase s h := (hO _).mpr (a.erase s ((hG s).mp h))

section
variable {inj : BSt → Nat → BSt} {O F G : BSt → Prop} (hp : TailRules inj O F G)
include hp

theorem TailRules.batchLoop : ∀ (fuel : Nat) (s : BSt), O s → O (batchLoop inj fuel s) :=
  batchLoop_rule O F hp.pending hp.lowest (hp.site · 4)

theorem TailRules.eraseTail (s : BSt) (hs : G s) : O (eraseTail inj s) := hp.erase _ (hp.gclean s hs)

theorem TailRules.idlePass (s : BSt) (hs : O s) : O (idlePass inj s) := by
  unfold Backend.idlePass
  have h4 := hp.gallEmpty _ (hp.gcheck _ (hp.gate _ (hp.site s 5 hs)))
  simp only []
  split
  · exact hp.eraseTail _ h4
  · exact hp.gidle _ h4

theorem TailRules.pollTail (r : BSt × Nat) (hr : F r.1) : O (pollTail inj r) := by
  unfold Backend.pollTail
  split
  · split
    · exact hp.lowest _ hr
    · exact hp.batchLoop _ _ (hp.idle _ hr)
  · exact hp.idlePass _ (hp.idle _ hr)

end

section
variable {inj : BSt → Nat → BSt} {O F G : BSt → Prop} (hp : PassRules inj O F G)
include hp

theorem PassRules.batchLoop : ∀ (fuel : Nat) (s : BSt), O s → O (batchLoop inj fuel s) := hp.toTailRules.batchLoop

theorem PassRules.poll (s : BSt) (hs : O s) : O (poll inj s) := hp.toTailRules.pollTail _ (hp.populate s hs)

theorem PassRules.exitFinal (s : BSt) (hs : O s) : O (exitFinal inj s) :=
  hp.toTailRules.eraseTail _ (hp.finalFlush _ (hp.check _ (hp.allEmpty s hs)))

theorem PassRules.exitBody (tick : Nat) (s : BSt) (hs : O s) : O (exitBody inj tick s) := by
  unfold PC.exitBody
  have h2 := hp.idle _ (hp.populate _ (hp.clock _ tick (hp.allEmpty s hs)))
  simp only []
  split
  · exact hp.batchLoop _ _ h2
  · exact h2

theorem PassRules.exitLoop (tick : Nat) : ∀ (fuel : Nat) (s : BSt), O s → O (exitLoop inj tick fuel s)
  | 0, _, hs => hs
  | fuel + 1, s, hs => by
    rw [exitLoop_succ]
    split
    · exact hp.exitFinal s hs
    · exact PassRules.exitLoop tick fuel _ (hp.exitBody tick s hs)

end

theorem PassRules.applyOp {O F G : BSt → Prop} (hp : ∀ table, PassRules (runInj table) O F G)
    (front : ∀ s f, O s → O (applyFront s f).1) (reset : ∀ s, O s → O { s with siteCnt := [] })
    (gone : ∀ s, O s → O { s with backendGone := true }) (s : BSt) (op : Op) (hs : O s) : O (applyOp s op).1 :=
  applyOp_rule (fun x _ => O x) s op (fun f _ => front s f hs) (fun _ => hs)
    (fun table _ _ => (hp table).poll _ (reset s hs)) (fun _ _ => gone _ ((hp []).exitLoop _ _ _ (reset s hs)))

theorem PassRules.runOps {O F G : BSt → Prop} (hp : ∀ table, PassRules (runInj table) O F G)
    (front : ∀ s f, O s → O (applyFront s f).1) (reset : ∀ s, O s → O { s with siteCnt := [] })
    (gone : ∀ s, O s → O { s with backendGone := true }) (ops : List Op) (s : BSt) (hs : O s) : O (runOps s ops) :=
  List.foldl_inv O _ (fun x o hx => PassRules.applyOp hp front reset gone x o hx) ops s hs

/-- the steps the walk through `poll` / `exitLoop` takes by itself, each as the machine takes it; two parts of a pass are
    handed over as wholes: the processing of one event (`processLowest`: pop, and the tail of a Flush event, about which
    bundles differ in what they want to know) and the logger clean-up -/
structure ClosedW (P : BSt → Prop) : Prop where
  note : ∀ s, P s → P (s.emit (.notify "n:fmterr"))
  clock : ∀ s t, P s → P { s with now := s.now + t }
  lastFlush : ∀ s, P s → P { s with lastFlush := s.now }
  refresh : ∀ s, P s → P (refreshCache s)
  allEmpty : ∀ s, P s → P (allEmpty s).1
  hasPending : ∀ s, P s → P (hasPending s).1
  cleanupContexts : ∀ s, P s → P (cleanupContexts s)
  flushSinks : ∀ s, P s → P (flushSinks s)
  readPrep : ∀ s i, P s → P (readPrepSt s i)
  commit : ∀ s i, P s → P (commitSt s i)
  readOne : ∀ s i st rest, P s → (qPrepareRead s.cfg (s.th i).q).2 = true → (s.th i).qStmts = st :: rest →
              P (readOneSt s i st rest)
  report : ∀ s i, P s → (s.th i).fail > 0 → P (reportSt s i)

theorem ClosedW.fmtNote {P : BSt → Prop} (hc : ClosedW P) (s : BSt) (st : Stmt) (h : P s) : P (fmtNote s st) := by
  unfold Backend.fmtNote
  split
  · exact hc.note s h
  · exact h

section
variable {P : BSt → Prop} (hc : ClosedW P) {inj : BSt → Nat → BSt} (hi : ∀ s k, P s → P (inj s k))
include hc hi

theorem readQueue_okW (tsNow : Option Nat) (i : Nat) :
    ∀ (fuel total : Nat) (s : BSt), P s → P (readQueue inj tsNow i fuel total s) :=
  readQueue_pres P inj tsNow i (hc.readPrep · i) (hc.commit · i)
    (fun x st rest hx hr hq => hi _ 3 (hc.fmtNote _ st (hc.readOne x i st rest hx hr hq)))

theorem checkFailures_okW (s : BSt) (hs : P s) : P (checkFailures inj s) :=
  checkFailures_pres P inj (fun x i hx hf => hi _ 8 (hc.report x i hx hf)) s hs

theorem populate_okW (s : BSt) (hs : P s) : P (populate inj s).1 :=
  populate_pres P inj hc.refresh hi (fun tsNow i fuel x => readQueue_okW hc hi tsNow i fuel 0 x) s hs

theorem flushGate_okW (s : BSt) (n : Nat) (hs : P s) : P (flushGate inj s n) :=
  flushGate_pres P inj hc.flushSinks (hi · 7) hc.lastFlush s n hs

theorem ClosedW.passRules (hlow : ∀ s, P s → P (processLowest inj s).1) (hcl : ∀ s, P s → P (cleanupLoggers inj s)) :
    PassRules inj P P P where
  populate := populate_okW hc hi
  idle _ h := h
  lowest := hlow
  pending s h := ⟨hc.hasPending s h, fun _ => hc.hasPending s h⟩
  site := hi
  allEmpty := hc.allEmpty
  check := checkFailures_okW hc hi
  clock := hc.clock
  gate s h := flushGate_okW hc hi s _ h
  finalFlush := hc.flushSinks
  gcheck := checkFailures_okW hc hi
  gallEmpty := hc.allEmpty
  gclean := hc.cleanupContexts
  gidle _ h := h
  erase s h := hcl _ (preEraseFlush_pres P hc.flushSinks s h)

end

end Backend
