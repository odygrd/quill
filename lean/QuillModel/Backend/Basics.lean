import QuillModel.Backend.Model
import QuillModel.Util.ListLemmas
/-!
What the accessors of the backend state (`th`, `lgOf`, `sinkOf`, `actor`) see after one of the updates
(`updAt`, `setTh`, `setLg`, `setSink`, `setActor`, an appended context, logger or actor). One equation per
accessor/update pair; the case forms (`_same`, `_ne`, `_cases`, `_proj`) are read off it. Every invariant
proof of the backend model, bounded or unbounded, rests on these.
-/
namespace Backend

theorem updAt_length {α} (l : List α) (i : Nat) (f : α → α) : (updAt l i f).length = l.length := by
  simp [updAt]

theorem getElem?_updAt {α} (l : List α) (i j : Nat) (f : α → α) :
    (updAt l i f)[j]? = (l[j]?).map (fun x => if j = i then f x else x) := by
  simp only [updAt, List.getElem?_mapIdx]

theorem getD_updAt {α} (l : List α) (i j : Nat) (f : α → α) (d : α) :
    (updAt l i f).getD j d = if j = i ∧ j < l.length then f (l.getD j d) else l.getD j d := by
  simp only [List.getD_eq_getElem?_getD, getElem?_updAt]
  by_cases hj : j < l.length
  · simp [hj]
  · simp [hj]

theorem updAt_cons_zero {α} (x : α) (xs : List α) (f : α → α) : updAt (x :: xs) 0 f = f x :: xs := by
  apply List.ext_getElem?
  intro j
  rw [getElem?_updAt]
  cases j with
  | zero => rfl
  | succ k =>
    simp only [List.getElem?_cons_succ]
    cases xs[k]? with
    | none => rfl
    | some y => exact congrArg some (if_neg (Nat.succ_ne_zero k))

theorem updAt_cons_succ {α} (x : α) (xs : List α) (i : Nat) (f : α → α) :
    updAt (x :: xs) (i + 1) f = x :: updAt xs i f := by
  apply List.ext_getElem?
  intro j
  rw [getElem?_updAt]
  cases j with
  | zero => exact congrArg some (if_neg (Nat.succ_ne_zero i).symm)
  | succ k => simp only [List.getElem?_cons_succ, getElem?_updAt, Nat.add_right_cancel_iff]

theorem sum_map_updAt {α} (l : List α) (i : Nat) (f : α → α) (h : α → Nat) (hi : i < l.length) :
    ((updAt l i f).map h).sum + h l[i] = (l.map h).sum + h (f l[i]) := by
  induction l generalizing i with
  | nil => cases hi
  | cons x xs ih =>
    cases i with
    | zero =>
      rw [updAt_cons_zero]
      simp only [List.map_cons, List.sum_cons, List.getElem_cons_zero]
      omega
    | succ k =>
      have := ih k (Nat.lt_of_succ_lt_succ hi)
      rw [updAt_cons_succ]
      simp only [List.map_cons, List.sum_cons, List.getElem_cons_succ]
      omega

theorem updAt_of_ge {α} (l : List α) (i : Nat) (f : α → α) (h : l.length ≤ i) : updAt l i f = l := by
  apply List.ext_getElem?
  intro j
  rw [getElem?_updAt]
  by_cases hj : j < l.length
  · rw [List.getElem?_eq_getElem hj, Option.map_some, if_neg (by omega)]
  · rw [List.getElem?_eq_none (by omega)]; rfl

theorem updAt_eq_set {α} (l : List α) (i : Nat) (f : α → α) (hi : i < l.length) : updAt l i f = l.set i (f l[i]) := by
  apply List.ext_getElem?
  intro j
  rw [getElem?_updAt, List.getElem?_set]
  by_cases hj : j = i
  · subst hj; simp [hi]
  · rw [if_neg (Ne.symm hj)]
    cases l[j]? with
    | none => rfl
    | some y => exact congrArg some (if_neg hj)

theorem map_updAt_comm {α β} (l : List α) (i : Nat) (f : α → α) (p : α → β) (f' : β → β)
    (hc : ∀ x, p (f x) = f' (p x)) : (updAt l i f).map p = updAt (l.map p) i f' := by
  apply List.ext_getElem?
  intro j
  simp only [List.getElem?_map, getElem?_updAt]
  cases l[j]? with
  | none => rfl
  | some t => simp only [Option.map_some]; split <;> simp [hc]

theorem updAt_id {α} (l : List α) (i : Nat) : updAt l i (fun x => x) = l := by
  apply List.ext_getElem?
  intro j
  rw [getElem?_updAt]
  cases l[j]? with
  | none => rfl
  | some t => simp

theorem map_updAt {α β} (l : List α) (i : Nat) (f : α → α) (p : α → β) (h : ∀ x, p (f x) = p x) :
    (updAt l i f).map p = l.map p := by
  rw [map_updAt_comm l i f p (fun x => x) h, updAt_id]

theorem updAt_updAt {α} (l : List α) (i : Nat) (f g : α → α) :
    updAt (updAt l i f) i g = updAt l i (fun x => g (f x)) := by
  apply List.ext_getElem?
  intro j
  simp only [getElem?_updAt]
  cases l[j]? with
  | none => rfl
  | some t => simp only [Option.map_some]; split <;> rfl

theorem mem_updAt {α} {l : List α} {i : Nat} {f : α → α} {y : α} (h : y ∈ updAt l i f) :
    y ∈ l ∨ ∃ x ∈ l, y = f x := by
  obtain ⟨j, hj, e⟩ := List.mem_iff_getElem.mp h
  simp only [updAt, List.getElem_mapIdx] at e
  have hj' : j < l.length := by rw [updAt_length] at hj; exact hj
  split at e
  · exact .inr ⟨l[j], List.getElem_mem hj', e.symm⟩
  · exact .inl (e ▸ List.getElem_mem hj')

theorem th_setTh (s : BSt) (i j : Nat) (f : Th → Th) :
    (s.setTh i f).th j = if j = i ∧ j < s.ths.length then f (s.th j) else s.th j := by
  simp only [BSt.th, BSt.setTh, getD_updAt]

theorem th_setTh_same (s : BSt) {i : Nat} (f : Th → Th) (h : i < s.ths.length) : (s.setTh i f).th i = f (s.th i) := by
  rw [th_setTh, if_pos ⟨rfl, h⟩]

theorem th_setTh_ne (s : BSt) {i j : Nat} (f : Th → Th) (h : j ≠ i) : (s.setTh i f).th j = s.th j := by
  rw [th_setTh, if_neg (fun hh => h hh.1)]

theorem th_setTh_cases (s : BSt) (i j : Nat) (f : Th → Th) :
    (s.setTh i f).th j = s.th j ∨ (j = i ∧ j < s.ths.length ∧ (s.setTh i f).th j = f (s.th i)) := by
  rw [th_setTh]
  by_cases h : j = i ∧ j < s.ths.length
  · right; rw [if_pos h]; exact ⟨h.1, h.2, by rw [h.1]⟩
  · left; rw [if_neg h]

theorem th_setTh_proj {α} (φ : Th → α) (s : BSt) (i j : Nat) (f : Th → Th) (hf : ∀ t, φ (f t) = φ t) :
    φ ((s.setTh i f).th j) = φ (s.th j) := by
  rw [th_setTh]; split
  · exact hf _
  · rfl

theorem forall_th_setTh {Q : Th → Prop} (s : BSt) (i : Nat) (f : Th → Th)
    (h : ∀ j, Q (s.th j)) (hf : Q (s.th i) → Q (f (s.th i))) : ∀ j, Q ((s.setTh i f).th j) := by
  intro j
  rcases th_setTh_cases s i j f with e | ⟨_, _, e⟩ <;> rw [e]
  · exact h j
  · exact hf (h i)

theorem ths_length_setTh (s : BSt) (i : Nat) (f : Th → Th) : (s.setTh i f).ths.length = s.ths.length :=
  updAt_length _ _ _

theorem setTh_of_ge (s : BSt) (i : Nat) (f : Th → Th) (h : s.ths.length ≤ i) : s.setTh i f = s := by
  simp only [BSt.setTh, updAt_of_ge _ _ _ h]

theorem setTh_setTh (s : BSt) (i : Nat) (f g : Th → Th) : (s.setTh i f).setTh i g = s.setTh i (fun t => g (f t)) := by
  show ({ s with ths := updAt (updAt s.ths i f) i g } : BSt) = _
  rw [updAt_updAt]
  rfl

theorem th_of_ths_eq {s s' : BSt} (h : s'.ths = s.ths) (i : Nat) : s'.th i = s.th i := by simp only [BSt.th, h]

theorem th_default_of_ge (s : BSt) (i : Nat) (h : s.ths.length ≤ i) : s.th i = default := by
  simp [BSt.th, List.getD_eq_getElem?_getD, List.getElem?_eq_none h]

theorem th_of_ths_nil {s : BSt} (h : s.ths = []) (i : Nat) : s.th i = default :=
  th_default_of_ge s i (by rw [h]; exact Nat.zero_le i)

theorem lt_length_of_th {P : Th → Prop} {s : BSt} {i : Nat} (h : P (s.th i)) (hd : ¬ P default) : i < s.ths.length :=
  Nat.lt_of_not_le (fun hge => hd (th_default_of_ge s i hge ▸ h))

theorem buf_head_lt {s : BSt} {i : Nat} {st : Stmt} {rest : List Stmt} (hb : (s.th i).buf = st :: rest) :
    i < s.ths.length :=
  lt_length_of_th (P := fun t => t.buf = st :: rest) hb (fun h => nomatch h)

theorem qStmts_head_lt {s : BSt} {i : Nat} {st : Stmt} {rest : List Stmt} (hb : (s.th i).qStmts = st :: rest) :
    i < s.ths.length :=
  lt_length_of_th (P := fun t => t.qStmts = st :: rest) hb (fun h => nomatch h)

theorem th_eq_getElem (s : BSt) (i : Nat) (h : i < s.ths.length) : s.th i = s.ths[i] := by
  simp only [BSt.th, List.getD_eq_getElem?_getD, List.getElem?_eq_getElem h, Option.getD_some]

theorem th_mem (s : BSt) {i : Nat} (h : i < s.ths.length) : s.th i ∈ s.ths :=
  th_eq_getElem s i h ▸ List.getElem_mem h

theorem mem_ths (s : BSt) {t : Th} (h : t ∈ s.ths) : ∃ i, i < s.ths.length ∧ s.th i = t := by
  obtain ⟨i, hi, rfl⟩ := List.getElem_of_mem h
  exact ⟨i, hi, th_eq_getElem s i hi⟩

theorem getD_append_one {α} (l : List α) (t d : α) (j : Nat) :
    (l ++ [t]).getD j d = if j = l.length then t else l.getD j d := by
  simp only [List.getD_eq_getElem?_getD]
  by_cases h1 : j < l.length
  · rw [List.getElem?_append_left h1, if_neg (Nat.ne_of_lt h1)]
  · by_cases h2 : j = l.length
    · subst h2; simp
    · rw [if_neg h2, List.getElem?_eq_none (by simp; omega), List.getElem?_eq_none (by omega)]

theorem th_append {s X : BSt} {t : Th} (hX : X.ths = s.ths ++ [t]) (j : Nat) :
    X.th j = if j = s.ths.length then t else s.th j := by
  simp only [BSt.th, hX, getD_append_one]

theorem lgOf_setLg (s : BSt) (i j : Nat) (f : Lg → Lg) :
    (s.setLg i f).lgOf j = if j = i ∧ j < s.lgs.length then f (s.lgOf j) else s.lgOf j := by
  simp only [BSt.lgOf, BSt.setLg, getD_updAt]

theorem lgOf_setLg_proj {α} (φ : Lg → α) (s : BSt) (i j : Nat) (f : Lg → Lg) (hf : ∀ l, φ (f l) = φ l) :
    φ ((s.setLg i f).lgOf j) = φ (s.lgOf j) := by
  rw [lgOf_setLg]; split
  · exact hf _
  · rfl

theorem lgs_length_setLg (s : BSt) (i : Nat) (f : Lg → Lg) : (s.setLg i f).lgs.length = s.lgs.length :=
  updAt_length _ _ _

theorem lgOf_default_of_ge (s : BSt) (i : Nat) (h : s.lgs.length ≤ i) : s.lgOf i = default := by
  simp [BSt.lgOf, List.getD_eq_getElem?_getD, List.getElem?_eq_none h]

theorem lt_length_of_lgOf {P : Lg → Prop} {s : BSt} {i : Nat} (h : P (s.lgOf i)) (hd : ¬ P default) : i < s.lgs.length :=
  Nat.lt_of_not_le (fun hge => hd (lgOf_default_of_ge s i hge ▸ h))

theorem lgOf_lt_of_sink {s : BSt} {i sid : Nat} (hs : sid ∈ (s.lgOf i).sinks) : i < s.lgs.length :=
  lt_length_of_lgOf (P := fun l => sid ∈ l.sinks) hs (fun h => nomatch h)

theorem lgOf_bt_lt {s : BSt} {i : Nat} {r : Ring} (h : (s.lgOf i).bt = some r) : i < s.lgs.length :=
  lt_length_of_lgOf (P := fun l => l.bt = some r) h (fun h => nomatch h)

theorem lgOf_eq_getElem (s : BSt) (i : Nat) (hi : i < s.lgs.length) : s.lgOf i = s.lgs[i] := by
  simp only [BSt.lgOf, List.getD_eq_getElem?_getD, List.getElem?_eq_getElem hi, Option.getD_some]

theorem lgOf_of_lgs {s s' : BSt} (h : s'.lgs = s.lgs) (i : Nat) : s'.lgOf i = s.lgOf i := by simp only [BSt.lgOf, h]

theorem lgOf_append {s X : BSt} {l : Lg} (hX : X.lgs = s.lgs ++ [l]) (j : Nat) :
    X.lgOf j = if j = s.lgs.length then l else s.lgOf j := by
  simp only [BSt.lgOf, hX, getD_append_one]

/-! The model rewrites a sink either field by field or by a copy with the same id: the hypothesis `hf` covers both -/

theorem sinkOf_find {s : BSt} {sid : Nat} {x : Sink} (h : s.sinks.find? (·.sid = sid) = some x) :
    s.sinkOf sid = x ∧ x.sid = sid ∧ x ∈ s.sinks :=
  ⟨by simp only [BSt.sinkOf, h, Option.getD_some], by simpa using List.find?_some h, List.mem_of_find?_eq_some h⟩

theorem find_sinks_isSome {s : BSt} {sid : Nat} : (s.sinks.find? (·.sid = sid)).isSome ↔ ∃ x ∈ s.sinks, x.sid = sid := by
  simp [List.find?_isSome]

theorem sinkOf_default_of_not_mem (s : BSt) (sid : Nat) (h : ¬ ∃ x ∈ s.sinks, x.sid = sid) : s.sinkOf sid = default := by
  have : s.sinks.find? (·.sid = sid) = none := by
    rw [← Option.not_isSome_iff_eq_none, find_sinks_isSome]; exact h
  simp only [BSt.sinkOf, this, Option.getD_none]

theorem sinkOf_sid {s : BSt} {sid : Nat} (h : ∃ x ∈ s.sinks, x.sid = sid) : (s.sinkOf sid).sid = sid := by
  cases hfd : s.sinks.find? (·.sid = sid) with
  | none => rw [← find_sinks_isSome, hfd] at h; cases h
  | some k => obtain ⟨e, hk, _⟩ := sinkOf_find hfd; rw [e, hk]

theorem find_setSink (s : BSt) (sid j : Nat) (f : Sink → Sink) (hf : ∀ k, k.sid = sid → (f k).sid = sid) :
    (s.setSink sid f).sinks.find? (·.sid = j) =
      (s.sinks.find? (·.sid = j)).map (fun x => if x.sid = sid then f x else x) := by
  simp only [BSt.setSink]
  induction s.sinks with
  | nil => rfl
  | cons x xs ih =>
    simp only [List.map_cons, List.find?_cons]
    by_cases hx : x.sid = sid
    · simp only [hx, if_true, hf x hx]
      by_cases hj : sid = j
      · simp [hj, hx]
      · simp only [hj, decide_false]
        simpa [hx] using ih
    · simp only [hx, if_false]
      by_cases hj : x.sid = j
      · simp only [hj, decide_true, Option.map_some]
        rw [if_neg (by omega)]
      · simp only [hj, decide_false]
        exact ih

theorem sinkOf_setSink (s : BSt) (sid j : Nat) (f : Sink → Sink) (hf : ∀ k, k.sid = sid → (f k).sid = sid) :
    (s.setSink sid f).sinkOf j =
      if j = sid ∧ ∃ x ∈ s.sinks, x.sid = j then f (s.sinkOf j) else s.sinkOf j := by
  simp only [BSt.sinkOf, find_setSink _ _ _ _ hf, ← find_sinks_isSome]
  cases hfd : s.sinks.find? (·.sid = j) with
  | none => simp
  | some k =>
    have hk : k.sid = j := (sinkOf_find hfd).2.1
    by_cases hj : j = sid
    · simp [hj, hk ▸ hj]
    · have : ¬ k.sid = sid := by omega
      simp [hj, this]

theorem sinkOf_setSink_ne (s : BSt) {sid j : Nat} (f : Sink → Sink) (hf : ∀ k, k.sid = sid → (f k).sid = sid)
    (h : j ≠ sid) : (s.setSink sid f).sinkOf j = s.sinkOf j := by
  rw [sinkOf_setSink s sid j f hf, if_neg (fun hh => h hh.1)]

theorem sinkOf_setSink_same (s : BSt) {sid : Nat} (f : Sink → Sink) (hf : ∀ k, k.sid = sid → (f k).sid = sid)
    (hex : ∃ x ∈ s.sinks, x.sid = sid) : (s.setSink sid f).sinkOf sid = f (s.sinkOf sid) := by
  rw [sinkOf_setSink s sid sid f hf, if_pos ⟨rfl, hex⟩]

theorem sinkOf_setSink_cases (s : BSt) (sid : Nat) (f : Sink → Sink) (hf : ∀ k, k.sid = sid → (f k).sid = sid) (j : Nat) :
    (s.setSink sid f).sinkOf j = s.sinkOf j ∨
      (j = sid ∧ (∃ x ∈ s.sinks, x.sid = sid) ∧ (s.setSink sid f).sinkOf j = f (s.sinkOf sid)) := by
  rw [sinkOf_setSink s sid j f hf]
  by_cases h : j = sid ∧ ∃ x ∈ s.sinks, x.sid = j
  · right; rw [if_pos h]; obtain ⟨rfl, h2⟩ := h; exact ⟨rfl, h2, rfl⟩
  · left; rw [if_neg h]

theorem sinkOf_setSink_proj {α} (φ : Sink → α) (s : BSt) (sid : Nat) (f : Sink → Sink)
    (hf : ∀ k, k.sid = sid → (f k).sid = sid) (hp : ∀ x, φ (f x) = φ x) (j : Nat) :
    φ ((s.setSink sid f).sinkOf j) = φ (s.sinkOf j) := by
  rcases sinkOf_setSink_cases s sid f hf j with e | ⟨rfl, _, e⟩ <;> rw [e]
  exact hp _

theorem setSink_absent (s : BSt) (sid : Nat) (f : Sink → Sink) (h : ¬ ∃ x ∈ s.sinks, x.sid = sid) :
    s.setSink sid f = s := by
  have : s.sinks.map (fun x => if x.sid = sid then f x else x) = s.sinks := by
    calc s.sinks.map (fun x => if x.sid = sid then f x else x) = s.sinks.map id :=
          List.map_congr_left (fun x hx => if_neg (fun e => h ⟨x, hx, e⟩))
      _ = s.sinks := List.map_id _
  simp only [BSt.setSink, this]

theorem actor_find {s : BSt} {a : Nat} {x : Actor} (h : s.actor a = some x) : x.id = a ∧ x.alive = true ∧ x ∈ s.actors :=
  ⟨(by simpa using List.find?_some h : x.id = a ∧ x.alive = true).1,
   (by simpa using List.find?_some h : x.id = a ∧ x.alive = true).2, List.mem_of_find?_eq_some h⟩

theorem mem_setActor {s : BSt} {a : Nat} {f : Actor → Actor} {y : Actor} (h : y ∈ (s.setActor a f).actors) :
    ∃ x ∈ s.actors, y = if x.id = a ∧ x.alive then f x else x := by
  simp only [BSt.setActor, List.mem_map] at h
  obtain ⟨x, hx, he⟩ := h
  exact ⟨x, hx, he.symm⟩

theorem mem_setActor_cases {s : BSt} {a : Nat} {f : Actor → Actor} {x' : Actor} (hx' : x' ∈ (s.setActor a f).actors) :
    ∃ x ∈ s.actors, (x.id = a ∧ x.alive = true ∧ x' = f x) ∨ (¬ (x.id = a ∧ x.alive = true) ∧ x' = x) := by
  obtain ⟨x, hx, rfl⟩ := mem_setActor hx'
  by_cases hc : x.id = a ∧ x.alive = true
  · exact ⟨x, hx, .inl ⟨hc.1, hc.2, if_pos hc⟩⟩
  · exact ⟨x, hx, .inr ⟨hc, if_neg hc⟩⟩

theorem mem_setActor_other {s : BSt} {a : Nat} {f : Actor → Actor} {y : Actor} (hy : y ∈ (s.setActor a f).actors)
    (hid : ∀ x, (f x).id = x.id) (hne : y.id ≠ a) : y ∈ s.actors := by
  obtain ⟨x, hx, ⟨h1, _, rfl⟩ | ⟨_, rfl⟩⟩ := mem_setActor_cases hy
  · exact absurd ((hid x).trans h1) hne
  · exact hx

theorem mem_setActor_own {s : BSt} {a : Nat} {f : Actor → Actor} {x' : Actor} (hx' : x' ∈ (s.setActor a f).actors)
    (h1 : x'.id = a) (h2 : x'.alive = true) : ∃ x, x' = f x := by
  obtain ⟨x, _, ⟨_, _, e⟩ | ⟨hn, rfl⟩⟩ := mem_setActor_cases hx'
  · exact ⟨x, e⟩
  · exact absurd ⟨h1, h2⟩ hn

theorem actor_setActor_ne (s : BSt) {a b : Nat} (g : Actor → Actor) (hid : ∀ x, (g x).id = x.id) (h : b ≠ a) :
    (s.setActor a g).actor b = s.actor b := by
  simp only [BSt.setActor, BSt.actor]
  induction s.actors with
  | nil => rfl
  | cons x xs ih =>
    simp only [List.map_cons, List.find?_cons]
    by_cases hx : x.id = a ∧ x.alive
    · have h1 : ¬ (x.id = b ∧ x.alive = true) := fun hh => h (hh.1.symm.trans hx.1)
      have h2 : ¬ ((g x).id = b ∧ (g x).alive = true) := by rw [hid]; exact fun hh => h (hh.1.symm.trans hx.1)
      rw [if_pos hx, decide_eq_false h1, decide_eq_false h2]; exact ih
    · rw [if_neg hx, ih]

theorem actor_setActor_same (s : BSt) (a : Nat) (g : Actor → Actor) (hid : ∀ x, (g x).id = x.id)
    (hal : ∀ x, (g x).alive = x.alive) : (s.setActor a g).actor a = (s.actor a).map g := by
  simp only [BSt.setActor, BSt.actor]
  induction s.actors with
  | nil => rfl
  | cons x xs ih =>
    simp only [List.map_cons, List.find?_cons]
    by_cases hx : x.id = a ∧ x.alive
    · have : (g x).id = a ∧ (g x).alive := by rw [hid, hal]; exact hx
      rw [if_pos hx, decide_eq_true this, decide_eq_true hx]; rfl
    · rw [if_neg hx, decide_eq_false hx]; exact ih

theorem actor_setActor_kill (s : BSt) (a : Nat) (g : Actor → Actor) (hal : ∀ x, (g x).alive = false) :
    (s.setActor a g).actor a = none := by
  simp only [BSt.setActor, BSt.actor]
  induction s.actors with
  | nil => rfl
  | cons x xs ih =>
    simp only [List.map_cons, List.find?_cons]
    by_cases hx : x.id = a ∧ x.alive
    · have : ¬ ((g x).id = a ∧ (g x).alive = true) := by rw [hal]; simp
      rw [if_pos hx, decide_eq_false this]; exact ih
    · rw [if_neg hx, decide_eq_false hx]; exact ih

theorem actor_setActor_some {s : BSt} {a : Nat} {f : Actor → Actor} {x : Actor} (hx : (s.setActor a f).actor a = some x)
    (hid : ∀ x, (f x).id = x.id) (hal : ∀ x, (f x).alive = x.alive) :
    ∃ y, s.actor a = some y ∧ x = f y := by
  rw [actor_setActor_same s a f hid hal] at hx
  cases hy : s.actor a with
  | none => rw [hy] at hx; cases hx
  | some y => rw [hy] at hx; exact ⟨y, rfl, (Option.some.inj hx).symm⟩

theorem actor_append (s : BSt) (a b : Nat) (h : s.actor a = none) :
    ({ s with actors := s.actors ++ [{ id := a }] } : BSt).actor b = if b = a then some { id := a } else s.actor b := by
  unfold BSt.actor at *
  simp only [List.find?_append]
  by_cases hb : b = a
  · subst hb
    rw [h, if_pos rfl]
    simp
  · rw [if_neg hb]
    have : ¬ (a = b ∧ True) := fun hh => hb hh.1.symm
    simp only [List.find?_cons, decide_eq_false this, List.find?_nil, Option.or_none]

theorem rel_of_ths {r : Th → Th → Prop} (hr : ∀ t, r t t) {s s' : BSt} (h : s'.ths = s.ths) (j : Nat) : r (s.th j) (s'.th j) := by
  rw [th_of_ths_eq h]; exact hr _

theorem rel_setTh {r : Th → Th → Prop} (hr : ∀ t, r t t) (s : BSt) (i : Nat) (f : Th → Th) (hf : r (s.th i) (f (s.th i))) (j : Nat) :
    r (s.th j) ((s.setTh i f).th j) := by
  rcases th_setTh_cases s i j f with h1 | ⟨rfl, _, h1⟩ <;> rw [h1]
  · exact hr _
  · exact hf

theorem sum_ths_range (s : BSt) (φ : Th → Nat) (hd : φ default = 0) (n : Nat) (hn : s.ths.length ≤ n) :
    (s.ths.map φ).sum = ((List.range n).map (fun j => φ (s.th j))).sum := by
  obtain ⟨d, rfl⟩ := Nat.exists_eq_add_of_le hn
  rw [List.range_add, List.map_append, List.sum_append, List.map_map]
  have hz : ((List.range d).map ((fun j => φ (s.th j)) ∘ fun x => s.ths.length + x)).sum = 0 :=
    List.sum_eq_zero_iff_forall_eq_nat.mpr (fun x hx => by
      obtain ⟨k, _, rfl⟩ := List.mem_map.mp hx
      show φ (s.th (s.ths.length + k)) = 0
      rw [th_default_of_ge s _ (Nat.le_add_right _ _)]; exact hd)
  rw [hz, Nat.add_zero]
  congr 1
  apply List.ext_getElem
  · simp
  · intro j h1 h2
    simp only [List.length_map, List.length_range] at h2
    simp only [List.getElem_map, List.getElem_range, th_eq_getElem s j h2]

end Backend

namespace Backend.PA

theorem lgOf_bt_none {s : BSt} (hb : ∀ l ∈ s.lgs, l.bt = none) (i : Nat) : (s.lgOf i).bt = none := by
  rcases Nat.lt_or_ge i s.lgs.length with h | h
  · rw [lgOf_eq_getElem s i h]
    exact hb _ (List.getElem_mem h)
  · rw [lgOf_default_of_ge s i h]
    rfl

end Backend.PA
