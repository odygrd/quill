import QuillModel.Backend.ConcMono
/-!
# A call parked on a flag has its request record in the accepted history (for C17)

When the body of a public call leaves its caller parked on `Pend.flag f`, the record it has just committed carries the flag
`f` (so it is the Flush / removal request of exactly this call) and is in the accepted history, which only grows along a
schedule. For `remove_logger_blocking` the record is a `Kind.removal f` naming the logger object the call resolved.
-/
namespace Backend.PB

theorem acc_of_ths {s s' : BSt} (h : s'.ths = s.ths) (i : Nat) : (s'.th i).accepted = (s.th i).accepted :=
  congrArg Th.accepted (th_of_ths_eq h i)

theorem accepted_mono_run (s : BSt) (ops : List Op) (i : Nat) (r : Stmt) (h : r ∈ (s.th i).accepted) :
    r ∈ ((runOps s ops).th i).accepted :=
  (mono_runOps ops s).mem_acc h

theorem pendOf_of_actors {s s' : BSt} (h : s'.actors = s.actors) (a : Nat) : pendOf s' a = pendOf s a := by
  simp only [pendOf, BSt.actor, h]

theorem tryEnq_ok_mem (s : BSt) (ci : Nat) (st : Stmt) (hci : ci < s.ths.length) (hok : (Backend.tryEnq s ci st).2 = true) :
    { st with enqAt := s.now } ∈ ((Backend.tryEnq s ci st).1.th ci).accepted := by
  rcases tryEnq_cases s ci st with ⟨_, e⟩ | ⟨_, e⟩ <;> rw [e] at hok ⊢
  · rw [th_setTh_same s _ hci]; exact List.mem_append_right _ (List.mem_singleton_self _)
  · cases hok

/-- `Kind.flush f` with continuation 1 is `flush_log`, `Kind.removal f` with continuation 4 is `remove_logger_blocking`; the
    record in the accepted history is `st` with the commit clock filled in. `hctx`: the caller's context, if it has one, exists. -/
theorem enqFlow_flag_post (s : BSt) (a : Nat) (st : Stmt) (cont : Nat) (first initial : Bool)
    (hctx : ∀ x j, s.actor a = some x → x.ctx = some j → j < s.ths.length) (f : Nat)
    (hp : pendOf (Backend.enqFlow s a st cont first initial).1 a = some (.flag f)) :
    ((cont = 1 ∧ st.kind = .flush f) ∨ (cont = 4 ∧ st.kind = .removal f)) ∧
    ∃ i r, r ∈ ((Backend.enqFlow s a st cont first initial).1.th i).accepted ∧ r.kind = st.kind ∧ r.lg = st.lg ∧
      r.actor = st.actor ∧ r.id = st.id ∧ r.ts = st.ts := by
  have hset : ∀ (X : BSt) (p' : Pend), pendOf (Backend.setPend X a p') a = some (.flag f) → p' = .flag f := by
    intro X p' h
    exact ((pendOf_setActor_set X a (fun x => { x with pend := p' }) (fun _ => rfl) (fun _ => rfl) p' (fun _ => rfl)).1 _ h).symm
  have hs := enqFlow_shape s a st cont first initial
  generalize Backend.enqFlow s a st cont first initial = r at hs hp ⊢
  cases hs with
  | dropped | dropRetry | blocked => exact absurd (hset _ _ hp) (by simp)
  | @granted s1 s2 ci hc he =>
    have hlt := PC.ensureCtx_lt s a hctx
    have hm := tryEnq_ok_mem s1 ci st (by rw [hc] at hlt; exact hlt) (by rw [he])
    rw [he] at hm
    have hrec : ∀ (Y : BSt), Y.ths = s2.ths → ∃ i r, r ∈ (Y.th i).accepted ∧ r.kind = st.kind ∧ r.lg = st.lg ∧
        r.actor = st.actor ∧ r.id = st.id ∧ r.ts = st.ts := by
      intro Y hY
      refine ⟨ci, { st with enqAt := s1.now }, ?_, rfl, rfl, rfl, rfl, rfl⟩
      rw [acc_of_ths hY]; exact hm
    have hnone : ∀ (Y : BSt), Y.actors = (Backend.setPend s2 a .none).actors → pendOf Y a = some (.flag f) → False := by
      intro Y hY h
      rw [pendOf_of_actors hY] at h
      exact absurd (hset _ _ h) (by simp)
    -- only the two continuations that wait for a flag leave the caller on `Pend.flag`
    unfold Backend.afterEnq at hp ⊢
    split at hp
    · rename_i f' hk
      have := hset _ _ hp
      simp only [Pend.flag.injEq] at this
      subst this
      exact ⟨Or.inl ⟨rfl, hk⟩, hrec _ rfl⟩
    · exact (hnone _ rfl hp).elim
    · exact (hnone _ rfl hp).elim
    · rename_i f' hk
      have := hset _ _ hp
      simp only [Pend.flag.injEq] at this
      subst this
      exact ⟨Or.inr ⟨rfl, hk⟩, hrec _ rfl⟩
    · exact (hnone _ rfl hp).elim

/-- `hp` beside `hres`: the other way to answer "parked:sleep" — the request was refused by a full queue and is being
    retried — leaves the caller on `Pend.retry`, not on a flag. -/
theorem removeBlocking_parks_on_record (s : BSt) (a g f : Nat)
    (hctx : ∀ x j, s.actor a = some x → x.ctx = some j → j < s.ths.length)
    (hres : (Backend.applyFront s (.removeBlocking a g)).2 = "parked:sleep")
    (hp : pendOf (Backend.applyFront s (.removeBlocking a g)).1 a = some (.flag f)) :
    ∃ lgi, loggerOf s g = some lgi ∧ f = s.nextFlag ∧
      ∃ i r, r ∈ ((Backend.applyFront s (.removeBlocking a g)).1.th i).accepted ∧ r.kind = .removal f ∧ r.lg = lgi ∧
        r.actor = a := by
  have hnoop : ("noop" : String) ≠ "parked:sleep" := by decide
  have hstall : ("parked:stall" : String) ≠ "parked:sleep" := by decide
  have hs := applyFront_shape s (.removeBlocking a g)
  generalize Backend.applyFront s (.removeBlocking a g) = r at hs hres hp ⊢
  cases hs with
  | noop _ _ ho =>
    rcases ho with rfl | ⟨hq, _⟩
    · exact absurd hres hnoop
    · cases hq
  | logSkip hf => cases hf
  | @call _ _ _ lgi _ _ _ _ _ _ _ _ ho hpre hl =>
    cases ho with
    | log hf => cases hf
    | removeBlocking =>
      cases hpre
      refine ⟨lgi, hl, ?_⟩
      have hs := frontCall_shape (dropName { s with nextFlag := s.nextFlag + 1 } g) a lgi (.removal s.nextFlag) 8 0 4 false 0 false
      generalize Backend.frontCall (dropName { s with nextFlag := s.nextFlag + 1 } g) a lgi (.removal s.nextFlag) 8 0 4 false 0 false = r
        at hs hres hp ⊢
      have hnp : pendOf (noteCall r a g).1 a = pendOf r.1 a := by
        refine pendOf_setActor_keep r.1 a _ ?_ ?_ ?_ a <;> intro _ <;> rfl
      rw [hnp] at hp
      have hnt : ∀ i, (noteCall r a g).1.th i = r.1.th i := fun _ => rfl
      simp only [hnt]
      cases hs with
      | stalled => exact absurd hres hstall
      | enq =>
        obtain ⟨hk, i, r, h1, h2, h3, h4, _, _⟩ :=
          enqFlow_flag_post (dropName { s with nextFlag := s.nextFlag + 1 } g) a _ 4 true true hctx f hp
        have hf : f = s.nextFlag := by
          rcases hk with ⟨hc, _⟩ | ⟨_, hk⟩
          · cases hc
          · exact (Kind.removal.inj hk).symm
        exact ⟨hf, i, r, h1, by rw [h2, hf]; rfl, h3, h4⟩

end Backend.PB
