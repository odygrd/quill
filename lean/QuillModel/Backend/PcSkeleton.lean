import QuillModel.Backend.PcBasic
import QuillModel.Backend.FrontRel
import QuillModel.Backend.Pass
/-!
The skeleton of bundle C over the walk of `Pass.lean`: `Closed P` lists the steps a property `P` must be stable under —
finer than bundle A's `Frame`, so that a property about emitted events, flags or logger objects can be carried — and
`runOps_closed` concludes that `P` holds after every schedule, polls with frontend operations injected at the hook sites
included. `ClosedB` is `Closed` without the frontend, `ClosedC` is `ClosedB` without the bookkeeping that only serves the
injection runner (handed in through `InjOK`). What the runner must leave alone for the guards of `raise` and
`flagRemoval` (the pop history; the logger objects at hook site 9) is part of `InjOK`. The first loop of the logger
clean-up, where a property may be broken between the erase of a logger and the visit of the last of its sinks, is walked
in `Pass.lean` (`lgFold_rule`) for a predicate of the sinks still to visit, the state and the names noted; this bundle's
predicate is `LgAcc`. In the middle of the file: what no frontend operation changes (`fv3`, `gev`), for `injOK_runInj`.
-/
namespace Backend.PC

theorem qStmts_decode_prep (s : BSt) (i : Nat) (st : Stmt) (j : Nat) :
    ((decodeSt (readPrepSt s i) st).th j).qStmts = (s.th j).qStmts := by
  obtain ⟨rf, e⟩ := decodeSt_same (readPrepSt s i) st
  rw [e]
  show ((readPrepSt s i).th j).qStmts = _
  unfold readPrepSt
  exact qStmts_setTh _ _ _ _ (fun _ => rfl)

def LgMono (s s' : BSt) : Prop :=
  s'.lgs.length = s.lgs.length ∧
  ∀ j, (s'.lgOf j).gid = (s.lgOf j).gid ∧ ((s.lgOf j).erased = true → (s'.lgOf j).erased = true)

theorem LgMono.refl (s : BSt) : LgMono s s := ⟨rfl, fun _ => ⟨rfl, id⟩⟩
theorem LgMono.trans {a b c : BSt} (h1 : LgMono a b) (h2 : LgMono b c) : LgMono a c :=
  ⟨h2.1.trans h1.1, fun j => ⟨(h2.2 j).1.trans (h1.2 j).1, fun h => (h2.2 j).2 ((h1.2 j).2 h)⟩⟩
theorem LgMono.of_lgs {s s' : BSt} (h : s'.lgs = s.lgs) : LgMono s s' := by
  have : ∀ j, s'.lgOf j = s.lgOf j := fun j => by simp only [BSt.lgOf, h]
  exact ⟨by rw [h], fun j => by rw [this]; exact ⟨rfl, id⟩⟩

/-- since the state `s0` the logger clean-up started from, a logger object of name `g` that was not erased then has
    been erased (and no object was added or renamed) -/
def ErasedNow (s0 s : BSt) (g : Nat) : Prop :=
  LgMono s0 s ∧ ∃ j, j < s0.lgs.length ∧ (s0.lgOf j).erased = false ∧ (s0.lgOf j).gid = g ∧ (s.lgOf j).erased = true

theorem ErasedNow.mono {s0 a b : BSt} {g : Nat} (h : ErasedNow s0 a g) (hab : LgMono a b) : ErasedNow s0 b g := by
  obtain ⟨h1, j, j1, j2, j3, j4⟩ := h
  exact ⟨h1.trans hab, j, j1, j2, j3, (hab.2 j).2 j4⟩

theorem LgMono.erase (s : BSt) (i : Nat) : LgMono s (s.setLg i (fun l => { l with erased := true })) := by
  refine ⟨lgs_length_setLg s i _, fun j => ?_⟩
  rw [lgOf_setLg]; split
  · exact ⟨rfl, fun _ => rfl⟩
  · exact ⟨rfl, id⟩

/-- what the first loop knows for a property `P` the steps keep -/
def LgAcc (P : BSt → Prop) (s0 x : BSt) (r : List Nat) : Prop := P x ∧ LgMono s0 x ∧ ∀ g ∈ r, ErasedNow s0 x g

theorem LgAcc.mono {P : BSt → Prop} {s0 x y : BSt} {r : List Nat} (h : LgAcc P s0 x r) (hy : P y) (hxy : LgMono x y) :
    LgAcc P s0 y r :=
  ⟨hy, h.2.1.trans hxy, fun g hg => (h.2.2 g hg).mono hxy⟩

theorem LgAcc.erase {P : BSt → Prop} {s0 x y : BSt} {r : List Nat} (h : LgAcc P s0 x r) {i : Nat} (hlt : i < s0.lgs.length)
    (hne : (s0.lgOf i).erased = false) (hy : y.lgs = x.lgs) (hP : P (y.setLg i (fun l => { l with erased := true }))) :
    LgAcc P s0 (y.setLg i (fun l => { l with erased := true })) (r ++ [(x.lgOf i).gid]) := by
  have hm : LgMono x (y.setLg i (fun l => { l with erased := true })) := (LgMono.of_lgs hy).trans (LgMono.erase _ i)
  refine ⟨hP, h.2.1.trans hm, fun g hg => ?_⟩
  rcases List.mem_append.mp hg with hg | hg
  · exact (h.2.2 g hg).mono hm
  · rw [List.mem_singleton] at hg
    refine ⟨h.2.1.trans hm, i, hlt, hne, by rw [hg, (h.2.1.2 i).1], ?_⟩
    rw [lgOf_setLg, if_pos ⟨rfl, by rw [hy, h.2.1.1]; exact hlt⟩]

/-- bundle C's list of obligations. `clock`, `gone`, `lastFlush`, `siteCnt` allow any value: a property that reads the
    clock monotonically or the two flags is not one of these; it is walked through `PassRules` (Pass.lean) directly. -/
structure ClosedB (P : BSt → Prop) : Prop where
  siteCnt : ∀ s x, P s → P { s with siteCnt := x }
  emitInj : ∀ s a b c d, P s → P (s.emit (.inj a b c d))
  note : ∀ s, P s → P (s.emit (.notify "n:fmterr"))
  clock : ∀ s n, P s → P { s with now := n }
  lastFlush : ∀ s n, P s → P { s with lastFlush := n }
  gone : ∀ s, P s → P { s with backendGone := true }
  refresh : ∀ s, P s → P (refreshCache s)
  allEmpty : ∀ s, P s → P (allEmpty s).1
  hasPending : ∀ s, P s → P (hasPending s).1
  cleanupContexts : ∀ s, P s → P (cleanupContexts s)
  invFlag : ∀ s b, P s → P { s with hasInvalidLoggers := b }
  erase : ∀ s i, P s → (s.lgOf i).valid = false → (Backend.allEmpty s).2 = true →
            P ((Backend.allEmpty s).1.setLg i (fun l => { l with erased := true }))
  reap : ∀ s sid, P s → (s.sinkOf sid).alive = true → sinkRefs s sid = 0 →
            P ((s.setSink sid (fun k => { k with alive := false })).emit (.sinkDtor sid))
  /-- `s0`: the state in which the logger clean-up started -/
  flagRemoval : ∀ s0 s f g, P s0 → P s → ErasedNow s0 s g →
            (∃ g', s.removalFlags.find? (·.1 = g) = some (g', f)) →
            P { s with flags := f :: s.flags, flagLog := (f, s.log.length) :: s.flagLog,
                       removalFlags := s.removalFlags.filter (·.1 ≠ g) }
  flushSinks : ∀ s, P s → P (flushSinks s)
  readPrep : ∀ s i, P s → P (readPrepSt s i)
  commit : ∀ s i, P s → P (commitSt s i)
  readOne : ∀ s i st rest, P s → (qPrepareRead s.cfg (s.th i).q).2 = true → (s.th i).qStmts = st :: rest →
              P (readOneSt s i st rest)
  report : ∀ s i, P s → (s.th i).fail > 0 → P (reportSt s i)
  pop : ∀ s i st rest, P s → lowest s = some i → (s.th i).buf = st :: rest → P (popSt s i st rest)
  raise : ∀ s f, P s → (∃ st, s.popLog.head? = some st ∧ st.kind = .flush f) → P (raiseSt s f)

structure Closed (P : BSt → Prop) : Prop extends ClosedB P where
  front : ∀ s f, P s → P (applyFront s f).1

/-- what bundle C asks of an injection runner: it keeps `P`, leaves the pop history alone and, at hook site 9 (inside the
    logger clean-up), lets loggers only be erased -/
def InjOK (P : BSt → Prop) (inj : BSt → Nat → BSt) : Prop :=
  ∀ s k, P s → P (inj s k) ∧ (inj s k).popLog = s.popLog ∧ (k = 9 → LgMono s (inj s k))

/-- flags raised, removal flags recorded, pop history: what only the backend writes -/
def fv3 (s : BSt) : List Nat × List (Nat × Nat) × List Stmt := (s.flags, s.removalFlags, s.popLog)

theorem fv3_frontRel : FrontRel (fun s s' => fv3 s' = fv3 s) where
  refl := fun _ => rfl
  trans := fun h h' => h'.trans h
  tick := fun _ _ => rfl
  misc := fun _ _ _ _ _ _ _ _ _ _ _ _ => rfl
  setThMisc := fun _ _ _ _ _ => rfl
  ensureCtx := fun s a => of_sinkPart fv3 (fun _ => rfl) (sinkPart_stepRel.ensureCtx s a)
  tryEnq := fun s ci st => of_sinkPart fv3 (fun _ => rfl) (sinkPart_stepRel.tryEnq s ci st)

theorem applyFront_popLog (s : BSt) (f : FOp) : (applyFront s f).1.popLog = s.popLog :=
  congrArg (·.2.2) (fv3_frontRel.applyFront s f)

theorem runInj_popLog (table : List (Nat × Nat × List FOp)) (s : BSt) (site : Nat) :
    (runInj table s site).popLog = s.popLog :=
  congrArg (·.2.2) (fv3_frontRel.runInj table s site)

/-- names and erasure flags of the logger objects: of the frontend only `create` changes them (it adds an object) -/
def gev (s : BSt) : List (Nat × Bool) := s.lgs.map (fun l => (l.gid, l.erased))

theorem LgMono.of_gev {s s' : BSt} (h : gev s' = gev s) : LgMono s s' := by
  have hlen : s'.lgs.length = s.lgs.length := by
    have := congrArg List.length h; simpa [gev] using this
  refine ⟨hlen, fun j => ?_⟩
  obtain ⟨hg, he⟩ := Prod.mk.inj (getD_of_map_eq (fun l : Lg => (l.gid, l.erased)) h j default)
  exact ⟨hg, fun h => he.trans h⟩

theorem gev_setLg (s : BSt) (i : Nat) (f : Lg → Lg) (hf : ∀ l, (f l).gid = l.gid ∧ (f l).erased = l.erased) :
    gev (s.setLg i f) = gev s := by
  simp only [gev, BSt.setLg]
  exact map_updAt s.lgs i f _ (fun l => by simp only [(hf l).1, (hf l).2])

theorem gev_sinkPart (s : BSt) : gev (sinkPart s) = gev s := by
  simp only [gev, sinkPart, List.map_map]
  rfl

theorem reapSinks_gev (sids : List Nat) (s : BSt) : gev (reapSinks s sids) = gev s :=
  (SinkRel.of_eq gev (fun _ _ _ => rfl) (fun _ _ => rfl)).reapSinks (fun _ _ => rfl) sids s

theorem front_gev (s : BSt) (f : FOp) (hf : f.needsManagerLock = false) : gev (applyFront s f).1 = gev s := by
  rcases front_sinkPart s f with e | ⟨_, _, _, _, rfl, _⟩ | ⟨sid, lvl, _, e⟩ | ⟨sid, e⟩
  · exact of_sinkPart gev gev_sinkPart e
  · cases hf
  · rw [e]; rfl
  · rw [e, reapSinks_gev]; rfl

/-- a call that needs the manager's lock does nothing at hook site 9, so no logger object is created there -/
theorem runInj9_gev (table : List (Nat × Nat × List FOp)) (s : BSt) : gev (runInj table s 9) = gev s :=
  runInj_rule (fun x => gev x = gev s) table s 9 rfl (fun _ _ _ f _ x hx =>
    injStep_pres (fun y => gev y = gev s) hx (fun hn => (front_gev x f (hn rfl)).trans hx) (fun _ _ hy => hy))

theorem runInj_lgMono9 (table : List (Nat × Nat × List FOp)) (s : BSt) : LgMono s (runInj table s 9) :=
  LgMono.of_gev (runInj9_gev table s)

theorem injOK_runInj {P : BSt → Prop} (table : List (Nat × Nat × List FOp)) (h : ∀ s k, P s → P (runInj table s k)) :
    InjOK P (runInj table) :=
  fun s k hs => ⟨h s k hs, runInj_popLog table s k, fun h9 => h9 ▸ runInj_lgMono9 table s⟩

theorem runInj_pres {P : BSt → Prop} (hsc : ∀ s x, P s → P { s with siteCnt := x })
    (hem : ∀ s a b c d, P s → P (s.emit (.inj a b c d))) (hfr : ∀ s f, P s → P (applyFront s f).1)
    (table : List (Nat × Nat × List FOp)) : InjOK P (runInj table) :=
  injOK_runInj table (fun s site hs => runInj_rule P table s site (hsc s _ hs) (fun _ _ _ f _ x hx =>
    injStep_pres P hx (fun _ => hfr x f hx) (fun y _ hy => hem y _ _ _ _ hy)))

theorem runInj_ok {P : BSt → Prop} (hc : Closed P) (table : List (Nat × Nat × List FOp)) : InjOK P (runInj table) :=
  runInj_pres hc.siteCnt hc.emitInj hc.front table

/-- what a state property must be stable under to survive a poll, given an injection runner that keeps it: `ClosedB`
    without `emitInj` and `siteCnt`, which only serve the runner (`runInj_ok`). A property that counts
    the `Ev.inj` events of the history has these and not those two -/
structure ClosedC (P : BSt → Prop) : Prop where
  note : ∀ s, P s → P (s.emit (.notify "n:fmterr"))
  clock : ∀ s n, P s → P { s with now := n }
  gone : ∀ s, P s → P { s with backendGone := true }
  lastFlush : ∀ s n, P s → P { s with lastFlush := n }
  refresh : ∀ s, P s → P (refreshCache s)
  allEmpty : ∀ s, P s → P (allEmpty s).1
  hasPending : ∀ s, P s → P (hasPending s).1
  cleanupContexts : ∀ s, P s → P (cleanupContexts s)
  invFlag : ∀ s b, P s → P { s with hasInvalidLoggers := b }
  erase : ∀ s i, P s → (s.lgOf i).valid = false → (Backend.allEmpty s).2 = true →
            P ((Backend.allEmpty s).1.setLg i (fun l => { l with erased := true }))
  reap : ∀ s sid, P s → (s.sinkOf sid).alive = true → sinkRefs s sid = 0 →
            P ((s.setSink sid (fun k => { k with alive := false })).emit (.sinkDtor sid))
  flagRemoval : ∀ s0 s f g, P s0 → P s → ErasedNow s0 s g →
            (∃ g', s.removalFlags.find? (·.1 = g) = some (g', f)) →
            P { s with flags := f :: s.flags, flagLog := (f, s.log.length) :: s.flagLog,
                       removalFlags := s.removalFlags.filter (·.1 ≠ g) }
  flushSinks : ∀ s, P s → P (flushSinks s)
  readPrep : ∀ s i, P s → P (readPrepSt s i)
  commit : ∀ s i, P s → P (commitSt s i)
  readOne : ∀ s i st rest, P s → (qPrepareRead s.cfg (s.th i).q).2 = true → (s.th i).qStmts = st :: rest →
              P (readOneSt s i st rest)
  report : ∀ s i, P s → (s.th i).fail > 0 → P (reportSt s i)
  pop : ∀ s i st rest, P s → lowest s = some i → (s.th i).buf = st :: rest → P (popSt s i st rest)
  raise : ∀ s f, P s → (∃ st, s.popLog.head? = some st ∧ st.kind = .flush f) → P (raiseSt s f)

theorem ClosedC.toW {P : BSt → Prop} (hc : ClosedC P) : ClosedW P :=
  ⟨hc.note, fun s _ => hc.clock s _, fun s => hc.lastFlush s _, hc.refresh, hc.allEmpty, hc.hasPending, hc.cleanupContexts,
   hc.flushSinks, hc.readPrep, hc.commit, hc.readOne, hc.report⟩

theorem InjOK.keeps {P : BSt → Prop} {inj : BSt → Nat → BSt} (hi : InjOK P inj) (s : BSt) (k : Nat) (h : P s) :
    P (inj s k) := (hi s k h).1

/-- the processing of one event for a bundle that wants to know, when the flag of a Flush event is raised, that this
    event is the last one popped: the runner has to leave the pop history alone -/
theorem processLowest_okG {P : BSt → Prop} {inj : BSt → Nat → BSt} (hi : InjOK P inj)
    (hreport : ∀ s i, P s → (s.th i).fail > 0 → P (reportSt s i)) (hclean : ∀ s, P s → P (cleanupContexts s))
    (hpop : ∀ s i st rest, P s → lowest s = some i → (s.th i).buf = st :: rest → P (popSt s i st rest))
    (hraise : ∀ s f, P s → (∃ st, s.popLog.head? = some st ∧ st.kind = .flush f) → P (raiseSt s f))
    (s : BSt) (hs : P s) : P (processLowest inj s).1 :=
  processLowest_rule P P (fun f x => P x ∧ ∃ st, x.popLog.head? = some st ∧ st.kind = .flush f)
    (fun _ h => h) (fun s i st rest h hl hb _ => hpop s i st rest h hl hb)
    (fun s i st rest _ h hl hb hk => ⟨hpop s i st rest h hl hb, st, rfl, hk⟩)
    (fun _ x i h hf =>
      have h8 := hi _ 8 (hreport x i h.1 hf)
      ⟨h8.1, by rw [h8.2.1]; exact h.2⟩)
    (fun _ x h => ⟨hclean x h.1, by rw [cleanupContexts_popLog]; exact h.2⟩)
    (fun f x h => hraise x f h.1 h.2) s hs

section
variable {P : BSt → Prop} (hc : ClosedC P)
include hc

theorem reapSinksInj_okC {inj : BSt → Nat → BSt} (hi : InjOK P inj) (sids : List Nat) :
    ∀ (s : BSt), P s → P (reapSinksInj inj s sids) :=
  reapSinksInj_pres P inj (fun x h => (hi x 9 h).1) hc.reap sids

theorem cleanupLoggers_okC {inj : BSt → Nat → BSt} (hi : InjOK P inj) (s : BSt) (hs : P s) :
    P (cleanupLoggers inj s) :=
  (cleanupLoggers_rule inj s (fun _ => LgAcc P s) (fun r x => LgAcc P s x r)
    (fun _ x _ h => h.mono (hi x 9 h.1).1 ((hi x 9 h.1).2.2 rfl))
    (fun x _ b h => h.mono (hc.invFlag x b h.1) (LgMono.of_lgs rfl))
    (fun x _ h => h.mono (hc.allEmpty x h.1) (LgMono.of_lgs (allEmpty_lgs x)))
    (fun x r i hlt hne h hv he => h.erase hlt hne (allEmpty_lgs x) (hc.erase x i h.1 hv he))
    (fun _ x _ sid h ha hr => h.mono (hc.reap x sid h.1 ha hr) (LgMono.of_lgs rfl)) (fun _ _ _ _ h _ => h)
    (fun _ _ h => h)
    -- second loop: the logger objects do not change any more
    (fun r x f g h hg hf => h.mono (hc.flagRemoval s x f g hs h.1 (h.2.2 g hg) hf) (LgMono.of_lgs rfl))
    ⟨hs, LgMono.refl s, fun g hg => by cases hg⟩).elim fun _ h => h.1

theorem processLowest_okC {inj : BSt → Nat → BSt} (hi : InjOK P inj) (s : BSt) (hs : P s) :
    P (processLowest inj s).1 :=
  processLowest_okG hi hc.report hc.cleanupContexts hc.pop hc.raise s hs

theorem ClosedC.passRules {inj : BSt → Nat → BSt} (hi : InjOK P inj) : PassRules inj P P P :=
  hc.toW.passRules hi.keeps (processLowest_okC hc hi) (cleanupLoggers_okC hc hi)

end

theorem ClosedB.toC {P : BSt → Prop} (hc : ClosedB P) : ClosedC P :=
  ⟨hc.note, hc.clock, hc.gone, hc.lastFlush, hc.refresh, hc.allEmpty, hc.hasPending, hc.cleanupContexts, hc.invFlag,
   hc.erase, hc.reap, hc.flagRemoval, hc.flushSinks, hc.readPrep, hc.commit, hc.readOne, hc.report, hc.pop, hc.raise⟩

theorem ClosedC.toB {P : BSt → Prop} (hc : ClosedC P) (hsc : ∀ s x, P s → P { s with siteCnt := x })
    (hem : ∀ s a b c d, P s → P (s.emit (.inj a b c d))) : ClosedB P :=
  ⟨hsc, hem, hc.note, hc.clock, hc.lastFlush, hc.gone, hc.refresh, hc.allEmpty, hc.hasPending, hc.cleanupContexts, hc.invFlag,
   hc.erase, hc.reap, hc.flagRemoval, hc.flushSinks, hc.readPrep, hc.commit, hc.readOne, hc.report, hc.pop, hc.raise⟩

theorem ClosedB.fmtNote {P : BSt → Prop} (hc : ClosedB P) (s : BSt) (st : Stmt) (h : P s) : P (fmtNote s st) :=
  hc.toC.toW.fmtNote s st h

theorem ClosedB.passRules {P : BSt → Prop} (hc : ClosedB P) {inj : BSt → Nat → BSt} (hi : InjOK P inj) : PassRules inj P P P :=
  hc.toC.passRules hi

section
variable {P : BSt → Prop} (hc : ClosedB P)
include hc

theorem reapSinksInj_ok {inj : BSt → Nat → BSt} (hi : InjOK P inj) (sids : List Nat) :
    ∀ (s : BSt), P s → P (reapSinksInj inj s sids) :=
  reapSinksInj_okC hc.toC hi sids

end

theorem applyOp_closed {P : BSt → Prop} (hc : Closed P) (s : BSt) (op : Op) (hs : P s) : P (applyOp s op).1 :=
  PassRules.applyOp (fun table => hc.toClosedB.passRules (runInj_ok hc table)) hc.front (hc.siteCnt · []) hc.gone s op hs

theorem runOps_closed {P : BSt → Prop} (hc : Closed P) : ∀ (ops : List Op) (s : BSt), P s → P (runOps s ops) :=
  PassRules.runOps (fun table => hc.toClosedB.passRules (runInj_ok hc table)) hc.front (hc.siteCnt · []) hc.gone

end Backend.PC
