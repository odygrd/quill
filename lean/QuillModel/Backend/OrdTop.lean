import QuillModel.Backend.OrdBack3
/-!
The premise of C05 as a decidable predicate on a state, well-formed initial states, and the top-level consequence
of the ordering invariant.
-/
namespace Backend

/-- the premise of C05: every record ever accepted by a queue was committed no later than the grace period
    after its timestamp was taken (`enqAt` is the clock at the commit) -/
def GracePremise (s : BSt) : Prop := ∀ t ∈ s.ths, ∀ st ∈ t.accepted, st.enqAt ≤ st.ts + s.cfg.grace

instance (s : BSt) : Decidable (GracePremise s) := by unfold GracePremise; infer_instance

/-- a well-formed initial state: sinks and loggers may exist, but no thread has started, nothing is registered,
    cached or processed (the states the driver's `mkState` builds) -/
structure Start (s : BSt) : Prop where
  hdr : 0 < s.cfg.hdr
  ths : s.ths = []
  actors : s.actors = []
  registry : s.registry = []
  cache : s.cache = []
  popLog : s.popLog = []

namespace PB

theorem premI_of_premise {s : BSt} (h : GracePremise s) : PremI s := by
  intro i st hst
  by_cases hi : i < s.ths.length
  · exact h _ (th_mem s hi) st hst
  · rw [th_default_of_ge s i (by omega)] at hst; cases hst

theorem start_GI {s : BSt} (h : Start s) : GI s := by
  refine ⟨0, ?_⟩
  have hth : ∀ i, s.th i = default := fun i => th_default_of_ge s i (by rw [h.ths]; exact Nat.zero_le _)
  have hact : ∀ a, s.actor a = none := fun a => by simp [BSt.actor, h.actors]
  exact {
    cfgEq := rfl, hdr := h.hdr, floorNow := Nat.zero_le _, cacheEq := rfl
    sorted := fun i => by rw [hth]; exact List.Pairwise.nil
    leNow := fun i st hst => by rw [hth] at hst; cases hst
    qc := fun i => by rw [hth]; exact qc_default
    reg := fun i hc => by rw [hth] at hc; exact absurd rfl hc
    bufCache := fun i _ hb => by rw [hth] at hb; exact absurd rfl hb
    cacheReg := fun i hi => by rw [h.cache] at hi; cases hi
    fresh := fun _ i hi => by rw [h.registry] at hi; cases hi
    ctxLt := fun a x i hx => by rw [hact] at hx; cases hx
    ctxReg := fun a x i hx => by rw [hact] at hx; cases hx
    ctxInj := fun a b x y i hx => by rw [hact] at hx; cases hx
    pend := fun a x st hx => by rw [hact] at hx; cases hx
    capOK := fun i hi => by rw [h.ths] at hi; cases hi
    ord := fun _ _ _ => {
      popSorted := by rw [h.popLog]; exact List.Pairwise.nil
      above := fun p hp => by rw [h.popLog] at hp; cases hp
      popFloor := fun p hp => by rw [h.popLog] at hp; cases hp
      bufFloor := fun i st hst => by rw [hth] at hst; cases hst
      late := fun _ _ hT => absurd trivial hT } }

theorem GI.ord {s : BSt} (h : GI s) (hg : s.cfg.grace ≠ 0) (hr : s.cfg.refreshAfterSample = true)
    (hp : GracePremise s) : ∃ fl, PIo s.cfg fl s ∧ Ord fl (fun _ => True) s := by
  obtain ⟨fl, h⟩ := h
  exact ⟨fl, h, h.ord hg hr (premI_of_premise hp)⟩

/-- in the configuration of C05 and under its premise, the global pop order (newest first) is sorted -/
theorem GI.popSorted {s : BSt} (h : GI s) (hg : s.cfg.grace ≠ 0) (hr : s.cfg.refreshAfterSample = true)
    (hp : GracePremise s) : s.popLog.Pairwise (fun a b => b.ts ≤ a.ts) := by
  obtain ⟨fl, _, o⟩ := h.ord hg hr hp
  exact o.popSorted

end PB
end Backend
