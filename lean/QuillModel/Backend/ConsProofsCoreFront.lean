import QuillModel.Backend.ConsProofsCore
/-!
`InvA` is preserved by every frontend operation (`applyFront`), hence `Closed InvA`.
-/
namespace Backend.PA

theorem InvA.setActor {s : BSt} (h : InvA s) (a : Nat) (f : Actor → Actor)
    (hid : ∀ x, (f x).id = x.id) (hal : ∀ x, (f x).alive = true → x.alive = true)
    (hctx : ∀ x, (f x).ctx = x.ctx)
    (hp : ∀ x ∈ s.actors, ∀ st, pendStmt (f x).pend = some st → 0 < st.size) : InvA (s.setActor a f) := by
  refine ⟨h.hdr, h.th, ?_, ?_, h.reg⟩
  · intro y hy hya i hi
    obtain ⟨x, hx, rfl⟩ := mem_setActor hy
    split at hya
    · rw [if_pos ‹_›] at hi ⊢
      rw [hid]
      exact h.act x hx (hal x hya) i (hctx x ▸ hi)
    · rw [if_neg ‹_›] at hi ⊢
      exact h.act x hx hya i hi
  · intro y hy st hst
    obtain ⟨x, hx, rfl⟩ := mem_setActor hy
    split at hst
    · exact hp x hx st hst
    · exact h.pend x hx st hst

theorem InvA.setPend {s : BSt} (h : InvA s) (a : Nat) (p : Pend) (hp : ∀ st, pendStmt p = some st → 0 < st.size) :
    InvA (s.setActor a (fun x => { x with pend := p })) :=
  h.setActor a _ (fun _ => rfl) (fun _ h => h) (fun _ => rfl) (fun _ _ st hst => hp st hst)

theorem InvA.ensureCtx {s : BSt} (h : InvA s) (a : Nat) :
    InvA (ensureCtx s a).1 ∧ ((ensureCtx s a).1.th (ensureCtx s a).2).valid = true := by
  unfold Backend.ensureCtx
  split
  · next i hi =>
    refine ⟨h, ?_⟩
    cases hx : s.actor a with
    | none =>
      rw [hx] at hi
      cases hi
    | some x =>
      simp only [hx, Option.bind_some] at hi
      obtain ⟨_, hal, hm⟩ := actor_find hx
      exact (h.act x hm hal i hi).2.1
  · dsimp only
    refine ⟨?_, ?_⟩
    · refine ⟨h.hdr, ?_, ?_, ?_, ?_⟩
      · intro j
        rw [setActor_th, th_append (s := s) rfl]
        split
        · exact ⟨rfl, QCoh.init _ _, fun hr => by cases hr⟩
        · exact h.th j
      · intro y hy hya i hi
        obtain ⟨x, hx, rfl⟩ := mem_setActor hy
        rw [setActor_th, th_append (s := s) rfl]
        simp only [setActor_ths, List.length_append, List.length_cons, List.length_nil]
        split at hya
        · next hc =>
          rw [if_pos hc] at hi ⊢
          simp only [Option.some.injEq] at hi
          subst hi
          rw [if_pos rfl]
          exact ⟨Nat.lt_succ_self _, rfl, hc.1.symm⟩
        · next hc =>
          rw [if_neg hc] at hi ⊢
          obtain ⟨a1, a2, a3⟩ := h.act x hx hya i hi
          rw [if_neg (by omega)]
          exact ⟨by omega, a2, a3⟩
      · intro y hy st hst
        obtain ⟨x, hx, rfl⟩ := mem_setActor hy
        split at hst
        · exact h.pend x hx st hst
        · exact h.pend x hx st hst
      · intro j hj
        rw [setActor_th, th_append (s := s) rfl]
        simp only [setActor_ths, List.length_append, List.length_cons, List.length_nil] at hj
        by_cases hjl : j = s.ths.length
        · left
          rw [hjl]
          exact List.mem_append_right _ (List.mem_singleton.mpr rfl)
        · rw [if_neg hjl]
          rcases h.reg j (by omega) with hr | hr
          · exact Or.inl (List.mem_append_left _ hr)
          · exact Or.inr hr
    · rw [setActor_th, th_append (s := s) rfl, if_pos rfl]
      rfl

theorem InvA.tryEnq {s : BSt} (h : InvA s) (ci : Nat) (st : Stmt) (hsz : 0 < st.size)
    (hv : (s.th ci).valid = true) : InvA (tryEnq s ci st).1 := by
  unfold Backend.tryEnq
  dsimp only
  have hT := h.th ci
  have hsame := qPrepareWrite_same s.cfg (s.th ci).q st.size
  split
  · refine h.setTh ci _ ⟨?_, ?_, ?_⟩ rfl rfl rfl
    · show (s.th ci).accepted ++ [_] = (s.th ci).popped ++ (s.th ci).buf ++ ((s.th ci).qStmts ++ [_])
      rw [hT.cons]
      simp
    · exact QCoh.enq (hT.coh.of_same hsame) { st with enqAt := s.now } hsz
    · intro hr
      have := (hT.rem hr).1
      rw [hv] at this
      cases this
  · exact h.setQ ci (fun _ => (qPrepareWrite s.cfg (s.th ci).q st.size).1) hsame

theorem tryEnq_valid (s : BSt) (ci : Nat) (st : Stmt) (j : Nat) :
    ((tryEnq s ci st).1.th j).valid = (s.th j).valid := by
  unfold Backend.tryEnq
  dsimp only
  split
  · rw [th_setTh]
    split <;> rfl
  · rw [th_setTh]
    split <;> rfl

theorem InvA.afterEnq {s : BSt} (h : InvA s) (a : Nat) (st : Stmt) (cont : Nat) : InvA (afterEnq s a st cont).1 := by
  unfold Backend.afterEnq
  split
  · exact h.setPend a _ (fun st h => by simp [pendStmt] at h)
  · exact h.of_eq rfl rfl rfl (fun _ h => h)
  · exact h
  · exact InvA.setPend (s := { (s.setLg st.lg (fun l => { l with valid := false })) with hasInvalidLoggers := true })
      (h.of_eq rfl rfl rfl (fun _ h => h)) a _ (fun st h => by simp [pendStmt] at h)
  · exact h

theorem InvA.bumpFail {s : BSt} (h : InvA s) (d : Bool) (ci : Nat) (st : Stmt) : InvA (bumpFail d s ci st) := by
  unfold Backend.bumpFail
  split
  · exact h.setTh ci _ ⟨(h.th ci).cons, (h.th ci).coh, (h.th ci).rem⟩ rfl rfl rfl
  · exact h

theorem InvA.enqFlow {s : BSt} (h : InvA s) (a : Nat) (st : Stmt) (cont : Nat) (first initial : Bool)
    (hsz : 0 < st.size) : InvA (enqFlow s a st cont first initial).1 :=
  enqFlow_rule (fun ci x => InvA x ∧ (x.th ci).valid = true) (fun _ => InvA) InvA (h.ensureCtx a)
    (fun ci _ h1 _ => ((h1.1.tryEnq ci st hsz h1.2).setPend a _ (fun st h => by simp [pendStmt] at h)).afterEnq a st cont)
    (fun ci _ h1 _ => h1.1.tryEnq ci st hsz h1.2)
    (fun _ _ h1 _ => h1.bumpFail ..)
    (fun _ _ h1 _ _ => h1.setPend a _ (fun st h => by simp [pendStmt] at h))
    (fun _ _ h1 _ => h1.setPend a _ (fun st' h' => by simp only [pendStmt, Option.some.injEq] at h'; exact h' ▸ hsz))

theorem InvA.setActorMisc {s : BSt} (h : InvA s) (a : Nat) (f : Actor → Actor)
    (hid : ∀ x, (f x).id = x.id) (hal : ∀ x, (f x).alive = x.alive) (hctx : ∀ x, (f x).ctx = x.ctx)
    (hp : ∀ x, (f x).pend = x.pend) : InvA (s.setActor a f) :=
  h.setActor a f hid (fun x hx => hal x ▸ hx) hctx (fun x hx st hst => h.pend x hx st (hp x ▸ hst))

theorem InvA.tstart {s : BSt} (h : InvA s) (a : Nat) : InvA { s with actors := s.actors ++ [{ id := a }] } := by
  refine ⟨h.hdr, h.th, ?_, ?_, h.reg⟩
  · intro x hx hal i hi
    rcases List.mem_append.mp hx with hx | hx
    · exact h.act x hx hal i hi
    · simp at hx
      subst hx
      simp at hi
  · intro x hx st hst
    rcases List.mem_append.mp hx with hx | hx
    · exact h.pend x hx st hst
    · simp at hx
      subst hx
      simp [pendStmt] at hst

theorem InvA.texitCtx {s : BSt} (h : InvA s) (a i : Nat) (hi : (s.actor a).bind (·.ctx) = some i) :
    InvA { (s.setActor a (fun x => { x with alive := false })).setTh i (fun t => { t with valid := false }) with
           invalidCnt := counterMod s.cfg (s.invalidCnt + 1) } := by
  have h1 : InvA (s.setActor a (fun x => { x with alive := false })) :=
    h.setActor a _ (fun _ => rfl) (fun x hx => by simp at hx) (fun _ => rfl) (fun x hx st hst => h.pend x hx st hst)
  -- the context of the exiting actor becomes invalid; no other live actor owns it
  cases hx : s.actor a with
  | none => simp [hx] at hi
  | some x0 =>
    simp only [hx, Option.bind_some] at hi
    obtain ⟨hid0, hal0, hm0⟩ := actor_find hx
    obtain ⟨b1, b2, b3⟩ := h.act x0 hm0 hal0 i hi
    refine InvA.of_eq (s := (s.setActor a (fun x => { x with alive := false })).setTh i (fun t => { t with valid := false }))
      ?_ rfl rfl rfl (fun _ h => h)
    refine ⟨h.hdr, ?_, ?_, h1.pend, ?_⟩
    · apply forall_th_setTh _ _ _ h1.th
      intro hT
      exact ⟨hT.cons, hT.coh, fun hr => ⟨rfl, (hT.rem hr).2⟩⟩
    · intro y hy hya j hj
      obtain ⟨x, hxm, rfl⟩ := mem_setActor hy
      by_cases hc : x.id = a ∧ x.alive
      · rw [if_pos hc] at hya
        simp at hya
      · rw [if_neg hc] at hya hj ⊢
        obtain ⟨a1, a2, a3⟩ := h.act x hxm hya j hj
        have hji : j ≠ i := by
          intro e
          subst e
          apply hc
          exact ⟨by rw [← a3, b3, hid0], hya⟩
        rw [th_setTh_ne _ _ hji]
        exact ⟨by simpa using a1, a2, a3⟩
    · intro j hj
      rw [th_setTh]
      rcases h.reg j (by simpa using hj) with hr | hr
      · exact Or.inl hr
      · right
        split
        · next hc => rw [hc.1] at hr ⊢; exact hr
        · exact hr

theorem InvA.callPre {s s1 : BSt} {g id : Nat} {kind : Kind} (h : InvA s) (hp : CallPre s g kind id s1) : InvA s1 :=
  h.of_eq (hp.proj (·.cfg) (fun _ _ _ _ => rfl)) (hp.proj (·.ths) (fun _ _ _ _ => rfl))
    (hp.proj (·.actors) (fun _ _ _ _ => rfl)) (fun _ hi => hp.proj (·.registry) (fun _ _ _ _ => rfl) ▸ hi)

/-- a record may be enqueued or parked if its size is positive -/
theorem InvA.rules : FrontRules (fun _ => True) InvA (fun _ st _ => 0 < st.size) :=
  .ofStrip (fun _ _ e h => h.of_eq (of_stripLg (·.cfg) (fun _ => rfl) e) (of_stripLg (·.ths) (fun _ => rfl) e)
      (of_stripLg (·.actors) (fun _ => rfl) e) (fun _ hi => of_stripLg (·.registry) (fun _ => rfl) e ▸ hi)) {
    enq := fun _ a _ st _ _ _ _ h _ hsz => h.enqFlow a st _ _ _ hsz
    stall := fun _ a _ _ _ _ h _ hsz => h.setActor a _ (fun _ => rfl) (fun _ h => h) (fun _ => rfl)
      (fun _ _ st' h' => by simp only [pendStmt, Option.some.injEq] at h'; exact h' ▸ hsz)
    parked := fun _ _ _ st _ _ h hx hp =>
      have := h.pend _ (actor_find hx).2.2 st (by rcases hp with e | e <;> rw [e] <;> rfl)
      ⟨this, this⟩
    flagDone := fun _ a _ _ _ h _ _ _ => h.setPend a _ (fun st h => by simp [pendStmt] at h)
    actorMisc := fun _ a f h hf => h.setActorMisc a f (fun x => (hf x).1) (fun x => (hf x).2.1) (fun x => (hf x).2.2.1)
      (fun x => (hf x).2.2.2)
    pre := fun _ _ _ _ _ _ _ _ h hp _ _ =>
      ⟨h.callPre hp, fun _ _ _ _ => stmtSize_pos _ _ _ _ _ _ (h.callPre hp).hdr⟩
    tick := fun _ _ h => h.of_eq rfl rfl rfl (fun _ hi => hi)
    tstart := fun _ a _ h _ => InvA.tstart h a
    texitCtx := fun _ a i _ h _ hi => InvA.texitCtx h a i hi
    texitNoCtx := fun _ a _ h _ _ =>
      h.setActor a _ (fun _ => rfl) (fun x hx => by simp at hx) (fun _ => rfl) (fun x hx st hst => h.pend x hx st hst) }

theorem InvA.resume {s : BSt} (h : InvA s) (a : Nat) : InvA (resume s a).1 :=
  InvA.rules.toActorRules.resume_fst h a

theorem InvA.front {s : BSt} (h : InvA s) (f : FOp) : InvA (applyFront s f).1 :=
  InvA.rules.front h f

theorem InvA.closed : Closed InvA where
  frame := fun _ _ h f => h.frame f
  refresh := fun _ h => h.refresh
  ctxEmpty := fun _ i h => h.ctxEmpty i
  dropCtx := fun _ i h hv he _ => h.dropCtx i hv he
  prepRead := fun s i h => h.setQ i (fun _ => (qPrepareRead s.cfg (s.th i).q).1) (qPrepareRead_same _ _)
  commitRead := fun s i h => h.setQ i (fun t => qCommitRead s.cfg t.q) (qCommitRead_same _ _)
  readOne := fun _ i st rest h hq _ => h.readOne i st rest hq
  pop := fun _ i st rest h hb => h.pop i st rest hb
  failReset := fun _ i h _ => h.failReset i
  front := fun _ f h => h.front f

end Backend.PA
