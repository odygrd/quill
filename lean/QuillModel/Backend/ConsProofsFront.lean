import QuillModel.Backend.ConsProofsDispatch
import QuillModel.Backend.FrontRel
/-!
What no frontend operation ever changes (`FFrame`): the configuration, the pop history, the reported counts,
the raised flags, the `write` events of the history, the sink lists / rings of existing loggers, the fault
schedules and filters of the sinks.
-/
namespace Backend.PA

def cntP (s : BSt) (p : Stmt → Bool) : Nat := (s.ths.map (fun t => t.popped.countP p)).sum

theorem cntP_of_ths {s s' : BSt} (h : s'.ths = s.ths) (p : Stmt → Bool) : cntP s' p = cntP s p := by
  simp only [cntP, h]

theorem cntP_setTh (s : BSt) (i : Nat) (f : Th → Th) (hf : ∀ t, (f t).popped = t.popped) (p : Stmt → Bool) :
    cntP (s.setTh i f) p = cntP s p :=
  congrArg List.sum (map_updAt s.ths i f _ (fun t => by rw [hf]))

theorem Hk.cntP {s s' : BSt} (h : Hk s s') (p : Stmt → Bool) : cntP s' p = cntP s p :=
  congrArg List.sum (h.map_ths _ (fun _ _ _ _ _ => rfl))

structure FFrame (s s' : BSt) : Prop where
  cfg : s'.cfg = s.cfg
  pops : ∀ p, cntP s' p = cntP s p
  popLog : s'.popLog = s.popLog
  reported : s'.reported = s.reported
  flags : s'.flags = s.flags
  log : ∃ evs, s'.log = evs ++ s.log ∧ ∀ e ∈ evs, isWriteEv e = false
  lgsLe : s.lgs.length ≤ s'.lgs.length
  lgsOld : ∀ i, i < s.lgs.length →
    (s'.lgOf i).gid = (s.lgOf i).gid ∧ (s'.lgOf i).sinks = (s.lgOf i).sinks ∧ (s'.lgOf i).bt = (s.lgOf i).bt
  lgsNew : ∀ i, s.lgs.length ≤ i → (s'.lgOf i).bt = none
  sinks : ∀ sid, (s'.sinkOf sid).sid = (s.sinkOf sid).sid ∧ (s'.sinkOf sid).filtM = (s.sinkOf sid).filtM ∧
    (s'.sinkOf sid).filtR = (s.sinkOf sid).filtR ∧ (s'.sinkOf sid).wthrow = (s.sinkOf sid).wthrow ∧
    (s'.sinkOf sid).fthrow = (s.sinkOf sid).fthrow

theorem FFrame.of_eq {s s' : BSt} (h1 : s'.cfg = s.cfg) (h2 : s'.popLog = s.popLog) (h3 : s'.reported = s.reported)
    (h4 : s'.flags = s.flags) (h5 : s'.log = s.log) (h6 : s'.lgs = s.lgs) (h7 : s'.sinks = s.sinks)
    (h8 : ∀ p, cntP s' p = cntP s p := by intro _; rfl) : FFrame s s' :=
  ⟨h1, h8, h2, h3, h4, LogExt.of_eq h5, Nat.le_of_eq (congrArg List.length h6).symm,
   fun i _ => by simp [BSt.lgOf, h6],
   fun i hi => by
     have : s'.lgOf i = s.lgOf i := by simp [BSt.lgOf, h6]
     rw [this, lgOf_default_of_ge s i hi]; rfl,
   fun sid => by simp [BSt.sinkOf, h7]⟩

theorem FFrame.refl (s : BSt) : FFrame s s := FFrame.of_eq rfl rfl rfl rfl rfl rfl rfl

theorem FFrame.of_hk {s s' : BSt} (k : Hk s s') : FFrame s s' :=
  FFrame.of_eq k.cfg k.popLog k.reported (by rw [k.misc]) k.log k.lgs k.sinks k.cntP

theorem FFrame.trans {a b c : BSt} (h1 : FFrame a b) (h2 : FFrame b c) : FFrame a c := by
  refine ⟨h2.cfg.trans h1.cfg, fun p => (h2.pops p).trans (h1.pops p), h2.popLog.trans h1.popLog,
    h2.reported.trans h1.reported, h2.flags.trans h1.flags, LogExt.trans h1.log h2.log,
    Nat.le_trans h1.lgsLe h2.lgsLe, ?_, ?_, ?_⟩
  · intro i hi
    have ha := h1.lgsOld i hi
    have hb := h2.lgsOld i (Nat.lt_of_lt_of_le hi h1.lgsLe)
    exact ⟨hb.1.trans ha.1, hb.2.1.trans ha.2.1, hb.2.2.trans ha.2.2⟩
  · intro i hi
    by_cases hib : i < b.lgs.length
    · rw [(h2.lgsOld i hib).2.2]
      exact h1.lgsNew i hi
    · exact h2.lgsNew i (by omega)
  · intro sid
    have ha := h1.sinks sid
    have hb := h2.sinks sid
    exact ⟨hb.1.trans ha.1, hb.2.1.trans ha.2.1, hb.2.2.1.trans ha.2.2.1, hb.2.2.2.1.trans ha.2.2.2.1,
      hb.2.2.2.2.trans ha.2.2.2.2⟩

theorem FFrame.of_frame {s s' : BSt} (f : Frame s s') (hfl : s'.flags = s.flags) : FFrame s s' :=
  ⟨f.cfg, cntP_of_ths f.ths, f.popLog, f.reported, hfl, f.log, by rw [f.lgsLen]; exact Nat.le_refl _, fun i _ => f.lgs i,
   fun i hi => by rw [(f.lgs i).2.2, lgOf_default_of_ge s i hi]; rfl,
   fun sid => ⟨(f.sinks sid).sid, (f.sinks sid).filtM, (f.sinks sid).filtR, (f.sinks sid).wthrow, (f.sinks sid).fthrow⟩⟩

theorem FFrame.setLg (s : BSt) (i : Nat) (f : Lg → Lg)
    (hf : ∀ l, (f l).gid = l.gid ∧ (f l).sinks = l.sinks ∧ (f l).bt = l.bt) : FFrame s (s.setLg i f) :=
  FFrame.of_frame (Frame.setLg s i f hf) rfl

theorem FFrame.setTh (s : BSt) (i : Nat) (f : Th → Th) (hf : ∀ t, (f t).popped = t.popped) : FFrame s (s.setTh i f) :=
  ⟨rfl, cntP_setTh s i f hf, rfl, rfl, rfl, ⟨[], rfl, by simp⟩, Nat.le_refl _, fun i _ => ⟨rfl, rfl, rfl⟩,
   fun i hi => by rw [setTh_lgOf, lgOf_default_of_ge s i hi]; rfl, fun sid => ⟨rfl, rfl, rfl, rfl, rfl⟩⟩

theorem FFrame.front : FrontSteps FFrame where
  refl := FFrame.refl
  trans := FFrame.trans
  tick _ _ := FFrame.of_eq rfl rfl rfl rfl rfl rfl rfl
  act _ _ _ _ _ _ _ _ := FFrame.of_eq rfl rfl rfl rfl rfl rfl rfl
  setThMisc s i f _ hf := FFrame.setTh s i f hf
  ensureCtx s a := by
    unfold Backend.ensureCtx
    split
    · exact FFrame.refl s
    · refine ⟨rfl, fun p => ?_, rfl, rfl, rfl, ⟨[], rfl, by simp⟩, Nat.le_refl _, fun i _ => ⟨rfl, rfl, rfl⟩,
        fun i hi => by rw [setActor_lgOf]; show (s.lgOf i).bt = none; rw [lgOf_default_of_ge s i hi]; rfl,
        fun sid => ⟨rfl, rfl, rfl, rfl, rfl⟩⟩
      simp [cntP, mkTh]
  tryEnq s ci st := by
    unfold Backend.tryEnq
    dsimp only
    split <;> exact FFrame.setTh _ _ _ (fun _ => rfl)
  setLg s i f hf := FFrame.setLg s i f (fun l => by rw [hf l]; exact ⟨rfl, rfl, rfl⟩)
  newLg s g sl := by
    refine ⟨rfl, fun _ => rfl, rfl, rfl, rfl, ⟨[], rfl, by simp⟩, by simp, ?_, ?_, fun sid => ⟨rfl, rfl, rfl, rfl, rfl⟩⟩
    · intro i hi
      rw [lgOf_append (s := s) (l := { gid := g, sinks := sl }) rfl i, if_neg (Nat.ne_of_lt hi)]
      exact ⟨rfl, rfl, rfl⟩
    · intro i hi
      rw [lgOf_append (s := s) (l := { gid := g, sinks := sl }) rfl i]
      split
      · rfl
      · rw [lgOf_default_of_ge s i hi]; rfl
  setSink s sid f hf := by
    refine ⟨rfl, fun _ => rfl, rfl, rfl, rfl, ⟨[], rfl, by simp⟩, Nat.le_refl _, fun i _ => ⟨rfl, rfl, rfl⟩,
      fun i hi => by rw [setSink_lgOf, lgOf_default_of_ge s i hi]; rfl, fun j => ?_⟩
    rw [sinkOf_setSink s sid j f (fun k hk => by rw [hf k]; exact hk)]
    split
    · rw [hf]; exact ⟨rfl, rfl, rfl, rfl, rfl⟩
    · exact ⟨rfl, rfl, rfl, rfl, rfl⟩
  dtor s sid := FFrame.of_frame (Frame.emit s _ rfl) rfl
  injEv s _ _ _ _ := FFrame.of_frame (Frame.emit s _ rfl) rfl

theorem applyFront_ffr (s : BSt) (f : FOp) : FFrame s (applyFront s f).1 := FFrame.front.applyFront s f

def Ctx (s s' : BSt) : Prop :=
  s' = { s with ths := s'.ths, registry := s'.registry, cache := s'.cache, newFlag := s'.newFlag,
                invalidCnt := s'.invalidCnt, removalFlags := s'.removalFlags, popLog := s'.popLog,
                reported := s'.reported }

theorem Hk.ctx {s s' : BSt} (h : Hk s s') : Ctx s s' := by
  unfold Ctx
  rw [h.misc]

theorem Prim.back_or_front {al : FOp → Bool} {s s' : BSt} (h : Prim al s s') :
    (∃ s0, Core s s0 ∧ Ctx s0 s') ∨ ∃ f, al f = true ∧ s' = (applyFront s f).1 := by
  have hk : ∀ {s s'}, Hk s s' → (∃ s0, Core s s0 ∧ Ctx s0 s') ∨ ∃ f, al f = true ∧ s' = (applyFront s f).1 :=
    fun h => .inl ⟨_, Core.refl _, h.ctx⟩
  cases h with
  | frame f => exact .inl ⟨_, f.core, rfl⟩
  | refresh => exact hk (refreshCache_hk _)
  | ctxEmpty => exact hk (ctxEmpty_hk _ _)
  | dropCtx => exact hk (dropCtx_hk _ _)
  | prepRead | commitRead => exact hk (Hk.setTh _ _ _ (fun _ => rfl))
  | readOne => exact hk (readOne_hk _ _ _ _)
  | pop i st rest =>
    obtain ⟨s2, c, e⟩ := popStep_eq s i st rest
    exact .inl ⟨s2, c, e ▸ rfl⟩
  | failReset i => exact .inl ⟨_, Core.emit s _, rfl⟩
  | front f ha => exact .inr ⟨f, ha, rfl⟩

/-- what no step changes -/
structure Stable (s s' : BSt) : Prop where
  cfg : s'.cfg = s.cfg
  sinks : ∀ sid, (s'.sinkOf sid).sid = (s.sinkOf sid).sid ∧ (s'.sinkOf sid).filtM = (s.sinkOf sid).filtM ∧
    (s'.sinkOf sid).filtR = (s.sinkOf sid).filtR ∧ (s'.sinkOf sid).wthrow = (s.sinkOf sid).wthrow ∧
    (s'.sinkOf sid).fthrow = (s.sinkOf sid).fthrow
  lgsLe : s.lgs.length ≤ s'.lgs.length
  lgs : ∀ i, i < s.lgs.length → (s'.lgOf i).gid = (s.lgOf i).gid ∧ (s'.lgOf i).sinks = (s.lgOf i).sinks

theorem Stable.of_ffr {s s' : BSt} (f : FFrame s s') : Stable s s' :=
  ⟨f.cfg, f.sinks, f.lgsLe, fun i hi => ⟨(f.lgsOld i hi).1, (f.lgsOld i hi).2.1⟩⟩

theorem Stable.refl (s : BSt) : Stable s s := .of_ffr (FFrame.refl s)

theorem Stable.trans {a b c : BSt} (h1 : Stable a b) (h2 : Stable b c) : Stable a c :=
  ⟨h2.cfg.trans h1.cfg,
   fun sid => by
     obtain ⟨x1, x2, x3, x4, x5⟩ := h1.sinks sid
     obtain ⟨y1, y2, y3, y4, y5⟩ := h2.sinks sid
     exact ⟨y1.trans x1, y2.trans x2, y3.trans x3, y4.trans x4, y5.trans x5⟩,
   Nat.le_trans h1.lgsLe h2.lgsLe,
   fun i hi => by
     obtain ⟨x1, x2⟩ := h1.lgs i hi
     obtain ⟨y1, y2⟩ := h2.lgs i (Nat.lt_of_lt_of_le hi h1.lgsLe)
     exact ⟨y1.trans x1, y2.trans x2⟩⟩

theorem Stable.of_core {s s' : BSt} (c : Core s s') : Stable s s' :=
  ⟨c.cfg, fun sid => ⟨(c.sinks sid).sid, (c.sinks sid).filtM, (c.sinks sid).filtR, (c.sinks sid).wthrow, (c.sinks sid).fthrow⟩,
   Nat.le_of_eq c.lgsLen.symm, fun i _ => c.lgs i⟩

theorem Stable.of_ctx {s s' : BSt} (x : Ctx s s') : Stable s s' := by
  rw [x]
  exact ⟨rfl, fun _ => ⟨rfl, rfl, rfl, rfl, rfl⟩, Nat.le_refl _, fun _ _ => ⟨rfl, rfl⟩⟩

theorem Stable.prim {al : FOp → Bool} {s s' : BSt} (hp : Prim al s s') : Stable s s' := by
  rcases hp.back_or_front with ⟨s0, c, x⟩ | ⟨f, _, rfl⟩
  · exact (Stable.of_core c).trans (.of_ctx x)
  · exact .of_ffr (applyFront_ffr s f)

theorem Stable.run (s : BSt) (ops : List Op) : Stable s (runOps s ops) :=
  Prim.run Stable.refl Stable.trans (fun _ _ => Stable.prim) ops (opsAllowed_of_all (fun _ => rfl) ops) s

theorem cfgEq_closed (c : Cfg) : Closed (fun s : BSt => s.cfg = c) :=
  closed_iff.mpr fun _ _ hp h => (Stable.prim hp).cfg.trans h

end Backend.PA

namespace Backend
open Backend.PA

/-- the configuration (in particular the queue type) never changes: no hypothesis on the state -/
theorem runOps_cfg (s : BSt) (ops : List Op) : (runOps s ops).cfg = s.cfg := (Stable.run s ops).cfg

theorem applyOp_cfg (s : BSt) (o : Op) : (applyOp s o).1.cfg = s.cfg := runOps_cfg s [o]

end Backend
