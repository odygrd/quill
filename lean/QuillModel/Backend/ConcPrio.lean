import QuillModel.Backend.ConcDrain
/-!
# Ordering disabled (grace = 0): the minimum front is popped first (for the progress of C06 under concurrency)

With `log_timestamp_ordering_grace_period = 0` there is no ordering invariant to lean on. What remains true is local:
`_process_lowest_timestamp_transit_event` pops the minimum-timestamp front among the cached buffers, and it is only called
when the buffer of every context with something pending is non-empty (right after a pass in single-event mode; after the
batch guard answered "nothing pending" in batch mode). Hence, as long as a Flush request `st0` (flag `f`) has not been
processed (`f` not raised), every event popped has a timestamp `≤ st0.ts` (`runOps_prio`).
-/
namespace Backend.PB

def PopSuf (L : List Stmt) (s : BSt) : Prop := ∃ m, s.popLog = m ++ L

theorem popSuf_closed (L : List Stmt) : PC.Closed (PopSuf L) :=
  popLog_closed (fun l => ∃ m, l = m ++ L) (fun st _ ⟨m, hm⟩ => ⟨st :: m, by rw [hm]; rfl⟩)

variable {inj : BSt → Nat → BSt}

theorem rqPrep_popLog (s : BSt) (i : Nat) : (rqPrep s i).popLog = s.popLog := rfl
theorem popLog_read : ReadRel (fun s s' => s'.popLog = s.popLog) :=
  ⟨fun _ => rfl, fun h1 h2 => h2.trans h1, refreshCache_popLog, rqPrep_popLog, fun _ _ => rfl,
   fun s i st rest _ => readOne_proj (·.popLog) (fun _ _ => rfl) (fun _ _ _ => rfl) (fun _ _ => rfl) s i st rest⟩

theorem populate_popLog (hpl : ∀ s k, (inj s k).popLog = s.popLog) (s : BSt) : (populate inj s).1.popLog = s.popLog :=
  popLog_read.populate hpl s

variable {c : Cfg}

theorem pending_of_not_raised {fl : Nat} {s : BSt} (h : PIo c fl s) (hF : FI none [] s) (i0 : Nat) (st0 : Stmt) (f : Nat)
    (hk : st0.kind = .flush f) (hacc : st0 ∈ (s.th i0).accepted) (hnf : f ∉ s.flags) :
    st0 ∈ chain (s.th i0) ∧ ∀ b bs, (s.th i0).buf = b :: bs → b.ts ≤ st0.ts := by
  have hch : st0 ∈ chain (s.th i0) := (flush_flag_or_pending hF hacc hk).resolve_left hnf
  refine ⟨hch, fun b bs hb => ?_⟩
  have hs := h.sorted i0
  unfold chain at hch hs
  rw [hb] at hch hs
  simp only [List.cons_append] at hch hs
  rcases List.mem_cons.mp hch with e | e
  · rw [e]; exact Nat.le_refl _
  · exact List.rel_of_pairwise_cons hs e

theorem processLowest_le (table : List (Nat × Nat × List FOp)) {y : BSt} {i0 T : Nat} (hc : i0 ∈ y.cache)
    (hb : (y.th i0).buf ≠ []) (hfront : ∀ b bs, (y.th i0).buf = b :: bs → b.ts ≤ T) :
    ∃ st, (Backend.processLowest (runInj table) y).1.popLog = st :: y.popLog ∧ st.ts ≤ T := by
  obtain ⟨st, hpl, hmin⟩ := processLowest_cons table y ⟨i0, hc, hb⟩
  refine ⟨st, hpl, ?_⟩
  cases hbb : (y.th i0).buf with
  | nil => exact absurd hbb hb
  | cons b bs => exact Nat.le_trans (hmin i0 hc b bs hbb) (hfront b bs hbb)

/-- what the batch loop carries from `x` with ordering disabled -/
def Prio (c : Cfg) (fl i0 : Nat) (st0 : Stmt) (f : Nat) (x y : BSt) : Prop :=
  PIo c fl y ∧ FI none [] y ∧ st0 ∈ (y.th i0).accepted ∧
    ∃ new, y.popLog = new ++ x.popLog ∧ (f ∉ y.flags → ∀ r ∈ new, r.ts ≤ st0.ts)

theorem Prio.processLowest (table : List (Nat × Nat × List FOp)) (hg0 : c.grace = 0) {fl i0 : Nat} {st0 : Stmt} {f : Nat}
    (hk : st0.kind = .flush f) {x y : BSt} (h : Prio c fl i0 st0 f x y) (hbuf : f ∉ y.flags → (y.th i0).buf ≠ []) :
    Prio c fl i0 st0 f x (Backend.processLowest (runInj table) y).1 := by
  obtain ⟨hP, hFy, ha, new, e1, e2⟩ := h
  have hm := mono_back.processLowest (mono_front.runInj table) y
  refine ⟨PIo.processLowest (injOK_runInj table) hP (fun hg => absurd hg0 hg), hFy.processLowest (injOK2_runInj table),
    hm.mem_acc ha, ?_⟩
  by_cases hfy : f ∈ y.flags
  · -- processed already: nothing is claimed about the timestamps, the history only grows
    obtain ⟨m, hm2⟩ := ((popSuf_closed y.popLog).toClosedB.passRules
      (PC.runInj_ok (popSuf_closed y.popLog) table)).lowest y ⟨[], rfl⟩
    exact ⟨m ++ new, by rw [hm2, e1, List.append_assoc], fun hnf => absurd (hm.flags f hfy) hnf⟩
  · obtain ⟨hch, hfront⟩ := pending_of_not_raised hP hFy i0 st0 f hk ha hfy
    have hreg : i0 ∈ y.registry := hP.reg i0 (by intro he; rw [he] at hch; cases hch)
    obtain ⟨st, hpl, hle⟩ := processLowest_le table (hP.bufCache i0 hreg (hbuf hfy)) (hbuf hfy) hfront
    refine ⟨st :: new, by rw [hpl, e1]; rfl, fun _ r hr => ?_⟩
    rcases List.mem_cons.mp hr with h1 | h1
    · rw [h1]; exact hle
    · exact e2 hfy r h1

/-- the loop pops only where the guard found every unread queue behind a non-empty buffer, so the request's context
    offers a front -/
theorem batchLoop_prio (table : List (Nat × Nat × List FOp)) (hg0 : c.grace = 0) {fl i0 : Nat} {st0 : Stmt} {f : Nat}
    (hk : st0.kind = .flush f) (fuel : Nat) {x y : BSt} (h : Prio c fl i0 st0 f x y) :
    Prio c fl i0 st0 f x (Backend.batchLoop (runInj table) fuel y) :=
  batchLoop_rule (inj := runInj table) (Prio c fl i0 st0 f x)
    (fun y => Prio c fl i0 st0 f x y ∧ ∀ i ∈ y.registry, (y.th i).buf = [] → (y.th i).qStmts = [])
    (fun y ⟨hP, hFy, ha, new, e1, e2⟩ => by
      have hs := same2_hasPending y
      have hO : Prio c fl i0 st0 f x (Backend.hasPending y).1 :=
        ⟨hP.hasPending.1, hFy.same hs, by rw [(hs.th i0).acc]; exact ha, new, by rw [hs.pop]; exact e1,
          by rw [hs.flags]; exact e2⟩
      exact ⟨hO, fun hn => ⟨hO, hP.hasPending.2 hn⟩⟩)
    (fun y ⟨hy, hguard⟩ => hy.processLowest table hg0 hk (fun hfy hb => by
      obtain ⟨hch, _⟩ := pending_of_not_raised hy.1 hy.2.1 i0 st0 f hk hy.2.2.1 hfy
      have hq := hguard i0 (hy.1.reg i0 (by intro he; rw [he] at hch; cases hch)) hb
      unfold chain at hch; rw [hb, hq] at hch; cases hch))
    (fun y ⟨hP, hFy, ha, new, e1, e2⟩ => ⟨(injOK_runInj table).pio hP 4, (injOK2_runInj table) _ _ 4 hFy,
      (mono_front.runInj table y 4).mem_acc ha, new, by rw [PC.runInj_popLog]; exact e1,
      fun hnf => e2 (fun hc => hnf ((mono_front.runInj table y 4).flags f hc))⟩)
    fuel y h

theorem poll_prio (table : List (Nat × Nat × List FOp)) (hg0 : c.grace = 0) (i0 : Nat) (st0 : Stmt) (f : Nat)
    (hk : st0.kind = .flush f) {fl : Nat} {s : BSt} (h : PIo c fl s) (hF : FI none [] s) (hacc : st0 ∈ (s.th i0).accepted) :
    ∃ new, (Backend.poll (runInj table) s).popLog = new ++ s.popLog ∧
      (f ∉ (Backend.poll (runInj table) s).flags → ∀ r ∈ new, r.ts ≤ st0.ts) := by
  have hi : InjOK (runInj table) := injOK_runInj table
  have hgm := mono_front.runInj table
  by_cases hfs : f ∈ s.flags
  · obtain ⟨m, hm⟩ := ((popSuf_closed s.popLog).toClosedB.passRules (PC.runInj_ok (popSuf_closed s.popLog) table)).poll s ⟨[], rfl⟩
    exact ⟨m, hm, fun hnf => absurd ((mono_back.poll mono_read hgm s).flags f hfs) hnf⟩
  · obtain ⟨hch, _⟩ := pending_of_not_raised h hF i0 st0 f hk hacc hfs
    -- the oldest pending record of the context is ripe (no grace period), so the pass buffers an event of the context
    cases hcc : chain (s.th i0) with
    | nil => rw [hcc] at hch; cases hch
    | cons h0 tl =>
      have hripe : h0.ts + c.grace ≤ s.now := by
        rw [hg0]; exact h.leNow i0 h0 (by rw [hcc]; exact List.mem_cons_self ..)
      obtain ⟨_, hb, _, hcnt⟩ := populate_conc hi (grow_front.runInj table) h i0 h0 (by rw [hcc]; rfl) hripe
      obtain ⟨flp, Cp, hpp⟩ := PIo.populate hi h
      have h1 : Prio c flp i0 st0 f s (populate (runInj table) s).1 :=
        ⟨hpp.toPIo, hF.populate (injOK2_runInj table), (mono_read.populate hgm s).mem_acc hacc, [],
          populate_popLog (PC.runInj_popLog table) s, fun _ _ hr => nomatch hr⟩
      rw [poll_eq]
      unfold Backend.pollTail
      rw [if_pos hcnt]
      split
      · exact (h1.processLowest table hg0 hk (fun _ => hb)).2.2.2
      · exact (batchLoop_prio table hg0 hk _ h1).2.2.2

theorem applyOp_prio (i0 : Nat) (st0 : Stmt) (f : Nat) (hk : st0.kind = .flush f) {s : BSt} (hG : GI s) (hF : FI none [] s)
    (hg0 : s.cfg.grace = 0) (hacc : st0 ∈ (s.th i0).accepted) (o : Op) (hrun : (applyOp s o).1.backendGone = false) :
    ∃ new, (applyOp s o).1.popLog = new ++ s.popLog ∧ (f ∉ (applyOp s o).1.flags → ∀ r ∈ new, r.ts ≤ st0.ts) := by
  cases o with
  | front fo => exact ⟨[], PC.applyFront_popLog s fo, fun _ _ hr => by cases hr⟩
  | poll table =>
    cases hgone : s.backendGone
    · rw [applyOp_poll hgone]
      obtain ⟨fl, hI⟩ := hG
      have hI' : PIo s.cfg fl { s with siteCnt := [] } := hI.frame rfl
      have hF' : FI none [] { s with siteCnt := [] } := hF.frame rfl
      exact poll_prio table hg0 i0 st0 f hk hI' hF' hacc
    · rw [applyOp_poll_gone hgone]
      exact ⟨[], rfl, fun _ _ hr => by cases hr⟩
  | exit =>
    cases hgone : s.backendGone
    · rw [applyOp_exit hgone] at hrun
      cases hrun
    · rw [applyOp_exit_gone hgone]
      exact ⟨[], rfl, fun _ _ hr => by cases hr⟩

theorem runOps_prio (i0 : Nat) (st0 : Stmt) (f : Nat) (hk : st0.kind = .flush f) :
    ∀ (ops : List Op) (s : BSt), GI s → FI none [] s → s.cfg.grace = 0 → st0 ∈ (s.th i0).accepted →
      (runOps s ops).backendGone = false →
      ∃ new, (runOps s ops).popLog = new ++ s.popLog ∧ (f ∉ (runOps s ops).flags → ∀ r ∈ new, r.ts ≤ st0.ts) := by
  intro ops
  induction ops with
  | nil => intro s _ _ _ _ _; exact ⟨[], rfl, fun _ _ hr => by cases hr⟩
  | cons o os ih =>
    intro s hG hF hg0 hacc hrun
    rw [runOps_cons] at hrun ⊢
    have m1 := mono_applyOp s o
    have m2 := mono_runOps os (applyOp s o).1
    have hrun1 := m2.running hrun
    have hcfg : (applyOp s o).1.cfg = s.cfg := applyOp_cfg s o
    obtain ⟨n1, a1, a2⟩ := applyOp_prio i0 st0 f hk hG hF hg0 hacc o hrun1
    obtain ⟨n2, b1, b2⟩ := ih (applyOp s o).1 (hG.applyOp o) (hF.applyOp o) (by rw [hcfg]; exact hg0)
      (m1.mem_acc hacc) hrun
    refine ⟨n2 ++ n1, by rw [b1, a1, List.append_assoc], fun hnf r hr => ?_⟩
    rcases List.mem_append.mp hr with h1 | h1
    · exact b2 hnf r h1
    · exact a2 (fun hc => hnf (m2.flags f hc)) r h1

end Backend.PB
