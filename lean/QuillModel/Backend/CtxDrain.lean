import QuillModel.Backend.QLink
import QuillModel.Backend.CtxProofs
/-!
What the clean-up achieves once a pass has found every queue and transit buffer empty: the clean-up loop removes
every invalid context (`drained_all_valid`), the registry is then a permutation of the contexts of the live actors
(`CI.registry_perm`), the counter is exact below `2 ^ bits` registered contexts (`CI.cnt_exact`). For C20 and C07.
-/
namespace Backend.PC

def emptyTh (c : Cfg) (t : Th) : Bool := (qEmpty c t.q).2 && t.buf.isEmpty

theorem ctxEmpty_snd (s : BSt) (i : Nat) : (ctxEmpty s i).2 = emptyTh s.cfg (s.th i) := rfl

theorem emptyTh_ctxEmpty (s : BSt) (i j : Nat) (h : emptyTh s.cfg (s.th j) = true) :
    emptyTh (ctxEmpty s i).1.cfg ((ctxEmpty s i).1.th j) = true := by
  rw [ctxEmpty_cfg, ctxEmpty_th]
  split
  · rename_i hji
    obtain ⟨rfl, _⟩ := hji
    unfold emptyTh at h ⊢
    simp only [Bool.and_eq_true] at h ⊢
    exact ⟨qEmpty_idem _ _ h.1, h.2⟩
  · exact h

theorem allEmpty_fold_spec : ∀ (l : List Nat) (acc : BSt × Bool) (done : List Nat),
    (acc.2 = true → ∀ i ∈ done, emptyTh acc.1.cfg (acc.1.th i) = true) →
    let r := l.foldl (fun (acc : BSt × Bool) i => ((ctxEmpty acc.1 i).1, acc.2 && (ctxEmpty acc.1 i).2)) acc
    r.2 = true → ∀ i, (i ∈ done ∨ i ∈ l) → emptyTh r.1.cfg (r.1.th i) = true
  | [], acc, done, h => by
    intro r hr i hi
    rcases hi with hi | hi
    · exact h hr i hi
    · cases hi
  | j :: rest, acc, done, h => by
    intro r hr i hi
    have := allEmpty_fold_spec rest ((ctxEmpty acc.1 j).1, acc.2 && (ctxEmpty acc.1 j).2) (j :: done) (by
      intro h2 k hk
      simp only [Bool.and_eq_true] at h2
      rcases List.mem_cons.mp hk with rfl | hk
      · apply emptyTh_ctxEmpty
        rw [← ctxEmpty_snd]; exact h2.2
      · exact emptyTh_ctxEmpty _ _ _ (h h2.1 k hk)) hr i (by
      rcases hi with hi | hi
      · exact Or.inl (List.mem_cons_of_mem _ hi)
      · rcases List.mem_cons.mp hi with rfl | hi
        · exact Or.inl List.mem_cons_self
        · exact Or.inr hi)
    exact this

theorem allEmpty_true (s : BSt) (h : (allEmpty s).2 = true) :
    ∀ i ∈ (allEmpty s).1.cache, emptyTh (allEmpty s).1.cfg ((allEmpty s).1.th i) = true := by
  intro i hi
  have hc : (allEmpty s).1.cache = (refreshCache s).cache := by
    have := congrArg Core.cache (core_allEmpty s)
    rw [← core_refresh] at this; exact this
  rw [hc] at hi
  unfold allEmpty at h ⊢
  simp only [] at h ⊢
  exact allEmpty_fold_spec (refreshCache s).cache (refreshCache s, true) [] (fun _ _ hk => by cases hk) h i (Or.inr hi)

theorem length_filter_ne_lt (l : List Nat) (i : Nat) (h : i ∈ l) : (l.filter (· ≠ i)).length < l.length := by
  induction l with
  | nil => cases h
  | cons x xs ih =>
    by_cases hx : x = i
    · subst hx
      rw [List.filter_cons_of_neg (by simp)]
      have := List.length_filter_le (· ≠ x) xs
      simp only [List.length_cons]; omega
    · rw [List.filter_cons_of_pos (by simpa using hx)]
      have hi : i ∈ xs := by
        rcases List.mem_cons.mp h with h | h
        · exact absurd h.symm hx
        · exact h
      have := ih hi
      simp only [List.length_cons]; omega

/-- a context the repaired clean-up keeps although its thread is gone: its failure counter is not yet reported -/
def Unreported (s : BSt) (i : Nat) : Prop := s.cfg.cleanupKeepsUnreported = true ∧ (s.th i).fail ≠ 0

/-- what the search changes: nothing the clean-up decisions read, and emptiness is kept -/
def Chk (s s' : BSt) : Prop :=
  s'.cache = s.cache ∧ s'.cfg = s.cfg ∧
  ∀ k, (s'.th k).valid = (s.th k).valid ∧ (s'.th k).fail = (s.th k).fail ∧
    (emptyTh s.cfg (s.th k) = true → emptyTh s'.cfg (s'.th k) = true)

theorem Chk.refl (s : BSt) : Chk s s := ⟨rfl, rfl, fun _ => ⟨rfl, rfl, id⟩⟩
theorem Chk.trans {a b c : BSt} (h1 : Chk a b) (h2 : Chk b c) : Chk a c :=
  ⟨h2.1.trans h1.1, h2.2.1.trans h1.2.1, fun k =>
    ⟨(h2.2.2 k).1.trans (h1.2.2 k).1, (h2.2.2 k).2.1.trans (h1.2.2 k).2.1, fun h => (h2.2.2 k).2.2 ((h1.2.2 k).2.2 h)⟩⟩

theorem Chk_ctxEmpty (s : BSt) (j : Nat) : Chk s (ctxEmpty s j).1 := by
  refine ⟨rfl, rfl, fun k => ⟨?_, ?_, fun h => emptyTh_ctxEmpty s j k h⟩⟩
  · rw [ctxEmpty_th]; split <;> rfl
  · rw [ctxEmpty_th]; split <;> rfl

theorem Chk.unreported {s s' : BSt} (h : Chk s s') {i : Nat} (hu : Unreported s i) : Unreported s' i := by
  unfold Unreported at hu ⊢
  rw [h.2.1, (h.2.2 i).2.1]; exact hu

theorem findFirst_allE (l : List Nat) (s : BSt)
    (h : ∀ i ∈ l, (s.th i).valid = false → emptyTh s.cfg (s.th i) = true) :
    Chk s (cleanupContexts.go.findFirst s l).1 ∧
    (((cleanupContexts.go.findFirst s l).2 = none ∧ ∀ i ∈ l, (s.th i).valid = true ∨ Unreported s i) ∨
     (∃ i ∈ l, (cleanupContexts.go.findFirst s l).2 = some i ∧ (s.th i).valid = false)) := by
  obtain ⟨a, b, c⟩ := findFirst_rule (Chk s) (fun x i hx => hx.trans (Chk_ctxEmpty x i)) l s (Chk.refl s)
  refine ⟨a, ?_⟩
  cases hr : (cleanupContexts.go.findFirst s l).2 with
  | some i =>
    obtain ⟨hm, x', hx', _, hv, _⟩ := b i hr
    exact Or.inr ⟨i, hm, rfl, by rw [← (hx'.2.2 i).1]; exact hv⟩
  | none =>
    refine Or.inl ⟨rfl, fun i hi => ?_⟩
    obtain ⟨x', hx', hc⟩ := c hr i hi
    -- in the probed state `x'` the context is as in `s`, and empty if it was
    rw [(hx'.2.2 i).1, ctxEmpty_snd, (hx'.2.2 i).2.1, hx'.2.1] at hc
    rcases hc with hv | he | hu
    · exact Or.inl hv
    · cases hv : (s.th i).valid
      · rw [← hx'.2.1, (hx'.2.2 i).2.2 (h i hi hv)] at he; cases he
      · exact Or.inl rfl
    · exact Or.inr hu

theorem CInv_removeSt {s : BSt} (hs : CInv s) (i : Nat) (hi : i ∈ s.cache) (hv : (s.th i).valid = false) :
    CInv (removeSt s i) := by
  unfold CInv; rw [core_removeSt]
  exact CI.remove hs i hi (by rw [valid_core]; exact hv)

theorem go_all_valid : ∀ (fuel : Nat) (s : BSt), CInv s →
    (∀ i ∈ s.cache, (s.th i).valid = false → emptyTh s.cfg (s.th i) = true) → s.cache.length < fuel →
    ∀ i ∈ (cleanupContexts.go fuel s).cache,
      ((cleanupContexts.go fuel s).th i).valid = true ∨ Unreported (cleanupContexts.go fuel s) i
  | 0, _, _, _, hf => by omega
  | n + 1, s, hs, hE, hf => by
    rw [go_succ]
    obtain ⟨hck, hr⟩ := findFirst_allE s.cache s hE
    have hcore := (findFirst_rule (fun x => core x = core s) (fun x i h => (core_ctxEmpty x i).trans h) s.cache s rfl).1
    rcases hfe : cleanupContexts.go.findFirst s s.cache with ⟨s1, o⟩
    rw [hfe] at hck hr hcore
    simp only [] at hr
    rcases hr with ⟨rfl, h2⟩ | ⟨i, hi, rfl, h2⟩
    · simp only []
      intro k hk
      rw [hck.1] at hk
      rcases h2 k hk with hh | hh
      · left; rw [(hck.2.2 k).1]; exact hh
      · right; exact hck.unreported hh
    · simp only []
      have hs1 : CInv s1 := CInv_of_core hcore hs
      have hv1 : (s1.th i).valid = false := by rw [(hck.2.2 i).1]; exact h2
      apply go_all_valid n
      · exact CInv_removeSt hs1 i (by rw [hck.1]; exact hi) hv1
      · intro k hk hvk
        have hk' : k ∈ s.cache ∧ k ≠ i := by
          have : k ∈ s1.cache.filter (· ≠ i) := hk
          rw [hck.1] at this
          simpa using this
        rw [removeSt_th _ _ _ hk'.2] at hvk ⊢
        have hcfg : (removeSt s1 i).cfg = s1.cfg := rfl
        rw [hcfg]
        rw [(hck.2.2 k).1] at hvk
        exact (hck.2.2 k).2.2 (hE k hk'.1 hvk)
      · have : (removeSt s1 i).cache = s1.cache.filter (· ≠ i) := rfl
        rw [this, hck.1]
        have := length_filter_ne_lt s.cache i hi
        omega

/-- the contexts of the live threads that logged -/
def Core.liveCtxs (c : Core) : List Nat :=
  (c.actors.filter (fun x => x.alive && x.ctx.isSome)).map (fun x => x.ctx.getD 0)

theorem CI.liveCtxs_nodup {c : Core} (h : CI c) : c.liveCtxs.Nodup := by
  unfold Core.liveCtxs
  show List.Pairwise (· ≠ ·) _
  rw [List.pairwise_map, List.pairwise_filter]
  apply List.Pairwise.imp_of_mem _ h.ids
  intro x y hx hy hxy px py
  simp only [Bool.and_eq_true] at px py
  obtain ⟨i, hi⟩ := Option.isSome_iff_exists.mp px.2
  obtain ⟨j, hj⟩ := Option.isSome_iff_exists.mp py.2
  rw [hi, hj]
  simp only [Option.getD_some]
  intro e
  subst e
  have h1 := (h.own x hx px.1 i hi).1
  have h2 := (h.own y hy py.1 i hj).1
  rw [h1] at h2
  have : x.id = y.id := congrArg TC.owner (Option.some.inj h2)
  exact hxy px.1 py.1 this

theorem CI.mem_liveCtxs {c : Core} (i : Nat) :
    i ∈ c.liveCtxs ↔ ∃ x ∈ c.actors, x.alive = true ∧ x.ctx = some i := by
  unfold Core.liveCtxs
  simp only [List.mem_map, List.mem_filter, Bool.and_eq_true]
  constructor
  · rintro ⟨x, ⟨hx, hal, hsome⟩, hg⟩
    obtain ⟨j, hj⟩ := Option.isSome_iff_exists.mp hsome
    rw [hj] at hg; simp only [Option.getD_some] at hg
    exact ⟨x, hx, hal, by rw [hj, hg]⟩
  · rintro ⟨x, hx, hal, hc⟩
    exact ⟨x, ⟨hx, hal, by rw [hc]; rfl⟩, by rw [hc]; rfl⟩

theorem CI.registry_perm {c : Core} (h : CI c) (hv : ∀ i ∈ c.registry, c.valid i = true) :
    c.registry.Perm c.liveCtxs := by
  rw [List.perm_ext_iff_of_nodup h.regNodup h.liveCtxs_nodup]
  intro i
  rw [CI.mem_liveCtxs]
  constructor
  · intro hi
    exact h.owned i (h.regLt i hi) (hv i hi)
  · rintro ⟨x, hx, hal, hc⟩
    exact (h.own x hx hal i hc).2

theorem nInvalid_core (s : BSt) :
    (core s).nInvalid = (s.registry.filter (fun i => !(s.th i).valid)).length := by
  unfold Core.nInvalid
  congr 1
  apply List.filter_congr
  intro i _
  rw [valid_core]

theorem nInvalid_zero {c : Core} (h : c.nInvalid = 0) : ∀ i ∈ c.registry, c.valid i = true := by
  intro i hi
  unfold Core.nInvalid at h
  have := List.length_eq_zero_iff.mp h
  have hn : i ∉ c.registry.filter (fun i => !c.valid i) := by rw [this]; simp
  rw [List.mem_filter] at hn
  cases hv : c.valid i
  · exact absurd ⟨hi, by simp [hv]⟩ hn
  · rfl

theorem CI.cnt_exact {c : Core} (h : CI c) (hnw : c.registry.length < 2 ^ c.bits) : c.cnt = c.nInvalid := by
  rw [h.cnt]
  apply Nat.mod_eq_of_lt
  have : c.nInvalid ≤ c.registry.length := List.length_filter_le _ _
  omega

theorem go_newFlag (fuel : Nat) (s : BSt) : (cleanupContexts.go fuel s).newFlag = s.newFlag :=
  go_rule (fun x => x.newFlag = s.newFlag) (fun _ _ h => h) (fun _ _ h _ _ _ _ => h) fuel s rfl

/-- the contexts kept for an unreported failure counter go with the next report (F24) -/
theorem drained_all_valid (s : BSt) (hs : CInv s) (hnw : s.registry.length < 2 ^ s.cfg.invalidBits)
    (h : (allEmpty s).2 = true) :
    ∀ i ∈ (cleanupContexts (allEmpty s).1).registry,
      ((cleanupContexts (allEmpty s).1).th i).valid = true ∨ Unreported (cleanupContexts (allEmpty s).1) i := by
  have ha : CInv (allEmpty s).1 := CInv_closed.allEmpty s hs
  have hnf := allEmpty_newFlag s
  have hreg : (allEmpty s).1.registry = s.registry := (allEmpty_keeps s).2.2.1
  have hbits : (allEmpty s).1.cfg.invalidBits = s.cfg.invalidBits := (allEmpty_keeps s).1
  have hcr : (allEmpty s).1.cache = (allEmpty s).1.registry := ha.fresh hnf
  rw [cleanupContexts_eq]
  split
  · rename_i h0
    have hex := CI.cnt_exact ha (by show (allEmpty s).1.registry.length < 2 ^ (allEmpty s).1.cfg.invalidBits; rw [hreg, hbits]; exact hnw)
    have hz : (core (allEmpty s).1).nInvalid = 0 := by rw [← hex]; exact h0
    intro i hi
    left
    rw [← valid_core]; exact nInvalid_zero hz i hi
  · have hgo := go_all_valid ((allEmpty s).1.cache.length + 1) (allEmpty s).1 ha
      (fun i hi _ => allEmpty_true s h i hi) (by omega)
    have hfin : CInv (cleanupContexts.go ((allEmpty s).1.cache.length + 1) (allEmpty s).1) := CInv_kept.toKeptB.go _ _ ha
    have hnf2 : (cleanupContexts.go ((allEmpty s).1.cache.length + 1) (allEmpty s).1).newFlag = false := by
      rw [go_newFlag]; exact hnf
    have hcr2 := hfin.fresh hnf2
    intro i hi
    apply hgo
    have e : (core (cleanupContexts.go ((allEmpty s).1.cache.length + 1) (allEmpty s).1)).cache =
        (cleanupContexts.go ((allEmpty s).1.cache.length + 1) (allEmpty s).1).cache := rfl
    rw [← e, hcr2]; exact hi

theorem cleanupLoggers_frame (inj : BSt → Nat → BSt) (hq : Quiet9 inj) (s : BSt) :
    (cleanupLoggers inj s).registry = s.registry ∧ (core (cleanupLoggers inj s)).ths = (core s).ths ∧
    (core (cleanupLoggers inj s)).actors = (core s).actors := by
  have h := cleanupLoggers_eq_of (fun x => (x.registry, (core x).ths, (core x).actors)) inj hq (fun _ => rfl)
    (fun x i => by simp only [core_ctxEmpty]; rfl)
    (fun _ => rfl) s
  exact ⟨(Prod.mk.inj h).1, (Prod.mk.inj (Prod.mk.inj h).2).1, (Prod.mk.inj (Prod.mk.inj h).2).2⟩

/-- the state in which the idle branch of a poll asks whether everything is empty -/
def idleState (inj : BSt → Nat → BSt) (s : BSt) : BSt :=
  checkFailures inj (flushGate inj (inj (populate inj s).1 5) (inj (populate inj s).1 5).cfg.flushInterval)

theorem poll_idle_eq (inj : BSt → Nat → BSt) (s : BSt) (h0 : (populate inj s).2 = 0)
    (he : (allEmpty (idleState inj s)).2 = true) :
    poll inj s = cleanupLoggers inj (preEraseFlush (cleanupContexts (allEmpty (idleState inj s)).1)) := by
  rw [poll_eq]
  unfold pollTail
  rw [if_neg (fun h => h h0)]
  exact if_pos he

theorem _root_.Backend.TailRules.idleState {inj : BSt → Nat → BSt} {O F G : BSt → Prop} (hp : TailRules inj O F G) (s : BSt)
    (h : O (populate inj s).1) : G (idleState inj s) :=
  hp.gcheck _ (hp.gate _ (hp.site _ 5 h))

theorem _root_.Backend.PassRules.idleState {inj : BSt → Nat → BSt} {O F G : BSt → Prop} (hp : PassRules inj O F G) (s : BSt) (hs : O s) :
    G (idleState inj s) :=
  hp.toTailRules.idleState s (hp.idle _ (hp.populate s hs))

theorem CInv_idleState {inj : BSt → Nat → BSt} (hi : InjOK CInv inj) (s : BSt) (hs : CInv s) :
    CInv (idleState inj s) :=
  (CInv_closed.toClosedB.toC.passRules hi).idleState s hs

end Backend.PC

namespace Backend
open PC

/-- initial states: no thread has registered yet (the driver's `mkState`, any configuration, sinks and loggers) -/
def CtxFresh (s : BSt) : Prop :=
  s.ths = [] ∧ s.registry = [] ∧ s.cache = [] ∧ s.newFlag = false ∧ s.invalidCnt = 0 ∧ s.actors = []

theorem CtxFresh.inv {s : BSt} (h : CtxFresh s) : CInv s := by
  obtain ⟨h1, h2, h3, h4, h5, h6⟩ := h
  unfold CInv
  refine ⟨?_, ?_, ?_, ?_, ?_, ?_, ?_, ?_⟩ <;> simp [core, h1, h2, h3, h4, h5, h6, Core.nInvalid]

end Backend
