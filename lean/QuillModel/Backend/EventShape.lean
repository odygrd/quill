import QuillModel.Backend.Sched
/-!
What `processEvent` does with one transit event, path by path: `EventShape s st r` lists the paths once, each with its
guard and the resulting state, notification and flag. A property of `processEvent s st` is proved by a case analysis
over the shape and never unfolds the function itself.
-/
namespace Backend

inductive EventShape (s : BSt) (st : Stmt) : BSt × Option String × Option Nat → Prop
  | writeFail (hk : st.kind = .log) (hl : st.lvl ≠ 9) (hd : (dispatch s st).2 = true) :
      EventShape s st ((dispatch s st).1, some "n:wfail", none)
  | replay (hk : st.kind = .log) (hl : st.lvl ≠ 9) (hd : (dispatch s st).2 = false)
      (hb : ((dispatch s st).1.lgOf st.lg).btFlush ≤ st.lvl ∧ ((dispatch s st).1.lgOf st.lg).bt.isSome = true) :
      EventShape s st ((replayRing (dispatch s st).1 st.lg).1,
        if (replayRing (dispatch s st).1 st.lg).2 then some "n:wfail" else none, none)
  | plain (hk : st.kind = .log) (hl : st.lvl ≠ 9) (hd : (dispatch s st).2 = false)
      (hb : ¬(((dispatch s st).1.lgOf st.lg).btFlush ≤ st.lvl ∧ ((dispatch s st).1.lgOf st.lg).bt.isSome = true)) :
      EventShape s st ((dispatch s st).1, none, none)
  | store {ring : Ring} (hk : st.kind = .log) (hl : st.lvl = 9) (hr : (s.lgOf st.lg).bt = some ring) :
      EventShape s st (s.setLg st.lg (fun l => { l with bt := some (ring.store st) }), none, none)
  | noRing (hk : st.kind = .log) (hl : st.lvl = 9) (hr : (s.lgOf st.lg).bt = none) :
      EventShape s st (s, some "n:nobt", none)
  | initBt {cap fl : Nat} (hk : st.kind = .initBt cap fl) :
      EventShape s st
        (s.setLg st.lg (fun l => { l with bt := some (((s.lgOf st.lg).bt.getD {}).setCapacity cap) }), none, none)
  | flushBt (hk : st.kind = .flushBt) :
      EventShape s st ((replayRing s st.lg).1, if (replayRing s st.lg).2 then some "n:wfail" else none, none)
  | flush {f : Nat} (hk : st.kind = .flush f) : EventShape s st (flushSinks s, none, some f)
  | removal {f : Nat} (hk : st.kind = .removal f) : EventShape s st (s, none, none)

theorem processEvent_shape (s : BSt) (st : Stmt) : EventShape s st (processEvent s st) := by
  unfold processEvent
  split
  · next hk =>
    by_cases hl : st.lvl = 9
    · rw [if_neg (fun h => h hl)]
      split
      · next ring hr => exact .store hk hl hr
      · next hr => exact .noRing hk hl hr
    · rw [if_pos hl]
      dsimp only
      cases hd : (dispatch s st).2
      · rw [if_neg Bool.false_ne_true]
        split
        · next hb => exact .replay hk hl hd hb
        · next hb => exact .plain hk hl hd hb
      · rw [if_pos rfl]
        exact .writeFail hk hl hd
  · next cap fl hk => exact .initBt hk
  · next hk => exact .flushBt hk
  · next f hk => exact .flush hk
  · next f hk => exact .removal hk

theorem processEvent_flush (s : BSt) (st : Stmt) (f : Nat) (hk : st.kind = .flush f) :
    processEvent s st = (flushSinks s, none, some f) := by
  unfold processEvent; rw [hk]

theorem processEvent_flag (s : BSt) (st : Stmt) (f : Nat) (h : (processEvent s st).2.2 = some f) :
    st.kind = .flush f := by
  have hs := processEvent_shape s st
  generalize processEvent s st = r at hs h
  cases hs with
  | flush hk => cases h; exact hk
  | writeFail | replay | plain | store | noRing | initBt | flushBt | removal => cases h

/-- one transit event processed and the exception that escaped it reported: the state the pop moves the record in -/
def procSt (s : BSt) (st : Stmt) : BSt :=
  match (processEvent s st).2.1 with
  | some m => (processEvent s st).1.emit (.notify m)
  | none => (processEvent s st).1

end Backend
