import QuillModel.Backend.OrdBack2
/-!
The ordering invariant along the backend pass, as an instance of the rules of `Pass.lean`. Of the indices of
`PI c ex fl T C s`, `c` and `ex = none` never move in the backend and `C` is `s.cache`; the cut-off `fl` is set where
`populate` samples the clock, and `T` is the list of contexts `populate` has still to read. So the phases are
`∃ fl, PIo c fl s` outside the read pass, `PIr c t l s` while reading (cut-off `t`, contexts `l` unread), `PIf c fl s`
where a pop is allowed. After the read pass the cut-off stays (`PIo.tailRules`); a
poll, the exit loop and a schedule keep `∃ fl, PIo c fl s` (`PIo.passRules`, `GI.runOps`).
-/
namespace Backend.PB

variable {c : Cfg} {fl : Nat} {T : Nat → Prop} {C : List Nat} {s : BSt} {inj : BSt → Nat → BSt}

/-- outside the configuration C05 speaks about, nothing is claimed about unread queues -/
theorem PI.anyT {ex : Option Nat} {T' : Nat → Prop} (h : PI c ex fl T C s)
    (hb : ¬ (c.grace ≠ 0 ∧ c.refreshAfterSample = true)) : PI c ex fl T' C s :=
  { h with ord := fun hg0 hr0 _ => absurd ⟨hg0, hr0⟩ hb }

/-- `populate` is reading with cut-off `t`, the contexts `l` of the cache are still unread -/
def PIr (c : Cfg) (t : Option Nat) (l : List Nat) (s : BSt) : Prop :=
  ∃ fl, (c.grace ≠ 0 → c.refreshAfterSample = true → t = some fl) ∧ (∀ i ∈ l, i ∈ s.cache) ∧
    PI c none fl (· ∈ l) s.cache s

/-- the cut-off is sampled in `s`: a new floor; then hook site 1 and (in the configuration of C05) the refresh that puts
    every registered context into the cache, so that "unread" may be said of the cache alone -/
theorem PIr.enter (hi : InjOK inj) (h : PIo c fl s) : PIr c (tsNowOf s) (enterSt inj s).cache (enterSt inj s) := by
  have hcfg : s.cfg = c := h.cfgEq
  have h1 := hi _ _ _ _ _ 1 (h.newFloor (s.now - s.cfg.grace) h.floorNow (Nat.le_refl _))
  refine ⟨s.now - s.cfg.grace, fun hg0 _ => by unfold tsNowOf; rw [if_neg (by rw [hcfg]; exact hg0)],
    fun _ hi' => hi', ?_⟩
  unfold enterSt
  by_cases good : c.grace ≠ 0 ∧ c.refreshAfterSample = true
  · rw [if_pos (by rw [hcfg]; exact good.2)]
    exact h1.refresh.weakenT (fun i hi' => hi'.2)
  · split
    · exact h1.refresh.anyT good
    · exact h1.toPIo.anyT good

theorem PIr.site {t : Option Nat} {l : List Nat} (hi : InjOK inj) (h : PIr c t l s) (k : Nat) : PIr c t l (inj s k) := by
  obtain ⟨fl, h1, h2, h3⟩ := h
  have h4 := hi _ _ _ _ _ k h3
  have hce : (inj s k).cache = s.cache := h4.cacheEq
  exact ⟨fl, h1, fun i hi' => by rw [hce]; exact h2 i hi', by rw [hce]; exact h4⟩

theorem PIr.read {t : Option Nat} {i : Nat} {l : List Nat} (hi : InjOK inj) (h : PIr c t (i :: l) s) (fuel : Nat) :
    PIr c t l (readQueue inj t i (fuel + 1) 0 s) := by
  obtain ⟨fl, h1, h2, h3⟩ := h
  have h4 := h3.readQueue_first hi t h1 i (h2 i List.mem_cons_self) fuel 0 s
  have hce : (readQueue inj t i (fuel + 1) 0 s).cache = s.cache := h4.cacheEq
  refine ⟨fl, h1, fun j hj => by rw [hce]; exact h2 j (List.mem_cons_of_mem _ hj), ?_⟩
  rw [hce]
  exact h4.weakenT fun j hj => (List.mem_cons.mp hj.1).resolve_left hj.2

theorem PIr.populate (hi : InjOK inj) (h : PIo c fl s) : ∃ t, PIr c t [] (populate inj s).1 :=
  populate_rule (inj := inj) (fun s => ∃ fl, PIo c fl s) (PIr c) (fun _ hx => hx.imp fun _ hx => hx.refresh)
    (fun _ hx => hx.imp fun _ hx => hi.pio hx 7) (fun _ ⟨_, hx⟩ => PIr.enter hi hx) (fun _ _ _ hx => hx.site hi 2)
    (fun _ _ _ fuel _ hx => hx.read hi fuel) s ⟨fl, h⟩

/-- after a complete pass every registered context with an empty buffer holds only records at or above the
    cut-off sampled at the start of the pass (in the configuration of C05; the structural part of the invariant is
    kept in every configuration) -/
theorem PIo.populate (hi : InjOK inj) (h : PIo c fl s) :
    ∃ fl' C', PI c none fl' (fun _ => False) C' (populate inj s).1 := by
  obtain ⟨t, fl', _, _, h'⟩ := PIr.populate hi h
  exact ⟨fl', _, h'.weakenT fun j hj => by cases hj⟩

theorem PI.lateAll (h : PI c none fl (fun _ => False) C s) (hg0 : c.grace ≠ 0) (hr0 : c.refreshAfterSample = true) :
    PremI s → ∀ i ∈ s.registry, (s.th i).buf = [] → ∀ r ∈ (s.th i).qStmts, fl ≤ r.ts :=
  fun hp i hi => (h.ord hg0 hr0 hp).late i hi (fun hf => hf)

theorem PIo.flushSinks (h : PIo c fl s) : PIo c fl (flushSinks s) := h.frame (core_flushSinks s)

theorem PIo.flushGate (hi : InjOK inj) (h : PIo c fl s) (n : Nat) : PIo c fl (Backend.flushGate inj s n) :=
  flushGate_pres (PIo c fl) inj (fun _ hx => hx.flushSinks) (fun _ hx => hi.pio hx 7) (fun _ hx => hx.frame rfl) s n h

theorem PIo.preEraseFlush (h : PIo c fl s) : PIo c fl (Backend.preEraseFlush s) :=
  preEraseFlush_pres (PIo c fl) (fun _ hx => hx.flushSinks) s h

theorem PIo.tick (h : PIo c fl s) (dt : Nat) : PIo c fl { s with now := s.now + dt } := PI.tick h dt

/-- after its read pass a poll keeps the cut-off; a pop is allowed after the read pass, and where `hasPending` found
    every queue of a context with an empty buffer empty -/
theorem PIo.tailRules (hi : InjOK inj) : TailRules inj (PIo c fl) (PIf c fl) (PIo c fl) where
  idle _ h := h.1
  lowest _ h := h.1.processLowest hi h.2
  pending _ h := ⟨h.hasPending.1, fun hn => ⟨h.hasPending.1, fun _ _ _ i hir hb r hr => by
    rw [h.hasPending.2 hn i hir hb] at hr; cases hr⟩⟩
  site _ k h := hi.pio h k
  gate _ h := h.flushGate hi _
  gcheck _ h := h.checkFailures hi
  gallEmpty _ h := h.allEmpty
  gclean _ h := h.cleanupContexts
  gidle _ h := h
  erase _ h := h.preEraseFlush.cleanupLoggers hi

/-- between passes the cut-off is whatever the last read pass sampled -/
theorem PIo.passRules (hi : InjOK inj) :
    PassRules inj (fun s => ∃ fl, PIo c fl s) (fun s => ∃ fl, PIf c fl s) (fun s => ∃ fl, PIo c fl s) where
  toTailRules := TailRules.ex fun _ => PIo.tailRules hi
  populate _ := fun ⟨_, h⟩ => (h.populate hi).elim fun fl' ⟨_, hp⟩ => ⟨fl', hp.toPIo, fun hg0 hr0 => hp.lateAll hg0 hr0⟩
  allEmpty _ := fun ⟨fl, h⟩ => ⟨fl, h.allEmpty⟩
  check _ := fun ⟨fl, h⟩ => ⟨fl, h.checkFailures hi⟩
  clock _ dt := fun ⟨fl, h⟩ => ⟨fl, h.tick dt⟩
  finalFlush _ := fun ⟨fl, h⟩ => ⟨fl, h.flushSinks⟩

theorem PIo.exitLoop (hi : InjOK inj) (tick fuel : Nat) : ∀ fl s, PIo c fl s → ∃ fl', PIo c fl' (exitLoop inj tick fuel s) :=
  fun fl s h => (PIo.passRules hi).exitLoop tick fuel s ⟨fl, h⟩

/-- the global invariant between operations (the configuration never changes) -/
def GI (s : BSt) : Prop := ∃ fl, PIo s.cfg fl s

theorem GI.of {s : BSt} (h : PIo c fl s) : GI s := ⟨fl, by rw [h.cfgEq]; exact h⟩

theorem injOK_runInj (table : List (Nat × Nat × List FOp)) : InjOK (runInj table) :=
  fun _ _ _ _ _ site h => h.runInj table site

theorem PIo.applyOp {s : BSt} (h : PIo c fl s) (o : Op) : ∃ fl', PIo c fl' (applyOp s o).1 :=
  PassRules.applyOp (fun table => PIo.passRules (injOK_runInj table))
    (fun _ f ⟨fl, hx⟩ => ⟨fl, (PI.applyFront hx f).toPIo⟩) (fun _ ⟨fl, hx⟩ => ⟨fl, hx.frame rfl⟩)
    (fun _ ⟨fl, hx⟩ => ⟨fl, hx.frame rfl⟩) s o ⟨fl, h⟩

theorem GI.applyOp {s : BSt} (h : GI s) (o : Op) : GI (applyOp s o).1 := by
  obtain ⟨fl, h⟩ := h
  obtain ⟨fl', h'⟩ := h.applyOp o
  exact GI.of h'

theorem GI.runOps {s : BSt} (h : GI s) (ops : List Op) : GI (runOps s ops) :=
  List.foldl_inv GI _ (fun _ o hx => hx.applyOp o) ops s h

end Backend.PB
