import QuillModel.Backend.ConsProofsDropCall
/-!
The idle branch of `_poll` (flush sinks, check the failure counters, emptiness check, clean-ups) run without any
frontend step in between: afterwards every context still registered has a zero failure counter.
-/
namespace Backend.PA

/-- an injection runner that runs no frontend step (it may only do bookkeeping covered by `Frame`) -/
def QuietInj (inj : BSt → Nat → BSt) : Prop := ∀ s site, Frame s (inj s site)

theorem runInj_nil_quiet : QuietInj (runInj []) := by
  intro s site
  unfold runInj
  exact Frame.of_misc rfl

theorem keepFail_closedH (s3 : BSt) :
    ClosedH (fun s => (∀ j, (s.th j).fail = (s3.th j).fail) ∧ ∀ j ∈ s.registry, j ∈ s3.registry) where
  frame := fun s s' h f => ⟨fun j => by rw [th_of_ths_eq f.ths]; exact h.1 j, fun j hj => h.2 j (f.registry ▸ hj)⟩
  refresh := fun s h => by
    unfold refreshCache
    split
    · exact h
    · exact h
  ctxEmpty := fun s i h => by
    rw [ctxEmpty_fst]
    refine ⟨fun j => ?_, h.2⟩
    rw [th_setTh]
    split <;> exact h.1 j
  dropCtx := fun s i h _ _ _ => by
    have e : ∀ j, ((ctxEmpty s i).1.th j).fail = (s3.th j).fail := fun j => by
      rw [ctxEmpty_fst, th_setTh]
      split <;> exact h.1 j
    unfold PA.dropCtx
    refine ⟨fun j => ?_, fun j hj => h.2 j (List.mem_filter.mp hj).1⟩
    rw [th_setTh]
    split <;> exact e j

theorem poll_idle (inj : BSt → Nat → BSt) (s : BSt) (h : (populate inj s).2 = 0) :
    poll inj s = idlePass inj (populate inj s).1 := by
  rw [poll_eq]
  unfold pollTail
  exact if_neg (fun hn => hn h)

theorem flushGate_frame {inj : BSt → Nat → BSt} (hq : QuietInj inj) (s : BSt) (n : Nat) : Frame s (flushGate inj s n) :=
  flushGate_pres (Frame s) inj (fun x hx => hx.trans (flushSinks_frame x)) (fun x hx => hx.trans (hq x 7))
    (fun _ hx => hx.trans (Frame.of_misc rfl)) s n (Frame.refl s)

/-- from the counter check on: the check zeroes the counter of every cached context, and what follows keeps the
    counters and only shrinks the registry -/
theorem checkThenClean_clears {inj : BSt → Nat → BSt} (hq : QuietInj inj) (s2 sF : BSt)
    (hF : sF = if (allEmpty (checkFailures inj s2)).2
      then cleanupLoggers inj (preEraseFlush (cleanupContexts (allEmpty (checkFailures inj s2)).1))
      else (allEmpty (checkFailures inj s2)).1)
    (hc : ∀ i ∈ s2.registry, i ∈ s2.cache) (i : Nat) (hi : i ∈ sF.registry) : (sF.th i).fail = 0 := by
  obtain ⟨_, c2, _, c4, _⟩ := checkFailures_clears hq s2
  generalize checkFailures inj s2 = s3 at hF c2 c4
  have hH := keepFail_closedH s3
  have hA := allEmpty_closed hH s3 ⟨fun _ => rfl, fun _ h => h⟩
  have hK : (∀ j, (sF.th j).fail = (s3.th j).fail) ∧ ∀ j ∈ sF.registry, j ∈ s3.registry := by
    rw [hF]
    split
    · exact cleanupLoggers_closed hH inj (fun s site hs => hH.frame s _ hs (hq s site)) _
        (preEraseFlush_closed hH _ (cleanupContexts_closed hH _ hA))
    · exact hA
  rw [hK.1 i]
  exact c2 i (hc i (c4 ▸ hK.2 i hi))

theorem idlePass_clears {inj : BSt → Nat → BSt} (hq : QuietInj inj) (s1 : BSt)
    (hc : ∀ i ∈ s1.registry, i ∈ s1.cache) (i : Nat) (hi : i ∈ (idlePass inj s1).registry) :
    ((idlePass inj s1).th i).fail = 0 := by
  have f2 := (hq s1 5).trans (flushGate_frame hq (inj s1 5) (inj s1 5).cfg.flushInterval)
  refine checkThenClean_clears hq (flushGate inj (inj s1 5) (inj s1 5).cfg.flushInterval) (idlePass inj s1) rfl ?_ i hi
  intro j hj
  rw [f2.cache]
  apply hc
  rw [← f2.registry]
  exact hj

/-!
`InvR`: a reclaimed context has a zero failure counter (all its refused calls were reported). Every frontend operation
keeps it: a refused call bumps only the counter of a live thread's context, which is valid, hence not reclaimed. The
removal itself keeps it when the clean-up is the repaired one (`cleanupKeepsUnreported`), which gives `InvK.closed`.
-/

structure InvR (s : BSt) : Prop where
  zero : ∀ i, (s.th i).removed = true → (s.th i).fail = 0

theorem InvR.of_ths {s s' : BSt} (h : InvR s) (e : s'.ths = s.ths) : InvR s' :=
  ⟨fun i => by rw [th_of_ths_eq e]; exact h.zero i⟩

theorem InvR.setTh {s : BSt} (h : InvR s) (i : Nat) (f : Th → Th)
    (hf : (f (s.th i)).removed = true → (s.th i).removed = true ∧ (f (s.th i)).fail ≤ (s.th i).fail) :
    InvR (s.setTh i f) := by
  refine ⟨fun j hj => ?_⟩
  rw [th_setTh] at hj ⊢
  split at hj
  · next hc =>
    rw [if_pos hc]
    rw [hc.1] at hj ⊢
    obtain ⟨a, b⟩ := hf hj
    have := h.zero i a; omega
  · next hc => rw [if_neg hc]; exact h.zero j hj

theorem InvR.setTh_same {s : BSt} (h : InvR s) (i : Nat) (f : Th → Th)
    (hf : ∀ t, (f t).removed = t.removed ∧ (f t).fail = t.fail) : InvR (s.setTh i f) :=
  h.setTh i f (fun hr => ⟨(hf _).1 ▸ hr, by rw [(hf _).2]; exact Nat.le_refl _⟩)

theorem InvR.ensureCtx {s : BSt} (h : InvR s) (a : Nat) : InvR (ensureCtx s a).1 := by
  unfold Backend.ensureCtx
  split
  · exact h
  · refine ⟨fun j hj => ?_⟩
    rw [setActor_th, th_append (s := s) rfl] at hj ⊢
    split at hj
    · simp [mkTh] at hj
    · next hc => rw [if_neg hc]; exact h.zero j hj

theorem InvR.tryEnq {s : BSt} (h : InvR s) (ci : Nat) (st : Stmt) : InvR (tryEnq s ci st).1 := by
  unfold Backend.tryEnq
  dsimp only
  split <;> exact h.setTh_same ci _ (fun _ => ⟨rfl, rfl⟩)

theorem tryEnq_removed (s : BSt) (ci : Nat) (st : Stmt) (j : Nat) :
    ((tryEnq s ci st).1.th j).removed = (s.th j).removed := by
  unfold Backend.tryEnq
  dsimp only
  split <;> exact th_setTh_proj (·.removed) _ _ _ _ (fun _ => rfl)

theorem InvR.bumpFail {s : BSt} {ci : Nat} (h : InvR s ∧ (s.th ci).removed = false) (d : Bool) (st : Stmt) :
    InvR (bumpFail d s ci st) ∧ ((bumpFail d s ci st).th ci).removed = false := by
  unfold Backend.bumpFail
  split
  · exact ⟨h.1.setTh ci _ (fun hr => by rw [h.2] at hr; cases hr),
      Eq.trans (th_setTh_proj (·.removed) _ _ _ _ (fun _ => rfl)) h.2⟩
  · exact h

theorem InvR.enqFlow {s : BSt} (hA : InvA s) (h : InvR s) (a : Nat) (st : Stmt) (cont : Nat) (first initial : Bool) :
    InvR (enqFlow s a st cont first initial).1 :=
  -- the context the call enqueues to is valid, hence not reclaimed
  have hnr : ((Backend.ensureCtx s a).1.th (Backend.ensureCtx s a).2).removed = false :=
    Bool.eq_false_iff.mpr fun hr => by
      have := (((hA.ensureCtx a).1.th _).rem hr).1
      rw [(hA.ensureCtx a).2] at this
      cases this
  enqFlow_rule (fun ci x => InvR x ∧ (x.th ci).removed = false) (fun ci x => InvR x ∧ (x.th ci).removed = false) InvR
    ⟨h.ensureCtx a, hnr⟩
    (fun ci _ hx _ => (hx.1.tryEnq ci st).of_ths (afterEnq_ths _ a st cont))
    (fun ci x hx _ => ⟨hx.1.tryEnq ci st, (tryEnq_removed x ci st ci).trans hx.2⟩)
    (fun _ _ hx _ => InvR.bumpFail hx _ st)
    (fun _ _ hx _ _ => hx.1.of_ths rfl)
    (fun _ _ hx _ => hx.1.of_ths rfl)

/-- the two invariants together (the second needs the first: the context a call enqueues to is valid) -/
structure InvAR (s : BSt) : Prop where
  a : InvA s
  r : InvR s

/-- the counters are touched by an enqueue attempt only: any record may be enqueued or parked -/
theorem InvR.rules : FrontRules InvA InvR (fun _ _ _ => True) :=
  .ofStrip (fun _ _ e h => h.of_ths (of_stripLg (·.ths) (fun _ => rfl) e)) {
    enq := fun _ a _ st _ _ _ hA h _ _ => h.enqFlow hA a st ..
    stall := fun _ _ _ _ _ _ h _ _ => h.of_ths rfl
    parked := fun _ _ _ _ _ _ _ _ _ => ⟨trivial, trivial⟩
    flagDone := fun _ _ _ _ _ h _ _ _ => h.of_ths rfl
    actorMisc := fun _ _ _ h _ => h.of_ths rfl
    pre := fun _ _ _ _ _ _ _ _ h hp _ _ => ⟨h.of_ths (hp.proj (·.ths) (fun _ _ _ _ => rfl)), fun _ _ _ _ => trivial⟩
    tick := fun _ _ h => h.of_ths rfl
    tstart := fun _ _ _ h _ => h.of_ths rfl
    texitCtx := fun s a i _ h _ _ =>
      have h1 : InvR (s.setActor a (fun x => { x with alive := false })) := h.of_ths rfl
      InvR.of_ths (h1.setTh_same i (fun t => { t with valid := false }) (fun _ => ⟨rfl, rfl⟩)) rfl
    texitNoCtx := fun _ _ _ h _ _ => h.of_ths rfl }

theorem InvAR.resume {s : BSt} (h : InvAR s) (a : Nat) : InvAR (resume s a).1 :=
  ⟨h.a.resume a, InvR.rules.toActorRules.ofResume h.a h.r (resume_shape s a)⟩

theorem InvAR.front {s : BSt} (h : InvAR s) (f : FOp) : InvAR (applyFront s f).1 :=
  ⟨h.a.front f, InvR.rules.applyFront (fun _ _ _ _ _ hp hA => hA.callPre hp) s f h.a h.r⟩

/-- the repaired clean-up (`cleanupKeepsUnreported`) together with the two invariants -/
structure InvK (s : BSt) : Prop where
  flag : s.cfg.cleanupKeepsUnreported = true
  a : InvA s
  r : InvR s

theorem InvK.closed : Closed InvK :=
  closed_iff.mpr fun s s' hp h => by
    refine ⟨(congrArg Cfg.cleanupKeepsUnreported (Stable.prim hp).cfg).trans h.flag, closed_iff.mp InvA.closed s s' hp h.a, ?_⟩
    cases hp with
    | frame f => exact h.r.of_ths f.ths
    | refresh =>
      unfold refreshCache
      split
      · exact h.r.of_ths rfl
      · exact h.r
    | ctxEmpty i | prepRead i | commitRead i => exact h.r.setTh_same i _ (fun _ => ⟨rfl, rfl⟩)
    | dropCtx i hv he hz =>
      unfold PA.dropCtx
      have h1 : InvR (ctxEmpty s i).1 := h.r.setTh_same i _ (fun _ => ⟨rfl, rfl⟩)
      have hf1 : ((ctxEmpty s i).1.th i).fail = 0 := by
        rw [ctxEmpty_fst, th_setTh]
        split <;> exact hz h.flag
      refine ⟨fun j hj => ?_⟩
      rw [th_setTh] at hj ⊢
      split
      · next hc => rw [hc.1]; exact hf1
      · next hc => rw [if_neg hc] at hj; exact h1.zero j hj
    | readOne i st rest =>
      obtain ⟨s0, fr, e⟩ := readOne_eq s i st rest
      rw [e]
      exact (h.r.of_ths fr.ths).setTh_same i _ (fun _ => ⟨rfl, rfl⟩)
    | pop i st rest =>
      obtain ⟨s2, c, e⟩ := popStep_eq s i st rest
      rw [e]
      refine InvR.setTh_same ?_ i _ (fun _ => ⟨rfl, rfl⟩)
      exact h.r.of_ths c.ths
    | failReset i =>
      unfold PA.failReset
      exact InvR.of_ths (h.r.setTh i (fun t => { t with fail := 0 }) (fun hr => ⟨hr, Nat.zero_le _⟩)) rfl
    | front f => exact (InvAR.front ⟨h.a, h.r⟩ f).r

end Backend.PA
