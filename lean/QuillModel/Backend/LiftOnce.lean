import QuillModel.Backend.ConsProofsOrder
/-!
C03, whole-run equality. `dispatchCount s st sid`: the ordinary writes at sink `sid` that a dispatch of `st` in state `s`
produces, by a recursion that mirrors `writeToSinks`, every acceptance and fault decision in the state the C++ takes it
in (`writeToSinks_wcount_eq`). `WInv`: for every popped ordinary statement the whole history holds exactly the count
decided in the state of its pop, an invariant of every schedule (`WInv.closed`). No ghost field records that state:
`WInv` only says that some state with the statement at the front of its transit buffer decides that count.
-/
namespace Backend.PA

/-- mirrors `writeToSinks`: writes of `st` at sink `sid` over the sink list `l`, starting in state `s` -/
def dispatchCountAux (st : Stmt) (sid : Nat) : BSt → List Nat → Nat
  | _, [] => 0
  | s, k :: rest =>
    if sinkAccepts (s.sinkOf k) st then
      if throwsAt (s.sinkOf k).wthrow ((s.sinkOf k).wcalls + 1) then 0
      else (if k = sid then 1 else 0) +
        dispatchCountAux st sid
          ((s.setSink k (fun _ => { s.sinkOf k with wcalls := (s.sinkOf k).wcalls + 1 })).emit
            (.write k st.id st.lvl st.ts st.named)) rest
    else dispatchCountAux st sid s rest

def dispatchCount (s : BSt) (st : Stmt) (sid : Nat) : Nat := dispatchCountAux st sid s (s.lgOf st.lg).sinks

theorem writeToSinks_wcount_eq (st : Stmt) (ho : st.lvl ≠ 9) (sid : Nat) : ∀ (sids : List Nat) (s : BSt),
    wcount (writeToSinks s st sids).1.log sid st.id = wcount s.log sid st.id + dispatchCountAux st sid s sids
  | [], s => by simp [writeToSinks, dispatchCountAux]
  | x :: rest, s => by
    unfold writeToSinks dispatchCountAux
    dsimp only
    split
    · split
      · rw [wcount_emit_nowrite _ _ rfl]
        rfl
      · rw [writeToSinks_wcount_eq st ho sid rest]
        have h1 : wcount ((s.setSink x (fun _ => { s.sinkOf x with wcalls := (s.sinkOf x).wcalls + 1 })).emit
            (.write x st.id st.lvl st.ts st.named)).log sid st.id =
            wcount s.log sid st.id + (if x = sid then 1 else 0) := by
          simp only [wcount, emit_log, setSink_log, List.countP_cons, ordWrite]
          congr 1
          by_cases h1 : x = sid <;> simp [h1, ho]
        rw [h1]
        omega
    · exact writeToSinks_wcount_eq st ho sid rest s

theorem isOrd_lvl {st : Stmt} (ho : isOrd st = true) : st.lvl ≠ 9 := (isOrd_iff.mp ho).2

theorem popStep_wcount_eq {s : BSt} (h : Inv s) (i : Nat) (st : Stmt) (rest : List Stmt) (hb : (s.th i).buf = st :: rest)
    (ho : isOrd st = true) (sid : Nat) :
    wcount (popStep s i st rest).log sid st.id = dispatchCount s st sid := by
  have h0 : wcount s.log sid st.id = 0 := h.unpopped_unwritten (i := i) (by rw [hb]; simp) ho sid
  obtain ⟨evs, he, hz⟩ := popStep_ord_log h.w.ring i st rest ho
  rw [he, wcount_append, hz, dispatch, writeToSinks_wcount_eq st (isOrd_lvl ho), h0]
  unfold dispatchCount
  omega

theorem popStep_popped_cases {s : BSt} (h : Inv s) (j : Nat) (st : Stmt) (rest : List Stmt)
    (hb : (s.th j).buf = st :: rest) {i : Nat} {x : Stmt} (hx : x ∈ ((popStep s j st rest).th i).popped)
    (hox : isOrd x = true) :
    (x ∈ (s.th i).popped ∧ ∀ sid, wcount (popStep s j st rest).log sid x.id = wcount s.log sid x.id) ∨
    (i = j ∧ x = st ∧ ∀ sid, wcount (popStep s j st rest).log sid x.id = dispatchCount s x sid) := by
  obtain ⟨_, hpop, _, hoth⟩ := popStep_pops s j st rest hb
  have hold : x ∈ (s.th i).popped → ∀ sid, wcount (popStep s j st rest).log sid x.id = wcount s.log sid x.id := by
    intro hold sid
    obtain ⟨evs, he, hev⟩ := h.pop_log_ext hb sid
    rw [he, wcount_append, hev x.id (h.popped_counted hold hox), Nat.zero_add]
  by_cases hij : i = j
  · subst hij
    rw [hpop] at hx
    rcases List.mem_append.mp hx with h1 | h1
    · exact Or.inl ⟨h1, hold h1⟩
    · have hxs : x = st := by simpa using h1
      subst hxs
      exact Or.inr ⟨rfl, rfl, popStep_wcount_eq h i x rest hb hox⟩
  · rw [hoth i hij] at hx
    exact Or.inl ⟨hx, hold hx⟩

/-- every popped ordinary statement has, in the whole history, exactly the writes that a dispatch decides in some state
    `s'` satisfying `Inv` with the statement at the front of its context's transit buffer (`WInv.closed` supplies the state
    of its pop; `dec` does not relate `s'` to `s`) -/
structure WInv (s : BSt) : Prop where
  inv : Inv s
  dec : ∀ (i : Nat) (st : Stmt), st ∈ (s.th i).popped → isOrd st = true →
    ∃ s', Inv s' ∧ (s'.th i).buf.head? = some st ∧ ∀ sid, wcount s.log sid st.id = dispatchCount s' st sid

/-- `WInv` whose witness stays related to the current state by `R`: for the popped ordinary statements that `T` tracks, the
    pop-time state `s'` also satisfies `R s' s` and has at least `n` loggers -/
structure WInvR (R : BSt → BSt → Prop) (n : Nat) (T : Nat → Stmt → Prop) (s : BSt) : Prop where
  inv : Inv s
  len : n ≤ s.lgs.length
  dec : ∀ (i : Nat) (st : Stmt), st ∈ (s.th i).popped → isOrd st = true → T i st →
    ∃ s', Inv s' ∧ n ≤ s'.lgs.length ∧ (s'.th i).buf.head? = some st ∧ R s' s ∧
      ∀ sid, wcount s.log sid st.id = dispatchCount s' st sid

/-- the pop supplies its own state as the witness, every other step leaves the `popped` histories and the counts of
    ordinary writes alone -/
theorem WInvR.closedOn {al : FOp → Bool} {R : BSt → BSt → Prop} (trans : ∀ {a b c}, R a b → R b c → R a c)
    (step : ∀ s s', Prim al s s' → R s s') (n : Nat) (T : Nat → Stmt → Prop) : ClosedOn al (WInvR R n T) :=
  closedOn_iff.mpr fun s s' st h => by
    have hC := step s s' st
    refine ⟨closedOn_iff.mp (Inv.closed.on _) s s' st h.inv, Nat.le_trans h.len (Stable.prim st).lgsLe, fun i y hy hoy hty => ?_⟩
    rcases st.pop_or_still with ⟨j, x, rest, hb, rfl⟩ | q
    · rcases popStep_popped_cases h.inv j x rest hb hy hoy with ⟨hold, hw⟩ | ⟨hij, hxs, hw⟩
      · obtain ⟨z, hz1, hzn, hz2, hzc, hz3⟩ := h.dec i y hold hoy hty
        exact ⟨z, hz1, hzn, hz2, trans hzc hC, fun sid => (hw sid).trans (hz3 sid)⟩
      · subst hij
        subst hxs
        exact ⟨s, h.inv, h.len, by rw [hb]; rfl, hC, hw⟩
    · rw [q.ps.th i] at hy
      obtain ⟨z, hz1, hzn, hz2, hzc, hz3⟩ := h.dec i y hy hoy hty
      exact ⟨z, hz1, hzn, hz2, trans hzc hC, fun sid => ((NExt.of_nowrite q.log).wcount sid y.id).trans (hz3 sid)⟩

theorem WInv.iff {s : BSt} : WInv s ↔ WInvR (fun _ _ => True) 0 (fun _ _ => True) s :=
  ⟨fun h => ⟨h.inv, Nat.zero_le _, fun i st hm ho _ =>
      let ⟨x, a, b, c⟩ := h.dec i st hm ho
      ⟨x, a, Nat.zero_le _, b, trivial, c⟩⟩,
   fun h => ⟨h.inv, fun i st hm ho =>
      let ⟨x, a, _, b, _, c⟩ := h.dec i st hm ho trivial
      ⟨x, a, b, c⟩⟩⟩

theorem WInv.closed : Closed WInv :=
  (WInvR.closedOn (fun _ _ => trivial) (fun _ _ _ => trivial) 0 _).toClosed.congr (fun _ => WInv.iff.symm)

theorem WInv.run {s : BSt} (h : WInv s) (ops : List Op) : WInv (runOps s ops) :=
  runOps_closed WInv.closed ops s h

theorem WInv.of_start {s : BSt} (h : Inv s) (hp : ∀ i, (s.th i).popped = []) : WInv s :=
  ⟨h, fun i st hm _ => by rw [hp i] at hm; cases hm⟩

end Backend.PA
