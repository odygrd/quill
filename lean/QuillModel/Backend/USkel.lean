import QuillModel.Backend.UOps
import QuillModel.Backend.ConsProofsDispatch
/-!
The preservation skeleton of the unbounded-queue machine: the control flow of `pollU`, `exitLoopU`, the clean-ups, the
hook-site injections and `applyOpU` is walked once for an arbitrary state predicate `P` that reads only the
configuration, the contexts and the actors (`aux`) and is closed under the few primitive changes of a context
(`ClosedU`). The read pass of one queue is a field of its own (`readQ`): an invariant that holds between the
operations but not in the middle of a read (the publication invariant of C09) supplies its own proof of it; for an
invariant closed under the single steps of the read, `readQ_of_steps` derives it.
-/
namespace Backend.US
open Backend.PA

structure ClosedU (u : UP) (P : BSt → Prop) : Prop where
  aux : ∀ s s', P s → s'.cfg = s.cfg → s'.ths = s.ths → s'.actors = s.actors → P s'
  emptyT : ∀ s i, P s → P (s.setTh i (fun t => (uEmpty s.cfg t).1))
  dropT : ∀ s i, P s → P (s.setTh i (fun t => { t with removed := true }))
  popT : ∀ s i st rest, P s → (s.th i).buf = st :: rest →
    P (s.setTh i (fun t => { t with buf := rest, popped := t.popped ++ [st] }))
  readQ : ∀ table tsNow i qcap0 fuel s, P s → P (readQueueU u (runInjU u table) tsNow i qcap0 fuel 0 s)
  front : ∀ s f, P s → P (applyFrontU u s f).1

variable {u : UP} {P : BSt → Prop}

theorem core_closed (hc : ClosedU u P) {s s' : BSt} (h : P s) (c : Core s s') : P s' := hc.aux s s' h c.cfg c.ths c.actors
theorem frame_closed (hc : ClosedU u P) {s s' : BSt} (h : P s) (f : Frame s s') : P s' := hc.aux s s' h f.cfg f.ths f.actors
theorem emit_closed (hc : ClosedU u P) (s : BSt) (e : Ev) (h : P s) : P (s.emit e) := hc.aux _ _ h rfl rfl rfl

theorem refresh_closed (hc : ClosedU u P) (s : BSt) (h : P s) : P (refreshCache s) := by
  unfold refreshCache
  split
  · exact hc.aux _ _ h rfl rfl rfl
  · exact h

/-- the injection runner needs only `aux` and `front` -/
theorem runInjU_closed' (haux : ∀ s s', P s → s'.cfg = s.cfg → s'.ths = s.ths → s'.actors = s.actors → P s')
    (hfront : ∀ s f, P s → P (applyFrontU u s f).1)
    (table : List (Nat × Nat × List UFOp)) (s : BSt) (site : Nat) (h : P s) : P (runInjU u table s site) := by
  unfold runInjU
  dsimp only
  have h1 : P { s with siteCnt := (site, ((s.siteCnt.find? (·.1 = site)).map (·.2)).getD 0 + 1) :: s.siteCnt.filter (·.1 ≠ site) } :=
    haux _ _ h rfl rfl rfl
  split
  · exact h1
  · refine List.foldl_inv P _ ?_ _ _ h1
    intro a f ha
    have hemit : ∀ (x : BSt) (e : Ev), P x → P (x.emit e) := fun x e hx => haux _ _ hx rfl rfl rfl
    apply hemit
    split
    · exact ha
    · exact hfront a f ha

theorem runInjU_closed (hc : ClosedU u P) (table : List (Nat × Nat × List UFOp)) (s : BSt) (site : Nat) (h : P s) :
    P (runInjU u table s site) := runInjU_closed' hc.aux hc.front table s site h

theorem ctxEmptyU_closed (hc : ClosedU u P) (s : BSt) (i : Nat) (h : P s) : P (ctxEmptyU s i).1 := hc.emptyT s i h

theorem allEmptyU_closed (hc : ClosedU u P) (s : BSt) (h : P s) : P (allEmptyU s).1 := by
  unfold allEmptyU
  dsimp only
  refine List.foldl_inv (fun a : BSt × Bool => P a.1) _ ?_ _ _ (refresh_closed hc s h)
  intro a i ha
  exact ctxEmptyU_closed hc a.1 i ha

theorem hasPendingU_closed (hc : ClosedU u P) (s : BSt) (h : P s) : P (hasPendingU s).1 := by
  unfold hasPendingU
  dsimp only
  refine List.foldl_inv (fun a : BSt × Bool => P a.1) _ ?_ _ _ (refresh_closed hc s h)
  intro a i ha
  split
  · exact ha
  · split
    · exact hc.emptyT a.1 i ha
    · exact ha

theorem findFirstU_closed (hc : ClosedU u P) : ∀ (l : List Nat) (s : BSt), P s → P (findFirstU s l).1
  | [], s, h => h
  | j :: rest, s, h => by
    unfold findFirstU
    split
    · exact findFirstU_closed hc rest s h
    · dsimp only
      split
      · exact ctxEmptyU_closed hc s j h
      · exact findFirstU_closed hc rest _ (ctxEmptyU_closed hc s j h)

theorem dropCtxU_closed (hc : ClosedU u P) (s : BSt) (i : Nat) (h : P s) : P (dropCtxU s i) := by
  unfold dropCtxU
  dsimp only
  exact hc.dropT _ i (hc.aux _ _ h rfl rfl rfl)

theorem cleanupGoU_closed (hc : ClosedU u P) : ∀ (fuel : Nat) (s : BSt), P s → P (cleanupGoU fuel s)
  | 0, s, h => h
  | fuel + 1, s, h => by
    unfold cleanupGoU
    have hf := findFirstU_closed hc s.cache s h
    split
    · next s1 heq => rw [heq] at hf; exact hf
    · next s1 i heq => rw [heq] at hf; exact cleanupGoU_closed hc fuel _ (dropCtxU_closed hc s1 i hf)

theorem cleanupContextsU_closed (hc : ClosedU u P) (s : BSt) (h : P s) : P (cleanupContextsU s) := by
  unfold cleanupContextsU
  split
  · exact h
  · exact cleanupGoU_closed hc _ s h

theorem reapSinksInj_closed (hc : ClosedU u P) (table : List (Nat × Nat × List UFOp)) (sids : List Nat) (s : BSt) (h : P s) :
    P (reapSinksInj (runInjU u table) s sids) :=
  reapSinksInj_pres P _ (fun x hx => runInjU_closed hc table x 9 hx) (fun _ _ hx _ _ => hc.aux _ _ hx rfl rfl rfl) sids s h

theorem eraseStepU_closed (hc : ClosedU u P) (table : List (Nat × Nat × List UFOp)) (acc : BSt × List Nat) (i : Nat)
    (h : P acc.1) : P (eraseStepU (runInjU u table) acc i).1 := by
  unfold eraseStepU
  dsimp only
  split
  · exact h
  · have hr := allEmptyU_closed hc acc.1 h
    -- as a variable: the `rfl`s below would otherwise unfold `allEmptyU`
    generalize allEmptyU acc.1 = r at hr ⊢
    split
    · exact reapSinksInj_closed hc table _ _ (hc.aux _ _ hr rfl rfl rfl)
    · exact hc.aux _ _ hr rfl rfl rfl

theorem raiseRemoved_closed (hc : ClosedU u P) (s : BSt) (gid : Nat) (h : P s) : P (raiseRemoved s gid) := by
  unfold raiseRemoved
  split
  · exact hc.aux _ _ h rfl rfl rfl
  · exact h

theorem cleanupLoggersU_closed (hc : ClosedU u P) (table : List (Nat × Nat × List UFOp)) (s : BSt) (h : P s) :
    P (cleanupLoggersU (runInjU u table) s) := by
  unfold cleanupLoggersU
  split
  · exact h
  · dsimp only
    refine List.foldl_inv P _ (fun a g ha => raiseRemoved_closed hc a g ha) _ _ ?_
    refine List.foldl_inv (fun a : BSt × List Nat => P a.1) _ (fun a i ha => eraseStepU_closed hc table a i ha) _ _ ?_
    exact hc.aux _ _ h rfl rfl rfl

theorem popStepU_closed (hc : ClosedU u P) (s : BSt) (i : Nat) (st : Stmt) (rest : List Stmt) (h : P s)
    (hb : (s.th i).buf = st :: rest) : P (popStepU s i st rest) := by
  unfold popStepU
  exact hc.aux _ _ (hc.popT s i st rest h hb) rfl rfl rfl

theorem processLowestU_closed (hc : ClosedU u P) (s : BSt) (h : P s) : P (processLowestU s).1 := by
  unfold processLowestU
  split
  · exact h
  · next i _ =>
    split
    · exact h
    · next st rest hb =>
      have hcore := processEvent_core s st
      generalize processEvent s st = r at hcore
      obtain ⟨s1, exc, flag⟩ := r
      dsimp only at hcore ⊢
      have h1 : P s1 := core_closed hc h hcore
      have hs2 : ∀ s2 : BSt, s2 = (match exc with | some m => s1.emit (.notify m) | none => s1) → P s2 ∧ s2.ths = s.ths := by
        intro s2 e
        subst e
        cases exc with
        | none => exact ⟨h1, hcore.ths⟩
        | some m => exact ⟨emit_closed hc _ _ h1, hcore.ths⟩
      obtain ⟨h2, hths⟩ := hs2 _ rfl
      have h3 := popStepU_closed hc _ i st rest h2 (by simp only [BSt.th] at hb ⊢; rw [hths]; exact hb)
      cases flag with
      | none => exact h3
      | some f => exact hc.aux _ _ (cleanupContextsU_closed hc _ h3) rfl rfl rfl

theorem batchLoopU_closed (hc : ClosedU u P) (table : List (Nat × Nat × List UFOp)) :
    ∀ (fuel : Nat) (s : BSt), P s → P (batchLoopU (runInjU u table) fuel s)
  | 0, s, h => h
  | fuel + 1, s, h => by
    unfold batchLoopU
    dsimp only
    have hr := hasPendingU_closed hc s h
    split
    · exact hr
    · have hp := processLowestU_closed hc _ hr
      split
      · exact hp
      · exact batchLoopU_closed hc table fuel _ (runInjU_closed hc table _ 4 hp)

theorem populateU_closed (hc : ClosedU u P) (table : List (Nat × Nat × List UFOp)) (s : BSt) (h : P s) :
    P (populateU u (runInjU u table) s).1 := by
  unfold populateU
  dsimp only
  have h1 : P (if s.cfg.refreshAfterSample then s else refreshCache s) := by
    split
    · exact h
    · exact refresh_closed hc s h
  generalize (if s.cfg.refreshAfterSample then s else refreshCache s) = sa at h1
  have h2 : P (if sa.cfg.grace = 0 then sa else runInjU u table sa 7) := by
    split
    · exact h1
    · exact runInjU_closed hc table sa 7 h1
  generalize (if sa.cfg.grace = 0 then sa else runInjU u table sa 7) = sb at h2
  have h3 := runInjU_closed hc table sb 1 h2
  have h4 : P (if sb.cfg.refreshAfterSample then refreshCache (runInjU u table sb 1) else runInjU u table sb 1) := by
    split
    · exact refresh_closed hc _ h3
    · exact h3
  refine List.foldl_inv (fun a : BSt × Nat => P a.1) _ ?_ _ _ h4
  intro a i ha
  dsimp only
  exact hc.readQ table _ i _ _ _ (runInjU_closed hc table a.1 2 ha)

theorem flushSinks_closedU (hc : ClosedU u P) (s : BSt) (h : P s) : P (flushSinks s) :=
  frame_closed hc h (flushSinks_frame s)

theorem preEraseFlush_closedU (hc : ClosedU u P) (s : BSt) (h : P s) : P (preEraseFlush s) :=
  preEraseFlush_pres P (flushSinks_closedU hc) s h

theorem flushGate_closedU (hc : ClosedU u P) (table : List (Nat × Nat × List UFOp)) (s : BSt) (n : Nat) (h : P s) :
    P (flushGate (runInjU u table) s n) :=
  flushGate_pres P _ (flushSinks_closedU hc) (fun x hx => runInjU_closed hc table x 7 hx)
    (fun x hx => hc.aux x _ hx rfl rfl rfl) s n h

theorem pollU_closed (hc : ClosedU u P) (table : List (Nat × Nat × List UFOp)) (s : BSt) (h : P s) :
    P (pollU u (runInjU u table) s) := by
  unfold pollU
  have hp := populateU_closed hc table s h
  generalize populateU u (runInjU u table) s = r at hp
  obtain ⟨s1, count⟩ := r
  dsimp only at hp ⊢
  split
  · split
    · exact processLowestU_closed hc s1 hp
    · exact batchLoopU_closed hc table _ s1 hp
  · have h3 := flushGate_closedU hc table _ (runInjU u table s1 5).cfg.flushInterval (runInjU_closed hc table s1 5 hp)
    have hr := allEmptyU_closed hc _ h3
    split
    · exact cleanupLoggersU_closed hc table _ (preEraseFlush_closedU hc _ (cleanupContextsU_closed hc _ hr))
    · exact hr

def exitNextU (u : UP) (inj : BSt → Nat → BSt) (tick : Nat) (s : BSt) : BSt :=
  let r := allEmptyU s
  let s0 := { r.1 with now := r.1.now + tick }
  let (s1, count) := populateU u inj s0
  if count > 0 then batchLoopU inj (totalBuffered s1 + 64) s1 else s1

def exitTailU (inj : BSt → Nat → BSt) (s : BSt) : BSt :=
  cleanupLoggersU inj (preEraseFlush (cleanupContextsU (flushSinks (allEmptyU s).1)))

theorem exitLoopU_succ (u : UP) (inj : BSt → Nat → BSt) (tick fuel : Nat) (s : BSt) :
    exitLoopU u inj tick (fuel + 1) s =
      if (allEmptyU s).2 then exitTailU inj s else exitLoopU u inj tick fuel (exitNextU u inj tick s) := by
  rw [exitLoopU]
  rfl

theorem exitNextU_closed (hc : ClosedU u P) (table : List (Nat × Nat × List UFOp)) (tick : Nat) (s : BSt) (h : P s) :
    P (exitNextU u (runInjU u table) tick s) := by
  unfold exitNextU
  dsimp only
  have hp := populateU_closed hc table _
    (hc.aux _ { (allEmptyU s).1 with now := (allEmptyU s).1.now + tick } (allEmptyU_closed hc s h) rfl rfl rfl)
  generalize populateU u (runInjU u table) { (allEmptyU s).1 with now := (allEmptyU s).1.now + tick } = r at hp
  obtain ⟨s1, count⟩ := r
  dsimp only at hp ⊢
  split
  · exact batchLoopU_closed hc table _ s1 hp
  · exact hp

theorem exitLoopU_closed (hc : ClosedU u P) (table : List (Nat × Nat × List UFOp)) (tick : Nat) :
    ∀ (fuel : Nat) (s : BSt), P s → P (exitLoopU u (runInjU u table) tick fuel s)
  | 0, s, h => h
  | fuel + 1, s, h => by
    rw [exitLoopU_succ]
    split
    · exact cleanupLoggersU_closed hc table _ (preEraseFlush_closedU hc _ (cleanupContextsU_closed hc _
        (frame_closed hc (allEmptyU_closed hc s h) (flushSinks_frame _))))
    · exact exitLoopU_closed hc table tick fuel _ (exitNextU_closed hc table tick s h)

theorem applyOpU_closed (hc : ClosedU u P) (s : BSt) (o : UOp) (h : P s) : P (applyOpU u s o).1 := by
  cases o with
  | front f => exact hc.front s f h
  | poll table =>
    simp only [applyOpU]
    split
    · exact h
    · -- reduce `(_, "ev").1` first: otherwise the unifier unfolds `pollU` to compare
      dsimp only
      exact pollU_closed hc table _ (hc.aux s _ h rfl rfl rfl)
  | exit =>
    simp only [applyOpU]
    split
    · exact h
    · dsimp only
      exact hc.aux _ _ (exitLoopU_closed hc [] 1000 100000 _ (hc.aux s { s with siteCnt := [] } h rfl rfl rfl)) rfl rfl rfl

theorem runOpsU_closed (hc : ClosedU u P) : ∀ (ops : List UOp) (s : BSt), P s → P (runOpsU u s ops)
  | [], _, h => h
  | o :: rest, s, h => by
    show P (runOpsU u (applyOpU u s o).1 rest)
    exact runOpsU_closed hc rest _ (applyOpU_closed hc s o h)

theorem note_closed (haux : ∀ s s', P s → s'.cfg = s.cfg → s'.ths = s.ths → s'.actors = s.actors → P s')
    (l : List (Nat × Nat)) (s : BSt) (h : P s) : P (l.foldl (fun x p => x.emit (allocNote p)) s) :=
  List.foldl_inv P (fun x p => x.emit (allocNote p)) (fun _ _ ha => haux _ _ ha rfl rfl rfl) l s h

theorem readTail_closed (haux : ∀ s s', P s → s'.cfg = s.cfg → s'.ths = s.ths → s'.actors = s.actors → P s')
    (inj : BSt → Nat → BSt) (hinj : ∀ s k, P s → P (inj s k)) (l : List (Nat × Nat)) (st : Stmt) (s : BSt) (h : P s) :
    P (inj (fmtNote (l.foldl (fun x p => x.emit (allocNote p)) s) st) 3) := by
  apply hinj
  have h3 := note_closed haux l s h
  unfold fmtNote
  split
  · exact haux _ _ h3 rfl rfl rfl
  · exact h3

theorem readQueueU_succ (u : UP) (inj : BSt → Nat → BSt) (tsNow : Option Nat) (i qcap0 fuel total : Nat) (s : BSt) :
    readQueueU u inj tsNow i qcap0 (fuel + 1) total s =
      (let r := uRead s.cfg u.follow ((s.th i).more.length + 1) (s.th i)
       let sR := s.setTh i (fun t => (uRead s.cfg u.follow (t.more.length + 1) t).1)
       let fin := fun (x : BSt) => if total ≠ 0 then commitReadU x i else x
       if !r.2.1 then fin (r.2.2.foldl (fun x p => x.emit (allocNote p)) sR) else
       match (s.th i).qStmts with
       | [] => fin (r.2.2.foldl (fun x p => x.emit (allocNote p)) sR)
       | st :: rest =>
         if future tsNow st then fin (r.2.2.foldl (fun x p => x.emit (allocNote p)) sR) else
         let s4 := inj (fmtNote (r.2.2.foldl (fun x p => x.emit (allocNote p)) (readOneU sR i st rest)) st) 3
         if total + st.size < qcap0 ∧ (s4.th i).buf.length < s4.cfg.hard then
           readQueueU u inj tsNow i qcap0 fuel (total + st.size) s4
         else commitReadU s4 i) := by
  rw [readQueueU]
  rfl

/-- the read pass of context `i`, walked once: `R total` holds at the head of the loop (it may depend on the bytes
    consumed so far: an invariant suspended during the read is owed back only by a read that consumed nothing), `P`
    at its exits -/
theorem readQ_walk {R : Nat → BSt → Prop} (inj : BSt → Nat → BSt) (tsNow : Option Nat) (i qcap0 : Nat)
    (hend : ∀ total s, R total s → P (if total ≠ 0 then commitReadU s i else s))
    (hcommit : ∀ total s, R total s → P (commitReadU s i))
    (hread : ∀ total s (l : List (Nat × Nat)), R total s →
      R total (l.foldl (fun x p => x.emit (allocNote p)) (s.setTh i (fun t => (uRead s.cfg u.follow (t.more.length + 1) t).1))))
    (hstep : ∀ total s st rest (l : List (Nat × Nat)), R total s → (s.th i).qStmts = st :: rest →
      (uRead s.cfg u.follow ((s.th i).more.length + 1) (s.th i)).2.1 = true →
      R (total + st.size) (inj (fmtNote (l.foldl (fun x p => x.emit (allocNote p))
        (readOneU (s.setTh i (fun t => (uRead s.cfg u.follow (t.more.length + 1) t).1)) i st rest)) st) 3)) :
    ∀ (fuel total : Nat) (s : BSt), R total s → P (readQueueU u inj tsNow i qcap0 fuel total s)
  | 0, total, s, h => by
    rw [readQueueU]
    exact hend total s h
  | fuel + 1, total, s, h => by
    rw [readQueueU_succ]
    dsimp only
    have hR := hend _ _ (hread total s (uRead s.cfg u.follow ((s.th i).more.length + 1) (s.th i)).2.2 h)
    by_cases hoff : (uRead s.cfg u.follow ((s.th i).more.length + 1) (s.th i)).2.1 = true
    · rw [if_neg (by simp [hoff])]
      split
      · exact hR
      · next st rest hq =>
        by_cases hfu : future tsNow st = true
        · rw [if_pos hfu]; exact hR
        · rw [if_neg hfu]
          have h4 := hstep total s st rest (uRead s.cfg u.follow ((s.th i).more.length + 1) (s.th i)).2.2 h hq hoff
          split
          · exact readQ_walk inj tsNow i qcap0 hend hcommit hread hstep fuel _ _ h4
          · exact hcommit _ _ h4
    · rw [if_pos (by simpa using hoff)]; exact hR

structure ClosedR (u : UP) (P : BSt → Prop) : Prop where
  aux : ∀ s s', P s → s'.cfg = s.cfg → s'.ths = s.ths → s'.actors = s.actors → P s'
  readT : ∀ s i, P s → P (s.setTh i (fun t => (uRead s.cfg u.follow (t.more.length + 1) t).1))
  commitT : ∀ s i, P s → P (commitReadU s i)
  readStep : ∀ s i st rest, P s → (s.th i).qStmts = st :: rest →
    (uRead s.cfg u.follow ((s.th i).more.length + 1) (s.th i)).2.1 = true →
    P (readOneU (s.setTh i (fun t => (uRead s.cfg u.follow (t.more.length + 1) t).1)) i st rest)

theorem readQ_of_steps (hr : ClosedR u P) (inj : BSt → Nat → BSt) (hinj : ∀ s k, P s → P (inj s k))
    (tsNow : Option Nat) (i qcap0 : Nat) (fuel total : Nat) (s : BSt) (h : P s) :
    P (readQueueU u inj tsNow i qcap0 fuel total s) := by
  refine readQ_walk (R := fun _ => P) inj tsNow i qcap0 (fun total s h => ?_) (fun _ s h => hr.commitT s i h)
    (fun _ s l h => note_closed hr.aux l _ (hr.readT s i h))
    (fun _ s st rest l h hq ho => readTail_closed hr.aux inj hinj l st _ (hr.readStep s i st rest h hq ho)) fuel total s h
  split
  · exact hr.commitT s i h
  · exact h

end Backend.US
