import QuillModel.Backend.ConsProofsPop
/-!
C08 "never both": the id of a discarded log call is *unplaced* (below `nextId`, carried by no statement in any accepted
history or parked call), an unplaced id stays unplaced through every schedule (`Unplaced.run`), and an unplaced id
has no ordinary `write` event anywhere in the history.
-/
namespace Backend.PA

theorem cntL_single_self (st : Stmt) (hk : isLogKind st.kind = true) : cntL st.id [st] = 1 := by
  simp [cntL, hk]

/-- a refused log call leaves its id unplaced (dropping queue, the calls that do not retry: `cont = 0` the dynamic
    call that reports its return value, `cont = 5` the macro call), whatever the way the call came here: directly,
    with a freshly allocated id, or resumed after a stall -/
theorem enqFlow_dropped_unplaced {s : BSt} {a : Nat} {st : Stmt} (r : Room (fun _ => 0) s a st) (hd : s.cfg.dropping = true)
    (hk : isLogKind st.kind = true) (cont : Nat) (hc : cont = 0 ∨ cont = 5) (first initial : Bool)
    (hf : (tryEnq (ensureCtx s a).1 (ensureCtx s a).2 st).2 = false) :
    Unplaced (enqFlow s a st cont first initial).1 st.id := by
  have key : (enqFlow s a st cont first initial).1.nextId = s.nextId ∧
      tot (enqFlow s a st cont first initial).1 st.id ≤ cntA s st.id + cntBo s a st.id := by
    have hs := enqFlow_shape s a st cont first initial
    generalize Backend.enqFlow s a st cont first initial = r' at hs ⊢
    cases hs with
    | granted hc' he =>
      rw [hc'] at hf
      dsimp only at hf
      rw [he] at hf
      cases hf
    | @dropped s1 s2 ci hc' he =>
      have h1 := Mid.ensureCtx a r.ua
      rw [hc'] at h1
      have h2 := (h1.tryEnq ci st).1
      rw [he] at h2
      have hb : Mid s a (bumpFail true s2 ci st) (fun _ => 0) :=
        (h2.mono (fun _ => Nat.le_of_eq (if_neg Bool.false_ne_true))).bumpFail ..
      have hm := hb.setActor (fun x => { x with pend := .none }) (keepsId_pend _)
      have hba := cntBa_setPend_le hb.ua a _ (keepsId_pend .none) .none (fun _ => rfl) st.id
      have hz : cntL st.id (pendL Pend.none) = 0 := rfl
      refine ⟨hm.nextId, ?_⟩
      show tot ((bumpFail true s2 ci st).setActor a (fun x => { x with pend := .none })) st.id ≤ _
      rw [tot_eq _ a st.id, hm.bo st.id]
      have := hm.ca st.id
      omega
    | dropRetry _ _ _ hk' => exact absurd hc hk'
    | blocked _ _ hd' => rw [hd] at hd'; cases hd'
  have hle := r.le st.id
  rw [cntL_single_self st hk] at hle
  refine ⟨?_, by have := key.2; omega⟩
  rw [key.1]
  by_cases hlt : st.id < s.nextId
  · exact hlt
  · have := r.lt st.id (by omega)
    rw [cntL_single_self st hk] at this; omega

theorem Unplaced.noteCall {r : BSt × String} {id : Nat} (u : Unplaced r.1 id) (a g : Nat) :
    Unplaced (Backend.noteCall r a g).1 id := by
  have key : ∀ f : Actor → Actor, (∀ x, (f x).pend = x.pend) → Unplaced (r.1.setActor a f) id := by
    intro f hp
    refine ⟨u.lt, ?_⟩
    have := u.none
    unfold tot at this ⊢
    rw [cntB_setActor_same r.1 a f hp]
    exact this
  unfold Backend.noteCall
  exact key _ (fun _ => rfl)

theorem frontCall_eq_enqFlow (s : BSt) (a lgi : Nat) (kind : Kind) (lvl len cont : Nat) (dyn : Bool) (id : Nat) (named : Bool)
    (hns : ((s.actor a).map (·.stallArmed)).getD false = false) :
    frontCall s a lgi kind lvl len cont dyn id named =
      enqFlow s a { id := id, kind := kind, lg := lgi, lvl := lvl, ts := s.now,
                    size := stmtSize s.cfg kind id len dyn (s.lgOf lgi).gid, actor := a, named := named } cont true := by
  unfold frontCall
  dsimp only
  rw [hns, if_neg Bool.false_ne_true]

theorem Inv.unplaced_unwritten {s : BSt} (h : Inv s) (id : Nat) (hz : tot s id = 0) (sid : Nat) :
    wcount s.log sid id = 0 := by
  refine h.unwritten_of_unpopped id ?_ sid
  have h1 := h.countP_ord_le id
  rw [← cntA_eq_cA] at h1
  unfold tot at hz
  omega

end Backend.PA
