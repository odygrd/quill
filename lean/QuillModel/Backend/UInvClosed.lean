import QuillModel.Backend.UGen
/-!
`UI` (conservation + chain coherence of every context) is closed under every frontend operation of the U machine and
under every step of the backend: `UI.closed : ClosedU u UI`, hence `UI` holds along every operation list.
-/
namespace Backend.US
open Backend.UQ

theorem TClosed.triv (u : UP) : TClosed u (fun _ _ => True) := by
  constructor <;> intros <;> trivial

/-- `UI` is `GI` for the per-context predicate that always holds, so the frontend is walked once, in `GI.frontU` -/
theorem UI.frontU {s : BSt} (h : UI s) (u : UP) (f : UFOp) : UI (applyFrontU u s f).1 :=
  (GI.frontU (c := s.cfg) (TClosed.triv u) ⟨h, fun _ => trivial, rfl⟩ f).ui

theorem UI.readStep {s : BSt} (h : UI s) (u : UP) (i : Nat) (st : Stmt) (rest : List Stmt)
    (hq : (s.th i).qStmts = st :: rest)
    (ho : (uRead s.cfg u.follow ((s.th i).more.length + 1) (s.th i)).2.1 = true) :
    UI (readOneU (s.setTh i (fun t => (uRead s.cfg u.follow (t.more.length + 1) t).1)) i st rest) := by
  have hi : i < s.ths.length := by
    by_cases hi : i < s.ths.length
    · exact hi
    · rw [th_default_of_ge s i (by omega)] at hq; cases hq
  have hsR : UI (s.setTh i (fun t => (uRead s.cfg u.follow (t.more.length + 1) t).1)) :=
    h.setTh i _ (fun ht => (uRead_spec s.cfg u.follow _ _ ht (by omega)).ti ht)
  have hr := uRead_spec s.cfg u.follow ((s.th i).more.length + 1) (s.th i) (h.th i) (by omega)
  rw [ho] at hr
  unfold readOneU
  dsimp only
  have key : ∀ s2 : BSt, s2.cfg = s.cfg → s2.ths = (s.setTh i (fun t => (uRead s.cfg u.follow (t.more.length + 1) t).1)).ths →
      s2.actors = s.actors →
      UI (s2.setTh i (fun t => { uFinishRead s2.cfg t st.size with qStmts := rest, buf := t.buf ++ [st] })) := by
    intro s2 e1 e2 e3
    have h2 : UI s2 := hsR.aux e1 e2 e3
    refine h2.setTh i _ (fun _ => ?_)
    have e : s2.th i = (uRead s.cfg u.follow ((s.th i).more.length + 1) (s.th i)).1 := by
      rw [th_of_ths_eq e2, th_setTh_same _ _ hi]
    rw [e, e1]
    exact (h.th i).readOne s.cfg hr st rest hq
  split
  · exact key _ rfl rfl rfl
  · exact key _ rfl rfl rfl

theorem UI.closedR (u : UP) : ClosedR u UI where
  aux := fun _ _ h h1 h2 h3 => h.aux h1 h2 h3
  readT := fun s i h => h.setTh i _ (fun ht => (uRead_spec s.cfg u.follow _ _ ht (by omega)).ti ht)
  commitT := fun s i h => h.setTh i _ (fun ht => ht.commitRead s.cfg)
  readStep := fun _ i st rest h hq ho => h.readStep u i st rest hq ho

theorem UI.closed (u : UP) : ClosedU u UI where
  aux := fun _ _ h h1 h2 h3 => h.aux h1 h2 h3
  emptyT := fun s i h => h.setTh i _ (fun ht => ht.emptyTest s.cfg)
  dropT := fun _ i h => h.setTh i _ (fun ht => ht.same rfl rfl rfl rfl rfl rfl)
  popT := fun _ i st rest h hb => h.setTh i _ (fun ht => ht.pop st rest hb)
  front := fun _ f h => h.frontU u f
  readQ := fun table tsNow i qcap0 fuel s h =>
    readQ_of_steps (UI.closedR u) (runInjU u table)
      (fun s k hs => runInjU_closed' (P := UI) (u := u) (fun _ _ h h1 h2 h3 => h.aux h1 h2 h3)
        (fun _ f h => h.frontU u f) table s k hs)
      tsNow i qcap0 fuel 0 s h

end Backend.US
