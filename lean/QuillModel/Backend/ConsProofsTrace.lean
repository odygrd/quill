import QuillModel.Backend.ConsProofsExact
/-!
C03 as one statement about the whole trace. `PW s` ("pop witnesses"): the invariants `Inv`, and for every ordinary
statement id in the pop history a witness of its processing call: a state `w` satisfying `Inv` in which a statement `st`
with this id was at the front of the transit buffer of a context `j` (the state in which `_process_transit_event` was
entered with it), such that `st` is in the pop history, the event history of `popStep w j st rest` is a suffix of the
current one (the call is a past moment of this very trace), and the number of ordinary writes of the id at every sink in
the current history is the number right after that call. `PW` is closed under every step of the machine (`PW.closed`).
-/
namespace Backend.PA

structure PWit (s : BSt) (id : Nat) (w : BSt) (j : Nat) (st : Stmt) (rest : List Stmt) : Prop where
  inv : Inv w
  front : (w.th j).buf = st :: rest
  isit : pq id st = true
  popped : st ∈ s.popLog
  past : ∃ evs, s.log = evs ++ (popStep w j st rest).log
  cnt : ∀ sid, wcount s.log sid id = wcount (popStep w j st rest).log sid id

structure PW (s : BSt) : Prop where
  inv : Inv s
  wit : ∀ id, 1 ≤ s.popLog.countP (pq id) → ∃ w j st rest, PWit s id w j st rest

theorem PW.quiet {s s' : BSt} (h : PW s) (hi : Inv s') (q : Quiet s s') : PW s' := by
  refine ⟨hi, fun id hid => ?_⟩
  rw [q.popLog] at hid
  obtain ⟨w, j, st, rest, hw⟩ := h.wit id hid
  obtain ⟨evs, he, hn⟩ := q.log
  obtain ⟨e0, hp⟩ := hw.past
  refine ⟨w, j, st, rest, hw.inv, hw.front, hw.isit, by rw [q.popLog]; exact hw.popped,
    ⟨evs ++ e0, by rw [he, hp, List.append_assoc]⟩, fun sid => ?_⟩
  exact ((Frozen.quiet (sid := sid) (id := id) ⟨h.inv, hid, hw.cnt sid⟩ hi q)).cnt

theorem popStep_log (s : BSt) (i : Nat) (st : Stmt) (rest : List Stmt) : ∃ evs, (popStep s i st rest).log = evs ++ s.log := by
  obtain ⟨s2, c, e⟩ := popStep_eq s i st rest
  rw [e]
  exact c.log

theorem PW.closed : Closed PW :=
  Closed.of_quiet (fun h => h.inv) (fun h hi q => h.quiet hi q) (fun s i st0 rest0 h hb => by
    have hI := Inv.closed.pop s i st0 rest0 h.inv hb
    have hpops := popStep_pops s i st0 rest0 hb
    refine ⟨hI, fun id hid => ?_⟩
    by_cases hold : 1 ≤ s.popLog.countP (pq id)
    · obtain ⟨w, j, st, rest, hw⟩ := h.wit id hold
      obtain ⟨e0, hp⟩ := hw.past
      obtain ⟨e1, he1⟩ := popStep_log s i st0 rest0
      refine ⟨w, j, st, rest, hw.inv, hw.front, hw.isit, by rw [hpops.2.2.1]; exact List.mem_cons_of_mem _ hw.popped,
        ⟨e1 ++ e0, by rw [he1, hp, List.append_assoc]⟩, fun sid => ?_⟩
      exact ((Frozen.closed sid id _).pop s i st0 rest0 ⟨h.inv, hold, hw.cnt sid⟩ hb).cnt
    · have h0 : s.popLog.countP (pq id) = 0 := by omega
      rw [hpops.2.2.1, List.countP_cons, h0] at hid
      have hp : pq id st0 = true := by
        cases hc : pq id st0 with
        | true => rfl
        | false => rw [hc] at hid; simp at hid
      exact ⟨s, i, st0, rest0, h.inv, hb, hp, by rw [hpops.2.2.1]; exact List.mem_cons_self .., ⟨[], rfl⟩, fun _ => rfl⟩)

theorem PW.run {s : BSt} (h : PW s) (ops : List Op) : PW (runOps s ops) := runOps_closed PW.closed ops s h

theorem PW.start {s : BSt} (h : Inv s) (hp : s.popLog = []) : PW s :=
  ⟨h, fun id hid => by rw [hp] at hid; simp at hid⟩

theorem popLog_uniq {s : BSt} (h : Inv s) (id : Nat) : s.popLog.countP (pq id) ≤ 1 :=
  Nat.le_trans (h.countP_ord_le id) (h.b.cA_logq_le id)

theorem eq_of_countP_le_one {α} (p : α → Bool) : ∀ (l : List α), l.countP p ≤ 1 →
    ∀ a b, a ∈ l → b ∈ l → p a = true → p b = true → a = b
  | [], _, _, _, ha, _, _, _ => by cases ha
  | x :: xs, h, a, b, ha, hb, pa, pb => by
    rw [List.countP_cons] at h
    rcases List.mem_cons.mp ha with rfl | ha' <;> rcases List.mem_cons.mp hb with rfl | hb'
    · rfl
    · have : 0 < xs.countP p := List.countP_pos_iff.mpr ⟨b, hb', pb⟩
      rw [if_pos pa] at h; omega
    · have : 0 < xs.countP p := List.countP_pos_iff.mpr ⟨a, ha', pa⟩
      rw [if_pos pb] at h; omega
    · exact eq_of_countP_le_one p xs (by omega) a b ha' hb' pa pb

end Backend.PA
