import QuillModel.Backend.Pass
/-!
Two-state relations along the steps of the backend that process no event, flush no sink, raise no flag and erase no logger
(`QuietRel`), and along the read pass (`ReadRel`). A reflexive, transitive relation is walked as the property `R s0`
through the rules of `Pass.lean`.
-/
namespace Backend

variable {R : BSt → BSt → Prop} {inj : BSt → Nat → BSt}

/-- holds across `allEmpty`, `hasPending`, `cleanupContexts`, `checkFailures`; with the three steps of a read on one
    context it is a `ReadRel` (`QuietRel.readRel`). `reg` and `setThMisc` say what such a relation cannot read:
    `reported`, registry and cache, a context's counters and marks. -/
structure QuietRel (R : BSt → BSt → Prop) : Prop where
  refl : ∀ s, R s s
  trans : ∀ {a b c}, R a b → R b c → R a c
  reg : ∀ s (registry cache : List Nat) (newFlag : Bool) (invalidCnt reported : Nat) (hasInvalidLoggers : Bool),
    R s { s with registry := registry, cache := cache, newFlag := newFlag, invalidCnt := invalidCnt,
                 reported := reported, hasInvalidLoggers := hasInvalidLoggers }
  setThMisc : ∀ s i (f : Th → Th),
    (∀ t, (f t).q = t.q ∧ (f t).qStmts = t.qStmts ∧ (f t).buf = t.buf ∧ (f t).accepted = t.accepted) →
    (∀ t, (f t).popped = t.popped) → R s (s.setTh i f)
  ctxEmpty : ∀ s i, R s (ctxEmpty s i).1
  note : ∀ s m, R s (s.emit (.notify m))

section
variable (hR : QuietRel R)
include hR

theorem QuietRel.step {s0 : BSt} {f : BSt → BSt} (hf : ∀ x, R x (f x)) (x : BSt) (h : R s0 x) : R s0 (f x) :=
  hR.trans h (hf x)

theorem QuietRel.refresh (s : BSt) : R s (refreshCache s) := by
  rcases refreshCache_cases s with e | e <;> rw [e]
  · exact hR.refl s
  · exact hR.reg s ..

theorem QuietRel.allEmpty (s : BSt) : R s (allEmpty s).1 :=
  allEmpty_pres (R s) (hR.step hR.refresh) (fun x i => hR.step (hR.ctxEmpty · i) x) s (hR.refl s)

theorem QuietRel.hasPending (s : BSt) : R s (hasPending s).1 :=
  hasPending_pres (R s) (hR.step hR.refresh) (fun x i => hR.step (hR.ctxEmpty · i) x) s (hR.refl s)

theorem QuietRel.removeSt (s : BSt) (i : Nat) : R s (removeSt s i) :=
  hR.trans (hR.reg s ..) (hR.setThMisc _ i _ (fun _ => ⟨rfl, rfl, rfl, rfl⟩) (fun _ => rfl))

theorem QuietRel.cleanupContexts (s : BSt) : R s (cleanupContexts s) :=
  cleanupContexts_pres (R s) (fun x i => hR.step (hR.ctxEmpty · i) x) (fun x i => hR.step (hR.removeSt · i) x)
    s (hR.refl s)

theorem QuietRel.reportSt (s : BSt) (i : Nat) : R s (PC.reportSt s i) :=
  hR.trans (hR.trans (hR.setThMisc s i (fun t => { t with fail := 0 }) (fun _ => ⟨rfl, rfl, rfl, rfl⟩) (fun _ => rfl))
    (hR.note _ _)) (hR.reg _ ..)

theorem QuietRel.report (hinj : ∀ s k, R s (inj s k)) (s : BSt) (i : Nat) : R s (inj (PC.reportSt s i) 8) :=
  hR.trans (hR.reportSt s i) (hinj _ 8)

theorem QuietRel.checkFailures (hinj : ∀ s k, R s (inj s k)) (s : BSt) : R s (checkFailures inj s) :=
  checkFailures_pres (R s) inj (fun x i hx _ => hR.trans hx (hR.report hinj x i)) s (hR.refl s)

theorem QuietRel.flushTail (hinj : ∀ s k, R s (inj s k)) (s : BSt) : R s (flushTail inj s) := by
  unfold Backend.flushTail
  refine hR.trans ?_ (hR.cleanupContexts _)
  split
  · exact hR.checkFailures hinj s
  · exact hR.refl s

end

structure ReadRel (R : BSt → BSt → Prop) : Prop where
  refl : ∀ s, R s s
  trans : ∀ {a b c}, R a b → R b c → R a c
  refresh : ∀ s, R s (refreshCache s)
  prep : ∀ s i, R s (PC.readPrepSt s i)
  commit : ∀ s i, R s (PC.commitSt s i)
  readOne : ∀ s i st rest, (s.th i).qStmts = st :: rest → R s (fmtNote (PC.readOneSt s i st rest) st)

theorem ReadRel.readQueue (hR : ReadRel R) (hinj : ∀ s k, R s (inj s k)) (tsNow : Option Nat)
    (i : Nat) (fuel : Nat) (total : Nat) (s : BSt) : R s (readQueue inj tsNow i fuel total s) :=
  readQueue_pres (R s) inj tsNow i (fun x h => hR.trans h (hR.prep x i)) (fun x h => hR.trans h (hR.commit x i))
    (fun x st rest h _ hq => hR.trans h (hR.trans (hR.readOne x i st rest hq) (hinj _ 3))) fuel total s (hR.refl s)

theorem ReadRel.populate (hR : ReadRel R) (hinj : ∀ s k, R s (inj s k)) (s : BSt) : R s (populate inj s).1 :=
  populate_pres (R s) inj (fun x h => hR.trans h (hR.refresh x)) (fun x k h => hR.trans h (hinj x k))
    (fun tsNow i fuel x h => hR.trans h (hR.readQueue hinj tsNow i fuel 0 x)) s (hR.refl s)

theorem QuietRel.readRel (hR : QuietRel R)
    (hread : ∀ s i (f : Th → Th), (∀ t, f t = { t with q := (f t).q, qStmts := (f t).qStmts, buf := (f t).buf }) →
      R s (s.setTh i f))
    (hdecode : ∀ s rf, R s { s with removalFlags := rf }) : ReadRel R where
  refl := hR.refl
  trans := hR.trans
  refresh := hR.refresh
  prep s i := hread s i _ (fun _ => rfl)
  commit s i := hread s i _ (fun _ => rfl)
  readOne s i st rest _ := by
    obtain ⟨rf, e⟩ := decodeSt_same (PC.readPrepSt s i) st
    have h0 : R s (PC.readOneSt s i st rest) := by
      unfold PC.readOneSt PC.moveSt
      rw [e]
      exact hR.trans (hR.trans (hread s i _ (fun _ => rfl)) (hdecode _ rf)) (hread _ i _ (fun _ => rfl))
    unfold fmtNote
    split
    · exact hR.trans h0 (hR.note _ _)
    · exact h0

end Backend
