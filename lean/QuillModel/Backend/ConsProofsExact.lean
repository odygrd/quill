import QuillModel.Backend.ConsProofsUnplaced
import QuillModel.Backend.ConsProofsFault
/-!
C03, exactly once over the whole history, without a ghost record of the dispatch-time decision:
* before its pop an accepted ordinary statement has no ordinary `write` anywhere (`unpopped_unwritten`);
* the pop appends exactly one `write` per occurrence of each accepting sink (cut at a write fault) (`popStep_wcount`);
* after its pop the number of its writes at every sink never changes again, whatever the schedule (`Frozen`).
-/
namespace Backend.PA

theorem Inv.closed : Closed Inv :=
  ((InvA.closed.and InvB.closed).and (InvW.closed.and InvP.closed)).congr
    (fun _ => ⟨fun h => ⟨h.1.1, h.1.2, h.2.1, h.2.2⟩, fun h => ⟨⟨h.a, h.b⟩, ⟨h.w, h.p⟩⟩⟩)

theorem sum_map_succ_le {α} (l : List α) (f g : α → Nat) (h : ∀ x ∈ l, f x ≤ g x) (i : Nat) (hi : i < l.length)
    (hs : f l[i] + 1 ≤ g l[i]) : (l.map f).sum + 1 ≤ (l.map g).sum := by
  induction l generalizing i with
  | nil => cases hi
  | cons x xs ih =>
    simp only [List.map_cons, List.sum_cons]
    cases i with
    | zero =>
      have := List.sum_map_le xs f g (fun y hy => h y (by simp [hy]))
      simp only [List.getElem_cons_zero] at hs
      omega
    | succ j =>
      have := h x (by simp)
      have := ih (fun y hy => h y (by simp [hy])) j (by simpa using hi) (by simpa using hs)
      omega

/-- a statement still in a transit buffer or a queue is an occurrence in `accepted` that is not in `popped` -/
theorem cA_gt_cntP {s : BSt} (h : InvA s) {i : Nat} {st : Stmt} (hm : st ∈ (s.th i).buf ++ (s.th i).qStmts)
    (p : Stmt → Bool) (hp : p st = true) : cntP s p + 1 ≤ cA s p := by
  have hi : i < s.ths.length := lt_length_of_th (P := fun t => st ∈ t.buf ++ t.qStmts) hm List.not_mem_nil
  apply sum_map_succ_le s.ths _ _ _ i hi
  · rw [← th_eq_getElem s i hi, (h.th i).cons, List.append_assoc, List.countP_append]
    have : 1 ≤ ((s.th i).buf ++ (s.th i).qStmts).countP p := List.countP_pos_iff.mpr ⟨st, hm, hp⟩
    omega
  · intro t ht
    obtain ⟨j, _, rfl⟩ := mem_ths s ht
    rw [(h.th j).cons, List.countP_append, List.countP_append]
    omega

theorem Inv.unpopped_of {s : BSt} (h : Inv s) {i : Nat} {st : Stmt} (hm : st ∈ (s.th i).buf ++ (s.th i).qStmts)
    (q : Stmt → Bool) (hq : ∀ x, q x = true → logq st.id x = true) (hqst : q st = true) : s.popLog.countP q = 0 := by
  have h1 := cA_gt_cntP h.a hm q hqst
  have h2 := cA_mono s q (logq st.id) hq
  have h3 := h.b.cA_logq_le st.id
  have h4 := h.p q
  omega

theorem Inv.unpopped {s : BSt} (h : Inv s) {i : Nat} {st : Stmt} (hm : st ∈ (s.th i).buf ++ (s.th i).qStmts)
    (ho : isOrd st = true) : s.popLog.countP (pq st.id) = 0 :=
  h.unpopped_of hm _ (pq_logq st.id) (by simp [pq, ho])

theorem Inv.unpopped_unwritten {s : BSt} (h : Inv s) {i : Nat} {st : Stmt} (hm : st ∈ (s.th i).buf ++ (s.th i).qStmts)
    (ho : isOrd st = true) (sid : Nat) : wcount s.log sid st.id = 0 :=
  h.unwritten_of_unpopped st.id (h.unpopped hm ho) sid

theorem popStep_wcount {s : BSt} (h : Inv s) (i : Nat) (st : Stmt) (rest : List Stmt) (hb : (s.th i).buf = st :: rest)
    (ho : isOrd st = true) (sid : Nat) :
    ((dispatch s st).2 = false ∧
      wcount (popStep s i st rest).log sid st.id = ((s.lgOf st.lg).sinks.filter (acc s st)).count sid) ∨
    (∃ pre f post, (s.lgOf st.lg).sinks = pre ++ f :: post ∧ (dispatch s st).2 = true ∧ acc s st f = true ∧
      wcount (popStep s i st rest).log sid st.id = (pre.filter (acc s st)).count sid) := by
  obtain ⟨b, hp⟩ := popStep_pext h.w.ring i st rest
  have hc := hp.count sid st.id
  rw [if_pos rfl, h.unpopped_unwritten (i := i) (by rw [hb]; simp) ho sid, Nat.add_zero] at hc
  have hd := hp.dec
  rw [if_pos ho] at hd
  rcases hd with ⟨d, rfl⟩ | ⟨pre, f, post, e, d, a, rfl⟩
  · exact .inl ⟨d, hc⟩
  · exact .inr ⟨pre, f, post, e, d, a, hc⟩

/-- the ordinary statement with this id has been popped and has `n` ordinary writes at sink `sid` -/
structure Frozen (sid id n : Nat) (s : BSt) : Prop where
  inv : Inv s
  popped : 1 ≤ s.popLog.countP (pq id)
  cnt : wcount s.log sid id = n

/-- a step that pops nothing and writes nothing -/
structure Quiet (s s' : BSt) : Prop where
  popLog : s'.popLog = s.popLog
  log : ∃ evs, s'.log = evs ++ s.log ∧ ∀ e ∈ evs, isWriteEv e = false

theorem Frozen.quiet {sid id n : Nat} {s s' : BSt} (h : Frozen sid id n s) (hi : Inv s') (q : Quiet s s') :
    Frozen sid id n s' := by
  exact ⟨hi, by rw [q.popLog]; exact h.popped, by rw [(NExt.of_nowrite q.log).wcount]; exact h.cnt⟩

theorem Still.quiet {s s' : BSt} (q : Still s s') : Quiet s s' := ⟨q.popLog, q.log⟩

theorem Closed.of_still_inv {P : BSt → Prop} (inv : ∀ {s}, P s → Inv s)
    (still : ∀ {s s'}, P s → Inv s' → Still s s' → P s')
    (pop : ∀ s i st rest, P s → (s.th i).buf = st :: rest → P (popStep s i st rest)) : Closed P :=
  closed_iff.mpr fun s s' st h => by
    rcases st.pop_or_still with ⟨i, x, rest, hb, rfl⟩ | q
    · exact pop s i x rest h hb
    · exact still h (closed_iff.mp Inv.closed s s' st (inv h)) q

theorem Inv.popped_counted {s : BSt} (h : Inv s) {i : Nat} {st : Stmt} (hm : st ∈ (s.th i).popped) (ho : isOrd st = true) :
    1 ≤ s.popLog.countP (pq st.id) := by
  rw [h.p (pq st.id)]
  exact Nat.le_trans (List.countP_pos_iff.mpr ⟨st, hm, by simp [pq, ho]⟩)
    (th_le_sum_map s (fun t => t.popped.countP (pq st.id)) (lt_length_of_th (P := fun t => st ∈ t.popped) hm List.not_mem_nil))

/-- what the pop of the front event `st` appends to the history: ordinary writes of `st` only, hence none of an id that
    was popped before (no statement still to be popped carries such an id) -/
theorem Inv.pop_log_ext {s : BSt} (h : Inv s) {i : Nat} {st : Stmt} {rest : List Stmt} (hb : (s.th i).buf = st :: rest)
    (sid : Nat) :
    ∃ evs, (popStep s i st rest).log = evs ++ s.log ∧ ∀ id, 1 ≤ s.popLog.countP (pq id) → wcount evs sid id = 0 := by
  obtain ⟨b, hp⟩ := popStep_pext h.w.ring i st rest
  obtain ⟨evs, he, hk⟩ := hp.log
  refine ⟨evs, he, fun id hid => ?_⟩
  rw [wcount_of_keys hk]
  split
  · next e =>
    by_cases hbn : b = []
    · rw [hbn]; rfl
    · have := h.unpopped (i := i) (st := st) (by rw [hb]; simp) (hp.ord hbn)
      rw [e] at this
      omega
  · rfl

theorem Closed.of_quiet {P : BSt → Prop} (inv : ∀ {s}, P s → Inv s)
    (quiet : ∀ {s s'}, P s → Inv s' → Quiet s s' → P s')
    (pop : ∀ s i st rest, P s → (s.th i).buf = st :: rest → P (popStep s i st rest)) : Closed P :=
  Closed.of_still_inv inv (fun h hi q => quiet h hi q.quiet) pop

theorem Frozen.closed (sid id n : Nat) : Closed (Frozen sid id n) :=
  Closed.of_quiet (fun h => h.inv) (fun h hi q => h.quiet hi q) (fun s i st rest h hb => by
    refine ⟨Inv.closed.pop s i st rest h.inv hb, ?_, ?_⟩
    · rw [popStep_popLog, List.countP_cons]
      have := h.popped
      omega
    · obtain ⟨evs, he, hev⟩ := h.inv.pop_log_ext hb sid
      rw [he, wcount_append, hev id h.popped, Nat.zero_add]
      exact h.cnt)

theorem Frozen.run {sid id n : Nat} {s : BSt} (h : Frozen sid id n s) (ops : List Op) : Frozen sid id n (runOps s ops) :=
  runOps_closed (Frozen.closed sid id n) ops s h

theorem Frozen.of_pop {s : BSt} (h : Inv s) (i : Nat) (st : Stmt) (rest : List Stmt) (hb : (s.th i).buf = st :: rest)
    (ho : isOrd st = true) (sid : Nat) :
    Frozen sid st.id (wcount (popStep s i st rest).log sid st.id) (popStep s i st rest) := by
  refine ⟨Inv.closed.pop s i st rest h hb, ?_, rfl⟩
  rw [(popStep_pops s i st rest hb).2.2.1, List.countP_cons]
  have : pq st.id st = true := by simp [pq, ho]
  simp [this]

/-- the count a pop leaves is final: after the call of `_process_lowest_timestamp_transit_event` that pops the
    ordinary statement `st` (with any frontend operations injected at its hook sites) and after every further schedule,
    every sink has the ordinary writes of `st` that the pop left — whether or not a `write_log` fault cut its dispatch -/
theorem Frozen.after_pop {s : BSt} (h : Inv s) (table : List (Nat × Nat × List FOp)) (i : Nat) (st : Stmt)
    (rest : List Stmt) (hl : lowest s = some i) (hb : (s.th i).buf = st :: rest) (hord : isOrd st = true)
    (ops : List Op) (sid : Nat) :
    wcount (runOps (processLowest (runInj table) s).1 ops).log sid st.id = wcount (popStep s i st rest).log sid st.id := by
  have hc := Frozen.closed sid st.id (wcount (popStep s i st rest).log sid st.id)
  have hT := processLowest_tail_closedB hc.toB (runInj table) (runInj_closed hc table) s i st rest hl hb
    (Frozen.of_pop h i st rest hb hord sid)
  exact (hT.run ops).cnt

end Backend.PA
