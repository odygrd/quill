import QuillModel.Backend.ConsProofsQuiesce
import QuillModel.Backend.ConsProofsUnplaced
import QuillModel.Backend.LiftObsView
/-!
One frontend operation on a dropping queue, seen through its observation text (`Step`): either the text is a quiet format
and no context's `discarded` / accepted-ordinary-statement count moves, or it is the accept line of an ordinary statement
and exactly one ordinary statement was accepted, or it is one of the two drop lines and exactly one `discarded` grew.
Needs the actor invariant `AOK` (context indices in range, parked statements fit their continuation and ordinary ones
are not empty), which the step keeps.
-/
namespace Backend.PC

def dsum (s : BSt) : Nat := ((dk s).map (·.1)).sum
def asum (s : BSt) : Nat := ((dk s).map (·.2)).sum

theorem dsum_ths (s : BSt) : dsum s = (s.ths.map (·.discarded)).sum := by
  simp only [dsum, dk, List.map_map]; rfl
theorem asum_ths (s : BSt) :
    asum s = (s.ths.map (fun t => (t.accepted.filter (fun x => isLogKind x.kind)).length)).sum := by
  simp only [asum, dk, List.map_map]; rfl

theorem dk_length (s : BSt) : (dk s).length = s.ths.length := by simp [dk]

/-- the kind of a statement and the continuation of the public call that made it fit together -/
def KC (k : Kind) (cont : Nat) : Prop :=
  (k = .log ∧ (cont = 0 ∨ cont = 5)) ∨ (cont = 1 ∧ ∃ f, k = .flush f) ∨ (cont = 2 ∧ ∃ c f, k = .initBt c f) ∨
  (cont = 3 ∧ k = .flushBt) ∨ (cont = 4 ∧ ∃ f, k = .removal f)

def wfSC (st : Stmt) (cont : Nat) : Prop := KC st.kind cont ∧ (st.kind = .log → 0 < st.size)

def wfPend : Pend → Prop
  | .stall st c => wfSC st c
  | .retry st c => wfSC st c
  | _ => True

def AOK (s : BSt) : Prop := ∀ x ∈ s.actors, (∀ i, x.ctx = some i → i < s.ths.length) ∧ wfPend x.pend

theorem AOK.of_eq {s s' : BSt} (h : AOK s) (h1 : s'.actors = s.actors) (h2 : s.ths.length ≤ s'.ths.length) : AOK s' := by
  intro x hx
  rw [h1] at hx
  exact ⟨fun i hi => Nat.lt_of_lt_of_le ((h x hx).1 i hi) h2, (h x hx).2⟩

theorem AOK.setActor {s : BSt} (h : AOK s) (a : Nat) (f : Actor → Actor)
    (hf : ∀ x ∈ s.actors, (∀ i, (f x).ctx = some i → i < s.ths.length) ∧ wfPend (f x).pend) : AOK (s.setActor a f) := by
  intro y hy
  obtain ⟨x, hx, rfl⟩ := mem_setActor hy
  split
  · exact hf x hx
  · exact h x hx

theorem AOK.setMisc {s : BSt} (h : AOK s) (a : Nat) (f : Actor → Actor) (hc : ∀ x, (f x).ctx = x.ctx)
    (hp : ∀ x, wfPend x.pend → wfPend (f x).pend) : AOK (s.setActor a f) :=
  h.setActor a f (fun x hx => ⟨fun i hi => (h x hx).1 i (hc x ▸ hi), hp x (h x hx).2⟩)

theorem AOK.actor {s : BSt} (h : AOK s) {a : Nat} {x : Actor} (hx : s.actor a = some x) :
    (∀ i, x.ctx = some i → i < s.ths.length) ∧ wfPend x.pend :=
  h x (List.mem_of_find?_eq_some hx)

inductive Out (c d a d' a' : Nat) (t : String) : Prop
  | quiet (hd : d' = d) (ha : a' = a) (hq : Quiet t)
  | acc (hd : d' = d) (ha : a' = a + 1) (hc : c = 0 ∨ c = 5)
      (ht : ∃ st : Stmt, 0 < st.size ∧ t = obsLog st c (some true) st.size)
  | drop0 (hd : d' = d + 1) (ha : a' = a) (hc : c = 0) (ht : ∃ n : Nat, t = s!"id={n} ret=0 ev=1 bytes=0")
  | drop5 (hd : d' = d + 1) (ha : a' = a) (hc : c = 5) (ht : ∃ n : Nat, t = s!"id={n} ev=1 bytes=0")

structure Step (c : Nat) (s s' : BSt) (t : String) : Prop where
  drp : s'.cfg.dropping = s.cfg.dropping
  log : injT s'.log = injT s.log
  aok : AOK s'
  out : Out c (dsum s) (asum s) (dsum s') (asum s') t

theorem Step.pre {c : Nat} {s s1 s' : BSt} {t : String} (h : Step c s1 s' t) (h1 : s1.ths = s.ths) (h2 : s1.cfg = s.cfg)
    (h3 : s1.log = s.log) : Step c s s' t := by
  have e1 : dsum s1 = dsum s := by simp only [dsum, dk, h1]
  have e2 : asum s1 = asum s := by simp only [asum, dk, h1]
  refine ⟨by rw [h.drp, h2], by rw [h.log, h3], h.aok, ?_⟩
  rw [← e1, ← e2]; exact h.out

theorem Step.same {c : Nat} {s s' : BSt} {t : String} (h1 : s'.ths = s.ths) (h2 : s'.cfg = s.cfg)
    (h3 : injT s'.log = injT s.log) (ha : AOK s') (hq : Quiet t) : Step c s s' t :=
  ⟨by rw [h2], h3, ha, .quiet (by simp only [dsum, dk, h1]) (by simp only [asum, dk, h1]) hq⟩

theorem Step.of_vw {c : Nat} {s s' : BSt} {t : String} (hv : vw s' = vw s) (ha : AOK s) (hq : Quiet t) : Step c s s' t := by
  have h2 : dk s' = dk s := congrArg (·.2.1) hv
  refine ⟨congrArg (·.2.2.2) hv, congrArg (·.1) hv, ha.of_eq (congrArg (·.2.2.1) hv) ?_,
    .quiet (by simp only [dsum, h2]) (by simp only [asum, h2]) hq⟩
  rw [← dk_length, ← dk_length, h2]
  exact Nat.le_refl _

theorem Step.post {c : Nat} {s s' s2 : BSt} {t : String} (h : Step c s s' t) (h1 : s2.ths = s'.ths) (h2 : s2.cfg = s'.cfg)
    (h3 : s2.log = s'.log) (ha : AOK s2) : Step c s s2 t := by
  have e1 : dsum s2 = dsum s' := by simp only [dsum, dk, h1]
  have e2 : asum s2 = asum s' := by simp only [asum, dk, h1]
  refine ⟨by rw [h2, h.drp], by rw [h3, h.log], ha, ?_⟩
  rw [e1, e2]; exact h.out

theorem sum_setTh (s : BSt) (i : Nat) (f : Th → Th) (h : Th → Nat) (hi : i < s.ths.length) (k : Nat)
    (hk : h (f (s.th i)) = h (s.th i) + k) : ((s.setTh i f).ths.map h).sum = (s.ths.map h).sum + k := by
  have := sum_map_updAt s.ths i f h hi
  rw [th_eq_getElem s i hi] at hk
  show ((updAt s.ths i f).map h).sum = _
  omega

theorem ensureCtx_facts {s s1 : BSt} {a ci : Nat} (ha : AOK s) (hc : ensureCtx s a = (s1, ci)) :
    s1.cfg = s.cfg ∧ s1.log = s.log ∧ dsum s1 = dsum s ∧ asum s1 = asum s ∧ AOK s1 ∧ ci < s1.ths.length := by
  obtain rfl : (ensureCtx s a).1 = s1 := congrArg Prod.fst hc
  obtain rfl : (ensureCtx s a).2 = ci := congrArg Prod.snd hc
  unfold Backend.ensureCtx
  cases h : (s.actor a).bind (·.ctx) with
  | some i =>
    refine ⟨rfl, rfl, rfl, rfl, ha, ?_⟩
    cases hx : s.actor a with
    | none => simp [hx] at h
    | some x =>
      simp only [hx, Option.bind_some] at h
      exact (ha.actor hx).1 i h
  | none =>
    dsimp only
    refine ⟨rfl, rfl, ?_, ?_, ?_, ?_⟩
    · simp [dsum, dk, mkTh]
    · simp [asum, dk, mkTh]
    · have h0 : AOK ({ s with ths := s.ths ++ [mkTh s.cfg a], registry := s.registry ++ [s.ths.length], newFlag := true } : BSt) :=
        ha.of_eq rfl (by simp)
      refine h0.setActor a _ (fun x hx => ⟨fun i hi => ?_, (h0 x hx).2⟩)
      simp only [Option.some.injEq] at hi
      subst hi
      simp
    · simp [BSt.setActor]

theorem tryEnq_facts {s s2 : BSt} {ci : Nat} {st : Stmt} {ok : Bool} (hci : ci < s.ths.length)
    (he : tryEnq s ci st = (s2, ok)) :
    s2.cfg = s.cfg ∧ s2.log = s.log ∧ s2.actors = s.actors ∧ s2.ths.length = s.ths.length ∧ dsum s2 = dsum s ∧
    asum s2 = asum s + (if ok = true ∧ isLogKind st.kind = true then 1 else 0) := by
  obtain rfl : (tryEnq s ci st).1 = s2 := congrArg Prod.fst he
  obtain rfl : (tryEnq s ci st).2 = ok := congrArg Prod.snd he
  unfold Backend.tryEnq
  dsimp only
  split
  · refine ⟨rfl, rfl, rfl, by simp, ?_, ?_⟩
    · rw [dsum_ths, dsum_ths]
      exact sum_setTh s ci _ (·.discarded) hci 0 rfl
    · rw [asum_ths, asum_ths]
      apply sum_setTh s ci _ _ hci
      simp only [List.filter_append, List.length_append, true_and]
      cases hk : isLogKind st.kind <;> simp [List.filter, hk]
  · refine ⟨rfl, rfl, rfl, by simp, ?_, ?_⟩
    · rw [dsum_ths, dsum_ths]
      exact sum_setTh s ci _ (·.discarded) hci 0 rfl
    · rw [asum_ths, asum_ths]
      simp only [Bool.false_eq_true, false_and, if_false]
      exact sum_setTh s ci _ _ hci 0 rfl

theorem afterEnq_log (s : BSt) (a : Nat) (st : Stmt) (cont : Nat) (hk : st.kind = .log) (hc : cont = 0 ∨ cont = 5) :
    afterEnq s a st cont = (s, obsLog st cont (some true) st.size) := by
  unfold Backend.afterEnq
  rcases hc with rfl | rfl <;> rw [hk] <;> rfl

theorem stmtSize_log_pos (c : Cfg) (id len : Nat) (dyn : Bool) (gid : Nat) : 0 < stmtSize c .log id len dyn gid := by
  have : 2 ≤ payloadLen id len := by unfold payloadLen; exact Nat.le_trans (Nat.le_add_right 2 _) (Nat.le_max_right _ _)
  simp only [stmtSize]
  omega

theorem KC.log_iff {k : Kind} {cont : Nat} (h : KC k cont) : isLogKind k = true ↔ (cont = 0 ∨ cont = 5) := by
  rcases h with ⟨rfl, hc⟩ | ⟨rfl, f, rfl⟩ | ⟨rfl, c, f, rfl⟩ | ⟨rfl, rfl⟩ | ⟨rfl, f, rfl⟩ <;> simp [isLogKind, *]

end Backend.PC
