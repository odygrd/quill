import QuillModel.Backend.ParkedInv
/-!
# Every call parked on a flag has its request record in the accepted history — as a state invariant (for C17)

`LK s`: for every live actor parked on `Pend.flag f` a record carrying the flag `f`, issued by that actor, is in the accepted
history of a context; the statement of every parked retry / stall is the actor's own; every live actor's context exists.
`LK` is closed under every step of the machine (`LK.closed`, through the `PC.Closed` skeleton), hence holds after every schedule.
-/
namespace Backend.PB

structure BackSame (s s' : BSt) : Prop where
  actors : s'.actors = s.actors
  acc : ∀ i, (s'.th i).accepted = (s.th i).accepted
  len : s'.ths.length = s.ths.length

theorem BackSame.refl (s : BSt) : BackSame s s := ⟨rfl, fun _ => rfl, rfl⟩
theorem BackSame.trans {a b c : BSt} (h1 : BackSame a b) (h2 : BackSame b c) : BackSame a c :=
  ⟨h2.actors.trans h1.actors, fun i => (h2.acc i).trans (h1.acc i), h2.len.trans h1.len⟩
theorem BackSame.ofThs {s s' : BSt} (h1 : s'.ths = s.ths) (h2 : s'.actors = s.actors) : BackSame s s' :=
  ⟨h2, fun i => acc_of_ths h1 i, by rw [h1]⟩
theorem BackSame.setTh (s : BSt) (k : Nat) (f : Th → Th) (hf : ∀ t, (f t).accepted = t.accepted) : BackSame s (s.setTh k f) :=
  ⟨rfl, fun i => th_setTh_proj (·.accepted) s k i f hf, ths_length_setTh s k f⟩
theorem backSame_back : BackRel BackSame where
  refl := BackSame.refl
  trans := BackSame.trans
  hk := fun h => BackSame.ofThs h.ths h.actors
  setThMisc := fun s i f hf => BackSame.setTh s i f (fun t => (hf t).2.2.2)
  ctxEmpty := fun s i => BackSame.setTh s i _ (fun _ => rfl)
  pop := fun s j st rest _ =>
    (BackSame.setTh s j (fun t => { t with buf := rest, popped := t.popped ++ [st] }) (fun _ => rfl)).trans (BackSame.ofThs rfl rfl)

def PendOK (s : BSt) (a : Nat) (p : Pend) : Prop :=
  (∀ f, p = .flag f → ∃ i, ∃ st ∈ (s.th i).accepted, flagOf st = some f ∧ st.actor = a) ∧
  (∀ st, isPendOf p st → st.actor = a)

structure LK (s : BSt) : Prop where
  pend : ∀ a x, s.actor a = some x → PendOK s a x.pend
  ctxLt : ∀ a x i, s.actor a = some x → x.ctx = some i → i < s.ths.length

theorem PendOK.mono {s s' : BSt} {a : Nat} {p : Pend} (h : PendOK s a p)
    (hm : ∀ i r, r ∈ (s.th i).accepted → r ∈ (s'.th i).accepted) : PendOK s' a p :=
  ⟨fun f hf => by obtain ⟨i, st, h1, h2⟩ := h.1 f hf; exact ⟨i, st, hm i st h1, h2⟩, h.2⟩

theorem pendOK_none (s : BSt) (a : Nat) : PendOK s a .none :=
  ⟨fun f hf => (by cases hf), fun st hst => absurd hst (not_pend_none st)⟩

theorem actor_of_actors {s s' : BSt} (h : s'.actors = s.actors) (a : Nat) : s'.actor a = s.actor a := by
  simp only [BSt.actor, h]

theorem LK.ofActors {s s' : BSt} (h : LK s) (ha : s'.actors = s.actors)
    (hm : ∀ i r, r ∈ (s.th i).accepted → r ∈ (s'.th i).accepted) (hl : s.ths.length ≤ s'.ths.length) : LK s' :=
  ⟨fun a x hx => (h.pend a x (by rw [← actor_of_actors ha a]; exact hx)).mono hm,
   fun a x i hx hc => Nat.lt_of_lt_of_le (h.ctxLt a x i (by rw [← actor_of_actors ha a]; exact hx) hc) hl⟩

theorem LK.back {s s' : BSt} (h : LK s) (b : BackSame s s') : LK s' :=
  h.ofActors b.actors (fun i r hr => by rw [b.acc i]; exact hr) (Nat.le_of_eq b.len.symm)

theorem LK.ofGrowActors {s s' : BSt} (h : LK s) (g : Grow s s') (ha : s'.actors = s.actors)
    (hl : s.ths.length ≤ s'.ths.length) : LK s' :=
  h.ofActors ha (fun i _ hr => (g.th i).acc.subset hr) hl

theorem LK.setActor {s : BSt} (h : LK s) (a : Nat) (g : Actor → Actor) (hid : ∀ x, (g x).id = x.id)
    (hal : ∀ x, (g x).alive = x.alive)
    (hctx : ∀ x, s.actor a = some x → ∀ i, (g x).ctx = some i → i < s.ths.length)
    (hp : ∀ x, s.actor a = some x → PendOK s a (g x).pend) : LK (s.setActor a g) := by
  have hself : ∀ y, (s.setActor a g).actor a = some y → ∃ x, s.actor a = some x ∧ y = g x :=
    fun y hy => actor_setActor_some hy hid hal
  refine ⟨fun b y hy => ?_, fun b y i hy hc => ?_⟩
  · by_cases hb : b = a
    · subst hb
      obtain ⟨x, hx, rfl⟩ := hself y hy
      exact (hp x hx).mono (fun _ _ hr => hr)
    · rw [actor_setActor_ne s g hid hb] at hy
      exact (h.pend b y hy).mono (fun _ _ hr => hr)
  · show i < s.ths.length
    by_cases hb : b = a
    · subst hb
      obtain ⟨x, hx, rfl⟩ := hself y hy
      exact hctx x hx i hc
    · rw [actor_setActor_ne s g hid hb] at hy
      exact h.ctxLt b y i hy hc

theorem LK.setPend {s : BSt} (h : LK s) (a : Nat) (g : Actor → Actor) (hid : ∀ x, (g x).id = x.id)
    (hal : ∀ x, (g x).alive = x.alive) (hc : ∀ x, (g x).ctx = x.ctx) (p' : Pend) (hpe : ∀ x, (g x).pend = p')
    (hp : PendOK s a p') : LK (s.setActor a g) :=
  h.setActor a g hid hal (fun x hx i hi => h.ctxLt a x i hx (by rw [← hc x]; exact hi)) (fun x _ => by rw [hpe]; exact hp)

theorem LK.setKeep {s : BSt} (h : LK s) (a : Nat) (g : Actor → Actor) (hid : ∀ x, (g x).id = x.id)
    (hal : ∀ x, (g x).alive = x.alive) (hc : ∀ x, (g x).ctx = x.ctx) (hpe : ∀ x, (g x).pend = x.pend) : LK (s.setActor a g) :=
  h.setActor a g hid hal (fun x hx i hi => h.ctxLt a x i hx (by rw [← hc x]; exact hi))
    (fun x hx => by rw [hpe]; exact h.pend a x hx)

theorem LK.ensureCtx {s : BSt} (h : LK s) (a : Nat) : LK (Backend.ensureCtx s a).1 := by
  unfold Backend.ensureCtx
  split
  · exact h
  · simp only
    have h1 : LK ({ s with ths := s.ths ++ [mkTh s.cfg a], registry := s.registry ++ [s.ths.length], newFlag := true } : BSt) := by
      refine h.ofActors rfl (fun i r hr => ?_) (by show s.ths.length ≤ (s.ths ++ [mkTh s.cfg a]).length; simp)
      have e := th_newCtx_congr (·.accepted) s a rfl i
      rw [← e] at hr
      exact hr
    refine h1.setActor a _ (fun _ => rfl) (fun _ => rfl) (fun x _ i hi => ?_) (fun x hx => h1.pend a x hx)
    simp only [Option.some.injEq] at hi
    subst hi
    show s.ths.length < (s.ths ++ [mkTh s.cfg a]).length
    simp

theorem tryEnq_len (s : BSt) (ci : Nat) (st : Stmt) : (Backend.tryEnq s ci st).1.ths.length = s.ths.length := by
  rcases tryEnq_cases s ci st with ⟨_, e⟩ | ⟨_, e⟩ <;> rw [e] <;> exact ths_length_setTh _ _ _

theorem LK.tryEnq {s : BSt} (h : LK s) (ci : Nat) (st : Stmt) : LK (Backend.tryEnq s ci st).1 :=
  h.ofGrowActors (grow_front.tryEnq s ci st) (tryEnq_actors s ci st) (Nat.le_of_eq (tryEnq_len s ci st).symm)

theorem flagOf_enqAt (st : Stmt) (n : Nat) : flagOf { st with enqAt := n } = flagOf st := rfl

theorem LK.afterEnq {s : BSt} (h : LK s) (a : Nat) (st : Stmt) (cont : Nat) (hact : st.actor = a)
    (hrec : ∃ i, ∃ r ∈ (s.th i).accepted, flagOf r = flagOf st ∧ r.actor = st.actor) :
    LK (Backend.afterEnq s a st cont).1 := by
  obtain ⟨i, r, hr, hf, ha⟩ := hrec
  unfold Backend.afterEnq
  split
  · rename_i f hk
    refine h.setPend a _ (fun _ => rfl) (fun _ => rfl) (fun _ => rfl) (.flag f) (fun _ => rfl) ⟨fun f' hf' => ?_, fun st' hst' => absurd hst' (not_pend_flag _ st')⟩
    simp only [Pend.flag.injEq] at hf'
    subst hf'
    exact ⟨i, r, hr, by rw [hf]; simp [flagOf, flagOfK, hk], by rw [ha, hact]⟩
  · exact h.ofActors rfl (fun _ _ hr' => hr') (Nat.le_refl _)
  · exact h
  · rename_i f hk
    have h1 : LK ({ s.setLg st.lg (fun l => { l with valid := false }) with hasInvalidLoggers := true } : BSt) :=
      h.ofActors rfl (fun _ _ hr' => hr') (Nat.le_refl _)
    refine h1.setPend a _ (fun _ => rfl) (fun _ => rfl) (fun _ => rfl) (.flag f) (fun _ => rfl) ⟨fun f' hf' => ?_, fun st' hst' => absurd hst' (not_pend_flag _ st')⟩
    simp only [Pend.flag.injEq] at hf'
    subst hf'
    exact ⟨i, r, hr, by rw [hf]; simp [flagOf, flagOfK, hk], by rw [ha, hact]⟩
  · exact h

theorem LK.frame {s s' : BSt} (h : LK s) (h1 : s'.ths = s.ths) (h2 : s'.actors = s.actors) : LK s' :=
  h.back (BackSame.ofThs h1 h2)

theorem LK.bumpFail {s : BSt} (h : LK s) (d : Bool) (ci : Nat) (st : Stmt) : LK (bumpFail d s ci st) := by
  unfold Backend.bumpFail
  split
  · exact h.back (BackSame.setTh s ci _ (fun _ => rfl))
  · exact h

theorem LK.enqFlow {s : BSt} (h : LK s) (a : Nat) (st : Stmt) (cont : Nat) (first initial : Bool) (hact : st.actor = a) :
    LK (Backend.enqFlow s a st cont first initial).1 := by
  have hnone : ∀ {y}, LK y → LK (Backend.setPend y a .none) := fun {y} hy =>
    hy.setPend a _ (fun _ => rfl) (fun _ => rfl) (fun _ => rfl) .none (fun _ => rfl) (pendOK_none y a)
  -- after `ensureCtx` the context exists, so a granted reservation leaves the record in its accepted history
  exact enqFlow_rule (fun ci x => LK x ∧ ci < x.ths.length) (fun _ => LK) LK
    ⟨h.ensureCtx a, PC.ensureCtx_lt s a (fun x j hx hc => h.ctxLt a x j hx hc)⟩
    (fun ci x hx hok => (hnone (hx.1.tryEnq ci st)).afterEnq a st cont hact
      ⟨ci, { st with enqAt := x.now }, tryEnq_ok_mem x ci st hx.2 hok, rfl, rfl⟩)
    (fun ci _ hx _ => hx.1.tryEnq ci st) (fun _ _ hx _ => hx.bumpFail ..) (fun _ _ hx _ _ => hnone hx)
    (fun _ _ hx _ => hx.setPend a _ (fun _ => rfl) (fun _ => rfl) (fun _ => rfl) (.retry st cont) (fun _ => rfl)
      ⟨fun f hf => (by cases hf), fun _ hst' => isPendOf_retry hst' ▸ hact⟩)

theorem LK.kill {s : BSt} (h : LK s) (a : Nat) : LK (s.setActor a (fun x => { x with alive := false })) := by
  refine ⟨fun b y hy => ?_, fun b y i hy hc => ?_⟩
  · by_cases hb : b = a
    · subst hb; rw [actor_setActor_kill s b (fun x => { x with alive := false }) (fun _ => rfl)] at hy; cases hy
    · rw [actor_setActor_ne s (fun x => { x with alive := false }) (fun _ => rfl) hb] at hy
      exact (h.pend b y hy).mono (fun _ _ hr => hr)
  · by_cases hb : b = a
    · subst hb; rw [actor_setActor_kill s b (fun x => { x with alive := false }) (fun _ => rfl)] at hy; cases hy
    · rw [actor_setActor_ne s (fun x => { x with alive := false }) (fun _ => rfl) hb] at hy
      exact h.ctxLt b y i hy hc

theorem LK.tstart {s : BSt} (h : LK s) (a : Nat) (ha : s.actor a = none) :
    LK { s with actors := s.actors ++ [{ id := a }] } := by
  refine ⟨fun b y hy => ?_, fun b y i hy hc => ?_⟩
  · rw [actor_append s a b ha] at hy
    split at hy
    · simp only [Option.some.injEq] at hy; subst hy; rename_i hb; subst hb; exact pendOK_none _ _
    · exact (h.pend b y hy).mono (fun _ _ hr => hr)
  · rw [actor_append s a b ha] at hy
    split at hy
    · simp only [Option.some.injEq] at hy; subst hy; cases hc
    · exact h.ctxLt b y i hy hc

/-- an actor parks or enqueues records that carry its own id -/
theorem LK.rules : FrontRules (fun _ => True) LK (fun a st _ => st.actor = a) :=
  .ofStrip (fun _ _ e h => h.frame (of_stripLg (·.ths) (fun _ => rfl) e) (of_stripLg (·.actors) (fun _ => rfl) e)) {
    enq := fun _ a _ st _ _ _ _ h _ hact => h.enqFlow a st _ _ _ hact
    stall := fun _ a _ st cont _ h _ hact => h.setPend a _ (fun _ => rfl) (fun _ => rfl) (fun _ => rfl) (.stall st cont) (fun _ => rfl)
      ⟨fun f hf => (by cases hf), fun _ hst' => isPendOf_stall hst' ▸ hact⟩
    parked := fun _ a x st cont _ h hx hp => have := (h.pend a x hx).2 st ⟨cont, hp⟩; ⟨this, this⟩
    flagDone := fun s a _ _ _ h _ _ _ =>
      h.setPend a _ (fun _ => rfl) (fun _ => rfl) (fun _ => rfl) .none (fun _ => rfl) (pendOK_none s a)
    actorMisc := fun _ a f h hf => h.setKeep a f (fun x => (hf x).1) (fun x => (hf x).2.1) (fun x => (hf x).2.2.1) (fun x => (hf x).2.2.2)
    pre := fun _ _ _ _ _ _ _ _ h hp _ _ =>
      ⟨h.frame (hp.proj (·.ths) (fun _ _ _ _ => rfl)) (hp.proj (·.actors) (fun _ _ _ _ => rfl)), fun _ _ _ _ => rfl⟩
    tick := fun _ _ h => h.frame rfl rfl
    tstart := fun _ a _ h ha => h.tstart a ha
    texitCtx := fun _ a i _ h _ _ =>
      ((h.kill a).back (BackSame.setTh _ i (fun t => { t with valid := false }) (fun _ => rfl))).frame rfl rfl
    texitNoCtx := fun _ a _ h _ _ => h.kill a }

theorem LK.resume {s : BSt} (h : LK s) (a : Nat) : LK (Backend.resume s a).1 :=
  LK.rules.toActorRules.resume_fst h a

theorem LK.applyFront {s : BSt} (h : LK s) (f : FOp) : LK (Backend.applyFront s f).1 :=
  LK.rules.front h f

theorem LK.closed : PC.Closed LK where
  lastFlush := fun _ _ h => h.frame rfl rfl
  siteCnt := fun _ _ h => h.frame rfl rfl
  emitInj := fun _ _ _ _ _ h => h.frame rfl rfl
  note := fun _ h => h.frame rfl rfl
  clock := fun _ _ h => h.frame rfl rfl
  gone := fun _ h => h.frame rfl rfl
  refresh := fun s h => h.back (backSame_back.refresh s)
  allEmpty := fun s h => h.back (backSame_back.allEmpty s)
  hasPending := fun s h => h.back (backSame_back.hasPending s)
  cleanupContexts := fun s h => h.back (backSame_back.cleanupContexts s)
  invFlag := fun _ _ h => h.frame rfl rfl
  erase := fun s k h _ _ => (h.back (backSame_back.allEmpty s)).frame rfl rfl
  reap := fun _ _ h _ _ => h.frame rfl rfl
  flagRemoval := fun _ _ _ _ _ h _ _ => h.frame rfl rfl
  flushSinks := fun s h => h.back (backSame_back.flushSinks s)
  readPrep := fun s k h => h.back (BackSame.setTh s k _ (fun _ => rfl))
  commit := fun s k h => h.back (BackSame.setTh s k _ (fun _ => rfl))
  readOne := fun s k st rest h _ _ => by
    obtain ⟨rf, e⟩ := readOneSt_eq s k st rest
    rw [e]
    exact (h.frame (s' := { s with removalFlags := rf }) rfl rfl).back (BackSame.setTh _ k _ (fun _ => rfl))
  report := fun s k h _ => (h.back (BackSame.setTh s k (fun t => { t with fail := 0 }) (fun _ => rfl))).frame rfl rfl
  pop := fun s k st rest h _ hb => h.back (backSame_back.popSt s k st rest hb)
  raise := fun _ _ h _ => h.frame rfl rfl
  front := fun s f h => h.applyFront f

theorem LK.start {s : BSt} (h : s.actors = []) : LK s :=
  ⟨fun a x hx => by simp [BSt.actor, h] at hx, fun a x i hx _ => by simp [BSt.actor, h] at hx⟩

theorem LK.run {s : BSt} (h : LK s) (ops : List Op) : LK (runOps s ops) := PC.runOps_closed LK.closed ops s h

end Backend.PB
