import QuillModel.Backend.ConsProofsQueue
import QuillModel.Backend.Pass
import QuillModel.Backend.EventLog
/-!
The skeleton of bundle A over the walk of `Pass.lean`: a state predicate `P` closed under a small set of primitive state
changes (`Closed P`; most of them are one obligation, `Frame`) holds after every schedule (`runOps_closed`), so an
invariant is established by proving `Closed` for it. `ClosedB` (no frontend) is what the walk needs (`ClosedB.passRules`),
`ClosedOn al` admits the frontend operations `al` allows. The state changes themselves are the relation `Prim`
(`closed_iff`: closed = kept by every `Prim` step), six of them are housekeeping (`Hk`, `Closed.of_hk`), and a reflexive
transitive relation that contains `Prim` holds along every schedule (`Prim.run`).
-/
namespace Backend.PA

def isWriteEv : Ev → Bool
  | .write .. => true
  | _ => false

structure SinkSame (k k' : Sink) : Prop where
  sid : k'.sid = k.sid
  lvl : k'.lvl = k.lvl
  filtM : k'.filtM = k.filtM
  filtR : k'.filtR = k.filtR
  wthrow : k'.wthrow = k.wthrow
  fthrow : k'.fthrow = k.fthrow

theorem SinkSame.refl (k : Sink) : SinkSame k k := ⟨rfl, rfl, rfl, rfl, rfl, rfl⟩
theorem SinkSame.trans {a b c : Sink} (h1 : SinkSame a b) (h2 : SinkSame b c) : SinkSame a c :=
  ⟨h2.sid.trans h1.sid, h2.lvl.trans h1.lvl, h2.filtM.trans h1.filtM, h2.filtR.trans h1.filtR,
   h2.wthrow.trans h1.wthrow, h2.fthrow.trans h1.fthrow⟩

/-- a state change that touches no context, no actor, no id, not the pop history, keeps the loggers'
    sink lists / backtrace rings and the sinks' configuration, and emits no `write` event -/
structure Frame (s s' : BSt) : Prop where
  cfg : s'.cfg = s.cfg
  ths : s'.ths = s.ths
  actors : s'.actors = s.actors
  registry : s'.registry = s.registry
  cache : s'.cache = s.cache
  newFlag : s'.newFlag = s.newFlag
  nextId : s'.nextId = s.nextId
  popLog : s'.popLog = s.popLog
  reported : s'.reported = s.reported
  names : s'.names = s.names
  lgsLen : s'.lgs.length = s.lgs.length
  lgs : ∀ i, (s'.lgOf i).gid = (s.lgOf i).gid ∧ (s'.lgOf i).sinks = (s.lgOf i).sinks ∧ (s'.lgOf i).bt = (s.lgOf i).bt
  sinks : ∀ sid, SinkSame (s.sinkOf sid) (s'.sinkOf sid)
  log : ∃ evs, s'.log = evs ++ s.log ∧ ∀ e ∈ evs, isWriteEv e = false
  flags : ∀ f ∈ s.flags, f ∈ s'.flags

theorem Frame.refl (s : BSt) : Frame s s :=
  ⟨rfl, rfl, rfl, rfl, rfl, rfl, rfl, rfl, rfl, rfl, rfl, fun _ => ⟨rfl, rfl, rfl⟩, fun _ => SinkSame.refl _,
   LogExt.refl s, fun _ h => h⟩

theorem Frame.trans {a b c : BSt} (h1 : Frame a b) (h2 : Frame b c) : Frame a c :=
  ⟨h2.cfg.trans h1.cfg, h2.ths.trans h1.ths, h2.actors.trans h1.actors, h2.registry.trans h1.registry,
    h2.cache.trans h1.cache, h2.newFlag.trans h1.newFlag, h2.nextId.trans h1.nextId, h2.popLog.trans h1.popLog,
    h2.reported.trans h1.reported, h2.names.trans h1.names, h2.lgsLen.trans h1.lgsLen,
    fun i => ⟨(h2.lgs i).1.trans (h1.lgs i).1, (h2.lgs i).2.1.trans (h1.lgs i).2.1, (h2.lgs i).2.2.trans (h1.lgs i).2.2⟩,
    fun sid => (h1.sinks sid).trans (h2.sinks sid), LogExt.trans h1.log h2.log, fun f hf => h2.flags f (h1.flags f hf)⟩

theorem Frame.of_eq {s s' : BSt} (h1 : s'.cfg = s.cfg) (h2 : s'.ths = s.ths) (h3 : s'.actors = s.actors)
    (h4 : s'.registry = s.registry) (h5 : s'.cache = s.cache) (h6 : s'.newFlag = s.newFlag)
    (h7 : s'.nextId = s.nextId) (h8 : s'.popLog = s.popLog) (h9 : s'.reported = s.reported)
    (h10 : s'.names = s.names) (h11 : s'.lgs = s.lgs) (h12 : s'.sinks = s.sinks) (h13 : s'.log = s.log)
    (h14 : ∀ f ∈ s.flags, f ∈ s'.flags) : Frame s s' :=
  ⟨h1, h2, h3, h4, h5, h6, h7, h8, h9, h10, by rw [h11], fun i => by simp [BSt.lgOf, h11],
   fun sid => by simp only [BSt.sinkOf, h12]; exact SinkSame.refl _, LogExt.of_eq h13, h14⟩

/-- a state that differs from `s` only in fields `Frame` does not mention: `.of_misc rfl` is one comparison of the two
    records -/
theorem Frame.of_misc {s s' : BSt}
    (h : s' = { s with now := s'.now, invalidCnt := s'.invalidCnt, hasInvalidLoggers := s'.hasInvalidLoggers,
                       removalFlags := s'.removalFlags, nextFlag := s'.nextFlag, out := s'.out,
                       backendGone := s'.backendGone, siteCnt := s'.siteCnt, flagLog := s'.flagLog,
                       lastFlush := s'.lastFlush, udt := s'.udt, dthrow := s'.dthrow, dcalls := s'.dcalls }) :
    Frame s s' := by
  rw [h]
  exact Frame.of_eq rfl rfl rfl rfl rfl rfl rfl rfl rfl rfl rfl rfl rfl (fun _ h => h)

theorem Frame.emit (s : BSt) (e : Ev) (he : isWriteEv e = false) : Frame s (s.emit e) :=
  ⟨rfl, rfl, rfl, rfl, rfl, rfl, rfl, rfl, rfl, rfl, rfl, fun _ => ⟨rfl, rfl, rfl⟩, fun _ => SinkSame.refl _,
   LogExt.emit s e he, fun _ h => h⟩

theorem Frame.setSink (s : BSt) (sid : Nat) (f : Sink → Sink) (hf : ∀ k, SinkSame k (f k)) :
    Frame s (s.setSink sid f) :=
  ⟨rfl, rfl, rfl, rfl, rfl, rfl, rfl, rfl, rfl, rfl, rfl, fun _ => ⟨rfl, rfl, rfl⟩,
   fun j => by
     rw [sinkOf_setSink s sid j f (fun k hk => (hf k).sid.trans hk)]
     split
     · exact hf _
     · exact SinkSame.refl _,
   ⟨[], rfl, by simp⟩, fun _ h => h⟩

theorem Frame.setLg (s : BSt) (i : Nat) (f : Lg → Lg)
    (hf : ∀ l, (f l).gid = l.gid ∧ (f l).sinks = l.sinks ∧ (f l).bt = l.bt) : Frame s (s.setLg i f) :=
  ⟨rfl, rfl, rfl, rfl, rfl, rfl, rfl, rfl, rfl, rfl, by simp,
   fun j => by
     rw [lgOf_setLg]
     split
     · exact hf _
     · exact ⟨rfl, rfl, rfl⟩,
   fun _ => SinkSame.refl _, ⟨[], rfl, by simp⟩, fun _ h => h⟩

theorem Frame.setSinkCopy (s : BSt) (sid : Nat) (k' : Sink) (hk : SinkSame (s.sinkOf sid) k') :
    Frame s (s.setSink sid (fun _ => k')) := by
  by_cases hex : ∃ x ∈ s.sinks, x.sid = sid
  case neg => rw [setSink_absent s sid _ hex]; exact Frame.refl s
  case pos =>
    have hsid : k'.sid = sid := hk.sid.trans (sinkOf_sid hex)
    refine ⟨rfl, rfl, rfl, rfl, rfl, rfl, rfl, rfl, rfl, rfl, rfl, fun _ => ⟨rfl, rfl, rfl⟩, ?_, ⟨[], rfl, by simp⟩,
      fun _ h => h⟩
    intro j
    rw [sinkOf_setSink s sid j _ (fun _ _ => hsid)]
    split
    · next hc => rw [hc.1]; exact hk
    · exact SinkSame.refl _

theorem flushSinks_frame (s : BSt) : Frame s (flushSinks s) := by
  have h1 : ∀ x sid, Frame x (x.setSink sid (fun _ => { x.sinkOf sid with fcalls := (x.sinkOf sid).fcalls + 1 })) :=
    fun x sid => Frame.setSinkCopy x sid _ ⟨rfl, rfl, rfl, rfl, rfl, rfl⟩
  exact flushSinks_rule (fun _ => Frame s) (fun _ x sid hx => hx.trans ((h1 x sid).trans (Frame.emit _ _ rfl)))
    (fun _ x sid hx => hx.trans (((h1 x sid).trans (Frame.emit _ _ rfl)).trans (Frame.emit _ _ rfl))) s (Frame.refl s)

theorem reapSinks_frame (s : BSt) (sids : List Nat) : Frame s (reapSinks s sids) :=
  reapSinks_pres (Frame s) (fun x sid hx _ _ => hx.trans
    ((Frame.setSink x sid (fun k => { k with alive := false }) (fun _ => ⟨rfl, rfl, rfl, rfl, rfl, rfl⟩)).trans
      (Frame.emit _ _ rfl))) sids s (Frame.refl s)

/-- `_cleanup_invalidated_thread_contexts`: context `i` leaves the registry and the cache -/
def dropCtx (s1 : BSt) (i : Nat) : BSt :=
  ({ s1 with registry := s1.registry.filter (· ≠ i), cache := s1.cache.filter (· ≠ i),
             invalidCnt := counterMod s1.cfg (s1.invalidCnt + 2 ^ s1.cfg.invalidBits - 1) }).setTh i
    (fun t => { t with removed := true })

/-- `_read_and_decode_frontend_queue`, one record: `prepare_read` offered it, it is decoded into the
    transit buffer and `finish_read` is called with its size -/
def readOne (s : BSt) (i : Nat) (st : Stmt) (rest : List Stmt) : BSt :=
  let r := qPrepareRead s.cfg (s.th i).q
  let s1 := s.setTh i (fun t => { t with q := r.1 })
  let s2 := match st.kind with
    | .removal f => { s1 with removalFlags := s1.removalFlags ++ [((s1.lgOf st.lg).gid, f)] }
    | _ => s1
  s2.setTh i (fun t => { t with q := qFinishRead s2.cfg t.q st.size, qStmts := rest, buf := t.buf ++ [st] })

/-- `_process_lowest_timestamp_transit_event` up to and including the pop: process the front event of
    context `i`, report an escaped exception, pop the event -/
def popStep (s : BSt) (i : Nat) (st : Stmt) (rest : List Stmt) : BSt :=
  let r := processEvent s st
  let s2 := match r.2.1 with | some m => r.1.emit (.notify m) | none => r.1
  { s2.setTh i (fun t => { t with buf := rest, popped := t.popped ++ [st] }) with popLog := st :: s2.popLog }

/-- `_check_failure_counter` for one context: get-and-reset, then the report -/
def failReset (s : BSt) (i : Nat) : BSt :=
  { (s.setTh i (fun t => { t with fail := 0 })).emit
      (.notify (if s.cfg.dropping then s!"n:dropped:{(s.th i).fail}:a{(s.th i).actor}"
                else s!"n:blocked:{(s.th i).fail}:a{(s.th i).actor}"))
    with reported := s.reported + (s.th i).fail }

structure ClosedH (P : BSt → Prop) : Prop where
  frame : ∀ s s', P s → Frame s s' → P s'
  refresh : ∀ s, P s → P (refreshCache s)
  ctxEmpty : ∀ s i, P s → P (ctxEmpty s i).1
  dropCtx : ∀ s i, P s → (s.th i).valid = false → (Backend.ctxEmpty s i).2 = true →
    (s.cfg.cleanupKeepsUnreported = true → (s.th i).fail = 0) → P (dropCtx (Backend.ctxEmpty s i).1 i)

/-- closure under the steps of the read pass (`_read_and_decode_frontend_queue`) -/
structure ClosedQ (P : BSt → Prop) : Prop where
  prepRead : ∀ s i, P s → P (s.setTh i (fun t => { t with q := (qPrepareRead s.cfg (s.th i).q).1 }))
  commitRead : ∀ s i, P s → P (s.setTh i (fun t => { t with q := qCommitRead s.cfg t.q }))
  readOne : ∀ s i st rest, P s → (s.th i).qStmts = st :: rest → (qPrepareRead s.cfg (s.th i).q).2 = true →
    P (readOne s i st rest)

structure Closed (P : BSt → Prop) : Prop extends ClosedH P, ClosedQ P where
  pop : ∀ s i st rest, P s → (s.th i).buf = st :: rest → P (popStep s i st rest)
  failReset : ∀ s i, P s → 0 < (s.th i).fail → P (failReset s i)
  front : ∀ s f, P s → P (applyFront s f).1

structure ClosedB (P : BSt → Prop) : Prop extends ClosedH P, ClosedQ P where
  pop : ∀ s i st rest, P s → (s.th i).buf = st :: rest → P (popStep s i st rest)
  failReset : ∀ s i, P s → 0 < (s.th i).fail → P (failReset s i)

theorem Closed.toB {P : BSt → Prop} (hc : Closed P) : ClosedB P :=
  { hc.toClosedH, hc.toClosedQ with pop := hc.pop, failReset := hc.failReset }

variable {P : BSt → Prop}

/-! The walk itself is that of `Pass.lean` (one rule per function of the pass); this bundle's pieces are its pieces
under other names (`readOne = PC.readOneSt`, `popStep = PC.popSt`, `dropCtx = removeSt`, `failReset = PC.reportSt`,
`future = tsStop`, all by `rfl`), and what bundle C lists step by step is here a `Frame`. -/

theorem allEmpty_closed (hc : ClosedH P) (s : BSt) (h : P s) : P (allEmpty s).1 :=
  allEmpty_pres P hc.refresh hc.ctxEmpty s h

theorem cleanupContexts_closed (hc : ClosedH P) (s : BSt) (h : P s) : P (cleanupContexts s) :=
  cleanupContexts_rule P hc.ctxEmpty (fun x i hx _ hv he hz => hc.dropCtx x i hx hv he hz) s h

theorem cleanupLoggers_closed (hc : ClosedH P) (inj : BSt → Nat → BSt) (hinj : ∀ s site, P s → P (inj s site))
    (s : BSt) (h : P s) : P (cleanupLoggers inj s) :=
  cleanupLoggers_pres P inj (hinj · 9) (fun x _ hx => hc.frame x _ hx (Frame.of_misc rfl)) (allEmpty_closed hc)
    (fun x i hx _ _ => hc.frame _ _ (allEmpty_closed hc x hx)
      (Frame.setLg _ i (fun l => { l with erased := true }) (fun _ => ⟨rfl, rfl, rfl⟩)))
    (fun x sid hx _ _ => hc.frame _ _ hx
      ((Frame.setSink x sid (fun k => { k with alive := false }) (fun _ => ⟨rfl, rfl, rfl, rfl, rfl, rfl⟩)).trans
        (Frame.emit _ _ rfl)))
    (fun x _ _ hx _ => hc.frame x _ hx (Frame.of_eq rfl rfl rfl rfl rfl rfl rfl rfl rfl rfl rfl rfl rfl
      (fun _ hf => List.mem_cons_of_mem _ hf))) s h

/-- the record at the front of the queue is newer than the sampled `ts_now` -/
def future (tsNow : Option Nat) (st : Stmt) : Bool :=
  match tsNow with | some t => decide (t < st.ts) | none => false

def readOneF (s : BSt) (i : Nat) (st : Stmt) (rest : List Stmt) : BSt := fmtNote (readOne s i st rest) st

theorem fmtNote_frame (s : BSt) (st : Stmt) : Frame s (fmtNote s st) := by
  unfold fmtNote
  split
  · exact Frame.emit _ _ rfl
  · exact Frame.refl s

theorem ClosedH.fmtNote (hc : ClosedH P) (s : BSt) (st : Stmt) (h : P s) : P (fmtNote s st) :=
  hc.frame _ _ h (fmtNote_frame s st)

theorem readQueue_succ (inj : BSt → Nat → BSt) (tsNow : Option Nat) (i fuel total : Nat) (s : BSt) :
    readQueue inj tsNow i (fuel + 1) total s =
      (let s1 := s.setTh i (fun t => { t with q := (qPrepareRead s.cfg (s.th i).q).1 })
       let fin := fun (s : BSt) => if total ≠ 0 then s.setTh i (fun t => { t with q := qCommitRead s.cfg t.q }) else s
       if !(qPrepareRead s.cfg (s.th i).q).2 then fin s1 else
       match (s.th i).qStmts with
       | [] => fin s1
       | st :: rest =>
         if future tsNow st then fin s1 else
         let s4 := inj (readOneF s i st rest) 3
         if total + st.size < s4.cfg.qcap ∧ (s4.th i).buf.length < s4.cfg.hard then
           readQueue inj tsNow i fuel (total + st.size) s4
         else s4.setTh i (fun t => { t with q := qCommitRead s4.cfg t.q })) :=
  Backend.readQueue_succ inj tsNow i fuel total s

theorem readQueue_closed (hf : ∀ s s', P s → Frame s s' → P s') (hc : ClosedQ P) (inj : BSt → Nat → BSt)
    (hinj : ∀ s site, P s → P (inj s site)) (tsNow : Option Nat) (i : Nat) :
    ∀ (fuel total : Nat) (s : BSt), P s → P (readQueue inj tsNow i fuel total s) :=
  readQueue_pres P inj tsNow i (hc.prepRead · i) (hc.commitRead · i)
    (fun x st rest hx hr hq => hinj _ 3 (hf _ _ (hc.readOne x i st rest hx hq hr) (fmtNote_frame _ st)))

theorem populate_closed (hf : ∀ s s', P s → Frame s s' → P s') (hr : ∀ s, P s → P (refreshCache s)) (hc : ClosedQ P)
    (inj : BSt → Nat → BSt) (hinj : ∀ s site, P s → P (inj s site)) (s : BSt) (h : P s) : P (populate inj s).1 :=
  populate_pres P inj hr hinj (fun tsNow i fuel x => readQueue_closed hf hc inj hinj tsNow i fuel 0 x) s h

theorem preEraseFlush_closed (hc : ClosedH P) (s : BSt) (h : P s) : P (preEraseFlush s) :=
  preEraseFlush_pres P (fun x hx => hc.frame x _ hx (flushSinks_frame x)) s h

theorem ClosedB.toW (hc : ClosedB P) : ClosedW P where
  note := fun s h => hc.frame s _ h (Frame.emit _ _ rfl)
  clock := fun s _ h => hc.frame s _ h (Frame.of_misc rfl)
  lastFlush := fun s h => hc.frame s _ h (Frame.of_misc rfl)
  refresh := hc.refresh
  allEmpty := allEmpty_closed hc.toClosedH
  hasPending := hasPending_pres P hc.refresh hc.ctxEmpty
  cleanupContexts := cleanupContexts_closed hc.toClosedH
  flushSinks := fun s h => hc.frame s _ h (flushSinks_frame s)
  readPrep := hc.prepRead
  commit := hc.commitRead
  readOne := fun s i st rest h hr hq => hc.readOne s i st rest h hq hr
  report := fun s i h hf => hc.failReset s i h hf

section
variable (hc : ClosedB P) (inj : BSt → Nat → BSt) (hinj : ∀ s site, P s → P (inj s site))
include hc hinj

theorem processLowest_tail_closedB (s : BSt) (i : Nat) (st : Stmt) (rest : List Stmt) (hl : lowest s = some i)
    (hb : (s.th i).buf = st :: rest) (h3 : P (popStep s i st rest)) : P (processLowest inj s).1 :=
  processLowest_tail P (fun _ => P) s i st rest (fun _ x j hx hf => hinj _ 8 (hc.failReset x j hx hf))
    (fun _ => cleanupContexts_closed hc.toClosedH)
    (fun _ x hx => hc.frame x _ hx
      (Frame.of_eq rfl rfl rfl rfl rfl rfl rfl rfl rfl rfl rfl rfl rfl (fun _ hf => List.mem_cons_of_mem _ hf)))
    hl hb (fun _ => h3) (fun _ _ => h3)

theorem processLowest_closedB (s : BSt) (h : P s) : P (processLowest inj s).1 := by
  cases hl : lowest s with
  | none => rw [processLowest_eq, hl]; exact h
  | some i =>
    cases hb : (s.th i).buf with
    | nil => rw [processLowest_eq, hl]; dsimp only; rw [hb]; exact h
    | cons st rest => exact processLowest_tail_closedB hc inj hinj s i st rest hl hb (hc.pop s i st rest h hb)

theorem ClosedB.passRules : PassRules inj P P P :=
  hc.toW.passRules hinj (processLowest_closedB hc inj hinj) (cleanupLoggers_closed hc.toClosedH inj hinj)

end

/-!
The frontend's part of the walk is made for schedules whose frontend operations all satisfy a decidable condition `al`
(`ClosedOn al P`: like `Closed P`, but `front` only for the operations with `al f = true`; `opsAllowed al ops`: every
top-level frontend operation and every operation of every poll's injection table satisfies `al`). `Closed P` is
`ClosedOn (fun _ => true) P`, and every schedule is allowed by `fun _ => true`.
-/

structure ClosedOn (al : FOp → Bool) (P : BSt → Prop) : Prop extends ClosedH P, ClosedQ P where
  pop : ∀ s i st rest, P s → (s.th i).buf = st :: rest → P (popStep s i st rest)
  failReset : ∀ s i, P s → 0 < (s.th i).fail → P (failReset s i)
  front : ∀ s f, al f = true → P s → P (applyFront s f).1

theorem Closed.on {P : BSt → Prop} (hc : Closed P) (al : FOp → Bool) : ClosedOn al P where
  toClosedH := hc.toClosedH
  toClosedQ := hc.toClosedQ
  pop := hc.pop
  failReset := hc.failReset
  front := fun s f _ h => hc.front s f h

/-- one primitive step of the machine: the state changes `ClosedOn al` speaks of, as a relation. A predicate is closed
    exactly when every such step keeps it (`closedOn_iff`), so a fact about all steps is proved by one case analysis. -/
inductive Prim (al : FOp → Bool) : BSt → BSt → Prop
  | frame {s s'} : Frame s s' → Prim al s s'
  | refresh (s) : Prim al s (refreshCache s)
  | ctxEmpty (s i) : Prim al s (Backend.ctxEmpty s i).1
  | dropCtx (s i) : (s.th i).valid = false → (Backend.ctxEmpty s i).2 = true →
      (s.cfg.cleanupKeepsUnreported = true → (s.th i).fail = 0) → Prim al s (PA.dropCtx (Backend.ctxEmpty s i).1 i)
  | prepRead (s i) : Prim al s (s.setTh i (fun t => { t with q := (qPrepareRead s.cfg (s.th i).q).1 }))
  | commitRead (s i) : Prim al s (s.setTh i (fun t => { t with q := qCommitRead s.cfg t.q }))
  | readOne (s i st rest) : (s.th i).qStmts = st :: rest → (qPrepareRead s.cfg (s.th i).q).2 = true →
      Prim al s (PA.readOne s i st rest)
  | pop (s i st rest) : (s.th i).buf = st :: rest → Prim al s (popStep s i st rest)
  | failReset (s i) : 0 < (s.th i).fail → Prim al s (PA.failReset s i)
  | front (s f) : al f = true → Prim al s (applyFront s f).1

theorem closedOn_iff {al : FOp → Bool} : ClosedOn al P ↔ ∀ s s', Prim al s s' → P s → P s' := by
  constructor
  · intro hc s s' hp h
    cases hp with
    | frame f => exact hc.frame _ _ h f
    | refresh => exact hc.refresh _ h
    | ctxEmpty => exact hc.ctxEmpty _ _ h
    | dropCtx _ hv he hz => exact hc.dropCtx _ _ h hv he hz
    | prepRead => exact hc.prepRead _ _ h
    | commitRead => exact hc.commitRead _ _ h
    | readOne _ _ _ hq hr => exact hc.readOne _ _ _ _ h hq hr
    | pop _ _ _ hb => exact hc.pop _ _ _ _ h hb
    | failReset _ hf => exact hc.failReset _ _ h hf
    | front _ ha => exact hc.front _ _ ha h
  · intro H
    exact
      { frame := fun _ _ h f => H _ _ (.frame f) h
        refresh := fun s h => H _ _ (.refresh s) h
        ctxEmpty := fun s i h => H _ _ (.ctxEmpty s i) h
        dropCtx := fun s i h hv he hz => H _ _ (.dropCtx s i hv he hz) h
        prepRead := fun s i h => H _ _ (.prepRead s i) h
        commitRead := fun s i h => H _ _ (.commitRead s i) h
        readOne := fun s i st rest h hq hr => H _ _ (.readOne s i st rest hq hr) h
        pop := fun s i st rest h hb => H _ _ (.pop s i st rest hb) h
        failReset := fun s i h hf => H _ _ (.failReset s i hf) h
        front := fun s f ha h => H _ _ (.front s f ha) h }

theorem ClosedOn.toClosed (hc : ClosedOn (fun _ => true) P) : Closed P :=
  { toClosedH := hc.toClosedH, toClosedQ := hc.toClosedQ, pop := hc.pop, failReset := hc.failReset,
    front := fun s f h => hc.front s f rfl h }

theorem closed_iff : Closed P ↔ ∀ s s', Prim (fun _ => true) s s' → P s → P s' :=
  ⟨fun hc => closedOn_iff.mp (hc.on _), fun H => (closedOn_iff.mpr H).toClosed⟩

theorem ClosedOn.and {al : FOp → Bool} {P Q : BSt → Prop} (hp : ClosedOn al P) (hq : ClosedOn al Q) :
    ClosedOn al (fun s => P s ∧ Q s) :=
  closedOn_iff.mpr fun s s' st h => ⟨closedOn_iff.mp hp s s' st h.1, closedOn_iff.mp hq s s' st h.2⟩

theorem Closed.and {P Q : BSt → Prop} (hp : Closed P) (hq : Closed Q) : Closed (fun s => P s ∧ Q s) :=
  closed_iff.mpr fun s s' st h => ⟨closed_iff.mp hp s s' st h.1, closed_iff.mp hq s s' st h.2⟩

theorem Closed.congr {Q : BSt → Prop} (hc : Closed P) (e : ∀ s, P s ↔ Q s) : Closed Q :=
  closed_iff.mpr fun s s' st h => (e _).mp (closed_iff.mp hc s s' st ((e _).mpr h))

/-- a transitive relation that contains every step is, from any start, a closed predicate of the later state: this is
    how a two-state fact is carried along a schedule -/
theorem closedOn_of_rel {al : FOp → Bool} {R : BSt → BSt → Prop} (trans : ∀ {a b c}, R a b → R b c → R a c)
    (step : ∀ s s', Prim al s s' → R s s') (s0 : BSt) : ClosedOn al (R s0) :=
  closedOn_iff.mpr fun a b hp h => trans h (step a b hp)

/-- what `refreshCache`, `ctxEmpty`, `dropCtx`, `prepare_read`, `commit_read` and `readOne` do: nothing outside
    registry / cache / newFlag / invalidCnt / removalFlags and, per context, the queue, the pending records, the transit
    buffer and the `removed` mark -/
structure Hk (s s' : BSt) : Prop where
  misc : s' = { s with ths := s'.ths, registry := s'.registry, cache := s'.cache, newFlag := s'.newFlag,
                       invalidCnt := s'.invalidCnt, removalFlags := s'.removalFlags }
  len : s'.ths.length = s.ths.length
  th : ∀ j, s'.th j = { s.th j with q := (s'.th j).q, qStmts := (s'.th j).qStmts, buf := (s'.th j).buf,
                                    removed := (s'.th j).removed }

theorem Hk.of_misc {s s' : BSt}
    (h : s' = { s with registry := s'.registry, cache := s'.cache, newFlag := s'.newFlag,
                       invalidCnt := s'.invalidCnt, removalFlags := s'.removalFlags }) : Hk s s' := by
  rw [h]
  exact ⟨rfl, rfl, fun _ => rfl⟩

theorem Hk.refl (s : BSt) : Hk s s := .of_misc rfl

theorem Hk.trans {a b c : BSt} (h1 : Hk a b) (h2 : Hk b c) : Hk a c :=
  ⟨h2.misc.trans (by rw [h1.misc]), h2.len.trans h1.len, fun j => (h2.th j).trans (by rw [h1.th j])⟩

theorem Hk.setTh (s : BSt) (i : Nat) (f : Th → Th)
    (hf : ∀ t, f t = { t with q := (f t).q, qStmts := (f t).qStmts, buf := (f t).buf, removed := (f t).removed }) :
    Hk s (s.setTh i f) := by
  refine ⟨rfl, ths_length_setTh s i f, fun j => ?_⟩
  rw [th_setTh]
  split
  · exact hf _
  · rfl

theorem Hk.cfg {s s' : BSt} (h : Hk s s') : s'.cfg = s.cfg := by rw [h.misc]
theorem Hk.log {s s' : BSt} (h : Hk s s') : s'.log = s.log := by rw [h.misc]
theorem Hk.popLog {s s' : BSt} (h : Hk s s') : s'.popLog = s.popLog := by rw [h.misc]
theorem Hk.lgs {s s' : BSt} (h : Hk s s') : s'.lgs = s.lgs := by rw [h.misc]
theorem Hk.sinks {s s' : BSt} (h : Hk s s') : s'.sinks = s.sinks := by rw [h.misc]
theorem Hk.reported {s s' : BSt} (h : Hk s s') : s'.reported = s.reported := by rw [h.misc]
theorem Hk.actors {s s' : BSt} (h : Hk s s') : s'.actors = s.actors := by rw [h.misc]
theorem Hk.nextId {s s' : BSt} (h : Hk s s') : s'.nextId = s.nextId := by rw [h.misc]

theorem Hk.map_ths {β} {s s' : BSt} (h : Hk s s') (g : Th → β)
    (hg : ∀ t q qs b r, g { t with q := q, qStmts := qs, buf := b, removed := r } = g t) :
    s'.ths.map g = s.ths.map g := by
  apply List.ext_getElem
  · simp only [List.length_map, h.len]
  · intro j h1 h2
    simp only [List.length_map] at h1 h2
    rw [List.getElem_map, List.getElem_map, ← th_eq_getElem s' j h1, ← th_eq_getElem s j h2, h.th j, hg]

theorem refreshCache_hk (s : BSt) : Hk s (refreshCache s) := by
  unfold refreshCache
  split
  · exact .of_misc rfl
  · exact .refl s

theorem ctxEmpty_hk (s : BSt) (i : Nat) : Hk s (Backend.ctxEmpty s i).1 :=
  Hk.setTh s i (fun t => { t with q := (qEmpty s.cfg (s.th i).q).1 }) (fun _ => rfl)

theorem dropCtx_hk (s : BSt) (i : Nat) : Hk s (PA.dropCtx (Backend.ctxEmpty s i).1 i) :=
  (ctxEmpty_hk s i).trans ((Hk.of_misc rfl).trans (Hk.setTh _ i _ (fun _ => rfl)))

theorem readOne_hk (s : BSt) (i : Nat) (st : Stmt) (rest : List Stmt) : Hk s (PA.readOne s i st rest) := by
  have key : ∀ fl, Hk s (({ s.setTh i (fun t => { t with q := (qPrepareRead s.cfg (s.th i).q).1 }) with
        removalFlags := fl } : BSt).setTh i
      (fun t => { t with q := qFinishRead s.cfg t.q st.size, qStmts := rest, buf := t.buf ++ [st] })) :=
    fun fl => ((Hk.setTh s i _ (fun _ => rfl)).trans (.of_misc rfl)).trans (Hk.setTh _ i _ (fun _ => rfl))
  unfold PA.readOne
  dsimp only
  split
  · exact key _
  · exact key s.removalFlags

theorem ClosedOn.of_hk {al : FOp → Bool} (hk : ∀ {s s'}, P s → Hk s s' → P s')
    (frame : ∀ s s', P s → Frame s s' → P s')
    (pop : ∀ s i st rest, P s → (s.th i).buf = st :: rest → P (popStep s i st rest))
    (failReset : ∀ s i, P s → 0 < (s.th i).fail → P (PA.failReset s i))
    (front : ∀ s f, al f = true → P s → P (applyFront s f).1) : ClosedOn al P where
  frame := frame
  refresh := fun s h => hk h (refreshCache_hk s)
  ctxEmpty := fun s i h => hk h (ctxEmpty_hk s i)
  dropCtx := fun s i h _ _ _ => hk h (dropCtx_hk s i)
  prepRead := fun s i h => hk h (Hk.setTh s i _ (fun _ => rfl))
  commitRead := fun s i h => hk h (Hk.setTh s i _ (fun _ => rfl))
  readOne := fun s i st rest h _ _ => hk h (readOne_hk s i st rest)
  pop := pop
  failReset := failReset
  front := front

theorem Closed.of_hk (hk : ∀ {s s'}, P s → Hk s s' → P s')
    (frame : ∀ s s', P s → Frame s s' → P s')
    (pop : ∀ s i st rest, P s → (s.th i).buf = st :: rest → P (popStep s i st rest))
    (failReset : ∀ s i, P s → 0 < (s.th i).fail → P (PA.failReset s i))
    (front : ∀ s f, P s → P (applyFront s f).1) : Closed P :=
  (ClosedOn.of_hk hk frame pop failReset (fun s f _ => front s f)).toClosed

def tableAllowed (al : FOp → Bool) (table : List (Nat × Nat × List FOp)) : Bool := table.all (fun e => e.2.2.all al)

def opAllowed (al : FOp → Bool) : Op → Bool
  | .front f => al f
  | .poll table => tableAllowed al table
  | .exit => true

def opsAllowed (al : FOp → Bool) (ops : List Op) : Bool := ops.all (opAllowed al)

theorem opsAllowed_append (al : FOp → Bool) (a b : List Op) :
    opsAllowed al (a ++ b) = (opsAllowed al a && opsAllowed al b) := by
  simp [opsAllowed]

variable {al : FOp → Bool}

theorem tableAllowed_of_all (h : ∀ f, al f = true) (table : List (Nat × Nat × List FOp)) : tableAllowed al table = true :=
  List.all_eq_true.mpr fun _ _ => List.all_eq_true.mpr fun f _ => h f

theorem opAllowed_of_all (h : ∀ f, al f = true) : ∀ op : Op, opAllowed al op = true
  | .front f => h f
  | .poll table => tableAllowed_of_all h table
  | .exit => rfl

theorem opsAllowed_of_all (h : ∀ f, al f = true) (ops : List Op) : opsAllowed al ops = true :=
  List.all_eq_true.mpr fun op _ => opAllowed_of_all h op

theorem runInj_presOn (hf : ∀ s s', P s → Frame s s' → P s') (hfront : ∀ s f, al f = true → P s → P (applyFront s f).1)
    (table : List (Nat × Nat × List FOp)) (ht : tableAllowed al table = true) (s : BSt) (site : Nat) (h : P s) :
    P (runInj table s site) :=
  runInj_rule P table s site (hf s _ h (Frame.of_misc rfl)) (fun e he _ f hfe x hx =>
    injStep_pres P hx (fun _ => hfront x f (List.all_eq_true.mp (List.all_eq_true.mp ht e he) f hfe) hx)
      (fun y _ hy => hf y _ hy (Frame.emit _ _ rfl)))

theorem runInj_pres (hf : ∀ s s', P s → Frame s s' → P s') (hfront : ∀ s f, P s → P (applyFront s f).1)
    (table : List (Nat × Nat × List FOp)) (s : BSt) (site : Nat) (h : P s) : P (runInj table s site) :=
  runInj_presOn (al := fun _ => true) hf (fun s f _ => hfront s f) table (tableAllowed_of_all (fun _ => rfl) table) s site h

theorem runInj_closed (hc : Closed P) (table : List (Nat × Nat × List FOp)) (s : BSt) (site : Nat) (h : P s) :
    P (runInj table s site) := runInj_pres hc.frame hc.front table s site h

theorem ClosedOn.toB (hc : ClosedOn al P) : ClosedB P :=
  { toClosedH := hc.toClosedH, toClosedQ := hc.toClosedQ, pop := hc.pop, failReset := hc.failReset }

theorem ClosedOn.siteCnt (hc : ClosedOn al P) (s : BSt) (sc : List (Nat × Nat)) (h : P s) : P { s with siteCnt := sc } :=
  hc.frame s _ h (Frame.of_misc rfl)

theorem applyOp_closedOn (hc : ClosedOn al P) (s : BSt) (op : Op) (ha : opAllowed al op = true) (h : P s) :
    P (applyOp s op).1 :=
  applyOp_rule (fun x _ => P x) s op (fun f e => hc.front s f (by subst e; exact ha) h) (fun _ => h)
    (fun table e _ => (hc.toB.passRules _ (runInj_presOn hc.frame hc.front table (by subst e; exact ha))).poll _ (hc.siteCnt s [] h))
    (fun _ _ => hc.frame _ _ ((hc.toB.passRules _ (runInj_presOn hc.frame hc.front [] rfl)).exitLoop 1000 _ _
      (hc.siteCnt s [] h)) (Frame.of_misc rfl))

theorem runOps_closedOn (hc : ClosedOn al P) : ∀ (ops : List Op), opsAllowed al ops = true → ∀ (s : BSt), P s →
    P (runOps s ops) :=
  fun ops ho s => List.foldl_inv_mem P _ ops s (fun a o hm ha => applyOp_closedOn hc a o (List.all_eq_true.mp ho o hm) ha)

theorem runOps_closed (hc : Closed P) : ∀ (ops : List Op) (s : BSt), P s → P (runOps s ops) :=
  fun ops => runOps_closedOn (hc.on fun _ => true) ops (opsAllowed_of_all (fun _ => rfl) ops)

theorem Prim.run {R : BSt → BSt → Prop} (refl : ∀ s, R s s) (trans : ∀ {a b c}, R a b → R b c → R a c)
    (step : ∀ s s', Prim al s s' → R s s') (ops : List Op) (ho : opsAllowed al ops = true) (s : BSt) :
    R s (runOps s ops) :=
  runOps_closedOn (closedOn_of_rel (R := R) trans step s) ops ho s (refl s)

end Backend.PA
