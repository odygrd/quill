import QuillModel.Backend.ConsProofsDrop
/-!
C08 at the level of one call: what an enqueue attempt on a dropping queue does to the accepted histories, the
counters and the caller, for an ordinary log call (returns `false` ⇔ discarded) and for a control request
(never counted, retried); and what `_check_failure_counter` leaves behind.
-/
namespace Backend.PA

theorem accs_of_ths {s s' : BSt} (h : s'.ths = s.ths) : accs s' = accs s := by simp only [accs, h]

theorem tryEnq_accs (s : BSt) (ci : Nat) (st : Stmt) :
    accs (tryEnq s ci st).1 =
      (if (tryEnq s ci st).2 = true then updAt (accs s) ci (· ++ [{ st with enqAt := s.now }]) else accs s) := by
  unfold Backend.tryEnq
  dsimp only
  split
  · simp only [if_true, accs, BSt.setTh]
    exact map_updAt_comm s.ths ci _ _ _ (fun _ => rfl)
  · simp only [Bool.false_eq_true, if_false]
    exact accs_setTh s ci _ (fun _ => rfl)

theorem bumpFail_accs (d : Bool) (s : BSt) (ci : Nat) (st : Stmt) : accs (bumpFail d s ci st) = accs s := by
  unfold bumpFail
  split
  · exact accs_setTh s ci _ (fun _ => rfl)
  · rfl

theorem tryEnq_outcome {s1 s2 : BSt} {ci : Nat} {st : Stmt} {ok : Bool} (he : tryEnq s1 ci st = (s2, ok)) :
    accs s2 = (if ok = true then updAt (accs s1) ci (· ++ [{ st with enqAt := s1.now }]) else accs s1) ∧
    ctrs s2 = ctrs s1 := by
  have hacc := tryEnq_accs s1 ci st
  have hctr := (tryEnq_ctrs s1 ci st).1
  rw [he] at hacc hctr
  exact ⟨hacc, hctr⟩

/-- one step of `_check_failure_counter` under a runner -/
def cfStepQ (inj : BSt → Nat → BSt) (s : BSt) (i : Nat) : BSt := if (s.th i).fail > 0 then inj (failReset s i) 8 else s

theorem cfStepQ_facts {inj : BSt → Nat → BSt} (hq : ∀ s site, Frame s (inj s site)) (s : BSt) (x : Nat) :
    (∀ j, ((cfStepQ inj s x).th j).fail ≤ (s.th j).fail ∧ ((cfStepQ inj s x).th j).removed = (s.th j).removed) ∧
    ((cfStepQ inj s x).th x).fail = 0 ∧ (cfStepQ inj s x).cache = s.cache ∧ (cfStepQ inj s x).registry = s.registry := by
  unfold cfStepQ
  split
  · next hf =>
    have hi : x < s.ths.length := lt_length_of_th (P := fun t => 0 < t.fail) hf (Nat.lt_irrefl 0)
    have e : ∀ j, (inj (failReset s x) 8).th j = (s.setTh x (fun t => { t with fail := 0 })).th j :=
      fun j => th_of_ths_eq (hq _ 8).ths j
    refine ⟨fun j => ?_, ?_, (hq _ 8).cache, (hq _ 8).registry⟩
    · rw [e, th_setTh]
      split
      · exact ⟨Nat.zero_le _, rfl⟩
      · exact ⟨Nat.le_refl _, rfl⟩
    · rw [e, th_setTh_same _ _ hi]
  · next hf => exact ⟨fun j => ⟨Nat.le_refl _, rfl⟩, Nat.eq_zero_of_not_pos hf, rfl, rfl⟩

/-- `_check_failure_counter` run with a runner that takes no frontend step (`hq`) -/
theorem cfFoldQ_clears {inj : BSt → Nat → BSt} (hq : ∀ s site, Frame s (inj s site)) : ∀ (l : List Nat) (s : BSt),
    (∀ j, ((l.foldl (cfStepQ inj) s).th j).fail ≤ (s.th j).fail) ∧
    (∀ i ∈ l, ((l.foldl (cfStepQ inj) s).th i).fail = 0) ∧
    (l.foldl (cfStepQ inj) s).cache = s.cache ∧ (l.foldl (cfStepQ inj) s).registry = s.registry ∧
    (∀ j, ((l.foldl (cfStepQ inj) s).th j).removed = (s.th j).removed)
  | [], s => by
    refine ⟨fun _ => Nat.le_refl _, ?_, rfl, rfl, fun _ => rfl⟩
    intro i hi
    cases hi
  | x :: xs, s => by
    rw [List.foldl_cons]
    obtain ⟨hstep, hx0, hcache, hreg⟩ := cfStepQ_facts hq s x
    obtain ⟨i1, i2, i3, i4, i5⟩ := cfFoldQ_clears hq xs (cfStepQ inj s x)
    refine ⟨fun j => Nat.le_trans (i1 j) (hstep j).1, ?_, i3.trans hcache, i4.trans hreg,
      fun j => (i5 j).trans (hstep j).2⟩
    intro i hi
    rcases List.mem_cons.mp hi with rfl | hm
    · exact Nat.eq_zero_of_le_zero (hx0 ▸ i1 i)
    · exact i2 i hm

theorem checkFailures_clears {inj : BSt → Nat → BSt} (hq : ∀ s site, Frame s (inj s site)) (s : BSt) :
    (∀ j, ((checkFailures inj s).th j).fail ≤ (s.th j).fail) ∧ (∀ i ∈ s.cache, ((checkFailures inj s).th i).fail = 0) ∧
    (checkFailures inj s).cache = s.cache ∧ (checkFailures inj s).registry = s.registry ∧
    (∀ j, ((checkFailures inj s).th j).removed = (s.th j).removed) :=
  cfFoldQ_clears hq s.cache s

/-- `s0`: the state the clean-up started in -/
structure CleanRel (s0 s : BSt) : Prop where
  fail : ∀ j, (s.th j).fail = (s0.th j).fail
  rem : ∀ j, (s.th j).removed = true → (s0.th j).removed = true ∨ j ∈ s0.cache
  cache : ∀ j ∈ s.cache, j ∈ s0.cache

theorem CleanRel.ctxEmpty {s0 s : BSt} (h : CleanRel s0 s) (i : Nat) : CleanRel s0 (ctxEmpty s i).1 := by
  rw [ctxEmpty_fst]
  refine ⟨fun j => ?_, fun j hj => ?_, h.cache⟩
  · rw [th_setTh]
    split <;> exact h.fail j
  · rw [th_setTh] at hj
    split at hj <;> exact h.rem j hj

theorem cleanupContexts_rel (s : BSt) : CleanRel s (cleanupContexts s) := by
  refine cleanupContexts_rule (CleanRel s) (fun x i hx => hx.ctxEmpty i) (fun x i hx hic _ _ _ => ?_) s
    ⟨fun _ => rfl, fun _ h => Or.inl h, fun _ h => h⟩
  have hf := hx.ctxEmpty i
  refine ⟨fun j => ?_, fun j hj => ?_, fun j hj => hf.cache j (List.mem_filter.mp hj).1⟩
  · unfold removeSt
    rw [th_setTh]
    split <;> exact hf.fail j
  · unfold removeSt at hj
    rw [th_setTh] at hj
    split at hj
    · next hc => rw [hc.1]; exact Or.inr (hx.cache i hic)
    · exact hf.rem j hj

end Backend.PA
