import QuillModel.Backend.CtxDrain
import QuillModel.Backend.LevelProofs
/-!
Per-thread bookkeeping invariant `TInv` (queue positions tied to the ghost statement lists, conservation
`accepted = popped ++ buf ++ qStmts`, unregistered contexts are empty, parked records have a positive size) and
its preservation along every schedule together with `CInv` (`TCInv_runOps`). For C07, C17 and C20.
-/
namespace Backend.PC
open Spsc

/-- the three positions the ghost statement list is tied to -/
structure QPos where
  rpos : Nat
  wpos : Nat
  whead : Nat
  deriving DecidableEq

def qpos (q : St) : QPos := ⟨q.rpos, q.wpos, q.wHist.headD 0⟩

theorem qpos_prepareWrite (c : Cfg) (q : St) (n : Nat) : qpos (qPrepareWrite c q n).1 = qpos q := by
  obtain ⟨_, _, e⟩ := qPrepareWrite_upd c q n
  rw [e]; rfl

theorem qpos_empty (c : Cfg) (q : St) : qpos (qEmpty c q).1 = qpos q := by
  obtain ⟨_, _, e, _⟩ := qEmpty_upd c q
  rw [e]; rfl

theorem qpos_prepareRead (c : Cfg) (q : St) : qpos (qPrepareRead c q).1 = qpos q :=
  qPrepareRead_fst c q ▸ qpos_empty c q

theorem qpos_commitRead (c : Cfg) (q : St) : qpos (qCommitRead c q) = qpos q := by
  obtain ⟨_, e⟩ := qCommitRead_upd c q
  rw [e]; rfl

theorem qpos_init (cap batch : Nat) : qpos (init cap batch) = ⟨0, 0, 0⟩ := rfl

def stmtsSize (l : List Stmt) : Nat := (l.map (·.size)).sum

/-- one context: the reader's position plus the sizes of the queued records is the newest published writer position,
    which is the writer's own; queued records have a positive size; conservation -/
structure ThOK (t : Th) : Prop where
  link : t.q.rpos + stmtsSize t.qStmts = t.q.wHist.headD 0
  wcom : t.q.wpos = t.q.wHist.headD 0
  pos : ∀ st ∈ t.qStmts, 0 < st.size
  cons : t.accepted = t.popped ++ t.buf ++ t.qStmts

def pendStmt : Pend → Option Stmt
  | .stall s _ => some s
  | .retry s _ => some s
  | _ => none

structure TInv (s : BSt) : Prop where
  hdr : 0 < s.cfg.hdr
  ths : ∀ i, i < s.ths.length → ThOK (s.th i)
  unreg : ∀ i, i < s.ths.length → i ∉ s.registry → (s.th i).buf = [] ∧ (s.th i).qStmts = []
  pend : ∀ x ∈ s.actors, ∀ st, pendStmt x.pend = some st → 0 < st.size

/-- what `TInv` reads -/
def tview (s : BSt) : Cfg × List Th × List Nat × List Actor := (s.cfg, s.ths, s.registry, s.actors)

theorem TInv_of_tview {s s' : BSt} (hs : TInv s) (h : tview s' = tview s) : TInv s' := by
  simp only [tview, Prod.mk.injEq] at h
  obtain ⟨h1, h2, h3, h4⟩ := h
  have hth : ∀ i, s'.th i = s.th i := fun i => by simp only [BSt.th, h2]
  exact ⟨by rw [h1]; exact hs.hdr, fun i hi => by rw [hth]; exact hs.ths i (by rw [← h2]; exact hi),
    fun i hi hr => by rw [hth]; exact hs.unreg i (by rw [← h2]; exact hi) (by rw [← h3]; exact hr),
    fun x hx => hs.pend x (by rw [← h4]; exact hx)⟩

theorem ThOK.qlink {t : Th} (h : ThOK t) : QLink t.q t.qStmts := ⟨h.wcom.symm, h.wcom.trans h.link.symm, h.pos⟩

theorem ThOK.of_qlink {t : Th} (h : QLink t.q t.qStmts) (hc : t.accepted = t.popped ++ t.buf ++ t.qStmts) : ThOK t :=
  ⟨(h.pub.trans h.dist).symm, h.pub.symm, h.pos, hc⟩

theorem ThOK.of_qpos {t : Th} (h : ThOK t) (q' : St) (hq : qpos q' = qpos t.q) : ThOK { t with q := q' } := by
  simp only [qpos, QPos.mk.injEq] at hq
  exact .of_qlink (h.qlink.congr hq.2.1 hq.1 hq.2.2) h.cons

theorem ThOK.qStmts_nil {t : Th} (h : ThOK t) (c : Cfg) (he : (qEmpty c t.q).2 = true) : t.qStmts = [] :=
  h.qlink.nil_of_empty he

theorem TInv.setTh {s : BSt} (hs : TInv s) (i : Nat) (f : Th → Th)
    (h1 : i < s.ths.length → ThOK (f (s.th i)))
    (h2 : i < s.ths.length → i ∉ s.registry → (f (s.th i)).buf = [] ∧ (f (s.th i)).qStmts = []) :
    TInv (s.setTh i f) := by
  refine ⟨hs.hdr, ?_, ?_, hs.pend⟩
  · intro j hj
    rw [ths_length_setTh] at hj
    rw [th_setTh]
    split
    · rename_i hji; obtain ⟨rfl, _⟩ := hji; exact h1 hj
    · exact hs.ths j hj
  · intro j hj hr
    rw [ths_length_setTh] at hj
    rw [th_setTh]
    split
    · rename_i hji; obtain ⟨rfl, _⟩ := hji; exact h2 hj hr
    · exact hs.unreg j hj hr

theorem TInv.setTh_q {s : BSt} (hs : TInv s) (i : Nat) (f : Th → Th)
    (hq : qpos (f (s.th i)).q = qpos (s.th i).q) (h2 : ∀ t, (f t).qStmts = t.qStmts) (h3 : ∀ t, (f t).buf = t.buf)
    (h4 : ∀ t, (f t).accepted = t.accepted) (h5 : ∀ t, (f t).popped = t.popped) : TInv (s.setTh i f) := by
  apply hs.setTh
  · intro hi
    have h := hs.ths i hi
    have hq' := hq
    simp only [qpos, QPos.mk.injEq] at hq'
    obtain ⟨q1, q2, q3⟩ := hq'
    exact ⟨by rw [q1, q3, h2]; exact h.link, by rw [q2, q3]; exact h.wcom, by rw [h2]; exact h.pos,
      by rw [h2, h3, h4, h5]; exact h.cons⟩
  · intro hi hr
    rw [h2, h3]; exact hs.unreg i hi hr

theorem TInv.setActor {s : BSt} (hs : TInv s) (a : Nat) (f : Actor → Actor)
    (hf : ∀ x st, pendStmt (f x).pend = some st → pendStmt x.pend = some st ∨ 0 < st.size) :
    TInv (s.setActor a f) := by
  refine ⟨hs.hdr, hs.ths, hs.unreg, ?_⟩
  intro x' hx' st hst
  simp only [BSt.setActor, List.mem_map] at hx'
  obtain ⟨x, hx, rfl⟩ := hx'
  split at hst
  · rcases hf x st hst with h | h
    · exact hs.pend x hx st h
    · exact h
  · exact hs.pend x hx st hst

theorem ThOK_mkTh (c : Cfg) (a : Nat) : ThOK (mkTh c a) :=
  ⟨rfl, rfl, fun _ h => (by cases h), rfl⟩

theorem TInv_ensureCtx {s : BSt} (hs : TInv s) (a : Nat) : TInv (ensureCtx s a).1 := by
  unfold ensureCtx
  split
  · exact hs
  · simp only []
    refine TInv.setActor ?_ _ _ (by intro x st h; exact Or.inl h)
    refine ⟨hs.hdr, ?_, ?_, hs.pend⟩
    · intro j hj
      simp only [List.length_append, List.length_singleton] at hj
      by_cases hjn : j = s.ths.length
      · subst hjn; rw [th_append (s := s) rfl, if_pos rfl]; exact ThOK_mkTh _ _
      · have hlt : j < s.ths.length := by omega
        rw [th_append (s := s) rfl, if_neg (Nat.ne_of_lt hlt)]; exact hs.ths j hlt
    · intro j hj hr
      simp only [List.length_append, List.length_singleton] at hj
      simp only [List.mem_append, List.mem_singleton, not_or] at hr
      have hlt : j < s.ths.length := by omega
      rw [th_append (s := s) rfl, if_neg (Nat.ne_of_lt hlt)]; exact hs.unreg j hlt hr.1

theorem ensureCtx_reg {s : BSt} (hc : CInv s) (a : Nat) (ha : (s.actor a).isSome = true) :
    (ensureCtx s a).2 ∈ (ensureCtx s a).1.registry ∧ (ensureCtx s a).2 < (ensureCtx s a).1.ths.length := by
  unfold ensureCtx
  cases h : (s.actor a).bind (·.ctx) with
  | some i =>
    simp only []
    obtain ⟨x, hx⟩ := Option.isSome_iff_exists.mp ha
    rw [hx] at h; simp only [Option.bind_some] at h
    obtain ⟨_, hal, hm⟩ := actor_find hx
    have hmc : (⟨x.id, x.alive, x.ctx⟩ : AC) ∈ (core s).actors := by
      simp only [core, List.mem_map]; exact ⟨x, hm, rfl⟩
    obtain ⟨h1, h2⟩ := hc.own _ hmc hal i h
    refine ⟨h2, ?_⟩
    have := hc.regLt i h2
    simpa [core] using this
  | none =>
    simp only []
    exact ⟨by show s.ths.length ∈ s.registry ++ [s.ths.length]; simp,
           by show s.ths.length < (s.ths ++ [_]).length; simp⟩

theorem TInv_tryEnq {s : BSt} (hs : TInv s) (ci : Nat) (st : Stmt) (hpos : 0 < st.size) (hreg : ci ∈ s.registry) :
    TInv (tryEnq s ci st).1 := by
  unfold tryEnq
  simp only []
  split
  · apply hs.setTh
    · intro hi
      have h := hs.ths ci hi
      refine .of_qlink ((h.qlink.prepareWrite s.cfg st.size).enq s.cfg { st with enqAt := s.now } hpos) ?_
      show (s.th ci).accepted ++ [_] = (s.th ci).popped ++ (s.th ci).buf ++ ((s.th ci).qStmts ++ [_])
      rw [h.cons]; simp only [List.append_assoc]
    · intro _ hr; exact absurd hreg hr
  · exact hs.setTh_q ci _ (qpos_prepareWrite s.cfg (s.th ci).q st.size) (fun _ => rfl) (fun _ => rfl) (fun _ => rfl)
      (fun _ => rfl)

theorem TInv_afterEnq {s : BSt} (hs : TInv s) (a : Nat) (st : Stmt) (cont : Nat) : TInv (afterEnq s a st cont).1 := by
  unfold afterEnq
  split
  · exact hs.setActor _ _ (by intro x st h; cases h)
  · exact TInv_of_tview hs rfl
  · exact hs
  · refine TInv.setActor ?_ _ _ (by intro x st h; cases h)
    exact TInv_of_tview hs rfl
  · exact hs

theorem TInv.setPend' {s : BSt} (hs : TInv s) (a : Nat) (f : Actor → Actor) {p : Pend} (hf : ∀ x, (f x).pend = p)
    (hp : ∀ st, pendStmt p = some st → 0 < st.size) : TInv (s.setActor a f) :=
  hs.setActor _ _ (fun x st h => Or.inr (hp st (hf x ▸ h)))

theorem TInv.setPend {s : BSt} (hs : TInv s) (a : Nat) (p : Pend) (hp : ∀ st, pendStmt p = some st → 0 < st.size) :
    TInv (setPend s a p) :=
  hs.setPend' a _ (fun _ => rfl) hp

theorem TInv.setActorMisc {s : BSt} (hs : TInv s) (a : Nat) (f : Actor → Actor)
    (hf : ∀ x, (f x).pend = x.pend := by exact fun _ => rfl) : TInv (s.setActor a f) :=
  hs.setActor _ _ (fun x _ h => Or.inl (hf x ▸ h))

theorem TInv.bumpFail {s : BSt} (hs : TInv s) (d : Bool) (ci : Nat) (st : Stmt) : TInv (bumpFail d s ci st) := by
  unfold Backend.bumpFail
  split
  · exact hs.setTh_q ci _ rfl (fun _ => rfl) (fun _ => rfl) (fun _ => rfl) (fun _ => rfl)
  · exact hs

theorem TInv_enqFlow {s : BSt} (hc : CInv s) (hs : TInv s) (a : Nat) (ha : (s.actor a).isSome = true) (st : Stmt)
    (hpos : 0 < st.size) (cont : Nat) (first initial : Bool) : TInv (enqFlow s a st cont first initial).1 :=
  enqFlow_rule (fun ci x => TInv x ∧ ci ∈ x.registry) (fun _ => TInv) TInv
    ⟨TInv_ensureCtx hs a, (ensureCtx_reg hc a ha).1⟩
    (fun ci _ h _ => TInv_afterEnq ((TInv_tryEnq h.1 ci st hpos h.2).setPend a _ (fun _ h => by cases h)) a st cont)
    (fun ci _ h _ => TInv_tryEnq h.1 ci st hpos h.2)
    (fun _ _ h _ => h.bumpFail ..)
    (fun _ _ h _ _ => h.setPend a _ (fun _ h => by cases h))
    (fun _ _ h _ => h.setPend a _ (fun st' h => by simp only [pendStmt, Option.some.injEq] at h; exact h ▸ hpos))

theorem tview_of_stripOut {s s' : BSt} (h : stripOut s' = stripOut s) : tview s' = tview s := by
  have h1 : tview (stripOut s') = tview s' := rfl
  have h2 : tview (stripOut s) = tview s := rfl
  rw [← h1, h, h2]

/-- a record may be enqueued or parked if its size is positive -/
theorem TInv_rules : FrontRules CInv TInv (fun _ st _ => 0 < st.size) :=
  .ofStrip (fun _ _ e h => TInv_of_tview h (of_stripLg tview (fun _ => rfl) e)) {
    enq := fun _ a _ st _ _ _ hc hs hx hpos => TInv_enqFlow hc hs a (by rw [hx]; rfl) st hpos ..
    stall := fun _ _ _ _ _ _ hs _ hpos =>
      hs.setPend' _ _ (fun _ => rfl) (fun _ h => by simp only [pendStmt, Option.some.injEq] at h; exact h ▸ hpos)
    parked := fun _ _ _ st _ _ hs hx hp =>
      have := hs.pend _ (actor_find hx).2.2 st (by rcases hp with h | h <;> rw [h] <;> rfl)
      ⟨this, this⟩
    flagDone := fun _ a _ _ _ hs _ _ _ => hs.setPend a _ (fun _ h => by cases h)
    actorMisc := fun _ a f hs hf => hs.setActorMisc a f (fun x => (hf x).2.2.2)
    pre := fun _ _ _ _ _ _ _ _ hs hp _ _ =>
      have h1 := TInv_of_tview hs (hp.proj tview (fun _ _ _ _ => rfl))
      ⟨h1, fun _ _ _ _ => stmtSize_pos _ _ _ _ _ _ h1.hdr⟩
    tick := fun _ _ hs => TInv_of_tview hs rfl
    tstart := fun _ _ _ hs _ => ⟨hs.hdr, hs.ths, hs.unreg, fun x hx st hst => by
      rcases List.mem_append.mp hx with hx' | hx'
      · exact hs.pend x hx' st hst
      · simp only [List.mem_singleton] at hx'; subst hx'; cases hst⟩
    texitCtx := fun _ a i _ hs _ _ =>
      TInv_of_tview ((hs.setActorMisc a _).setTh_q i (fun t => { t with valid := false }) rfl (fun _ => rfl)
        (fun _ => rfl) (fun _ => rfl) (fun _ => rfl)) rfl
    texitNoCtx := fun _ a _ hs _ _ => hs.setActorMisc a _ }

theorem TInv_front (s : BSt) (f : FOp) (hc : CInv s) (hs : TInv s) : TInv (applyFront s f).1 :=
  TInv_rules.applyFront (fun _ _ _ _ _ hp h => CInv_of_core (hp.proj core (fun _ _ _ _ => rfl)) h) s f hc hs


theorem TInv_ctxEmpty {s : BSt} (hs : TInv s) (i : Nat) : TInv (ctxEmpty s i).1 := by
  unfold ctxEmpty
  exact hs.setTh_q i _ (qpos_empty s.cfg (s.th i).q) (fun _ => rfl) (fun _ => rfl) (fun _ => rfl) (fun _ => rfl)

theorem emptyTh_nil {s : BSt} (hs : TInv s) (i : Nat) (h : emptyTh s.cfg (s.th i) = true) :
    (s.th i).buf = [] ∧ (s.th i).qStmts = [] := by
  unfold emptyTh at h
  simp only [Bool.and_eq_true, List.isEmpty_iff] at h
  refine ⟨h.2, ?_⟩
  by_cases hi : i < s.ths.length
  · exact (hs.ths i hi).qStmts_nil s.cfg h.1
  · simp only [BSt.th, List.getD_eq_getElem?_getD, List.getElem?_eq_none (by omega : s.ths.length ≤ i)]
    rfl

theorem TInv_removeSt {s : BSt} (hs : TInv s) (i : Nat) (he : (s.th i).buf = [] ∧ (s.th i).qStmts = []) :
    TInv (removeSt s i) := by
  unfold removeSt
  refine TInv.setTh_q ?_ i _ rfl (fun _ => rfl) (fun _ => rfl) (fun _ => rfl) (fun _ => rfl)
  refine ⟨hs.hdr, hs.ths, ?_, hs.pend⟩
  intro j hj hr
  have hr' : j ∉ s.registry.filter (· ≠ i) := hr
  simp only [List.mem_filter, not_and, decide_eq_true_eq, ne_eq, Decidable.not_not] at hr'
  by_cases hji : j = i
  · subst hji; exact he
  · exact hs.unreg j hj (fun hm => hji (hr' hm))

theorem cleanupLoggers_fail (inj : BSt → Nat → BSt) (hq : Quiet9 inj) (s : BSt) :
    (cleanupLoggers inj s).cfg = s.cfg ∧ ∀ k, ((cleanupLoggers inj s).th k).fail = (s.th k).fail := by
  have h := cleanupLoggers_eq_of (fun x => (x.cfg, fun k => (x.th k).fail)) inj hq (fun _ => rfl)
    (fun x i => congrArg (Prod.mk x.cfg) (funext fun k => by rw [ctxEmpty_th]; split <;> rfl))
    (fun _ => rfl) s
  exact ⟨(Prod.mk.inj h).1, congrFun (Prod.mk.inj h).2⟩

theorem TInv_readOneSt {s : BSt} (hs : TInv s) (i : Nat) (st : Stmt) (rest : List Stmt)
    (hq : (s.th i).qStmts = st :: rest) : TInv (readOneSt s i st rest) := by
  have h1 : TInv (readPrepSt s i) := by
    unfold readPrepSt
    exact hs.setTh_q i _ (qpos_prepareRead s.cfg (s.th i).q) (fun _ => rfl) (fun _ => rfl) (fun _ => rfl) (fun _ => rfl)
  obtain ⟨rf, e⟩ := decodeSt_same (readPrepSt s i) st
  have h2 : TInv (decodeSt (readPrepSt s i) st) := by rw [e]; exact TInv_of_tview h1 rfl
  have hlen : (decodeSt (readPrepSt s i) st).ths.length = s.ths.length := by
    rw [e]; unfold readPrepSt; exact ths_length_setTh ..
  have hreg : (decodeSt (readPrepSt s i) st).registry = s.registry := by rw [e]; rfl
  have hqs : ((decodeSt (readPrepSt s i) st).th i).qStmts = st :: rest := (qStmts_decode_prep s i st i).trans hq
  unfold readOneSt moveSt
  apply h2.setTh
  · intro hi
    have h := h2.ths i hi
    refine .of_qlink ((hqs ▸ h.qlink).read (decodeSt (readPrepSt s i) st).cfg) ?_
    show _ = _ ++ (_ ++ [st]) ++ rest
    rw [h.cons, hqs]; simp only [List.append_assoc, List.singleton_append]
  · intro hi hr
    rw [hlen] at hi
    rw [hreg] at hr
    have := (hs.unreg i hi hr).2
    rw [hq] at this; cases this

theorem TInv_reportSt {s : BSt} (hs : TInv s) (i : Nat) : TInv (reportSt s i) := by
  have : TInv (s.setTh i (fun t => { t with fail := 0 })) :=
    hs.setTh_q i _ rfl (fun _ => rfl) (fun _ => rfl) (fun _ => rfl) (fun _ => rfl)
  exact TInv_of_tview this rfl

theorem TInv_popSt {s : BSt} (hs : TInv s) (i : Nat) (st : Stmt) (rest : List Stmt)
    (hb : (s.th i).buf = st :: rest) : TInv (popSt s i st rest) := by
  have hX : tview (procSt s st) = tview s := tview_of_stripOut (stripOut_dispRel.procSt s st)
  have e := popSt_proc s i st rest
  generalize procSt s st = X at hX e
  rw [e]
  have hXT : TInv X := TInv_of_tview hs hX
  obtain ⟨hths, hXreg⟩ : X.ths = s.ths ∧ X.registry = s.registry := by
    simp only [tview, Prod.mk.injEq] at hX
    exact ⟨hX.2.1, hX.2.2.1⟩
  have hXth : X.th i = s.th i := by simp only [BSt.th, hths]
  have hXlen : X.ths.length = s.ths.length := by rw [hths]
  refine TInv_of_tview (s := X.setTh i (fun t => { t with buf := rest, popped := t.popped ++ [st] })) ?_ rfl
  apply hXT.setTh
  · intro hi
    have h := hXT.ths i hi
    refine ⟨h.link, h.wcom, h.pos, ?_⟩
    show _ = (_ ++ [st]) ++ rest ++ _
    rw [h.cons, hXth, hb]; simp only [List.append_assoc, List.singleton_append]
  · intro hi hr
    rw [hXlen] at hi; rw [hXreg] at hr
    have := (hs.unreg i hi hr).1
    rw [hb] at this; cases this

def TCInv (s : BSt) : Prop := CInv s ∧ TInv s

theorem QRd.qpos {c : Cfg} {q q' : St} (h : QRd c q q') : qpos q' = qpos q := by
  cases h with
  | prep => exact qpos_prepareRead c q
  | commit => exact qpos_commitRead c q
  | probe => exact qpos_empty c q

theorem TInv_kept : Kept CInv TInv where
  book _ _ _ _ _ _ h := TInv_of_tview h rfl
  emitInj _ _ _ _ _ h := TInv_of_tview h rfl
  note _ h := TInv_of_tview h rfl
  recache _ _ h := TInv_of_tview h rfl
  rdQ _ i f _ h hf hq :=
    h.setTh_q i f hq.qpos (hf.proj (·.qStmts) (fun _ _ => rfl)) (hf.proj (·.buf) (fun _ _ => rfl))
      (hf.proj (·.accepted) (fun _ _ => rfl)) (hf.proj (·.popped) (fun _ _ => rfl))
  dropCtx s i _ h _ _ he _ := by
    -- the emptiness check answered yes: with `link`, neither a queued nor a buffered record is left
    have hn := emptyTh_nil h i (by rw [← ctxEmpty_snd]; exact he)
    refine TInv_removeSt (TInv_ctxEmpty h i) i ?_
    rw [ctxEmpty_th]
    split <;> exact hn
  erase _ _ _ _ _ h _ _ := TInv_of_tview h rfl
  reap _ _ _ h _ _ := TInv_of_tview h rfl
  flagRemoval _ _ _ _ _ _ h _ _ := TInv_of_tview h rfl
  flushSinks s _ h := TInv_of_tview h (tview_of_stripOut (flushSinks_strip s))
  readOne _ i st rest _ h _ hq := TInv_readOneSt h i st rest hq
  report _ i _ h _ := TInv_reportSt h i
  pop _ i st rest _ h _ hb := TInv_popSt h i st rest hb
  raise _ _ h _ := TInv_of_tview h rfl
  front s f hc h := TInv_front s f hc h

theorem TCInv_kept : Kept (fun _ => True) TCInv := CInv_kept.and TInv_kept

theorem TCInv_closed : Closed TCInv := TCInv_kept.closed

theorem TCInv_runOps (s0 : BSt) (h0 : TCInv s0) (ops : List Op) : TCInv (runOps s0 ops) :=
  runOps_closed TCInv_closed ops s0 h0

theorem parked_of_pendStmt {x : Actor} {st : Stmt} (h : pendStmt x.pend = some st) : isParked x = true := by
  unfold isParked
  cases hp : x.pend <;> simp_all [pendStmt]

theorem actors_pairwise {s : BSt} (hc : CInv s) :
    s.actors.Pairwise (fun x y => x.alive = true → y.alive = true → x.id ≠ y.id) := by
  have := hc.ids
  simp only [core, List.pairwise_map] at this
  exact this

theorem actor_unique {s : BSt} (hc : CInv s) {a : Nat} {x : Actor} (hx : x ∈ s.actors) (hid : x.id = a)
    (hal : x.alive = true) : s.actor a = some x := by
  have := find_unique Actor.id Actor.alive s.actors (actors_pairwise hc) x hx hal
  rw [hid] at this
  exact this

theorem unparked_all {s : BSt} (hc : CInv s) {a : Nat} (hp : parkedIn s a = false) :
    ∀ x ∈ s.actors, x.id = a → x.alive = true → pendStmt x.pend = none := by
  intro x hx hid hal
  rw [parkedIn, actor_unique hc hx hid hal] at hp
  cases hst : pendStmt x.pend with
  | none => rfl
  | some st => exact absurd ((parked_of_pendStmt hst).symm.trans hp) (by decide)

theorem idle_all {s : BSt} (hc : CInv s) {a : Nat} (hi : idleActor s a = true) :
    ∀ x ∈ s.actors, x.id = a → x.alive = true → pendStmt x.pend = none :=
  have ⟨_, hx, hp⟩ := idle_actor hi
  unparked_all hc (by rw [parkedIn, hx]; exact hp)

end Backend.PC

namespace Backend

theorem popped_of_accepted {t : Th} {st : Stmt} (hc : t.accepted = t.popped ++ t.buf ++ t.qStmts)
    (hst : st ∈ t.accepted) (hno : ¬ (st ∈ t.qStmts ∨ st ∈ t.buf)) : st ∈ t.popped := by
  rw [hc] at hst
  rcases List.mem_append.mp hst with h | h
  · rcases List.mem_append.mp h with h | h
    · exact h
    · exact absurd (Or.inr h) hno
  · exact absurd (Or.inl h) hno

open PC

/-- initial states: no thread registered yet, a positive record-header size -/
def DrainFresh (s : BSt) : Prop :=
  s.ths = [] ∧ s.registry = [] ∧ s.cache = [] ∧ s.newFlag = false ∧ s.invalidCnt = 0 ∧ s.actors = [] ∧ 0 < s.cfg.hdr

theorem DrainFresh.ctx {s : BSt} (h : DrainFresh s) : CtxFresh s :=
  ⟨h.1, h.2.1, h.2.2.1, h.2.2.2.1, h.2.2.2.2.1, h.2.2.2.2.2.1⟩

theorem DrainFresh.inv {s : BSt} (h : DrainFresh s) : TCInv s := by
  have nth : ∀ {p : Nat → Prop} (i : Nat), i < s.ths.length → p i := fun i hi => by rw [h.1] at hi; cases hi
  exact ⟨h.ctx.inv, h.2.2.2.2.2.2, nth, nth, fun x hx => by rw [h.2.2.2.2.2.1] at hx; cases hx⟩

end Backend
