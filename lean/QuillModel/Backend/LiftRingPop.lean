import QuillModel.Backend.LiftRingPot
import QuillModel.Backend.ConsProofsExact
/-!
`processEvent` keeps `writes + ring potential ≤ grants`: an ordinary statement is dispatched (its grant is spent on
writes), a backtrace statement is stored (its grant becomes ring occupancy — `Ring.store` adds at most one copy and may
drop others), `init_backtrace` only drops, a replay converts occupancy into writes and clears the ring
(`replayRing_pot`). Every other step of the machine is a frame for `InvRg`.
-/
namespace Backend.PA

theorem filter_set_length {α} (p : α → Bool) (x : α) : ∀ (l : List α) (i : Nat),
    ((l.set i x).filter p).length ≤ (l.filter p).length + (if p x = true then 1 else 0)
  | [], _ => by simp
  | y :: ys, 0 => by
    simp only [List.set_cons_zero, List.filter_cons]
    cases p x <;> cases p y <;> simp
  | y :: ys, i + 1 => by
    have ih := filter_set_length p x ys i
    simp only [List.set_cons_succ, List.filter_cons]
    cases p y <;> simp only [List.length_cons, Bool.false_eq_true, if_false, if_true] <;> omega

theorem ring_store_cnt (r : Ring) (st : Stmt) (id : Nat) :
    itemsCnt id (r.store st).items ≤ itemsCnt id r.items + (if st.id = id then 1 else 0) := by
  unfold Ring.store itemsCnt
  split
  · omega
  · split
    · simp only [List.filter_append, List.length_append, List.filter_cons, List.filter_nil]
      by_cases h : st.id = id <;> simp [h]
    · have := filter_set_length (fun x : Stmt => x.id == id) st r.items r.index
      simpa using this

theorem ring_setCapacity_cnt (r : Ring) (c id : Nat) : itemsCnt id (r.setCapacity c).items ≤ itemsCnt id r.items := by
  unfold Ring.setCapacity
  split
  · exact Nat.le_refl _
  · simp [itemsCnt]

theorem ringPot_setLg_le (s : BSt) (i : Nat) (f : Lg → Lg) (sid id d : Nat)
    (hs : (f (s.lgOf i)).sinks = (s.lgOf i).sinks) (hcnt : lgCnt id (f (s.lgOf i)) ≤ lgCnt id (s.lgOf i) + d) :
    ringPot (s.setLg i f) sid id ≤ ringPot s sid id + d * (s.lgOf i).sinks.count sid := by
  unfold ringPot
  rw [lgs_length_setLg]
  by_cases hi : i < s.lgs.length
  · have hu := sumR_update (f := fun j => lgCnt id (s.lgOf j) * (s.lgOf j).sinks.count sid)
      (g := fun j => lgCnt id ((s.setLg i f).lgOf j) * ((s.setLg i f).lgOf j).sinks.count sid)
      i s.lgs.length hi (fun j _ hji => by simp only [lgOf_setLg, hji, false_and, if_false])
    have hg : (s.setLg i f).lgOf i = f (s.lgOf i) := by rw [lgOf_setLg, if_pos ⟨rfl, hi⟩]
    simp only [hg, hs] at hu
    have hm := Nat.mul_le_mul_right ((s.lgOf i).sinks.count sid) hcnt
    rw [Nat.add_mul] at hm
    omega
  · have : sumR (fun j => lgCnt id ((s.setLg i f).lgOf j) * ((s.setLg i f).lgOf j).sinks.count sid) s.lgs.length =
        sumR (fun j => lgCnt id (s.lgOf j) * (s.lgOf j).sinks.count sid) s.lgs.length :=
      sumR_congr _ (fun j hj => by
        have : ¬ (j = i ∧ j < s.lgs.length) := by omega
        simp only [lgOf_setLg, this, if_false])
    rw [this]
    omega

theorem ringPot_setBt_le (s : BSt) (i : Nat) (r' : Ring) (sid id d : Nat)
    (hcnt : itemsCnt id r'.items ≤ lgCnt id (s.lgOf i) + d) :
    ringPot (s.setLg i (fun l => { l with bt := some r' })) sid id ≤ ringPot s sid id + d * (s.lgOf i).sinks.count sid :=
  ringPot_setLg_le s i _ sid id d rfl hcnt

theorem ite_one_mul (c : Prop) [Decidable c] (n : Nat) : (if c then 1 else 0) * n = if c then n else 0 := by
  split
  · exact Nat.one_mul n
  · exact Nat.zero_mul n

theorem lgCnt_getD (id : Nat) (l : Lg) : lgCnt id l = itemsCnt id (l.bt.getD {}).items := by
  unfold lgCnt
  cases l.bt <;> rfl

theorem ringPot_of_lgs {s s' : BSt} (e : s'.lgs = s.lgs) (sid id : Nat) : ringPot s' sid id = ringPot s sid id :=
  ringPot_congr sid id (by rw [e]) (fun j _ => by rw [lgOf_of_lgs e]; exact ⟨rfl, rfl⟩)

theorem dispatch_bwcount (s : BSt) (st : Stmt) (sid id : Nat) :
    bwcount (dispatch s st).1.log sid id ≤
      bwcount s.log sid id + (if st.id = id then (s.lgOf st.lg).sinks.count sid else 0) :=
  writeToSinks_bwcount st sid id _ s

theorem processEvent_r {s : BSt} (hc : s.cfg.replayCatchesPerEvent = true) (h : RingLg s) (st : Stmt) (sid id : Nat) :
    bwcount (processEvent s st).1.log sid id + ringPot (processEvent s st).1 sid id ≤
      bwcount s.log sid id + ringPot s sid id +
        (if logq id st = true then (s.lgOf st.lg).sinks.count sid else 0) := by
  have hs := processEvent_shape s st
  generalize processEvent s st = r at hs ⊢
  have hite : st.kind = .log → (if logq id st = true then (s.lgOf st.lg).sinks.count sid else 0) =
      (if st.id = id then (s.lgOf st.lg).sinks.count sid else 0) := by
    intro hk
    have hq : (logq id st = true) ↔ st.id = id := by simp [logq, hk, isLogKind]
    simp only [hq]
  -- the dispatch of an ordinary statement spends its grant on writes and leaves the rings alone
  have hlg : (dispatch s st).1.lgs = s.lgs := writeToSinks_lgs st (s.lgOf st.lg).sinks s
  have hD : st.kind = .log → bwcount (dispatch s st).1.log sid id + ringPot (dispatch s st).1 sid id ≤
      bwcount s.log sid id + ringPot s sid id + (if logq id st = true then (s.lgOf st.lg).sinks.count sid else 0) := by
    intro hk
    rw [hite hk, ringPot_of_lgs hlg sid id, Nat.add_right_comm]
    exact Nat.add_le_add_right (dispatch_bwcount s st sid id) _
  cases hs with
  | writeFail hk _ _ => exact hD hk
  | plain hk _ _ _ => exact hD hk
  | replay hk _ _ _ =>
    have hc' : (dispatch s st).1.cfg.replayCatchesPerEvent = true := by rw [(dispatch_core s st).cfg]; exact hc
    exact Nat.le_trans (replayRing_pot hc' (dispatch_ringAll h st) st.lg sid id) (hD hk)
  | @store ring hk _ hr =>
    -- the grant becomes ring occupancy
    dsimp only
    have hcnt : itemsCnt id (ring.store st).items ≤ lgCnt id (s.lgOf st.lg) + (if st.id = id then 1 else 0) := by
      rw [lgCnt_getD, hr]
      exact ring_store_cnt ring st id
    have := ringPot_setBt_le s st.lg (ring.store st) sid id _ hcnt
    rw [ite_one_mul] at this
    rw [hite hk, Nat.add_assoc]
    exact Nat.add_le_add_left this _
  | noRing _ _ _ => exact Nat.le_add_right _ _
  | @initBt cap _ _ =>
    dsimp only
    have hcnt : itemsCnt id (((s.lgOf st.lg).bt.getD {}).setCapacity cap).items ≤ lgCnt id (s.lgOf st.lg) + 0 := by
      rw [lgCnt_getD]
      exact ring_setCapacity_cnt _ cap id
    have := ringPot_setBt_le s st.lg _ sid id 0 hcnt
    rw [Nat.zero_mul] at this
    exact Nat.le_trans (Nat.add_le_add_left this _) (Nat.le_add_right _ _)
  | flushBt _ => exact Nat.le_trans (replayRing_pot hc h st.lg sid id) (Nat.le_add_right _ _)
  | flush _ =>
    have f := flushSinks_frame s
    obtain ⟨evs, he, hn⟩ := f.log
    dsimp only
    rw [he, bwcount_nowrite hn,
      ringPot_congr sid id f.lgsLen (fun j _ => ⟨(f.lgs j).2.2, (f.lgs j).2.1⟩)]
    exact Nat.le_add_right _ _
  | removal _ => exact Nat.le_add_right _ _

theorem InvRg.pop {s : BSt} (h : InvRg s) (i : Nat) (st : Stmt) (rest : List Stmt) : InvRg (popStep s i st rest) := by
  obtain ⟨s2, f, e⟩ := popStep_frame s i st rest
  refine ⟨?_, popStep_ringAll (fun _ _ => rfl) h.ring i st rest, fun sid id => ?_⟩
  · rw [e]
    exact ((processEvent_core s st).trans f.core).cfg ▸ h.rc
  have hg : btBound (popStep s i st rest) sid id =
      (if logq id st = true then (s.lgOf st.lg).sinks.count sid else 0) + btBound s sid id :=
    grant_pop (logq id) s i st rest sid
  rw [hg, e]
  show bwcount s2.log sid id + ringPot s2 sid id ≤ _
  -- the notification of an escaped exception is no write and leaves the rings alone
  obtain ⟨evs, he, hn⟩ := f.log
  rw [he, bwcount_nowrite hn, ringPot_congr sid id f.lgsLen (fun j _ => ⟨(f.lgs j).2.2, (f.lgs j).2.1⟩)]
  have := processEvent_r h.rc h.ring st sid id
  have := h.bound sid id
  omega

theorem InvRg.closed : Closed InvRg := Closed.of_still InvRg.still (fun _ i st rest h _ => h.pop i st rest)

/-!
`InvRg` holds in every freshly started system running the repaired replay callback, `InvRg.closed` carries it through every
schedule, and with the invariants of bundle A (`Inv`: conservation, unique ids, pop-history merge) the grants of one
statement id collapse to the multiplicity of the sink in that statement's logger.
-/

theorem sumR_zero (f : Nat → Nat) (n : Nat) (h : ∀ j, j < n → f j = 0) : sumR f n = 0 :=
  sumR_extend f 0 n (Nat.zero_le _) (fun j _ hj => h j hj)

theorem Fresh.invRg {s : BSt} (h : Fresh s) (hc : s.cfg.replayCatchesPerEvent = true) : InvRg s := by
  refine ⟨hc, fun i r hr => ?_, fun sid id => ?_⟩
  · rw [h.rings i] at hr
    cases hr
  · have h1 : bwcount s.log sid id = 0 := by rw [h.log]; rfl
    have h2 : ringPot s sid id = 0 := sumR_zero _ _ (fun j _ => by simp [lgCnt, h.rings j])
    omega

theorem InvRg.run {s : BSt} (h : InvRg s) (ops : List Op) : InvRg (runOps s ops) := runOps_closed InvRg.closed ops s h

/-- at most once, every level: an `Event::Log` statement (ordinary or backtrace) accepted by some queue is handed to
    sink `sid` at most as often as `sid` occurs in its logger's sink list — over the whole history, replays included. -/
theorem InvRg.at_most_once {s : BSt} (h : Inv s) (hr : InvRg s) (i : Nat) (st : Stmt) (hm : st ∈ (s.th i).accepted)
    (hk : isLogKind st.kind = true) (sid : Nat) : bwcount s.log sid st.id ≤ (s.lgOf st.lg).sinks.count sid :=
  Nat.le_trans (Nat.le_trans (Nat.le_add_right _ _) (hr.bound sid st.id))
    (h.grant_le hm (logq st.id) (fun _ hx => hx) (by simp [logq, hk]) sid)

/-- nothing is handed to a sink before the pop (`write` events of any level) -/
theorem InvRg.unpopped_unwritten {s : BSt} (h : Inv s) (hr : InvRg s) (i : Nat) (st : Stmt)
    (hm : st ∈ (s.th i).buf ++ (s.th i).qStmts) (hk : isLogKind st.kind = true) (sid : Nat) :
    bwcount s.log sid st.id = 0 := by
  have hb := hr.bound sid st.id
  rw [show btBound s sid st.id = 0 from
    grant_eq_zero (h.unpopped_of hm (logq st.id) (fun _ hx => hx) (by simp [logq, hk])) sid] at hb
  omega

end Backend.PA

namespace Backend
open Backend.PA

/-- a freshly started system (`Fresh`) that runs the repaired replay callback -/
structure StartR (s : BSt) : Prop where
  fresh : Fresh s
  rc : s.cfg.replayCatchesPerEvent = true

theorem StartR.run {s0 : BSt} (h : StartR s0) (ops : List Op) : Inv (runOps s0 ops) ∧ InvRg (runOps s0 ops) :=
  ⟨h.fresh.inv.run ops, (h.fresh.invRg h.rc).run ops⟩

end Backend
