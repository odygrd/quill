import QuillModel.Backend.ConsProofsIds
/-!
`InvB` (ids identify statements) is preserved by every operation; so is its variant `InvBφ` with a phantom occurrence of
one id, hence an allocated id that no statement carries (a discarded call) is never used again (`Unplaced.run`).
-/
namespace Backend.PA

variable {φ : Nat → Nat}

theorem cntA_of_ths {s s' : BSt} (h : s'.ths = s.ths) (id : Nat) : cntA s' id = cntA s id := by
  simp only [cntA, h]

theorem Hk.cntA {s s' : BSt} (h : Hk s s') (id : Nat) : cntA s' id = cntA s id :=
  congrArg List.sum (h.map_ths _ (fun _ _ _ _ _ => rfl))

theorem cntB_of_actors {s s' : BSt} (h : s'.actors = s.actors) (id : Nat) : cntB s' id = cntB s id := by
  simp only [cntB, h]

theorem InvBφ.of_same {s s' : BSt} (h : InvBφ φ s) (h1 : s'.actors = s.actors) (h2 : s'.nextId = s.nextId)
    (h3 : ∀ id, cntA s' id = cntA s id) : InvBφ φ s' :=
  ⟨fun id => by unfold tot; rw [h3, cntB_of_actors h1]; exact h.uniq id,
   fun id hid => by unfold tot; rw [h3, cntB_of_actors h1]; exact h.lt id (h2 ▸ hid),
   fun a => by rw [h1]; exact h.ua a⟩

def accs (s : BSt) : List (List Stmt) := s.ths.map (·.accepted)

theorem accs_setTh (s : BSt) (i : Nat) (f : Th → Th) (hf : ∀ t, (f t).accepted = t.accepted) :
    accs (s.setTh i f) = accs s :=
  map_updAt s.ths i f _ hf

theorem InvBφ.setTh_same {s : BSt} (h : InvBφ φ s) (i : Nat) (f : Th → Th)
    (hf : (f (s.th i)).accepted = (s.th i).accepted) : InvBφ φ (s.setTh i f) :=
  h.of_same rfl rfl (fun id => cntA_setTh_same s i f id hf)

/-- `sM` lies between the start `s` of an enqueue attempt by actor `a` and its end: nothing changed for the other actors,
    and the accepted histories gained at most `extra id` statements with each id -/
structure Mid (s : BSt) (a : Nat) (sM : BSt) (extra : Nat → Nat) : Prop where
  nextId : sM.nextId = s.nextId
  ua : UniqA sM
  bo : ∀ id, cntBo sM a id = cntBo s a id
  ca : ∀ id, cntA sM id ≤ cntA s id + extra id

theorem Mid.setActor {s sM : BSt} {a : Nat} {e : Nat → Nat} (h : Mid s a sM e) (f : Actor → Actor) (hf : KeepsId f) :
    Mid s a (sM.setActor a f) e :=
  ⟨h.nextId, h.ua.setActor a f hf, fun id => by rw [cntBo_setActor sM a f hf]; exact h.bo id, h.ca⟩

theorem Mid.setTh_same {s sM : BSt} {a : Nat} {e : Nat → Nat} (h : Mid s a sM e) (i : Nat) (f : Th → Th)
    (hf : (f (sM.th i)).accepted = (sM.th i).accepted) : Mid s a (sM.setTh i f) e :=
  ⟨h.nextId, h.ua, h.bo, fun id => by rw [cntA_setTh_same sM i f id hf]; exact h.ca id⟩

theorem Mid.of_eq {s sM sM' : BSt} {a : Nat} {e : Nat → Nat} (h : Mid s a sM e) (h1 : sM'.ths = sM.ths)
    (h2 : sM'.actors = sM.actors) (h3 : sM'.nextId = sM.nextId) : Mid s a sM' e :=
  ⟨h3.trans h.nextId, fun b => by rw [h2]; exact h.ua b, fun id => by unfold cntBo; rw [h2]; exact h.bo id,
   fun id => by rw [cntA_of_ths h1]; exact h.ca id⟩

/-- what is left to place: apart from what actor `a` has parked, the id of `st` is unused -/
structure Room (φ : Nat → Nat) (s : BSt) (a : Nat) (st : Stmt) : Prop where
  le : ∀ id, cntA s id + cntBo s a id + cntL id [st] + φ id ≤ 1
  lt : ∀ id, s.nextId ≤ id → cntA s id + cntBo s a id + cntL id [st] + φ id = 0
  ua : UniqA s

theorem InvBφ.of_mid {s sF : BSt} {a : Nat} {st : Stmt} {e : Nat → Nat} (r : Room φ s a st) (m : Mid s a sF e)
    (hb : ∀ id, e id + cntBa sF a id ≤ cntL id [st]) : InvBφ φ sF := by
  refine ⟨fun id => ?_, fun id hid => ?_, m.ua⟩
  · rw [tot_eq sF a id, m.bo id]
    have := m.ca id; have := hb id; have := r.le id; omega
  · rw [tot_eq sF a id, m.bo id]
    have := m.ca id; have := hb id; have := r.lt id (m.nextId ▸ hid); omega

theorem keepsId_pend (p : Pend) : KeepsId (fun x => { x with pend := p }) := fun _ => ⟨rfl, rfl⟩

theorem cntA_append (s : BSt) (t : Th) (rg : List Nat) (nf : Bool) (id : Nat) (ht : t.accepted = []) :
    cntA ({ s with ths := s.ths ++ [t], registry := rg, newFlag := nf } : BSt) id = cntA s id := by
  simp [cntA, ht, cntL]

theorem Mid.ensureCtx {s : BSt} (a : Nat) (hu : UniqA s) : Mid s a (ensureCtx s a).1 (fun _ => 0) := by
  unfold Backend.ensureCtx
  split
  · exact ⟨rfl, hu, fun _ => rfl, fun _ => Nat.le_refl _⟩
  · dsimp only
    have h0 : Mid s a ({ s with ths := s.ths ++ [mkTh s.cfg a], registry := s.registry ++ [s.ths.length], newFlag := true } : BSt)
        (fun _ => 0) :=
      ⟨rfl, hu, fun _ => rfl, fun id => by rw [cntA_append s _ _ _ id rfl]; exact Nat.le_refl _⟩
    exact h0.setActor _ (fun _ => ⟨rfl, rfl⟩)

theorem cntBa_of_actors {s s' : BSt} (h : s'.actors = s.actors) (a id : Nat) : cntBa s' a id = cntBa s a id := by
  simp only [cntBa, h]

theorem cntA_setTh_append (s : BSt) (i : Nat) (f : Th → Th) (x : Stmt) (id : Nat)
    (hf : (f (s.th i)).accepted = (s.th i).accepted ++ [x]) : cntA (s.setTh i f) id ≤ cntA s id + cntL id [x] := by
  by_cases hi : i < s.ths.length
  · have := cntA_setTh s i f id hi
    rw [hf, cntL_append] at this
    omega
  · rw [setTh_of_ge s i f (by omega)]; omega

theorem Mid.mono {s sM : BSt} {a : Nat} {e e' : Nat → Nat} (h : Mid s a sM e) (he : ∀ id, e id ≤ e' id) :
    Mid s a sM e' :=
  ⟨h.nextId, h.ua, h.bo, fun id => Nat.le_trans (h.ca id) (Nat.add_le_add_left (he id) _)⟩

theorem Mid.tryEnq {s sM : BSt} {a : Nat} (h : Mid s a sM (fun _ => 0)) (ci : Nat) (st : Stmt) :
    Mid s a (tryEnq sM ci st).1 (fun id => if (tryEnq sM ci st).2 = true then cntL id [st] else 0) ∧
    (tryEnq sM ci st).1.actors = sM.actors := by
  unfold Backend.tryEnq
  dsimp only
  split
  · refine ⟨⟨h.nextId, h.ua, h.bo, fun id => ?_⟩, rfl⟩
    rw [if_pos rfl]
    -- the appended record differs from `st` in its enqueue time only
    exact Nat.le_trans (cntA_setTh_append sM ci _ { st with enqAt := sM.now } id rfl)
      (Nat.add_le_add (h.ca id) (Nat.le_refl _))
  · exact ⟨(h.setTh_same ci _ rfl).mono (fun id => Nat.zero_le _), rfl⟩

theorem afterEnq_mid {s sM : BSt} {a : Nat} {e : Nat → Nat} (h : Mid s a sM e) (st : Stmt) (cont : Nat)
    (hb : ∀ id, cntBa sM a id = 0) :
    Mid s a (afterEnq sM a st cont).1 e ∧ ∀ id, cntBa (afterEnq sM a st cont).1 a id = 0 := by
  have hflag : ∀ (sX : BSt) (f : Nat), Mid s a sX e →
      Mid s a (sX.setActor a (fun x => { x with pend := .flag f })) e ∧
      ∀ id, cntBa (sX.setActor a (fun x => { x with pend := .flag f })) a id = 0 := by
    intro sX f hX
    refine ⟨hX.setActor _ (keepsId_pend _), fun id => ?_⟩
    exact Nat.eq_zero_of_le_zero (cntBa_setPend_le hX.ua a _ (keepsId_pend (.flag f)) (.flag f) (fun _ => rfl) id)
  unfold Backend.afterEnq
  split
  · exact hflag sM _ h
  · exact ⟨h.of_eq rfl rfl rfl, hb⟩
  · exact ⟨h, hb⟩
  · exact hflag _ _ (h.of_eq (sM' := { (sM.setLg st.lg (fun l => { l with valid := false })) with hasInvalidLoggers := true })
      rfl rfl rfl)
  · exact ⟨h, hb⟩

theorem Mid.refl {s : BSt} (a : Nat) (hu : UniqA s) : Mid s a s (fun _ => 0) :=
  ⟨rfl, hu, fun _ => rfl, fun _ => Nat.le_refl _⟩

theorem InvBφ.park {s sX : BSt} {a : Nat} {st : Stmt} (r : Room φ s a st) (hX : Mid s a sX (fun _ => 0))
    (f : Actor → Actor) (hf : KeepsId f) (p : Pend) (hfp : ∀ x, (f x).pend = p)
    (hp : ∀ id, cntL id (pendL p) ≤ cntL id [st]) : InvBφ φ (sX.setActor a f) := by
  refine InvBφ.of_mid r (hX.setActor f hf) (fun id => ?_)
  have := cntBa_setPend_le hX.ua a f hf p hfp id
  have := hp id
  omega

theorem Mid.bumpFail {s sM : BSt} {a : Nat} {e : Nat → Nat} (h : Mid s a sM e) (d : Bool) (ci : Nat) (st : Stmt) :
    Mid s a (bumpFail d sM ci st) e := by
  unfold Backend.bumpFail
  split
  · exact h.setTh_same ci _ rfl
  · exact h

theorem InvBφ.enqFlow {s : BSt} {a : Nat} {st : Stmt} (r : Room φ s a st) (cont : Nat) (first initial : Bool) :
    InvBφ φ (enqFlow s a st cont first initial).1 := by
  -- a refused statement is parked again or given up
  have hfin : ∀ {sX : BSt} (p : Pend), Mid s a sX (fun _ => 0) → (∀ id, cntL id (pendL p) ≤ cntL id [st]) →
      InvBφ φ (sX.setActor a (fun x => { x with pend := p })) :=
    fun p hX hp => InvBφ.park r hX _ (keepsId_pend p) p (fun _ => rfl) hp
  -- before the reservation and after a refusal alike: no accepted history has gained anything
  exact enqFlow_rule (fun _ x => Mid s a x (fun _ => 0)) (fun _ x => Mid s a x (fun _ => 0)) (InvBφ φ)
    (Mid.ensureCtx a r.ua)
    (fun ci x hx hok => by
      have h2 : Mid s a (tryEnq x ci st).1 (fun id => cntL id [st]) :=
        (hx.tryEnq ci st).1.mono (fun _ => Nat.le_of_eq (if_pos hok))
      have hb3 : ∀ id, cntBa ((tryEnq x ci st).1.setActor a (fun x => { x with pend := .none })) a id = 0 := fun id =>
        Nat.eq_zero_of_le_zero (cntBa_setPend_le h2.ua a _ (keepsId_pend .none) .none (fun _ => rfl) id)
      obtain ⟨h4, hb4⟩ := afterEnq_mid (h2.setActor (fun x => { x with pend := .none }) (keepsId_pend _)) st cont hb3
      exact InvBφ.of_mid r h4 (fun id => by have := hb4 id; unfold setPend; omega))
    (fun ci x hx hok => (hx.tryEnq ci st).1.mono (fun _ => Nat.le_of_eq (if_neg (by rw [hok]; exact Bool.false_ne_true))))
    (fun _ _ hx _ => hx.bumpFail ..)
    (fun _ _ hx _ _ => hfin .none hx (fun id => Nat.zero_le _))
    (fun _ _ hx _ => hfin (.retry st cont) hx (fun id => Nat.le_refl _))

theorem cntL_single_le (id : Nat) (st : Stmt) : cntL id [st] ≤ 1 := by
  unfold cntL
  exact Nat.le_trans List.countP_le_length (by simp)

theorem cntL_single_ne (id : Nat) (st : Stmt) (h : isLogKind st.kind = false ∨ st.id ≠ id) : cntL id [st] = 0 := by
  unfold cntL
  rw [List.countP_eq_zero]
  intro x hx
  simp only [List.mem_singleton] at hx
  subst hx
  rcases h with h | h
  · simp [h]
  · simp [h]

theorem cntA_cntBo_le_tot (s : BSt) (a id : Nat) : cntA s id + cntBo s a id ≤ tot s id := by
  rw [tot_eq s a id]
  omega

theorem InvBφ.room_fresh {s : BSt} (h : InvBφ φ s) (a : Nat) (st : Stmt) (hid : st.id = s.nextId) :
    Room φ { s with nextId := s.nextId + 1 } a st := by
  refine ⟨fun id => ?_, fun id hge => ?_, h.ua⟩
  · show cntA s id + cntBo s a id + cntL id [st] + φ id ≤ 1
    have hAB := cntA_cntBo_le_tot s a id
    by_cases he : st.id = id
    · have := h.lt id (Nat.le_of_eq (hid.symm.trans he)); have := cntL_single_le id st; omega
    · rw [cntL_single_ne id st (Or.inr he)]; have := h.uniq id; omega
  · show cntA s id + cntBo s a id + cntL id [st] + φ id = 0
    have hge' : s.nextId + 1 ≤ id := hge
    have hAB := cntA_cntBo_le_tot s a id
    rw [cntL_single_ne id st (Or.inr (by omega))]
    have := h.lt id (Nat.le_of_succ_le hge'); omega

theorem InvBφ.room_ctl {s : BSt} (h : InvBφ φ s) (a : Nat) (st : Stmt) (hk : isLogKind st.kind = false) : Room φ s a st := by
  refine ⟨fun id => ?_, fun id hge => ?_, h.ua⟩
  · rw [cntL_single_ne id st (Or.inl hk)]; have := h.uniq id; have := cntA_cntBo_le_tot s a id; omega
  · rw [cntL_single_ne id st (Or.inl hk)]; have := h.lt id hge; have := cntA_cntBo_le_tot s a id; omega

theorem InvBφ.room_parked {s : BSt} (h : InvBφ φ s) (a : Nat) (x : Actor) (hx : s.actor a = some x) (st st' : Stmt)
    (hp : pendL x.pend = [st]) (hst : ∀ id, cntL id [st'] = cntL id [st]) : Room φ s a st' := by
  refine ⟨fun id => ?_, fun id hge => ?_, h.ua⟩
  · have := cntBa_ge hx id; rw [hp] at this
    have := h.uniq id; rw [tot_eq s a id] at this; rw [hst]; omega
  · have := cntBa_ge hx id; rw [hp] at this
    have := h.lt id hge; rw [tot_eq s a id] at this; rw [hst]; omega

theorem cntB_setActor_same (s : BSt) (a : Nat) (f : Actor → Actor) (hp : ∀ x, (f x).pend = x.pend) (id : Nat) :
    cntB (s.setActor a f) id = cntB s id := by
  unfold cntB
  simp only [BSt.setActor, List.map_map]
  congr 1
  apply List.map_congr_left
  intro x _
  simp only [Function.comp]
  split <;> simp [hp]

theorem InvBφ.setActorMisc {s : BSt} (h : InvBφ φ s) (a : Nat) (f : Actor → Actor) (hf : KeepsId f)
    (hp : ∀ x, (f x).pend = x.pend) : InvBφ φ (s.setActor a f) :=
  ⟨fun id => by unfold tot; rw [cntB_setActor_same s a f hp]; exact h.uniq id,
   fun id hid => by unfold tot; rw [cntB_setActor_same s a f hp]; exact h.lt id hid,
   h.ua.setActor a f hf⟩

theorem InvBφ.bumpId {s : BSt} (h : InvBφ φ s) : InvBφ φ { s with nextId := s.nextId + 1 } :=
  ⟨h.uniq, fun id hid => h.lt id (by have : s.nextId + 1 ≤ id := hid; omega), h.ua⟩

theorem filter_len_map_le {α} (l : List α) (c : α → Bool) (g : α → α) (hg : ∀ x, c (g x) = true → c x = true) :
    ((l.map g).filter c).length ≤ (l.filter c).length := by
  induction l with
  | nil => simp
  | cons x xs ih =>
    simp only [List.map_cons]
    by_cases h1 : c (g x) = true
    · rw [List.filter_cons_of_pos h1, List.filter_cons_of_pos (hg x h1)]
      simp
      omega
    · rw [List.filter_cons_of_neg h1]
      by_cases h2 : c x = true
      · rw [List.filter_cons_of_pos h2]
        simp
        omega
      · rw [List.filter_cons_of_neg h2]
        exact ih

/-- the exiting thread's actor is no longer alive; what it had parked stays counted -/
theorem InvBφ.texit {s : BSt} (h : InvBφ φ s) (a : Nat) : InvBφ φ (s.setActor a (fun x => { x with alive := false })) := by
  have hcb : ∀ id, cntB (s.setActor a (fun x => { x with alive := false })) id = cntB s id :=
    fun id => cntB_setActor_same s a (fun x => { x with alive := false }) (fun _ => rfl) id
  refine ⟨fun id => by unfold tot; rw [hcb]; exact h.uniq id,
    fun id hid => by unfold tot; rw [hcb]; exact h.lt id hid, fun b => ?_⟩
  refine Nat.le_trans (filter_len_map_le s.actors _ _ ?_) (h.ua b)
  intro x hx
  split at hx
  · simp at hx
  · exact hx

theorem InvBφ.tstart {s : BSt} (h : InvBφ φ s) (a : Nat) (hnone : (s.actor a).isSome = false) :
    InvBφ φ { s with actors := s.actors ++ [{ id := a }] } := by
  have hcb : ∀ id, cntB ({ s with actors := s.actors ++ [({ id := a } : Actor)] } : BSt) id = cntB s id := by
    intro id
    show ((s.actors ++ [({ id := a } : Actor)]).map _).sum = _
    rw [List.map_append, List.sum_append]
    rfl
  refine ⟨fun id => by unfold tot; rw [hcb]; exact h.uniq id, fun id hid => by unfold tot; rw [hcb]; exact h.lt id hid, ?_⟩
  intro b
  show ((s.actors ++ [({ id := a } : Actor)]).filter _).length ≤ 1
  rw [List.filter_append, List.length_append]
  by_cases hb : b = a
  · subst hb
    have : s.actors.filter (fun x => x.id = b ∧ x.alive) = [] := by
      rw [List.filter_eq_nil_iff]
      intro x hx
      have : s.actor b = none := by simpa using hnone
      unfold BSt.actor at this
      exact List.find?_eq_none.mp this x hx
    rw [this]
    simp
  · have := h.ua b
    have h2 : ([({ id := a } : Actor)].filter (fun x => x.id = b ∧ x.alive)) = [] := by
      simp
      omega
    rw [h2]
    simpa using this

/-- a record may be enqueued or parked by `a` if there is room for its id -/
theorem InvBφ.rules : FrontRules (fun _ => True) (InvBφ φ) (fun a st s => Room φ s a st) :=
  .ofStrip (fun _ _ e h => h.of_same (of_stripLg (·.actors) (fun _ => rfl) e) (of_stripLg (·.nextId) (fun _ => rfl) e)
      (fun id => cntA_of_ths (of_stripLg (·.ths) (fun _ => rfl) e) id)) {
    enq := fun _ _ _ _ _ _ _ _ _ _ r => InvBφ.enqFlow r ..
    stall := fun _ a _ st cont _ _ _ r => InvBφ.park r (Mid.refl a r.ua) _ (fun _ => ⟨rfl, rfl⟩) (.stall st cont) (fun _ => rfl)
      (fun _ => Nat.le_refl _)
    parked := fun _ a x st _ _ h hx hp =>
      have hl : pendL x.pend = [st] := by rcases hp with e | e <;> rw [e] <;> rfl
      ⟨h.room_parked a x hx st st hl (fun _ => rfl), h.room_parked a x hx st _ hl (fun _ => rfl)⟩
    flagDone := fun _ a _ _ _ h _ _ _ =>
      InvBφ.park (h.room_ctl a { (default : Stmt) with kind := .flushBt } rfl) (Mid.refl a h.ua) _ (keepsId_pend _)
        .none (fun _ => rfl) (fun _ => Nat.zero_le _)
    actorMisc := fun _ a f h hf => h.setActorMisc a f (fun x => ⟨(hf x).1, (hf x).2.1⟩) (fun x => (hf x).2.2.2)
    pre := fun _ _ _ _ _ a _ _ h hp _ _ => by
      -- a log statement carries the id the call has just drawn, a control request is not counted
      cases hp with
      | log => exact ⟨h.bumpId, fun _ _ _ _ => h.room_fresh a _ rfl⟩
      | initBt | flushBt => exact ⟨h, fun _ _ _ _ => h.room_ctl a _ rfl⟩
      | flush | removal =>
        suffices h1 : InvBφ φ _ from ⟨h1, fun _ _ _ _ => h1.room_ctl a _ rfl⟩
        exact h.of_same rfl rfl (fun _ => rfl)
    tick := fun _ _ h => h.of_same rfl rfl (fun _ => rfl)
    tstart := fun _ a _ h ha => h.tstart a (by rw [ha]; rfl)
    texitCtx := fun s a i _ h _ _ =>
      InvBφ.of_same (s := (s.setActor a (fun x => { x with alive := false })).setTh i (fun t => { t with valid := false }))
        ((h.texit a).setTh_same i _ rfl) rfl rfl (fun _ => rfl)
    texitNoCtx := fun _ a _ h _ _ => h.texit a }

theorem InvBφ.resume {s : BSt} (h : InvBφ φ s) (a : Nat) : InvBφ φ (resume s a).1 :=
  InvBφ.rules.toActorRules.resume_fst h a

theorem InvBφ.front {s : BSt} (h : InvBφ φ s) (f : FOp) : InvBφ φ (applyFront s f).1 :=
  InvBφ.rules.front h f

theorem InvBφ.of_core {s s' : BSt} (h : InvBφ φ s) (c : Core s s') : InvBφ φ s' :=
  h.of_same c.actors c.nextId (fun id => cntA_of_ths c.ths id)

theorem InvBφ.closed : Closed (InvBφ φ) :=
  Closed.of_hk (fun h k => h.of_same k.actors k.nextId k.cntA)
    (fun _ _ h f => h.of_core f.core)
    (fun s i st rest h _ => by
      obtain ⟨s2, c, e⟩ := popStep_eq s i st rest
      rw [e]
      refine InvBφ.setTh_same ?_ i _ rfl
      exact (h.of_core c).of_same rfl rfl (fun _ => rfl))
    (fun s i h _ => by
      unfold PA.failReset
      exact InvBφ.of_same (h.setTh_same i _ rfl) rfl rfl (fun _ => rfl))
    (fun _ f h => h.front f)

theorem InvB.toφ {s : BSt} (h : InvB s) : InvBφ (fun _ => 0) s := ⟨h.uniq, h.lt, h.ua⟩
theorem InvBφ.toB {s : BSt} (h : InvBφ (fun _ => 0) s) : InvB s := ⟨h.uniq, h.lt, h.ua⟩

theorem InvB.closed : Closed InvB := (InvBφ.closed (φ := fun _ => 0)).congr (fun _ => ⟨InvBφ.toB, InvB.toφ⟩)

def phantom (id0 : Nat) : Nat → Nat := fun id => if id = id0 then 1 else 0

/-- the id lies below `nextId` but no statement carries it: neither an accepted history nor a parked call -/
structure Unplaced (s : BSt) (id0 : Nat) : Prop where
  lt : id0 < s.nextId
  none : tot s id0 = 0

theorem InvBφ.of_unplaced {s : BSt} {id0 : Nat} (h : InvB s) (u : Unplaced s id0) : InvBφ (phantom id0) s := by
  refine ⟨fun id => ?_, fun id hid => ?_, h.ua⟩
  · unfold phantom
    split
    · next e => rw [e, u.none]; exact Nat.le_refl _
    · have := h.uniq id; omega
  · unfold phantom
    split
    · next e => have := u.lt; omega
    · have := h.lt id hid; omega

theorem InvBφ.unplaced {s : BSt} {id0 : Nat} (h : InvBφ (phantom id0) s) : Unplaced s id0 := by
  have h1 := h.uniq id0
  simp only [phantom, if_true] at h1
  refine ⟨?_, by omega⟩
  by_cases hlt : id0 < s.nextId
  · exact hlt
  · have := h.lt id0 (by omega)
    simp only [phantom, if_true] at this
    omega

/-- an unplaced id stays unplaced for ever: ids are allocated once and a statement object moves only from a
    parked call into an accepted history -/
theorem Unplaced.run {s : BSt} {id0 : Nat} (h : InvB s) (u : Unplaced s id0) (ops : List Op) :
    Unplaced (runOps s ops) id0 :=
  (runOps_closed InvBφ.closed ops s (InvBφ.of_unplaced h u)).unplaced

end Backend.PA
