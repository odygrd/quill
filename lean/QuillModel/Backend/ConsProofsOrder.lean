import QuillModel.Backend.ConsProofsExact
/-!
C03 "in thread order", at every sink: if a context popped `x` before `y` (both ordinary), then in the whole history
every ordinary write of `x` at a sink is older than every ordinary write of `y` at that sink (`OrdPair`). Invariant
`OrdInv` over all pairs of all `popped` histories, closed under every step; with conservation (`popped` is a prefix of
`accepted`) and "nothing is written before the pop" this gives the order for any two accepted statements.
-/
namespace Backend.PA

/-- in `log` (newest first) no ordinary write of `a` at `sid` is newer than an ordinary write of `b` at `sid` -/
def OrdPair (log : List Ev) (sid a b : Nat) : Prop :=
  ∀ pre suf, log = pre ++ suf → 0 < wcount suf sid b → wcount pre sid a = 0

theorem OrdPair.extend {log : List Ev} {sid a b : Nat} (evs : List Ev) (h0 : wcount evs sid a = 0)
    (hold : OrdPair log sid a b ∨ wcount log sid b = 0) : OrdPair (evs ++ log) sid a b := by
  intro pre suf he hb
  rcases List.append_eq_append_iff.mp he with ⟨c, h1, h2⟩ | ⟨c, h1, h2⟩
  · -- pre = evs ++ c, log = c ++ suf
    rw [h1, wcount_append, h0]
    rcases hold with hold | hz
    · rw [hold c suf h2 hb]
    · rw [h2, wcount_append] at hz; omega
  · -- evs = pre ++ c
    rw [h1, wcount_append] at h0; omega

theorem Inv.popped_ne_unpopped {s : BSt} (h : Inv s) {i j : Nat} {x st : Stmt} (hx : x ∈ (s.th i).popped)
    (hox : isOrd x = true) (hst : st ∈ (s.th j).buf ++ (s.th j).qStmts) (hos : isOrd st = true) : st.id ≠ x.id := by
  intro e
  have h1 := h.popped_counted hx hox
  have h2 := h.unpopped hst hos
  rw [e] at h2; omega

theorem getElem?_snoc_lt {α} {l : List α} {a x y : α} {p q : Nat} (hpq : p < q) (hx : (l ++ [a])[p]? = some x)
    (hy : (l ++ [a])[q]? = some y) : l[p]? = some x ∧ (l[q]? = some y ∨ y = a) := by
  by_cases hq : q < l.length
  · rw [List.getElem?_append_left (Nat.lt_trans hpq hq)] at hx
    rw [List.getElem?_append_left hq] at hy
    exact ⟨hx, Or.inl hy⟩
  · by_cases hq' : q = l.length
    · subst hq'
      rw [List.getElem?_append_left hpq] at hx
      rw [List.getElem?_append_right (Nat.le_refl _), Nat.sub_self] at hy
      exact ⟨hx, Or.inr (Option.some.inj hy).symm⟩
    · have hlen : (l ++ [a]).length ≤ q := by
        rw [List.length_append]
        exact Nat.succ_le_of_lt (Nat.lt_of_le_of_ne (Nat.le_of_not_lt hq) (Ne.symm hq'))
      rw [List.getElem?_eq_none hlen] at hy
      cases hy

structure OrdInv (sid : Nat) (s : BSt) : Prop where
  inv : Inv s
  ord : ∀ (i p q : Nat) (x y : Stmt), p < q → (s.th i).popped[p]? = some x → (s.th i).popped[q]? = some y →
    isOrd x = true → isOrd y = true → OrdPair s.log sid x.id y.id

theorem OrdInv.quiet {sid : Nat} {s s' : BSt} (h : OrdInv sid s) (hi : Inv s') (hq : Still s s') : OrdInv sid s' := by
  obtain ⟨evs, he, hn⟩ := hq.log
  refine ⟨hi, fun i p q x y hpq hx hy hox hoy => ?_⟩
  rw [hq.ps.th i] at hx hy
  rw [he]
  exact OrdPair.extend evs (wcount_of_wkeys_nil (wkeys_nowrite hn) sid x.id) (Or.inl (h.ord i p q x y hpq hx hy hox hoy))

theorem OrdInv.closed (sid : Nat) : Closed (OrdInv sid) :=
  Closed.of_still_inv (fun h => h.inv) (fun h hi q => h.quiet hi q) (fun s j st rest h hb => by
    have hI := Inv.closed.pop s j st rest h.inv hb
    obtain ⟨hbuf, hpop, _, hoth⟩ := popStep_pops s j st rest hb
    obtain ⟨evs, he, hev⟩ := h.inv.pop_log_ext hb sid
    have hstm : st ∈ (s.th j).buf ++ (s.th j).qStmts := by rw [hb]; simp
    refine ⟨hI, fun i p q x y hpq hx hy hox hoy => ?_⟩
    rw [he]
    -- `x` was popped before this step, so the step writes nothing of it; `y` was too, or it is the one popped now
    have hsplit : (s.th i).popped[p]? = some x ∧ ((s.th i).popped[q]? = some y ∨ y = st) := by
      by_cases hij : i = j
      · subst hij
        rw [hpop] at hx hy
        exact getElem?_snoc_lt hpq hx hy
      · rw [hoth i hij] at hx hy
        exact ⟨hx, Or.inl hy⟩
    obtain ⟨hxold, hyc⟩ := hsplit
    have h0 : wcount evs sid x.id = 0 := hev _ (h.inv.popped_counted (List.mem_of_getElem? hxold) hox)
    rcases hyc with hyold | rfl
    · exact OrdPair.extend evs h0 (Or.inl (h.ord i p q x y hpq hxold hyold hox hoy))
    · exact OrdPair.extend evs h0 (Or.inr (h.inv.unpopped_unwritten hstm hoy sid)))

/-- thread order at every sink: two ordinary statements accepted by the same context in this order are never
    written to a sink in the opposite order -/
theorem OrdInv.accepted_order {sid : Nat} {s : BSt} (h : OrdInv sid s) (i : Nat) (l1 l2 l3 : List Stmt) (x y : Stmt)
    (ha : (s.th i).accepted = l1 ++ x :: (l2 ++ y :: l3)) (hox : isOrd x = true) (hoy : isOrd y = true) :
    OrdPair s.log sid x.id y.id := by
  have hcons := (h.inv.a.th i).cons
  rw [List.append_assoc] at hcons
  have hxi : (s.th i).accepted[l1.length]? = some x := by rw [ha]; simp
  have hyi : (s.th i).accepted[l1.length + 1 + l2.length]? = some y := by
    rw [ha, List.getElem?_append_right (by omega)]
    have : l1.length + 1 + l2.length - l1.length = l2.length + 1 := by omega
    rw [this]; simp
  by_cases hq : l1.length + 1 + l2.length < (s.th i).popped.length
  · rw [hcons, List.getElem?_append_left hq] at hyi
    rw [hcons, List.getElem?_append_left (by omega)] at hxi
    exact h.ord i _ _ x y (by omega) hxi hyi hox hoy
  · rw [hcons, List.getElem?_append_right (by omega)] at hyi
    have hym : y ∈ (s.th i).buf ++ (s.th i).qStmts := List.mem_of_getElem? hyi
    have hz := h.inv.unpopped_unwritten hym hoy sid
    intro pre suf he hb
    rw [he, wcount_append] at hz; omega

theorem OrdInv.run {sid : Nat} {s : BSt} (h : OrdInv sid s) (ops : List Op) : OrdInv sid (runOps s ops) :=
  runOps_closed (OrdInv.closed sid) ops s h

end Backend.PA
