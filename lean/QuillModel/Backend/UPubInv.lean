import QuillModel.Backend.UPub
import QuillModel.Backend.UInvClosed
/-!
The publication invariant along every operation list of the U machine: `GI (Tx none) c` is closed (`ClosedU`) when the
drain rule of `commit_read` is on, with its own proof of the read pass (the invariant is suspended for the context
being read and re-established by the `commit_read` that ends every read that consumed something).
-/
namespace Backend.US
open Backend.UQ

variable {u : UP} {c : Cfg}

theorem pi_suspend {s : BSt} (h : GI (Tx none) c s) (i : Nat) : GI (Tx (some i)) c s :=
  ⟨h.ui, fun j => ⟨(h.t j).1, fun _ => (h.t j).2 (by simp)⟩, h.cfg⟩

theorem pi_resume {s : BSt} {i : Nat} (h : GI (Tx (some i)) c s) (hp : Pub (s.th i)) : GI (Tx none) c s :=
  ⟨h.ui, fun j => ⟨(h.t j).1, fun _ => by
    by_cases hj : j = i
    · rw [hj]; exact hp
    · exact (h.t j).2 (by simp [hj])⟩, h.cfg⟩

theorem pi_setThEx {s : BSt} {i : Nat} (h : GI (Tx (some i)) c s) (f : Th → Th) (hui : TI (s.th i) → TI (f (s.th i)))
    (hF : F (s.th i) → F (f (s.th i))) : GI (Tx (some i)) c (s.setTh i f) :=
  h.setTh i f hui (fun _ hT => ⟨hF hT.1, fun hne => absurd rfl hne⟩)

theorem pub_default : Pub (default : Th) := fun _ _ => rfl

theorem pi_commit (hdp : c.qp.drainPublish = true) {s : BSt} {i : Nat} (h : GI (Tx (some i)) c s) :
    GI (Tx none) c (commitReadU s i) := by
  have h1 : GI (Tx (some i)) c (commitReadU s i) := pi_setThEx h _ (fun ht => ht.commitRead s.cfg) (fun hf => hf)
  apply pi_resume h1
  unfold commitReadU
  rw [th_setTh]
  split
  · exact commit_Pub s.cfg (by rw [h.cfg]; exact hdp) _ (h.ui.th i)
  · next hc =>
    have : s.th i = default := th_default_of_ge s i (by
      by_cases hi : i < s.ths.length
      · exact absurd ⟨rfl, hi⟩ hc
      · omega)
    rw [this]; exact pub_default

theorem readOneU_th (s : BSt) (i : Nat) (st : Stmt) (rest : List Stmt) (j : Nat) :
    (readOneU s i st rest).th j =
      if j = i ∧ j < s.ths.length then
        { uFinishRead s.cfg (s.th j) st.size with qStmts := rest, buf := (s.th j).buf ++ [st] } else s.th j := by
  unfold readOneU
  dsimp only
  split <;> rw [th_setTh] <;> rfl

theorem GI.readStep {T : Nat → Th → Prop} {s : BSt} (h : GI T c s) (u : UP) (i : Nat) (st : Stmt) (rest : List Stmt)
    (hsR : GI T c (s.setTh i (fun t => (uRead s.cfg u.follow (t.more.length + 1) t).1)))
    (hq : (s.th i).qStmts = st :: rest)
    (ho : (uRead s.cfg u.follow ((s.th i).more.length + 1) (s.th i)).2.1 = true)
    (hT : ∀ (cf : Cfg) (t : Th), T i t → T i { uFinishRead cf t st.size with qStmts := rest, buf := t.buf ++ [st] }) :
    GI T c (readOneU (s.setTh i (fun t => (uRead s.cfg u.follow (t.more.length + 1) t).1)) i st rest) := by
  refine ⟨h.ui.readStep u i st rest hq ho, fun j => ?_, ?_⟩
  · rw [readOneU_th]
    split
    · next hc => rw [hc.1]; exact hT _ _ (hsR.t i)
    · exact hsR.t j
  · unfold readOneU
    dsimp only
    split <;> exact h.cfg

/-- the read pass of context `i` under the publication invariant: the reader position of `i` is owed back only while
    nothing has been consumed (a record has a positive size); the `commit_read` that ends any other read publishes -/
theorem pi_readQ (hdp : c.qp.drainPublish = true) (table : List (Nat × Nat × List UFOp)) (tsNow : Option Nat) (i qcap0 : Nat)
    (fuel total : Nat) (s : BSt) (h : GI (Tx (some i)) c s) (hp : total = 0 → Pub (s.th i)) :
    GI (Tx none) c (readQueueU u (runInjU u table) tsNow i qcap0 fuel total s) := by
  have haux : ∀ (total : Nat) (s s' : BSt), GI (Tx (some i)) c s ∧ (total = 0 → Pub (s.th i)) →
      s'.cfg = s.cfg → s'.ths = s.ths → s'.actors = s.actors → GI (Tx (some i)) c s' ∧ (total = 0 → Pub (s'.th i)) :=
    fun _ _ _ h h1 h2 h3 => ⟨h.1.aux h1 h2 h3, by rw [th_of_ths_eq h2]; exact h.2⟩
  refine readQ_walk (R := fun total s => GI (Tx (some i)) c s ∧ (total = 0 → Pub (s.th i))) _ tsNow i qcap0
    (fun total s h => ?_) (fun _ s h => pi_commit hdp h.1) (fun total s l h => note_closed (haux total) l _ ⟨?_, fun ht => ?_⟩)
    (fun total s st rest l h hq ho => ⟨?_, fun h0 => ?_⟩) fuel total s ⟨h, hp⟩
  · split
    · exact pi_commit hdp h.1
    · next ht => exact pi_resume h.1 (h.2 (by simpa using ht))
  -- the state after `_read_unbounded_frontend_queue`
  · exact pi_setThEx h.1 _ (fun ht => (uRead_spec s.cfg u.follow _ _ ht (by omega)).ti ht)
      (fun hf => (uRead_FP s.cfg u.follow _ _ hf).1)
  · rw [th_setTh]
    split
    · exact (uRead_FP s.cfg u.follow _ _ (h.1.t i).1).2 (h.2 ht)
    · exact h.2 ht
  · have hsR : GI (Tx (some i)) c (s.setTh i (fun t => (uRead s.cfg u.follow (t.more.length + 1) t).1)) :=
      pi_setThEx h.1 _ (fun ht => (uRead_spec s.cfg u.follow _ _ ht (by omega)).ti ht)
        (fun hf => (uRead_FP s.cfg u.follow _ _ hf).1)
    exact readTail_closed (fun _ _ h h1 h2 h3 => h.aux h1 h2 h3) _ (GI.runInjU (tx_closed u (some i)) table) l st _
      (h.1.readStep u i st rest hsR hq ho (fun _ _ hT => ⟨hT.1, fun hne => absurd rfl hne⟩))
  · have hpos : 0 < st.size := ccoh_pos _ _ _ (h.1.ui.th i).coh st (by rw [hq]; simp)
    omega

theorem pi_closed (u : UP) (c : Cfg) (hdp : c.qp.drainPublish = true) : ClosedU u (GI (Tx none) c) where
  aux := fun _ _ h h1 h2 h3 => h.aux h1 h2 h3
  emptyT := fun s i h => h.setTh i _ (fun ht => ht.emptyTest s.cfg)
    (fun _ hT => ⟨hT.1, fun hne hq hm => (rp_empty s.cfg _).k (hT.2 hne hq hm)⟩)
  dropT := fun _ i h => h.setTh i _ (fun ht => ht.same rfl rfl rfl rfl rfl rfl) (fun _ hT => hT)
  popT := fun _ i st rest h hb => h.setTh i _ (fun ht => ht.pop st rest hb) (fun _ hT => hT)
  front := fun _ f h => h.frontU (tx_closed u none) f
  readQ := fun table tsNow i qcap0 fuel s h =>
    pi_readQ hdp table tsNow i qcap0 fuel 0 s (pi_suspend h i) (fun _ => (h.t i).2 (by simp))

end Backend.US
