import QuillModel.Backend.QueueCalls
/-!
The coupling of one context's byte-level queue `q` with its abstract list `l` of committed, unread records, in the
clauses that every invariant of the backend model shares: everything written is published, the distance writer − reader
is the total size of `l`, no record is empty (`QLink`); and, where the consumer's cache matters, the cached writer
position is a record boundary of `l` (`QCache`). `PA.QCoh` is `QLink` plus the ghost record sizes, `PC.ThOK` is `QLink`
plus conservation, `PB.QC` is `QLink ∧ QCache`, `UQ.NI` is `PA.QCoh ∧ QCache`. Each clause is kept by the six queue
calls for its own reason, proved here once; the bundles' preservation lemmas assemble them.
-/
namespace Backend
open Spsc

def sizeSum (l : List Stmt) : Nat := (l.map (·.size)).sum

@[simp] theorem sizeSum_nil : sizeSum [] = 0 := rfl
@[simp] theorem sizeSum_cons (x : Stmt) (l : List Stmt) : sizeSum (x :: l) = x.size + sizeSum l := by simp [sizeSum]
@[simp] theorem sizeSum_append (a b : List Stmt) : sizeSum (a ++ b) = sizeSum a + sizeSum b := by simp [sizeSum]

theorem eq_nil_of_sizeSum {l : List Stmt} (hp : ∀ st ∈ l, 0 < st.size) (hs : sizeSum l = 0) : l = [] := by
  cases l with
  | nil => rfl
  | cons x xs => have := hp x List.mem_cons_self; rw [sizeSum_cons] at hs; omega

structure QLink (q : St) (l : List Stmt) : Prop where
  pub : q.wHist.headD 0 = q.wpos
  dist : q.wpos = q.rpos + sizeSum l
  pos : ∀ st ∈ l, 0 < st.size

namespace QLink
variable {q q' : St} {l : List Stmt}

theorem init (cap batch : Nat) : QLink (Spsc.init cap batch) [] := ⟨rfl, rfl, fun _ h => nomatch h⟩

theorem congr (h : QLink q l) (hw : q'.wpos = q.wpos) (hr : q'.rpos = q.rpos) (hh : q'.wHist.headD 0 = q.wHist.headD 0) :
    QLink q' l :=
  ⟨by rw [hh, hw]; exact h.pub, by rw [hw, hr]; exact h.dist, h.pos⟩

theorem prepareWrite (h : QLink q l) (c : Cfg) (n : Nat) : QLink (qPrepareWrite c q n).1 l := by
  obtain ⟨_, _, e⟩ := qPrepareWrite_upd c q n
  rw [e]; exact h.congr rfl rfl rfl

theorem emptyTest (h : QLink q l) (c : Cfg) : QLink (qEmpty c q).1 l := by
  obtain ⟨_, _, e, _⟩ := qEmpty_upd c q
  rw [e]; exact h.congr rfl rfl rfl

theorem prepareRead (h : QLink q l) (c : Cfg) : QLink (qPrepareRead c q).1 l := qPrepareRead_fst c q ▸ h.emptyTest c

theorem commitRead (h : QLink q l) (c : Cfg) : QLink (qCommitRead c q) l := by
  obtain ⟨_, e⟩ := qCommitRead_upd c q
  rw [e]; exact h.congr rfl rfl rfl

theorem enq (h : QLink q l) (c : Cfg) (st : Stmt) (hp : 0 < st.size) : QLink (qFinishCommit c q st.size) (l ++ [st]) := by
  refine ⟨rfl, ?_, ?_⟩
  · show q.wpos + st.size = q.rpos + sizeSum (l ++ [st])
    rw [h.dist, sizeSum_append, sizeSum_cons, sizeSum_nil]; omega
  · intro x hx
    rcases List.mem_append.mp hx with hx | hx
    · exact h.pos x hx
    · rw [List.mem_singleton.mp hx]; exact hp

theorem read {st : Stmt} {rest : List Stmt} (h : QLink q (st :: rest)) (c : Cfg) : QLink (qFinishRead c q st.size) rest := by
  refine ⟨h.pub, ?_, fun x hx => h.pos x (List.mem_cons_of_mem _ hx)⟩
  show q.wpos = q.rpos + st.size + sizeSum rest
  rw [h.dist, sizeSum_cons]; omega

theorem nil_of_eq (h : QLink q l) (he : q.wHist.headD 0 = q.rpos) : l = [] :=
  eq_nil_of_sizeSum h.pos (by have := h.pub; have := h.dist; omega)

theorem nil_of_empty (h : QLink q l) {c : Cfg} (he : (qEmpty c q).2 = true) : l = [] := h.nil_of_eq (qEmpty_true c q he)

end QLink

def QCache (q : St) (l : List Stmt) : Prop := ∃ pre suf, l = pre ++ suf ∧ q.wcache = q.rpos + sizeSum pre

namespace QCache
variable {q q' : St} {l : List Stmt}

theorem init (cap batch : Nat) : QCache (Spsc.init cap batch) [] := ⟨[], [], rfl, rfl⟩

theorem congr (h : QCache q l) (hc : q'.wcache = q.wcache) (hr : q'.rpos = q.rpos) : QCache q' l := by
  obtain ⟨pre, suf, e, hw⟩ := h
  exact ⟨pre, suf, e, by rw [hc, hr]; exact hw⟩

/-- a reload moves the cache to the end of `l` -/
theorem emptyTest (h : QCache q l) (hl : QLink q l) (c : Cfg) : QCache (qEmpty c q).1 l := by
  obtain ⟨w, _, e, hw⟩ := qEmpty_upd c q
  rw [e]
  rcases hw with hw | hw
  · exact h.congr hw rfl
  · exact ⟨l, [], (List.append_nil l).symm, by show w = q.rpos + sizeSum l; rw [hw, hl.pub, hl.dist]⟩

theorem enq (h : QCache q l) (c : Cfg) (st : Stmt) : QCache (qFinishCommit c q st.size) (l ++ [st]) := by
  obtain ⟨pre, suf, e, hw⟩ := h
  exact ⟨pre, suf ++ [st], by rw [e, List.append_assoc], hw⟩

/-- a record was offered, so the cache is ahead of the reader: after the read it is still a boundary -/
theorem read {st : Stmt} {rest : List Stmt} (h : QCache q (st :: rest)) (hne : q.wcache ≠ q.rpos) (c : Cfg) :
    QCache (qFinishRead c q st.size) rest := by
  obtain ⟨pre, suf, e, hw⟩ := h
  cases pre with
  | nil => exact absurd (by rw [hw, sizeSum_nil]; rfl) hne
  | cons x pre' =>
    obtain ⟨rfl, e'⟩ := List.cons.inj e
    exact ⟨pre', suf, e', by show q.wcache = q.rpos + st.size + sizeSum pre'; rw [hw, sizeSum_cons]; omega⟩

theorem empty_true (h : QCache q []) (hl : QLink q []) (c : Cfg) : (qEmpty c q).2 = true := by
  obtain ⟨pre, suf, e, hw⟩ := h
  obtain ⟨rfl, _⟩ := List.append_eq_nil_iff.mp e.symm
  exact (qEmpty_iff c q).mpr ⟨hw, by rw [hl.pub, hl.dist]; rfl⟩

end QCache
end Backend
