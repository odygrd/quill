import QuillModel.Backend.SinkProofs
/-!
`LS` through sink destruction, logger erasure and creation, the frontend operations and the backend's pieces;
the full C17 invariant `FInv = LInv ∧ LS` holds along every schedule (`FInv_runOps`). Helper lemmas for C17.
-/
namespace Backend.PC

def RefdBy (x : BSt) (sid : Nat) : Prop :=
  (x.sinkOf sid).userRef = true ∨ ∃ i, i < x.lgs.length ∧ (x.lgOf i).erased = false ∧ sid ∈ (x.lgOf i).sinks

theorem sinkRefs_pos_of_refd {x : BSt} {sid : Nat} (h : RefdBy x sid) : 0 < sinkRefs x sid := by
  unfold sinkRefs
  rcases h with h | ⟨i, hi, he, hm⟩
  · rw [h]; simp only [if_true]; omega
  · have : x.lgs[i] ∈ x.lgs.filter (fun l => !l.erased && l.sinks.contains sid) := by
      rw [List.mem_filter]
      refine ⟨List.getElem_mem hi, ?_⟩
      rw [← lgOf_eq_getElem x i hi, he]
      simp only [Bool.not_false, Bool.true_and, List.contains_iff_mem]
      exact hm
    have := List.length_pos_of_mem this
    omega

theorem refd_of_sinkRefs_pos {x : BSt} {sid : Nat} (h : 0 < sinkRefs x sid) : RefdBy x sid := by
  unfold sinkRefs at h
  cases hu : (x.sinkOf sid).userRef
  · right
    rw [hu] at h
    have hpos : 0 < (x.lgs.filter (fun l => !l.erased && l.sinks.contains sid)).length := by
      simpa using h
    obtain ⟨l, hl⟩ := List.exists_mem_of_length_pos hpos
    rw [List.mem_filter] at hl
    obtain ⟨hm, hc⟩ := hl
    obtain ⟨i, hi, rfl⟩ := List.getElem_of_mem hm
    simp only [Bool.and_eq_true, Bool.not_eq_true', List.contains_iff_mem] at hc
    exact ⟨i, hi, by rw [lgOf_eq_getElem x i hi]; exact hc.1, by rw [lgOf_eq_getElem x i hi]; exact hc.2⟩
  · exact Or.inl hu

theorem sinkRefs_zero_iff (x : BSt) (sid : Nat) : sinkRefs x sid = 0 ↔ ¬ RefdBy x sid := by
  constructor
  · intro h hr
    have := sinkRefs_pos_of_refd hr
    omega
  · intro h
    cases hz : sinkRefs x sid with
    | zero => rfl
    | succ n => exact absurd (refd_of_sinkRefs_pos (by omega)) h

theorem sinkRefs_zero {s : BSt} {sid : Nat} (h : sinkRefs s sid = 0) :
    (s.sinkOf sid).userRef = false ∧ ∀ i, i < s.lgs.length → (s.lgOf i).erased = false → sid ∉ (s.lgOf i).sinks := by
  have hn := (sinkRefs_zero_iff s sid).mp h
  refine ⟨?_, fun i hi he hm => hn (.inr ⟨i, hi, he, hm⟩)⟩
  cases hu : (s.sinkOf sid).userRef
  · rfl
  · exact absurd (.inl hu) hn

/-- an unreferenced sink exists: the default sink holds a user reference -/
theorem sinkOf_kill {s : BSt} {sid : Nat} (hr : sinkRefs s sid = 0) :
    (s.setSink sid (fun k => { k with alive := false })).sinkOf sid = { s.sinkOf sid with alive := false } ∧
    (∀ sid', sid' ≠ sid → (s.setSink sid (fun k => { k with alive := false })).sinkOf sid' = s.sinkOf sid') ∧
    (s.setSink sid (fun k => { k with alive := false })).sinks.map (·.sid) = s.sinks.map (·.sid) := by
  obtain ⟨r1, _⟩ := sinkRefs_zero hr
  have hex : ∃ x ∈ s.sinks, x.sid = sid := by
    apply Classical.byContradiction
    intro hne
    rw [sinkOf_default_of_not_mem s sid hne] at r1
    cases r1
  exact ⟨sinkOf_setSink_same s _ (fun _ h => h) hex, fun sid' hs => sinkOf_setSink_ne s _ (fun _ h => h) hs,
    setSink_sids s sid (fun k => { k with alive := false }) (fun x _ hx => hx)⟩

theorem LS_reapStep {s : BSt} (h : LS s) (sid : Nat) (ha : (s.sinkOf sid).alive = true) (hr : sinkRefs s sid = 0) :
    LS ((s.setSink sid (fun k => { k with alive := false })).emit (.sinkDtor sid)) := by
  obtain ⟨r1, r2⟩ := sinkRefs_zero hr
  obtain ⟨hsame, hne, hsids⟩ := sinkOf_kill hr
  refine ⟨?_, ?_, h.ring, ?_, ?_⟩
  · show ((s.setSink sid (fun k => { k with alive := false })).sinks.map (·.sid)).Nodup
    rw [hsids]; exact h.nodup
  · intro sid' hd
    have hd' : ((s.setSink sid (fun k => { k with alive := false })).sinkOf sid').alive = false := hd
    show ((s.setSink sid _).sinkOf sid').userRef = false ∧ _
    by_cases hs : sid' = sid
    · subst hs
      rw [hsame]; exact ⟨r1, r2⟩
    · rw [hne sid' hs] at hd' ⊢
      exact h.dead sid' hd'
  · intro sid' hal d hd
    have hal' : ((s.setSink sid (fun k => { k with alive := false })).sinkOf sid').alive = true := hal
    have hs : sid' ≠ sid := by
      intro e; subst e; rw [hsame] at hal'; cases hal'
    rw [hne sid' hs] at hal'
    have hd' : d ∈ Ev.sinkDtor sid :: s.log := hd
    rcases List.mem_cons.mp hd' with rfl | hd'
    · simp only [isDtor, beq_eq_false_iff_ne, ne_eq]; exact fun e => hs e.symm
    · exact h.nodtor sid' hal' d hd'
  · exact ⟨h.nouad, fun k hk => by cases hk⟩

theorem LS_reapSinks (sids : List Nat) : ∀ (s : BSt), LS s → LS (reapSinks s sids) :=
  reapSinksInj_pres LS (fun x _ => x) (fun _ h => h) (fun _ sid h ha hr => LS_reapStep h sid ha hr) sids

/-- erasing a logger object only removes references -/
theorem LS_erase {s : BSt} (h : LS s) (i : Nat) : LS (s.setLg i (fun l => { l with erased := true })) := by
  refine ⟨h.nodup, ?_, ?_, h.nodtor, h.nouad⟩
  · intro sid ha
    obtain ⟨h1, h2⟩ := h.dead sid ha
    refine ⟨h1, fun j hj he => ?_⟩
    rw [lgs_length_setLg] at hj
    rw [lgOf_setLg] at he ⊢
    split at he
    · cases he
    · rename_i hn; simp only [hn, if_false]; exact h2 j hj he
  · apply ring_setLg i _ h.ring
    intro r' hr' x hx
    right; exact ⟨r', hr', hx⟩

theorem find_of_mem_nodup : ∀ (l : List Sink), (l.map (·.sid)).Nodup → ∀ k ∈ l,
    l.find? (·.sid = k.sid) = some k
  | [], _, _, hk => by cases hk
  | y :: ys, hn, k, hk => by
    rw [List.map_cons, List.nodup_cons] at hn
    rw [List.find?_cons]
    rcases List.mem_cons.mp hk with rfl | hk'
    · simp
    · have : ¬ y.sid = k.sid := by
        intro e
        apply hn.1
        rw [e]; exact List.mem_map.mpr ⟨k, hk', rfl⟩
      simp only [this, decide_false]
      exact find_of_mem_nodup ys hn.2 k hk'

theorem sinkOf_of_mem_nodup {s : BSt} (hn : (s.sinks.map (·.sid)).Nodup) {k : Sink} (hk : k ∈ s.sinks) :
    s.sinkOf k.sid = k := by
  simp only [BSt.sinkOf, find_of_mem_nodup s.sinks hn k hk, Option.getD_some]

theorem lgOf_newLogger_lt (s : BSt) (g : Nat) (sl : List Nat) (nm : List (Nat × Nat)) (j : Nat) (hj : j < s.lgs.length) :
    BSt.lgOf { s with lgs := s.lgs ++ [{ gid := g, sinks := sl }], names := nm } j = s.lgOf j := by
  rw [lgOf_append (s := s) rfl, if_neg (Nat.ne_of_lt hj)]

theorem lgOf_newLogger_new (s : BSt) (g : Nat) (sl : List Nat) (nm : List (Nat × Nat)) :
    BSt.lgOf { s with lgs := s.lgs ++ [{ gid := g, sinks := sl }], names := nm } s.lgs.length = { gid := g, sinks := sl } := by
  rw [lgOf_append (s := s) rfl, if_pos rfl]

theorem lt_newLogger {s : BSt} {g : Nat} {sl : List Nat} {j : Nat}
    (hj : j < (s.lgs ++ [({ gid := g, sinks := sl } : Lg)]).length) : j < s.lgs.length ∨ j = s.lgs.length := by
  simp only [List.length_append, List.length_singleton] at hj
  omega

theorem LS_newLogger {s : BSt} (h : LS s) (g : Nat) (sl : List Nat) (nm : List (Nat × Nat))
    (hsl : ∀ sid ∈ sl, ∃ k ∈ s.sinks, k.sid = sid ∧ k.alive = true) :
    LS { s with lgs := s.lgs ++ [{ gid := g, sinks := sl }], names := nm } := by
  have hlt := lgOf_newLogger_lt s g sl nm
  have hnew := lgOf_newLogger_new s g sl nm
  refine ⟨h.nodup, ?_, ?_, h.nodtor, h.nouad⟩
  · intro sid ha
    obtain ⟨h1, h2⟩ := h.dead sid ha
    refine ⟨h1, fun j hj he => ?_⟩
    rcases lt_newLogger hj with hlt' | rfl
    · rw [hlt j hlt'] at he ⊢
      exact h2 j hlt' he
    · rw [hnew]
      intro hm
      obtain ⟨k, hk, hks, hka⟩ := hsl sid hm
      have := sinkOf_of_mem_nodup h.nodup hk
      rw [hks] at this
      have ha' : (s.sinkOf sid).alive = false := ha
      rw [this, hka] at ha'
      cases ha'
  · intro j hj r hbt
    rcases lt_newLogger hj with hlt' | rfl
    · rw [hlt j hlt'] at hbt
      exact h.ring j hlt' r hbt
    · rw [hnew] at hbt
      cases hbt

theorem sview_sinkPart (s : BSt) : sview (sinkPart s) = sview s := by
  simp only [sview, sinkPart, List.map_map]
  rfl

theorem LS_front (s : BSt) (f : FOp) (h : LS s) : LS (applyFront s f).1 := by
  rcases front_sinkPart s f with e | ⟨_, g, sl, nm, _, hsl, e⟩ | ⟨sid, lvl, _, e⟩ | ⟨sid, e⟩
  · exact LS_of_sview h (of_sinkPart sview sview_sinkPart e)
  · rw [e]
    exact LS_newLogger h g sl nm hsl
  · rw [e]
    exact LS_setSink h sid _ (fun _ => rfl) (fun _ => rfl) (fun _ hu => hu)
  · rw [e]
    exact LS_reapSinks _ _ (LS_setSink h sid _ (fun _ => rfl) (fun _ => rfl) (fun _ hu => by cases hu))

theorem ctxEmpty_sview (s : BSt) (i : Nat) : sview (ctxEmpty s i).1 = sview s := rfl

theorem refreshCache_sview (s : BSt) : sview (refreshCache s) = sview s := by
  unfold refreshCache
  split <;> rfl

theorem readOneSt_sview (s : BSt) (i : Nat) (st : Stmt) (rest : List Stmt) : sview (readOneSt s i st rest) = sview s := by
  unfold readOneSt moveSt decodeSt readPrepSt
  split <;> rfl

theorem allEmpty_sview (s : BSt) : sview (allEmpty s).1 = sview s := allEmpty_eq sview (fun _ => rfl) (fun _ _ => rfl) s

theorem hasPending_sview (s : BSt) : sview (hasPending s).1 = sview s := hasPending_eq sview (fun _ => rfl) (fun _ _ => rfl) s

/-- the full invariant behind C17 -/
def FInv (s : BSt) : Prop := LInv s ∧ LS s

theorem FInv.la0 {s : BSt} (h : FInv s) : LA0 s := h.1.2.1

theorem LS_popSt {s : BSt} (hL : LA s) (h : LS s) (i : Nat) (st : Stmt) (rest : List Stmt)
    (hb : (s.th i).buf = st :: rest) : LS (popSt s i st rest) := by
  have he : (s.lgOf st.lg).erased = false :=
    hL.1.live i (buf_head_lt hb) st (Or.inr (by rw [hb]; exact List.mem_cons_self))
  rw [popSt_proc]
  exact LS_of_sview (LS_procSt h st he) rfl

theorem LS_kept : Kept LInv LS where
  book _ _ _ _ _ _ h := LS_of_sview h rfl
  emitInj _ _ _ _ _ h := LS_emit_plain h _ (fun _ => rfl) (fun _ => rfl)
  note _ h := LS_emit_plain h _ (fun _ => rfl) (fun _ => rfl)
  recache _ _ h := LS_of_sview h rfl
  rdQ _ _ _ _ h _ _ := LS_of_sview h rfl
  dropCtx _ _ _ h _ _ _ _ := LS_of_sview h rfl
  erase _ i _ _ _ h' _ _ := LS_erase h' i
  reap _ sid _ h ha hr := LS_reapStep h sid ha hr
  flagRemoval _ _ _ _ _ _ h _ _ := LS_of_sview h rfl
  flushSinks _ _ h := LS_flushSinks h
  readOne s i st rest _ h _ _ := LS_of_sview h (readOneSt_sview s i st rest)
  report s i _ h _ :=
    LS_of_sview (LS_emit_plain (LS_of_sview (s' := s.setTh i (fun t => { t with fail := 0 })) h rfl) _
      (fun _ => rfl) (fun _ => rfl)) rfl
  -- the record popped is in a transit buffer, so `LA` says its logger is not erased
  pop _ i st rest hp h _ hb := LS_popSt hp.2 h i st rest hb
  raise _ _ h _ := LS_of_sview h rfl
  front s f _ h := LS_front s f h

theorem FInv_kept : Kept (fun _ => True) FInv := LInv_kept.and LS_kept

theorem FInv_closed : Closed FInv := FInv_kept.closed

theorem FInv_runOps (s0 : BSt) (h0 : FInv s0) (ops : List Op) : FInv (runOps s0 ops) :=
  runOps_closed FInv_closed ops s0 h0

end Backend.PC

namespace Backend
open PC

/-- initial states: no thread, no event yet; every name points to an existing object of that gid; sink ids are
    distinct, every sink is alive, no backtrace storage exists yet (the driver's `mkState`) -/
def LoggerFresh (s : BSt) : Prop :=
  (s.ths = [] ∧ s.registry = [] ∧ s.cache = [] ∧ s.newFlag = false ∧ s.invalidCnt = 0 ∧ s.actors = [] ∧ 0 < s.cfg.hdr) ∧
  (∀ p ∈ s.names, p.2 < s.lgs.length ∧ (s.lgOf p.2).gid = p.1) ∧
  (s.sinks.map (·.sid)).Nodup ∧ (∀ k ∈ s.sinks, k.alive = true) ∧ (∀ l ∈ s.lgs, l.bt = none) ∧ s.log = []

theorem fresh_sinkOf_alive {s : BSt} (h : LoggerFresh s) (sid : Nat) : (s.sinkOf sid).alive = true := by
  simp only [BSt.sinkOf]
  cases hf : s.sinks.find? (·.sid = sid) with
  | none => rfl
  | some k => exact h.2.2.2.1 k (List.mem_of_find?_eq_some hf)

theorem LoggerFresh.drain {s : BSt} (h : LoggerFresh s) : DrainFresh s := h.1

/-- above `DrainFresh.inv`: names resolve, sinks are alive and distinct, and every clause about a context, an actor or an
    event is empty -/
theorem LoggerFresh.inv {s : BSt} (h : LoggerFresh s) : FInv s := by
  have halive := fresh_sinkOf_alive h
  obtain ⟨hd, h2, h3, _, h5, h6⟩ := h
  have nth : ∀ {p : Nat → Prop} (i : Nat), i < s.ths.length → p i := fun i hi => by rw [hd.1] at hi; cases hi
  have nact : ∀ {p : Actor → Prop} (x : Actor), x ∈ s.actors → p x := fun x hx => by rw [hd.2.2.2.2.2.1] at hx; cases hx
  exact ⟨⟨DrainFresh.inv hd, { names := h2, pendOK := nact, live := nth, noname := nact, excl := nact }, nact⟩,
    { nodup := h3
      dead := fun sid ha => by rw [halive] at ha; cases ha
      ring := fun i _ r hbt => by rw [PA.lgOf_bt_none h5 i] at hbt; cases hbt
      nodtor := fun sid _ d hd => by rw [h6] at hd; cases hd
      nouad := by rw [h6]; exact trivial }⟩

end Backend
