import QuillModel.Backend.LiftOnceNodup
/-!
`CfgLe lv a b` (`a` earlier, `b` later): what the dispatch decision reads is in `b` as it is in `a` — every sink's id,
filter and `write_log` fault schedule, the sink lists of the loggers of `a`, and, when `lv = true`, every sink's level.
Every primitive step of the backend gives `CfgLe true`; a frontend operation gives `CfgLe false`, and `CfgLe true` unless it
is a `setSinkLevel` (`applyFront_lvl`: no other operation writes a sink's level).
-/
namespace Backend.PA

def notSinkLevel : FOp → Bool
  | .setSinkLevel .. => false
  | _ => true

def LvlSame (s s' : BSt) : Prop := ∀ sid, (s'.sinkOf sid).lvl = (s.sinkOf sid).lvl

theorem LvlSame.of_sinks {s s' : BSt} (h : s'.sinks = s.sinks) : LvlSame s s' := fun sid => by
  simp only [BSt.sinkOf, h]

theorem applyFront_lvl (s : BSt) (f : FOp) (hf : notSinkLevel f = true) : LvlSame s (applyFront s f).1 := by
  rcases front_sinkPart s f with e | ⟨_, g, sl, nm, _, _, e⟩ | ⟨sid, lvl, rfl, _⟩ | ⟨sid, e⟩
  · exact LvlSame.of_sinks (of_sinkPart (·.sinks) (fun _ => rfl) e)
  · rw [e]; exact LvlSame.of_sinks rfl
  · cases hf
  · rw [e]
    have h1 : Frame s (s.setSink sid (fun k => { k with userRef := false })) :=
      Frame.setSink s sid (fun k => { k with userRef := false }) (fun k => ⟨rfl, rfl, rfl, rfl, rfl, rfl⟩)
    exact fun j => ((h1.trans (reapSinks_frame _ _)).sinks j).lvl

structure CfgLe (lv : Bool) (a b : BSt) : Prop where
  sinks : ∀ sid, (b.sinkOf sid).sid = (a.sinkOf sid).sid ∧ (b.sinkOf sid).filtM = (a.sinkOf sid).filtM ∧
    (b.sinkOf sid).filtR = (a.sinkOf sid).filtR ∧ (b.sinkOf sid).wthrow = (a.sinkOf sid).wthrow
  lvl : lv = true → ∀ sid, (b.sinkOf sid).lvl = (a.sinkOf sid).lvl
  lgsLe : a.lgs.length ≤ b.lgs.length
  lgs : ∀ i, i < a.lgs.length → (b.lgOf i).sinks = (a.lgOf i).sinks

theorem CfgLe.refl (lv : Bool) (a : BSt) : CfgLe lv a a :=
  ⟨fun _ => ⟨rfl, rfl, rfl, rfl⟩, fun _ _ => rfl, Nat.le_refl _, fun _ _ => rfl⟩

theorem CfgLe.trans {lv : Bool} {a b c : BSt} (h1 : CfgLe lv a b) (h2 : CfgLe lv b c) : CfgLe lv a c :=
  ⟨fun sid => ⟨(h2.sinks sid).1.trans (h1.sinks sid).1, (h2.sinks sid).2.1.trans (h1.sinks sid).2.1,
      (h2.sinks sid).2.2.1.trans (h1.sinks sid).2.2.1, (h2.sinks sid).2.2.2.trans (h1.sinks sid).2.2.2⟩,
   fun hl sid => (h2.lvl hl sid).trans (h1.lvl hl sid), Nat.le_trans h1.lgsLe h2.lgsLe,
   fun i hi => (h2.lgs i (Nat.lt_of_lt_of_le hi h1.lgsLe)).trans (h1.lgs i hi)⟩

theorem CfgLe.of_stable {lv : Bool} {a b : BSt} (h : Stable a b) (hl : lv = true → LvlSame a b) : CfgLe lv a b :=
  ⟨fun sid => ⟨(h.sinks sid).1, (h.sinks sid).2.1, (h.sinks sid).2.2.1, (h.sinks sid).2.2.2.1⟩,
   fun hlv sid => hl hlv sid, h.lgsLe, fun i hi => (h.lgs i hi).2⟩

theorem CfgLe.weaken {lv : Bool} {a b : BSt} (h : CfgLe true a b) : CfgLe lv a b :=
  ⟨h.sinks, fun _ => h.lvl rfl, h.lgsLe, h.lgs⟩

theorem CfgLe.refresh (lv : Bool) (s : BSt) : CfgLe lv s (refreshCache s) :=
  .of_stable (.of_ctx (refreshCache_hk s).ctx) (fun _ => .of_sinks (refreshCache_hk s).sinks)

/-- the condition on frontend operations under which `CfgLe lv` survives: none if `lv = false`, no `setSinkLevel` else -/
def lvAllowed (lv : Bool) (f : FOp) : Bool := !lv || notSinkLevel f

theorem lvAllowed_spec {lv : Bool} {f : FOp} (h : lvAllowed lv f = true) : lv = true → notSinkLevel f = true := by
  intro hl
  subst hl
  simpa [lvAllowed] using h

theorem CfgLe.prim {lv : Bool} {s s' : BSt} (hp : Prim (lvAllowed lv) s s') : CfgLe lv s s' :=
  .of_stable (Stable.prim hp) fun hl => by
    rcases hp.back_or_front with ⟨s0, c, x⟩ | ⟨f, ha, rfl⟩
    · intro sid
      rw [x]
      exact (c.sinks sid).lvl
    · exact applyFront_lvl s f (lvAllowed_spec ha hl)

theorem CfgLe.closedOn (lv : Bool) (s0 : BSt) : ClosedOn (lvAllowed lv) (fun s => CfgLe lv s0 s) :=
  closedOn_of_rel (R := CfgLe lv) CfgLe.trans (fun _ _ => CfgLe.prim) s0

/-!
`WInvS lv n T s`: `WInvR` with the relation `CfgLe lv`: for the popped ordinary statements that `T` tracks, the pop-time
state `s'` also satisfies `CfgLe lv s' s` and has at least `n` loggers. Closed under every primitive
and under the frontend operations `lvAllowed lv` (all for `lv = false`, all but `setSinkLevel` for `lv = true`).
`WInvS.final`: with `lv = true`, no `write_log` fault scheduled and the statement's logger among the first `n`, the count
in the whole history is the acceptance decision read off the current state.
-/

abbrev WInvS (lv : Bool) : Nat → (Nat → Stmt → Prop) → BSt → Prop := WInvR (CfgLe lv)

variable {lv : Bool} {n : Nat} {T : Nat → Stmt → Prop}

theorem WInvS.closedOn (lv : Bool) (n : Nat) (T : Nat → Stmt → Prop) : ClosedOn (lvAllowed lv) (WInvS lv n T) :=
  WInvR.closedOn (R := CfgLe lv) CfgLe.trans (fun _ _ => CfgLe.prim) n T

theorem lvAllowed_false (f : FOp) : lvAllowed false f = true := rfl

theorem opsAllowed_false (ops : List Op) : opsAllowed (lvAllowed false) ops = true :=
  opsAllowed_of_all lvAllowed_false ops

theorem WInvS.run {s : BSt} (h : WInvS false n T s) (ops : List Op) : WInvS false n T (runOps s ops) :=
  runOps_closedOn (WInvS.closedOn false n T) ops (opsAllowed_false ops) s h

theorem WInvS.runL {s : BSt} (h : WInvS true n T s) (ops : List Op) (ho : opsAllowed (lvAllowed true) ops = true) :
    WInvS true n T (runOps s ops) :=
  runOps_closedOn (WInvS.closedOn true n T) ops ho s h

theorem WInvS.of_start {s : BSt} (h : Inv s) (hp : ∀ i, (s.th i).popped = []) :
    WInvS lv s.lgs.length (fun _ _ => True) s :=
  ⟨h, Nat.le_refl _, fun i st hm _ _ => by rw [hp i] at hm; cases hm⟩

/-- start in the middle of a run: track the statements not popped yet -/
theorem WInvS.of_mid {s : BSt} (h : Inv s) : WInvS lv s.lgs.length (fun i st => st ∉ (s.th i).popped) s :=
  ⟨h, Nat.le_refl _, fun _ _ hm _ ht => absurd hm ht⟩

theorem dispatchCount_nofault (s : BSt) (st : Stmt) (sid : Nat) (ho : st.lvl ≠ 9) (hf : NoWriteFault s) :
    dispatchCount s st sid = ((s.lgOf st.lg).sinks.filter (acc s st)).count sid := by
  have h1 := writeToSinks_wcount_eq st ho sid (s.lgOf st.lg).sinks s
  rcases writeToSinks_spec st (s.lgOf st.lg).sinks s with ⟨_, h2⟩ | ⟨_, _, _, _, h2, _⟩
  · rw [h2, wcount_append, wcount_Ws, if_pos ⟨ho, rfl⟩] at h1
    unfold dispatchCount
    omega
  · rw [writeToSinks_nofault st _ s hf] at h2
    cases h2

theorem acc_cfgLe {a b : BSt} (h : CfgLe true a b) (st : Stmt) (k : Nat) : acc b st k = acc a st k := by
  unfold acc sinkAccepts
  rw [h.lvl rfl k, (h.sinks k).2.1, (h.sinks k).2.2.1]

theorem WInvS.final {s : BSt} (h : WInvS true n T s) (hf : NoWriteFault s) (i : Nat) (st : Stmt)
    (hm : st ∈ (s.th i).popped) (ho : isOrd st = true) (ht : T i st) (hlg : st.lg < n) (sid : Nat) :
    wcount s.log sid st.id = ((s.lgOf st.lg).sinks.filter (acc s st)).count sid := by
  obtain ⟨x, _, hxn, _, hxc, hx3⟩ := h.dec i st hm ho ht
  have hfx : NoWriteFault x := fun k => ((hxc.sinks k).2.2.2).symm.trans (hf k)
  rw [hx3 sid, dispatchCount_nofault x st sid (isOrd_lvl ho) hfx, hxc.lgs st.lg (Nat.lt_of_lt_of_le hlg hxn)]
  congr 2
  funext k
  exact (acc_cfgLe hxc st k).symm

end Backend.PA
