import QuillModel.Backend.UPubInv
/-!
Progress facts of the read pass of the U machine (the counterpart of `Backend/ConcGrow.lean`): with the F25
retry a read of a chain that holds a statement always offers one (`uRead_complete`). That the do-while of
`_read_and_decode_frontend_queue` then moves a record into the transit buffer is not proved for the U machine.
-/
namespace Backend.US
open Backend.UQ

theorem uPrepareRead_shape (c : Cfg) (t : Th) :
    ((uPrepareRead c t).2.2 = [] ∧ ((uPrepareRead c t).2.1 = false → (uPrepareRead c t).1.more = [])) ∨
    ((uPrepareRead c t).2.2 ≠ [] ∧ (uPrepareRead c t).1.more.length + 1 = t.more.length) := by
  unfold uPrepareRead
  dsimp only
  split
  · left; exact ⟨rfl, fun h => by simp at h⟩
  · split
    · next hm => left; exact ⟨rfl, fun _ => hm⟩
    · next nx rest hm =>
      split
      · left; exact ⟨rfl, fun h => by simp at h⟩
      · right; exact ⟨by simp, by simp [hm]⟩

theorem uRead_none_last (c : Cfg) : ∀ (fuel : Nat) (t : Th), t.more.length < fuel →
    (uRead c true fuel t).2.1 = false → (uRead c true fuel t).1.more = []
  | 0, _, hf, _ => by omega
  | fuel + 1, t, hf, hn => by
    unfold uRead at hn ⊢
    dsimp only at hn ⊢
    rcases uPrepareRead_shape c t with ⟨h1, h2⟩ | ⟨h1, h2⟩
    · have hc : (true && !(uPrepareRead c t).2.1 && !(uPrepareRead c t).2.2.isEmpty) = false := by simp [h1]
      simp only [hc, Bool.false_eq_true, ↓reduceIte] at hn ⊢
      exact h2 hn
    · by_cases ho : (uPrepareRead c t).2.1 = true
      · have hc : (true && !(uPrepareRead c t).2.1 && !(uPrepareRead c t).2.2.isEmpty) = false := by simp [ho]
        simp only [hc, Bool.false_eq_true, ↓reduceIte] at hn
        rw [ho] at hn
        cases hn
      · have hc : (true && !(uPrepareRead c t).2.1 && !(uPrepareRead c t).2.2.isEmpty) = true := by
          have : (uPrepareRead c t).2.2.isEmpty = false := by
            cases hl : (uPrepareRead c t).2.2 with
            | nil => exact absurd hl h1
            | cons _ _ => rfl
          simp [ho, this]
        simp only [hc, ↓reduceIte] at hn ⊢
        exact uRead_none_last c fuel _ (by omega) hn

theorem uRead_complete (c : Cfg) (t : Th) (h : TI t) (hq : t.qStmts ≠ []) :
    (uRead c true (t.more.length + 1) t).2.1 = true := by
  cases ho : (uRead c true (t.more.length + 1) t).2.1 with
  | true => rfl
  | false =>
    have r := uRead_spec c true (t.more.length + 1) t h (by omega)
    rw [ho] at r
    exact absurd (r.none rfl (uRead_none_last c _ t (by omega) ho)) hq

end Backend.US
