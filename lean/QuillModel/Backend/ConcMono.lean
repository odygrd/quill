import QuillModel.Backend.ConcBound
/-!
# Whatever is accepted later is committed later (for the progress of C06 / C09 under concurrency)

`Mono s s'`: the clock did not go back and every context's accepted history was extended by records whose commit clock
`enqAt` is at least the clock of `s`. It holds across every operation of the machine — frontend calls, a poll with
arbitrary injections, the exit loop (`mono_applyOp`, `mono_runOps`). With the grace premise (`enqAt ≤ ts + grace`) this
gives: once the clock is past `T + grace`, no record with a timestamp `≤ T` is accepted any more (`accLE_const`).
-/
namespace Backend.PB

structure Mono (s s' : BSt) : Prop where
  now : s.now ≤ s'.now
  acc : ∀ j, ∃ l, (s'.th j).accepted = (s.th j).accepted ++ l ∧ ∀ r ∈ l, s.now ≤ r.enqAt
  len : s.ths.length ≤ s'.ths.length
  /-- the unread part of a queue grows at most by what is accepted -/
  unread : ∀ j, (s.th j).accepted.length + (s'.th j).qStmts.length ≤ (s'.th j).accepted.length + (s.th j).qStmts.length
  gone : s.backendGone = true → s'.backendGone = true
  flags : ∀ f ∈ s.flags, f ∈ s'.flags

theorem Mono.ofAcc {s s' : BSt} (h1 : s.now ≤ s'.now) (h2 : ∀ j, (s'.th j).accepted = (s.th j).accepted)
    (h3 : s.ths.length ≤ s'.ths.length) (h4 : ∀ j, (s'.th j).qStmts.length ≤ (s.th j).qStmts.length)
    (h5 : s.backendGone = true → s'.backendGone = true) (h6 : ∀ f ∈ s.flags, f ∈ s'.flags) : Mono s s' :=
  ⟨h1, fun j => ⟨[], by rw [h2]; simp, fun _ h => by cases h⟩, h3, fun j => by rw [h2]; have := h4 j; omega, h5, h6⟩

theorem Mono.refl (s : BSt) : Mono s s :=
  Mono.ofAcc (Nat.le_refl _) (fun _ => rfl) (Nat.le_refl _) (fun _ => Nat.le_refl _) id (fun _ h => h)

theorem Mono.trans {a b c : BSt} (h1 : Mono a b) (h2 : Mono b c) : Mono a c := by
  refine ⟨Nat.le_trans h1.now h2.now, fun j => ?_, Nat.le_trans h1.len h2.len,
    fun j => by have := h1.unread j; have := h2.unread j; omega, fun h => h2.gone (h1.gone h),
    fun f hf => h2.flags f (h1.flags f hf)⟩
  obtain ⟨l1, e1, n1⟩ := h1.acc j
  obtain ⟨l2, e2, n2⟩ := h2.acc j
  refine ⟨l1 ++ l2, by rw [e2, e1, List.append_assoc], fun r hr => ?_⟩
  rcases List.mem_append.mp hr with h | h
  · exact n1 r h
  · exact Nat.le_trans h1.now (n2 r h)

theorem Mono.ofThs {s s' : BSt} (h1 : s'.ths = s.ths) (h2 : s.now ≤ s'.now) (h3 : s'.backendGone = s.backendGone)
    (h4 : ∀ f ∈ s.flags, f ∈ s'.flags := by exact fun _ h => h) : Mono s s' :=
  Mono.ofAcc h2 (fun j => congrArg Th.accepted (th_of_ths_eq h1 j)) (by rw [h1]; exact Nat.le_refl _)
    (fun j => by rw [th_of_ths_eq h1]; exact Nat.le_refl _) (fun h => by rw [h3]; exact h) h4

theorem Mono.ofEq {s s' : BSt} (h1 : s'.ths = s.ths) (h2 : s'.now = s.now) (h3 : s'.backendGone = s.backendGone)
    (h4 : ∀ f ∈ s.flags, f ∈ s'.flags := by exact fun _ h => h) : Mono s s' :=
  Mono.ofThs h1 (Nat.le_of_eq h2.symm) h3 h4

theorem Fr.mono {s s' : BSt} (h : Fr s s') : Mono s s' :=
  Mono.ofAcc (Nat.le_of_eq h.now.symm) (fun j => (h.th j).acc) (Nat.le_of_eq h.len.symm)
    (fun j => by
      obtain ⟨l, e⟩ := (h.th j).buf
      have hc := congrArg List.length (h.th j).chain
      unfold PB.chain at hc
      rw [e] at hc
      simp only [List.length_append] at hc
      omega)
    (fun hg => by rw [h.gone]; exact hg) (fun f hf => by rw [h.flags]; exact hf)

theorem Mono.setTh (s : BSt) (i : Nat) (f : Th → Th) (hf : ∀ t, (f t).accepted = t.accepted)
    (hq : ∀ t, (f t).qStmts.length ≤ t.qStmts.length) : Mono s (s.setTh i f) :=
  Mono.ofAcc (Nat.le_refl _) (rel_setTh (r := fun t t' => t'.accepted = t.accepted) (fun _ => rfl) s i f (hf _))
    (Nat.le_of_eq (ths_length_setTh s i f).symm)
    (rel_setTh (r := fun t t' => t'.qStmts.length ≤ t.qStmts.length) (fun _ => Nat.le_refl _) s i f (hq _)) id (fun _ h => h)

theorem mono_back : BackRel Mono where
  refl := Mono.refl
  trans := Mono.trans
  hk := fun h => Mono.ofEq h.ths h.now h.backendGone h.flags
  setThMisc := fun s i f hf => Mono.setTh s i f (fun t => (hf t).2.2.2) (fun t => by rw [(hf t).2.1]; exact Nat.le_refl _)
  ctxEmpty := fun s i => Mono.setTh s i _ (fun _ => rfl) (fun _ => Nat.le_refl _)
  pop := fun s j st rest _ =>
    (Mono.setTh s j (fun t => { t with buf := rest, popped := t.popped ++ [st] }) (fun _ => rfl) (fun _ => Nat.le_refl _)).trans
      (Mono.ofEq rfl rfl rfl)

theorem mono_ensureCtx (s : BSt) (a : Nat) : Mono s (Backend.ensureCtx s a).1 := by
  unfold Backend.ensureCtx
  split
  · exact Mono.refl _
  · simp only
    refine Mono.ofAcc (Nat.le_refl _) (fun j => th_newCtx_congr (·.accepted) s a rfl j) ?_ (fun j => ?_) id (fun _ h => h)
    · show s.ths.length ≤ (s.ths ++ [mkTh s.cfg a]).length
      simp
    · rw [th_newCtx_congr (·.qStmts) s a rfl j]; exact Nat.le_refl _

theorem Mono.setTh_app (s : BSt) (i : Nat) (f : Th → Th) (x : Stmt) (hx : s.now ≤ x.enqAt)
    (hf : (f (s.th i)).accepted = (s.th i).accepted ++ [x])
    (hq : (f (s.th i)).qStmts.length = (s.th i).qStmts.length + 1) : Mono s (s.setTh i f) :=
  ⟨Nat.le_refl _,
   rel_setTh (r := fun t t' => ∃ l, t'.accepted = t.accepted ++ l ∧ ∀ r ∈ l, s.now ≤ r.enqAt)
     (fun _ => ⟨[], (List.append_nil _).symm, fun _ h => nomatch h⟩) s i f
     ⟨[x], hf, fun r hr => by rw [List.mem_singleton.mp hr]; exact hx⟩,
   Nat.le_of_eq (ths_length_setTh s i f).symm,
   rel_setTh (r := fun t t' => t.accepted.length + t'.qStmts.length ≤ t'.accepted.length + t.qStmts.length)
     (fun _ => Nat.le_refl _) s i f (by rw [hf, hq, List.length_append, List.length_singleton]; omega),
   id, fun _ h => h⟩

theorem mono_tryEnq (s : BSt) (ci : Nat) (st : Stmt) : Mono s (Backend.tryEnq s ci st).1 := by
  unfold Backend.tryEnq
  simp only
  split
  · refine Mono.setTh_app s ci _ { st with enqAt := s.now } (Nat.le_refl _) rfl ?_
    show ((s.th ci).qStmts ++ [{ st with enqAt := s.now }]).length = _
    simp
  · refine Mono.setTh s ci _ ?_ ?_
    · intro _; rfl
    · intro _; exact Nat.le_refl _

theorem mono_front : FrontRel Mono where
  refl := Mono.refl
  trans := Mono.trans
  tick := fun _ _ => Mono.ofThs rfl (Nat.le_add_right _ _) rfl
  misc := fun _ _ _ _ _ _ _ _ _ _ _ _ => Mono.ofThs rfl (Nat.le_refl _) rfl
  setThMisc := fun s i f hf _ => Mono.setTh s i f (fun t => (hf t).2.2.2) (fun t => by rw [(hf t).2.1]; exact Nat.le_refl _)
  ensureCtx := mono_ensureCtx
  tryEnq := mono_tryEnq

theorem mono_read : ReadRel Mono := .ofFr Mono.refl Mono.trans Fr.mono

theorem mono_clock (s : BSt) (t : Nat) : Mono s { s with now := s.now + t } := Mono.ofThs rfl (Nat.le_add_right _ _) rfl

theorem mono_runOps (ops : List Op) (s : BSt) : Mono s (runOps s ops) :=
  PassRules.runOps (fun table => mono_back.passRules mono_read (mono_front.runInj table) mono_clock s)
    (fun x f h => h.trans (mono_front.applyFront x f)) (fun _ h => h.trans (Mono.ofEq rfl rfl rfl))
    (fun _ h => h.trans
      (Mono.ofAcc (Nat.le_refl _) (fun _ => rfl) (Nat.le_refl _) (fun _ => Nat.le_refl _) (fun _ => rfl) (fun _ h => h)))
    ops s (Mono.refl s)

theorem mono_applyOp (s : BSt) (o : Op) : Mono s (applyOp s o).1 := mono_runOps [o] s

theorem accLE_const {s s' : BSt} (h : Mono s s') (hc : s'.cfg = s.cfg) (hp : GracePremise s') (T : Nat)
    (hT : T + s.cfg.grace < s.now) : accLE s' T = accLE s T := by
  unfold accLE
  -- by index: the contexts of `s` are the first contexts of `s'`, and what a context accepted since is late
  rw [sum_ths_range s' _ rfl _ (Nat.le_refl _), sum_ths_range s _ rfl _ h.len]
  congr 1
  apply List.map_congr_left
  intro j _
  obtain ⟨l, e, hn⟩ := h.acc j
  rw [e, List.countP_append]
  have : l.countP (fun r => decide (r.ts ≤ T)) = 0 := by
    rw [List.countP_eq_zero]
    intro r hr
    have h1 := hn r hr
    have hj : j < s'.ths.length :=
      lt_length_of_th (P := fun t => r ∈ t.accepted) (by rw [e]; exact List.mem_append_right _ hr) (fun h => nomatch h)
    have h2 := hp (s'.th j) (th_mem s' hj) r (by rw [e]; exact List.mem_append_right _ hr)
    rw [hc] at h2
    simp only [decide_eq_true_eq]; omega
  omega

def pendingLE (s : BSt) (T : Nat) : Nat :=
  (s.ths.map (fun t => (t.buf ++ t.qStmts).countP (fun r => decide (r.ts ≤ T)))).sum

theorem accLE_eq {s : BSt} (hF : FI none [] s) (T : Nat) :
    accLE s T = PA.cntP s (fun r => decide (r.ts ≤ T)) + pendingLE s T := cA_eq hF _

theorem accLE_le {s : BSt} (hA : PA.Inv s) (hF : FI none [] s) (T : Nat) : accLE s T ≤ s.popLog.length + pendingLE s T := by
  rw [accLE_eq hF T, ← hA.p]
  exact Nat.add_le_add_right List.countP_le_length _

theorem Mono.running {s s' : BSt} (h : Mono s s') (hr : s'.backendGone = false) : s.backendGone = false := by
  cases hb : s.backendGone with
  | false => rfl
  | true => rw [h.gone hb] at hr; cases hr

theorem Mono.mem_acc {s s' : BSt} (h : Mono s s') {j : Nat} {r : Stmt} (hr : r ∈ (s.th j).accepted) :
    r ∈ (s'.th j).accepted := by
  obtain ⟨l, e, _⟩ := h.acc j
  rw [e]; exact List.mem_append_left _ hr

end Backend.PB
