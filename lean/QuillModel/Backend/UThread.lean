import QuillModel.Backend.UQueueProofs
/-!
Thread-level facts of the unbounded-queue machine: every operation the machine performs on a context's chain
(`uPrepareWrite`, `uFinishCommit`, `uShrink`, `uPrepareRead`, `uRead`, `uFinishRead`, `uCommitRead`, `uEmpty`) keeps
the context invariant `TI` — conservation `accepted = popped ++ buf ++ qStmts` and chain coherence — and the
emptiness test is sound.
-/
namespace Backend.UQ
open Spsc

structure TI (t : Th) : Prop where
  cons : t.accepted = t.popped ++ t.buf ++ t.qStmts
  coh : CCoh t.q t.more t.qStmts

theorem TI.default : TI (default : Th) := ⟨rfl, NI.init 1 0⟩
theorem TI.mkTh (c : Cfg) (a : Nat) : TI (mkTh c a) := ⟨rfl, NI.init _ _⟩

theorem TI.same {t t' : Th} (h : TI t) (h1 : t'.accepted = t.accepted) (h2 : t'.popped = t.popped) (h3 : t'.buf = t.buf)
    (h4 : t'.qStmts = t.qStmts) (h5 : t'.q = t.q) (h6 : t'.more = t.more) : TI t' :=
  ⟨by rw [h1, h2, h3, h4]; exact h.cons, by rw [h4, h5, h6]; exact h.coh⟩

theorem TI.chain {t t' : Th} (h : TI t) (h1 : t'.accepted = t.accepted) (h2 : t'.popped = t.popped) (h3 : t'.buf = t.buf)
    (h4 : t'.qStmts = t.qStmts) (hc : CCoh t'.q t'.more t.qStmts) : TI t' :=
  ⟨by rw [h1, h2, h3, h4]; exact h.cons, by rw [h4]; exact hc⟩

theorem setProd_fields (t : Th) (f : St → St) :
    (t.setProd f).accepted = t.accepted ∧ (t.setProd f).popped = t.popped ∧ (t.setProd f).buf = t.buf ∧
    (t.setProd f).qStmts = t.qStmts ∧ (t.setProd f).q = (updLast f t.q t.more).1 ∧
    (t.setProd f).more = (updLast f t.q t.more).2 := ⟨rfl, rfl, rfl, rfl, rfl, rfl⟩

theorem TI.setProd {t : Th} (h : TI t) (f : St → St) (hf : ∀ p a, NI p a → NI (f p) a) : TI (t.setProd f) :=
  h.chain rfl rfl rfl rfl (CCoh.updLast0 hf _ _ _ h.coh)

theorem updLast_snoc (f : St → St) (n : St) : ∀ (more : List St) (q : St),
    updLast f q (more ++ [n]) = (q, more ++ [f n])
  | [], q => rfl
  | p :: rest, q => by
    show (q, (updLast f p (rest ++ [n])).1 :: (updLast f p (rest ++ [n])).2) = _
    rw [updLast_snoc f n rest p]; rfl

theorem NI.prepCommit {c : Cfg} {p : St} {a : List Stmt} (n : Nat) (h : NI p a) :
    NI (absApi c.qp p .commitWrite).1 a := h.commitWrite

theorem TI.prepareWrite {t : Th} (h : TI t) (c : Cfg) (qmax n : Nat) : TI (uPrepareWrite c qmax t n).1 := by
  have h0 : TI (t.setProd (fun p => (qPrepareWrite c p n).1)) := h.setProd _ (fun p a hp => hp.prepareWrite n)
  unfold uPrepareWrite
  dsimp only
  split
  · exact h0
  · split
    · exact h0
    · exact h0
    · have h1 := h0.setProd (fun p => (absApi c.qp p .commitWrite).1) (fun p a hp => hp.commitWrite)
      exact h1.chain rfl rfl rfl rfl (CCoh.snoc _ (NI.init _ _) _ _ _ h1.coh)

theorem uPrepareWrite_chain (c : Cfg) (qmax : Nat) (t : Th) (n : Nat) :
    ∃ q more, (uPrepareWrite c qmax t n).1 = { t with q := q, more := more } := by
  unfold uPrepareWrite
  dsimp only
  split
  · exact ⟨_, _, rfl⟩
  · split <;> exact ⟨_, _, rfl⟩

theorem TI.enq {t : Th} (h : TI t) (c : Cfg) (qmax : Nat) (st : Stmt) (hp : 0 < st.size) :
    TI { uFinishCommit c (uPrepareWrite c qmax t st.size).1 st.size with
           qStmts := t.qStmts ++ [st], accepted := t.accepted ++ [st] } := by
  have h1 := h.prepareWrite c qmax st.size
  obtain ⟨q, more, e⟩ := uPrepareWrite_chain c qmax t st.size
  rw [e] at h1 ⊢
  refine ⟨?_, ?_⟩
  · show t.accepted ++ [st] = t.popped ++ t.buf ++ (t.qStmts ++ [st])
    rw [h.cons, List.append_assoc]
  · show CCoh (updLast (fun p => qFinishCommit c p st.size) q more).1
        (updLast (fun p => qFinishCommit c p st.size) q more).2 (t.qStmts ++ [st])
    exact CCoh.updLast (fun p a hpa => hpa.enq st hp) _ _ _ h1.coh

theorem TI.shrink {t : Th} (h : TI t) (c : Cfg) (want : Nat) : TI (uShrink c t want) := by
  unfold uShrink
  split
  · exact h.chain rfl rfl rfl rfl (CCoh.snoc _ (NI.init _ _) _ _ _ h.coh)
  · exact h

/-- what one `prepare_read()` (with `_read_next_queue`) does -/
structure RSpec (t t' : Th) (off : Bool) : Prop where
  acc : t'.accepted = t.accepted
  pop : t'.popped = t.popped
  buf : t'.buf = t.buf
  qs : t'.qStmts = t.qStmts
  coh : CCoh t'.q t'.more t.qStmts
  ahead : off = true → t'.q.wcache ≠ t'.q.rpos
  none : off = false → t'.more = [] → t.qStmts = []

theorem CCoh.prepHead {c : Cfg} {q : St} {more : List St} {l : List Stmt} (h : CCoh q more l) :
    CCoh (qPrepareRead c q).1 more l :=
  CCoh.updHead (f := fun q => (qPrepareRead c q).1) (fun _ ha => ha.prepareRead) h

theorem uPrepareRead_spec {t : Th} (h : TI t) (c : Cfg) :
    RSpec t (uPrepareRead c t).1 (uPrepareRead c t).2.1 := by
  unfold uPrepareRead
  dsimp only
  split
  · next ho =>
    obtain ⟨a, b, e, hq⟩ := h.coh.head
    exact ⟨rfl, rfl, rfl, rfl, h.coh.prepHead, fun _ => (hq.offered ho).2, fun hc => by simp at hc⟩
  · next ho =>
    have ho : (qPrepareRead c t.q).2 = false := by simpa using ho
    split
    · next hm =>
      refine ⟨rfl, rfl, rfl, rfl, h.coh.prepHead, fun hc => by simp at hc, fun _ _ => ?_⟩
      have hc := h.coh
      rw [hm] at hc
      exact NI.refused hc ho
    · next nx rest hm =>
      have hc := h.coh
      rw [hm] at hc
      obtain ⟨a, b, e, hq, hr⟩ := hc
      have ha : a = [] := hq.refused ho
      subst ha
      have hq1 : NI (qPrepareRead c t.q).1 [] := hq.prepareRead
      split
      · next ho2 =>
        exact absurd rfl (hq1.offered ho2).1
      · next ho2 =>
        have hl : t.qStmts = b := by simpa using e
        refine ⟨rfl, rfl, rfl, rfl, ?_, ?_, ?_⟩
        · show CCoh (qPrepareRead c nx).1 rest t.qStmts
          rw [hl]; exact hr.prepHead
        · intro hoff
          obtain ⟨a', b', _, hq'⟩ := hr.head
          exact (hq'.offered hoff).2
        · intro hoff hm'
          have hm' : rest = [] := hm'
          subst hm'
          rw [hl]
          exact NI.refused hr hoff

theorem RSpec.ti {t t' : Th} {off : Bool} (h : TI t) (r : RSpec t t' off) : TI t' :=
  h.chain r.acc r.pop r.buf r.qs r.coh

theorem RSpec.trans {t t' t'' : Th} {o1 o2 : Bool} (r1 : RSpec t t' o1) (r2 : RSpec t' t'' o2) : RSpec t t'' o2 :=
  ⟨r2.acc.trans r1.acc, r2.pop.trans r1.pop, r2.buf.trans r1.buf, r2.qs.trans r1.qs, by rw [← r1.qs]; exact r2.coh,
   r2.ahead, fun ho hm => by rw [← r1.qs]; exact r2.none ho hm⟩

theorem uRead_rel {I : Th → Prop} {R : Th → Th → Prop} (c : Cfg) (follow : Bool) (hrefl : ∀ t, R t t)
    (htrans : ∀ {a b d}, R a b → R b d → R a d) (hstep : ∀ t, I t → I (uPrepareRead c t).1 ∧ R t (uPrepareRead c t).1) :
    ∀ (fuel : Nat) (t : Th), I t → I (uRead c follow fuel t).1 ∧ R t (uRead c follow fuel t).1
  | 0, t, h => ⟨h, hrefl t⟩
  | fuel + 1, t, h => by
    have h1 := hstep t h
    unfold uRead
    dsimp only
    split
    · have h2 := uRead_rel c follow hrefl htrans hstep fuel _ h1.1
      exact ⟨h2.1, htrans h1.2 h2.2⟩
    · exact h1

theorem uRead_spec (c : Cfg) (follow : Bool) : ∀ (fuel : Nat) (t : Th), TI t → 0 < fuel →
    RSpec t (uRead c follow fuel t).1 (uRead c follow fuel t).2.1
  | 0, _, _, hf => by omega
  | fuel + 1, t, h, _ => by
    have r1 := uPrepareRead_spec h c
    unfold uRead
    dsimp only
    split
    · next hc =>
      rcases Nat.eq_zero_or_pos fuel with hz | hpos
      · -- no fuel left (never the case with fuel = nodes + 1): answers "nothing", the state is the one after the switch
        subst hz
        simp only [uRead]
        exact ⟨r1.acc, r1.pop, r1.buf, r1.qs, r1.coh, fun hc => by simp at hc, fun _ hm => r1.none (by
          simp only [Bool.and_eq_true, Bool.not_eq_true'] at hc; exact hc.1.2) hm⟩
      · exact r1.trans (uRead_spec c follow fuel _ (r1.ti h) hpos)
    · exact r1

theorem TI.readOne {t t' : Th} (h : TI t) (c : Cfg) (r : RSpec t t' true) (st : Stmt) (rest : List Stmt)
    (hq : t.qStmts = st :: rest) : TI { uFinishRead c t' st.size with qStmts := rest, buf := t'.buf ++ [st] } := by
  have hne := r.ahead rfl
  refine ⟨?_, ?_⟩
  · show t'.accepted = t'.popped ++ (t'.buf ++ [st]) ++ rest
    rw [r.acc, r.pop, r.buf, h.cons, hq]; simp
  · show CCoh (qFinishRead c t'.q st.size) t'.more rest
    have hc := r.coh
    rw [hq] at hc
    exact hc.read (fun a ha => ha.ne_of_ahead hne) hne

theorem TI.commitRead {t : Th} (h : TI t) (c : Cfg) : TI (uCommitRead c t) :=
  h.chain rfl rfl rfl rfl (CCoh.updHead (f := fun q => qCommitRead c q) (fun _ ha => ha.commitRead) h.coh)

theorem TI.emptyTest {t : Th} (h : TI t) (c : Cfg) : TI (uEmpty c t).1 :=
  h.chain rfl rfl rfl rfl (CCoh.updHead (f := fun q => (qEmpty c q).1) (fun _ ha => ha.emptyTest) h.coh)

theorem TI.empty_sound {t : Th} (h : TI t) (c : Cfg) (he : (uEmpty c t).2 = true) : t.qStmts = [] := by
  simp only [uEmpty, Bool.and_eq_true, List.isEmpty_iff] at he
  have hc := h.coh
  rw [he.2] at hc
  exact hc.coh.empty he.1

theorem TI.pop {t : Th} (h : TI t) (st : Stmt) (rest : List Stmt) (hb : t.buf = st :: rest) :
    TI { t with buf := rest, popped := t.popped ++ [st] } :=
  ⟨by show t.accepted = t.popped ++ [st] ++ rest ++ t.qStmts
      rw [h.cons, hb]; simp, h.coh⟩

end Backend.UQ
