import QuillModel.Backend.Mixed
import QuillModel.Backend.ConsProofsDrop
/-!
The proof skeleton of `ConsProofsSkel.lean` for the machine with two frontends (`Backend/Mixed.lean`): a predicate closed
under the primitive state changes is an invariant of every schedule of `runOpsM`, for every set of unbounded-frontend
threads and both values of the seeded `early` flag. What differs from the single-frontend skeleton: the counter check
resets bounded contexts only (`failResetB`), and the clean-up may reclaim an unbounded context whatever its counter
(`dropAny`). Every other step is literally shared, so the shared closure lemmas are reused.
-/
namespace Backend.PA

structure ClosedM (m : Mix) (P : BSt → Prop) : Prop where
  h : ClosedH P
  q : ClosedQ P
  pop : ∀ s i st rest, P s → (s.th i).buf = st :: rest → P (popStep s i st rest)
  failResetB : ∀ s i, P s → 0 < (s.th i).fail → isU m (s.th i) = false → P (failReset s i)
  dropAny : ∀ s i, P s → (s.th i).valid = false → (Backend.ctxEmpty s i).2 = true → P (dropCtx (Backend.ctxEmpty s i).1 i)
  front : ∀ s f, P s → P (applyFront s f).1

/-- a predicate of the single-frontend skeleton that does not care about the counter of a reclaimed context -/
theorem Closed.toM {P : BSt → Prop} (m : Mix) (hc : Closed P)
    (hd : ∀ s i, P s → (s.th i).valid = false → (Backend.ctxEmpty s i).2 = true → P (dropCtx (Backend.ctxEmpty s i).1 i)) :
    ClosedM m P :=
  { h := hc.toClosedH, q := hc.toClosedQ, pop := hc.pop, failResetB := fun s i h hf _ => hc.failReset s i h hf,
    dropAny := hd, front := hc.front }

variable {P : BSt → Prop} {m : Mix}

theorem checkFailuresM_closed (hc : ClosedM m P) (inj : BSt → Nat → BSt) (hinj : ∀ s site, P s → P (inj s site))
    (s : BSt) (h : P s) : P (checkFailuresM m inj s) := by
  unfold checkFailuresM
  split
  · exact h
  · refine List.foldl_inv P _ ?_ _ _ h
    intro a i ha
    dsimp only
    split
    · next hf =>
      simp only [Bool.and_eq_true, Bool.not_eq_true', decide_eq_true_eq] at hf
      exact hinj _ 8 (hc.failResetB a i ha hf.2 hf.1)
    · exact ha

theorem findFirstM_closed (hc : ClosedM m P) : ∀ (l : List Nat) (s : BSt), P s →
    P (cleanupContextsM.go.findFirst m s l).1 ∧
    ∀ i, (cleanupContextsM.go.findFirst m s l).2 = some i →
      ∃ s', P s' ∧ (s'.th i).valid = false ∧ (Backend.ctxEmpty s' i).2 = true ∧
        (cleanupContextsM.go.findFirst m s l).1 = (Backend.ctxEmpty s' i).1
  | [], s, h => ⟨h, fun i hi => by simp [cleanupContextsM.go.findFirst] at hi⟩
  | j :: rest, s, h => by
    unfold cleanupContextsM.go.findFirst
    split
    · exact findFirstM_closed hc rest s h
    · next hv =>
      dsimp only
      split
      · next he =>
        refine ⟨hc.h.ctxEmpty s j h, fun i hi => ?_⟩
        simp only [Option.some.injEq] at hi
        subst hi
        simp only [Bool.and_eq_true] at he
        exact ⟨s, h, by simpa using hv, he.1, rfl⟩
      · exact findFirstM_closed hc rest _ (hc.h.ctxEmpty s j h)

theorem cleanupGoM_closed (hc : ClosedM m P) : ∀ (fuel : Nat) (s : BSt), P s → P (cleanupContextsM.go m fuel s)
  | 0, s, h => by unfold cleanupContextsM.go; exact h
  | fuel + 1, s, h => by
    unfold cleanupContextsM.go
    have hf := findFirstM_closed hc s.cache s h
    split
    · next s1 heq => rw [heq] at hf; exact hf.1
    · next s1 i heq =>
      rw [heq] at hf
      obtain ⟨s', hp, hv, he, hs1⟩ := hf.2 i rfl
      dsimp only at hs1
      subst hs1
      exact cleanupGoM_closed hc fuel _ (hc.dropAny s' i hp hv he)

theorem cleanupContextsM_closed (hc : ClosedM m P) (s : BSt) (h : P s) : P (cleanupContextsM m s) := by
  unfold cleanupContextsM
  split
  · exact h
  · exact cleanupGoM_closed hc _ s h

theorem processLowestM_eq (m : Mix) (inj : BSt → Nat → BSt) (s : BSt) :
    processLowestM m inj s =
      match lowest s with
      | none => (s, false)
      | some i =>
        match (s.th i).buf with
        | [] => (s, false)
        | st :: rest =>
          let s3 := popStep s i st rest
          match (processEvent s st).2.2 with
          | some f =>
            let s3' := if s3.cfg.reportBeforeFlushCleanup then checkFailuresM m inj s3 else s3
            let s4 := cleanupContextsM m s3'
            ({ s4 with flags := f :: s4.flags, flagLog := (f, s4.log.length) :: s4.flagLog }, true)
          | none => (s3, true) := rfl

theorem processLowestM_closed (hc : ClosedM m P) (inj : BSt → Nat → BSt) (hinj : ∀ s site, P s → P (inj s site))
    (s : BSt) (h : P s) : P (processLowestM m inj s).1 := by
  rw [processLowestM_eq]
  split
  · exact h
  · next i _ =>
    split
    · exact h
    · next st rest hb =>
      have h3 := hc.pop s i st rest h hb
      dsimp only
      split
      · have h3' : P (if (popStep s i st rest).cfg.reportBeforeFlushCleanup = true then
            checkFailuresM m inj (popStep s i st rest) else popStep s i st rest) := by
          split
          · exact checkFailuresM_closed hc inj hinj _ h3
          · exact h3
        exact hc.h.frame _ _ (cleanupContextsM_closed hc _ h3')
          (Frame.of_eq rfl rfl rfl rfl rfl rfl rfl rfl rfl rfl rfl rfl rfl (fun _ hf => List.mem_cons_of_mem _ hf))
      · exact h3

theorem batchLoopM_closed (hc : ClosedM m P) (inj : BSt → Nat → BSt) (hinj : ∀ s site, P s → P (inj s site)) :
    ∀ (fuel : Nat) (s : BSt), P s → P (batchLoopM m inj fuel s)
  | 0, s, h => by unfold batchLoopM; exact h
  | fuel + 1, s, h => by
    unfold batchLoopM
    dsimp only
    have h1 := hasPending_pres P hc.h.refresh hc.h.ctxEmpty s h
    split
    · exact h1
    · have h2 := processLowestM_closed hc inj hinj _ h1
      split
      · exact h2
      · exact batchLoopM_closed hc inj hinj fuel _ (hinj _ 4 h2)

theorem pollM_closed (hc : ClosedM m P) (inj : BSt → Nat → BSt) (hinj : ∀ s site, P s → P (inj s site))
    (s : BSt) (h : P s) : P (pollM m inj s) := by
  unfold pollM
  have h1 := populate_closed hc.h.frame hc.h.refresh hc.q inj hinj s h
  generalize populate inj s = pr at h1 ⊢
  obtain ⟨s1, count⟩ := pr
  dsimp only at h1 ⊢
  split
  · split
    · exact processLowestM_closed hc inj hinj _ h1
    · exact batchLoopM_closed hc inj hinj _ _ h1
  · have h3 := checkFailuresM_closed hc inj hinj _ (flushGate_pres P inj (fun x hx => hc.h.frame x _ hx (flushSinks_frame x))
      (hinj · 7) (fun x hx => hc.h.frame x _ hx (Frame.of_misc rfl)) _ (inj s1 5).cfg.flushInterval (hinj _ 5 h1))
    have h4 := allEmpty_closed hc.h _ h3
    split
    · exact cleanupLoggers_closed hc.h inj hinj _ (preEraseFlush_closed hc.h _ (cleanupContextsM_closed hc _ h4))
    · exact h4

theorem exitLoopM_closed (hc : ClosedM m P) (inj : BSt → Nat → BSt) (hinj : ∀ s site, P s → P (inj s site))
    (tick : Nat) : ∀ (fuel : Nat) (s : BSt), P s → P (exitLoopM m inj tick fuel s)
  | 0, s, h => by unfold exitLoopM; exact h
  | fuel + 1, s, h => by
    unfold exitLoopM
    dsimp only
    have h1 := allEmpty_closed hc.h s h
    split
    · exact cleanupLoggers_closed hc.h inj hinj _ (preEraseFlush_closed hc.h _ (cleanupContextsM_closed hc _
        (hc.h.frame _ _ (checkFailuresM_closed hc inj hinj _ h1) (flushSinks_frame _))))
    · have h0 : P { (allEmpty s).1 with now := (allEmpty s).1.now + tick } :=
        hc.h.frame _ _ h1 (Frame.of_misc rfl)
      have h2 := populate_closed hc.h.frame hc.h.refresh hc.q inj hinj _ h0
      generalize populate inj _ = pr at h2 ⊢
      obtain ⟨s1, count⟩ := pr
      dsimp only at h2 ⊢
      apply exitLoopM_closed hc inj hinj tick fuel
      split
      · exact batchLoopM_closed hc inj hinj _ _ h2
      · exact h2

theorem applyOpM_closed (hc : ClosedM m P) (s : BSt) (op : Op) (h : P s) : P (applyOpM m s op).1 := by
  have hsc : ∀ (s : BSt) sc, P s → P { s with siteCnt := sc } := fun s sc h =>
    hc.h.frame s _ h (Frame.of_misc rfl)
  cases op with
  | front f => exact hc.front s f h
  | poll table =>
    simp only [applyOpM]
    split
    · exact h
    · exact pollM_closed hc _ (fun s site hs => runInj_pres hc.h.frame hc.front table s site hs) _ (hsc s [] h)
  | exit =>
    simp only [applyOpM]
    split
    · exact h
    · exact hc.h.frame _ _
        (exitLoopM_closed hc _ (fun s site hs => runInj_pres hc.h.frame hc.front [] s site hs) 1000 _ _ (hsc s [] h))
        (Frame.of_misc rfl)

theorem runOpsM_closed (hc : ClosedM m P) : ∀ (ops : List Op) (s : BSt), P s → P (runOpsM m s ops) := by
  intro ops
  unfold runOpsM
  exact List.foldl_inv P _ (fun a o ha => applyOpM_closed hc a o ha) ops

theorem InvD.closedM (m : Mix) : ClosedM m InvD := InvD.closed.toM m (fun _ i h _ _ => h.dropCtx i)

/-! With no thread on the unbounded frontend the two-frontend machine is the single-frontend machine. -/

theorem isU_none (t : Th) : isU {} t = false := rfl

theorem checkFailuresM_none (inj : BSt → Nat → BSt) (s : BSt) : checkFailuresM {} inj s = checkFailures inj s := by
  unfold checkFailuresM checkFailures
  simp only [isU_none, Bool.false_and, Bool.false_eq_true, if_false, Bool.not_false, Bool.true_and, decide_eq_true_eq]

theorem findFirstM_none : ∀ (l : List Nat) (s : BSt),
    cleanupContextsM.go.findFirst {} s l = cleanupContexts.go.findFirst s l
  | [], _ => rfl
  | i :: rest, s => by
    unfold cleanupContextsM.go.findFirst cleanupContexts.go.findFirst
    simp only [isU_none, Bool.false_or, findFirstM_none rest]

theorem goM_none : ∀ (fuel : Nat) (s : BSt), cleanupContextsM.go {} fuel s = cleanupContexts.go fuel s
  | 0, _ => rfl
  | fuel + 1, s => by
    unfold cleanupContextsM.go cleanupContexts.go
    simp only [findFirstM_none, goM_none fuel]
    rfl

theorem cleanupContextsM_none (s : BSt) : cleanupContextsM {} s = cleanupContexts s := by
  unfold cleanupContextsM cleanupContexts
  simp only [goM_none]

theorem processLowestM_none (inj : BSt → Nat → BSt) (s : BSt) : processLowestM {} inj s = processLowest inj s := by
  rw [processLowestM_eq, processLowest_eq]
  simp only [checkFailuresM_none, cleanupContextsM_none]
  rfl

theorem batchLoopM_none (inj : BSt → Nat → BSt) : ∀ (fuel : Nat) (s : BSt), batchLoopM {} inj fuel s = batchLoop inj fuel s
  | 0, _ => rfl
  | fuel + 1, s => by
    unfold batchLoopM batchLoop
    simp only [processLowestM_none, batchLoopM_none inj fuel]

theorem pollM_none (inj : BSt → Nat → BSt) (s : BSt) : pollM {} inj s = poll inj s := by
  unfold pollM poll
  simp only [processLowestM_none, batchLoopM_none, checkFailuresM_none, cleanupContextsM_none]

theorem exitLoopM_none (inj : BSt → Nat → BSt) (tick : Nat) :
    ∀ (fuel : Nat) (s : BSt), exitLoopM {} inj tick fuel s = exitLoop inj tick fuel s
  | 0, _ => rfl
  | fuel + 1, s => by
    unfold exitLoopM exitLoop
    simp only [batchLoopM_none, checkFailuresM_none, cleanupContextsM_none, exitLoopM_none inj tick fuel]

theorem applyOpM_none (s : BSt) (o : Op) : applyOpM {} s o = applyOp s o := by
  cases o <;> simp only [applyOpM, applyOp, pollM_none, exitLoopM_none]

theorem runOpsM_none (s : BSt) (ops : List Op) : runOpsM {} s ops = runOps s ops := by
  unfold runOpsM runOps
  simp only [applyOpM_none]

end Backend.PA
