import QuillModel.Backend.LoggerProofs
/-!
The logger-removal invariant `LA` through the backend's pieces, and `LInv = TCInv ∧ LA` along every schedule
(`LInv_runOps`): in particular a logger is erased only in a state where every queue and transit buffer is empty.
For C17.
-/
namespace Backend.PC

structure LgKeep (s s' : BSt) : Prop where
  names : s'.names = s.names
  actors : s'.actors = s.actors
  ths : s'.ths = s.ths
  len : s'.lgs.length = s.lgs.length
  gid : ∀ j, (s'.lgOf j).gid = (s.lgOf j).gid
  valid : ∀ j, (s'.lgOf j).valid = (s.lgOf j).valid
  erased : ∀ j, (s'.lgOf j).erased = (s.lgOf j).erased
  sinks : ∀ j, (s'.lgOf j).sinks = (s.lgOf j).sinks

theorem LgKeep.refl (s : BSt) : LgKeep s s := ⟨rfl, rfl, rfl, rfl, fun _ => rfl, fun _ => rfl, fun _ => rfl, fun _ => rfl⟩

theorem LgKeep.trans {a b c : BSt} (h1 : LgKeep a b) (h2 : LgKeep b c) : LgKeep a c :=
  ⟨h2.names.trans h1.names, h2.actors.trans h1.actors, h2.ths.trans h1.ths, h2.len.trans h1.len,
   fun j => (h2.gid j).trans (h1.gid j), fun j => (h2.valid j).trans (h1.valid j),
   fun j => (h2.erased j).trans (h1.erased j), fun j => (h2.sinks j).trans (h1.sinks j)⟩

theorem LgKeep.of_lview {s s' : BSt} (h : lview s' = lview s) : LgKeep s s' := by
  simp only [lview, Prod.mk.injEq] at h
  obtain ⟨h1, h2, h3, h4⟩ := h
  have hlg : ∀ j, s'.lgOf j = s.lgOf j := fun j => by simp only [BSt.lgOf, h2]
  exact ⟨h1, h3, h4, by rw [h2], fun j => by rw [hlg], fun j => by rw [hlg], fun j => by rw [hlg], fun j => by rw [hlg]⟩

theorem LgKeep.setLg (s : BSt) (i : Nat) (f : Lg → Lg)
    (hf : ∀ l, (f l).gid = l.gid ∧ (f l).erased = l.erased ∧ (f l).valid = l.valid ∧ (f l).sinks = l.sinks) :
    LgKeep s (s.setLg i f) :=
  ⟨rfl, rfl, rfl, lgs_length_setLg s i f, fun j => (lgOf_setLg_keep s i j f hf).1, fun j => (lgOf_setLg_keep s i j f hf).2.2.1,
   fun j => (lgOf_setLg_keep s i j f hf).2.1, fun j => (lgOf_setLg_keep s i j f hf).2.2.2⟩

theorem LA.lgKeep {s s' : BSt} (h : LA s) (hk : LgKeep s s') : LA s' :=
  h.lgs_change hk.names hk.actors hk.ths hk.len hk.gid
    (fun _ _ _ st _ => ⟨hk.valid st.lg, hk.erased st.lg⟩) (fun _ _ st _ => hk.erased st.lg)

theorem lgKeep_dispRel : DispRel LgKeep where
  toSinkRel := .of_setSink LgKeep.refl LgKeep.trans (fun _ _ _ => LgKeep.of_lview rfl) (fun _ _ _ => LgKeep.of_lview rfl)
  setBt _ _ _ := LgKeep.setLg _ _ _ (fun _ => ⟨rfl, rfl, rfl, rfl⟩)

theorem procSt_lgKeep (s : BSt) (st : Stmt) : LgKeep s (procSt s st) := lgKeep_dispRel.procSt s st

theorem LA_ctxEmpty {s : BSt} (h : LA s) (i : Nat) : LA (ctxEmpty s i).1 := by
  unfold ctxEmpty; exact h.setTh_keep i _ (fun _ => rfl) (fun _ => rfl)

theorem LA_removeSt {s : BSt} (h : LA s) (i : Nat) : LA (removeSt s i) := by
  unfold removeSt
  refine LA.setTh_keep ?_ i _ (fun _ => rfl) (fun _ => rfl)
  exact LA_of_lview h rfl

theorem LA_readOneSt {s : BSt} (h : LA s) (i : Nat) (st : Stmt) (rest : List Stmt)
    (hq : (s.th i).qStmts = st :: rest) : LA (readOneSt s i st rest) := by
  have h1 : LA (readPrepSt s i) := by unfold readPrepSt; exact h.setTh_keep i _ (fun _ => rfl) (fun _ => rfl)
  obtain ⟨rf, e⟩ := decodeSt_same (readPrepSt s i) st
  have h2 : LA (decodeSt (readPrepSt s i) st) := by rw [e]; exact LA_of_lview h1 rfl
  have hqs : ((decodeSt (readPrepSt s i) st).th i).qStmts = st :: rest := (qStmts_decode_prep s i st i).trans hq
  unfold readOneSt moveSt
  apply h2.setTh
  intro _ x hx
  left
  have hx' : x ∈ rest ∨ x ∈ ((decodeSt (readPrepSt s i) st).th i).buf ++ [st] := hx
  rcases hx' with hx' | hx'
  · left; rw [hqs]; exact List.mem_cons_of_mem _ hx'
  · rcases List.mem_append.mp hx' with hx' | hx'
    · right; exact hx'
    · left; rw [hqs]; simp only [List.mem_singleton] at hx'; rw [hx']; exact List.mem_cons_self

theorem LA_popSt {s : BSt} (h : LA s) (i : Nat) (st : Stmt) (rest : List Stmt)
    (hb : (s.th i).buf = st :: rest) : LA (popSt s i st rest) := by
  have hX := procSt_lgKeep s st
  rw [popSt_proc]
  generalize procSt s st = X at hX ⊢
  have hXth : X.th i = s.th i := by simp only [BSt.th, hX.ths]
  refine LA_of_lview (s := X.setTh i (fun t => { t with buf := rest, popped := t.popped ++ [st] })) ?_ rfl
  apply (h.lgKeep hX).setTh
  intro _ x hx
  left
  rcases hx with hx | hx
  · left; exact hx
  · right
    have : x ∈ rest := hx
    rw [hXth, hb]; exact List.mem_cons_of_mem _ this

/-- the invariant C17 rests on -/
def LInv (s : BSt) : Prop := TCInv s ∧ LA s

theorem LInv_of_views {x y : BSt} (hx : LInv x) (h1 : core y = core x) (h2 : tview y = tview x)
    (h3 : lview y = lview x) : LInv y :=
  ⟨⟨CInv_of_core h1 hx.1.1, TInv_of_tview hx.1.2 h2⟩, LA_of_lview hx.2 h3⟩

theorem LA_kept : Kept TCInv LA where
  book _ _ _ _ _ _ h := LA_of_lview h rfl
  emitInj _ _ _ _ _ h := LA_of_lview h rfl
  note _ h := LA_of_lview h rfl
  recache _ _ h := LA_of_lview h rfl
  rdQ _ i f _ h hf _ := h.setTh_keep i f (hf.proj (·.qStmts) (fun _ _ => rfl)) (hf.proj (·.buf) (fun _ _ => rfl))
  dropCtx _ i _ h _ _ _ _ := LA_removeSt (LA_ctxEmpty h i) i
  /- the erase step: behind an emptiness check that answered yes on the *current* state, an invalid logger can be
     erased — nothing is waiting in any context, and nobody is parked in a call through an invalid logger -/
  erase s i hp _ _ h' hv he := by
    have hd := allEmpty_drained s hp he
    apply h'.erase i
    · simp only [BSt.lgOf, allEmpty_lgs]; exact hv
    · intro j hj st hst
      obtain ⟨d1, d2⟩ := hd j hj
      rw [d1, d2] at hst
      rcases hst with hst | hst <;> cases hst
  reap _ _ _ h _ _ := LA_of_lview h rfl
  flagRemoval _ _ _ _ _ _ h _ _ := LA_of_lview h rfl
  flushSinks s _ h := LA_of_lview h (lview_sinkRel.flushSinks s)
  readOne _ i st rest _ h _ hq := LA_readOneSt h i st rest hq
  report s i _ h _ :=
    LA_of_lview (s := s.setTh i (fun t => { t with fail := 0 })) (h.setTh_keep i _ (fun _ => rfl) (fun _ => rfl)) rfl
  pop _ i st rest _ h _ hb := LA_popSt h i st rest hb
  raise _ _ h _ := LA_of_lview h rfl
  front s f hp h := LA_front s f hp.1 h

theorem LInv_kept : Kept (fun _ => True) LInv := TCInv_kept.and LA_kept

theorem LInv_closed : Closed LInv := LInv_kept.closed

theorem LInv_runOps (s0 : BSt) (h0 : LInv s0) (ops : List Op) : LInv (runOps s0 ops) :=
  runOps_closed LInv_closed ops s0 h0

end Backend.PC
