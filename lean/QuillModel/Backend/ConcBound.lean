import QuillModel.Backend.ConcProgress
import QuillModel.Backend.ConsProofsPop
/-!
# How many events can be popped before a given pending record (for the progress of C06 / C09 under concurrency)

Under the hypotheses of C05 (ordering enabled, repaired refresh order, the grace premise) nothing overtakes a pending record:
while `st` is pending, every event in the pop history has a timestamp `≤ st.ts` (`pending_not_overtaken`). Hence the length
of the pop history is bounded by the number of records with a timestamp `≤ st.ts` that were ever accepted, over all contexts
(`accLE`). The count itself (`pops_lt_cA`) is for any class of records that contains the pending one and everything popped
so far: accepted = popped + pending in every class (`cA_eq`), and the pop history is a merge of the popped histories
(`PA.InvP`); the classes used are "timestamp `≤ T`" (`accLE`, `pendingLE`) and "all" (`accTotal`).
-/
namespace Backend.PB

def pendP (s : BSt) (P : Stmt → Bool) : Nat := (s.ths.map (fun t => (t.buf ++ t.qStmts).countP P)).sum

theorem cA_eq {s : BSt} (hF : FI none [] s) (P : Stmt → Bool) : PA.cA s P = PA.cntP s P + pendP s P := by
  unfold PA.cA PA.cntP pendP
  rw [← PA.sum_map_add]
  congr 1
  apply List.map_congr_left
  intro t ht
  obtain ⟨j, _, rfl⟩ := mem_ths s ht
  rw [hF.cons j, List.append_assoc, List.countP_append]

theorem pendP_pos {s : BSt} {i : Nat} {st : Stmt} (hst : st ∈ chain (s.th i)) {P : Stmt → Bool} (hP : P st = true) :
    0 < pendP s P :=
  Nat.lt_of_lt_of_le (List.countP_pos_iff.mpr ⟨st, hst, hP⟩)
    (List.mem_le_sum _ _ (List.mem_map.mpr ⟨s.th i, th_mem s (lt_of_mem_chain hst), rfl⟩))

theorem pops_lt_cA {s : BSt} (hA : PA.InvP s) (hF : FI none [] s) (P : Stmt → Bool) {i : Nat} {st : Stmt}
    (hst : st ∈ chain (s.th i)) (hP : P st = true) (hall : ∀ p ∈ s.popLog, P p = true) :
    s.popLog.length < PA.cA s P := by
  have h1 := hA P
  rw [List.countP_eq_length.mpr hall] at h1
  have h2 := cA_eq hF P
  have h3 := pendP_pos hst hP
  omega

theorem popped_of_pops {s : BSt} (hA : PA.InvP s) (hF : FI none [] s) (P : Stmt → Bool) {i : Nat} {st : Stmt}
    (hst : st ∈ (s.th i).accepted) (hP : P st = true)
    (hall : st ∈ chain (s.th i) → ∀ p ∈ s.popLog, P p = true) (hn : PA.cA s P ≤ s.popLog.length) : st ∈ (s.th i).popped := by
  rw [hF.cons i, List.append_assoc] at hst
  exact (List.mem_append.mp hst).resolve_right (fun h1 => Nat.not_lt.mpr hn (pops_lt_cA hA hF P h1 hP (hall h1)))

theorem flush_flag_of_pops {s : BSt} (hA : PA.InvP s) (hF : FI none [] s) (P : Stmt → Bool) {i : Nat} {st : Stmt} {f : Nat}
    (hst : st ∈ (s.th i).accepted) (hk : st.kind = .flush f) (hP : P st = true)
    (hall : st ∈ chain (s.th i) → ∀ p ∈ s.popLog, P p = true) (hn : PA.cA s P ≤ s.popLog.length) : f ∈ s.flags :=
  (hF.popFlag i st (popped_of_pops hA hF P hst hP hall hn) f hk).resolve_right (fun h => nomatch h)

theorem pops_since_lt_pendP {s s' : BSt} (hA : PA.InvP s) (hA' : PA.InvP s') (hF : FI none [] s) (hF' : FI none [] s')
    (P : Stmt → Bool) {i : Nat} {st : Stmt} (hch : st ∈ chain (s'.th i)) (hP : P st = true) (new : List Stmt)
    (hpl : s'.popLog = new ++ s.popLog) (hall : ∀ r ∈ new, P r = true) (hconst : PA.cA s' P = PA.cA s P) :
    new.length < pendP s P := by
  have h1 := hA' P
  have h0 := hA P
  rw [hpl, List.countP_append, List.countP_eq_length.mpr hall] at h1
  have e' := cA_eq hF' P
  have e := cA_eq hF P
  have hpos := pendP_pos hch hP
  omega

def accLE (s : BSt) (T : Nat) : Nat := (s.ths.map (fun t => t.accepted.countP (fun r => decide (r.ts ≤ T)))).sum

theorem pending_not_overtaken {s : BSt} (hG : GI s) (hg : s.cfg.grace ≠ 0) (hr : s.cfg.refreshAfterSample = true)
    (hp : GracePremise s) {i : Nat} {st : Stmt} (hst : st ∈ chain (s.th i)) : ∀ p ∈ s.popLog, p.ts ≤ st.ts := by
  obtain ⟨fl, hI, o⟩ := hG.ord hg hr hp
  intro p hp'
  exact o.above p hp' i (hI.reg i (by intro he; rw [he] at hst; cases hst)) st hst

def accTotal (s : BSt) : Nat := (s.ths.map (fun t => t.accepted.length)).sum

theorem accTotal_eq (s : BSt) : accTotal s = PA.cA s (fun _ => true) := by
  unfold accTotal PA.cA
  congr 1
  apply List.map_congr_left
  intro t _
  exact (List.countP_eq_length.mpr (fun _ _ => rfl)).symm

end Backend.PB
