import QuillModel.Backend.LoggerBack
/-!
Sinks, their liveness and the event log: the invariant `LS` (a dead sink is referenced neither by the user nor by
a logger object that is not erased; backtrace items belong to their logger; no event calls into a sink after its
destructor event) and its preservation by everything that writes to sinks (`writeToSinks`, replay, flush,
`processEvent`). Helper lemmas for C17.
-/
namespace Backend.PC

def isDtor (sid : Nat) : Ev → Bool
  | .sinkDtor k => k == sid
  | _ => false

def usesSink (sid : Nat) : Ev → Bool
  | .write k _ _ _ _ => k == sid
  | .wthrow k _ => k == sid
  | .flushed k => k == sid
  | .fthrow k => k == sid
  | _ => false

/-- in a log (newest first): no event that calls into a sink is newer than that sink's destruction -/
def NoUAD : List Ev → Prop
  | [] => True
  | e :: rest => NoUAD rest ∧ ∀ sid, usesSink sid e = true → ∀ d ∈ rest, isDtor sid d = false

structure LS (s : BSt) : Prop where
  nodup : (s.sinks.map (·.sid)).Nodup
  dead : ∀ sid, (s.sinkOf sid).alive = false → (s.sinkOf sid).userRef = false ∧
    ∀ i, i < s.lgs.length → (s.lgOf i).erased = false → sid ∉ (s.lgOf i).sinks
  ring : ∀ i, i < s.lgs.length → ∀ r, (s.lgOf i).bt = some r → ∀ x ∈ r.items, x.lg = i
  nodtor : ∀ sid, (s.sinkOf sid).alive = true → ∀ d ∈ s.log, isDtor sid d = false
  nouad : NoUAD s.log

theorem LS.sinks_alive {s : BSt} (h : LS s) (i : Nat) (he : (s.lgOf i).erased = false) :
    ∀ sid ∈ (s.lgOf i).sinks, (s.sinkOf sid).alive = true := by
  intro sid hsid
  by_cases hi : i < s.lgs.length
  · cases ha : (s.sinkOf sid).alive
    · exact absurd hsid ((h.dead sid ha).2 i hi he)
    · rfl
  · simp only [BSt.lgOf, List.getD_eq_getElem?_getD, List.getElem?_eq_none (by omega : s.lgs.length ≤ i)] at hsid
    cases hsid

/-- what `LS` reads of the sinks: every `sinkOf` up to the call counters, and the list of ids -/
def SinksEq (s s' : BSt) : Prop :=
  s'.sinks.map (·.sid) = s.sinks.map (·.sid) ∧ ∀ sid, SinkCfgEq (s.sinkOf sid) (s'.sinkOf sid)

theorem SinksEq.refl (s : BSt) : SinksEq s s := ⟨rfl, fun _ => SinkCfgEq.refl _⟩
theorem SinksEq.trans {a b c : BSt} (h1 : SinksEq a b) (h2 : SinksEq b c) : SinksEq a c :=
  ⟨h2.1.trans h1.1, fun sid => (h1.2 sid).trans (h2.2 sid)⟩

theorem setSink_sids (s : BSt) (sid : Nat) (f : Sink → Sink) (hf : ∀ x ∈ s.sinks, x.sid = sid → (f x).sid = sid) :
    (s.setSink sid f).sinks.map (·.sid) = s.sinks.map (·.sid) := by
  simp only [BSt.setSink, List.map_map]
  apply List.map_congr_left
  intro x hx
  simp only [Function.comp]
  split
  · rename_i h; rw [hf x hx h, h]
  · rfl

theorem SinksEq_bump (s : BSt) (sid : Nat) (k' : Sink) (hk : SinkCfgEq (s.sinkOf sid) k') :
    SinksEq s (s.setSink sid (fun _ => k')) := by
  refine ⟨?_, fun sid' => sinkOf_setSink_counters s sid k' hk sid'⟩
  apply setSink_sids
  intro x hx hxs
  rw [hk.1]; exact sinkOf_sid ⟨x, hx, hxs⟩

structure OutStep (s s' : BSt) (evs : List Ev) : Prop where
  lg : LgKeep s s'
  sk : SinksEq s s'
  log : s'.log = evs ++ s.log

/-- what the invariants of the sinks read of a step, the event log aside -/
structure SinkKeep (s s' : BSt) : Prop where
  sids : s'.sinks.map (·.sid) = s.sinks.map (·.sid)
  alive : ∀ sid, (s'.sinkOf sid).alive = (s.sinkOf sid).alive
  userRef : ∀ sid, (s'.sinkOf sid).userRef = (s.sinkOf sid).userRef
  lgLen : s'.lgs.length = s.lgs.length
  erased : ∀ i, (s'.lgOf i).erased = (s.lgOf i).erased
  lgSinks : ∀ i, (s'.lgOf i).sinks = (s.lgOf i).sinks

theorem OutStep.keep {s s' : BSt} {evs : List Ev} (h : OutStep s s' evs) : SinkKeep s s' :=
  ⟨h.sk.1, fun sid => (h.sk.2 sid).alive, fun sid => (h.sk.2 sid).userRef, h.lg.len, h.lg.erased, h.lg.sinks⟩


def EvsOn (ok : List Nat) (evs : List Ev) : Prop :=
  ∀ e ∈ evs, (∀ sid, usesSink sid e = true → sid ∈ ok) ∧ ∀ sid, isDtor sid e = false

theorem EvsOn.single {ok : List Nat} {e : Ev} (hu : ∀ sid, usesSink sid e = true → sid ∈ ok) (hd : ∀ sid, isDtor sid e = false) :
    EvsOn ok [e] := by
  intro x hx
  simp only [List.mem_singleton] at hx
  subst hx
  exact ⟨hu, hd⟩

theorem EvsOn.append {ok : List Nat} {e1 e2 : List Ev} (h1 : EvsOn ok e1) (h2 : EvsOn ok e2) : EvsOn ok (e1 ++ e2) := by
  intro e he
  rcases List.mem_append.mp he with he | he
  · exact h1 e he
  · exact h2 e he

theorem NoUAD_append {evs log : List Ev} (ok : List Nat) (he : EvsOn ok evs) (hl : NoUAD log)
    (hok : ∀ sid ∈ ok, ∀ d ∈ log, isDtor sid d = false) : NoUAD (evs ++ log) := by
  induction evs with
  | nil => exact hl
  | cons e rest ih =>
    have hr : EvsOn ok rest := fun x hx => he x (List.mem_cons_of_mem _ hx)
    refine ⟨ih hr, ?_⟩
    intro sid hu d hd
    rcases List.mem_append.mp hd with hd | hd
    · exact (hr d hd).2 sid
    · exact hok sid ((he e List.mem_cons_self).1 sid hu) d hd

theorem OutStep_emit (s : BSt) (e : Ev) : OutStep s (s.emit e) [e] :=
  ⟨LgKeep.of_lview (s' := s.emit e) rfl, ⟨rfl, fun _ => SinkCfgEq.refl _⟩, rfl⟩

theorem keep_dispRel : DispRel (fun s s' => LgKeep s s' ∧ SinksEq s s') :=
  lgKeep_dispRel.and
    ⟨⟨SinksEq.refl, SinksEq.trans, fun s sid => SinksEq_bump s sid _ (bump_cfgEq _),
      fun s sid => SinksEq_bump s sid _ ⟨rfl, rfl, rfl, rfl, rfl, rfl, rfl, rfl⟩, fun _ _ _ => ⟨rfl, fun _ => SinkCfgEq.refl _⟩⟩,
     fun _ _ _ => ⟨rfl, fun _ => SinkCfgEq.refl _⟩⟩

theorem OutStep.of_log {s s' : BSt} {p : Ev → Prop} (hk : LgKeep s s' ∧ SinksEq s s') (h : LogExt p s s') :
    ∃ evs, OutStep s s' evs ∧ ∀ e ∈ evs, p e := by
  obtain ⟨evs, he, hp⟩ := h
  exact ⟨evs, ⟨hk.1, hk.2, he⟩, hp⟩

theorem wEv_on {st : Stmt} {sids : List Nat} {e : Ev} (h : wEv st sids e) :
    (∀ sid, usesSink sid e = true → sid ∈ sids) ∧ ∀ sid, isDtor sid e = false := by
  obtain ⟨x, hx, rfl | rfl⟩ := h <;> exact ⟨fun k hk => (beq_iff_eq.mp hk) ▸ hx, fun _ => rfl⟩

theorem dispatch_out (s : BSt) (st : Stmt) :
    ∃ evs, OutStep s (dispatch s st).1 evs ∧ EvsOn (s.lgOf st.lg).sinks evs :=
  OutStep.of_log (keep_dispRel.dispatch s st) ((dispatch_log s st).mono fun _ => wEv_on)

theorem fEv_on {sids : List Nat} {e : Ev} (h : fEv sids e) :
    (∀ sid, usesSink sid e = true → sid ∈ sids) ∧ ∀ sid, isDtor sid e = false := by
  rcases h with rfl | ⟨x, hx, rfl | rfl⟩
  · exact ⟨fun _ h => (by cases h), fun _ => rfl⟩
  · exact ⟨fun k hk => (beq_iff_eq.mp hk) ▸ hx, fun _ => rfl⟩
  · exact ⟨fun k hk => (beq_iff_eq.mp hk) ▸ hx, fun _ => rfl⟩

theorem flushSinks_out (s : BSt) : ∃ evs, OutStep s (flushSinks s) evs ∧ EvsOn (activeSinks s) evs :=
  OutStep.of_log (keep_dispRel.flushSinks s) ((flushSinks_log s).mono fun _ => fEv_on)

theorem LS.keep {s s' : BSt} {evs : List Ev} (h : LS s) (hk : SinkKeep s s') (hlog : s'.log = evs ++ s.log) (ok : List Nat)
    (he : EvsOn ok evs) (hok : ∀ sid ∈ ok, (s.sinkOf sid).alive = true)
    (hring : ∀ i, i < s'.lgs.length → ∀ r, (s'.lgOf i).bt = some r → ∀ x ∈ r.items, x.lg = i) : LS s' := by
  refine ⟨by rw [hk.sids]; exact h.nodup, ?_, hring, ?_, ?_⟩
  · intro sid ha
    rw [hk.alive] at ha
    obtain ⟨h1, h2⟩ := h.dead sid ha
    refine ⟨by rw [hk.userRef]; exact h1, fun i hi he' => ?_⟩
    rw [hk.lgLen] at hi
    rw [hk.erased] at he'
    rw [hk.lgSinks]
    exact h2 i hi he'
  · intro sid ha d hd
    rw [hk.alive] at ha
    rw [hlog] at hd
    rcases List.mem_append.mp hd with hd | hd
    · exact (he d hd).2 sid
    · exact h.nodtor sid ha d hd
  · rw [hlog]
    exact NoUAD_append ok he h.nouad (fun sid hs d hd => h.nodtor sid (hok sid hs) d hd)

theorem LS_out {s s' : BSt} {evs : List Ev} (h : LS s) (ho : OutStep s s' evs) (ok : List Nat) (he : EvsOn ok evs)
    (hok : ∀ sid ∈ ok, (s.sinkOf sid).alive = true)
    (hring : ∀ i, i < s'.lgs.length → ∀ r, (s'.lgOf i).bt = some r → ∀ x ∈ r.items, x.lg = i) : LS s' :=
  h.keep ho.keep ho.log ok he hok hring

theorem ring_of_lgs {s s' : BSt} (h : s'.lgs = s.lgs)
    (hr : ∀ i, i < s.lgs.length → ∀ r, (s.lgOf i).bt = some r → ∀ x ∈ r.items, x.lg = i) :
    ∀ i, i < s'.lgs.length → ∀ r, (s'.lgOf i).bt = some r → ∀ x ∈ r.items, x.lg = i := by
  intro i hi r hbt
  have : s'.lgOf i = s.lgOf i := by simp only [BSt.lgOf, h]
  rw [this] at hbt; rw [h] at hi
  exact hr i hi r hbt

theorem ring_setLg {s : BSt} (i : Nat) (f : Lg → Lg)
    (hr : ∀ j, j < s.lgs.length → ∀ r, (s.lgOf j).bt = some r → ∀ x ∈ r.items, x.lg = j)
    (hf : ∀ r', (f (s.lgOf i)).bt = some r' → ∀ x ∈ r'.items, x.lg = i ∨ ∃ r, (s.lgOf i).bt = some r ∧ x ∈ r.items) :
    ∀ j, j < (s.setLg i f).lgs.length → ∀ r, ((s.setLg i f).lgOf j).bt = some r → ∀ x ∈ r.items, x.lg = j := by
  intro j hj r hbt x hx
  rw [lgs_length_setLg] at hj
  rw [lgOf_setLg] at hbt
  split at hbt
  · rename_i hji
    obtain ⟨rfl, _⟩ := hji
    rcases hf r hbt x hx with h | ⟨r0, h1, h2⟩
    · exact h
    · exact hr j hj r0 h1 x h2
  · exact hr j hj r hbt x hx

theorem activeSinks_alive {s : BSt} (h : LS s) : ∀ sid ∈ activeSinks s, (s.sinkOf sid).alive = true := by
  intro sid hs
  unfold activeSinks at hs
  simp only [] at hs
  rw [List.mem_eraseDups, List.mem_flatMap] at hs
  obtain ⟨l, hl, hsid⟩ := hs
  rw [mem_insSorted, List.mem_filter] at hl
  obtain ⟨hm, hc⟩ := hl
  simp only [Bool.and_eq_true, Bool.not_eq_true'] at hc
  obtain ⟨i, hi, rfl⟩ := List.getElem_of_mem hm
  have hlg := lgOf_eq_getElem s i hi
  apply h.sinks_alive i
  · rw [hlg]; exact hc.1
  · rw [hlg]; exact hsid

theorem ring_at {s : BSt} (hr : ∀ i, i < s.lgs.length → ∀ r, (s.lgOf i).bt = some r → ∀ x ∈ r.items, x.lg = i) (lgi : Nat) :
    ∀ r, (s.lgOf lgi).bt = some r → ∀ x ∈ r.items, x.lg = lgi := by
  intro r hbt
  by_cases hi : lgi < s.lgs.length
  · exact hr lgi hi r hbt
  · simp only [BSt.lgOf, List.getD_eq_getElem?_getD, List.getElem?_eq_none (by omega : s.lgs.length ≤ lgi)] at hbt
    cases hbt

theorem LS_flushSinks {s : BSt} (h : LS s) : LS (flushSinks s) := by
  obtain ⟨evs, h1, h2⟩ := flushSinks_out s
  refine LS_out h h1 _ h2 (activeSinks_alive h) ?_
  exact ring_of_lgs (lgs_sinkRel.flushSinks s) h.ring

/-- one processed and reported event calls into live sinks only and stores statements of its logger only -/
theorem LS_procSt {s : BSt} (h : LS s) (st : Stmt) (he : (s.lgOf st.lg).erased = false) : LS (procSt s st) := by
  have hr : RingAll (fun i x => x.lg = i) s := fun i => ring_at h.ring i
  obtain ⟨evs, ho, hev⟩ := OutStep.of_log (keep_dispRel.procSt s st) (procSt_ext s st)
  refine LS_out h ho ((s.lgOf st.lg).sinks ++ activeSinks s) (fun e hm => ?_) (fun sid hs => ?_)
    (fun i _ => procSt_ringAll (fun _ _ => rfl) hr st i)
  · have hl : ∀ {x : Stmt}, wEv x (s.lgOf st.lg).sinks e → _ := fun hw =>
      (⟨fun k hk => List.mem_append_left (activeSinks s) ((wEv_on hw).1 k hk), (wEv_on hw).2⟩ :
        (∀ sid, usesSink sid e = true → sid ∈ (s.lgOf st.lg).sinks ++ activeSinks s) ∧ ∀ sid, isDtor sid e = false)
    rcases hev e hm with ⟨_, rfl⟩ | ⟨_, hw⟩ | (rfl | ⟨x, hx, hw⟩) | ⟨_, hf⟩
    · exact ⟨fun _ h => (by cases h), fun _ => rfl⟩
    · exact hl hw
    · exact ⟨fun _ h => (by cases h), fun _ => rfl⟩
    · unfold ringOf at hx
      cases hb : (s.lgOf st.lg).bt with
      | none => rw [hb] at hx; cases hx
      | some r =>
        rw [hb] at hx
        obtain ⟨k, hk, hw⟩ := hw
        rw [hr st.lg r hb x hx] at hk
        exact hl ⟨k, hk, hw⟩
    · exact ⟨fun k hk => List.mem_append_right _ ((fEv_on hf).1 k hk), (fEv_on hf).2⟩
  · rcases List.mem_append.mp hs with hs | hs
    · exact h.sinks_alive st.lg he sid hs
    · exact activeSinks_alive h sid hs

/-- what `LS` reads -/
def sview (s : BSt) : List Sink × List (Bool × List Nat × Option Ring) × List Ev :=
  (s.sinks, s.lgs.map (fun l => (l.erased, l.sinks, l.bt)), s.log)

theorem lgOf_of_sview {s s' : BSt} (h : s'.lgs.map (fun l => (l.erased, l.sinks, l.bt)) = s.lgs.map (fun l => (l.erased, l.sinks, l.bt)))
    (j : Nat) : (s'.lgOf j).erased = (s.lgOf j).erased ∧ (s'.lgOf j).sinks = (s.lgOf j).sinks ∧
      (s'.lgOf j).bt = (s.lgOf j).bt := by
  obtain ⟨h1, h2⟩ := Prod.mk.inj (getD_of_map_eq (fun l : Lg => (l.erased, l.sinks, l.bt)) h j default)
  exact ⟨h1, Prod.mk.inj h2⟩

theorem SinkKeep.of_sview {s s' : BSt} (hv : sview s' = sview s) : SinkKeep s s' := by
  simp only [sview, Prod.mk.injEq] at hv
  have hso : ∀ sid, s'.sinkOf sid = s.sinkOf sid := fun sid => by simp only [BSt.sinkOf, hv.1]
  exact ⟨by rw [hv.1], fun sid => by rw [hso], fun sid => by rw [hso], by simpa using congrArg List.length hv.2.1,
    fun i => (lgOf_of_sview hv.2.1 i).1, fun i => (lgOf_of_sview hv.2.1 i).2.1⟩

theorem LS_of_sview {s s' : BSt} (h : LS s) (hv : sview s' = sview s) : LS s' := by
  have hk := SinkKeep.of_sview hv
  simp only [sview, Prod.mk.injEq] at hv
  refine h.keep hk (evs := []) hv.2.2 [] (fun _ he => nomatch he) (fun _ hs => nomatch hs) (fun i hi r hbt => ?_)
  rw [(lgOf_of_sview hv.2.1 i).2.2] at hbt
  exact h.ring i (hk.lgLen ▸ hi) r hbt

theorem LS_emit_plain {s : BSt} (h : LS s) (e : Ev) (hu : ∀ sid, usesSink sid e = false)
    (hd : ∀ sid, isDtor sid e = false) : LS (s.emit e) :=
  LS_out h (OutStep_emit s e) [] (.single (fun sid hs => by rw [hu] at hs; cases hs) hd) (fun _ h => by cases h)
    (ring_of_lgs rfl h.ring)

theorem LS_setSink {s : BSt} (h : LS s) (sid : Nat) (f : Sink → Sink) (hf : ∀ x, (f x).sid = x.sid)
    (hal : ∀ x, (f x).alive = x.alive) (hur : ∀ x, (f x).userRef = true → x.userRef = true) : LS (s.setSink sid f) := by
  have hso : ∀ sid', ((s.setSink sid f).sinkOf sid').alive = (s.sinkOf sid').alive ∧
      (((s.setSink sid f).sinkOf sid').userRef = true → (s.sinkOf sid').userRef = true) := by
    intro sid'
    rcases sinkOf_setSink_cases s sid f (fun k hk => (hf k).trans hk) sid' with e | ⟨rfl, _, e⟩ <;> rw [e]
    · exact ⟨rfl, id⟩
    · exact ⟨hal _, hur _⟩
  refine ⟨?_, ?_, h.ring, ?_, h.nouad⟩
  · rw [setSink_sids s sid f (fun x _ hx => by rw [hf, hx])]; exact h.nodup
  · intro sid' ha
    rw [(hso sid').1] at ha
    obtain ⟨h1, h2⟩ := h.dead sid' ha
    refine ⟨?_, h2⟩
    cases hu : ((s.setSink sid f).sinkOf sid').userRef
    · rfl
    · rw [(hso sid').2 hu] at h1; cases h1
  · intro sid' ha d hd
    rw [(hso sid').1] at ha
    exact h.nodtor sid' ha d hd

end Backend.PC

namespace Backend
open Backend.PC

theorem NoUAD_split : ∀ (log newer older : List Ev) (sid : Nat), NoUAD log → log = newer ++ Ev.sinkDtor sid :: older →
    ∀ e ∈ newer, usesSink sid e = false
  | _, [], _, _, _, _ => fun _ h => by cases h
  | _, e :: rest, older, sid, hn, heq => by
    subst heq
    intro x hx
    rcases List.mem_cons.mp hx with rfl | hx
    · cases hu : usesSink sid x
      · rfl
      · have := hn.2 sid hu (Ev.sinkDtor sid) (by simp)
        simp [isDtor] at this
    · exact NoUAD_split (rest ++ Ev.sinkDtor sid :: older) rest older sid hn.1 rfl x hx

end Backend
