import QuillModel.Backend.EventShape
/-!
Two-state relations along the dispatch side of the backend. A reflexive, transitive relation that holds across a counted
call of a sink (`write_log`, `flush_sink`) and every emitted event (`SinkRel`) holds across `writeToSinks`, `dispatch`, the
replay loop and `flushSinks`, and with the destruction of a sink across `reapSinks` (the loops over sinks have their rules
here: `flushSinks_rule`, `reapSinksInj_rule`, `reapSinks_rule`, for predicates of the sinks still to visit); one that also
holds across a write to a logger's backtrace storage (`DispRel`) holds across `replayRing`, `processEvent` and `procSt`. A
function of the state that reads none of these is the case `R s s' := φ s' = φ s`.
-/
namespace Backend

/-- the marker of an injected frontend operation: the one event the dispatch side never emits -/
def Ev.isInj : Ev → Bool
  | .inj .. => true
  | _ => false

structure SinkRel (R : BSt → BSt → Prop) : Prop where
  refl : ∀ s, R s s
  trans : ∀ {a b c}, R a b → R b c → R a c
  wcall : ∀ s sid, R s (s.setSink sid (fun _ => { s.sinkOf sid with wcalls := (s.sinkOf sid).wcalls + 1 }))
  fcall : ∀ s sid, R s (s.setSink sid (fun _ => { s.sinkOf sid with fcalls := (s.sinkOf sid).fcalls + 1 }))
  emit : ∀ s e, e.isInj = false → R s (s.emit e)

structure DispRel (R : BSt → BSt → Prop) : Prop extends SinkRel R where
  setBt : ∀ s i b, R s (s.setLg i (fun l => { l with bt := b }))

theorem SinkRel.of_setSink {R : BSt → BSt → Prop} (refl : ∀ s, R s s) (trans : ∀ {a b c}, R a b → R b c → R a c)
    (setSink : ∀ s sid f, R s (s.setSink sid f)) (emit : ∀ s e, e.isInj = false → R s (s.emit e)) : SinkRel R :=
  ⟨refl, trans, fun s sid => setSink s sid _, fun s sid => setSink s sid _, emit⟩

theorem SinkRel.of_eq {α} (φ : BSt → α) (h1 : ∀ s sid f, φ (s.setSink sid f) = φ s) (h2 : ∀ s e, φ (s.emit e) = φ s) :
    SinkRel (fun s s' => φ s' = φ s) :=
  .of_setSink (fun _ => rfl) (fun h h' => h'.trans h) h1 (fun s e _ => h2 s e)

/-- … nor the backtrace storage: the dispatch side writes only sinks, the `bt` of loggers and the two event lists -/
theorem DispRel.of_eq {α} (φ : BSt → α) (h1 : ∀ s sid f, φ (s.setSink sid f) = φ s) (h2 : ∀ s e, φ (s.emit e) = φ s)
    (h3 : ∀ s i b, φ (s.setLg i (fun l => { l with bt := b })) = φ s) : DispRel (fun s s' => φ s' = φ s) :=
  ⟨SinkRel.of_eq φ h1 h2, h3⟩

theorem SinkRel.and {R Q : BSt → BSt → Prop} (h : SinkRel R) (g : SinkRel Q) : SinkRel (fun s s' => R s s' ∧ Q s s') :=
  ⟨fun s => ⟨h.refl s, g.refl s⟩, fun a b => ⟨h.trans a.1 b.1, g.trans a.2 b.2⟩, fun s sid => ⟨h.wcall s sid, g.wcall s sid⟩,
   fun s sid => ⟨h.fcall s sid, g.fcall s sid⟩, fun s e he => ⟨h.emit s e he, g.emit s e he⟩⟩

theorem DispRel.and {R Q : BSt → BSt → Prop} (h : DispRel R) (g : DispRel Q) : DispRel (fun s s' => R s s' ∧ Q s s') :=
  ⟨h.toSinkRel.and g.toSinkRel, fun s i b => ⟨h.setBt s i b, g.setBt s i b⟩⟩

theorem lgs_sinkRel : SinkRel (fun s s' => s'.lgs = s.lgs) :=
  SinkRel.of_eq (·.lgs) (fun _ _ _ => rfl) (fun _ _ => rfl)

theorem SinkRel.writeToSinks {R : BSt → BSt → Prop} (h : SinkRel R) (st : Stmt) :
    ∀ (sids : List Nat) (s : BSt), R s (writeToSinks s st sids).1
  | [], s => h.refl s
  | sid :: rest, s => by
    simp only [Backend.writeToSinks]
    split
    · split
      · exact h.trans (h.wcall ..) (h.emit _ _ rfl)
      · exact h.trans (h.trans (h.wcall ..) (h.emit _ _ rfl)) (h.writeToSinks st rest _)
    · exact h.writeToSinks st rest s

theorem SinkRel.dispatch {R : BSt → BSt → Prop} (h : SinkRel R) (s : BSt) (st : Stmt) : R s (dispatch s st).1 :=
  h.writeToSinks st _ s

/-- the replay loop: `I l x` with the statements `l` still to replay, `Q` of the state and the flag it returns. A failed
    dispatch is either reported, and the loop goes on, or ends the loop with the flag set -/
theorem replayGo_rule (I : List Stmt → BSt → Prop) (Q : BSt → Bool → Prop)
    (done : ∀ x, I [] x → Q x false)
    (ok : ∀ st l x, I (st :: l) x → (dispatch x st).2 = false → I l (dispatch x st).1)
    (caught : ∀ st l x, I (st :: l) x → (dispatch x st).2 = true →
      I l ((dispatch x st).1.emit (.notify "n:wfail")))
    (abort : ∀ st l x, I (st :: l) x → (dispatch x st).2 = true → Q (dispatch x st).1 true) :
    ∀ (l : List Stmt) (x : BSt), I l x → Q (replayRing.go x l).1 (replayRing.go x l).2
  | [], x, h => done x h
  | st :: l, x, h => by
    unfold replayRing.go
    dsimp only
    cases hd : (dispatch x st).2
    · rw [if_neg Bool.false_ne_true]
      exact replayGo_rule I Q done ok caught abort l _ (ok st l x h hd)
    · rw [if_pos rfl]
      split
      · exact replayGo_rule I Q done ok caught abort l _ (caught st l x h hd)
      · have := abort st l x h hd
        rwa [← hd] at this

theorem SinkRel.replayGo {R : BSt → BSt → Prop} (h : SinkRel R) (l : List Stmt) (s : BSt) : R s (replayRing.go s l).1 :=
  replayGo_rule (fun _ => R s) (fun x _ => R s x) (fun _ hx => hx) (fun st _ x hx _ => h.trans hx (h.dispatch x st))
    (fun st _ x hx _ => h.trans hx (h.trans (h.dispatch x st) (h.emit _ _ rfl)))
    (fun st _ x hx _ => h.trans hx (h.dispatch x st)) l s (h.refl s)

/-- `flushSinks`: `A pend` while the active sinks `pend` are still to be flushed; a `flush_sink` that throws is reported
    and the loop goes on -/
theorem flushSinks_rule (A : List Nat → BSt → Prop)
    (ok : ∀ p x sid, A (sid :: p) x →
      A p ((x.setSink sid (fun _ => { x.sinkOf sid with fcalls := (x.sinkOf sid).fcalls + 1 })).emit (.flushed sid)))
    (caught : ∀ p x sid, A (sid :: p) x →
      A p (((x.setSink sid (fun _ => { x.sinkOf sid with fcalls := (x.sinkOf sid).fcalls + 1 })).emit
        (.fthrow sid)).emit (.notify "n:ffail")))
    (s : BSt) (h : A (activeSinks s) s) : A [] (flushSinks s) := by
  unfold Backend.flushSinks
  generalize activeSinks s = l at h
  induction l generalizing s with
  | nil => exact h
  | cons y ys ih =>
    rw [List.foldl_cons]
    apply ih
    dsimp only
    split
    · exact caught ys s y h
    · exact ok ys s y h

theorem SinkRel.flushSinks {R : BSt → BSt → Prop} (h : SinkRel R) (s : BSt) : R s (flushSinks s) :=
  flushSinks_rule (fun _ => R s) (fun _ _ _ hx => h.trans hx (h.trans (h.fcall ..) (h.emit _ _ rfl)))
    (fun _ _ _ hx => h.trans hx (h.trans (h.trans (h.fcall ..) (h.emit _ _ rfl)) (h.emit _ _ rfl))) s (h.refl s)

/-- the sinks of an erased logger are visited one by one, hook site 9 after each destruction: `A pend` while the sinks
    `pend` are still to be visited -/
theorem reapSinksInj_rule (inj : BSt → Nat → BSt) (A : List Nat → BSt → Prop) (h9 : ∀ p x, A p x → A p (inj x 9))
    (hReap : ∀ p x sid, A (sid :: p) x → (x.sinkOf sid).alive = true → sinkRefs x sid = 0 →
      A p ((x.setSink sid (fun k => { k with alive := false })).emit (.sinkDtor sid)))
    (hSkip : ∀ p x sid, A (sid :: p) x → ¬((x.sinkOf sid).alive = true ∧ sinkRefs x sid = 0) → A p x) :
    ∀ (sids : List Nat) (x : BSt), A sids x → A [] (reapSinksInj inj x sids) := by
  intro sids
  unfold reapSinksInj
  induction sids with
  | nil => exact fun _ h => h
  | cons y ys ih =>
    intro x h
    rw [List.foldl_cons]
    apply ih
    split
    · next hc =>
      simp only [Bool.and_eq_true, decide_eq_true_eq] at hc
      exact h9 _ _ (hReap ys x y h hc.1 hc.2)
    · next hc =>
      simp only [Bool.and_eq_true, decide_eq_true_eq] at hc
      exact hSkip ys x y h hc

theorem reapSinksInj_pres (P : BSt → Prop) (inj : BSt → Nat → BSt) (h9 : ∀ x, P x → P (inj x 9))
    (hReap : ∀ x sid, P x → (x.sinkOf sid).alive = true → sinkRefs x sid = 0 →
      P ((x.setSink sid (fun k => { k with alive := false })).emit (.sinkDtor sid))) (sids : List Nat) :
    ∀ (x : BSt), P x → P (reapSinksInj inj x sids) :=
  reapSinksInj_rule inj (fun _ => P) (fun _ => h9) (fun _ x sid => hReap x sid) (fun _ _ _ h _ => h) sids

/-- the reaper of the frontend (`dropSink`) is the same loop with no hook site -/
theorem reapSinks_rule (A : List Nat → BSt → Prop)
    (hReap : ∀ p x sid, A (sid :: p) x → (x.sinkOf sid).alive = true → sinkRefs x sid = 0 →
      A p ((x.setSink sid (fun k => { k with alive := false })).emit (.sinkDtor sid)))
    (hSkip : ∀ p x sid, A (sid :: p) x → ¬((x.sinkOf sid).alive = true ∧ sinkRefs x sid = 0) → A p x) :
    ∀ (sids : List Nat) (x : BSt), A sids x → A [] (reapSinks x sids) :=
  reapSinksInj_rule (fun x _ => x) A (fun _ _ h => h) hReap hSkip

theorem reapSinks_pres (P : BSt → Prop)
    (hReap : ∀ x sid, P x → (x.sinkOf sid).alive = true → sinkRefs x sid = 0 →
      P ((x.setSink sid (fun k => { k with alive := false })).emit (.sinkDtor sid))) (sids : List Nat) :
    ∀ (x : BSt), P x → P (reapSinks x sids) :=
  reapSinksInj_pres P (fun x _ => x) (fun _ h => h) hReap sids

/-- the reaper also destroys: `kill` -/
theorem SinkRel.reapSinks {R : BSt → BSt → Prop} (h : SinkRel R)
    (kill : ∀ s sid, R s (s.setSink sid (fun k => { k with alive := false }))) (sids : List Nat) (s : BSt) :
    R s (reapSinks s sids) :=
  reapSinks_pres (R s) (fun _ _ hx _ _ => h.trans hx (h.trans (kill ..) (h.emit _ _ rfl))) sids s (h.refl s)

theorem DispRel.replayRing {R : BSt → BSt → Prop} (h : DispRel R) (s : BSt) (lgi : Nat) : R s (replayRing s lgi).1 := by
  unfold Backend.replayRing
  split
  · exact h.refl s
  · dsimp only
    split
    · exact h.replayGo _ s
    · exact h.trans (h.replayGo _ s) (h.setBt ..)

theorem DispRel.processEvent {R : BSt → BSt → Prop} (h : DispRel R) (s : BSt) (st : Stmt) : R s (processEvent s st).1 := by
  have hs := processEvent_shape s st
  generalize Backend.processEvent s st = r at hs ⊢
  cases hs with
  | writeFail | plain => exact h.dispatch s st
  | replay => exact h.trans (h.dispatch s st) (h.replayRing _ _)
  | store | initBt => exact h.setBt ..
  | noRing | removal => exact h.refl s
  | flushBt => exact h.replayRing s _
  | flush => exact h.flushSinks s

theorem DispRel.procSt {R : BSt → BSt → Prop} (h : DispRel R) (s : BSt) (st : Stmt) : R s (procSt s st) := by
  unfold Backend.procSt
  split
  · exact h.trans (h.processEvent s st) (h.emit _ _ rfl)
  · exact h.processEvent s st

end Backend
