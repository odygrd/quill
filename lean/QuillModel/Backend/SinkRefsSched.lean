import QuillModel.Backend.SinkRefs
/-!
"Every live sink is referenced" (`RP []`, `Backend/SinkRefs.lean`) holds after every schedule. The property is broken
between the erase of a logger and the visits of its sinks, so it cannot be carried by the per-micro-step skeleton
`Closed` of `PcSkeleton.lean`; `ClosedR` is that skeleton without the logger clean-up, which `runOps_closedR` takes as
one hypothesis (`cleanupLoggers_PR`: erase → `RP (sinks of the logger)` → one visit per sink, any frontend operations at hook site 9
in between → `RP []`); the walk through `poll` is that of `Pass.lean` (`ClosedW`). Also `DT`: a destroyed sink
has exactly one destructor event (`FD = FInv ∧ DT` is an ordinary `Closed` invariant, `FD_closed`). For C17.
-/
namespace Backend.PC

/-- `ClosedB` without the pieces of the logger clean-up (`invFlag`, `erase`, `reap`, `flagRemoval`), plus the frontend -/
structure ClosedR (P : BSt → Prop) : Prop where
  siteCnt : ∀ s x, P s → P { s with siteCnt := x }
  emitInj : ∀ s a b c d, P s → P (s.emit (.inj a b c d))
  note : ∀ s, P s → P (s.emit (.notify "n:fmterr"))
  clock : ∀ s n, P s → P { s with now := n }
  gone : ∀ s, P s → P { s with backendGone := true }
  lastFlush : ∀ s n, P s → P { s with lastFlush := n }
  refresh : ∀ s, P s → P (refreshCache s)
  allEmpty : ∀ s, P s → P (allEmpty s).1
  hasPending : ∀ s, P s → P (hasPending s).1
  cleanupContexts : ∀ s, P s → P (cleanupContexts s)
  flushSinks : ∀ s, P s → P (flushSinks s)
  readPrep : ∀ s i, P s → P (readPrepSt s i)
  commit : ∀ s i, P s → P (commitSt s i)
  readOne : ∀ s i st rest, P s → (qPrepareRead s.cfg (s.th i).q).2 = true → (s.th i).qStmts = st :: rest →
              P (readOneSt s i st rest)
  report : ∀ s i, P s → (s.th i).fail > 0 → P (reportSt s i)
  pop : ∀ s i st rest, P s → lowest s = some i → (s.th i).buf = st :: rest → P (popSt s i st rest)
  raise : ∀ s f, P s → (∃ st, s.popLog.head? = some st ∧ st.kind = .flush f) → P (raiseSt s f)
  front : ∀ s f, P s → P (applyFront s f).1

theorem runInj_okR {P : BSt → Prop} (hc : ClosedR P) (table : List (Nat × Nat × List FOp)) : InjOK P (runInj table) :=
  runInj_pres hc.siteCnt hc.emitInj hc.front table

theorem ClosedR.toW {P : BSt → Prop} (hc : ClosedR P) : ClosedW P :=
  ⟨hc.note, fun s _ => hc.clock s _, fun s => hc.lastFlush s _, hc.refresh, hc.allEmpty, hc.hasPending, hc.cleanupContexts,
   hc.flushSinks, hc.readPrep, hc.commit, hc.readOne, hc.report⟩

theorem ClosedR.passRules {P : BSt → Prop} (hc : ClosedR P) (hcl : ∀ table s, P s → P (cleanupLoggers (runInj table) s))
    (table : List (Nat × Nat × List FOp)) : PassRules (runInj table) P P P :=
  hc.toW.passRules (runInj_okR hc table).keeps
    (processLowest_okG (runInj_okR hc table) hc.report hc.cleanupContexts hc.pop hc.raise) (hcl table)

theorem runOps_closedR {P : BSt → Prop} (hc : ClosedR P)
    (hcl : ∀ table s, P s → P (cleanupLoggers (runInj table) s)) : ∀ (ops : List Op) (s : BSt), P s → P (runOps s ops) :=
  PassRules.runOps (hc.passRules hcl) hc.front (hc.siteCnt · []) hc.gone

def PR (pend : List Nat) (x : BSt) : Prop := FInv x ∧ RP pend x

theorem PR_closedR (pend : List Nat) : ClosedR (PR pend) where
  siteCnt := fun s x h => ⟨FInv_closed.siteCnt s x h.1, RP_of_fields rfl rfl h.2⟩
  emitInj := fun s a b c d h => ⟨FInv_closed.emitInj s a b c d h.1, RP_of_fields rfl rfl h.2⟩
  note := fun s h => ⟨FInv_closed.note s h.1, RP_of_fields rfl rfl h.2⟩
  clock := fun s n h => ⟨FInv_closed.clock s n h.1, RP_of_fields rfl rfl h.2⟩
  gone := fun s h => ⟨FInv_closed.gone s h.1, RP_of_fields rfl rfl h.2⟩
  lastFlush := fun s n h => ⟨FInv_closed.lastFlush s n h.1, RP_of_fields rfl rfl h.2⟩
  refresh := fun s h => ⟨FInv_closed.refresh s h.1, RP_of_sview h.2 (refreshCache_sview s)⟩
  allEmpty := fun s h => ⟨FInv_closed.allEmpty s h.1, RP_of_sview h.2 (allEmpty_sview s)⟩
  hasPending := fun s h => ⟨FInv_closed.hasPending s h.1, RP_of_sview h.2 (hasPending_sview s)⟩
  cleanupContexts := fun s h => ⟨FInv_closed.cleanupContexts s h.1,
    cleanupContexts_pres (RP pend) (fun x i hx => RP_of_fields rfl rfl hx) (fun x i hx => RP_of_fields rfl rfl hx) s h.2⟩
  flushSinks := fun s h => ⟨FInv_closed.flushSinks s h.1, by
    obtain ⟨evs, h1, _⟩ := flushSinks_out s
    exact RP_out h.2 h1⟩
  readPrep := fun s i h => ⟨FInv_closed.readPrep s i h.1, RP_of_fields rfl rfl h.2⟩
  commit := fun s i h => ⟨FInv_closed.commit s i h.1, RP_of_fields rfl rfl h.2⟩
  readOne := fun s i st rest h hr hq => ⟨FInv_closed.readOne s i st rest h.1 hr hq, RP_of_sview h.2 (readOneSt_sview s i st rest)⟩
  report := fun s i h hf => ⟨FInv_closed.report s i h.1 hf, RP_of_fields rfl rfl h.2⟩
  pop := fun s i st rest h hl hb => ⟨FInv_closed.pop s i st rest h.1 hl hb, RP_popSt h.2 i st rest⟩
  raise := fun s f h hg => ⟨FInv_closed.raise s f h.1 hg, RP_of_fields rfl rfl h.2⟩
  front := fun s f h => ⟨FInv_closed.front s f h.1, RP_front pend s f h.2⟩

theorem cleanupLoggers_PR (inj : BSt → Nat → BSt) (hinj : ∀ pend x k, PR pend x → PR pend (inj x k))
    (s : BSt) (hs : PR [] s) : PR [] (cleanupLoggers inj s) := by
  refine (cleanupLoggers_rule inj s (fun p x _ => PR p x) (fun _ => PR []) (fun p x _ h => hinj p x 9 h)
    (fun x _ b h => ⟨FInv_closed.invFlag x b h.1, RP_of_fields rfl rfl h.2⟩)
    (fun x _ h => ⟨FInv_closed.allEmpty x h.1, RP_of_sview h.2 (allEmpty_sview x)⟩) (fun x _ i _ _ h hv he => ?_)
    (fun _ x _ sid h ha hr => ⟨FInv_closed.reap x sid h.1 ha hr, RP_kill hr h.2⟩)
    (fun _ _ _ _ h hc => ⟨h.1, RP_skip hc h.2⟩) (fun _ _ h => h)
    (fun _ x _ _ hx _ _ => ⟨⟨LInv_of_views hx.1.1 rfl rfl rfl, LS_of_sview hx.1.2 rfl⟩, RP_of_fields rfl rfl hx.2⟩)
    hs).elim fun _ h => h
  have hlg : (allEmpty x).1.lgOf i = x.lgOf i := by simp only [BSt.lgOf, allEmpty_lgs]
  have hE := RP_erase (RP_of_sview h.2 (allEmpty_sview x)) i
  rw [hlg, List.append_nil] at hE
  exact ⟨FInv_closed.erase x i h.1 hv he, hE⟩

theorem PR_runInj (table : List (Nat × Nat × List FOp)) (pend : List Nat) (x : BSt) (k : Nat) (h : PR pend x) :
    PR pend (runInj table x k) :=
  (runInj_okR (PR_closedR pend) table x k h).1

theorem PR_runOps (s0 : BSt) (h0 : PR [] s0) (ops : List Op) : PR [] (runOps s0 ops) :=
  runOps_closedR (PR_closedR []) (fun table => cleanupLoggers_PR (runInj table) (PR_runInj table)) ops s0 h0

/-- `DT`: for every sink of the system, dead ⇒ exactly one destructor event in the log (alive ⇒ none is `LS.nodtor`) -/
def DT (x : BSt) : Prop :=
  ∀ sid ∈ x.sinks.map (·.sid), (x.sinkOf sid).alive = false → x.log.countP (isDtor sid) = 1

theorem DT_of_fields {x x' : BSt} (h1 : x'.sinks = x.sinks) (h2 : x'.log = x.log) (h : DT x) : DT x' := by
  have hso : ∀ sid, x'.sinkOf sid = x.sinkOf sid := fun sid => by simp only [BSt.sinkOf, h1]
  intro sid hs ha
  rw [h1] at hs; rw [hso] at ha; rw [h2]
  exact h sid hs ha

theorem DT_of_sview {x x' : BSt} (h : DT x) (hv : sview x' = sview x) : DT x' := by
  simp only [sview, Prod.mk.injEq] at hv
  exact DT_of_fields hv.1 hv.2.2 h

theorem countP_noDtor {evs : List Ev} (h : NoDtorIn evs) (sid : Nat) : evs.countP (isDtor sid) = 0 := by
  rw [List.countP_eq_zero]
  intro e he
  rw [h e he sid]; simp

theorem DT_out {x x' : BSt} {evs : List Ev} (h : DT x) (ho : OutStep x x' evs) (hn : NoDtorIn evs) : DT x' := by
  intro sid hs ha
  rw [ho.sk.1] at hs
  rw [ho.keep.alive] at ha
  rw [ho.log, List.countP_append, countP_noDtor hn sid, Nat.zero_add]
  exact h sid hs ha

theorem DT_emit_plain {x : BSt} (h : DT x) (e : Ev) (hd : ∀ sid, isDtor sid e = false) : DT (x.emit e) := by
  intro sid hs ha
  show (e :: x.log).countP (isDtor sid) = 1
  rw [List.countP_cons, hd sid]
  simp only [Bool.false_eq_true, if_false, Nat.add_zero]
  exact h sid hs ha

theorem DT_reapStep {s : BSt} (hL : LS s) (h : DT s) (sid : Nat) (ha : (s.sinkOf sid).alive = true) (hr : sinkRefs s sid = 0) :
    DT ((s.setSink sid (fun k => { k with alive := false })).emit (.sinkDtor sid)) := by
  obtain ⟨_, hne, hsids⟩ := sinkOf_kill hr
  intro sid' hs' ha'
  have hs'' : sid' ∈ (s.setSink sid (fun k => { k with alive := false })).sinks.map (·.sid) := hs'
  have ha'' : ((s.setSink sid (fun k => { k with alive := false })).sinkOf sid').alive = false := ha'
  show (Ev.sinkDtor sid :: s.log).countP (isDtor sid') = 1
  rw [List.countP_cons]
  by_cases hs : sid' = sid
  · subst hs
    have h0 : s.log.countP (isDtor sid') = 0 := by
      rw [List.countP_eq_zero]
      intro d hd
      rw [hL.nodtor sid' ha d hd]; simp
    rw [h0]; simp [isDtor]
  · rw [hne sid' hs] at ha''
    rw [hsids] at hs''
    have : isDtor sid' (Ev.sinkDtor sid) = false := by
      simp only [isDtor, beq_eq_false_iff_ne, ne_eq]; exact fun e => hs e.symm
    rw [this]
    simp only [Bool.false_eq_true, if_false, Nat.add_zero]
    exact h sid' hs'' ha''

theorem DT_reapSinks (sids : List Nat) (s : BSt) (hL : LS s) (h : DT s) : DT (reapSinks s sids) :=
  (reapSinksInj_pres (fun x => LS x ∧ DT x) (fun x _ => x) (fun _ h => h)
    (fun _ sid h ha hr => ⟨LS_reapStep h.1 sid ha hr, DT_reapStep h.1 h.2 sid ha hr⟩) sids s ⟨hL, h⟩).2

theorem DT_popSt {s : BSt} (h : DT s) (i : Nat) (st : Stmt) (rest : List Stmt) : DT (popSt s i st rest) := by
  obtain ⟨evs, h1, hn⟩ := procSt_out s st
  rw [popSt_proc]
  exact DT_of_fields (x := procSt s st) rfl rfl (DT_out h h1 hn)

theorem DT_setSink {s : BSt} (h : DT s) (sid : Nat) (f : Sink → Sink) (hf : ∀ x, (f x).sid = x.sid)
    (hal : ∀ x, (f x).alive = x.alive) : DT (s.setSink sid f) := by
  intro sid' hs' ha'
  rw [setSink_sids s sid f (fun y _ hy => by rw [hf, hy])] at hs'
  have hp := sinkOf_setSink_proj (·.alive) s sid f (fun k hk => (hf k).trans hk) hal sid'
  rw [hp] at ha'
  exact h sid' hs' ha'

theorem DT_front (s : BSt) (f : FOp) (hL : LS s) (h : DT s) : DT (applyFront s f).1 := by
  rcases front_sinkPart s f with e | ⟨_, g, sl, nm, _, _, e⟩ | ⟨sid, lvl, _, e⟩ | ⟨sid, e⟩
  · exact DT_of_sview h (of_sinkPart sview sview_sinkPart e)
  · rw [e]
    exact DT_of_fields rfl rfl h
  · rw [e]
    exact DT_setSink h sid _ (fun _ => rfl) (fun _ => rfl)
  · rw [e]
    apply DT_reapSinks
    · exact LS_setSink hL sid _ (fun _ => rfl) (fun _ => rfl) (fun _ hu => by cases hu)
    · exact DT_setSink h sid _ (fun _ => rfl) (fun _ => rfl)

def FD (x : BSt) : Prop := FInv x ∧ DT x

theorem DT_kept : Kept FInv DT where
  book _ _ _ _ _ _ h := DT_of_fields rfl rfl h
  emitInj _ _ _ _ _ h := DT_emit_plain h _ (fun _ => rfl)
  note _ h := DT_emit_plain h _ (fun _ => rfl)
  recache _ _ h := DT_of_fields rfl rfl h
  rdQ _ _ _ _ h _ _ := DT_of_fields rfl rfl h
  dropCtx _ _ _ h _ _ _ _ := DT_of_fields rfl rfl h
  erase _ _ _ _ _ h' _ _ := DT_of_fields rfl rfl h'
  reap _ sid hp h ha hr := DT_reapStep hp.2 h sid ha hr
  flagRemoval _ _ _ _ _ _ h _ _ := DT_of_fields rfl rfl h
  flushSinks s _ h := by
    obtain ⟨evs, h1, h2⟩ := flushSinks_out s
    exact DT_out h h1 h2.noDtor
  readOne s i st rest _ h _ _ := DT_of_sview h (readOneSt_sview s i st rest)
  report s i _ h _ :=
    DT_of_fields rfl rfl (DT_emit_plain (DT_of_fields (x' := s.setTh i (fun t => { t with fail := 0 })) rfl rfl h) _
      (fun _ => rfl))
  pop _ i st rest hp h _ _ := DT_popSt h i st rest
  raise _ _ h _ := DT_of_fields rfl rfl h
  front s f hp h := DT_front s f hp.2 h

theorem FD_closed : Closed FD := (FInv_kept.and DT_kept).closed

theorem FD_runOps (s0 : BSt) (h0 : FD s0) (ops : List Op) : FD (runOps s0 ops) :=
  runOps_closed FD_closed ops s0 h0

theorem sink_destroyed_iff {s : BSt} (hL : LS s) (hP : RP [] s) (hD : DT s) {sid : Nat} (hsid : sid ∈ s.sinks.map (·.sid)) :
    ((s.sinkOf sid).alive = false ↔ sinkRefs s sid = 0) ∧
    s.log.countP (isDtor sid) = (if (s.sinkOf sid).alive then 0 else 1) := by
  refine ⟨?_, ?_⟩
  · rw [sinkRefs_zero_iff]
    constructor
    · rintro hd (hu | ⟨i, hi, he, hm⟩)
      · rw [(hL.dead sid hd).1] at hu; cases hu
      · exact (hL.dead sid hd).2 i hi he hm
    · intro hz
      cases ha : (s.sinkOf sid).alive
      · rfl
      · rcases hP sid hsid ha with hr | hp
        · exact absurd hr hz
        · cases hp
  · cases ha : (s.sinkOf sid).alive
    · exact hD sid hsid ha
    · rw [if_pos rfl, List.countP_eq_zero]
      intro d hd
      rw [hL.nodtor sid ha d hd]
      exact Bool.false_ne_true

end Backend.PC

namespace Backend
open PC

theorem LoggerFresh.sinks_runOps {s0 : BSt} (h0 : LoggerFresh s0)
    (href : ∀ sid ∈ s0.sinks.map (·.sid), 0 < sinkRefs s0 sid) (ops : List Op) :
    LS (runOps s0 ops) ∧ RP [] (runOps s0 ops) ∧ DT (runOps s0 ops) :=
  ⟨(FInv_runOps s0 h0.inv ops).2,
   (PR_runOps s0 ⟨h0.inv, fun k hk _ => Or.inl (refd_of_sinkRefs_pos (href k hk))⟩ ops).2,
   (FD_runOps s0 ⟨h0.inv, fun k _ ha => by rw [fresh_sinkOf_alive h0 k] at ha; cases ha⟩ ops).2⟩

end Backend
