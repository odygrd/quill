import QuillModel.Backend.LiftBal
import QuillModel.Backend.LiftObsStr
/-!
The text of the backend's notifications, read back: `parseCount` extracts the count `k` from
`n:dropped:<k>:a<t>` / `n:blocked:<k>:a<t>` (what `_check_failure_counter` hands to the error notifier; the model's
payload format is `PC.reportStr`) and is `0` on every other notification.
-/
namespace Backend.PC

theorem reportStr_toList (dr : Bool) (n a : Nat) :
    (reportStr dr n a).toList =
      (if dr then "n:dropped:" else "n:blocked:").toList ++ ((toString n).toList ++ ':' :: 'a' :: (toString a).toList) := by
  cases dr <;>
    simp only [reportStr, if_true, if_false, Bool.false_eq_true, toString_str, String.toList_append, List.append_assoc,
      show ":a".toList = [':', 'a'] by simp, List.cons_append, List.nil_append]

theorem head_length (dr : Bool) : (if dr then "n:dropped:" else "n:blocked:").toList.length = 10 := by
  cases dr <;> simp

def parseCount (w : String) : Nat :=
  if w.toList.take 10 = "n:dropped:".toList ∨ w.toList.take 10 = "n:blocked:".toList then
    Nat.ofDigitChars 10 ((w.toList.drop 10).takeWhile Char.isDigit) 0
  else 0

theorem parseCount_reportStr (dr : Bool) (n a : Nat) : parseCount (reportStr dr n a) = n := by
  have hh : (if dr then "n:dropped:" else "n:blocked:").toList = "n:dropped:".toList ∨
      (if dr then "n:dropped:" else "n:blocked:").toList = "n:blocked:".toList := by
    cases dr
    · exact .inr rfl
    · exact .inl rfl
  unfold parseCount
  rw [reportStr_toList, List.take_left' (head_length dr), List.drop_left' (head_length dr),
    tw_digits _ _ _ (digits_toString n) (by decide), if_pos hh]
  simp only [toString, Nat.toList_repr]
  exact Nat.ofDigitChars_ten_toDigits

theorem parseCount_short {w : String} (h : w.toList.length < 10) : parseCount w = 0 := by
  have hne : ∀ P : List Char, P.length = 10 → w.toList.take 10 ≠ P := by
    intro P hP e
    have := congrArg List.length e
    rw [List.length_take, hP] at this
    omega
  unfold parseCount
  rw [if_neg]
  rintro (e | e)
  · exact hne "n:dropped:".toList (head_length true) e
  · exact hne "n:blocked:".toList (head_length false) e

theorem parseCount_ffail : parseCount "n:ffail" = 0 := parseCount_short (by simp)
theorem parseCount_wfail : parseCount "n:wfail" = 0 := parseCount_short (by simp)
theorem parseCount_nobt : parseCount "n:nobt" = 0 := parseCount_short (by simp)

theorem reportStr_ne (dr : Bool) (n a : Nat) : reportStr dr n a ≠ "n:wfail" ∧ reportStr dr n a ≠ "n:ffail" := by
  -- it is too long to be either
  have hl : 10 ≤ (reportStr dr n a).toList.length := by
    rw [reportStr_toList, List.length_append, head_length]
    exact Nat.le_add_right _ _
  refine ⟨fun h => ?_, fun h => ?_⟩
  · rw [h] at hl
    simp at hl
  · rw [h] at hl
    simp at hl

end Backend.PC
