import QuillModel.Backend.FlushRel
/-!
# Reading the queues while the frontend keeps running (for the progress of C06 / C09 under concurrency)

`Grow s s'`: a stretch of execution that pops nothing — frontend operations (threads logging, registering, exiting,
resuming …) and the backend's reading steps. Per context the transit buffer and the pending list `buffer ++ queue` are
only extended (prefix order), the registry only grows, the clock does not go back. Every frontend operation is such a
stretch, hence every injection, hence — for an arbitrary injection runner with this property — the whole pass `populate`.
Consequence (`populate_reads_cnt`): a context whose queue offers a record past its grace period has one more record in its
transit buffer after the pass, whatever the other threads do meanwhile (the do-while of `_read_and_decode_frontend_queue`
reads one record before it looks at the hard limit or the byte budget).
-/
namespace Backend.PB

structure ThGrow (t t' : Th) : Prop where
  buf : t.buf <+: t'.buf
  chain : chain t <+: chain t'
  acc : t.accepted <+: t'.accepted
  /-- whatever is accepted goes to the pending list: the popped part keeps its length -/
  bal : t'.accepted.length + (PB.chain t).length = t.accepted.length + (PB.chain t').length

structure GrowG (s s' : BSt) : Prop where
  cfg : s'.cfg = s.cfg
  now : s.now ≤ s'.now
  reg : ∀ i ∈ s.registry, i ∈ s'.registry

abbrev Grow := CtxRel GrowG ThGrow

theorem ThGrow.ofSame {t t' : Th} (hb : t'.buf = t.buf) (hq : t'.qStmts = t.qStmts) (ha : t'.accepted = t.accepted) :
    ThGrow t t' := by
  have hc : PB.chain t' = PB.chain t := by simp only [PB.chain, hb, hq]
  exact ⟨by rw [hb]; exact List.prefix_refl _, by rw [hc]; exact List.prefix_refl _, by rw [ha]; exact List.prefix_refl _,
    by rw [hc, ha]⟩

theorem growParts : CtxParts GrowG ThGrow where
  grefl := fun _ => ⟨rfl, Nat.le_refl _, fun _ h => h⟩
  gtrans := fun h1 h2 => ⟨h2.cfg.trans h1.cfg, Nat.le_trans h1.now h2.now, fun i hi => h2.reg i (h1.reg i hi)⟩
  gsetTh := fun _ _ _ => ⟨rfl, Nat.le_refl _, fun _ h => h⟩
  rrefl := fun _ => .ofSame rfl rfl rfl
  rtrans := fun h1 h2 => ⟨h1.buf.trans h2.buf, h1.chain.trans h2.chain, h1.acc.trans h2.acc, by
    have := h1.bal; have := h2.bal; omega⟩

theorem Grow.refl (s : BSt) : Grow s s := CtxRel.refl growParts s
theorem Grow.trans {a b c : BSt} (h1 : Grow a b) (h2 : Grow b c) : Grow a c := CtxRel.trans growParts h1 h2

theorem Grow.cfg {s s' : BSt} (h : Grow s s') : s'.cfg = s.cfg := h.glob.cfg
theorem Grow.now {s s' : BSt} (h : Grow s s') : s.now ≤ s'.now := h.glob.now
theorem Grow.reg {s s' : BSt} (h : Grow s s') : ∀ i ∈ s.registry, i ∈ s'.registry := h.glob.reg
theorem Grow.buf {s s' : BSt} (h : Grow s s') (j : Nat) : (s.th j).buf <+: (s'.th j).buf := (h.th j).buf

theorem Fr.grow {s s' : BSt} (h : Fr s s') : Grow s s' :=
  ⟨⟨h.cfg, Nat.le_of_eq h.now.symm, fun i hi => by rw [h.reg]; exact hi⟩, fun j =>
    ⟨by obtain ⟨l, e⟩ := (h.th j).buf; rw [e]; exact List.prefix_append _ _, by rw [(h.th j).chain]; exact List.prefix_refl _,
     by rw [(h.th j).acc]; exact List.prefix_refl _, by rw [(h.th j).acc, (h.th j).chain]⟩⟩

theorem head_of_prefix {α} {l l' : List α} {a : α} (h : l <+: l') (ha : l.head? = some a) : l'.head? = some a := by
  obtain ⟨t, e⟩ := h
  rw [← e]
  cases l with
  | nil => cases ha
  | cons x xs => simpa using ha

theorem grow_front : FrontRel Grow :=
  CtxRel.frontRel growParts (fun _ hc hn hr => ⟨hc, hn, fun i hi => by rw [hr]; exact hi⟩)
    (fun _ _ => ⟨rfl, Nat.le_refl _, fun i hi => List.mem_append_left _ hi⟩) (fun _ _ _ hq hb ha _ => .ofSame hb hq ha)
    (fun _ _ => .ofSame rfl rfl rfl)
    (fun _ t st _ => ⟨List.prefix_refl _, by
      show t.buf ++ t.qStmts <+: t.buf ++ (t.qStmts ++ [st])
      rw [← List.append_assoc]; exact List.prefix_append _ _,
      List.prefix_append _ _, by
      show (t.accepted ++ [st]).length + (t.buf ++ t.qStmts).length = t.accepted.length + (t.buf ++ (t.qStmts ++ [st])).length
      simp only [List.length_append, List.length_cons, List.length_nil]; omega⟩)
    (fun _ _ _ => .ofSame rfl rfl rfl)

variable {inj : BSt → Nat → BSt}

theorem grow_read : ReadRel Grow := .ofFr Grow.refl Grow.trans Fr.grow

theorem grow_readQueue (hg : ∀ s k, Grow s (inj s k)) (tsNow : Option Nat) (i : Nat) (fuel : Nat) (total : Nat) (s : BSt) :
    Grow s (Backend.readQueue inj tsNow i fuel total s) := grow_read.readQueue hg tsNow i fuel total s

theorem QC.prepareRead_true {t : Th} (h : QC t) (c : Cfg) {r : Stmt} {rest : List Stmt} (hq : t.qStmts = r :: rest) :
    (qPrepareRead c t.q).2 = true := by
  cases hr : (qPrepareRead c t.q).2 with
  | true => rfl
  | false =>
    have := h.nil_of_eq (qPrepareRead_false _ _ hr)
    rw [hq] at this
    cases this

/-- "`n + 1` events of context `i0` are buffered, or `n` are and `r` is the front of its queue" survives a `Grow` stretch:
    buffers of equal length are equal, so the old queue is a prefix of the new one -/
theorem Grow.read_or_front {a b : BSt} (g : Grow a b) {i0 n : Nat} {r : Stmt}
    (hab : n + 1 ≤ (a.th i0).buf.length ∨ ((a.th i0).buf.length = n ∧ (a.th i0).qStmts.head? = some r)) :
    n + 1 ≤ (b.th i0).buf.length ∨ ((b.th i0).buf.length = n ∧ (b.th i0).qStmts.head? = some r) := by
  have hbl := (g.buf i0).length_le
  rcases hab with h' | ⟨h1', h2'⟩
  · exact .inl (Nat.le_trans h' hbl)
  · by_cases hlen : (b.th i0).buf.length = n
    · have hbeq : (a.th i0).buf = (b.th i0).buf := (g.buf i0).eq_of_length (h1'.trans hlen.symm)
      have hc := (g.th i0).chain
      unfold PB.chain at hc
      rw [hbeq] at hc
      exact .inr ⟨hlen, head_of_prefix ((List.prefix_append_right_inj _).mp hc) h2'⟩
    · exact .inl (by omega)

/-- the do-while rule under concurrency: the read of a queue whose front record `r` is eligible moves at least that record
    to the buffer, whatever is injected meanwhile — the first iteration looks at no limit -/
theorem readQueue_reads_one (hg : ∀ s k, Grow s (inj s k)) (tsNow : Option Nat) (i : Nat) (r : Stmt) (n : Nat)
    (hel : tsStop tsNow r = false) (fuel total : Nat) (s : BSt) (hqc : QC (s.th i))
    (h : n + 1 ≤ (s.th i).buf.length ∨ ((s.th i).buf.length = n ∧ (s.th i).qStmts.head? = some r)) :
    n + 1 ≤ ((Backend.readQueue inj tsNow i (fuel + 1) total s).th i).buf.length := by
  have keep : ∀ {x y : BSt}, Grow x y → n + 1 ≤ (x.th i).buf.length → n + 1 ≤ (y.th i).buf.length :=
    fun g h => Nat.le_trans h (g.buf i).length_le
  refine (readQueue_rule (inj := inj) (tsNow := tsNow) (i := i)
    (fun x => n + 1 ≤ (x.th i).buf.length ∨ (QC (x.th i) ∧ (x.th i).buf.length = n ∧ (x.th i).qStmts.head? = some r))
    (fun x => n + 1 ≤ (x.th i).buf.length) (fun _ => .inl) ?stop ?move (fun x h => keep (fr_commit x i).grow h)).2
    fuel total s (h.imp_right fun h => ⟨hqc, h⟩)
  case stop =>
    intro x hx hs
    rcases hx with hx | ⟨hq, _, hf⟩
    · exact keep (fr_readPrep x i).grow hx
    · -- the queue offers `r`: the read does not stop here
      exfalso
      cases hqq : (x.th i).qStmts with
      | nil => rw [hqq] at hf; cases hf
      | cons r' rest =>
        rw [hqq] at hf
        have hr : r' = r := by simpa using hf
        rcases hs with h0 | ⟨_, h0 | ⟨st, rest', e, h1⟩⟩
        · rw [hq.prepareRead_true x.cfg hqq] at h0; cases h0
        · rw [hqq] at h0; cases h0
        · rw [hqq] at e; cases e; rw [hr, hel] at h1; cases h1
  case move =>
    intro x st rest hx _ hqq _
    refine keep (hg _ 3) (keep (fr_fmtNote _ st).grow ?_)
    rw [readOneSt_th, th_setTh_same x _ (qStmts_head_lt hqq)]
    show n + 1 ≤ ((x.th i).buf ++ [st]).length
    rw [List.length_append, List.length_singleton]
    rcases hx with hx | ⟨_, hx, _⟩ <;> omega

variable {c : Cfg} {fl : Nat} {s : BSt}

theorem populate_reads_cnt (hi : InjOK inj) (hg : ∀ s k, Grow s (inj s k)) (h : PIo c fl s) (i0 : Nat) (hreg0 : i0 ∈ s.registry)
    (r : Stmt) (n : Nat) (hripe : r.ts + c.grace ≤ s.now)
    (hd : n + 1 ≤ (s.th i0).buf.length ∨ ((s.th i0).buf.length = n ∧ (s.th i0).qStmts.head? = some r)) :
    Grow s (populate inj s).1 ∧ n + 1 ≤ ((populate inj s).1.th i0).buf.length ∧ n + 1 ≤ (populate inj s).2 := by
  obtain ⟨_, _, g, _, _, k⟩ := populate_ruleN (inj := inj)
    -- before the cut-off is sampled: if no refresh is to come, the one at the start has put `i0` into the cache
    (fun x => PIo c fl x ∧ Grow s x ∧ (x.cfg.refreshAfterSample = false → i0 ∈ x.cache))
    -- while reading: `r` is eligible; once `i0` has been read it has its `n + 1` events and the count includes them
    (fun t l m x => PIr c t l x ∧ Grow s x ∧ tsStop t r = false ∧
      (n + 1 ≤ (x.th i0).buf.length ∨ ((x.th i0).buf.length = n ∧ (x.th i0).qStmts.head? = some r)) ∧
      (i0 ∉ l → n + 1 ≤ (x.th i0).buf.length ∧ n + 1 ≤ m))
    (fun x ⟨hx, g, k⟩ => ⟨hi.pio hx 7, g.trans (hg x 7), fun hf => by
      rw [(hi _ _ _ _ _ 7 hx).cacheEq]; exact k (by rw [← (hg x 7).cfg]; exact hf)⟩)
    (fun x ⟨hx, g, k⟩ => by
      have ge : Grow x (enterSt inj x) := enterSt_pres (Grow x) inj (fun y h => h.trans (fr_refresh y).grow) (fun y k h => h.trans (hg y k)) x (Grow.refl x)
      refine ⟨PIr.enter hi hx, g.trans ge, tsStop_of_ripe x r ?_, (g.trans ge).read_or_front hd, fun hn => absurd ?_ hn⟩
      · rw [hx.cfgEq]; exact Nat.le_trans hripe g.now
      · have h1 := hi _ _ _ _ _ 1 hx
        unfold enterSt
        split
        · exact refresh_fresh h1 i0 (by rw [(fr_refresh _).reg]; exact (hg x 1).reg i0 (g.reg i0 hreg0))
        · rename_i hras
          rw [h1.cacheEq]; exact k (by simpa using hras))
    (fun t l m x ⟨hx, g, e, d, k⟩ => ⟨hx.site hi 2, g.trans (hg x 2), e, (hg x 2).read_or_front d,
      fun hn => ⟨Nat.le_trans (k hn).1 ((hg x 2).buf i0).length_le, (k hn).2⟩⟩)
    (fun t i l m fuel x ⟨hx, g, e, d, k⟩ => by
      have gB := grow_readQueue hg t i (fuel + 1) 0 x
      refine ⟨hx.read hi fuel, g.trans gB, e, gB.read_or_front d, fun hn => ?_⟩
      by_cases hxi : i = i0
      · subst hxi
        obtain ⟨_, _, _, h3⟩ := hx
        have := readQueue_reads_one hg t i r n e fuel 0 x (h3.qc i) d
        exact ⟨this, by omega⟩
      · have hk := k (fun hm' => (List.mem_cons.mp hm').elim (fun e' => hxi e'.symm) hn)
        exact ⟨Nat.le_trans hk.1 (gB.buf i0).length_le, by omega⟩)
    s (by
      unfold PC.popS0
      split
      · rename_i hras
        exact ⟨h, Grow.refl s, fun hf => by rw [hras] at hf; cases hf⟩
      · exact ⟨h.refresh, (fr_refresh s).grow, fun _ => refresh_fresh h i0 (by rw [(fr_refresh s).reg]; exact hreg0)⟩)
  exact ⟨g, k List.not_mem_nil⟩

theorem populate_conc (hi : InjOK inj) (hg : ∀ s k, Grow s (inj s k)) (h : PIo c fl s) (i0 : Nat) (h0 : Stmt)
    (hd : (chain (s.th i0)).head? = some h0) (hripe : h0.ts + c.grace ≤ s.now) :
    Grow s (populate inj s).1 ∧ ((populate inj s).1.th i0).buf ≠ [] ∧ i0 ∈ (populate inj s).1.cache ∧
    (populate inj s).2 ≠ 0 := by
  obtain ⟨flp, Cp, hpp⟩ := PIo.populate hi h
  have hreg0 : i0 ∈ s.registry := h.reg i0 (by intro he; rw [he] at hd; cases hd)
  -- a buffer that is not empty has its events already; an empty one leaves `h0` at the front of the queue
  have hd0 : (s.th i0).buf.length - 1 + 1 ≤ (s.th i0).buf.length ∨
      ((s.th i0).buf.length = (s.th i0).buf.length - 1 ∧ (s.th i0).qStmts.head? = some h0) := by
    cases hb : (s.th i0).buf with
    | nil => right; unfold chain at hd; rw [hb] at hd; exact ⟨rfl, hd⟩
    | cons e es => left; simp
  obtain ⟨g, k4, k5⟩ := populate_reads_cnt hi hg h i0 hreg0 h0 _ hripe hd0
  have hne : ((populate inj s).1.th i0).buf ≠ [] := fun he => by rw [he] at k4; simp at k4
  exact ⟨g, hne, hpp.bufCache i0 (g.reg i0 hreg0) hne, by omega⟩

theorem prefix_length_le {α} {l l' : List α} (h : l <+: l') : l.length ≤ l'.length := h.length_le

theorem populate_reads (hi : InjOK inj) (hg : ∀ s k, Grow s (inj s k)) (h : PIo c fl s) (i0 : Nat) (r : Stmt) (rest : List Stmt)
    (hq : (s.th i0).qStmts = r :: rest) (hripe : r.ts + c.grace ≤ s.now) :
    (s.th i0).buf.length + 1 ≤ ((populate inj s).1.th i0).buf.length :=
  (populate_reads_cnt hi hg h i0 (h.reg i0 (by unfold chain; rw [hq]; simp)) r _ hripe (.inr ⟨rfl, by rw [hq]; rfl⟩)).2.1

end Backend.PB
