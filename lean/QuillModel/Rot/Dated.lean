import QuillModel.Rot.Index
/-!
The inductive invariant of the Date and DateAndTime schemes (`DatedInv`): kept within a run under the premise
that the civil suffix (day / second) of the timestamps does not decrease, and established by a start. The statements
of `Props/C14*.lean` use `DatedInv`, `DirDated`, `sfxVal` and the order `older` / `olderC`.
-/
namespace Rot

/-- the civil value a file opened at `ts` gets as its suffix: day number (Date) or second number (DateAndTime) -/
def sfxVal (z : Nat → Int) (sch : Scheme) (ts : Nat) : Int :=
  match sch with
  | .date => civilDay z ts
  | _ => civilSec z ts

theorem newSuffix_dated (z : Nat → Int) (sch : Scheme) (ts : Nat) (h : sch ≠ .index) :
    newSuffix z sch ts = some (sfxVal z sch ts) := by
  cases sch <;> simp_all [newSuffix, sfxVal]

def dOf (e : FileInfo) : Int := e.sfx.getD 0

theorem dOf_some {e : FileInfo} {d : Int} (h : e.sfx = some d) : dOf e = d := by rw [dOf, h]; rfl

/-- the order the dated schemes give to two rotated files: earlier date is older, same date: larger index is older -/
def older (a b : FileInfo) : Prop := dOf a < dOf b ∨ (dOf a = dOf b ∧ a.idx > b.idx)

/-- `a` is a rotated (dated) file and `b` is the current file or a newer rotated file -/
def olderC (a b : FileInfo) : Prop := a.sfx.isSome ∧ (b.sfx = none ∨ older a b)

structure DatedInv (z : Nat → Int) (w : World) : Prop where
  scheme : w.sink.cfg.scheme ≠ .index
  last : ∃ rest, w.sink.created = rest ++ [curInfo]
  /-- oldest first in the order of the scheme, the current file last -/
  sorted : w.sink.created.Pairwise olderC
  /-- no tracked file is dated later than the current file will be -/
  bound : ∀ e ∈ w.sink.created, ∀ d, e.sfx = some d → d ≤ sfxVal z w.sink.cfg.scheme w.sink.openTs
  tracked : ∀ e ∈ w.sink.created, (w.fs.get e.name).isSome
  /-- dated files on disk that the sink does not track (earlier runs, earlier days) are dated strictly earlier -/
  ghosts : ∀ d k, (w.fs.get (.file (some d) k)).isSome →
    (⟨some d, k⟩ : FileInfo) ∈ w.sink.created ∨ d < sfxVal z w.sink.cfg.scheme w.sink.openTs
  size : w.sink.fileSize = bytes (content w.fs curInfo)
  keys : w.fs.keys.Nodup

theorem DatedInv.eq_cur_of_undated {z : Nat → Int} {w : World} (h : DatedInv z w) {e : FileInfo} (he : e ∈ w.sink.created)
    (hs : e.sfx = none) : e = curInfo := by
  obtain ⟨rest, hr⟩ := h.last
  have hp := h.sorted
  rw [hr, List.pairwise_append] at hp
  rw [hr] at he
  rcases List.mem_append.mp he with he | he
  · have := (hp.2.2 e he curInfo (List.mem_singleton.mpr rfl)).1
    rw [hs] at this; simp at this
  · simpa using he

theorem entryAfter_same (sch : Scheme) (S : Int) (e : FileInfo) (hs : sch ≠ .index) (he : e.sfx = some S) :
    entryAfter sch (some S) e = ⟨some S, e.idx + 1⟩ := by
  simp [entryAfter, hs, he]

theorem entryAfter_cur (sch : Scheme) (S : Int) (e : FileInfo) (hs : sch ≠ .index) (he : e.sfx = none) :
    entryAfter sch (some S) e = ⟨some S, e.idx⟩ := by
  simp [entryAfter, hs, he]

theorem entryAfter_other (sch : Scheme) (S d : Int) (e : FileInfo) (hs : sch ≠ .index) (he : e.sfx = some d)
    (hd : d ≠ S) : entryAfter sch (some S) e = e := by
  simp [entryAfter, hs, he, hd]

theorem olderC_name_ne {a b : FileInfo} (h : olderC a b) : a.name ≠ b.name := by
  obtain ⟨sa, ia⟩ := a
  obtain ⟨sb, ib⟩ := b
  obtain ⟨hda, hrel⟩ := h
  simp only [FileInfo.name, ne_eq, Name.file.injEq, not_and]
  rintro rfl hi
  rcases hrel with h0 | h0
  · rw [h0] at hda; cases hda
  · simp only [older, hi] at h0; omega

/-- the facts about one pair of tracked files (`a` before `b`) that every chain premise and the new order follow from:
    after the loop `a` is still before `b`, and it is before the old `b` too -/
theorem dated_pair (sch : Scheme) (S : Int) (hs : sch ≠ .index) (a b : FileInfo) (hab : olderC a b)
    (ha : ∀ d, a.sfx = some d → d ≤ S) (hb : ∀ d, b.sfx = some d → d ≤ S) (hbc : b.sfx = none → b = curInfo) :
    a.name ≠ b.name ∧ (entryAfter sch (some S) a).name ≠ (entryAfter sch (some S) b).name ∧
      (entryAfter sch (some S) a).name ≠ b.name ∧ olderC (entryAfter sch (some S) a) (entryAfter sch (some S) b) := by
  suffices key : olderC (entryAfter sch (some S) a) (entryAfter sch (some S) b) ∧ olderC (entryAfter sch (some S) a) b from
    ⟨olderC_name_ne hab, olderC_name_ne key.1, olderC_name_ne key.2, key.1⟩
  obtain ⟨sa, ia⟩ := a
  obtain ⟨sb, ib⟩ := b
  obtain ⟨hda, hrel⟩ := hab
  cases sa with
  | none => cases hda
  | some da =>
    by_cases hSa : da = S
    · -- `a` is dated `S`: it is bumped, and so is `b` — the current file, or dated `S` too since `da ≤ db ≤ S`
      subst hSa
      rw [entryAfter_same sch da ⟨some da, ia⟩ hs rfl]
      cases sb with
      | none =>
        cases hbc rfl
        rw [entryAfter_cur sch da ⟨none, 0⟩ hs rfl]
        exact ⟨⟨rfl, Or.inr (Or.inr ⟨rfl, Nat.succ_pos ia⟩)⟩, rfl, Or.inl rfl⟩
      | some db =>
        have hold : older ⟨some da, ia⟩ ⟨some db, ib⟩ := hrel.resolve_left (fun h => by cases h)
        have hble : db ≤ da := hb db rfl
        have h2 : da = db ∧ ia > ib := hold.resolve_left (fun h => Int.lt_irrefl _ (Int.lt_of_lt_of_le h hble))
        obtain ⟨rfl, hidx⟩ := h2
        rw [entryAfter_same sch da ⟨some da, ib⟩ hs rfl]
        exact ⟨⟨rfl, Or.inr (Or.inr ⟨rfl, Nat.succ_lt_succ hidx⟩)⟩, rfl, Or.inr (Or.inr ⟨rfl, Nat.lt_succ_of_lt hidx⟩)⟩
    · -- `a` is dated before `S` and stays: it is before the old `b` as it was, and before the new `b`, which stays too
      -- or moves to the suffix `S`
      rw [entryAfter_other sch S da ⟨some da, ia⟩ hs rfl hSa]
      have hlt : da < S := Int.lt_iff_le_and_ne.mpr ⟨ha da rfl, hSa⟩
      refine ⟨?_, hda, hrel⟩
      cases sb with
      | none =>
        cases hbc rfl
        rw [entryAfter_cur sch S ⟨none, 0⟩ hs rfl]
        exact ⟨rfl, Or.inr (Or.inl hlt)⟩
      | some db =>
        by_cases hSb : db = S
        · subst hSb
          rw [entryAfter_same sch db ⟨some db, ib⟩ hs rfl]
          exact ⟨rfl, Or.inr (Or.inl hlt)⟩
        · rw [entryAfter_other sch S db ⟨some db, ib⟩ hs rfl hSb]
          exact ⟨hda, hrel⟩

theorem DatedInv.curLast {z : Nat → Int} {w : World} (h : DatedInv z w) : CurLast w := by
  obtain ⟨rest, hr⟩ := h.last
  refine ⟨rest, hr, fun e he heq => ?_⟩
  have hp := h.sorted
  rw [hr, List.pairwise_append] at hp
  have := (hp.2.2 e he curInfo (List.mem_singleton.mpr rfl)).1
  simp only [FileInfo.name, curName, Name.file.injEq] at heq
  rw [heq.1] at this; cases this

theorem DatedInv.cur_mem {z : Nat → Int} {w : World} (h : DatedInv z w) : curInfo ∈ w.sink.created := h.curLast.cur_mem

theorem DatedInv.curInv {z : Nat → Int} {w : World} (h : DatedInv z w) : CurInv w := h.curLast.curInv h.tracked h.size

/-- the entry of a tracked file after a rotation of `w` under a dated scheme: the suffix it gets is that of the file
    being closed, `sfxVal` of its opening time -/
abbrev datedAfter (z : Nat → Int) (w : World) : FileInfo → FileInfo :=
  entryAfter w.sink.cfg.scheme (some (sfxVal z w.sink.cfg.scheme w.sink.openTs))

theorem DatedInv.pairs {z : Nat → Int} {w : World} (h : DatedInv z w) :
    w.sink.created.Pairwise (fun a b =>
      a.name ≠ b.name ∧ (datedAfter z w a).name ≠ (datedAfter z w b).name ∧ (datedAfter z w a).name ≠ b.name ∧
      olderC (datedAfter z w a) (datedAfter z w b)) := by
  refine List.Pairwise.imp_of_mem ?_ h.sorted
  intro a b ha hb hab
  exact dated_pair _ _ h.scheme a b hab (h.bound a ha) (h.bound b hb) (h.eq_cur_of_undated hb)

theorem entryAfter_dated_sfx (sch : Scheme) (S : Int) (e : FileInfo) (hs : sch ≠ .index) :
    ∃ d, (entryAfter sch (some S) e).sfx = some d ∧ (d = S ∨ e.sfx = some d) := by
  cases he : e.sfx with
  | none => exact ⟨S, by rw [entryAfter_cur sch S e hs he], Or.inl rfl⟩
  | some d =>
    by_cases hd : d = S
    · subst hd; exact ⟨d, by rw [entryAfter_same sch d e hs he], Or.inl rfl⟩
    · exact ⟨d, by rw [entryAfter_other sch S d e hs he hd]; exact he, Or.inr rfl⟩

theorem DatedInv.after_sfx {z : Nat → Int} {w : World} (h : DatedInv z w) (e : FileInfo) :
    ∃ d, (datedAfter z w e).sfx = some d ∧ (d = sfxVal z w.sink.cfg.scheme w.sink.openTs ∨ e.sfx = some d) :=
  entryAfter_dated_sfx _ _ e h.scheme

theorem rotate_dated (P : Params) (z : Nat → Int) (w : World) (ts : Nat) (cont : List Stmt) (h : DatedInv z w)
    (hns : stopped w.sink = false) (hcur : w.fs.get curName = some cont) (hb : bytes cont ≠ 0) :
    RotSpecG (datedAfter z w) w (rotate P z w ts) ts (keptOf P w) ∧
    ∀ x, x ≠ curName → x ∉ w.sink.created.map FileInfo.name → (∀ e ∈ w.sink.created, x ≠ (datedAfter z w e).name) →
      (rotate P z w ts).fs.get x = w.fs.get x := by
  refine rotate_generic P z w ts cont hns hcur hb _ (by rw [newSuffix_dated z _ _ h.scheme])
    (h.pairs.imp (fun hx => ⟨hx.1, hx.2.1, hx.2.2.1⟩)) ?_ h.tracked h.keys
  intro e _
  obtain ⟨d, hd, _⟩ := h.after_sfx e
  simp [FileInfo.name, curName, hd]

/-- A dated file the sink does not track is dated before the open file (`ghosts`), so no rename of a rotation starts
    at it or lands on it: it keeps its content and stays untracked. -/
theorem rotate_dated_untracked (P : Params) (z : Nat → Int) (w : World) (ts : Nat) (h : DatedInv z w) (d : Int) (k : Nat)
    (c : List Stmt) (hc : w.fs.get (.file (some d) k) = some c) (hu : (⟨some d, k⟩ : FileInfo) ∉ w.sink.created) :
    (rotate P z w ts).fs.get (.file (some d) k) = some c ∧ (⟨some d, k⟩ : FileInfo) ∉ (rotate P z w ts).sink.created := by
  by_cases hr : rotates w
  · obtain ⟨hns, cont, hcur, hb⟩ := hr
    have hlt : d < sfxVal z w.sink.cfg.scheme w.sink.openTs := (h.ghosts d k (by rw [hc]; rfl)).resolve_left hu
    have hnt : ∀ e ∈ w.sink.created, datedAfter z w e ≠ ⟨some d, k⟩ := by
      intro e he heq
      obtain ⟨d', hd', hor⟩ := h.after_sfx e
      rw [heq] at hd'
      have hdd : d = d' := by simpa using hd'
      have hne : d' ≠ sfxVal z w.sink.cfg.scheme w.sink.openTs := fun e' => by
        rw [hdd, e'] at hlt; exact Int.lt_irrefl _ hlt
      rcases hor with h1 | h1
      · exact hne h1
      · -- the entry keeps its suffix `d ≠ S`: it is unchanged, hence tracked
        have hsame : datedAfter z w e = e := entryAfter_other _ _ d' e h.scheme h1 hne
        exact hu (hsame.symm.trans heq ▸ he)
    obtain ⟨sp, hother⟩ := rotate_dated P z w ts cont h hns hcur hb
    constructor
    · rw [hother _ (by simp [curName]) ?_ (fun e he heq => hnt e he (FileInfo.eq_of_name heq).symm), hc]
      intro hm
      obtain ⟨e, he, hen⟩ := List.mem_map.mp hm
      exact hu (FileInfo.eq_of_name hen.symm ▸ he)
    · rw [sp.created]
      intro hm
      rcases List.mem_append.mp hm with hm | hm
      · obtain ⟨e, he, heq⟩ := List.mem_map.mp hm
        exact hnt e ((kept_sublist P w).subset he) heq
      · simp [curInfo] at hm
  · rw [rotate_of_not_rotates P z w ts hr]; exact ⟨hc, hu⟩

theorem DatedInv.rotSpecG {z : Nat → Int} {w : World} (h : DatedInv z w) (P : Params) (ts : Nat) (hr : rotates w) :
    ∃ f, RotSpecG f w (rotate P z w ts) ts (keptOf P w) := by
  obtain ⟨hns, cont, hc, hb⟩ := hr
  exact ⟨_, (rotate_dated P z w ts cont h hns hc hb).1⟩

/-- `hmono`: the file opened at `ts` is not dated before the one it replaces. The entries just renamed carry the
    replaced file's suffix, so `bound` and `ghosts`, which held against that suffix, hold against the new one. -/
theorem DatedInv.of_rotSpecG {z : Nat → Int} {w R : World} {ts : Nat} {kept : List FileInfo} (h : DatedInv z w)
    (hk : kept.Sublist w.sink.created)
    (s : RotSpecG (datedAfter z w) w R ts kept)
    (hmono : sfxVal z w.sink.cfg.scheme w.sink.openTs ≤ sfxVal z w.sink.cfg.scheme ts) : DatedInv z R := by
  have hmem : ∀ e ∈ kept, e ∈ w.sink.created := fun e he => hk.subset he
  have hsch : R.sink.cfg.scheme = w.sink.cfg.scheme := by rw [s.cfg]
  refine { scheme := by rw [hsch]; exact h.scheme, last := ⟨_, s.created⟩, sorted := ?_, bound := ?_,
           tracked := s.tracked (fun e he => h.tracked e (hmem e he)), ghosts := ?_, size := s.size, keys := s.keys }
  · rw [s.created, List.pairwise_append]
    refine ⟨List.pairwise_map.mpr ((h.pairs.sublist hk).imp (fun hx => hx.2.2.2)), List.pairwise_singleton _ _, ?_⟩
    intro a ha b hb
    obtain ⟨e, _, rfl⟩ := List.mem_map.mp ha
    simp only [List.mem_singleton] at hb; subst hb
    obtain ⟨d, hd, _⟩ := h.after_sfx e
    exact ⟨by rw [hd]; rfl, Or.inl rfl⟩
  · intro e he d hd
    rw [hsch, s.openTs]
    rw [s.created] at he
    rcases List.mem_append.mp he with he | he
    · obtain ⟨e', he', rfl⟩ := List.mem_map.mp he
      obtain ⟨d', hd', hor⟩ := h.after_sfx e'
      rw [hd'] at hd
      have : d' = d := Option.some.inj hd
      subst this
      rcases hor with rfl | hor
      · exact hmono
      · exact Int.le_trans (h.bound e' (hmem e' he') d' hor) hmono
    · rw [List.mem_singleton.mp he] at hd
      cases hd
  · intro d k hk'
    rw [s.created, hsch, s.openTs]
    rcases s.only (some d) k hk' with h1 | ⟨e, he, h1⟩ | ⟨h1, h2⟩
    · simp [curInfo] at h1
    · rw [h1]
      exact Or.inl (List.mem_append_left _ (List.mem_map_of_mem he))
    · right
      rcases h.ghosts d k h1 with h3 | h3
      · exact absurd h3 h2
      · exact Int.lt_of_lt_of_le h3 hmono

theorem rotate_dated_inv (P : Params) (z : Nat → Int) (w : World) (ts : Nat) (h : DatedInv z w)
    (hmono : sfxVal z w.sink.cfg.scheme w.sink.openTs ≤ sfxVal z w.sink.cfg.scheme ts) :
    DatedInv z (rotate P z w ts) := by
  by_cases hr : rotates w
  · obtain ⟨hns, cont, hc, hb⟩ := hr
    exact h.of_rotSpecG (kept_sublist P w) (rotate_dated P z w ts cont h hns hc hb).1 hmono
  · rw [rotate_of_not_rotates P z w ts hr]; exact h

theorem DatedInv.of_same {z : Nat → Int} {a b : World} (h : SameFiles a b) (hb : DatedInv z b) : DatedInv z a := by
  obtain ⟨hfs, hcr, hsz, hcfg, hts⟩ := h
  exact ⟨by rw [hcfg]; exact hb.scheme, by rw [hcr]; exact hb.last, by rw [hcr]; exact hb.sorted,
    by rw [hcr, hcfg, hts]; exact hb.bound, by rw [hfs, hcr]; exact hb.tracked,
    by rw [hfs, hcr, hcfg, hts]; exact hb.ghosts, by rw [hfs, hsz]; exact hb.size, by rw [hfs]; exact hb.keys⟩

theorem appendCur_dated_inv (z : Nat → Int) (w : World) (st : Stmt) (h : DatedInv z w) :
    DatedInv z (appendCur w st) := by
  refine { scheme := h.scheme, last := h.last, sorted := h.sorted, bound := h.bound,
           tracked := appendCur_tracked w st h.tracked, ghosts := ?_, size := appendCur_size w st h.size,
           keys := FS.keys_put_nodup _ _ _ h.keys }
  intro d k hk
  have hne : Name.file (some d) k ≠ curName := by simp [curName]
  simp only [appendCur, FS.get_put, hne, ↓reduceIte] at hk
  exact h.ghosts d k hk

theorem prepare_dated_inv (P : Params) (z : Nat → Int) (w : World) (size ts : Nat) (h : DatedInv z w)
    (hmono : sfxVal z w.sink.cfg.scheme w.sink.openTs ≤ sfxVal z w.sink.cfg.scheme ts) :
    DatedInv z (prepare P z w size ts) :=
  prepare_inv_of DatedInv.of_same P z w size ts h (rotate_dated_inv P z w ts h hmono)

theorem write_dated_inv (P : Params) (z : Nat → Int) (w : World) (st : Stmt) (ts : Nat) (h : DatedInv z w)
    (hmono : sfxVal z w.sink.cfg.scheme w.sink.openTs ≤ sfxVal z w.sink.cfg.scheme ts) :
    DatedInv z (write P z w st ts) :=
  appendCur_dated_inv z _ st (prepare_dated_inv P z w st.size ts h hmono)

theorem write_dated_diskSeq (P : Params) (z : Nat → Int) (w : World) (st : Stmt) (ts : Nat) (h : DatedInv z w)
    (hmono : sfxVal z w.sink.cfg.scheme w.sink.openTs ≤ sfxVal z w.sink.cfg.scheme ts) : WriteEq P z w st ts :=
  write_diskSeq_of P z w st ts (h.rotSpecG P ts) (prepare_dated_inv P z w st.size ts h hmono).curLast

theorem moveOf_dated_target {sch : Scheme} {S : Int} {e : FileInfo} {m : Name × Name}
    (h : moveOf sch (some S) e = some m) : ∃ k, m.2 = .file (some S) k := by
  unfold moveOf at h
  split at h
  · cases h; exact ⟨_, rfl⟩
  · split at h
    · cases h; exact ⟨_, rfl⟩
    · cases h

/-- every target of the rename loop is absent before the rotation or is the source of another rename of the same loop
    (which, by `DatedInv.pairs`, comes earlier in the loop: an earlier target is never a later source) -/
theorem dated_targets_free (z : Nat → Int) (w : World) (h : DatedInv z w) :
    ∀ m ∈ w.sink.created.filterMap (moveOf w.sink.cfg.scheme (newSuffix z w.sink.cfg.scheme w.sink.openTs)),
      w.fs.get m.2 = none ∨
        m.2 ∈ (w.sink.created.filterMap (moveOf w.sink.cfg.scheme (newSuffix z w.sink.cfg.scheme w.sink.openTs))).map (·.1) := by
  intro m hm
  rw [newSuffix_dated z _ _ h.scheme] at hm ⊢
  obtain ⟨e, _, hme⟩ := List.mem_filterMap.mp hm
  obtain ⟨k, hk⟩ := moveOf_dated_target hme
  cases hg : w.fs.get m.2 with
  | none => exact Or.inl rfl
  | some c =>
    -- the target `(S, k)` exists and is not dated before `S`, so it is tracked, so it moves too
    rcases h.ghosts _ k (by rw [← hk, hg]; rfl) with ht | ht
    · have hmv : moveOf w.sink.cfg.scheme (some (sfxVal z w.sink.cfg.scheme w.sink.openTs))
          ⟨some (sfxVal z w.sink.cfg.scheme w.sink.openTs), k⟩ =
            some (m.2, .file (some (sfxVal z w.sink.cfg.scheme w.sink.openTs)) (k + 1)) := by
        simp only [moveOf, h.scheme, false_or, ↓reduceIte, FileInfo.name, hk]
      exact Or.inr (List.mem_map.mpr ⟨_, List.mem_filterMap.mpr ⟨_, ht, hmv⟩, rfl⟩)
    · omega

theorem DatedInv.of_fresh {z : Nat → Int} {w : World} (hs : w.sink.cfg.scheme ≠ .index)
    (hcr : w.sink.created = [curInfo]) (hcur : (w.fs.get curName).isSome)
    (hg : ∀ d k, (w.fs.get (.file (some d) k)).isSome → d < sfxVal z w.sink.cfg.scheme w.sink.openTs)
    (hsz : w.sink.fileSize = bytes (content w.fs curInfo)) (hk : w.fs.keys.Nodup) : DatedInv z w := by
  have hmem : ∀ e ∈ w.sink.created, e = curInfo := fun e he => by rw [hcr] at he; exact List.mem_singleton.mp he
  refine { scheme := hs, last := ⟨[], hcr⟩, sorted := by rw [hcr]; exact List.pairwise_singleton _ _, bound := ?_,
           tracked := ?_, ghosts := fun d k hk' => Or.inr (hg d k hk'), size := hsz, keys := hk }
  · intro e he d hd
    rw [hmem e he] at hd; cases hd
  · intro e he
    rw [hmem e he]; exact hcur

theorem restart_dateTime_inv (z : Nat → Int) (fs : FS) (c : Cfg) (start : Nat) (hs : c.scheme = .dateTime)
    (hk : fs.keys.Nodup)
    (hg : ∀ d k, (fs.get (.file (some d) k)).isSome → d < civilSec z start) :
    DatedInv z (restart z fs c start) := by
  have hsch : (restart z fs c start).sink.cfg.scheme = .dateTime := hs
  have hget : ∀ n, n ≠ curName → (restart z fs c start).fs.get n = fs.get n := by
    intro n hn
    by_cases ha : c.append = true
    · exact restart_get_append z fs c start ha n (Or.inl hn)
    · rw [restart_fs_write z fs c start (by simpa using ha), FS.get_put, if_neg hn, hs]
      split <;> rfl
  refine DatedInv.of_fresh (by rw [hsch]; simp) (by rw [restart_created, hs]; split <;> rfl)
    (restart_cur_isSome z fs c start) ?_ (restart_size z fs c start) (restart_keys z fs c start hk)
  intro d k hk'
  rw [hget _ (by simp [curName])] at hk'
  rw [hsch]
  exact hg d k hk'

theorem scans_date (today : Int) : Scans (scanDate today) (fun e => e.sfx = some today) := by
  rintro ⟨n, c⟩ ⟨s, k⟩
  unfold scanDate
  cases n with
  | file s' k' =>
    cases s' with
    | none => simp [FileInfo.name]; rintro rfl _ h; cases h
    | some d =>
      by_cases hd : d = today
      · simp only [hd, if_true, Option.some.injEq, FileInfo.mk.injEq, FileInfo.name, Name.file.injEq]
        constructor
        · rintro ⟨rfl, rfl⟩; exact ⟨⟨rfl, rfl⟩, rfl⟩
        · rintro ⟨⟨h1, h2⟩, _⟩; exact ⟨h1, h2⟩
      · simp only [hd, if_false, FileInfo.name, Name.file.injEq, reduceCtorEq, false_iff]
        rintro ⟨⟨rfl, _⟩, h⟩; exact hd (Option.some.inj h)
  | _ => simp [FileInfo.name]

theorem restart_created_date (z : Nat → Int) (fs : FS) (c : Cfg) (start : Nat) (hs : c.scheme = .date)
    (ha : c.append = true) :
    (restart z fs c start).sink.created = sortDesc (fs.filterMap (scanDate (civilDay z start))) ++ [curInfo] := by
  rw [restart_created, if_pos ha, hs]; rfl

theorem restart_date_inv (z : Nat → Int) (fs : FS) (c : Cfg) (start : Nat) (hs : c.scheme = .date)
    (hmode : c.append = true ∨ c.removeOld = true) (hk : fs.keys.Nodup)
    (hg : ∀ d k, (fs.get (.file (some d) k)).isSome → d ≤ civilDay z start) :
    DatedInv z (restart z fs c start) := by
  have hsch : (restart z fs c start).sink.cfg.scheme = .date := hs
  have hS : sfxVal z (restart z fs c start).sink.cfg.scheme (restart z fs c start).sink.openTs = civilDay z start := by
    rw [hsch]; rfl
  by_cases ha : c.append = true
  · -- append mode: today's files are recovered; files of earlier days stay on disk untracked, dated strictly earlier
    have hcr := restart_created_date z fs c start hs ha
    have hmemL : ∀ e, e ∈ sortDesc (fs.filterMap (scanDate (civilDay z start))) ↔
        e.sfx = some (civilDay z start) ∧ (fs.get e.name).isSome :=
      (scans_date _).mem_recovered fs
    have hsorted := (scans_date (civilDay z start)).recovered_sorted (fun _ h => h) fs hk
    have hget : ∀ n, n ≠ curName → (restart z fs c start).fs.get n = fs.get n :=
      fun n hn => restart_get_append z fs c start ha n (Or.inl hn)
    refine { scheme := by rw [hsch]; simp, last := ⟨_, hcr⟩, sorted := ?_, bound := ?_, tracked := ?_, ghosts := ?_,
             size := restart_size z fs c start, keys := restart_keys z fs c start hk }
    · rw [hcr, List.pairwise_append]
      refine ⟨List.Pairwise.imp_of_mem ?_ hsorted, List.pairwise_singleton _ _, ?_⟩
      · intro a b ha' hb' hab
        have h1 := ((hmemL a).mp ha').1
        have h2 := ((hmemL b).mp hb').1
        exact ⟨by rw [h1]; rfl, Or.inr (Or.inr ⟨by rw [dOf_some h1, dOf_some h2], hab⟩)⟩
      · intro a ha' b hb'
        rw [List.mem_singleton.mp hb']
        exact ⟨by rw [((hmemL a).mp ha').1]; rfl, Or.inl rfl⟩
    · rw [hcr]
      refine List.forall_mem_append.mpr ⟨fun e he d hd => ?_, List.forall_mem_singleton.mpr (fun d hd => by cases hd)⟩
      rw [((hmemL e).mp he).1] at hd
      rw [hS, ← Option.some.inj hd]; exact Int.le_refl _
    · rw [hcr]
      refine List.forall_mem_append.mpr ⟨fun e he => ?_, List.forall_mem_singleton.mpr (restart_cur_isSome z fs c start)⟩
      obtain ⟨h1, h2⟩ := (hmemL e).mp he
      rw [hget]
      · exact h2
      · simp [FileInfo.name, curName, h1]
    · intro d k hk'
      rw [hget _ (by simp [curName])] at hk'
      by_cases hd : d = civilDay z start
      · left
        rw [hcr]
        exact List.mem_append_left _ ((hmemL _).mpr ⟨by simp [hd], hk'⟩)
      · right
        rw [hS]; exact Int.lt_iff_le_and_ne.mpr ⟨hg d k hk', hd⟩
  · -- write mode with clean-up: today's files are removed
    have ha' : c.append = false := by simpa using ha
    have hr : c.removeOld = true := hmode.resolve_left ha
    have hfs : (restart z fs c start).fs =
        FS.put (fs.filter (fun p => keepDate (civilDay z start) p.1)) curName [] := by
      rw [restart_fs_write z fs c start ha', if_pos hr, hs]; rfl
    refine DatedInv.of_fresh (by rw [hsch]; simp) (by rw [restart_created, if_neg ha]; rfl)
      (restart_cur_isSome z fs c start) ?_ (restart_size z fs c start) (restart_keys z fs c start hk)
    intro d k hk'
    rw [hfs, FS.get_put, if_neg (by simp [curName]), FS.get_filter fs (keepDate (civilDay z start))] at hk'
    rw [hS]
    by_cases hne' : d = civilDay z start
    · simp [keepDate, hne'] at hk'
    · simp only [keepDate, ne_eq, hne', not_false_eq_true, decide_true, ↓reduceIte] at hk'
      exact Int.lt_iff_le_and_ne.mpr ⟨hg d k hk', hne'⟩

/-- a directory a dated scheme can start on: distinct names; the dated files of the family are not from the future
    (Date: not after the start day; DateAndTime: strictly before the start second) -/
structure DirDated (z : Nat → Int) (sch : Scheme) (fs : FS) (start : Nat) : Prop where
  keys : fs.keys.Nodup
  past : ∀ d k, (fs.get (.file (some d) k)).isSome →
    (sch = .date → d ≤ civilDay z start) ∧ (sch = .dateTime → d < civilSec z start)

theorem restart_dated_inv (z : Nat → Int) (fs : FS) (c : Cfg) (start : Nat) (hs : c.scheme ≠ .index)
    (hmode : c.append = true ∨ c.removeOld = true) (hd : DirDated z c.scheme fs start) :
    DatedInv z (restart z fs c start) := by
  cases hsch : c.scheme with
  | index => exact absurd hsch hs
  | date => exact restart_date_inv z fs c start hsch hmode hd.keys (fun d k hk => (hd.past d k hk).1 hsch)
  | dateTime => exact restart_dateTime_inv z fs c start hsch hd.keys (fun d k hk => (hd.past d k hk).2 hsch)

/-- a start on the directory a run left -/
theorem DatedInv.restart {z : Nat → Int} {w : World} (h : DatedInv z w) {c : Cfg} {start : Nat}
    (hsch : c.scheme = w.sink.cfg.scheme) (hmode : c.append = true ∨ c.removeOld = true)
    (hlater : (c.scheme = .date → sfxVal z c.scheme w.sink.openTs ≤ civilDay z start) ∧
      (c.scheme = .dateTime → sfxVal z c.scheme w.sink.openTs < civilSec z start)) :
    DatedInv z (restart z w.fs c start) := by
  apply restart_dated_inv z w.fs c start (by rw [hsch]; exact h.scheme) hmode
  refine ⟨h.keys, ?_⟩
  intro d k hk
  have hle : d ≤ sfxVal z c.scheme w.sink.openTs := by
    rw [hsch]
    rcases h.ghosts d k hk with ht | ht
    · exact h.bound _ ht d rfl
    · omega
  exact ⟨fun hd => by have := hlater.1 hd; omega, fun hd => by have := hlater.2 hd; omega⟩

end Rot
