import QuillModel.Rot.RenderThm
import QuillModel.Time.CivilProofs
/-!
Calendar part of the rendered names: `%Y%m%d` / `%Y%m%d_%H%M%S` of a civil day / second (`renderDay`, `renderSec`) written
with zero-padded decimals is dot-free, non-empty and — from the epoch on — injective, through the civil round trip
`Time.daysFromCivil_civilFromDays` (the calendar of C13). Used by `C14_rendered_names_distinct`.
-/
namespace Rot

theorem civil_eq (n : Nat) :
    civilFromDays (n : Int) =
      (((Time.civilFromDays n).year : Int), (Time.civilFromDays n).mon, (Time.civilFromDays n).day) := by
  -- the two computations agree `let` by `let`
  unfold civilFromDays Time.civilFromDays
  extract_lets z era doe yoe y doy mp d m z' era' doe' yoe' doy' mp' d' m' y'
  have hera : era = (era' : Int) := by simp only [era, z, era', z']; omega
  have hdoe : doe = doe' := by
    simp only [doe, hera]
    simp only [z, era', doe', z']
    omega
  have hyoe : yoe = yoe' := by simp only [yoe, yoe', hdoe]
  have hdoy : doy = doy' := by simp only [doy, doy', hdoe, hyoe]
  have hmp : mp = mp' := by simp only [mp, mp', hdoy]
  have hd : d = d' := by simp only [d, d', hdoy, hmp]
  have hm : m = m' := by simp only [m, m', hmp]
  have hy : y = (y' : Int) := by simp only [y, y', hyoe, hera]; rfl
  rw [hm, hd, hy]
  refine Prod.ext ?_ rfl
  dsimp only
  split <;> rfl

def padL (w n : Nat) : List Char := List.replicate (w - (digits n).length) '0' ++ digits n

theorem pad_toList (w n : Nat) : (pad w n).toList = padL w n := by
  have hl : (toString n).length = (Nat.toDigits 10 n).length := by
    rw [← String.length_toList]; simp
  simp only [pad, padL, digits, hl, String.toList_append, String.toList_ofList]
  simp

theorem padL_val (w n : Nat) : Nat.ofDigitChars 10 (padL w n) 0 = n := by
  unfold padL digits
  rw [Nat.ofDigitChars_append, Nat.ofDigitChars_replicate_zero, Nat.mul_zero]
  exact Nat.ofDigitChars_ten_toDigits

theorem padL_inj {w w' a b : Nat} (h : padL w a = padL w' b) : a = b := by
  have := congrArg (fun l => Nat.ofDigitChars 10 l 0) h
  simpa [padL_val] using this

theorem padL_length {w n : Nat} (hw : 0 < w) (h : n < 10 ^ w) : (padL w n).length = w := by
  have h1 : (digits n).length ≤ w := (Nat.length_toDigits_le_iff (b := 10) (by decide) hw).mpr h
  rw [padL, List.length_append, List.length_replicate]
  exact Nat.sub_add_cancel h1

theorem padL_len2 {n : Nat} (h : n < 100) : (padL 2 n).length = 2 := padL_length (Nat.zero_lt_succ 1) h

theorem padL_ne_nil (w n : Nat) : padL w n ≠ [] := by
  simp [padL, digits]

theorem pad3_inj {w a b c a' b' c' : Nat} (hb : b < 100) (hb' : b' < 100) (hc : c < 100) (hc' : c' < 100)
    (h : padL w a ++ padL 2 b ++ padL 2 c = padL w a' ++ padL 2 b' ++ padL 2 c') : a = a' ∧ b = b' ∧ c = c' := by
  obtain ⟨h1, h2⟩ := List.append_inj' h (by rw [padL_len2 hc, padL_len2 hc'])
  obtain ⟨h3, h4⟩ := List.append_inj' h1 (by rw [padL_len2 hb, padL_len2 hb'])
  exact ⟨padL_inj h3, padL_inj h4, padL_inj h2⟩

theorem renderDay_eq (v : Int) : (renderDay v).toList =
    padL 4 (civilFromDays v).1.toNat ++ padL 2 (civilFromDays v).2.1 ++ padL 2 (civilFromDays v).2.2 := by
  unfold renderDay
  generalize civilFromDays v = p
  obtain ⟨y, m, dd⟩ := p
  simp only [String.toList_append, pad_toList]

theorem renderDay_toList (n : Nat) : (renderDay (n : Int)).toList =
    padL 4 (Time.civilFromDays n).year ++ padL 2 (Time.civilFromDays n).mon ++ padL 2 (Time.civilFromDays n).day := by
  rw [renderDay_eq, civil_eq, Int.toNat_natCast]

theorem renderDay_inj {a b : Nat} (h : renderDay (a : Int) = renderDay (b : Int)) : a = b := by
  have h' := congrArg String.toList h
  rw [renderDay_toList, renderDay_toList] at h'
  obtain ⟨_, hm2, _, hd2⟩ := Time.civilFromDays_ranges a
  obtain ⟨_, hm2', _, hd2'⟩ := Time.civilFromDays_ranges b
  obtain ⟨e1, e2, e3⟩ := pad3_inj (Nat.lt_of_le_of_lt hm2 (by decide)) (Nat.lt_of_le_of_lt hm2' (by decide))
    (Nat.lt_of_le_of_lt hd2 (by decide)) (Nat.lt_of_le_of_lt hd2' (by decide)) h'
  have := Time.daysFromCivil_civilFromDays a
  rw [e1, e2, e3, Time.daysFromCivil_civilFromDays b] at this
  exact this.symm

theorem renderSec_toList (n : Nat) : (renderSec (n : Int)).toList =
    (renderDay ((n / 86400 : Nat) : Int)).toList ++ ('_' :: (padL 2 (n % 86400 / 3600) ++ padL 2 (n % 86400 / 60 % 60) ++
      padL 2 (n % 86400 % 60))) := by
  have h1 : (n : Int) / 86400 = ((n / 86400 : Nat) : Int) := (Int.natCast_ediv n 86400).symm
  have h2 : ((n : Int) % 86400).toNat = n % 86400 := congrArg Int.toNat (Int.natCast_emod n 86400).symm
  simp only [renderSec, h1, h2, String.toList_append, pad_toList, List.append_assoc]
  rfl

theorem hms_inj {r r' : Nat} (h1 : r / 3600 = r' / 3600) (h2 : r / 60 % 60 = r' / 60 % 60) (h3 : r % 60 = r' % 60) :
    r = r' := by
  -- minutes from hours and minutes of the hour, seconds from minutes and seconds of the minute
  have hm : r / 60 = r' / 60 := by
    rw [← Nat.div_add_mod (r / 60) 60, ← Nat.div_add_mod (r' / 60) 60, Nat.div_div_eq_div_mul, Nat.div_div_eq_div_mul]
    show 60 * (r / 3600) + r / 60 % 60 = 60 * (r' / 3600) + r' / 60 % 60
    rw [h1, h2]
  rw [← Nat.div_add_mod r 60, ← Nat.div_add_mod r' 60, hm, h3]

theorem renderSec_inj {a b : Nat} (h : renderSec (a : Int) = renderSec (b : Int)) : a = b := by
  have h' := congrArg String.toList h
  rw [renderSec_toList, renderSec_toList] at h'
  have two : ∀ r, r < 86400 → r / 3600 < 100 ∧ r / 60 % 60 < 100 ∧ r % 60 < 100 := fun r h =>
    ⟨Nat.div_lt_of_lt_mul (Nat.lt_trans h (by decide)), Nat.lt_trans (Nat.mod_lt _ (by decide)) (by decide),
      Nat.lt_trans (Nat.mod_lt _ (by decide)) (by decide)⟩
  obtain ⟨x1, x2, x3⟩ := two (a % 86400) (Nat.mod_lt a (by decide))
  obtain ⟨y1, y2, y3⟩ := two (b % 86400) (Nat.mod_lt b (by decide))
  generalize ha : a % 86400 = r at h' x1 x2 x3
  generalize hb : b % 86400 = r' at h' y1 y2 y3
  obtain ⟨hday, ht⟩ := List.append_inj' h' (by
    simp only [List.length_cons, List.length_append, padL_len2 x1, padL_len2 x2, padL_len2 x3, padL_len2 y1,
      padL_len2 y2, padL_len2 y3])
  have hd := renderDay_inj (String.toList_inj.mp hday)
  obtain ⟨e1, e2, e3⟩ := pad3_inj x2 y2 x3 y3 (List.cons.inj ht).2
  have hr : r = r' := hms_inj e1 e2 e3
  rw [← Nat.div_add_mod a 86400, ← Nat.div_add_mod b 86400, hd, ha, hb, hr]

theorem dotFree_padL (w n : Nat) : DotFree (padL w n) :=
  DotFree.append (fun h => absurd (List.mem_replicate.mp h).2 (by decide)) (digits_dotFree n)

theorem renderDay_free (v : Int) : DotFree (renderDay v).toList ∧ (renderDay v).toList ≠ [] := by
  rw [renderDay_eq]
  exact ⟨((dotFree_padL _ _).append (dotFree_padL _ _)).append (dotFree_padL _ _), by simp [padL_ne_nil]⟩

theorem renderSec_free (v : Int) : DotFree (renderSec v).toList ∧ (renderSec v).toList ≠ [] := by
  have hd := renderDay_free (v / 86400)
  simp only [renderSec, String.toList_append, pad_toList]
  exact ⟨((((hd.1.append (by decide)).append (dotFree_padL _ _)).append (dotFree_padL _ _)).append (dotFree_padL _ _)),
    by simp [hd.2]⟩

theorem renderSfx_dotFree_ne_nil (sch : Scheme) (v : Int) :
    DotFree (renderSfx sch v).toList ∧ (renderSfx sch v).toList ≠ [] := by
  cases sch with
  | dateTime => exact renderSec_free v
  | index => exact renderDay_free v
  | date => exact renderDay_free v

theorem renderSfx_inj (sch : Scheme) (v v' : Int) (hv : 0 ≤ v) (hv' : 0 ≤ v') (h : renderSfx sch v = renderSfx sch v') :
    v = v' := by
  obtain ⟨a, rfl⟩ := Int.eq_ofNat_of_zero_le hv
  obtain ⟨b, rfl⟩ := Int.eq_ofNat_of_zero_le hv'
  cases sch with
  | dateTime => simp only [renderSfx] at h; rw [renderSec_inj h]
  | index => simp only [renderSfx] at h; rw [renderDay_inj h]
  | date => simp only [renderSfx] at h; rw [renderDay_inj h]

end Rot
