import QuillModel.Rot.FS
import QuillModel.Rot.Time
import QuillModel.Util.ListLemmas
/-!
Scheme-independent facts (every naming scheme, every zone function): what `prepare` and `_rotate_files` do to the
current file, `_file_size`, the tracked files and the retained sequence, and what the constructor does to the directory.
The Index and the dated invariants (`Rot/Index.lean`, `Rot/Dated.lean`) only add what the scheme knows about the names.
Defined here and used by the statements of `Props/C14*.lean`, `Props/C15*.lean`: `sizeDue`, `rotates`, `CurInv`.
-/
namespace Rot

theorem bytes_append (a b : List Stmt) : bytes (a ++ b) = bytes a + bytes b := by
  simp [bytes]

theorem bytes_nil : bytes [] = 0 := rfl

theorem inj_of_nodup_map {α β : Type} (f : α → β) : ∀ (l : List α), (l.map f).Nodup →
    ∀ x ∈ l, ∀ y ∈ l, f x = f y → x = y
  | [], _, _, hx, _, _, _ => by simp at hx
  | a :: l, h, x, hx, y, hy, hxy => by
    simp only [List.map_cons, List.nodup_cons, List.mem_map, not_exists, not_and] at h
    rcases List.mem_cons.mp hx with hxa | hx' <;> rcases List.mem_cons.mp hy with hya | hy'
    · rw [hxa, hya]
    · subst hxa; exact absurd hxy.symm (h.1 y hy')
    · subst hya; exact absurd hxy (h.1 x hx')
    · exact inj_of_nodup_map f l h.2 x hx' y hy' hxy

theorem not_mem_take_of_mem_drop {α β : Type} (g : α → β) (l : List α) (n : Nat) (h : (l.map g).Nodup) {e : α}
    (he : e ∈ l.drop n) : g e ∉ (l.take n).map g := by
  rw [← List.take_append_drop n l, List.map_append, List.nodup_append] at h
  exact fun hm => h.2.2 _ hm _ (List.mem_map_of_mem he) rfl

theorem content_cur (fs : FS) : content fs curInfo = (fs.get curName).getD [] := rfl

theorem FileInfo.eq_of_name {s : Option Int} {k : Nat} {e : FileInfo} (h : Name.file s k = e.name) :
    (⟨s, k⟩ : FileInfo) = e := by
  cases e
  simp only [FileInfo.name, Name.file.injEq] at h
  rw [h.1, h.2]

/-- two states that differ at most in `_next_rotation_time` -/
structure SameFiles (a b : World) : Prop where
  fs : a.fs = b.fs
  created : a.sink.created = b.sink.created
  fileSize : a.sink.fileSize = b.sink.fileSize
  cfg : a.sink.cfg = b.sink.cfg
  openTs : a.sink.openTs = b.sink.openTs

theorem SameFiles.refl (a : World) : SameFiles a a := ⟨rfl, rfl, rfl, rfl, rfl⟩

/-- is the size trigger of `write_log` reached (the time trigger not being due)? -/
def sizeDue (w : World) (size ts : Nat) : Prop :=
  ¬ timeDue w ts ∧ w.sink.cfg.limit ≠ 0 ∧ w.sink.fileSize + size > w.sink.cfg.limit

instance (w : World) (size ts : Nat) : Decidable (sizeDue w size ts) := by unfold sizeDue; infer_instance

theorem prepare_idle (P : Params) (z : Nat → Int) (w : World) (size ts : Nat) (ht : ¬ timeDue w ts)
    (hs : ¬ sizeDue w size ts) : prepare P z w size ts = w := by
  rw [prepare_of_not_timeDue P z w size ts ht, if_neg (fun h => hs ⟨ht, h⟩)]

theorem prepare_due (P : Params) (z : Nat → Int) (w : World) (size ts : Nat) (h : timeDue w ts ∨ sizeDue w size ts) :
    SameFiles (prepare P z w size ts) (rotate P z w ts) := by
  rcases h with ht | ⟨hnt, hs⟩
  · rw [prepare_of_timeDue P z w size ts ht]
    exact ⟨rfl, rfl, rfl, rfl, rfl⟩
  · rw [prepare_of_not_timeDue P z w size ts hnt, if_pos hs]
    exact SameFiles.refl _

theorem prepare_cases (P : Params) (z : Nat → Int) (w : World) (size ts : Nat) :
    SameFiles (prepare P z w size ts) w ∨ SameFiles (prepare P z w size ts) (rotate P z w ts) := by
  by_cases h : timeDue w ts ∨ sizeDue w size ts
  · exact Or.inr (prepare_due P z w size ts h)
  · rw [prepare_idle P z w size ts (fun x => h (Or.inl x)) (fun x => h (Or.inr x))]
    exact Or.inl (SameFiles.refl _)

/-- does `_rotate_files` rotate in this state? -/
def rotates (w : World) : Prop := stopped w.sink = false ∧ ∃ cont, w.fs.get curName = some cont ∧ bytes cont ≠ 0

theorem rotate_eq (P : Params) (z : Nat → Int) (w : World) (ts : Nat) (cont : List Stmt) (hns : stopped w.sink = false)
    (hcur : w.fs.get curName = some cont) (hb : bytes cont ≠ 0) :
    rotate P z w ts =
      let sfx := newSuffix z w.sink.cfg.scheme w.sink.openTs
      let fs1 := applyMoves w.fs (w.sink.created.filterMap (moveOf w.sink.cfg.scheme sfx))
      let cr1 := w.sink.created.map (entryAfter w.sink.cfg.scheme sfx)
      let n := excess P.deletesAllExcess cr1.length w.sink.cfg.maxBackup
      let fs2 := delAll fs1 (cr1.take n)
      let cr2 := cr1.drop n
      { fs := fs2.put curName [],
        sink := { w.sink with created := cr2 ++ [curInfo], openTs := ts, fileSize := 0 } } := by
  unfold rotate
  simp only [hns, Bool.false_eq_true, ↓reduceIte, hcur, hb]

theorem bytes_of_not_rotates {w : World} {cont : List Stmt} (hn : ¬ rotates w) (hs : stopped w.sink = false)
    (hc : w.fs.get curName = some cont) : bytes cont = 0 :=
  Decidable.byContradiction (fun hb => hn ⟨hs, cont, hc, hb⟩)

theorem rotate_of_not_rotates (P : Params) (z : Nat → Int) (w : World) (ts : Nat) (hn : ¬ rotates w) :
    rotate P z w ts = w := by
  unfold rotate
  by_cases hs : stopped w.sink = true
  · simp only [hs, ↓reduceIte]
  · cases hc : w.fs.get curName with
    | none => simp only [hs, Bool.false_eq_true, ↓reduceIte]
    | some cont =>
      have hb : bytes cont = 0 := bytes_of_not_rotates hn (Bool.eq_false_iff.mpr hs) hc
      simp only [hs, Bool.false_eq_true, ↓reduceIte, hb]

theorem rotate_cur (P : Params) (z : Nat → Int) (w : World) (ts : Nat) :
    (¬ rotates w ∧ rotate P z w ts = w) ∨
      (rotates w ∧ (rotate P z w ts).fs.get curName = some [] ∧ (rotate P z w ts).sink.fileSize = 0 ∧
        (rotate P z w ts).sink.openTs = ts) := by
  by_cases hr : rotates w
  · obtain ⟨hs, cont, hc, hb⟩ := hr
    refine Or.inr ⟨⟨hs, cont, hc, hb⟩, ?_⟩
    rw [rotate_eq P z w ts cont hs hc hb]
    exact ⟨by simp only [FS.get_put, ↓reduceIte], rfl, rfl⟩
  · exact Or.inl ⟨hr, rotate_of_not_rotates P z w ts hr⟩

/-- the current file exists and `_file_size` is the number of bytes in it -/
def CurInv (w : World) : Prop := ∃ cont, w.fs.get curName = some cont ∧ w.sink.fileSize = bytes cont

theorem rotate_curInv (P : Params) (z : Nat → Int) (w : World) (ts : Nat) (h : CurInv w) : CurInv (rotate P z w ts) := by
  rcases rotate_cur P z w ts with ⟨_, h1⟩ | ⟨_, h1, h2, _⟩
  · rw [h1]; exact h
  · exact ⟨[], h1, by rw [h2]; rfl⟩

theorem curInv_of_same {a b : World} (h : SameFiles a b) (hb : CurInv b) : CurInv a := by
  obtain ⟨cont, h1, h2⟩ := hb
  exact ⟨cont, by rw [h.fs]; exact h1, by rw [h.fileSize]; exact h2⟩

theorem prepare_inv_of {I : World → Prop} (hsame : ∀ {a b : World}, SameFiles a b → I b → I a) (P : Params)
    (z : Nat → Int) (w : World) (size ts : Nat) (h : I w) (hr : I (rotate P z w ts)) : I (prepare P z w size ts) := by
  rcases prepare_cases P z w size ts with hs | hs
  · exact hsame hs h
  · exact hsame hs hr

theorem CurInv.of_size {w : World} (hc : (w.fs.get curName).isSome) (hs : w.sink.fileSize = bytes (content w.fs curInfo)) :
    CurInv w := by
  obtain ⟨c, hc⟩ := Option.isSome_iff_exists.mp hc
  exact ⟨c, hc, by rw [hs, content_cur, hc]; rfl⟩

theorem prepare_curInv (P : Params) (z : Nat → Int) (w : World) (size ts : Nat) (h : CurInv w) :
    CurInv (prepare P z w size ts) :=
  prepare_inv_of curInv_of_same P z w size ts h (rotate_curInv P z w ts h)

theorem appendCur_curInv (w : World) (st : Stmt) (h : CurInv w) : CurInv (appendCur w st) := by
  obtain ⟨cont, h1, h2⟩ := h
  refine ⟨cont ++ [st], by simp [appendCur, FS.get_put, h1], ?_⟩
  simp [appendCur, h2, bytes]

theorem appendCur_tracked (w : World) (st : Stmt) (h : ∀ e ∈ w.sink.created, (w.fs.get e.name).isSome) :
    ∀ e ∈ (appendCur w st).sink.created, ((appendCur w st).fs.get e.name).isSome := by
  intro e he
  simp only [appendCur, FS.get_put]
  split
  · rfl
  · exact h e he

theorem appendCur_size (w : World) (st : Stmt) (h : w.sink.fileSize = bytes (content w.fs curInfo)) :
    (appendCur w st).sink.fileSize = bytes (content (appendCur w st).fs curInfo) := by
  simp only [appendCur, content_cur, FS.get_put, ↓reduceIte, Option.getD_some, bytes_append, h]
  simp [bytes]

theorem write_curInv (P : Params) (z : Nat → Int) (w : World) (st : Stmt) (ts : Nat) (h : CurInv w) :
    CurInv (write P z w st ts) :=
  appendCur_curInv _ st (prepare_curInv P z w st.size ts h)

theorem restart_curInv (z : Nat → Int) (fs : FS) (c : Cfg) (start : Nat) : CurInv (restart z fs c start) := by
  unfold CurInv restart
  dsimp only
  by_cases ha : c.append = true
  · simp only [ha, ↓reduceIte, Bool.not_true, Bool.and_false, Bool.false_eq_true]
    split
    · rename_i cont hc
      exact ⟨cont, hc, by simp [hc]⟩
    · exact ⟨[], by simp [FS.get_put], by simp [FS.get_put]⟩
  · simp only [ha, Bool.false_eq_true, ↓reduceIte]
    exact ⟨[], by simp [FS.get_put], by simp [FS.get_put]⟩

theorem step_curInv (P : Params) (z : Nat → Int) (w : World) (op : Op) (h : CurInv w) : CurInv (step P z w op) := by
  cases op with
  | write st ts => exact write_curInv P z w st ts h
  | restart c start => exact restart_curInv z w.fs c start

theorem run_curInv (P : Params) (z : Nat → Int) : ∀ (ops : List Op) (w : World), CurInv w → CurInv (run P z w ops)
  | [], _, h => h
  | op :: ops, w, h => run_curInv P z ops _ (step_curInv P z w op h)

theorem write_cur (P : Params) (z : Nat → Int) (w : World) (st : Stmt) (ts : Nat) (h : CurInv w) :
    ∃ pre, (write P z w st ts).fs.get curName = some (pre ++ [st]) ∧
      (prepare P z w st.size ts).fs.get curName = some pre := by
  obtain ⟨pre, h1, _⟩ := prepare_curInv P z w st.size ts h
  exact ⟨pre, by simp [write, appendCur, FS.get_put, h1], h1⟩

/-- a trigger that fires leaves a current file without a byte in it (rotated away and opened anew, or found empty and
    kept), unless rotation has stopped -/
theorem prepare_due_cur (P : Params) (z : Nat → Int) (w : World) (size ts : Nat) (h : CurInv w)
    (hdue : timeDue w ts ∨ sizeDue w size ts) (hns : stopped w.sink = false) :
    ∃ pre, (prepare P z w size ts).fs.get curName = some pre ∧ bytes pre = 0 := by
  obtain ⟨cont, hc, _⟩ := h
  rw [(prepare_due P z w size ts hdue).fs]
  rcases rotate_cur P z w ts with ⟨hr, h1⟩ | ⟨_, h1, _⟩
  · exact ⟨cont, by rw [h1]; exact hc, bytes_of_not_rotates hr hns hc⟩
  · exact ⟨[], h1, rfl⟩

theorem write_due_cur (P : Params) (z : Nat → Int) (w : World) (st : Stmt) (ts : Nat) (h : CurInv w)
    (hdue : timeDue w ts ∨ sizeDue w st.size ts) (hns : stopped w.sink = false) :
    ∃ pre, (write P z w st ts).fs.get curName = some (pre ++ [st]) ∧ bytes pre = 0 := by
  obtain ⟨pre, h1, h2⟩ := write_cur P z w st ts h
  obtain ⟨pre', h3, h4⟩ := prepare_due_cur P z w st.size ts h hdue hns
  obtain rfl : pre = pre' := Option.some.inj (h2.symm.trans h3)
  exact ⟨pre, h1, h4⟩

theorem write_openTs (P : Params) (z : Nat → Int) (w : World) (st : Stmt) (ts : Nat) :
    (write P z w st ts).sink.openTs = w.sink.openTs ∨ (write P z w st ts).sink.openTs = ts := by
  show (prepare P z w st.size ts).sink.openTs = _ ∨ (prepare P z w st.size ts).sink.openTs = _
  rcases prepare_cases P z w st.size ts with hs | hs
  · exact Or.inl hs.openTs
  · rw [hs.openTs]
    rcases rotate_cur P z w ts with ⟨_, h1⟩ | ⟨_, _, _, h1⟩
    · exact Or.inl (by rw [h1])
    · exact Or.inr h1

theorem excess_cases (all : Bool) (len maxB : Nat) :
    (len ≤ maxB ∧ excess all len maxB = 0) ∨
      (maxB < len ∧ 1 ≤ excess all len maxB ∧ (all = true → excess all len maxB = len - maxB)) := by
  unfold excess
  by_cases h : len > maxB
  · rw [if_pos h]
    refine Or.inr ⟨h, ?_, fun ha => if_pos ha⟩
    split
    · exact Nat.sub_pos_of_lt h
    · exact Nat.le_refl 1
  · rw [if_neg h]
    exact Or.inl ⟨Nat.le_of_not_gt h, rfl⟩

theorem lt_of_excess_ne_zero {all : Bool} {len maxB : Nat} (h : excess all len maxB ≠ 0) : maxB < len := by
  rcases excess_cases all len maxB with ⟨_, h0⟩ | ⟨h1, _⟩
  · exact absurd h0 h
  · exact h1

theorem overwrite_of_excess {P : Params} {w : World} (hns : stopped w.sink = false)
    (hn : excess P.deletesAllExcess w.sink.created.length w.sink.cfg.maxBackup ≠ 0) : w.sink.cfg.overwrite = true := by
  have hdel := lt_of_excess_ne_zero hn
  simpa only [stopped, hdel, decide_true, Bool.true_and, Bool.not_eq_eq_eq_not, Bool.not_false] using hns

theorem rotate_created_length (P : Params) (z : Nat → Int) (w : World) (ts : Nat) (hr : rotates w) :
    (rotate P z w ts).sink.created.length =
      w.sink.created.length - excess P.deletesAllExcess w.sink.created.length w.sink.cfg.maxBackup + 1 := by
  obtain ⟨hs, cont, hc, hb⟩ := hr
  rw [rotate_eq P z w ts cont hs hc hb]
  simp only [List.length_append, List.length_cons, List.length_nil, List.length_map, List.length_drop]

theorem rotate_count (P : Params) (z : Nat → Int) (w : World) (ts : Nat) :
    (rotate P z w ts).sink.created.length ≤ max w.sink.created.length (w.sink.cfg.maxBackup + 1) := by
  by_cases hr : rotates w
  · rw [rotate_created_length P z w ts hr]
    rcases excess_cases P.deletesAllExcess w.sink.created.length w.sink.cfg.maxBackup with ⟨h1, h2⟩ | ⟨h1, h2, _⟩
    · rw [h2]; exact Nat.le_trans (Nat.succ_le_succ h1) (Nat.le_max_right _ _)
    · exact Nat.le_trans (Nat.sub_lt (Nat.lt_of_le_of_lt (Nat.zero_le _) h1) h2) (Nat.le_max_left _ _)
  · rw [rotate_of_not_rotates P z w ts hr]; exact Nat.le_max_left _ _

/-- with the repaired deletion loop (`while`), a rotation that takes place leaves at most `max_backup_files` rotated
    files — however many the start had recovered -/
theorem rotate_count_all (P : Params) (z : Nat → Int) (w : World) (ts : Nat) (hP : P.deletesAllExcess = true)
    (hr : rotates w) : (rotate P z w ts).sink.created.length ≤ w.sink.cfg.maxBackup + 1 := by
  rw [rotate_created_length P z w ts hr]
  rcases excess_cases P.deletesAllExcess w.sink.created.length w.sink.cfg.maxBackup with ⟨h1, h2⟩ | ⟨h1, _, h⟩
  · rw [h2]; exact Nat.succ_le_succ h1
  · rw [h hP, Nat.sub_sub_self (Nat.le_of_lt h1)]; exact Nat.le_refl _

theorem write_count (P : Params) (z : Nat → Int) (w : World) (st : Stmt) (ts : Nat) :
    (write P z w st ts).sink.created.length ≤ max w.sink.created.length (w.sink.cfg.maxBackup + 1) := by
  show (prepare P z w st.size ts).sink.created.length ≤ _
  rcases prepare_cases P z w st.size ts with hs | hs
  · rw [hs.created]; exact Nat.le_max_left _ _
  · rw [hs.created]; exact rotate_count P z w ts

theorem write_count_all (P : Params) (z : Nat → Int) (w : World) (st : Stmt) (ts : Nat) (hP : P.deletesAllExcess = true)
    (hdue : timeDue w ts ∨ sizeDue w st.size ts) (hr : rotates w) :
    (write P z w st ts).sink.created.length ≤ w.sink.cfg.maxBackup + 1 := by
  show (prepare P z w st.size ts).sink.created.length ≤ _
  rw [(prepare_due P z w st.size ts hdue).created]
  exact rotate_count_all P z w ts hP hr

theorem moveOf_entryAfter (sch : Scheme) (sfx : Option Int) (e : FileInfo) :
    (moveOf sch sfx e = none ∧ entryAfter sch sfx e = e) ∨
    moveOf sch sfx e = some (e.name, (entryAfter sch sfx e).name) := by
  unfold moveOf entryAfter
  by_cases h1 : sch = .index ∨ e.sfx = sfx
  · right; simp [h1, FileInfo.name]
  · by_cases h2 : e.sfx = none
    · right
      have h1' : ¬ (sch = .index ∨ none = sfx) := by rw [← h2]; exact h1
      simp [h2, h1', FileInfo.name]
    · left; simp [h1, h2]

theorem moveOf_some {sch : Scheme} {sfx : Option Int} {e : FileInfo} {b : Name × Name} (h : moveOf sch sfx e = some b) :
    b = (e.name, (entryAfter sch sfx e).name) := by
  rcases moveOf_entryAfter sch sfx e with ⟨h1, _⟩ | h1
  · rw [h1] at h; simp at h
  · rw [h1] at h; exact (Option.some.inj h).symm

/-- the file system after the rename loop, read as a function — any scheme. `hp`, for `a` tracked before `b`: the two
    sources differ, the two targets differ, and the earlier target is not the later source (the later target may be
    the earlier, vacated, source: `applyMoves_get`) -/
theorem chain_generic (sch : Scheme) (sfx : Option Int) (fs : FS) (cr : List FileInfo)
    (hp : cr.Pairwise (fun a b => a.name ≠ b.name ∧ (entryAfter sch sfx a).name ≠ (entryAfter sch sfx b).name ∧
      (entryAfter sch sfx a).name ≠ b.name))
    (hex : ∀ e ∈ cr, (fs.get e.name).isSome) :
    (∀ e ∈ cr, (applyMoves fs (cr.filterMap (moveOf sch sfx))).get (entryAfter sch sfx e).name = fs.get e.name) ∧
    (∀ n, (∀ e ∈ cr, n ≠ (entryAfter sch sfx e).name) →
      (applyMoves fs (cr.filterMap (moveOf sch sfx))).get n = if n ∈ cr.map FileInfo.name then none else fs.get n) := by
  have hmem : ∀ x ∈ cr.filterMap (moveOf sch sfx), ∃ e ∈ cr, moveOf sch sfx e = some x ∧
      x = (e.name, (entryAfter sch sfx e).name) := by
    intro x hx
    obtain ⟨e, he, hm⟩ := List.mem_filterMap.mp hx
    exact ⟨e, he, hm, moveOf_some hm⟩
  have hms : (cr.filterMap (moveOf sch sfx)).Pairwise (fun x y => x.1 ≠ y.1 ∧ x.2 ≠ y.2 ∧ x.2 ≠ y.1) := by
    refine List.Pairwise.filterMap _ ?_ hp
    intro a a' haa b hb b' hb'
    rw [moveOf_some hb, moveOf_some hb']; exact haa
  obtain ⟨keyA, keyB⟩ := applyMoves_get _ fs (List.pairwise_map.mpr (hms.imp (·.1)))
    (List.pairwise_map.mpr (hms.imp (·.2.1))) (hms.imp (·.2.2))
    (fun m hm => by obtain ⟨e, he, _, rfl⟩ := hmem m hm; exact hex e he)
  have injd := inj_of_nodup_map (fun e => (entryAfter sch sfx e).name) cr (List.pairwise_map.mpr (hp.imp (·.2.1)))
  have injs := inj_of_nodup_map FileInfo.name cr (List.pairwise_map.mpr (hp.imp (·.1)))
  constructor
  · intro e he
    rcases moveOf_entryAfter sch sfx e with ⟨hm, hfe⟩ | hm
    · -- `e` stays where it is: its name is neither a source nor (targets being distinct) a target of the loop
      have hnot : ∀ x ∈ cr.filterMap (moveOf sch sfx), x.1 ≠ e.name ∧ x.2 ≠ e.name := by
        intro x hx
        obtain ⟨e', he', hm', rfl⟩ := hmem x hx
        have hne : e' ≠ e := fun h => by rw [h, hm] at hm'; cases hm'
        exact ⟨fun h => hne (injs e' he' e he h), fun h => hne (injd e' he' e he (by rw [hfe]; exact h))⟩
      rw [hfe, keyB e.name (fun h => by obtain ⟨x, hx, h2⟩ := List.mem_map.mp h; exact (hnot x hx).2 h2),
        if_neg (fun h => by obtain ⟨x, hx, h1⟩ := List.mem_map.mp h; exact (hnot x hx).1 h1)]
    · exact keyA _ (List.mem_filterMap.mpr ⟨e, he, hm⟩)
  · intro n hn
    rw [keyB n (fun hm => by
      obtain ⟨x, hx, hx2⟩ := List.mem_map.mp hm
      obtain ⟨e, he, _, rfl⟩ := hmem x hx
      exact hn e he hx2.symm)]
    by_cases hc : n ∈ cr.map FileInfo.name
    · obtain ⟨e, he, rfl⟩ := List.mem_map.mp hc
      rcases moveOf_entryAfter sch sfx e with ⟨_, hfe⟩ | hmv
      · exact absurd (by rw [hfe]) (hn e he)
      · have : e.name ∈ (cr.filterMap (moveOf sch sfx)).map (·.1) :=
          List.mem_map.mpr ⟨_, List.mem_filterMap.mpr ⟨e, he, hmv⟩, rfl⟩
        simp only [this, hc, ↓reduceIte]
    · have : n ∉ (cr.filterMap (moveOf sch sfx)).map (·.1) := by
        intro hm
        obtain ⟨x, hx, hx1⟩ := List.mem_map.mp hm
        obtain ⟨e, he, _, rfl⟩ := hmem x hx
        exact hc (List.mem_map.mpr ⟨e, he, hx1⟩)
      simp only [this, hc, ↓reduceIte]

/-- the files that survive the deletion step: all but the `excess` oldest -/
def keptOf (P : Params) (w : World) : List FileInfo :=
  w.sink.created.drop (excess P.deletesAllExcess w.sink.created.length w.sink.cfg.maxBackup)

theorem kept_sublist (P : Params) (w : World) : (keptOf P w).Sublist w.sink.created :=
  List.drop_sublist _ _

/-- what a rotation that takes place does, relative to the state before it, for the per-entry map `f` of the scheme -/
structure RotSpecG (f : FileInfo → FileInfo) (w R : World) (ts : Nat) (kept : List FileInfo) : Prop where
  created : R.sink.created = kept.map f ++ [curInfo]
  moved : ∀ e ∈ kept, R.fs.get (f e).name = w.fs.get e.name
  cur : R.fs.get curName = some []
  only : ∀ sfx k, (R.fs.get (.file sfx k)).isSome →
    (⟨sfx, k⟩ : FileInfo) = curInfo ∨ (∃ e ∈ kept, (⟨sfx, k⟩ : FileInfo) = f e) ∨
      ((w.fs.get (.file sfx k)).isSome ∧ (⟨sfx, k⟩ : FileInfo) ∉ w.sink.created)
  frame : ∀ n, (∀ s k, n ≠ .file s k) → R.fs.get n = w.fs.get n
  fileSize : R.sink.fileSize = 0
  openTs : R.sink.openTs = ts
  cfg : R.sink.cfg = w.sink.cfg
  keys : R.fs.keys.Nodup

/-- `f` is the per-entry map of the loop, left a variable so that a scheme can put in its own closed form -/
theorem rotate_generic (P : Params) (z : Nat → Int) (w : World) (ts : Nat) (cont : List Stmt)
    (hns : stopped w.sink = false) (hcur : w.fs.get curName = some cont) (hb : bytes cont ≠ 0)
    (f : FileInfo → FileInfo) (hf : entryAfter w.sink.cfg.scheme (newSuffix z w.sink.cfg.scheme w.sink.openTs) = f)
    (hp : w.sink.created.Pairwise (fun a b => a.name ≠ b.name ∧ (f a).name ≠ (f b).name ∧ (f a).name ≠ b.name))
    (hnc : ∀ e ∈ w.sink.created, (f e).name ≠ curName)
    (hex : ∀ e ∈ w.sink.created, (w.fs.get e.name).isSome) (hkeys : w.fs.keys.Nodup) :
    RotSpecG f w (rotate P z w ts) ts (keptOf P w) ∧
    -- and a name that is neither a source nor a target of the loop, nor the current file, is left alone
    ∀ x, x ≠ curName → x ∉ w.sink.created.map FileInfo.name → (∀ e ∈ w.sink.created, x ≠ (f e).name) →
      (rotate P z w ts).fs.get x = w.fs.get x := by
  rw [rotate_eq P z w ts cont hns hcur hb]
  simp only [List.length_map]
  unfold keptOf
  generalize excess P.deletesAllExcess w.sink.created.length w.sink.cfg.maxBackup = n
  obtain ⟨hA, hB⟩ := chain_generic w.sink.cfg.scheme _ w.fs w.sink.created (hf ▸ hp) hex
  rw [hf] at hA hB ⊢
  have hdst : (w.sink.created.map (fun e => (f e).name)).Nodup := List.pairwise_map.mpr (hp.imp (·.2.1))
  generalize hfs1 : applyMoves w.fs (w.sink.created.filterMap (moveOf w.sink.cfg.scheme _)) = fs1 at hA hB
  have hk1 : fs1.keys.Nodup := by rw [← hfs1]; exact applyMoves_keys_nodup _ _ hkeys
  -- the final file system as a function: the fresh current file, the deleted names (those of the `n` oldest entries
  -- after the loop), the rest as the loop left it
  have hR : ∀ x, (FS.put (delAll fs1 ((w.sink.created.map f).take n)) curName []).get x =
      if x = curName then some [] else if x ∈ (w.sink.created.take n).map (fun e => (f e).name) then none
        else fs1.get x := by
    intro x
    rw [FS.get_put, delAll_get, ← List.map_take, List.map_map]
    rfl
  have hother : ∀ x, x ≠ curName → x ∉ w.sink.created.map FileInfo.name → (∀ e ∈ w.sink.created, x ≠ (f e).name) →
      (FS.put (delAll fs1 ((w.sink.created.map f).take n)) curName []).get x = w.fs.get x := by
    intro x h1 h3 h2
    have h4 : x ∉ (w.sink.created.take n).map (fun e => (f e).name) := by
      intro hm
      obtain ⟨e, he, heq⟩ := List.mem_map.mp hm
      exact h2 e (List.mem_of_mem_take he) heq.symm
    rw [hR, if_neg h1, if_neg h4, hB x h2, if_neg h3]
  refine ⟨{ created := by rw [List.map_drop], moved := ?_, cur := by rw [hR]; rfl, only := ?_, frame := ?_,
            fileSize := rfl, openTs := rfl, cfg := rfl,
            keys := FS.keys_put_nodup _ _ _ (delAll_keys_nodup _ _ hk1) }, hother⟩
  · intro e he
    rw [hR, if_neg (hnc e (List.mem_of_mem_drop he)),
      if_neg (not_mem_take_of_mem_drop _ _ n hdst he)]
    exact hA e (List.mem_of_mem_drop he)
  · intro s k hk
    rw [hR] at hk
    by_cases heq : Name.file s k = curName
    · exact Or.inl (FileInfo.eq_of_name (e := curInfo) heq)
    · rw [if_neg heq] at hk
      by_cases hdel : Name.file s k ∈ (w.sink.created.take n).map (fun e => (f e).name)
      · rw [if_pos hdel] at hk; cases hk
      · rw [if_neg hdel] at hk
        right
        by_cases hx : ∃ e ∈ w.sink.created, Name.file s k = (f e).name
        · -- a target of the loop: its entry was not among the deleted ones, so it is kept
          obtain ⟨e, he, heq⟩ := hx
          rcases List.mem_append.mp (List.take_append_drop n w.sink.created ▸ he) with ht | hd
          · exact absurd (List.mem_map.mpr ⟨e, ht, heq.symm⟩) hdel
          · exact Or.inl ⟨e, hd, FileInfo.eq_of_name heq⟩
        · -- no target: the loop left it alone, and it was there before without being tracked
          rw [hB _ (fun e he heq => hx ⟨e, he, heq⟩)] at hk
          by_cases hnot : Name.file s k ∈ w.sink.created.map FileInfo.name
          · rw [if_pos hnot] at hk; cases hk
          · rw [if_neg hnot] at hk
            exact Or.inr ⟨hk, fun hm => hnot (List.mem_map.mpr ⟨_, hm, rfl⟩)⟩
  · intro x hx
    refine hother x (hx _ _) (fun hm => ?_) (fun e _ => hx _ _)
    obtain ⟨e, _, heq⟩ := List.mem_map.mp hm
    exact hx _ _ heq.symm

theorem rotSpecG_diskSeq {f : FileInfo → FileInfo} {w R : World} {ts : Nat} {kept : List FileInfo}
    (s : RotSpecG f w R ts kept) : diskSeq R = kept.flatMap (content w.fs) := by
  unfold diskSeq
  rw [s.created, List.flatMap_append, List.flatMap_map]
  have h1 : kept.flatMap (fun e => content R.fs (f e)) = kept.flatMap (content w.fs) := by
    apply flatMap_congr'
    intro e he
    simp only [content, s.moved e he]
  have h2 : [curInfo].flatMap (content R.fs) = [] := by
    simp only [List.flatMap_cons, List.flatMap_nil, List.append_nil, content_cur, s.cur]; rfl
  show kept.flatMap (fun e => content R.fs (f e)) ++ _ = _
  rw [h1, h2, List.append_nil]

theorem RotSpecG.tracked {f : FileInfo → FileInfo} {w R : World} {ts : Nat} {kept : List FileInfo}
    (s : RotSpecG f w R ts kept) (h : ∀ e ∈ kept, (w.fs.get e.name).isSome) :
    ∀ e ∈ R.sink.created, (R.fs.get e.name).isSome := by
  intro e he
  rw [s.created] at he
  rcases List.mem_append.mp he with he | he
  · obtain ⟨e', he', rfl⟩ := List.mem_map.mp he
    rw [s.moved e' he']
    exact h e' he'
  · rw [List.mem_singleton.mp he]
    show (R.fs.get curName).isSome
    rw [s.cur]; rfl

theorem RotSpecG.size {f : FileInfo → FileInfo} {w R : World} {ts : Nat} {kept : List FileInfo}
    (s : RotSpecG f w R ts kept) : R.sink.fileSize = bytes (content R.fs curInfo) := by
  rw [s.fileSize, content_cur, s.cur]; rfl

def CurLast (w : World) : Prop := ∃ rest, w.sink.created = rest ++ [curInfo] ∧ ∀ e ∈ rest, e.name ≠ curName

theorem CurLast.name_ne_cur {w : World} (h : CurLast w) {e : FileInfo} (he : e ∈ w.sink.created) (hne : e ≠ curInfo) :
    e.name ≠ curName := by
  obtain ⟨rest, hr, hn⟩ := h
  rw [hr] at he
  rcases List.mem_append.mp he with he | he
  · exact hn e he
  · exact absurd (List.mem_singleton.mp he) hne

theorem CurLast.cur_mem {w : World} (h : CurLast w) : curInfo ∈ w.sink.created := by
  obtain ⟨rest, hr, _⟩ := h
  rw [hr]
  exact List.mem_append_right _ (List.mem_singleton.mpr rfl)

theorem CurLast.curInv {w : World} (h : CurLast w) (ht : ∀ e ∈ w.sink.created, (w.fs.get e.name).isSome)
    (hs : w.sink.fileSize = bytes (content w.fs curInfo)) : CurInv w :=
  CurInv.of_size (ht curInfo h.cur_mem) hs

theorem appendCur_diskSeq (w : World) (st : Stmt) (h : CurLast w) : diskSeq (appendCur w st) = diskSeq w ++ [st] := by
  obtain ⟨rest, hr, hcur_not⟩ := h
  unfold diskSeq appendCur
  simp only [hr, List.flatMap_append, List.flatMap_cons, List.flatMap_nil, List.append_nil]
  have h1 : rest.flatMap (content (w.fs.put curName ((w.fs.get curName).getD [] ++ [st]))) = rest.flatMap (content w.fs) := by
    apply flatMap_congr'
    intro e he
    simp only [content, FS.get_put, hcur_not e he, ↓reduceIte]
  rw [h1]
  simp only [content, FileInfo.name, curInfo, FS.get_put, curName, ↓reduceIte, Option.getD_some, List.append_assoc]

theorem diskSeq_of_same {a b : World} (h : SameFiles a b) : diskSeq a = diskSeq b := by
  unfold diskSeq; rw [h.fs, h.created]

theorem rotate_diskSeq_of (P : Params) (z : Nat → Int) (w : World) (ts : Nat)
    (hs : rotates w → ∃ f, RotSpecG f w (rotate P z w ts) ts (keptOf P w)) :
    ∃ n, diskSeq w = (w.sink.created.take n).flatMap (content w.fs) ++ diskSeq (rotate P z w ts) ∧
      (n = 0 ∨ (w.sink.cfg.overwrite = true ∧ w.sink.created.length > w.sink.cfg.maxBackup)) := by
  by_cases hr : rotates w
  · obtain ⟨f, s⟩ := hs hr
    rw [rotSpecG_diskSeq s]
    refine ⟨excess P.deletesAllExcess w.sink.created.length w.sink.cfg.maxBackup, ?_, ?_⟩
    · unfold keptOf diskSeq
      rw [← List.flatMap_append, List.take_append_drop]
    · by_cases hn : excess P.deletesAllExcess w.sink.created.length w.sink.cfg.maxBackup = 0
      · exact Or.inl hn
      · exact Or.inr ⟨overwrite_of_excess hr.1 hn, lt_of_excess_ne_zero hn⟩
  · exact ⟨0, by rw [rotate_of_not_rotates P z w ts hr]; simp, Or.inl rfl⟩

/-- one `write_log` read off the retained sequence: the statement is appended at its end; what disappears, if anything,
    are the whole `n` oldest files, and only when `overwrite_rolled_files` is on and the backup limit is exceeded -/
def WriteEq (P : Params) (z : Nat → Int) (w : World) (st : Stmt) (ts : Nat) : Prop :=
  ∃ n, diskSeq w ++ [st] = (w.sink.created.take n).flatMap (content w.fs) ++ diskSeq (write P z w st ts) ∧
    (n = 0 ∨ (w.sink.cfg.overwrite = true ∧ w.sink.created.length > w.sink.cfg.maxBackup))

theorem write_diskSeq_of (P : Params) (z : Nat → Int) (w : World) (st : Stmt) (ts : Nat)
    (hs : rotates w → ∃ f, RotSpecG f w (rotate P z w ts) ts (keptOf P w)) (hp : CurLast (prepare P z w st.size ts)) :
    WriteEq P z w st ts := by
  have h1 : diskSeq (write P z w st ts) = diskSeq (prepare P z w st.size ts) ++ [st] := appendCur_diskSeq _ st hp
  rcases prepare_cases P z w st.size ts with hs' | hs'
  · exact ⟨0, by rw [h1, diskSeq_of_same hs']; simp, Or.inl rfl⟩
  · obtain ⟨n, h2, h3⟩ := rotate_diskSeq_of P z w ts hs
    exact ⟨n, by rw [h1, diskSeq_of_same hs', ← List.append_assoc, ← h2], h3⟩

section
variable {P : Params} {z : Nat → Int} {w : World} {st : Stmt} {ts : Nat}

theorem WriteEq.suffix (h : WriteEq P z w st ts) (t : List Stmt) :
    diskSeq (write P z w st ts) ++ t <:+ diskSeq w ++ st :: t := by
  obtain ⟨n, he, _⟩ := h
  exact ⟨_, by rw [← List.append_assoc, ← he]; simp⟩

theorem WriteEq.nodup (h : WriteEq P z w st ts) (hn : (diskSeq w ++ [st]).Nodup) :
    (diskSeq (write P z w st ts)).Nodup := by
  obtain ⟨n, he, _⟩ := h
  rw [he] at hn
  exact (List.nodup_append.mp hn).2.1

theorem WriteEq.keeps_all (h : WriteEq P z w st ts)
    (hk : w.sink.cfg.overwrite = false ∨ w.sink.created.length ≤ w.sink.cfg.maxBackup) :
    diskSeq (write P z w st ts) = diskSeq w ++ [st] := by
  obtain ⟨n, he, hn⟩ := h
  have h0 : n = 0 := hn.resolve_right
    (fun ⟨h1, h2⟩ => hk.elim (fun h => by rw [h] at h1; cases h1) (fun h => Nat.not_lt_of_le h h2))
  subst h0
  simpa using he.symm

end

theorem restart_created (z : Nat → Int) (fs : FS) (c : Cfg) (start : Nat) :
    (restart z fs c start).sink.created =
      (if c.append = true then recover c.scheme (civilDay z start) fs else []) ++ [curInfo] := by
  by_cases ha : c.append = true <;> simp [restart, ha]

/-- a start in append mode changes no file, except that it creates the current file when it is missing -/
theorem restart_get_append (z : Nat → Int) (fs : FS) (c : Cfg) (start : Nat) (ha : c.append = true) (n : Name)
    (hn : n ≠ curName ∨ (fs.get curName).isSome) : (restart z fs c start).fs.get n = fs.get n := by
  simp only [restart, ha, Bool.not_true, Bool.and_false, Bool.false_eq_true, ↓reduceIte]
  cases hc : fs.get curName with
  | some x => rfl
  | none =>
    simp only [FS.get_put]
    rcases hn with hn | hn
    · simp [hn]
    · rw [hc] at hn; cases hn

theorem restart_fs_append (z : Nat → Int) (fs : FS) (c : Cfg) (start : Nat) (ha : c.append = true)
    (hc : (fs.get curName).isSome) : (restart z fs c start).fs = fs := by
  obtain ⟨cc, hcc⟩ := Option.isSome_iff_exists.mp hc
  simp [restart, ha, hcc]

theorem restart_fs_write (z : Nat → Int) (fs : FS) (c : Cfg) (start : Nat) (ha : c.append = false) :
    (restart z fs c start).fs =
      FS.put (if c.removeOld = true then clean c.scheme (civilDay z start) fs else fs) curName [] := by
  simp [restart, ha]

theorem restart_keys (z : Nat → Int) (fs : FS) (c : Cfg) (start : Nat) (hk : fs.keys.Nodup) :
    (restart z fs c start).fs.keys.Nodup := by
  have hcl : ∀ b : Bool, (if b = true then clean c.scheme (civilDay z start) fs else fs).keys.Nodup := by
    intro b
    split
    · unfold clean
      split
      · exact FS.keys_filter_nodup fs _ hk
      · exact FS.keys_filter_nodup fs _ hk
      · exact hk
    · exact hk
  unfold restart
  dsimp only
  split
  · split
    · exact hcl _
    · exact FS.keys_put_nodup _ _ _ (hcl _)
  · exact FS.keys_put_nodup _ _ _ (hcl _)

theorem restart_size (z : Nat → Int) (fs : FS) (c : Cfg) (start : Nat) :
    (restart z fs c start).sink.fileSize = bytes (content (restart z fs c start).fs curInfo) := rfl

theorem restart_cur_isSome (z : Nat → Int) (fs : FS) (c : Cfg) (start : Nat) :
    ((restart z fs c start).fs.get curName).isSome := by
  obtain ⟨cont, hc, _⟩ := restart_curInv z fs c start
  rw [hc]; rfl

theorem mem_insDesc (e x : FileInfo) : ∀ l : List FileInfo, x ∈ insDesc e l ↔ x = e ∨ x ∈ l
  | [] => by simp [insDesc]
  | y :: ys => by
    simp only [insDesc]
    split
    · simp
    · simp only [List.mem_cons, mem_insDesc e x ys]
      exact or_left_comm

theorem mem_sortDesc (x : FileInfo) : ∀ l : List FileInfo, x ∈ sortDesc l ↔ x ∈ l
  | [] => by simp [sortDesc]
  | y :: ys => by simp only [sortDesc, mem_insDesc, mem_sortDesc x ys, List.mem_cons]

theorem insDesc_sorted (e : FileInfo) : ∀ l : List FileInfo, l.Pairwise (fun a b => a.idx > b.idx) →
    (∀ x ∈ l, x.idx ≠ e.idx) → (insDesc e l).Pairwise (fun a b => a.idx > b.idx)
  | [], _, _ => by simp [insDesc]
  | y :: ys, hp, hne => by
    have hp' := List.pairwise_cons.mp hp
    simp only [insDesc]
    split
    · rename_i hle
      refine List.pairwise_cons.mpr ⟨?_, hp⟩
      intro a ha
      rcases List.mem_cons.mp ha with rfl | ha
      · exact Nat.lt_of_le_of_ne hle (hne a List.mem_cons_self)
      · exact Nat.lt_of_lt_of_le (hp'.1 a ha) hle
    · rename_i hle
      refine List.pairwise_cons.mpr ⟨?_, insDesc_sorted e ys hp'.2 (fun x hx => hne x (List.mem_cons_of_mem _ hx))⟩
      intro a ha
      rcases (mem_insDesc e a ys).mp ha with rfl | ha
      · exact Nat.lt_of_not_le hle
      · exact hp'.1 a ha

theorem sortDesc_sorted : ∀ l : List FileInfo, l.Pairwise (fun a b => a.idx ≠ b.idx) →
    (sortDesc l).Pairwise (fun a b => a.idx > b.idx)
  | [], _ => by simp [sortDesc]
  | y :: ys, hp => by
    have hp' := List.pairwise_cons.mp hp
    simp only [sortDesc]
    refine insDesc_sorted y _ (sortDesc_sorted ys hp'.2) ?_
    intro x hx
    exact fun e => hp'.1 x ((mem_sortDesc x ys).mp hx) e.symm

theorem eq_of_sorted_of_mem {l₁ l₂ : List FileInfo} (h₁ : l₁.Pairwise (fun a b => a.idx > b.idx))
    (h₂ : l₂.Pairwise (fun a b => a.idx > b.idx)) (h : ∀ e, e ∈ l₁ ↔ e ∈ l₂) : l₁ = l₂ := by
  have nd : ∀ {l : List FileInfo}, l.Pairwise (fun a b => a.idx > b.idx) → l.Nodup :=
    fun hl => hl.imp (fun {a b} hab heq => by subst heq; omega)
  refine List.Perm.eq_of_pairwise (le := fun a b => a.idx > b.idx) ?_ h₁ h₂
    ((List.perm_ext_iff_of_nodup (nd h₁) (nd h₂)).mpr h)
  intro a b _ _ h1 h2; omega

/-- a directory scan that recovers exactly the files of the family whose entry satisfies `ok` -/
def Scans (scan : Name × List Stmt → Option FileInfo) (ok : FileInfo → Prop) : Prop :=
  ∀ p e, scan p = some e ↔ p.1 = e.name ∧ ok e

theorem Scans.mem_recovered {scan : Name × List Stmt → Option FileInfo} {ok : FileInfo → Prop} (h : Scans scan ok)
    (fs : FS) (e : FileInfo) : e ∈ sortDesc (fs.filterMap scan) ↔ ok e ∧ (fs.get e.name).isSome := by
  rw [mem_sortDesc, List.mem_filterMap]
  constructor
  · rintro ⟨p, hp, hs⟩
    obtain ⟨h1, h2⟩ := (h p e).mp hs
    exact ⟨h2, h1 ▸ FS.get_of_mem fs p hp⟩
  · rintro ⟨h1, h2⟩
    obtain ⟨c, hc⟩ := FS.mem_of_get fs _ h2
    exact ⟨_, hc, (h _ e).mpr ⟨rfl, h1⟩⟩

theorem Scans.recovered_sorted {scan : Name × List Stmt → Option FileInfo} {ok : FileInfo → Prop} (h : Scans scan ok)
    {s : Option Int} (hs : ∀ e, ok e → e.sfx = s) (fs : FS) (hk : fs.keys.Nodup) :
    (sortDesc (fs.filterMap scan)).Pairwise (fun a b => a.idx > b.idx) := by
  refine sortDesc_sorted _ (List.Pairwise.filterMap scan ?_ (List.pairwise_map.mp hk))
  intro p q hpq a ha b hb heq
  obtain ⟨ha1, ha2⟩ := (h p a).mp ha
  obtain ⟨hb1, hb2⟩ := (h q b).mp hb
  exact hpq (by rw [ha1, hb1, FileInfo.name, FileInfo.name, hs a ha2, hs b hb2, heq])

theorem Scans.recovered_eq {scan : Name × List Stmt → Option FileInfo} {ok : FileInfo → Prop} (h : Scans scan ok)
    {s : Option Int} (hs : ∀ e, ok e → e.sfx = s) (fs : FS) (hk : fs.keys.Nodup) {l : List FileInfo}
    (hl : l.Pairwise (fun a b => a.idx > b.idx)) (hm : ∀ e, e ∈ l ↔ ok e ∧ (fs.get e.name).isSome) :
    sortDesc (fs.filterMap scan) = l :=
  eq_of_sorted_of_mem (h.recovered_sorted hs fs hk) hl (fun e => (h.mem_recovered fs e).trans (hm e).symm)

end Rot
