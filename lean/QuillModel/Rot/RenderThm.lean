import QuillModel.Rot.Render
/-!
String-level facts about the rendered names (`Rot/Render.lean`), for every base file name:
the split into stem and extension, the closed form of `_get_filename` (with an extension: `stem[.date][.index].ext`;
without one: `base[.index][.date]` — the index lands *before* the date because the name is split again), and that the
part between stem and extension determines index and date (`midA_inj`, `midB_inj`).
-/
namespace Rot

def DotFree (l : List Char) : Prop := '.' ∉ l

instance (l : List Char) : Decidable (DotFree l) := by unfold DotFree; infer_instance

theorem DotFree.nil : DotFree [] := List.not_mem_nil

theorem DotFree.append {a b : List Char} (ha : DotFree a) (hb : DotFree b) : DotFree (a ++ b) :=
  fun h => (List.mem_append.mp h).elim ha hb

theorem splitExt_of_ext (p e0 : List Char) (hp : p ≠ []) (he : DotFree e0) (h2 : ¬ (p = ['.'] ∧ e0 = [])) :
    splitExt (p ++ '.' :: e0) = (p, '.' :: e0) := by
  have hne : p ++ '.' :: e0 ≠ ['.', '.'] := by
    intro h
    cases p with
    | nil => exact hp rfl
    | cons a p' =>
      cases p' with
      | nil =>
        simp only [List.cons_append, List.nil_append, List.cons.injEq] at h
        exact h2 ⟨by rw [h.1], by simpa using h.2.2⟩
      | cons b p'' =>
        have := congrArg List.length h
        simp at this
  have htw : ∀ a ∈ e0.reverse, (fun c : Char => decide (c ≠ '.')) a = true := by
    intro a ha
    have : a ∈ e0 := List.mem_reverse.mp ha
    simp only [decide_eq_true_eq]
    intro h
    subst h
    exact he this
  have hrev : (p ++ '.' :: e0).reverse = e0.reverse ++ '.' :: p.reverse := by simp
  unfold splitExt
  simp only [hne, ↓reduceIte, hrev]
  rw [List.dropWhile_append_of_pos htw, List.takeWhile_append_of_pos htw]
  have h1 : List.dropWhile (fun c : Char => decide (c ≠ '.')) ('.' :: p.reverse) = '.' :: p.reverse := by
    rw [List.dropWhile_cons_of_neg]; simp
  have h3 : List.takeWhile (fun c : Char => decide (c ≠ '.')) ('.' :: p.reverse) = [] := by
    rw [List.takeWhile_cons_of_neg]; simp
  rw [h1, h3]
  have : p.reverse ≠ [] := by simpa using hp
  simp [this]

theorem splitExt_insert (s t e0 : List Char) (hs : s ≠ []) (he : DotFree e0) :
    splitExt ((s ++ '.' :: t) ++ '.' :: e0) = (s ++ '.' :: t, '.' :: e0) :=
  splitExt_of_ext (s ++ '.' :: t) e0 (by simp) he (by
    rintro ⟨h1, _⟩
    have := congrArg List.length h1
    simp at this
    exact hs (List.length_eq_zero_iff.mp (by omega)))

/-- what `extract_stem_and_extension` returns -/
theorem splitExt_spec (f : List Char) :
    (splitExt f).1 ++ (splitExt f).2 = f ∧
      ((splitExt f).2 = [] ∨ ∃ e0, (splitExt f).2 = '.' :: e0 ∧ DotFree e0 ∧ (splitExt f).1 ≠ [] ∧
        ¬ ((splitExt f).1 = ['.'] ∧ e0 = [])) := by
  unfold splitExt
  by_cases h0 : f = ['.', '.']
  · simp [h0]
  · simp only [h0, ↓reduceIte]
    have hsplit := List.takeWhile_append_dropWhile (p := fun c : Char => decide (c ≠ '.')) (l := f.reverse)
    generalize hdw : List.dropWhile (fun c : Char => decide (c ≠ '.')) f.reverse = dw at hsplit
    generalize htk : List.takeWhile (fun c : Char => decide (c ≠ '.')) f.reverse = tk at hsplit
    have htkfree : DotFree tk.reverse := by
      intro hm
      have : '.' ∈ tk := List.mem_reverse.mp hm
      rw [← htk] at this
      have hall := List.all_takeWhile (p := fun c : Char => decide (c ≠ '.')) (l := f.reverse)
      rw [List.all_eq_true] at hall
      have := hall _ this
      simp at this
    cases dw with
    | nil => simp
    | cons a stemRev =>
      have ha : a = '.' := by
        have := List.head?_dropWhile_not (fun c : Char => decide (c ≠ '.')) f.reverse
        rw [hdw] at this
        simpa using this
      subst ha
      by_cases hs : stemRev = []
      · simp [hs]
      · simp only [hs, ↓reduceIte]
        have hf : f = stemRev.reverse ++ '.' :: tk.reverse := by
          have := congrArg List.reverse hsplit
          simp only [List.reverse_append, List.reverse_cons, List.reverse_reverse, List.append_assoc,
            List.singleton_append] at this
          exact this.symm
        refine ⟨hf.symm, Or.inr ⟨tk.reverse, rfl, htkfree, by simpa using hs, ?_⟩⟩
        rintro ⟨h1, h2⟩
        apply h0
        rw [hf, h1, h2]; rfl

/-- the part of a rendered name between stem and extension when the base has an extension: `[.date][.index]` -/
def midA (i : Nat) (d : List Char) : List Char :=
  (if d = [] then [] else '.' :: d) ++ (if i = 0 then [] else '.' :: digits i)

/-- what follows the base when it has no extension: `[.index][.date]` -/
def midB (i : Nat) (d : List Char) : List Char :=
  (if i = 0 then [] else '.' :: digits i) ++ (if d = [] then [] else '.' :: d)

theorem digits_dotFree (k : Nat) : DotFree (digits k) := by
  intro h
  have := Nat.isDigit_of_mem_toDigits (b := 10) (n := k) (by decide) (by decide) h
  simp [Char.isDigit] at this

theorem digits_inj {a b : Nat} (h : digits a = digits b) : a = b := by
  have := congrArg (fun l => Nat.ofDigitChars 10 l 0) h
  simpa [digits, Nat.ofDigitChars_ten_toDigits] using this

theorem digits_ne_nil (k : Nat) : digits k ≠ [] := by simp [digits]

/-- closed form, base with an extension: `stem[.date][.index].ext` -/
theorem getFilename_ext (b : List Char) (e0 : List Char) (he : (splitExt b).2 = '.' :: e0) (i : Nat) (d : List Char) :
    getFilename b i d = (splitExt b).1 ++ midA i d ++ (splitExt b).2 := by
  obtain ⟨hcat, hor⟩ := splitExt_spec b
  rcases hor with h | ⟨e0', h1, hfree, hs, hdd⟩
  · rw [he] at h; simp at h
  · have : e0' = e0 := by rw [he] at h1; simpa using h1.symm
    subst this
    unfold getFilename appendStr appendIdx midA
    by_cases hd : d = []
    · by_cases hi : i = 0
      · simp [hd, hi, hcat]
      · simp [hd, hi, withExt]
    · have hsp : splitExt (withExt b d) = ((splitExt b).1 ++ '.' :: d, '.' :: e0') := by
        unfold withExt
        rw [he]
        have := splitExt_insert (splitExt b).1 d e0' hs hfree
        simpa [List.append_assoc] using this
      by_cases hi : i = 0
      · simp [hd, hi, withExt, he]
      · simp only [hd, hi, ↓reduceIte]
        show withExt (withExt b d) (digits i) = _
        rw [withExt, hsp]
        simp [he, List.append_assoc]

/-- closed form, base without extension (no dot, or hidden file): `base[.index][.date]` -/
theorem getFilename_noext (b : List Char) (hb : b ≠ []) (he : (splitExt b).2 = []) (i : Nat) (d : List Char)
    (hd : DotFree d) : getFilename b i d = b ++ midB i d := by
  obtain ⟨hcat, _⟩ := splitExt_spec b
  have hs : (splitExt b).1 = b := by rw [he] at hcat; simpa using hcat
  unfold getFilename appendStr appendIdx midB
  by_cases hd0 : d = []
  · by_cases hi : i = 0
    · simp [hd0, hi]
    · simp [hd0, hi, withExt, hs, he]
  · have hsp : splitExt (withExt b d) = (b, '.' :: d) := by
      unfold withExt
      rw [he, hs]
      have := splitExt_of_ext b d hb hd (by rintro ⟨_, h⟩; exact hd0 h)
      simpa using this
    by_cases hi : i = 0
    · simp [hd0, hi, withExt, hs, he]
    · simp only [hd0, hi, ↓reduceIte]
      show withExt (withExt b d) (digits i) = _
      rw [withExt, hsp]
      simp

theorem dot_split {a a' r r' : List Char} (ha : DotFree a) (ha' : DotFree a')
    (h : a ++ '.' :: r = a' ++ '.' :: r') : a = a' ∧ r = r' := by
  induction a generalizing a' with
  | nil =>
    cases a' with
    | nil => simpa using h
    | cons x xs =>
      simp only [List.nil_append, List.cons_append, List.cons.injEq] at h
      exact absurd (by rw [← h.1]; simp) ha'
  | cons y ys ih =>
    cases a' with
    | nil =>
      simp only [List.nil_append, List.cons_append, List.cons.injEq] at h
      exact absurd (by rw [h.1]; simp) ha
    | cons x xs =>
      simp only [List.cons_append, List.cons.injEq] at h
      have := ih (a' := xs) (fun hm => ha (List.mem_cons_of_mem _ hm)) (fun hm => ha' (List.mem_cons_of_mem _ hm)) h.2
      exact ⟨by rw [h.1, this.1], this.2⟩

/-- the names one scheme produces: same kind of suffix (both none, or both a date), or one of them is the current file -/
def SameKind (i : Nat) (d : List Char) (i' : Nat) (d' : List Char) : Prop :=
  (d = [] ↔ d' = []) ∨ (i = 0 ∧ d = []) ∨ (i' = 0 ∧ d' = [])

instance (i : Nat) (d : List Char) (i' : Nat) (d' : List Char) : Decidable (SameKind i d i' d') := by
  unfold SameKind; infer_instance

theorem no_dot_of_eq_append {d x y : List Char} (hd : DotFree d) (h : d = x ++ '.' :: y) : False := by
  apply hd
  rw [h]
  exact List.mem_append_right _ List.mem_cons_self

def seg (x : List Char) : List Char := if x = [] then [] else '.' :: x

def idxDigits (i : Nat) : List Char := if i = 0 then [] else digits i

theorem idxDigits_eq_nil {i : Nat} : idxDigits i = [] ↔ i = 0 := by
  unfold idxDigits
  split <;> simp [*, digits_ne_nil]

theorem idxDigits_dotFree (i : Nat) : DotFree (idxDigits i) := by
  unfold idxDigits
  split
  · exact DotFree.nil
  · exact digits_dotFree i

theorem idxDigits_inj {i i' : Nat} (h : idxDigits i = idxDigits i') : i = i' := by
  unfold idxDigits at h
  split at h <;> split at h
  · omega
  · exact absurd h.symm (digits_ne_nil _)
  · exact absurd h (digits_ne_nil _)
  · exact digits_inj h

theorem midA_eq (i : Nat) (d : List Char) : midA i d = seg d ++ seg (idxDigits i) := by
  unfold midA seg idxDigits
  by_cases h : i = 0 <;> simp [h, digits_ne_nil]

theorem midB_eq (i : Nat) (d : List Char) : midB i d = seg (idxDigits i) ++ seg d := by
  unfold midB seg idxDigits
  by_cases h : i = 0 <;> simp [h, digits_ne_nil]

theorem append_seg_inj {x x' y y' : List Char} (hx : DotFree x) (hx' : DotFree x') (h : x ++ seg y = x' ++ seg y') :
    x = x' ∧ y = y' := by
  unfold seg at h
  by_cases hy : y = [] <;> by_cases hy' : y' = [] <;> simp only [hy, hy', ↓reduceIte, List.append_nil] at h
  · exact ⟨h, hy.trans hy'.symm⟩
  · exact (no_dot_of_eq_append hx h).elim
  · exact (no_dot_of_eq_append hx' h.symm).elim
  · exact dot_split hx hx' h

theorem seg_ne_seg2 {y x' y' : List Char} (hy : DotFree y) (hx' : x' ≠ []) (hk : y = [] ↔ y' = []) :
    seg y ≠ seg x' ++ seg y' := by
  intro h
  by_cases h2 : y = []
  · simp [seg, h2, hx'] at h
  · have h2' : y' ≠ [] := fun e => h2 (hk.mpr e)
    simp only [seg, h2, hx', h2', ↓reduceIte, List.cons_append, List.cons.injEq, true_and] at h
    exact no_dot_of_eq_append hy h

/-- two optional dot-free parts in a row can be read off, once it is known that the first (or the second) is present on
    both sides or on neither: a single part alone does not say which of the two it is -/
theorem seg2_inj {x y x' y' : List Char} (hx : DotFree x) (hy : DotFree y) (hx' : DotFree x') (hy' : DotFree y')
    (hk : (x = [] ↔ x' = []) ∨ (y = [] ↔ y' = []) ∨ (x = [] ∧ y = []) ∨ (x' = [] ∧ y' = []))
    (h : seg x ++ seg y = seg x' ++ seg y') : x = x' ∧ y = y' := by
  by_cases h1 : x = [] <;> by_cases h1' : x' = []
  · subst h1 h1'
    exact ⟨rfl, (append_seg_inj (x := []) (x' := []) DotFree.nil DotFree.nil h).2⟩
  · -- only the right side has the first part: excluded by each of the four kinds
    exfalso
    rcases hk with hk | hk | ⟨_, h2⟩ | ⟨h3, _⟩
    · exact h1' (hk.mp h1)
    · exact seg_ne_seg2 hy h1' hk (by simpa [seg, h1] using h)
    · simp [seg, h1, h2, h1'] at h
    · exact h1' h3
  · exfalso
    rcases hk with hk | hk | ⟨h3, _⟩ | ⟨_, h2⟩
    · exact h1 (hk.mpr h1')
    · exact seg_ne_seg2 hy' h1 hk.symm (by simpa [seg, h1'] using h.symm)
    · exact h1 h3
    · simp [seg, h1, h2, h1'] at h
  · simp only [seg, h1, h1', ↓reduceIte, List.cons_append, List.cons.injEq, true_and] at h
    exact append_seg_inj hx hx' h

theorem midA_inj (i i' : Nat) (d d' : List Char) (hd : DotFree d) (hd' : DotFree d') (hk : SameKind i d i' d')
    (h : midA i d = midA i' d') : i = i' ∧ d = d' := by
  rw [midA_eq, midA_eq] at h
  have := seg2_inj hd (idxDigits_dotFree i) hd' (idxDigits_dotFree i')
    (hk.imp id (fun hk' => Or.inr (hk'.imp (fun ⟨h1, h2⟩ => ⟨h2, idxDigits_eq_nil.mpr h1⟩)
      (fun ⟨h1, h2⟩ => ⟨h2, idxDigits_eq_nil.mpr h1⟩)))) h
  exact ⟨idxDigits_inj this.2, this.1⟩

theorem midB_inj (i i' : Nat) (d d' : List Char) (hd : DotFree d) (hd' : DotFree d') (hk : SameKind i d i' d')
    (h : midB i d = midB i' d') : i = i' ∧ d = d' := by
  rw [midB_eq, midB_eq] at h
  have := seg2_inj (idxDigits_dotFree i) hd (idxDigits_dotFree i') hd'
    (Or.inr (hk.imp id (fun hk' => hk'.imp (fun ⟨h1, h2⟩ => ⟨idxDigits_eq_nil.mpr h1, h2⟩)
      (fun ⟨h1, h2⟩ => ⟨idxDigits_eq_nil.mpr h1, h2⟩)))) h
  exact ⟨idxDigits_inj this.1, this.2⟩

end Rot
