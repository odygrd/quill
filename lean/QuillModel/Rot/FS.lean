import QuillModel.Rot.Model
/-!
The abstract file system as a finite map: `get` after `put` / `del` / `rename` / a sequence of renames / a sequence of
deletions, when no rename of a sequence lands on an existing file (`movesSafe`), and the keys of the association list
staying distinct under all of them.
-/
namespace Rot

theorem FS.get_filter (fs : FS) (p : Name → Bool) (n : Name) :
    FS.get (fs.filter (fun q => p q.1)) n = if p n then FS.get fs n else none := by
  induction fs with
  | nil => simp [FS.get]
  | cons x xs ih =>
    by_cases hpm : p x.1 = true <;> by_cases hmn : x.1 = n
    all_goals simp_all [FS.get]

theorem FS.get_del (fs : FS) (a n : Name) : (fs.del a).get n = if n = a then none else fs.get n := by
  unfold FS.del
  rw [FS.get_filter fs (fun m => decide (m ≠ a)) n]
  by_cases h : n = a <;> simp [h]

theorem FS.get_put (fs : FS) (a : Name) (c : List Stmt) (n : Name) :
    (fs.put a c).get n = if n = a then some c else fs.get n := by
  unfold FS.put
  by_cases h : n = a <;> simp [FS.get, FS.get_del, h, eq_comm (a := a)]

theorem FS.get_rename (fs : FS) (a b : Name) (c : List Stmt) (h : fs.get a = some c) (n : Name) :
    (fs.rename a b).get n = if n = b then some c else if n = a then none else fs.get n := by
  unfold FS.rename
  simp only [h, FS.get_put, FS.get_del]

theorem FS.rename_missing (fs : FS) (a b : Name) (h : fs.get a = none) : fs.rename a b = fs := by
  unfold FS.rename; simp only [h]

theorem FS.get_rename_ne (fs : FS) (a b n : Name) (hn : n ≠ b) :
    (fs.rename a b).get n = if n = a then none else fs.get n := by
  cases ha : fs.get a with
  | none =>
    rw [FS.rename_missing fs a b ha]
    split
    · rename_i h; rw [h, ha]
    · rfl
  | some c => rw [FS.get_rename fs a b c ha, if_neg hn]

/-- sequential renames read as a function. A later target may be an earlier (vacated) source. -/
theorem applyMoves_get :
    ∀ (ms : List (Name × Name)) (fs : FS),
      (ms.map (·.1)).Nodup → (ms.map (·.2)).Nodup →
      ms.Pairwise (fun x y => x.2 ≠ y.1) →
      (∀ m ∈ ms, (fs.get m.1).isSome) →
      (∀ m ∈ ms, (applyMoves fs ms).get m.2 = fs.get m.1) ∧
      ∀ n, n ∉ ms.map (·.2) → (applyMoves fs ms).get n = if n ∈ ms.map (·.1) then none else fs.get n
  | [], fs, _, _, _, _ => by simp [applyMoves]
  | (a, b) :: ms, fs, hs, hd, hp, hex => by
    obtain ⟨hsa, hs'⟩ := List.nodup_cons.mp hs
    obtain ⟨hdb, hd'⟩ := List.nodup_cons.mp hd
    obtain ⟨hpb, hp'⟩ := List.pairwise_cons.mp hp
    obtain ⟨c, hc⟩ := Option.isSome_iff_exists.mp (hex (a, b) List.mem_cons_self)
    have hget := FS.get_rename fs a b c hc
    -- a later source is neither `a` nor `b`: the first rename leaves it alone
    have hsrc : ∀ m ∈ ms, (fs.rename a b).get m.1 = fs.get m.1 := by
      intro m hm
      have h1 : m.1 ≠ a := fun e => hsa (List.mem_map.mpr ⟨m, hm, e⟩)
      have h2 : m.1 ≠ b := fun e => hpb m hm e.symm
      simp only [hget, h1, h2, ↓reduceIte]
    obtain ⟨ihA, ihB⟩ := applyMoves_get ms (fs.rename a b) hs' hd' hp'
      (fun m hm => by rw [hsrc m hm]; exact hex m (List.mem_cons_of_mem _ hm))
    have hbs : b ∉ ms.map (·.1) := fun hmem => by
      obtain ⟨m, hm, e⟩ := List.mem_map.mp hmem
      exact hpb m hm e.symm
    simp only [applyMoves, List.map_cons, List.mem_cons, not_or]
    constructor
    · rintro m (rfl | hm)
      · simp only [ihB b hdb, hbs, hget, ↓reduceIte, hc]
      · rw [ihA m hm, hsrc m hm]
    · rintro n ⟨hnb, hnt⟩
      rw [ihB n hnt, hget]
      by_cases hna : n = a
      · subst hna; simp [hsa, hnb]
      · simp only [hna, hnb, ↓reduceIte, false_or]

/-- every rename of the sequence finds its target absent at the moment it is performed -/
def movesSafe : FS → List (Name × Name) → Prop
  | _, [] => True
  | fs, (a, b) :: ms => fs.get b = none ∧ movesSafe (fs.rename a b) ms

/-- a criterion on the state before the loop: every target absent unless it is a source of the loop — which then has
    been vacated -/
theorem movesSafe_of_free : ∀ (ms : List (Name × Name)) (fs : FS),
    (ms.map (·.2)).Nodup → ms.Pairwise (fun x y => x.2 ≠ y.1) → (∀ m ∈ ms, m.2 ≠ m.1) →
    (∀ m ∈ ms, fs.get m.2 = none ∨ m.2 ∈ ms.map (·.1)) → movesSafe fs ms
  | [], _, _, _, _, _ => trivial
  | (a, b) :: ms, fs, hd, hp, hne, hfree => by
    obtain ⟨hdb, hd'⟩ := List.nodup_cons.mp hd
    obtain ⟨hpb, hp'⟩ := List.pairwise_cons.mp hp
    have hb : fs.get b = none := by
      rcases hfree (a, b) List.mem_cons_self with h | h
      · exact h
      · rcases List.mem_cons.mp h with h | h
        · exact absurd h (hne (a, b) List.mem_cons_self)
        · obtain ⟨m, hm, e⟩ := List.mem_map.mp h
          exact absurd e.symm (hpb m hm)
    refine ⟨hb, movesSafe_of_free ms _ hd' hp' (fun m hm => hne m (List.mem_cons_of_mem _ hm)) ?_⟩
    intro m hm
    rw [FS.get_rename_ne fs a b m.2 (fun e => hdb (List.mem_map.mpr ⟨m, hm, e⟩))]
    by_cases hma : m.2 = a
    · exact Or.inl (if_pos hma)
    · rw [if_neg hma]
      rcases hfree m (List.mem_cons_of_mem _ hm) with h | h
      · exact Or.inl h
      · exact Or.inr ((List.mem_cons.mp h).resolve_left hma)

def FS.keys (fs : FS) : List Name := fs.map (·.1)

theorem FS.get_isSome_iff_mem_keys (fs : FS) (n : Name) : (fs.get n).isSome ↔ n ∈ fs.keys := by
  induction fs with
  | nil => simp [FS.get, FS.keys]
  | cons x xs ih =>
    simp only [FS.get, FS.keys, List.map_cons, List.mem_cons]
    by_cases h : x.1 = n
    · simp [h]
    · simp only [h, ↓reduceIte, eq_comm (a := n), false_or]
      exact ih

theorem FS.mem_of_get (fs : FS) (n : Name) (h : (fs.get n).isSome) : ∃ c, (n, c) ∈ fs := by
  obtain ⟨p, hp, rfl⟩ := List.mem_map.mp ((FS.get_isSome_iff_mem_keys fs n).mp h)
  exact ⟨p.2, hp⟩

theorem FS.get_of_mem (fs : FS) (p : Name × List Stmt) (h : p ∈ fs) : (fs.get p.1).isSome :=
  (FS.get_isSome_iff_mem_keys fs p.1).mpr (List.mem_map_of_mem h)

theorem FS.keys_filter_nodup (fs : FS) (p : Name × List Stmt → Bool) (h : fs.keys.Nodup) : (FS.keys (fs.filter p)).Nodup :=
  List.Nodup.sublist (List.Sublist.map _ List.filter_sublist) h

theorem FS.keys_del_nodup (fs : FS) (a : Name) (h : fs.keys.Nodup) : (fs.del a).keys.Nodup :=
  FS.keys_filter_nodup fs _ h

theorem FS.keys_put_nodup (fs : FS) (a : Name) (c : List Stmt) (h : fs.keys.Nodup) : (fs.put a c).keys.Nodup := by
  refine List.nodup_cons.mpr ⟨fun hm => ?_, FS.keys_del_nodup fs a h⟩
  have := (FS.get_isSome_iff_mem_keys (fs.del a) a).mpr hm
  simp [FS.get_del] at this

theorem FS.keys_rename_nodup (fs : FS) (a b : Name) (h : fs.keys.Nodup) : (fs.rename a b).keys.Nodup := by
  unfold FS.rename
  split
  · exact h
  · exact FS.keys_put_nodup _ _ _ (FS.keys_del_nodup fs a h)

theorem applyMoves_keys_nodup : ∀ (ms : List (Name × Name)) (fs : FS), fs.keys.Nodup → (applyMoves fs ms).keys.Nodup
  | [], _, h => h
  | (a, b) :: ms, fs, h => applyMoves_keys_nodup ms _ (FS.keys_rename_nodup fs a b h)

theorem delAll_get : ∀ (l : List FileInfo) (fs : FS) (x : Name),
    (delAll fs l).get x = if x ∈ l.map FileInfo.name then none else fs.get x
  | [], fs, x => by simp [delAll]
  | e :: l, fs, x => by
    have ih := delAll_get l (fs.del e.name) x
    simp only [delAll, List.foldl_cons] at ih ⊢
    rw [ih, FS.get_del]
    by_cases h1 : x = e.name <;> simp [h1]

theorem delAll_keys_nodup : ∀ (l : List FileInfo) (fs : FS), fs.keys.Nodup → (delAll fs l).keys.Nodup
  | [], _, h => h
  | e :: l, fs, h => delAll_keys_nodup l _ (FS.keys_del_nodup fs e.name h)

end Rot
