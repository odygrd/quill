import QuillModel.Rot.Model
/-!
The time trigger of `write_log` (`timeDue`) and `prepare` split on it; what `write` does to `_next_rotation_time`; the
grid invariant of the repaired advance rule (C15); the `do … while` loop in closed form; the first rotation point.
-/
namespace Rot

theorem rotate_frame (P : Params) (z : Nat → Int) (w : World) (ts : Nat) :
    (rotate P z w ts).sink.cfg = w.sink.cfg ∧ (rotate P z w ts).sink.nextRot = w.sink.nextRot := by
  unfold rotate
  dsimp only
  split
  · exact ⟨rfl, rfl⟩
  · split
    · exact ⟨rfl, rfl⟩
    · split <;> exact ⟨rfl, rfl⟩

/-- the trigger test of `_time_rotation` as `write_log` applies it -/
def timeDue (w : World) (ts : Nat) : Prop := w.sink.cfg.freq ≠ .disabled ∧ ts ≥ w.sink.nextRot

instance (w : World) (ts : Nat) : Decidable (timeDue w ts) := by unfold timeDue; infer_instance

/-- the time trigger fires: `_rotate_files` is called, `_next_rotation_time` advanced, the size check skipped -/
theorem prepare_of_timeDue (P : Params) (z : Nat → Int) (w : World) (size ts : Nat) (h : timeDue w ts) :
    prepare P z w size ts = { rotate P z w ts with sink := { (rotate P z w ts).sink with
      nextRot := advance P.advancesFromSchedule (period w.sink.cfg) w.sink.nextRot ts } } := by
  have hge : ts ≥ w.sink.nextRot := h.2
  simp only [prepare, timeRotation, ne_eq, h.1, not_false_eq_true, ↓reduceIte, hge, Bool.not_true, Bool.false_eq_true,
    false_and]

theorem prepare_of_not_timeDue (P : Params) (z : Nat → Int) (w : World) (size ts : Nat) (h : ¬ timeDue w ts) :
    prepare P z w size ts =
      if w.sink.cfg.limit ≠ 0 ∧ w.sink.fileSize + size > w.sink.cfg.limit then rotate P z w ts else w := by
  have hr : (if w.sink.cfg.freq ≠ .disabled then timeRotation P z w ts else (w, false)) = (w, false) := by
    by_cases hf : w.sink.cfg.freq = .disabled
    · simp only [hf, ne_eq, not_true_eq_false, ↓reduceIte]
    · have : ¬ ts ≥ w.sink.nextRot := fun hge => h ⟨hf, hge⟩
      simp only [timeRotation, ne_eq, hf, not_false_eq_true, ↓reduceIte, this]
  unfold prepare
  simp only [hr, Bool.not_false, true_and, sizeRotation]
  by_cases hl : w.sink.cfg.limit = 0
  · simp only [hl, ne_eq, not_true_eq_false, ↓reduceIte, false_and]
  · simp only [ne_eq, hl, not_false_eq_true, ↓reduceIte, true_and]

theorem prepare_frame (P : Params) (z : Nat → Int) (w : World) (size ts : Nat) :
    (prepare P z w size ts).sink.cfg = w.sink.cfg ∧
    (prepare P z w size ts).sink.nextRot =
      if timeDue w ts then advance P.advancesFromSchedule (period w.sink.cfg) w.sink.nextRot ts
      else w.sink.nextRot := by
  by_cases h : timeDue w ts
  · rw [prepare_of_timeDue P z w size ts h, if_pos h]
    exact ⟨(rotate_frame P z w ts).1, rfl⟩
  · rw [prepare_of_not_timeDue P z w size ts h, if_neg h]
    split
    · exact rotate_frame P z w ts
    · exact ⟨rfl, rfl⟩

theorem write_cfg (P : Params) (z : Nat → Int) (w : World) (st : Stmt) (ts : Nat) :
    (write P z w st ts).sink.cfg = w.sink.cfg := by
  simp only [write, appendCur, (prepare_frame P z w st.size ts).1]

theorem write_nextRot (P : Params) (z : Nat → Int) (w : World) (st : Stmt) (ts : Nat) :
    (write P z w st ts).sink.nextRot =
      if timeDue w ts then advance P.advancesFromSchedule (period w.sink.cfg) w.sink.nextRot ts
      else w.sink.nextRot := by
  simp only [write, appendCur, (prepare_frame P z w st.size ts).2]

theorem restart_nextRot (z : Nat → Int) (fs : FS) (c : Cfg) (start : Nat) (hf : c.freq ≠ .disabled) :
    (restart z fs c start).sink.nextRot = initialRot z c start := by
  simp [restart, hf]

/-- `n` is the first point of the grid `g0, g0+p, g0+2p, …` strictly after every instant of `tss` -/
structure GridInv (g0 p : Nat) (tss : List Nat) (n : Nat) : Prop where
  onGrid : ∃ k, n = g0 + k * p
  after : ∀ t ∈ tss, t < n
  first : n = g0 ∨ ∃ t ∈ tss, n ≤ t + p

theorem advance_gt (p next ts : Nat) (hp : 0 < p) (h : next ≤ ts) : ts < advance true p next ts := by
  simp only [advance, ↓reduceIte]
  have := Nat.lt_mul_div_succ (ts - next) hp
  rw [Nat.mul_comm] at this
  omega

theorem advance_le (p next ts : Nat) (h : next ≤ ts) : advance true p next ts ≤ ts + p := by
  simp only [advance, ↓reduceIte]
  have := Nat.div_mul_le_self (ts - next) p
  rw [Nat.add_mul]
  omega

theorem advance_onGrid (g0 p next ts : Nat) (h : ∃ k, next = g0 + k * p) :
    ∃ k, advance true p next ts = g0 + k * p := by
  obtain ⟨k, rfl⟩ := h
  refine ⟨k + ((ts - (g0 + k * p)) / p + 1), ?_⟩
  simp only [advance, ↓reduceIte]
  rw [Nat.add_mul k]
  omega

theorem gridInv_step (g0 p : Nat) (hp : 0 < p) (tss : List Nat) (n ts : Nat) (h : GridInv g0 p tss n) :
    GridInv g0 p (ts :: tss) (if n ≤ ts then advance true p n ts else n) := by
  by_cases hts : n ≤ ts
  · simp only [hts, ↓reduceIte]
    have hgt := advance_gt p n ts hp hts
    refine ⟨advance_onGrid g0 p n ts h.onGrid, ?_, Or.inr ⟨ts, List.mem_cons_self, advance_le p n ts hts⟩⟩
    intro t ht
    rcases List.mem_cons.mp ht with rfl | ht
    · exact hgt
    · have := h.after t ht; omega
  · simp only [hts, ↓reduceIte]
    refine ⟨h.onGrid, ?_, ?_⟩
    · intro t ht
      rcases List.mem_cons.mp ht with rfl | ht
      · omega
      · exact h.after t ht
    · rcases h.first with h1 | ⟨t, ht, hle⟩
      · exact Or.inl h1
      · exact Or.inr ⟨t, List.mem_cons_of_mem _ ht, hle⟩

theorem gridInv_least (g0 p : Nat) (tss : List Nat) (n : Nat) (h : GridInv g0 p tss n)
    (k' : Nat) (hk : ∀ t ∈ tss, t < g0 + k' * p) : n ≤ g0 + k' * p := by
  rcases h.first with h1 | ⟨t, ht, hle⟩
  · omega
  · obtain ⟨k, hk0⟩ := h.onGrid
    have h1 := hk t ht
    have h2 : k * p < (k' + 1) * p := by rw [Nat.add_mul]; omega
    have h3 : k < k' + 1 := Nat.lt_of_mul_lt_mul_right h2
    have h4 : k * p ≤ k' * p := Nat.mul_le_mul_right p (by omega)
    omega

theorem advance_loop (p ts : Nat) (hp : 0 < p) :
    ∀ (fuel next : Nat), next ≤ ts → (ts - next) / p < fuel →
      advanceLoop p ts fuel next = advance true p next ts := by
  intro fuel
  induction fuel with
  | zero => intro next _ h; exact absurd h (Nat.not_lt_zero _)
  | succ f ih =>
    intro next hle hf
    simp only [advanceLoop]
    by_cases h : ts ≥ next + p
    · simp only [h, ↓reduceIte]
      have hd : (ts - next) / p = (ts - (next + p)) / p + 1 := by
        have : ts - next = (ts - (next + p)) + p := by omega
        rw [this, Nat.add_div_right _ hp]
      rw [ih (next + p) h (by omega)]
      simp only [advance, ↓reduceIte, hd]
      rw [Nat.add_mul ((ts - (next + p)) / p + 1) 1 p]
      omega
    · simp only [h, ↓reduceIte]
      have : (ts - next) / p = 0 := Nat.div_eq_of_lt (by omega)
      simp only [advance, ↓reduceIte, this]
      omega

theorem period_pos (c : Cfg) (hc : CfgOK c) (hf : c.freq ≠ .disabled) : 0 < period c := by
  obtain ⟨h1, _⟩ := hc
  unfold period NS
  cases hfr : c.freq with
  | disabled => exact absurd hfr hf
  | daily => simp
  | hourly =>
    have := h1 (Or.inl hfr)
    simp only
    exact Nat.mul_pos (Nat.mul_pos this (by decide)) (by decide)
  | minutely =>
    have := h1 (Or.inr hfr)
    simp only
    exact Nat.mul_pos (Nat.mul_pos this (by decide)) (by decide)

/-- the next multiple of `q` in local time, as UTC seconds -/
theorem next_boundary (q : Int) (hq : 0 < q) (t off : Int) :
    t < ((t + off) / q + 1) * q - off ∧ ((t + off) / q + 1) * q - off ≤ t + q ∧
      (((t + off) / q + 1) * q - off + off) % q = 0 := by
  have h1 := Int.lt_ediv_add_one_mul_self (t + off) hq
  have h2 := Int.ediv_mul_le (t + off) (Int.ne_of_gt hq)
  refine ⟨by omega, ?_, by rw [Int.sub_add_cancel]; exact Int.mul_emod_left _ _⟩
  rw [Int.add_mul, Int.one_mul]
  omega

/-- the first instant after `t` whose local time is `m` modulo `q`, as UTC seconds: the candidate `rt` at offset `m` of the
    local period that contains `t`, or one period later when that is not after `t` -/
theorem next_in_period (q : Int) (hq : 0 < q) (t off m rt : Int) (hm0 : 0 ≤ m) (hmq : m < q)
    (hrt : rt + off = (t + off) / q * q + m) :
    t < (if rt > t then rt else rt + q) ∧ (if rt > t then rt else rt + q) ≤ t + q ∧
      ((if rt > t then rt else rt + q) + off) % q = m := by
  have h1 := Int.lt_ediv_add_one_mul_self (t + off) hq
  have h2 := Int.ediv_mul_le (t + off) (Int.ne_of_gt hq)
  rw [Int.add_mul, Int.one_mul] at h1
  have hmod : ∀ x, x + off = (t + off) / q * q + m ∨ x + off = (t + off) / q * q + m + q → (x + off) % q = m := by
    intro x hx
    rcases hx with hx | hx <;> rw [hx]
    · rw [Int.add_comm, Int.add_mul_emod_self_right]; exact Int.emod_eq_of_lt hm0 hmq
    · rw [Int.add_emod_right, Int.add_comm, Int.add_mul_emod_self_right]; exact Int.emod_eq_of_lt hm0 hmq
  split
  · exact ⟨by assumption, by omega, hmod _ (Or.inl hrt)⟩
  · exact ⟨by omega, by omega, hmod _ (Or.inr (by omega))⟩

/-- the first rotation point in whole seconds (constant offset) -/
theorem initialSecs_spec (off : Int) (c : Cfg) (t : Int) (hc : CfgOK c) :
    (c.freq ≠ .disabled → t < initialSecs off c t) ∧
      (c.freq = .minutely → initialSecs off c t ≤ t + 60 ∧ (initialSecs off c t + off) % 60 = 0) ∧
      (c.freq = .hourly → initialSecs off c t ≤ t + 3600 ∧ (initialSecs off c t + off) % 3600 = 0) ∧
      (c.freq = .daily → initialSecs off c t ≤ t + 86400 ∧
        (initialSecs off c t + off) % 86400 = (c.dailyH : Int) * 3600 + (c.dailyM : Int) * 60) := by
  obtain ⟨_, h2⟩ := hc
  cases hf : c.freq with
  | disabled => simp
  | minutely =>
    obtain ⟨h1, h2, h3⟩ := next_boundary 60 (by decide) t off
    simp only [initialSecs, hf, if_pos h1]
    exact ⟨fun _ => h1, fun _ => ⟨h2, h3⟩, nofun, nofun⟩
  | hourly =>
    obtain ⟨h1, h2, h3⟩ := next_boundary 3600 (by decide) t off
    simp only [initialSecs, hf, if_pos h1]
    exact ⟨fun _ => h1, nofun, fun _ => ⟨h2, h3⟩, nofun⟩
  | daily =>
    have := h2 hf
    have key := next_in_period 86400 (by decide) t off ((c.dailyH : Int) * 3600 + (c.dailyM : Int) * 60)
      ((t + off) / 86400 * 86400 + (c.dailyH : Int) * 3600 + (c.dailyM : Int) * 60 - off) (by omega) (by omega)
      (by rw [Int.sub_add_cancel, Int.add_assoc])
    simp only [initialSecs, hf]
    exact ⟨fun _ => key.1, nofun, nofun, fun _ => key.2⟩

end Rot
