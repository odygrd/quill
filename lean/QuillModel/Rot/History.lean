import QuillModel.Rot.Dated
/-!
Histories (`run` over writes and restarts) for the Index and the dated schemes: the grid of rotation points along a
run of writes (`run_writes_grid`, C15), which operations the invariants cover, what a history wrote and what its writes
removed, the size bound on every tracked file, and what a restart keeps of the dated bookkeeping. The property files
`Props/C14*.lean`, `Props/C15*.lean` state their theorems in these terms.
-/
namespace Rot

theorem run_append (P : Params) (z : Nat → Int) : ∀ (a b : List Op) (w : World),
    run P z w (a ++ b) = run P z (run P z w a) b
  | [], _, _ => rfl
  | x :: a, b, w => by simp only [List.cons_append, run]; exact run_append P z a b _

theorem run_append_restart (P : Params) (z : Nat → Int) (w0 : World) (ops0 ops : List Op) (c : Cfg) (start : Nat) :
    run P z w0 (ops0 ++ .restart c start :: ops) = run P z (restart z (run P z w0 ops0).fs c start) ops := by
  rw [run_append]
  rfl

def writeOps (l : List (Stmt × Nat)) : List Op := l.map (fun p => .write p.1 p.2)

theorem run_writes_cfg (P : Params) (z : Nat → Int) :
    ∀ (l : List (Stmt × Nat)) (w : World), (run P z w (writeOps l)).sink.cfg = w.sink.cfg
  | [], _ => rfl
  | x :: l, w => by
    simp only [writeOps, List.map_cons, run, step]
    exact (run_writes_cfg P z l _).trans (write_cfg P z w x.1 x.2)

theorem run_writes_grid (P : Params) (hP : P.advancesFromSchedule = true) (z : Nat → Int) (g0 : Nat) :
    ∀ (l : List (Stmt × Nat)) (w : World) (tss : List Nat), 0 < period w.sink.cfg → w.sink.cfg.freq ≠ .disabled →
      GridInv g0 (period w.sink.cfg) tss w.sink.nextRot →
      GridInv g0 (period w.sink.cfg) ((l.map (·.2)).reverse ++ tss)
        (run P z w (writeOps l)).sink.nextRot
  | [], _, _, _, _, h => by simpa [writeOps, run] using h
  | x :: l, w, tss, hp, hf, h => by
    have h1 := gridInv_step g0 (period w.sink.cfg) hp tss w.sink.nextRot x.2 h
    have hn : (write P z w x.1 x.2).sink.nextRot =
        if w.sink.nextRot ≤ x.2 then advance true (period w.sink.cfg) w.sink.nextRot x.2 else w.sink.nextRot := by
      rw [write_nextRot, hP]
      by_cases hd : w.sink.nextRot ≤ x.2
      · have : timeDue w x.2 := ⟨hf, hd⟩
        simp only [this, ↓reduceIte, hd]
      · have : ¬ timeDue w x.2 := fun hh => hd hh.2
        simp only [this, ↓reduceIte, hd]
    have hc := write_cfg P z w x.1 x.2
    have ih := run_writes_grid P hP z g0 l (write P z w x.1 x.2) (x.2 :: tss) (by rw [hc]; exact hp)
      (by rw [hc]; exact hf) (by rw [hc, hn]; exact h1)
    rw [hc] at ih
    simpa [writeOps, run, step, List.map_cons, List.reverse_cons, List.append_assoc] using ih

def written : List Op → List Stmt
  | [] => []
  | .write st _ :: ops => st :: written ops
  | .restart _ _ :: ops => written ops

theorem written_writeOps (l : List (Stmt × Nat)) : written (writeOps l) = l.map (·.1) := by
  induction l with
  | nil => rfl
  | cons x l ih => exact congrArg (x.1 :: ·) ih

/-! ### Index scheme -/

/-- the restarts the Index theorems cover -/
def OpOK : Op → Prop
  | .write _ _ => True
  | .restart c _ => RestartOK c

theorem step_inv (P : Params) (z : Nat → Int) (w : World) (op : Op) (h : IndexInv w) (hop : OpOK op) :
    IndexInv (step P z w op) := by
  cases op with
  | write st ts => exact write_inv P z w st ts h
  | restart c start => exact restart_inv z w.fs c start h.dirOK hop

theorem run_inv (P : Params) (z : Nat → Int) : ∀ (ops : List Op) (w : World), IndexInv w → (∀ op ∈ ops, OpOK op) →
    IndexInv (run P z w ops)
  | [], _, h, _ => h
  | op :: ops, w, h, hops =>
    run_inv P z ops _ (step_inv P z w op h (hops op List.mem_cons_self))
      (fun o ho => hops o (List.mem_cons_of_mem _ ho))

/-- restarts that continue the sequence: Index scheme, append mode -/
def OpAppend : Op → Prop
  | .write _ _ => True
  | .restart c _ => c.scheme = .index ∧ c.append = true

theorem OpAppend.ok {op : Op} (h : OpAppend op) : OpOK op := by
  cases op with
  | write => trivial
  | restart c s => exact ⟨h.1, Or.inl h.2⟩

theorem opAppend_writeOps (l : List (Stmt × Nat)) : ∀ op ∈ writeOps l, OpAppend op := by
  intro op h
  obtain ⟨x, _, rfl⟩ := List.mem_map.mp h
  trivial

/-- what one write removes from the front of the retained sequence -/
def droppedAt (P : Params) (z : Nat → Int) (w : World) (st : Stmt) (ts : Nat) : List Stmt :=
  (diskSeq w ++ [st]).take ((diskSeq w).length + 1 - (diskSeq (write P z w st ts)).length)

theorem write_dropped {P : Params} {z : Nat → Int} {w : World} {st : Stmt} {ts : Nat} (h : WriteEq P z w st ts) :
    diskSeq w ++ [st] = droppedAt P z w st ts ++ diskSeq (write P z w st ts) ∧
      ∃ n, droppedAt P z w st ts = (w.sink.created.take n).flatMap (content w.fs) ∧
        (n = 0 ∨ (w.sink.cfg.overwrite = true ∧ w.sink.created.length > w.sink.cfg.maxBackup)) := by
  obtain ⟨n, he, hn⟩ := h
  have hd : droppedAt P z w st ts = (w.sink.created.take n).flatMap (content w.fs) := by
    unfold droppedAt
    have hl := congrArg List.length he
    simp only [List.length_append, List.length_cons, List.length_nil] at hl
    rw [he]
    exact List.take_left' (by omega)
  exact ⟨by rw [hd]; exact he, n, hd, hn⟩

def droppedRun (P : Params) (z : Nat → Int) : World → List Op → List Stmt
  | _, [] => []
  | w, .write st ts :: ops => droppedAt P z w st ts ++ droppedRun P z (write P z w st ts) ops
  | w, .restart c s :: ops => droppedRun P z (restart z w.fs c s) ops

/-- the overwrite flag of every configuration of a history (the current one and those of its restarts) is off -/
def NoOverwrite : Cfg → List Op → Prop
  | c, [] => c.overwrite = false
  | c, .write _ _ :: ops => c.overwrite = false ∧ NoOverwrite c ops
  | c, .restart c' _ :: ops => c.overwrite = false ∧ NoOverwrite c' ops

instance instDecNoOverwrite : (c : Cfg) → (ops : List Op) → Decidable (NoOverwrite c ops)
  | c, [] => by unfold NoOverwrite; infer_instance
  | c, .write _ _ :: ops => have := instDecNoOverwrite c ops; by unfold NoOverwrite; infer_instance
  | c, .restart c' _ :: ops => have := instDecNoOverwrite c' ops; by unfold NoOverwrite; infer_instance

theorem noOverwrite_writeOps {c : Cfg} (h : c.overwrite = false) : ∀ l : List (Stmt × Nat), NoOverwrite c (writeOps l)
  | [] => h
  | _ :: l => ⟨h, noOverwrite_writeOps h l⟩

theorem droppedRun_nil (P : Params) (z : Nat → Int) : ∀ (ops : List Op) (w : World),
    IndexInv w → (∀ op ∈ ops, OpAppend op) → NoOverwrite w.sink.cfg ops → droppedRun P z w ops = []
  | [], _, _, _, _ => rfl
  | .write st ts :: ops, w, h, hops, hno => by
    obtain ⟨_, n, hd, hn⟩ := write_dropped (write_diskSeq P z w st ts h)
    have hn0 : n = 0 := hn.resolve_right (fun h1 => by rw [hno.1] at h1; cases h1.1)
    rw [droppedRun, hd, hn0, List.take_zero, List.flatMap_nil, List.nil_append]
    exact droppedRun_nil P z ops _ (write_inv P z w st ts h) (fun o ho => hops o (List.mem_cons_of_mem _ ho))
      (by rw [write_cfg]; exact hno.2)
  | .restart c start :: ops, w, h, hops, hno =>
    droppedRun_nil P z ops _ (restart_inv z w.fs c start h.dirOK (hops _ List.mem_cons_self).ok)
      (fun o ho => hops o (List.mem_cons_of_mem _ ho)) hno.2

/-! ### the size limit, every tracked file -/

/-- a file respects the bound `L`: it is within it, or everything before its last statement has size 0 (a single
    statement alone exceeds the limit) -/
def Within (L : Nat) (c : List Stmt) : Prop := bytes c ≤ L ∨ ∃ pre st, c = pre ++ [st] ∧ bytes pre = 0

def LimInv (L : Nat) (w : World) : Prop := ∀ e ∈ w.sink.created, Within L (content w.fs e)

theorem appendCur_limInv (L : Nat) (v : World) (st : Stmt) (hv : CurLast v)
    (hold : ∀ e ∈ v.sink.created, e ≠ curInfo → Within L (content v.fs e))
    (hcur : Within L (content v.fs curInfo ++ [st])) : LimInv L (appendCur v st) := by
  intro e he
  by_cases hc : e = curInfo
  · subst hc
    simp only [appendCur, content, FileInfo.name, curInfo, FS.get_put, curName, ↓reduceIte, Option.getD_some]
    exact hcur
  · have hn := hv.name_ne_cur he hc
    simp only [appendCur, content, FS.get_put, hn, ↓reduceIte]
    exact hold e he hc

/-- For every scheme whose rotation takes place by a `RotSpecG` and keeps the current file last. `hns`: with the backup
    limit reached and overwriting off rotation stops, and then, and only then, the current file grows past the limit
    (`C14_limit`). Rotated files keep their content whole (`RotSpecG.moved`), the file rotated away was within the bound
    as the current file, the new current file holds the single new statement. Time-triggered rotations included. -/
theorem write_limInv_of (P : Params) (z : Nat → Int) (L : Nat) (w : World) (st : Stmt) (ts : Nat) (hcur : CurInv w)
    (hsp : rotates w → ∃ f, RotSpecG f w (rotate P z w ts) ts (keptOf P w))
    (hlast : CurLast (prepare P z w st.size ts))
    (hl : LimInv L w) (hlim : w.sink.cfg.limit ≠ 0) (hle : w.sink.cfg.limit ≤ L) (hns : stopped w.sink = false) :
    LimInv L (write P z w st ts) := by
  obtain ⟨cont, hc, hsz⟩ := hcur
  show LimInv L (appendCur (prepare P z w st.size ts) st)
  by_cases hdue : timeDue w ts ∨ sizeDue w st.size ts
  · have hs := prepare_due P z w st.size ts hdue
    apply appendCur_limInv L _ st hlast
    · -- a rotated file is a file that was tracked before, with its content
      intro e he hne
      rw [hs.created] at he
      simp only [content, hs.fs]
      by_cases hr : rotates w
      · obtain ⟨f, sp⟩ := hsp hr
        rw [sp.created] at he
        rcases List.mem_append.mp he with he | he
        · obtain ⟨e0, he0, rfl⟩ := List.mem_map.mp he
          rw [sp.moved e0 he0]
          exact hl e0 ((kept_sublist P w).subset he0)
        · exact absurd (List.mem_singleton.mp he) hne
      · rw [rotate_of_not_rotates P z w ts hr] at he ⊢
        exact hl e he
    · obtain ⟨pre, h1, h2⟩ := prepare_due_cur P z w st.size ts ⟨cont, hc, hsz⟩ hdue hns
      rw [content_cur, h1]
      exact Or.inr ⟨pre, st, rfl, h2⟩
  · have ht : ¬ timeDue w ts := fun x => hdue (Or.inl x)
    have hsd : ¬ sizeDue w st.size ts := fun x => hdue (Or.inr x)
    rw [prepare_idle P z w st.size ts ht hsd] at hlast ⊢
    apply appendCur_limInv L _ st hlast
    · intro e he _; exact hl e he
    · simp only [content_cur, hc, Option.getD_some]
      left
      have hb : bytes [st] = st.size := by simp [bytes]
      rw [bytes_append, hb, ← hsz]
      exact Nat.le_trans (Nat.le_of_not_gt (fun hgt => hsd ⟨ht, hlim, hgt⟩)) hle

theorem write_limInv (P : Params) (z : Nat → Int) (L : Nat) (w : World) (st : Stmt) (ts : Nat) (h : IndexInv w)
    (hl : LimInv L w) (hlim : w.sink.cfg.limit ≠ 0) (hle : w.sink.cfg.limit ≤ L) (hns : stopped w.sink = false) :
    LimInv L (write P z w st ts) :=
  write_limInv_of P z L w st ts h.curInv (h.rotSpecG P z ts) (prepare_inv P z w st.size ts h).curLast hl hlim hle hns

/-- a start keeps the bound: append mode changes no file and recovers the same files; write mode with clean-up leaves
    the empty current file -/
theorem restart_limInv (z : Nat → Int) (L : Nat) (w : World) (c : Cfg) (start : Nat) (h : IndexInv w)
    (hl : LimInv L w) (hc : RestartOK c) : LimInv L (restart z w.fs c start) := by
  intro e he
  by_cases ha : c.append = true
  · obtain ⟨h1, h2⟩ := restart_append_created z w c start h hc.1 ha
    rw [h1] at he
    rw [h2]
    exact hl e he
  · rw [restart_created, if_neg ha] at he
    rw [List.mem_singleton.mp he, content_cur, restart_fs_write z w.fs c start (by simpa using ha), FS.get_put,
      if_pos rfl]
    exact Or.inl (Nat.zero_le _)

/-! ### Date / DateAndTime -/

/-- what the dated theorems need of one operation in state `w` -/
def DatedOpOK (z : Nat → Int) (w : World) : Op → Prop
  | .write _ ts => sfxVal z w.sink.cfg.scheme w.sink.openTs ≤ sfxVal z w.sink.cfg.scheme ts
  | .restart c start => c.scheme = w.sink.cfg.scheme ∧ (c.append = true ∨ c.removeOld = true) ∧
      (c.scheme = .date → sfxVal z c.scheme w.sink.openTs ≤ civilDay z start) ∧
      (c.scheme = .dateTime → sfxVal z c.scheme w.sink.openTs < civilSec z start)

instance (z : Nat → Int) (w : World) (op : Op) : Decidable (DatedOpOK z w op) := by
  cases op <;> (unfold DatedOpOK; infer_instance)

theorem step_dated_inv (P : Params) (z : Nat → Int) (w : World) (op : Op) (h : DatedInv z w) (hop : DatedOpOK z w op) :
    DatedInv z (step P z w op) := by
  cases op with
  | write st ts => exact write_dated_inv P z w st ts h hop
  | restart c start => exact h.restart hop.1 hop.2.1 hop.2.2

theorem filter_today_suffix (today : Int) : ∀ (l : List FileInfo), l.Pairwise (fun a b => dOf a ≤ dOf b) →
    (∀ e ∈ l, dOf e ≤ today) → l.filter (fun e => decide (dOf e = today)) <:+ l
  | [], _, _ => by simp
  | x :: xs, hp, hb => by
    have hp' := List.pairwise_cons.mp hp
    by_cases hx : dOf x = today
    · have hall : ∀ e ∈ x :: xs, decide (dOf e = today) = true := by
        intro e he
        rcases List.mem_cons.mp he with rfl | he'
        · simpa using hx
        · exact decide_eq_true (Int.le_antisymm (hb e (List.mem_cons_of_mem _ he')) (hx ▸ hp'.1 e he'))
      rw [List.filter_eq_self.mpr hall]
      exact List.suffix_refl _
    · simp only [List.filter_cons, hx, decide_false, Bool.false_eq_true, ↓reduceIte]
      exact (filter_today_suffix today xs hp'.2 (fun e he => hb e (List.mem_cons_of_mem _ he))).trans (List.suffix_cons x xs)

/-- An append-mode restart keeps a suffix of the bookkeeping: under the restart premise the new `_created_files` is
    the current file preceded by — DateAndTime: nothing; Date: exactly the tracked files dated today, which are the tail of
    the old deque — and no file changes. -/
theorem restart_dated_diskSeq_suffix (z : Nat → Int) (w : World) (c : Cfg) (start : Nat) (h : DatedInv z w)
    (hop : DatedOpOK z w (.restart c start)) (ha : c.append = true) :
    diskSeq (restart z w.fs c start) <:+ diskSeq w := by
  obtain ⟨hsch, _, hd1, _⟩ := hop
  obtain ⟨rest, hr⟩ := h.last
  have hfs := restart_fs_append z w.fs c start ha (h.tracked curInfo h.cur_mem)
  have hsorted := h.sorted
  rw [hr, List.pairwise_append] at hsorted
  -- no file changes and both deques end with the current file: it is enough to compare the rotated entries
  suffices hsuf : ∃ l, (restart z w.fs c start).sink.created = l ++ [curInfo] ∧ l <:+ rest by
    obtain ⟨l, hl, pre, hpre⟩ := hsuf
    refine ⟨pre.flatMap (content w.fs), ?_⟩
    unfold diskSeq
    rw [hl, hfs, hr, ← hpre]; simp
  cases hs : c.scheme with
  | index => exact absurd (hsch ▸ hs) h.scheme
  | dateTime => exact ⟨[], by rw [restart_created, hs]; split <;> rfl, List.nil_suffix⟩
  | date =>
    refine ⟨_, restart_created_date z w.fs c start hs ha, ?_⟩
    have hle : sfxVal z w.sink.cfg.scheme w.sink.openTs ≤ civilDay z start := by
      have := hd1 hs
      rw [hs] at this
      rw [← hsch, hs]
      exact this
    have hsome : ∀ e ∈ rest, ∃ d, e.sfx = some d := by
      intro e he
      exact Option.isSome_iff_exists.mp (hsorted.2.2 e he curInfo (by simp)).1
    have hold : rest.Pairwise older := by
      refine List.Pairwise.imp_of_mem ?_ hsorted.1
      intro a b _ hb hab
      obtain ⟨d, hd⟩ := hsome b hb
      exact hab.2.resolve_left (by rw [hd]; simp)
    have hbound : ∀ e ∈ rest, dOf e ≤ civilDay z start := by
      intro e he
      obtain ⟨d, hd⟩ := hsome e he
      have := h.bound e (by rw [hr]; exact List.mem_append_left _ he) d hd
      rw [dOf_some hd]; exact Int.le_trans this hle
    -- the recovered list is the tracked entries dated today, and those are a tail of the deque
    have heq : sortDesc (w.fs.filterMap (scanDate (civilDay z start))) =
        rest.filter (fun e => decide (dOf e = civilDay z start)) := by
      refine (scans_date _).recovered_eq (fun _ h => h) w.fs h.keys ?_ (fun e => Iff.symm ?_)
      · refine List.Pairwise.imp_of_mem ?_ (hold.sublist List.filter_sublist)
        intro a b ha' hb' hab
        have h1 : dOf a = civilDay z start := by simpa using (List.mem_filter.mp ha').2
        have h2 : dOf b = civilDay z start := by simpa using (List.mem_filter.mp hb').2
        rcases hab with h0 | ⟨_, h0⟩
        · rw [h1, h2] at h0; exact absurd h0 (Int.lt_irrefl _)
        · exact h0
      · rw [List.mem_filter]
        constructor
        · rintro ⟨h1, h2⟩
          have h2' : (w.fs.get (.file (some (civilDay z start)) e.idx)).isSome := by
            simpa [FileInfo.name, h1] using h2
          rcases h.ghosts _ _ h2' with hm | hm
          · have he : e = ⟨some (civilDay z start), e.idx⟩ := by
              obtain ⟨s, i⟩ := e
              simp only at h1
              rw [h1]
            rw [← he, hr] at hm
            rcases List.mem_append.mp hm with hm | hm
            · exact ⟨hm, decide_eq_true (dOf_some h1)⟩
            · rw [List.mem_singleton.mp hm] at h1; cases h1
          · exact absurd (Int.lt_of_lt_of_le hm hle) (Int.lt_irrefl _)
        · rintro ⟨he, hd⟩
          obtain ⟨d, hd'⟩ := hsome e he
          have : d = civilDay z start := (dOf_some hd').symm.trans (of_decide_eq_true hd)
          subst this
          exact ⟨hd', h.tracked e (by rw [hr]; exact List.mem_append_left _ he)⟩
    rw [heq]
    refine filter_today_suffix (civilDay z start) rest (hold.imp ?_) hbound
    exact fun hab => hab.elim Int.le_of_lt (fun h0 => Int.le_of_eq h0.1)

/-- the premise on a whole history, evaluated along the run -/
def DatedHistOK (P : Params) (z : Nat → Int) : World → List Op → Prop
  | _, [] => True
  | w, op :: ops => DatedOpOK z w op ∧ DatedHistOK P z (step P z w op) ops

instance instDecDatedHistOK (P : Params) (z : Nat → Int) : (w : World) → (ops : List Op) → Decidable (DatedHistOK P z w ops)
  | _, [] => isTrue trivial
  | w, op :: ops =>
    have := instDecDatedHistOK P z (step P z w op) ops
    by unfold DatedHistOK; infer_instance

def AppendOnly : List Op → Prop
  | [] => True
  | .write _ _ :: ops => AppendOnly ops
  | .restart c _ :: ops => c.append = true ∧ AppendOnly ops

/-- the dated schemes along a history: the invariant, and — restarts in append mode — the retained tracked sequence is
    the written one minus a prefix (a write removes whole oldest files, `WriteEq`; a restart lets whole files leave the
    bookkeeping, `restart_dated_diskSeq_suffix`) -/
theorem run_dated_hist (P : Params) (z : Nat → Int) : ∀ (ops : List Op) (w : World), DatedInv z w →
    DatedHistOK P z w ops →
    DatedInv z (run P z w ops) ∧ (AppendOnly ops → diskSeq (run P z w ops) <:+ diskSeq w ++ written ops)
  | [], _, h, _ => ⟨h, fun _ => by simp [run, written]⟩
  | op :: ops, w, h, hok => by
    obtain ⟨ih1, ih2⟩ := run_dated_hist P z ops _ (step_dated_inv P z w op h hok.1) hok.2
    refine ⟨ih1, fun ha => ?_⟩
    cases op with
    | write st ts => exact (ih2 ha).trans ((write_dated_diskSeq P z w st ts h hok.1).suffix _)
    | restart c start =>
      obtain ⟨pre, hpre⟩ := restart_dated_diskSeq_suffix z w c start h hok.1 ha.1
      refine (ih2 ha.2).trans ⟨pre, ?_⟩
      show pre ++ (diskSeq (restart z w.fs c start) ++ written ops) = diskSeq w ++ written ops
      rw [← List.append_assoc, hpre]

/-- the civil suffixes of the records of a run never decrease and are not below the open file's -/
def MonoSfx (z : Nat → Int) (sch : Scheme) (v : Int) (l : List (Stmt × Nat)) : Prop :=
  (∀ x ∈ l, v ≤ sfxVal z sch x.2) ∧ l.Pairwise (fun a b => sfxVal z sch a.2 ≤ sfxVal z sch b.2)

theorem sfxVal_mono (off : Int) (sch : Scheme) (a b : Nat) (h : a ≤ b) :
    sfxVal (fun _ => off) sch a ≤ sfxVal (fun _ => off) sch b := by
  have hs : civilSec (fun _ => off) a ≤ civilSec (fun _ => off) b :=
    Int.add_le_add_right (Int.ofNat_le.mpr (Nat.div_le_div_right h)) off
  cases sch
  · exact hs
  · exact Int.ediv_le_ediv (by decide) hs
  · exact hs

theorem datedHistOK_of_monoSfx (P : Params) (z : Nat → Int) : ∀ (l : List (Stmt × Nat)) (w : World),
    MonoSfx z w.sink.cfg.scheme (sfxVal z w.sink.cfg.scheme w.sink.openTs) l → DatedHistOK P z w (writeOps l)
  | [], _, _ => trivial
  | x :: l, w, hm => by
    have hp := List.pairwise_cons.mp hm.2
    refine ⟨hm.1 x List.mem_cons_self, datedHistOK_of_monoSfx P z l (write P z w x.1 x.2) ?_⟩
    rw [write_cfg]
    refine ⟨fun y hy => ?_, hp.2⟩
    -- the open file is the old one, or was opened by this record
    rcases write_openTs P z w x.1 x.2 with ho | ho
    · rw [ho]; exact hm.1 y (List.mem_cons_of_mem _ hy)
    · rw [ho]; exact hp.1 y hy

theorem appendOnly_writeOps : ∀ l : List (Stmt × Nat), AppendOnly (writeOps l)
  | [] => trivial
  | _ :: l => appendOnly_writeOps l

end Rot
