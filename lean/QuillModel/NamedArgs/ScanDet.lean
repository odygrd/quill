import QuillModel.NamedArgs.Grammar
/-!
The detection loops of `_contains_named_args` read as functions of the text that is left (`detInnerL`, `detOuterL`),
and the one theorem that ties the index-and-fuel transcription to them (`detOuter_eq`): with fuel for the text that is
left, `detOuter t fuel pos found` is `detOuterL (t.drop pos) found`. Fuel adequacy for every string and the walk over a
rendered template both follow from it; the walk is then a recursion over the pieces with no position and no fuel in it.
-/
namespace Named

/-- the inner loop on the text from `pos` on: (how far its exit position is from `pos`, `char_cnt`) -/
def detInnerL : Str → Nat → Nat × Nat
  | [], cnt => (0, cnt)
  | c :: r, cnt =>
    if c = '}' then
      match r with
      | [] => (1, cnt)
      | d :: r' => if d = '}' then ((detInnerL r' (cnt + 1)).1 + 2, (detInnerL r' (cnt + 1)).2) else (1, cnt)
    else ((detInnerL r (cnt + 1)).1 + 1, (detInnerL r (cnt + 1)).2)

/-- the outer loop on the text from `pos` on; the `+ 1` dropped after the inner loop is the trailing `++pos` -/
def detOuterL : Str → Bool → Bool
  | [], found => found
  | c :: r, found =>
    if c = '{' then
      match r with
      | [] => found
      | fc :: r' =>
        if fc = '{' then detOuterL r' found
        else detOuterL (r'.drop (detInnerL (fc :: r') 0).1) (found || ((detInnerL (fc :: r') 0).2 != 0 && isAlpha fc))
    else detOuterL r found
termination_by s => s.length
decreasing_by all_goals (simp only [List.length_cons, List.length_drop]; omega)

theorem drop_of_get {t : Str} {pos : Nat} {c : Char} (h : t[pos]? = some c) : t.drop pos = c :: t.drop (pos + 1) := by
  obtain ⟨hlt, rfl⟩ := List.getElem?_eq_some_iff.mp h
  exact List.drop_eq_getElem_cons hlt

theorem drop_of_get_none {t : Str} {pos : Nat} (h : t[pos]? = none) : t.drop pos = [] :=
  List.drop_eq_nil_of_le (List.getElem?_eq_none_iff.mp h)

theorem detInner_eq (t : Str) : ∀ (fuel pos cnt : Nat), t.length < fuel + pos →
    detInner t fuel pos cnt = (pos + (detInnerL (t.drop pos) cnt).1, (detInnerL (t.drop pos) cnt).2)
  | 0, pos, cnt, h => by rw [List.drop_eq_nil_of_le (by omega)]; rfl
  | f + 1, pos, cnt, h => by
    unfold detInner
    cases h0 : t[pos]? with
    | none => rw [drop_of_get_none h0]; rfl
    | some c =>
      rw [drop_of_get h0, detInnerL.eq_def]
      dsimp only
      by_cases hc : c = '}'
      · rw [if_pos hc, if_pos hc]
        cases h1 : t[pos + 1]? with
        | none => rw [drop_of_get_none h1]
        | some d =>
          rw [drop_of_get h1]
          dsimp only
          by_cases hd : d = '}'
          · rw [if_pos hd, if_pos hd, show pos + 2 = pos + 1 + 1 from rfl, detInner_eq t f (pos + 1 + 1) _ (by omega)]
            exact Prod.ext (by dsimp only; omega) rfl
          · rw [if_neg hd, if_neg hd]
      · rw [if_neg hc, if_neg hc, detInner_eq t f (pos + 1) _ (by omega)]
        exact Prod.ext (by dsimp only; omega) rfl

theorem detOuter_eq (t : Str) : ∀ (fuel pos : Nat) (found : Bool), t.length < fuel + pos →
    detOuter t fuel pos found = detOuterL (t.drop pos) found
  | 0, pos, found, h => by rw [List.drop_eq_nil_of_le (by omega), detOuterL.eq_def]; rfl
  | f + 1, pos, found, h => by
    unfold detOuter
    cases h0 : t[pos]? with
    | none => rw [drop_of_get_none h0, detOuterL]
    | some c =>
      rw [drop_of_get h0, detOuterL.eq_def]
      dsimp only
      by_cases hc : c = '{'
      · rw [if_pos hc, if_pos hc]
        cases h1 : t[pos + 1]? with
        | none => rw [drop_of_get_none h1]
        | some fc =>
          rw [drop_of_get h1]
          dsimp only
          by_cases hf : fc = '{'
          · rw [if_pos hf, if_pos hf]
            exact detOuter_eq t f _ found (by omega)
          · rw [if_neg hf, if_neg hf, detInner_eq t _ _ _ (by omega), drop_of_get h1, detOuter_eq t f _ _ (by omega)]
            dsimp only
            rw [List.drop_drop]
            congr 2
            omega
      · rw [if_neg hc, if_neg hc]
        exact detOuter_eq t f _ found (by omega)

theorem containsNamedArgs_eq (t : Str) : containsNamedArgs t = detOuterL t false :=
  detOuter_eq t _ 0 false (by omega)

theorem containsNamedArgs_fuel (t : Str) (extra : Nat) :
    detOuter t (t.length + 1 + extra) 0 false = containsNamedArgs t :=
  (detOuter_eq t _ 0 false (by omega)).trans (containsNamedArgs_eq t).symm

theorem detInner_fuel_ge (t : Str) (pos cnt : Nat) : ∀ (extra : Nat),
    detInner t (t.length + 1 + extra) pos cnt = detInner t (t.length + 1) pos cnt := by
  intro extra
  rw [detInner_eq t _ pos cnt (by omega), detInner_eq t _ pos cnt (by omega)]

theorem isNamed_field (n : Str) (s : Option Str) : (Piece.field n s).isNamed = (n != []) := rfl

theorem detOuterL_of_true (s : Str) (found : Bool) (h : found = true) : detOuterL s found = true := by
  fun_induction detOuterL s found with
  | case1 | case2 => exact h
  | case3 _ _ ih | case5 _ _ _ _ ih => exact ih h
  | case4 _ _ _ _ ih => exact ih (by rw [h, Bool.true_or])

theorem detOuterL_plain (c : Char) (r : Str) (found : Bool) (h : c ≠ '{') :
    detOuterL (c :: r) found = detOuterL r found := by
  rw [detOuterL.eq_def]
  exact if_neg h

theorem detOuterL_skip (found : Bool) : ∀ (mid b : Str), '{' ∉ mid → detOuterL (mid ++ b) found = detOuterL b found
  | [], _, _ => rfl
  | x :: xs, b, h => by
    rw [List.cons_append, detOuterL_plain x _ found (fun e => h (by simp [e])),
      detOuterL_skip found xs b (fun e => h (by simp [e]))]

theorem detOuterL_esc (r : Str) (found : Bool) : detOuterL ('{' :: '{' :: r) found = detOuterL r found := by
  rw [detOuterL.eq_def]
  dsimp only
  rw [if_pos rfl, if_pos rfl]

theorem detOuterL_field (fc : Char) (r : Str) (found : Bool) (h : fc ≠ '{') :
    detOuterL ('{' :: fc :: r) found =
      detOuterL (r.drop (detInnerL (fc :: r) 0).1) (found || ((detInnerL (fc :: r) 0).2 != 0 && isAlpha fc)) := by
  rw [detOuterL.eq_def]
  dsimp only
  rw [if_pos rfl, if_neg h]

theorem le_detInnerL_snd : ∀ (s : Str) (cnt : Nat), cnt ≤ (detInnerL s cnt).2 := by
  intro s cnt
  fun_induction detInnerL s cnt <;> omega

theorem detInnerL_plain (c : Char) (r : Str) (cnt : Nat) (h : c ≠ '}') :
    detInnerL (c :: r) cnt = ((detInnerL r (cnt + 1)).1 + 1, (detInnerL r (cnt + 1)).2) := by
  rw [detInnerL.eq_def]
  exact if_neg h

theorem detInnerL_stretch : ∀ (mid suf : Str) (cnt : Nat), '}' ∉ mid → suf.head? ≠ some '}' →
    detInnerL (mid ++ '}' :: suf) cnt = (mid.length + 1, cnt + mid.length)
  | [], suf, cnt, _, h => by
    rw [List.nil_append, detInnerL.eq_def]
    dsimp only
    rw [if_pos rfl]
    cases suf with
    | nil => rfl
    | cons d r => dsimp only; rw [if_neg (fun e => h (by rw [e]; rfl))]; rfl
  | x :: xs, suf, cnt, hm, h => by
    rw [List.cons_append, detInnerL_plain x _ cnt (fun e => hm (by simp [e])),
      detInnerL_stretch xs suf (cnt + 1) (fun e => hm (by simp [e])) h, List.length_cons]
    exact Prod.ext rfl (by dsimp only; omega)

theorem syntaxOf_head (s : Option Str) (suf : Str) :
    ∃ fc r, syntaxOf s ++ '}' :: suf = fc :: r ∧ fc ≠ '{' ∧ isAlpha fc = false := by
  cases s with
  | none => exact ⟨'}', suf, rfl, by decide, by decide⟩
  | some sp => exact ⟨':', sp ++ '}' :: suf, rfl, by decide, by decide⟩

theorem head?_render_of_detOK {r : List Piece} (hw : wf r = true) (hok : detOK true r = true) :
    (render r).head? ≠ some '}' := by
  refine head?_render_ne_close hw ?_
  cases r with
  | nil => rfl
  | cons q r' =>
    cases q with
    | escClose => cases hok
    | _ => rfl

/-- The outer loop on a template of the class, from a piece boundary (`b = false`) or, after a positional placeholder
    whose trailing `++pos` skips a character, from one past it (`b = true`). -/
theorem detOuterL_render : ∀ (rest : List Piece) (b : Bool) (found : Bool), wf rest = true → detOK b rest = true →
    detOuterL ((render rest).drop b.toNat) found = (found || rest.any Piece.isNamed)
  | [], b, found, _, _ => by rw [render, List.drop_nil, detOuterL, List.any_nil, Bool.or_false]
  | p :: r, false, found, hw, hok => by
    simp only [wf, List.all_cons, Bool.and_eq_true] at hw
    rw [render, Bool.toNat_false, List.drop_zero, List.any_cons]
    cases p with
    | text c =>
      have hc : c ≠ '{' := by
        have := hw.1; simp only [Piece.wf, Bool.and_eq_true, bne_iff_ne, ne_eq] at this; exact this.1
      exact (detOuterL_plain c _ found hc).trans (detOuterL_render r false found hw.2 hok)
    | escClose =>
      exact ((detOuterL_plain _ _ found (by decide)).trans (detOuterL_plain _ _ found (by decide))).trans
        (detOuterL_render r false found hw.2 hok)
    | escOpen => exact (detOuterL_esc _ found).trans (detOuterL_render r false found hw.2 hok)
    | field nm s =>
      rw [render_field, List.cons_append, List.append_assoc, List.singleton_append]
      cases nm with
      | cons a as =>
        -- a named placeholder reached in step: the flag is set whatever follows
        have hal : isAlpha a = true := by
          have := hw.1
          cases s <;> simp only [Piece.wf, nameOK, Bool.and_eq_true] at this
          · exact this.1
          · exact this.1.1
        have hcnt : ∀ x, (detInnerL (a :: x) 0).2 ≠ 0 := by
          intro x
          rw [detInnerL_plain a _ 0 (isAlpha_ne (by decide) hal)]
          exact Nat.ne_of_gt (le_detInnerL_snd _ 1)
        rw [content, List.cons_append, List.cons_append, detOuterL_field a _ found (isAlpha_ne (by decide) hal),
          detOuterL_of_true _ _ (by simp [hal, hcnt])]
        simp [Piece.isNamed]
      | nil =>
        -- a positional placeholder: the character after its `}` is skipped
        have hok1 : detOK true r = true := hok
        obtain ⟨fc, r0, he, hfc, hal⟩ := syntaxOf_head s (render r)
        have hin := detInnerL_stretch (syntaxOf s) (render r) 0 (content_no_brace hw.1).2
          (head?_render_of_detOK hw.2 hok1)
        have hd : (fc :: r0).drop ((syntaxOf s).length + 1 + 1) = (render r).drop 1 := by
          rw [← he, ← List.drop_drop, show syntaxOf s ++ '}' :: render r = (syntaxOf s ++ ['}']) ++ render r by simp,
            List.drop_left' (by simp)]
        rw [he] at hin
        rw [content, List.nil_append, he, detOuterL_field fc r0 found hfc, hin, ← List.drop_succ_cons (a := fc), hd, hal,
          Bool.and_false, Bool.or_false]
        exact (detOuterL_render r true found hw.2 hok1).trans (by simp [Piece.isNamed])
  | p :: r, true, found, hw, hok => by
    -- the scanner stands one character past the boundary
    simp only [wf, List.all_cons, Bool.and_eq_true] at hw
    rw [render, Bool.toNat_true, List.any_cons]
    cases p with
    | text c => exact detOuterL_render r false found hw.2 hok
    | field n2 s2 =>
      -- another positional placeholder: its `{` is the skipped character, the rest is plain text
      obtain ⟨rfl, hok'⟩ : n2 = [] ∧ detOK false r = true := by simpa [detOK] using hok
      have hplain : '{' ∉ syntaxOf s2 ++ ['}'] := by
        simp only [List.mem_append, List.mem_cons, List.mem_nil_iff, or_false, not_or]
        exact ⟨(content_no_brace hw.1).1, by decide⟩
      rw [render_field, List.cons_append, List.drop_one, List.tail_cons, content, List.nil_append,
        detOuterL_skip found _ _ hplain]
      exact (detOuterL_render r false found hw.2 hok').trans (by simp [Piece.isNamed])
    | escOpen => cases hok
    | escClose => cases hok

theorem contains_render (ps : List Piece) (hw : wf ps = true) (hok : detectOK ps = true) :
    containsNamedArgs (render ps) = ps.any Piece.isNamed := by
  rw [containsNamedArgs_eq]
  exact (detOuterL_render ps false false hw hok).trans (Bool.false_or _)

end Named
