import QuillModel.NamedArgs.Model
import QuillModel.Util.ListLemmas
/-! The string primitives of the model (`idxOf`, `findFrom`, `adjacentNext`, `substr`, `subIdx`, `findSub`, `joinVals`):
what they return on a string written as a concatenation, and the bounds on a position they return. -/
namespace Named

theorem idxOf_eq (c : Char) : ∀ (l : Str), idxOf c l = l.idxOf? c
  | [] => rfl
  | x :: xs => by simp only [idxOf, List.idxOf?_cons, idxOf_eq c xs, beq_iff_eq]

theorem idxOf_cons_self (c : Char) (l : Str) : idxOf c (c :: l) = some 0 := if_pos rfl

theorem idxOf_cons_ne {c x : Char} (l : Str) (h : x ≠ c) : idxOf c (x :: l) = (idxOf c l).map (· + 1) := if_neg h

theorem idxOf_eq_none {c : Char} {l : Str} : idxOf c l = none ↔ c ∉ l := by
  rw [idxOf_eq, List.idxOf?_eq_none_iff]

theorem idxOf_append_skip {c : Char} (a b : Str) (h : c ∉ a) : idxOf c (a ++ b) = (idxOf c b).map (· + a.length) := by
  rw [idxOf_eq, idxOf_eq, List.idxOf?_append_of_not_mem a b h]

theorem idxOf_append_hit {c : Char} (a b : Str) (h : c ∉ a) : idxOf c (a ++ c :: b) = some a.length := by
  rw [idxOf_eq, List.idxOf?_append_cons_self a b h]

theorem idxOf_lt {c : Char} {l : Str} {k : Nat} (h : idxOf c l = some k) : k < l.length :=
  (List.idxOf?_eq_some_iff.mp (idxOf_eq c l ▸ h)).1

theorem idxOf_eq_zero {c : Char} {l : Str} : idxOf c l = some 0 ↔ l.head? = some c := by
  cases l with
  | nil => simp [idxOf]
  | cons x xs =>
    by_cases h : x = c
    · simp [idxOf, h]
    · simp only [idxOf, h, if_false, List.head?_cons, Option.some.injEq]
      cases idxOf c xs <;> simp

theorem idxOf_split {c : Char} {l : Str} {k : Nat} (h : idxOf c l = some k) :
    l = l.take k ++ c :: l.drop (k + 1) ∧ c ∉ l.take k :=
  List.idxOf?_split (idxOf_eq c l ▸ h)

theorem findFrom_append (c : Char) (pre suf : Str) :
    findFrom c (pre ++ suf) pre.length = (idxOf c suf).map (· + pre.length) := by
  simp [findFrom]

theorem findFrom_skip {c : Char} {t : Str} (pre a suf : Str) (ht : t = pre ++ (a ++ suf)) (h : c ∉ a) :
    findFrom c t pre.length = findFrom c t (pre ++ a).length := by
  subst ht
  rw [findFrom_append, idxOf_append_skip a suf h, ← List.append_assoc, findFrom_append]
  simp only [Option.map_map, List.length_append]
  congr 1; funext n; simp; omega

theorem findFrom_hit {c : Char} {t : Str} (pre a suf : Str) (ht : t = pre ++ (a ++ c :: suf)) (h : c ∉ a) :
    findFrom c t pre.length = some (pre.length + a.length) := by
  rw [ht, findFrom_append, idxOf_append_hit a suf h]
  exact congrArg some (Nat.add_comm _ _)

theorem findFrom_here {c : Char} {t : Str} (pre suf : Str) (ht : t = pre ++ c :: suf) :
    findFrom c t pre.length = some pre.length :=
  findFrom_hit pre [] suf ht (List.not_mem_nil)

theorem findFrom_succ (c : Char) {t : Str} (pre : Str) (x : Char) (suf : Str) (ht : t = pre ++ x :: suf) :
    findFrom c t (pre.length + 1) = (idxOf c suf).map (· + (pre.length + 1)) := by
  subst ht
  simpa using findFrom_append c (pre ++ [x]) suf

theorem findFrom_some {c : Char} {t : Str} {p q : Nat} (h : findFrom c t p = some q) : p ≤ q ∧ q < t.length := by
  simp only [findFrom] at h
  cases hi : idxOf c (t.drop p) with
  | none => simp [hi] at h
  | some k =>
    simp [hi] at h
    have := idxOf_lt hi
    simp at this
    omega

theorem adjacentNext_some {c : Char} {t : Str} {p q : Nat} (h : adjacentNext c t p = some q) : q = p + 1 ∧ q < t.length := by
  unfold adjacentNext at h
  cases hf : findFrom c t (p + 1) with
  | none => simp [hf] at h
  | some r =>
    simp only [hf] at h
    have := findFrom_some hf
    split at h
    · cases h; omega
    · cases h

theorem adjacentNext_miss {c : Char} {t : Str} (pre : Str) (x : Char) (suf : Str) (ht : t = pre ++ x :: suf)
    (h : suf.head? ≠ some c) : adjacentNext c t pre.length = none := by
  unfold adjacentNext
  rw [findFrom_succ c pre x suf ht]
  cases hi : idxOf c suf with
  | none => rfl
  | some k =>
    have hk : k ≠ 0 := fun e => h (idxOf_eq_zero.1 (e ▸ hi))
    simp only [Option.map_some]
    rw [if_neg (by omega)]

theorem adjacentNext_hit (c : Char) {t : Str} (pre : Str) (x : Char) (suf : Str) (ht : t = pre ++ x :: c :: suf) :
    adjacentNext c t pre.length = some (pre.length + 1) := by
  unfold adjacentNext
  rw [findFrom_succ c pre x (c :: suf) ht, idxOf_cons_self]
  simp

theorem subSz_le {a b : Nat} (h : b ≤ a) : subSz a b = a - b := by simp [subSz, h]

theorem substr_append_left (pre suf : Str) (p : Nat) (hp : p ≤ pre.length) :
    substr (pre ++ suf) p (pre.length - p) = pre.drop p := by
  simp only [substr]
  rw [List.drop_append_of_le_length hp, List.take_append_of_le_length (by simp)]
  rw [List.take_of_length_le (by simp)]

theorem substr_mid (pre mid suf : Str) : substr (pre ++ (mid ++ suf)) pre.length mid.length = mid := by
  simp [substr]

theorem subIdx_of_prefix {pat s : Str} (h : pat.isPrefixOf s = true) : subIdx pat s = some 0 := by
  cases s with
  | nil =>
    cases pat with
    | nil => simp [subIdx]
    | cons _ _ => simp [List.isPrefixOf] at h
  | cons c cs => simp [subIdx, h]

theorem subIdx_cons_none {pat : Str} {c : Char} {cs : Str} (h : subIdx pat (c :: cs) = none) :
    pat.isPrefixOf (c :: cs) = false ∧ subIdx pat cs = none := by
  simp only [subIdx] at h
  split at h
  · simp at h
  · rename_i hp
    refine ⟨Bool.eq_false_iff.2 hp, ?_⟩
    cases hi : subIdx pat cs with
    | none => rfl
    | some k => simp [hi] at h

theorem subIdx_some {pat : Str} : ∀ {s : Str} {k : Nat}, subIdx pat s = some k → k + pat.length ≤ s.length
  | [], k, h => by
    simp only [subIdx] at h
    split at h
    · rename_i hp; cases h; simp [hp]
    · cases h
  | c :: cs, k, h => by
    simp only [subIdx] at h
    split at h
    · rename_i hp
      cases h
      have := (List.isPrefixOf_iff_prefix.1 hp).length_le
      simpa using this
    · cases hi : subIdx pat cs with
      | none => simp [hi] at h
      | some j =>
        simp [hi] at h; subst h
        have := subIdx_some hi
        simp; omega

theorem findSub_at (pat pre suf : Str) : findSub pat (pre ++ suf) pre.length = (subIdx pat suf).map (· + pre.length) := by
  simp [findSub]

theorem findSub_some {pat s : Str} {start e : Nat} (h : findSub pat s start = some e) :
    start ≤ e ∧ e + pat.length ≤ s.length := by
  simp only [findSub] at h
  split at h
  · cases hi : subIdx pat (s.drop start) with
    | none => simp [hi] at h
    | some k =>
      simp [hi] at h
      have := subIdx_some hi
      simp at this
      omega
  · cases h

theorem joinVals_cons2 (sep v w : Str) (rest : List Str) :
    joinVals sep (v :: w :: rest) = v ++ (sep ++ joinVals sep (w :: rest)) := by
  simp [joinVals]

theorem joinVals_cons (sep : Str) : ∀ (z : Str) (l : List Str),
    joinVals sep (z :: l) = z ++ l.flatMap (fun y => sep ++ y)
  | z, [] => by simp [joinVals]
  | z, a :: as => by rw [joinVals_cons2, joinVals_cons sep a as]; simp

theorem joinVals_append_flat (sep : Str) (xs ys : List Str) (hx : xs ≠ []) :
    joinVals sep (xs ++ ys) = joinVals sep xs ++ ys.flatMap (fun y => sep ++ y) := by
  cases xs with
  | nil => exact absurd rfl hx
  | cons x xs => rw [List.cons_append, joinVals_cons, joinVals_cons, List.flatMap_append, List.append_assoc]

theorem length_le_joinVals {sep : Str} (hne : sep ≠ []) : ∀ (l : List Str),
    l.length ≤ (joinVals sep l).length + 1
  | [] => Nat.zero_le _
  | z :: l => by
    have := length_le_length_flatMap (f := fun y => sep ++ y) (fun y => by simp [hne]) l
    rw [joinVals_cons, List.length_append, List.length_cons]
    omega

end Named
