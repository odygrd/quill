import QuillModel.NamedArgs.Split
/-! The generated `{spec}<SEP>{spec}…` string and the `named_args` vector read back from its formatted form. -/
namespace Named

theorem genFormat_eq (sep : Str) (keys : List (Str × Str)) (n : Nat) : ∀ k, k ≤ n →
    genFormat sep keys n k = joinVals sep ((List.range' (n - k) k).map (oneField keys))
  | 0, _ => rfl
  | 1, _ => by
    have : ¬ (n - (0 + 1) < n - 1) := by omega
    simp [genFormat, this, joinVals, List.range']
  | k + 2, hk => by
    -- not the last piece: the separator follows, then the pieces from `n - (k + 1)` on
    have h1 : n - (k + 2) < n - 1 := by omega
    have e : n - (k + 2) + 1 = n - (k + 1) := by omega
    rw [genFormat, if_pos h1, genFormat_eq sep keys n (k + 1) (by omega)]
    conv => rhs; rw [List.range'_succ, e, List.map_cons]
    rw [List.range'_succ, List.map_cons, joinVals_cons2, List.append_assoc]

theorem populateNames_length (keys : List (Str × Str)) (nargs : Nat) (h : keys.length ≤ nargs) :
    (populateNames keys nargs).length = nargs := by
  simp [populateNames]; omega

/-- pair `i` is `(name_i, value_i)` — the value rendered by its own generated piece — sanitised if configured -/
theorem namedPairs_eq {sep : Str} (hne : sep ≠ []) (hb : unbordered sep = true) (san : Bool)
    (keys : List (Str × Str)) (fv : List Str) (hlen : keys.length ≤ fv.length)
    (hv : ∀ v ∈ fv, containsSub sep v = false) :
    namedPairs sep san keys fv = (populateNames keys fv.length).zip (if san then fv.map sanitize else fv) := by
  have hn := populateNames_length keys fv.length hlen
  simp only [namedPairs, hn, Nat.lt_irrefl, if_false, List.take_length]
  rw [split_join hne hb fv hv]

end Named
