import QuillModel.NamedArgs.Basic
/-! Facts about the template grammar: what `render`, `wf`, `keysOf` and `Piece.erase` do on pieces and on concatenations. -/
namespace Named

theorem isAlpha_ne {c d : Char} (hd : isAlpha d = false) (h : isAlpha c = true) : c ≠ d := by
  intro e; subst e; simp [h] at hd

theorem identChar_ne {c d : Char} (hd : identChar d = false) (h : identChar c = true) : c ≠ d := by
  intro e; subst e; simp [h] at hd

theorem nameOK_not_mem {n : Str} {d : Char} (hd : identChar d = false) (h : nameOK n = true) : d ∉ n := by
  cases n with
  | nil => simp
  | cons c cs =>
    simp only [nameOK, Bool.and_eq_true, List.all_eq_true] at h
    intro hm
    rcases List.mem_cons.1 hm with e | e
    · have : identChar c = true := by simp [identChar, h.1]
      exact identChar_ne hd this e.symm
    · exact identChar_ne hd (h.2 d e) rfl

theorem noBrace_not_mem {s : Str} (h : noBrace s = true) : '{' ∉ s ∧ '}' ∉ s := by
  simp only [noBrace, List.all_eq_true, Bool.and_eq_true, bne_iff_ne, ne_eq] at h
  exact ⟨fun hm => (h _ hm).1 rfl, fun hm => (h _ hm).2 rfl⟩

/-- what stands between the braces of a field -/
def content (n : Str) (s : Option Str) : Str := n ++ syntaxOf s

theorem render_field (n : Str) (s : Option Str) : (Piece.field n s).render = '{' :: (content n s ++ ['}']) := by
  cases s <;> simp [Piece.render, content, syntaxOf]

theorem render_erase_field (n : Str) (s : Option Str) :
    (Piece.field n s).erase.render = '{' :: (syntaxOf s ++ ['}']) := by
  cases s <;> simp [Piece.render, Piece.erase, syntaxOf]

theorem content_no_brace {n : Str} {s : Option Str} (h : (Piece.field n s).wf = true) :
    '{' ∉ content n s ∧ '}' ∉ content n s := by
  cases s with
  | none =>
    simp only [Piece.wf] at h
    simp only [content, syntaxOf, List.append_nil]
    exact ⟨nameOK_not_mem (by decide) h, nameOK_not_mem (by decide) h⟩
  | some sp =>
    simp only [Piece.wf, Bool.and_eq_true] at h
    have hb := noBrace_not_mem h.2
    simp only [content, syntaxOf, List.mem_append, List.mem_cons, not_or]
    exact ⟨⟨nameOK_not_mem (by decide) h.1, by decide, hb.1⟩, ⟨nameOK_not_mem (by decide) h.1, by decide, hb.2⟩⟩

theorem name_no_colon {n : Str} {s : Option Str} (h : (Piece.field n s).wf = true) : ':' ∉ n := by
  cases s with
  | none => simp only [Piece.wf] at h; exact nameOK_not_mem (by decide) h
  | some sp => simp only [Piece.wf, Bool.and_eq_true] at h; exact nameOK_not_mem (by decide) h.1

theorem head_render_close {ps : List Piece} (h : wf ps = true) :
    (render ps).head? = some '}' ↔ startsEscClose ps = true := by
  cases ps with
  | nil => simp [render, startsEscClose]
  | cons p r =>
    simp only [wf, List.all_cons, Bool.and_eq_true] at h
    cases p with
    | text c =>
      have : c ≠ '}' := by
        have := h.1; simp only [Piece.wf, Bool.and_eq_true, bne_iff_ne, ne_eq] at this; exact this.2
      simp [render, Piece.render, startsEscClose, this]
    | escOpen => simp [render, Piece.render, startsEscClose]
    | escClose => simp [render, Piece.render, startsEscClose]
    | field n s => simp [render, render_field, startsEscClose]

theorem head?_render_ne_close {r : List Piece} (hw : wf r = true) (hr : startsEscClose r = false) :
    (render r).head? ≠ some '}' :=
  fun hh => Bool.false_ne_true (hr.symm.trans ((head_render_close hw).1 hh))

theorem render_append (a b : List Piece) : render (a ++ b) = render a ++ render b := by
  induction a with
  | nil => rfl
  | cons p ps ih => simp [render, ih]

theorem keysOf_append (a b : List Piece) : keysOf (a ++ b) = keysOf a ++ keysOf b := by
  induction a with
  | nil => rfl
  | cons q qs ih => cases q <;> simp [keysOf, ih]

theorem render_map_erase_cons (p : Piece) (ps : List Piece) :
    render ((p :: ps).map Piece.erase) = p.erase.render ++ render (ps.map Piece.erase) := by
  simp [render]

theorem erase_of_not_named : ∀ (ps : List Piece), ps.any Piece.isNamed = false → ps.map Piece.erase = ps
  | [], _ => rfl
  | p :: ps, h => by
    simp only [List.any_cons, Bool.or_eq_false_iff] at h
    rw [List.map_cons, erase_of_not_named ps h.2]
    cases p with
    | field n s =>
      have : n = [] := by simpa [Piece.isNamed] using h.1
      simp [Piece.erase, this]
    | _ => rfl

end Named
