import QuillModel.NamedArgs.Basic
/-! Join on the separator, then the `find(delimiter, start)` split loop: `split (join vals) = vals` when no value
contains the separator and the separator has no border (no proper prefix that is also a suffix). -/
namespace Named

/-- no proper non-empty prefix of `sep` is also a suffix of it (decidable; `"\x01\x02\x03"` qualifies) -/
def unbordered (sep : Str) : Bool :=
  (List.range sep.length).all (fun k => k == 0 || sep.take k != sep.drop (sep.length - k))

theorem unbordered_spec {sep : Str} (h : unbordered sep = true) (k : Nat) (h0 : 0 < k) (hk : k < sep.length) :
    sep.take k ≠ sep.drop (sep.length - k) := by
  simp only [unbordered, List.all_eq_true, List.mem_range, Bool.or_eq_true, beq_iff_eq, bne_iff_ne, ne_eq] at h
  rcases h k hk with e | e
  · omega
  · exact e

/-- an occurrence of an unbordered `sep` that starts inside `w` in `w ++ sep ++ tail` lies entirely inside `w` -/
theorem prefix_inside {sep w tail : Str} (hb : unbordered sep = true) (hw : w ≠ [])
    (h : sep <+: w ++ (sep ++ tail)) : sep <+: w := by
  by_cases hl : sep.length ≤ w.length
  · exact List.prefix_of_prefix_length_le h (List.prefix_append _ _) hl
  · exfalso
    have hl' : w.length < sep.length := by omega
    have hws : w <+: sep := List.prefix_of_prefix_length_le (List.prefix_append _ _) h (by omega)
    obtain ⟨x, hx⟩ := hws
    obtain ⟨u, hu⟩ := h
    have hxl : x.length = sep.length - w.length := by rw [← hx]; simp
    have hxu : x ++ u = sep ++ tail := by
      have hu' : w ++ (x ++ u) = w ++ (sep ++ tail) := by rw [← List.append_assoc, hx]; exact hu
      exact List.append_cancel_left hu'
    have hxs : x <+: sep :=
      List.prefix_of_prefix_length_le ⟨u, hxu⟩ (List.prefix_append _ _) (by omega)
    have h1 : sep.take x.length = x := by
      obtain ⟨y, hy⟩ := hxs
      rw [← hy]; simp
    have h2 : sep.drop (sep.length - x.length) = x := by
      have : sep.length - x.length = w.length := by omega
      rw [this, ← hx]; simp
    have hwl : 0 < w.length := by cases w with
      | nil => exact absurd rfl hw
      | cons _ _ => simp
    exact unbordered_spec hb x.length (by omega) (by omega) (h1.trans h2.symm)

theorem subIdx_join {sep : Str} (hb : unbordered sep = true) :
    ∀ (v tail : Str), subIdx sep v = none → subIdx sep (v ++ (sep ++ tail)) = some v.length
  | [], tail, _ => by
    simp only [List.nil_append, List.length_nil]
    exact subIdx_of_prefix (List.isPrefixOf_iff_prefix.2 (List.prefix_append _ _))
  | c :: cs, tail, h => by
    have ⟨h1, h2⟩ := subIdx_cons_none h
    have ih := subIdx_join hb cs tail h2
    have hnp : sep.isPrefixOf (c :: cs ++ (sep ++ tail)) = false := by
      cases hp : sep.isPrefixOf (c :: cs ++ (sep ++ tail)) with
      | false => rfl
      | true =>
        have := prefix_inside hb (by simp) (List.isPrefixOf_iff_prefix.1 hp)
        rw [List.isPrefixOf_iff_prefix.2 this] at h1
        exact absurd h1 (by simp)
    simp only [List.cons_append] at hnp ⊢
    simp [subIdx, hnp, ih]

theorem splitAssign_found {sep s : Str} {start e : Nat} (f idx : Nat) (vals : List Str)
    (h : findSub sep s start = some e) (hi : idx < vals.length) :
    splitAssign sep s (f + 1) start idx vals
      = splitAssign sep s f (e + sep.length) (idx + 1) (vals.set idx (substr s start (e - start))) := by
  simp only [splitAssign, h, hi, if_true]

theorem splitAssign_last {sep s : Str} {start : Nat} (f idx : Nat) (vals : List Str)
    (h : findSub sep s start = none) (hi : idx < vals.length) :
    splitAssign sep s (f + 1) start idx vals = vals.set idx (s.drop start) := by
  simp only [splitAssign, h, hi, if_true]

theorem set_first_free (acc : List Str) (v : Str) (n : Nat) :
    (acc ++ List.replicate (n + 1) []).set acc.length v = (acc ++ [v]) ++ List.replicate n [] := by
  simp [List.replicate_succ]

/-- the loop in the middle of the joined string: `done` is what lies before `start` (values and separators already
    consumed), `acc` the values already stored, `rest` the values still joined in what follows -/
theorem splitAssign_join {sep : Str} (hb : unbordered sep = true) :
    ∀ (rest : List Str) (done : Str) (acc : List Str) (fuel : Nat) (s : Str), rest ≠ [] →
      s = done ++ joinVals sep rest → (∀ v ∈ rest, subIdx sep v = none) → rest.length ≤ fuel →
      splitAssign sep s fuel done.length acc.length (acc ++ List.replicate rest.length []) = acc ++ rest
  | [], _, _, _, _, h, _, _, _ => absurd rfl h
  | [v], done, acc, fuel, s, _, hs, hv, hf => by
    obtain ⟨f, rfl⟩ : ∃ f, fuel = f + 1 := ⟨fuel - 1, by simp at hf; omega⟩
    have hfind : findSub sep s done.length = none := by
      rw [hs, findSub_at]; simp [joinVals, hv v (by simp)]
    rw [splitAssign_last f _ _ hfind (by simp), List.length_cons, set_first_free, hs]
    simp [joinVals]
  | v :: w :: more, done, acc, fuel, s, _, hs, hv, hf => by
    obtain ⟨f, rfl⟩ : ∃ f, fuel = f + 1 := ⟨fuel - 1, by simp at hf; omega⟩
    have hs' : s = done ++ (v ++ (sep ++ joinVals sep (w :: more))) := by rw [hs, joinVals_cons2]
    have hfind : findSub sep s done.length = some (done.length + v.length) := by
      rw [hs', findSub_at, subIdx_join hb v _ (hv v (by simp))]; simp; omega
    have hsub : substr s done.length (done.length + v.length - done.length) = v := by
      rw [hs', Nat.add_sub_cancel_left]
      exact substr_mid _ _ _
    have ih := splitAssign_join hb (w :: more) (done ++ v ++ sep) (acc ++ [v]) f s (by simp) (by rw [hs']; simp)
      (fun x hx => hv x (List.mem_cons_of_mem _ hx)) (by simp at hf ⊢; omega)
    rw [splitAssign_found f _ _ hfind (by simp), hsub, List.length_cons, set_first_free]
    have hl1 : done.length + v.length + sep.length = (done ++ v ++ sep).length := by simp [Nat.add_assoc]
    have hl2 : acc.length + 1 = (acc ++ [v]).length := by simp
    rw [hl1, hl2, ih, List.append_assoc]; rfl

theorem split_join {sep : Str} (hne : sep ≠ []) (hb : unbordered sep = true) (vals : List Str)
    (hv : ∀ v ∈ vals, containsSub sep v = false) :
    splitValues sep (joinVals sep vals) vals.length = vals := by
  cases vals with
  | nil => simp [splitValues, joinVals, splitAssign, findSub, subIdx, hne]
  | cons v vs =>
    have hlen := length_le_joinVals hne (v :: vs)
    have h := splitAssign_join hb (v :: vs) [] [] ((joinVals sep (v :: vs)).length + 2) (joinVals sep (v :: vs))
      (by simp) (by simp) (fun x hx => by simpa [containsSub] using hv x hx) (by omega)
    simpa [splitValues] using h

end Named
