import QuillModel.NamedArgs.Json
/-!
A reader for the JSON subset the sink can emit correctly — one object whose members are `"key":"value"` with strings
that contain no quote, no backslash and no control character (i.e. need no escaping) — and the theorem that an object
assembled from such members (the form `jsonBody_members` gives the sink's line) reads back as exactly its members, in
order.
(The reader is part of the model; on the real output the same claim is checked with Python's `json` module.)
-/
namespace Named

/-- a character that may stand unescaped inside a JSON string -/
def plainChar (c : Char) : Bool := c != '"' && c != '\\' && decide (0x20 ≤ c.toNat)

def noEscapeNeeded (s : Str) : Bool := s.all plainChar

/-- read a string body up to its closing quote: `(content, rest after the quote)`; `none` if it is unterminated or
    contains a character that JSON requires to be escaped -/
def readString : Str → Option (Str × Str)
  | [] => none
  | c :: r =>
    if c = '"' then some ([], r)
    else if plainChar c then (readString r).map (fun p => (c :: p.1, p.2))
    else none

/-- `"key":"value"` -/
def readMember (s : Str) : Option ((Str × Str) × Str) :=
  match s with
  | '"' :: r =>
    match readString r with
    | some (k, ':' :: '"' :: r2) =>
      match readString r2 with
      | some (v, r3) => some ((k, v), r3)
      | none => none
    | _ => none
  | _ => none

/-- `(',' member)* '}'` and nothing after it -/
def readTail : Nat → Str → Option (List (Str × Str))
  | 0, _ => none
  | fuel + 1, s =>
    match s with
    | ['}'] => some []
    | ',' :: r =>
      match readMember r with
      | some (m, r2) => (readTail fuel r2).map (m :: ·)
      | none => none
    | _ => none

/-- a whole object: `{}` or `{ member (',' member)* }` -/
def parseFlat (s : Str) : Option (List (Str × Str)) :=
  match s with
  | '{' :: r =>
    if r = ['}'] then some []
    else
      match readMember r with
      | some (m, r2) => (readTail (s.length + 1) r2).map (m :: ·)
      | none => none
  | _ => none

theorem readString_spec (s rest : Str) (h : noEscapeNeeded s = true) :
    readString (s ++ '"' :: rest) = some (s, rest) := by
  induction s with
  | nil => simp [readString]
  | cons c cs ih =>
    simp only [noEscapeNeeded, List.all_cons, Bool.and_eq_true] at h
    have hc : c ≠ '"' := by
      have := h.1; simp only [plainChar, Bool.and_eq_true, bne_iff_ne, ne_eq] at this; exact this.1.1
    simp [readString, hc, h.1, ih (by simpa [noEscapeNeeded] using h.2)]

theorem readMember_spec (k v rest : Str) (hk : noEscapeNeeded k = true) (hv : noEscapeNeeded v = true) :
    readMember (member k v ++ rest) = some ((k, v), rest) := by
  have e : member k v ++ rest = '"' :: (k ++ '"' :: ':' :: '"' :: (v ++ '"' :: rest)) := by
    simp [member, quoted]
  rw [e]
  simp only [readMember, readString_spec k _ hk, readString_spec v _ hv]

theorem readTail_spec : ∀ (ms : List (Str × Str)) (fuel : Nat), ms.length < fuel →
    (∀ m ∈ ms, noEscapeNeeded m.1 = true ∧ noEscapeNeeded m.2 = true) →
    readTail fuel (ms.flatMap (fun m => ',' :: member m.1 m.2) ++ ['}']) = some ms := by
  intro ms
  induction ms with
  | nil =>
    intro fuel hf _
    obtain ⟨f, rfl⟩ : ∃ f, fuel = f + 1 := ⟨fuel - 1, by omega⟩
    simp [readTail]
  | cons m rest ih =>
    intro fuel hf hm
    obtain ⟨f, rfl⟩ : ∃ f, fuel = f + 1 := ⟨fuel - 1, by omega⟩
    have h1 := hm m (by simp)
    have e : (m :: rest).flatMap (fun m => ',' :: member m.1 m.2) ++ ['}']
        = ',' :: (member m.1 m.2 ++ (rest.flatMap (fun m => ',' :: member m.1 m.2) ++ ['}'])) := by simp
    rw [e]
    simp only [readTail, readMember_spec m.1 m.2 _ h1.1 h1.2]
    rw [ih f (by simp at hf; omega) (fun x hx => hm x (by simp [hx]))]
    rfl

theorem joinVals_members (m : Str × Str) (ms : List (Str × Str)) :
    joinVals [','] ((m :: ms).map (fun m => member m.1 m.2))
      = member m.1 m.2 ++ ms.flatMap (fun m => ',' :: member m.1 m.2) := by
  rw [List.map_cons, joinVals_cons, List.flatMap_map]
  rfl

theorem length_le_flat (ms : List (Str × Str)) :
    ms.length ≤ (ms.flatMap (fun m => ',' :: member m.1 m.2)).length :=
  length_le_length_flatMap (fun _ => List.cons_ne_nil _ _) ms

theorem parseFlat_members (ms : List (Str × Str))
    (hm : ∀ m ∈ ms, noEscapeNeeded m.1 = true ∧ noEscapeNeeded m.2 = true) :
    parseFlat ('{' :: joinVals [','] (ms.map (fun m => member m.1 m.2)) ++ ['}']) = some ms := by
  cases ms with
  | nil => simp [joinVals, parseFlat]
  | cons m rest =>
    have h1 := hm m (by simp)
    rw [joinVals_members]
    have e : '{' :: (member m.1 m.2 ++ rest.flatMap (fun m => ',' :: member m.1 m.2)) ++ ['}']
        = '{' :: (member m.1 m.2 ++ (rest.flatMap (fun m => ',' :: member m.1 m.2) ++ ['}'])) := by simp
    rw [e]
    have hne : member m.1 m.2 ++ (rest.flatMap (fun m => ',' :: member m.1 m.2) ++ ['}']) ≠ ['}'] := by
      simp [member, quoted]
    simp only [parseFlat, hne, if_false, readMember_spec m.1 m.2 _ h1.1 h1.2]
    rw [readTail_spec rest _
      (by have := length_le_flat rest; simp only [List.length_cons, List.length_append]; omega)
      (fun x hx => hm x (by simp [hx]))]
    rfl

end Named
