import QuillModel.NamedArgs.Model
/-! The template cache `_named_args_templates`: every entry is `process` of its key, so a lookup is transparent. -/
namespace Named

def CacheInv (c : Cache) : Prop := ∀ k v, c.lookup k = some v → v = process k

theorem cacheInv_nil : CacheInv [] := by intro k v h; simp [List.lookup] at h

theorem lookupOrInsert_fst (c : Cache) (hc : CacheInv c) (t : Str) : (lookupOrInsert c t).1 = process t := by
  unfold lookupOrInsert
  cases h : c.lookup t with
  | none => rfl
  | some r => exact hc t r h

theorem lookupOrInsert_inv (c : Cache) (hc : CacheInv c) (t : Str) : CacheInv (lookupOrInsert c t).2 := by
  unfold lookupOrInsert
  cases h : c.lookup t with
  | some r => exact hc
  | none =>
    intro k v hk
    simp only [List.lookup] at hk
    split at hk
    · rename_i heq
      have : k = t := by simpa using heq
      cases hk; rw [this]
    · exact hc k v hk

theorem lookupOrInsert_lookup (c : Cache) (hc : CacheInv c) (t k : Str) :
    (lookupOrInsert c t).2.lookup k = if k = t then some (process t) else c.lookup k := by
  unfold lookupOrInsert
  cases h : c.lookup t with
  | some r =>
    simp only
    split
    · rename_i e; rw [e, h, hc t r h]
    · rfl
  | none =>
    simp only [List.lookup]
    by_cases e : k = t
    · simp [e]
    · have : (k == t) = false := by simpa using e
      simp [this, e]

theorem runHistory_spec : ∀ (ts : List Str) (c : Cache), CacheInv c →
    (runHistory c ts).1 = ts.map process ∧ CacheInv (runHistory c ts).2 ∧
    ∀ k, (runHistory c ts).2.lookup k = if k ∈ ts then some (process k) else c.lookup k
  | [], c, hc => by simp [runHistory, hc]
  | t :: ts, c, hc => by
    have ⟨h1, h2, h3⟩ := runHistory_spec ts (lookupOrInsert c t).2 (lookupOrInsert_inv c hc t)
    refine ⟨?_, ?_, ?_⟩
    · simp [runHistory, h1, lookupOrInsert_fst c hc t]
    · simpa [runHistory] using h2
    · intro k
      simp only [runHistory]
      rw [h3 k, lookupOrInsert_lookup c hc t k]
      by_cases e1 : k ∈ ts
      · simp [e1]
      · by_cases e2 : k = t
        · simp [e2]
        · simp [e1, e2]

end Named
