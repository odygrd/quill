import QuillModel.NamedArgs.Grammar
import QuillModel.NamedArgs.Fuel
/-! `process` (= `_process_named_args_format_message`) on templates of the grammar: on the class `procOK`
the loops compute exactly "names erased, specs kept" and the ordered key list. -/
namespace Named

theorem head?_append_cons_ne {c d : Char} {a : Str} (suf : Str) (ha : c ∉ a) (hd : d ≠ c) :
    (a ++ d :: suf).head? ≠ some c := by
  cases a with
  | nil => simpa using hd
  | cons x xs => simpa using fun e => ha (by simp [e])

/-- the inner loop on a closing brace followed by `k` escaped pairs: every pair is taken for an escape and the
    placeholder is closed at the last brace of the run -/
theorem procInner_run (t : Str) (ob : Nat) (st : PSt) : ∀ (k : Nat) (pre suf : Str) (fuel : Nat),
    t = pre ++ (List.replicate (2 * k + 1) '}' ++ suf) → suf.head? ≠ some '}' → k < fuel →
    procInner t ob fuel (some pre.length) st = (emit t ob (pre.length + 2 * k) st, some (pre.length + 2 * k)) := by
  intro k
  induction k with
  | zero =>
    intro pre suf fuel ht hsuf hf
    obtain ⟨f, rfl⟩ : ∃ f, fuel = f + 1 := ⟨fuel - 1, by omega⟩
    have h3 : adjacentNext '}' t pre.length = none := adjacentNext_miss pre '}' suf ht hsuf
    simp [procInner, h3]
  | succ k ih =>
    intro pre suf fuel ht hsuf hf
    obtain ⟨f, rfl⟩ : ∃ f, fuel = f + 1 := ⟨fuel - 1, by omega⟩
    have ht1 : t = pre ++ '}' :: '}' :: (List.replicate (2 * k + 1) '}' ++ suf) := by
      rw [ht, show 2 * (k + 1) + 1 = (2 * k + 1) + 1 + 1 by omega, List.replicate_succ, List.replicate_succ]; rfl
    have ht2 : t = (pre ++ ['}', '}']) ++ (List.replicate (2 * k + 1) '}' ++ suf) := by rw [ht1]; simp
    have hadj : adjacentNext '}' t pre.length = some (pre.length + 1) := adjacentNext_hit '}' pre '}' _ ht1
    have hnext : findFrom '}' t (pre.length + 1 + 1) = some (pre ++ ['}', '}']).length := by
      simpa using findFrom_here (t := t) (c := '}') (pre ++ ['}', '}']) (List.replicate (2 * k) '}' ++ suf)
        (by rw [ht2, List.replicate_succ]; rfl)
    rw [procInner]
    simp only [hadj, hnext, ih (pre ++ ['}', '}']) suf f ht2 hsuf (by omega)]
    simp only [List.length_append, List.length_cons, List.length_nil]
    rw [show pre.length + (0 + 1 + 1) + 2 * k = pre.length + 2 * (k + 1) by omega]

theorem splitColon_content (n : Str) (s : Option Str) (hw : (Piece.field n s).wf = true) :
    splitColon (content n s) = (n, syntaxOf s) := by
  have hcol := name_no_colon hw
  unfold splitColon
  cases s with
  | none => simp [content, syntaxOf, idxOf_eq_none.2 hcol]
  | some sp =>
    simp only [content, syntaxOf]
    rw [idxOf_append_hit n sp hcol]
    simp only [List.take_left', List.length_append, List.length_cons]
    rw [subSz_le (by omega)]
    simp [substr]

theorem emit_eq {t : Str} (pre inside suf : Str) (st : PSt) (ht : t = pre ++ '{' :: (inside ++ '}' :: suf))
    (hc : st.curPos ≤ pre.length) :
    emit t pre.length (pre.length + 1 + inside.length) st
      = { fmtStr := st.fmtStr ++ pre.drop st.curPos ++ '{' :: ((splitColon inside).2 ++ ['}']),
          keys := st.keys ++ [splitColon inside],
          curPos := pre.length + 1 + inside.length + 1 } := by
  subst ht
  have hin : substr (pre ++ '{' :: (inside ++ '}' :: suf)) (pre.length + 1)
      (subSz (pre.length + 1 + inside.length) (pre.length + 1)) = inside := by
    rw [subSz_le (by omega), Nat.add_sub_cancel_left, List.append_cons pre]
    simpa using substr_mid (pre ++ ['{']) inside ('}' :: suf)
  have hpre : substr (pre ++ '{' :: (inside ++ '}' :: suf)) st.curPos (subSz pre.length st.curPos)
      = pre.drop st.curPos := by
    rw [subSz_le hc]; exact substr_append_left _ _ _ hc
  simp only [emit, hin, hpre, List.append_assoc, List.cons_append]

theorem procOuter_none (t : Str) (fuel : Nat) (st : PSt) : procOuter t fuel none st = st := by
  cases fuel <;> rfl

theorem procOuter_esc (t : Str) (f ob : Nat) (st : PSt) (h : adjacentNext '{' t ob = some (ob + 1)) :
    procOuter t (f + 1) (some ob) st = procOuter t f (findFrom '{' t (ob + 1 + 1)) st := by
  simp only [procOuter, h]

/-- a placeholder whose closing brace is followed by `k` escaped `}}`: `k = 0` is the case of the class `procOK`,
    `k > 0` is what the tightness proof needs -/
theorem procOuter_field_run {t : Str} (pre c suf : Str) (k f : Nat) (st : PSt)
    (ht : t = pre ++ '{' :: (c ++ (List.replicate (2 * k + 1) '}' ++ suf)))
    (hc1 : '{' ∉ c) (hc2 : '}' ∉ c) (hsuf : suf.head? ≠ some '}') :
    procOuter t (f + 1) (some pre.length) st =
      procOuter t f (findFrom '{' t (pre.length + 1 + c.length + 2 * k))
        (emit t pre.length (pre.length + 1 + c.length + 2 * k) st) := by
  have hrep : List.replicate (2 * k + 1) '}' ++ suf = '}' :: (List.replicate (2 * k) '}' ++ suf) := by
    rw [List.replicate_succ]; rfl
  have h1 : adjacentNext '{' t pre.length = none :=
    adjacentNext_miss pre '{' _ (by rw [ht, hrep]) (head?_append_cons_ne _ hc1 (by decide))
  have h2 : findFrom '}' t (pre.length + 1) = some (pre.length + 1 + c.length) := by
    have := findFrom_hit (t := t) (c := '}') (pre ++ ['{']) c (List.replicate (2 * k) '}' ++ suf)
      (by rw [ht, hrep]; simp) hc2
    simpa using this
  have hl : (pre ++ '{' :: c).length = pre.length + 1 + c.length := by simp; omega
  have hinner := procInner_run t pre.length st k (pre ++ '{' :: c) suf (t.length + 1) (by rw [ht]; simp) hsuf (by
    have : 2 * k + 1 ≤ t.length := by rw [ht]; simp; omega
    omega)
  rw [hl] at hinner
  rw [procOuter]
  simp only [h1, h2, hinner, reopen]

/-- the loops stand at the end of the prefix `pre` of the template: `out` is the output so far, the text not yet
    copied (from `cur_pos` on) included, `ks` the keys so far -/
structure ProcAt (st : PSt) (pre out : Str) (ks : List (Str × Str)) : Prop where
  pos : st.curPos ≤ pre.length
  out : st.fmtStr ++ pre.drop st.curPos = out
  keys : st.keys = ks

/-- walking over text that is copied later, with the next `substr` -/
theorem ProcAt.skip {st : PSt} {pre out : Str} {ks : List (Str × Str)} (h : ProcAt st pre out ks) (a : Str) :
    ProcAt st (pre ++ a) (out ++ a) ks where
  pos := by rw [List.length_append]; have := h.pos; omega
  out := by rw [List.drop_append_of_le_length h.pos, ← List.append_assoc, h.out]
  keys := h.keys

theorem ProcAt.skip_piece {st : PSt} {pre out : Str} {ks : List (Str × Str)} (h : ProcAt st pre out ks) (p : Piece)
    (he : p.erase = p) (hk : keysOf [p] = []) :
    ProcAt st (pre ++ p.render) (out ++ p.erase.render) (ks ++ keysOf [p]) := by
  rw [he, hk, List.append_nil]
  exact h.skip _

/-- the unit of fuel an iteration has spent is not missed: the loop can go on with the fuel `process` starts with -/
theorem procOuter_refuel (t : Str) (pos : Nat) (st : PSt) :
    procOuter t t.length (findFrom '{' t pos) st = procOuter t (t.length + 1) (findFrom '{' t pos) st :=
  (procOuter_fuel t t.length _ st fun _ ho => ⟨(findFrom_some ho).2, Nat.le_add_right _ _⟩).symm

theorem procOuter_piece {t : Str} (p : Piece) (pre suf : Str) (ht : t = pre ++ (p.render ++ suf))
    (hw : p.wf = true) (hs : p.isField = true → suf.head? ≠ some '}')
    {st : PSt} {out : Str} {ks : List (Str × Str)} (h : ProcAt st pre out ks) :
    ∃ st', procOuter t (t.length + 1) (findFrom '{' t pre.length) st
        = procOuter t (t.length + 1) (findFrom '{' t (pre ++ p.render).length) st' ∧
      ProcAt st' (pre ++ p.render) (out ++ p.erase.render) (ks ++ keysOf [p]) := by
  cases p with
  | text c =>
    -- a piece without an opening brace is jumped over by `find_first_of('{', …)`
    have hcne : c ≠ '{' := by simp only [Piece.wf, Bool.and_eq_true, bne_iff_ne, ne_eq] at hw; exact hw.1
    have hna : '{' ∉ (Piece.text c).render := by simpa [Piece.render] using hcne.symm
    exact ⟨st, by rw [findFrom_skip pre _ suf ht hna], h.skip_piece _ rfl rfl⟩
  | escClose => exact ⟨st, by rw [findFrom_skip pre _ suf ht (by decide)], h.skip_piece _ rfl rfl⟩
  | escOpen =>
    have ht1 : t = pre ++ '{' :: '{' :: suf := ht
    refine ⟨st, ?_, h.skip_piece _ rfl rfl⟩
    rw [findFrom_here pre ('{' :: suf) ht1, procOuter_esc t _ _ st (adjacentNext_hit '{' pre '{' suf ht1), procOuter_refuel]
    simp only [Piece.render, List.length_append, List.length_cons, List.length_nil]
  | field n s =>
    have hnb := content_no_brace hw
    have ht1 : t = pre ++ '{' :: (content n s ++ (List.replicate (2 * 0 + 1) '}' ++ suf)) := by
      rw [ht, render_field]; simp
    have ht2 : t = pre ++ '{' :: (content n s ++ '}' :: suf) := ht1
    have hl : (pre ++ (Piece.field n s).render).length = pre.length + 1 + (content n s).length + 1 := by
      rw [render_field]; simp; omega
    -- the `{` search resumes at the close bracket, which is not a `{`
    have h4 : findFrom '{' t (pre.length + 1 + (content n s).length)
        = findFrom '{' t (pre.length + 1 + (content n s).length + 1) := by
      have := findFrom_skip (t := t) (c := '{') (pre ++ '{' :: content n s) ['}'] suf (by rw [ht2]; simp) (by decide)
      rw [show (pre ++ '{' :: content n s).length = pre.length + 1 + (content n s).length by simp; omega,
        show (pre ++ '{' :: content n s ++ ['}']).length = pre.length + 1 + (content n s).length + 1 by simp; omega] at this
      exact this
    refine ⟨emit t pre.length (pre.length + 1 + (content n s).length) st, ?_, ?_⟩
    · rw [findFrom_here pre _ ht2, procOuter_field_run pre (content n s) suf 0 _ st ht1 hnb.1 hnb.2 (hs rfl),
        Nat.mul_zero, Nat.add_zero, h4, hl, procOuter_refuel]
    · rw [emit_eq pre (content n s) suf st ht2 h.pos, splitColon_content n s hw, render_erase_field]
      constructor
      · rw [hl]; exact Nat.le_refl _
      · rw [h.out, ← hl, List.drop_length, List.append_nil]
      · simp only [h.keys, keysOf]

theorem head?_render_append_ne_close {r : List Piece} {suf : Str} (hw : wf r = true) (hr : startsEscClose r = false)
    (hsuf : suf.head? ≠ some '}') : (render r ++ suf).head? ≠ some '}' := by
  rw [List.head?_append]
  intro hh
  rcases Option.or_eq_some_iff.mp hh with h | ⟨_, h⟩
  · exact head?_render_ne_close hw hr h
  · exact hsuf h

theorem procOuter_walk : ∀ (rest : List Piece) (pre : Str) (st : PSt) (out : Str) (ks : List (Str × Str)) (t suf : Str),
    t = pre ++ (render rest ++ suf) → wf rest = true → procOK rest = true → suf.head? ≠ some '}' →
    ProcAt st pre out ks →
    ∃ st', procOuter t (t.length + 1) (findFrom '{' t pre.length) st
        = procOuter t (t.length + 1) (findFrom '{' t (pre ++ render rest).length) st' ∧
      ProcAt st' (pre ++ render rest) (out ++ render (rest.map Piece.erase)) (ks ++ keysOf rest)
  | [], pre, st, out, ks, t, suf, _, _, _, _, h =>
    ⟨st, by simp [render], by simpa [render, keysOf] using h⟩
  | p :: r, pre, st, out, ks, t, suf, ht, hw, hok, hsuf, h => by
    simp only [wf, List.all_cons, Bool.and_eq_true] at hw
    simp only [procOK, Bool.and_eq_true, Bool.not_eq_true', Bool.and_eq_false_iff] at hok
    have ht1 : t = pre ++ (p.render ++ (render r ++ suf)) := by rw [ht, render, List.append_assoc]
    have hnext : p.isField = true → (render r ++ suf).head? ≠ some '}' := fun hp =>
      head?_render_append_ne_close hw.2 (hok.1.resolve_left (by simp [hp])) hsuf
    obtain ⟨st1, hrun1, hat1⟩ := procOuter_piece p pre _ ht1 hw.1 hnext h
    obtain ⟨st2, hrun2, hat2⟩ := procOuter_walk r (pre ++ p.render) st1 _ _ t suf (by rw [ht1, List.append_assoc])
      hw.2 hok.2 hsuf hat1
    refine ⟨st2, ?_, ?_⟩
    · rw [hrun1, hrun2, render, List.append_assoc]
    · have hk : keysOf (p :: r) = keysOf [p] ++ keysOf r := keysOf_append [p] r
      rw [render, ← List.append_assoc, List.map_cons, render, ← List.append_assoc, hk, ← List.append_assoc]
      exact hat2

theorem process_render (ps : List Piece) (hw : wf ps = true) (hok : procOK ps = true) :
    process (render ps) = (render (ps.map Piece.erase), keysOf ps) := by
  obtain ⟨st', hrun, hat⟩ := procOuter_walk ps [] {} [] [] (render ps) [] (by simp) hw hok (by simp)
    ⟨Nat.le_refl _, rfl, rfl⟩
  have hend : findFrom '{' (render ps) ([] ++ render ps).length = none := by simp [findFrom, idxOf]
  rw [hend, procOuter_none, List.length_nil] at hrun
  have hout := hat.out
  have hpos := hat.pos
  simp only [List.nil_append] at hout hpos
  simp only [process]
  rw [hrun, hat.keys, subSz_le hpos, List.nil_append]
  have := substr_append_left (render ps) [] st'.curPos hpos
  rw [List.append_nil] at this
  rw [this, hout]

end Named
