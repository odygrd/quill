/-!
# NamedArgs — model of quill's named-placeholder machinery (property C19)

Transcribed from the C++ (no Mathlib; everything computable, the compiled `driver named` runs these definitions):

* `containsNamedArgs`  — `MacroMetadata::_contains_named_args` (core/MacroMetadata.h), the two nested
  `while (pos < fmt.length())` loops, character by character, with their `++pos` placement;
* `process`            — `BackendWorker::_process_named_args_format_message` (backend/BackendWorker.h), the
  `find_first_of` position logic of both loops, `substr`, the `':'` split, `cur_pos`;
* `genFormat`, `splitAssign`, `namedPairs` — `_populate_formatted_named_args` / `_format_and_split_arguments`
  (names, `_N` placeholders, the generated `{spec}<SEP>{spec}…` string, the `find(delimiter, start)` split loop);
* `sanitize`           — `sanitize_non_printable_chars` with the default `check_printable_char`;
* `removeNewlines`, `jsonLine` — `detail::JsonSink::write_log` / `generate_json_message` (sinks/JsonSink.h);
* `jsonWrite`, `runJson` — the sink's `_json_message` buffer across statements, with throwing customisation points;
* `lookupOrInsert`     — the `_named_args_templates` cache (`find`, else `try_emplace(process(..))`).

Strings are `List Char` (one `Char` per byte). Loops carry a fuel argument that is initialised with a bound
larger than the number of iterations the C++ loop can make (`length + 1` or `+ 2`); `size_t` subtraction is `subSz`.
The grammar of templates the property quantifies over is `Piece` / `render`.
-/
namespace Named

abbrev Str := List Char

/-! ## string primitives -/

/-- index of the first `c` in `l` -/
def idxOf (c : Char) : Str → Option Nat
  | [] => none
  | x :: xs => if x = c then some 0 else (idxOf c xs).map (· + 1)

/-- `std::string_view::find_first_of(c, pos)` = `find(c, pos)`: first index `≥ pos` holding `c`; `none` = npos
    (also when `pos` is past the end, as in the C++) -/
def findFrom (c : Char) (t : Str) (pos : Nat) : Option Nat :=
  (idxOf c (t.drop pos)).map (· + pos)

/-- `substr(pos, n)` for `pos ≤ size()` -/
def substr (t : Str) (pos n : Nat) : Str := (t.drop pos).take n

/-- `size_t` subtraction (64-bit wrap) -/
def subSz (a b : Nat) : Nat := if b ≤ a then a - b else a + 2 ^ 64 - b

/-- first index at which `pat` occurs in `s` -/
def subIdx (pat : Str) : Str → Option Nat
  | [] => if pat = [] then some 0 else none
  | c :: cs => if pat.isPrefixOf (c :: cs) then some 0 else (subIdx pat cs).map (· + 1)

/-- `std::string::find(pat, start)` -/
def findSub (pat s : Str) (start : Nat) : Option Nat :=
  if start ≤ s.length then (subIdx pat (s.drop start)).map (· + start) else none

def containsSub (pat s : Str) : Bool := (subIdx pat s).isSome

/-! ## `MacroMetadata::_contains_named_args` -/

/-- `(fc >= 'a' && fc <= 'z') || (fc >= 'A' && fc <= 'Z')` -/
def isAlpha (c : Char) : Bool := (decide ('a' ≤ c) && decide (c ≤ 'z')) || (decide ('A' ≤ c) && decide (c ≤ 'Z'))

/-- the inner `while (pos < fmt.length())` that looks for the closing brace. Returns `(pos, char_cnt)` at exit.
```
  if (fmt[pos] == '}') { ++pos; if (pos >= fmt.length()) break;
                         if (fmt[pos] == '}') { ++pos; ++char_cnt; continue; }
                         break; }
  ++pos; ++char_cnt;
``` -/
def detInner (t : Str) : Nat → Nat → Nat → Nat × Nat
  | 0, pos, cnt => (pos, cnt)
  | fuel + 1, pos, cnt =>
    match t[pos]? with
    | none => (pos, cnt)
    | some c =>
      if c = '}' then
        match t[pos + 1]? with
        | none => (pos + 1, cnt)
        | some d => if d = '}' then detInner t fuel (pos + 2) (cnt + 1) else (pos + 1, cnt)
      else detInner t fuel (pos + 1) (cnt + 1)

/-- the outer `while (pos < fmt.length())`.
```
  if (fmt[pos] == '{') { ++pos; if (pos >= fmt.length()) break;
                         auto const fc = fmt[pos];
                         if (fc == '{') { ++pos; continue; }
                         <inner loop>
                         if ((char_cnt != 0) && alpha(fc)) found_named_arg = true; }
  ++pos;
```
Note the trailing `++pos` is also executed after a placeholder, i.e. the character that follows a closing
brace is never examined. -/
def detOuter (t : Str) : Nat → Nat → Bool → Bool
  | 0, _, found => found
  | fuel + 1, pos, found =>
    match t[pos]? with
    | none => found
    | some c =>
      if c = '{' then
        match t[pos + 1]? with
        | none => found
        | some fc =>
          if fc = '{' then detOuter t fuel (pos + 2) found
          else
            let r := detInner t (t.length + 1) (pos + 1) 0
            detOuter t fuel (r.1 + 1) (found || (r.2 != 0 && isAlpha fc))
      else detOuter t fuel (pos + 1) found

def containsNamedArgs (t : Str) : Bool := detOuter t (t.length + 1) 0 false

/-! ## `BackendWorker::_process_named_args_format_message` -/

structure PSt where
  fmtStr : Str := []
  keys : List (Str × Str) := []
  curPos : Nat := 0
deriving Repr, DecidableEq

/-- `text_inside_placeholders.find(':')`: `(arg_name, arg_syntax)`, the syntax keeps the colon -/
def splitColon (inside : Str) : Str × Str :=
  match idxOf ':' inside with
  | some k => (inside.take k, substr inside k (subSz inside.length k))
  | none => (inside, [])

/-- body executed when the closing bracket is accepted: cut `text_inside_placeholders`, split at the first `':'`,
    append `text-before + "{" + arg_syntax + "}"`, move `cur_pos`, push the key -/
def emit (t : Str) (ob cb : Nat) (st : PSt) : PSt :=
  let ns := splitColon (substr t (ob + 1) (subSz cb (ob + 1)))
  { fmtStr := st.fmtStr ++ substr t st.curPos (subSz ob st.curPos) ++ '{' :: ns.2 ++ ['}'],
    keys := st.keys ++ [ns],
    curPos := cb + 1 }

/-- the "is the next bracket of the same kind adjacent?" test of both loops:
```
  if (size_t const p2 = fmt_template.find_first_of(c, p + 1); p2 != npos) { if ((p2 - 1) == p) { … continue; } }
```
`some p2` when the escape branch is taken -/
def adjacentNext (c : Char) (t : Str) (p : Nat) : Option Nat :=
  match findFrom c t (p + 1) with
  | some p2 => if p2 - 1 = p then some p2 else none
  | none => none

/-- inner `while (close_bracket_pos != npos)`: a `}` whose *next* `}` is adjacent is taken for an escaped pair
    and skipped; otherwise the placeholder is emitted and the loop is left. Returns the state and the value of
    `close_bracket_pos` at exit. -/
def procInner (t : Str) (ob : Nat) : Nat → Option Nat → PSt → PSt × Option Nat
  | 0, cb, st => (st, cb)
  | _ + 1, none, st => (st, none)
  | fuel + 1, some cb, st =>
    match adjacentNext '}' t cb with
    | some cb2 => procInner t ob fuel (findFrom '}' t (cb2 + 1)) st
    | none => (emit t ob cb st, some cb)

/-- `open_bracket_pos = fmt_template.find_first_of('{', close_bracket_pos)` (npos stays npos) -/
def reopen (t : Str) : Option Nat → Option Nat
  | some cb => findFrom '{' t cb
  | none => none

/-- outer `while (open_bracket_pos != npos)`: a `{` whose *next* `{` is adjacent is an escaped pair and skipped;
    otherwise look for the close bracket; then resume the `{` search at `close_bracket_pos` -/
def procOuter (t : Str) : Nat → Option Nat → PSt → PSt
  | 0, _, st => st
  | _ + 1, none, st => st
  | fuel + 1, some ob, st =>
    match adjacentNext '{' t ob with
    | some ob2 => procOuter t fuel (findFrom '{' t (ob2 + 1)) st
    | none =>
      let r := procInner t ob (t.length + 1) (findFrom '}' t (ob + 1)) st
      procOuter t fuel (reopen t r.2) r.1

/-- returns `(fmt_str, keys)`; a key is `(arg_name, arg_syntax)` with the colon kept in the syntax -/
def process (t : Str) : Str × List (Str × Str) :=
  let st := procOuter t (t.length + 1) (findFrom '{' t 0) {}
  (st.fmtStr ++ substr t st.curPos (subSz t.length st.curPos), st.keys)

/-! ## the grammar of templates -/

/-- `(text | "{{" | "}}" | "{" [ident] [":" spec] "}")*` — a field with an empty name is positional -/
inductive Piece where
  | text (c : Char)
  | escOpen
  | escClose
  | field (name : Str) (spec : Option Str)
deriving DecidableEq, Repr

def Piece.render : Piece → Str
  | .text c => [c]
  | .escOpen => ['{', '{']
  | .escClose => ['}', '}']
  | .field n none => '{' :: (n ++ ['}'])
  | .field n (some s) => '{' :: (n ++ ':' :: (s ++ ['}']))

def render : List Piece → Str
  | [] => []
  | p :: ps => p.render ++ render ps

def identChar (c : Char) : Bool := isAlpha c || c.isDigit || c == '_'

/-- a name is empty (positional) or an identifier starting with a letter -/
def nameOK : Str → Bool
  | [] => true
  | c :: cs => isAlpha c && cs.all identChar

def noBrace (s : Str) : Bool := s.all (fun c => c != '{' && c != '}')

def Piece.wf : Piece → Bool
  | .text c => c != '{' && c != '}'
  | .escOpen => true
  | .escClose => true
  | .field n none => nameOK n
  | .field n (some s) => nameOK n && noBrace s

/-- the list of pieces is generated by the grammar -/
def wf (ps : List Piece) : Bool := ps.all Piece.wf

def Piece.isField : Piece → Bool
  | .field _ _ => true
  | _ => false

def Piece.isNamed : Piece → Bool
  | .field n _ => n != []
  | _ => false

/-- erase the name, keep the spec -/
def Piece.erase : Piece → Piece
  | .field _ s => .field [] s
  | p => p

def syntaxOf : Option Str → Str
  | none => []
  | some s => ':' :: s

/-- `(name, ":spec")` of every field, in order of occurrence -/
def keysOf : List Piece → List (Str × Str)
  | [] => []
  | .field n s :: ps => (n, syntaxOf s) :: keysOf ps
  | _ :: ps => keysOf ps

def startsEscClose : List Piece → Bool
  | .escClose :: _ => true
  | _ => false

/-- class on which `process` is right: no placeholder is directly followed by an escaped `}}` -/
def procOK : List Piece → Bool
  | [] => true
  | p :: rest => !(p.isField && startsEscClose rest) && procOK rest

/-- `detOK afterPos ps`: the detection loops provably stay in step with the pieces. `afterPos = true` means the
    previous piece was a positional placeholder read in step, so the next *character* is skipped by the trailing
    `++pos`: harmless if it is a literal character or the `{` of another positional placeholder (the rest of which is
    then read as plain text), not harmless if it belongs to a named placeholder, to `{{` or to `}}`. Once a named
    placeholder is reached in step the flag is set and nothing later can clear it. -/
def detOK : Bool → List Piece → Bool
  | _, [] => true
  | false, p :: rest =>
    match p with
    | .field n _ => n != [] || detOK true rest
    | _ => detOK false rest
  | true, p :: rest =>
    match p with
    | .text _ => detOK false rest
    | .field n _ => n == [] && detOK false rest
    | _ => false

/-- class on which `containsNamedArgs` is right: up to the first named placeholder, every positional placeholder
    ends the template, or is followed by a literal character, or is followed by another positional placeholder.
    Excluded: a positional placeholder directly followed by a named one, by `{{` or by `}}`. -/
def detectOK (ps : List Piece) : Bool := detOK false ps

/-! ## fmt's top level, as far as the property needs it -/

/-- What `fmt::vformat(t, args)` yields when the i-th automatically indexed replacement field renders as `fv[i]`:
    `{{`→`{`, `}}`→`}`, `{}` / `{:spec}` → next value, anything else (`}` alone, unterminated `{`, a named or
    numbered field, too few values) → `none` (format_error). Nested fields inside a spec are outside the grammar. -/
def fmtSubstF : Nat → Str → List Str → Option Str
  | 0, _, _ => none
  | _ + 1, [], _ => some []
  | fuel + 1, c :: r, fv =>
    if c = '{' then
      if r.head? = some '{' then (fmtSubstF fuel r.tail fv).map ('{' :: ·)
      else
        match idxOf '}' r, fv with
        | some k, v :: fv' =>
          if r.take k = [] ∨ (r.take k).head? = some ':' then (fmtSubstF fuel (r.drop (k + 1)) fv').map (v ++ ·)
          else none
        | _, _ => none
    else if c = '}' then
      if r.head? = some '}' then (fmtSubstF fuel r.tail fv).map ('}' :: ·) else none
    else (fmtSubstF fuel r fv).map (c :: ·)

def fmtSubst (t : Str) (fv : List Str) : Option Str := fmtSubstF (t.length + 1) t fv

/-- the intended text of a template: literal pieces, escaped braces unescaped, i-th field = i-th value -/
def msgSpec : List Piece → List Str → Option Str
  | [], _ => some []
  | .text c :: ps, fv => (msgSpec ps fv).map (c :: ·)
  | .escOpen :: ps, fv => (msgSpec ps fv).map ('{' :: ·)
  | .escClose :: ps, fv => (msgSpec ps fv).map ('}' :: ·)
  | .field _ _ :: _, [] => none
  | .field _ _ :: ps, v :: fv => (msgSpec ps fv).map (v ++ ·)

/-! ## `_populate_formatted_named_args` / `_format_and_split_arguments` -/

def natStr (n : Nat) : Str := (toString n).toList

/-- names: the cached ones, then `_i` for every argument index beyond them -/
def populateNames (keys : List (Str × Str)) (nargs : Nat) : List Str :=
  keys.map (·.1) ++ (List.range' keys.length (nargs - keys.length)).map (fun i => '_' :: natStr i)

/-- the piece generated for argument `i`: `{syntax_i}` if there is a cached non-empty syntax, else `{}` -/
def oneField (keys : List (Str × Str)) (i : Nat) : Str :=
  match keys[i]? with
  | some (_, syn) => if syn ≠ [] then '{' :: (syn ++ ['}']) else ['{', '}']
  | none => ['{', '}']

/-- the generated format string (`k` = iterations left, `i = n - k`): the piece for `i`, then the delimiter
    unless `i = n - 1` -/
def genFormat (sep : Str) (keys : List (Str × Str)) (n : Nat) : Nat → Str
  | 0 => []
  | k + 1 =>
    let i := n - (k + 1)
    oneField keys i ++ (if i < n - 1 then sep else []) ++ genFormat sep keys n k

def joinVals (sep : Str) : List Str → Str
  | [] => []
  | [v] => v
  | v :: vs => v ++ sep ++ joinVals sep vs

/-- the split loop
```
  while ((end = s.find(delimiter, start)) != npos) { if (idx < size) vals[idx++] = s.substr(start, end - start);
                                                     start = end + delimiter.length(); }
  if (idx < size) vals[idx] = s.substr(start);
``` -/
def splitAssign (sep s : Str) : Nat → Nat → Nat → List Str → List Str
  | 0, _, _, vals => vals
  | fuel + 1, start, idx, vals =>
    match findSub sep s start with
    | some e =>
      if idx < vals.length then splitAssign sep s fuel (e + sep.length) (idx + 1) (vals.set idx (substr s start (e - start)))
      else splitAssign sep s fuel (e + sep.length) idx vals
    | none => if idx < vals.length then vals.set idx (s.drop start) else vals

def splitValues (sep s : Str) (n : Nat) : List Str :=
  splitAssign sep s (s.length + 2) 0 0 (List.replicate n [])

/-- default `BackendOptions::check_printable_char` -/
def printable (c : Char) : Bool := (decide (' ' ≤ c) && decide (c ≤ '~')) || c == '\n'

def hexDigitU (n : Nat) : Char := if n < 10 then Char.ofNat (48 + n) else Char.ofNat (55 + n)

/-- `sanitize_non_printable_chars`: `\xNN` (upper-case hex) for every non-printable byte -/
def sanitize (s : Str) : Str :=
  s.flatMap (fun c => if printable c then [c] else ['\\', 'x', hexDigitU (c.toNat / 16 % 16), hexDigitU (c.toNat % 16)])

/-- the `named_args` vector a sink sees. `fv` = the arguments, the i-th rendered by the i-th generated field
    (`{syntax_i}` or `{}`); too few arguments = fmt throws, caught, the (cleared, resized) values stay empty.
    `san` = "check_printable_char is set and some argument is string-like". -/
def namedPairs (sep : Str) (san : Bool) (keys : List (Str × Str)) (fv : List Str) : List (Str × Str) :=
  let names := populateNames keys fv.length
  let n := names.length
  let vals :=
    if fv.length < n then List.replicate n []
    else
      let v := splitValues sep (joinVals sep (fv.take n)) n
      if san then v.map sanitize else v
  names.zip vals

/-! ## the template cache -/

abbrev Parsed := Str × List (Str × Str)
/-- `_named_args_templates` as an association list (the C++ container is unordered; only `find` and
    `try_emplace` of an absent key are used) -/
abbrev Cache := List (Str × Parsed)

def lookupOrInsert (c : Cache) (t : Str) : Parsed × Cache :=
  match c.lookup t with
  | some r => (r, c)
  | none => let r := process t; (r, (t, r) :: c)

/-- results of a history of lookups, and the final cache -/
def runHistory : Cache → List Str → List Parsed × Cache
  | c, [] => ([], c)
  | c, t :: ts =>
    let r := lookupOrInsert c t
    let rest := runHistory r.2 ts
    (r.1 :: rest.1, rest.2)

/-! ## JSON sink -/

/-- the `for (pos = 0; (pos = _format.find('\n', pos)) != npos; pos++) _format.replace(pos, 1, " ")` loop -/
def nlLoop : Nat → Str → Nat → Str
  | 0, f, _ => f
  | fuel + 1, f, pos =>
    match findFrom '\n' f pos with
    | some p => nlLoop fuel (f.set p ' ') (p + 1)
    | none => f

/-- `write_log`: only when `strchr(format, '\n')` finds one is the copy made and rewritten -/
def removeNewlines (t : Str) : Str :=
  if t.contains '\n' then nlLoop (t.length + 1) t 0 else t

/-- which run-time value fills a header slot of `generate_json_message` -/
inductive HdrField where
  | timestamp | fileName | line | threadId | logger | logLevel | messageFormat
deriving DecidableEq, Repr

structure Hdr where
  timestamp : Str
  fileName : Str
  line : Str
  threadId : Str
  logger : Str
  logLevel : Str
deriving Repr

def Hdr.get (h : Hdr) (tmpl : Str) : HdrField → Str
  | .timestamp => h.timestamp
  | .fileName => h.fileName
  | .line => h.line
  | .threadId => h.threadId
  | .logger => h.logger
  | .logLevel => h.logLevel
  | .messageFormat => tmpl

def quoted (s : Str) : Str := '"' :: (s ++ ['"'])

/-- one `"key":"value"` member, nothing escaped -/
def member (k v : Str) : Str := quoted k ++ ':' :: quoted v

/-- the header written by the `fmtquill::format(R"({{"timestamp":"{}",…,"message":"{}")", …)` call:
    `{` then the members joined by `,`; `layout` = (literal key, argument) in the order of the C++ literal -/
def jsonHeader (layout : List (Str × HdrField)) (h : Hdr) (tmpl : Str) : Str :=
  '{' :: joinVals [','] (layout.map (fun kf => member kf.1 (h.get tmpl kf.2)))

/-- the loop over `*named_args`: `,"` key `":"` value `"` -/
def jsonArgs : List (Str × Str) → Str
  | [] => []
  | (k, v) :: rest => [',', '"'] ++ k ++ ['"', ':', '"'] ++ v ++ ['"'] ++ jsonArgs rest

/-- `if (named_args) { for … }` -/
def jsonArgsOpt : Option (List (Str × Str)) → Str
  | some ps => jsonArgs ps
  | none => []

/-- the bytes handed to the stream: header, pairs (if the pointer is non-null), `}\n` -/
def jsonLine (layout : List (Str × HdrField)) (h : Hdr) (tmpl : Str) (pairs : Option (List (Str × Str))) : Str :=
  jsonHeader layout h (removeNewlines tmpl) ++ jsonArgsOpt pairs ++ ['}', '\n']

/-! ### the sink's line buffer across statements (`_json_message`), with throwing customisation points

`JsonSink::write_log` = `_json_message.clear()`; the virtual `generate_json_message(…)` (appends the record; a
documented customisation point — a user override may throw after part of the record was appended);
`_json_message.append("}\n")`; base `write_log` with the buffer (`before_write` hook, `fwrite`; may throw). An
exception leaves `write_log` at that point; the backend reports it through the error notifier and goes on with the
next statement. The buffer is a member: it survives from one statement to the next. -/

/-- what `generate_json_message` appends for one statement: the line without its closing `}\n` -/
def jsonRecord (layout : List (Str × HdrField)) (h : Hdr) (tmpl : Str) (pairs : Option (List (Str × Str))) : Str :=
  jsonHeader layout h (removeNewlines tmpl) ++ jsonArgsOpt pairs

/-- where the write of a statement fails -/
inductive JFault where
  | none
  /-- `generate_json_message` throws after `k` bytes of the record were appended (`k ≥` its length: after all of it) -/
  | generate (k : Nat)
  /-- the base `write_log` throws (`before_write` hook, `fwrite`) before anything reached the stream -/
  | write
deriving DecidableEq, Repr

/-- where `write_log` empties the buffer (extracted): before `generate_json_message` (the code) and/or after the
    base write (the variant that "leaves the buffer empty once its content has been handed over") -/
structure JSinkParams where
  clearBefore : Bool := true
  clearAfter : Bool := false
deriving DecidableEq, Repr

structure JSink where
  /-- `_json_message` -/
  buf : Str := []
  /-- the bytes handed to the stream so far -/
  file : Str := []
  /-- exceptions that left `write_log` (one error-notifier report each) -/
  reports : Nat := 0
deriving DecidableEq, Repr

def JSink.clear (s : JSink) : JSink := { s with buf := [] }

/-- `generate_json_message`: appends the record — or, throwing (`true`), only its first `k` bytes -/
def JSink.generate (s : JSink) (record : Str) : JFault → JSink × Bool
  | .generate k => ({ s with buf := s.buf ++ record.take k }, true)
  | _ => ({ s with buf := s.buf ++ record }, false)

/-- base `write_log` with the buffer: the bytes reach the stream, or it throws (`true`) and nothing does -/
def JSink.write (s : JSink) : JFault → JSink × Bool
  | .write => (s, true)
  | _ => ({ s with file := s.file ++ s.buf }, false)

def JSink.report (s : JSink) : JSink := { s with reports := s.reports + 1 }

/-- `JsonSink::write_log` for one statement: (clear;) generate; append `}\n`; write (; clear) -/
def jsonWrite (p : JSinkParams) (s : JSink) (record : Str) (f : JFault) : JSink :=
  let s1 := if p.clearBefore then s.clear else s
  let g := s1.generate record f
  if g.2 then g.1.report
  else
    let s3 : JSink := { g.1 with buf := g.1.buf ++ ['}', '\n'] }
    let w := s3.write f
    if w.2 then w.1.report
    else if p.clearAfter then w.1.clear else w.1

/-- a sequence of (record, fault) through one sink -/
def runRecords (p : JSinkParams) (s : JSink) : List (Str × JFault) → JSink
  | [] => s
  | rf :: rest => runRecords p (jsonWrite p s rf.1 rf.2) rest

/-- a statement as the JSON sink sees it, with the fault scheduled for it -/
structure JStmt where
  h : Hdr
  tmpl : Str
  pairs : Option (List (Str × Str))
  fault : JFault := .none
deriving Repr

def runJson (layout : List (Str × HdrField)) (p : JSinkParams) (s : JSink) (stmts : List JStmt) : JSink :=
  runRecords p s (stmts.map (fun st => (jsonRecord layout st.h st.tmpl st.pairs, st.fault)))

/-! ## one statement through the backend (what a sink observes) -/

structure SinkObs where
  msg : Option Str
  pairs : Option (List (Str × Str))
deriving Repr, DecidableEq

/-- "if the log_message ends with \n we should exclude it" (`_dispatch_transit_event_to_sinks`, single-statement branch) -/
def dropLastNl (s : Str) : Str := if s.getLast? = some '\n' then s.dropLast else s

/-- `_populate_formatted_log_message`'s tail: sanitise if configured and string-like arguments are present;
    then the trailing-newline cut made when the statement is handed to the sinks -/
def finishMsg (san : Bool) (m : Option Str) : Option Str :=
  m.map (fun s => dropLastNl (if san then sanitize s else s))

/-- the `named_args` vector when `_format_and_split_arguments` throws (fmt rejects a spec/argument combination or
    an argument is missing): the exception is swallowed, the names are set, the (cleared, resized) values stay empty -/
def namedPairsThrow (keys : List (Str × Str)) (nargs : Nat) : List (Str × Str) :=
  let names := populateNames keys nargs
  names.zip (List.replicate names.length [])

/-- formatting step of the backend for one statement with template `t`; `fv` as in `namedPairs`.
    `thr` = fmt throws while rendering some argument with the spec it is given (outside the model: an input).
    `msg = none` stands for the "[Could not format log statement…" replacement text. -/
def backendStep (sep : Str) (san thr : Bool) (c : Cache) (t : Str) (fv : List Str) : SinkObs × Cache :=
  if containsNamedArgs t then
    let r := lookupOrInsert c t
    ({ msg := if thr then none else finishMsg san (fmtSubst r.1.1 fv),
       pairs := some (if thr then namedPairsThrow r.1.2 fv.length else namedPairs sep san r.1.2 fv) }, r.2)
  else
    ({ msg := if thr then none else finishMsg san (fmtSubst t fv), pairs := none }, c)

end Named
