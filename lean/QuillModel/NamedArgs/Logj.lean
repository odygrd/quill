import QuillModel.NamedArgs.Grammar
/-! The `LOGJ_` templates: the literal the preprocessor builds from the statement's text and the spelling of its arguments,
as pieces of the grammar. The text part holds no placeholder, and whatever only looks at placeholders passes over it
(`skip_noFields`). -/
namespace Named

/-- `QUILL_GENERATE_NAMED_FORMAT_STRING_n(text, x1, …, xn)` = `text " {x1}, {x2}, … {xn}"` as pieces -/
def logjPieces (tp : List Piece) : List Str → List Piece
  | [] => tp
  | x :: xs => tp ++ (.text ' ' :: .field x none :: xs.flatMap (fun y => [.text ',', .text ' ', .field y none]))

/-- the literal the preprocessor builds -/
def logjLiteral (text : Str) : List Str → Str
  | [] => text
  | x :: xs => text ++ ([' ', '{'] ++ x ++ ['}']) ++ xs.flatMap (fun y => [',', ' ', '{'] ++ y ++ ['}'])

theorem render_logj_tail (xs : List Str) :
    render (xs.flatMap (fun y => [Piece.text ',', Piece.text ' ', Piece.field y none]))
      = xs.flatMap (fun y => [',', ' ', '{'] ++ y ++ ['}']) := by
  induction xs with
  | nil => rfl
  | cons y ys ih => simp [render, Piece.render, ih]

theorem render_logj (tp : List Piece) (xs : List Str) : render (logjPieces tp xs) = logjLiteral (render tp) xs := by
  cases xs with
  | nil => rfl
  | cons x xs => simp [logjPieces, logjLiteral, render_append, render, Piece.render, render_logj_tail]

def noFields (tp : List Piece) : Bool := tp.all (fun p => !p.isField)

theorem procOK_cons {p : Piece} {r : List Piece} (hs : startsEscClose r = false) (hr : procOK r = true) :
    procOK (p :: r) = true := by
  simp [procOK, hs, hr]

theorem startsEscClose_logj_tail (xs : List Str) :
    startsEscClose (xs.flatMap (fun y => [Piece.text ',', Piece.text ' ', Piece.field y none])) = false := by
  cases xs <;> rfl

theorem procOK_tail (xs : List Str) :
    procOK (xs.flatMap (fun y => [Piece.text ',', Piece.text ' ', Piece.field y none])) = true := by
  induction xs with
  | nil => rfl
  | cons y ys ih =>
    rw [List.flatMap_cons]
    exact procOK_cons rfl (procOK_cons rfl (procOK_cons (startsEscClose_logj_tail ys) ih))

theorem noFields_cons {p : Piece} {ps : List Piece} (h : noFields (p :: ps) = true) :
    p.isField = false ∧ noFields ps = true := by
  simpa [noFields] using h

/-- what skips every piece that is no placeholder skips a prefix without placeholders -/
theorem skip_noFields {α : Type} (f : List Piece → α) (ht : ∀ c r, f (.text c :: r) = f r)
    (ho : ∀ r, f (.escOpen :: r) = f r) (hc : ∀ r, f (.escClose :: r) = f r)
    (tp rest : List Piece) (hn : noFields tp = true) : f (tp ++ rest) = f rest := by
  induction tp with
  | nil => rfl
  | cons p ps ih =>
    obtain ⟨hp, hps⟩ := noFields_cons hn
    cases p with
    | text c => exact (ht c _).trans (ih hps)
    | escOpen => exact (ho _).trans (ih hps)
    | escClose => exact (hc _).trans (ih hps)
    | field n s => cases hp

theorem procOK_prefix (tp rest : List Piece) (hn : noFields tp = true) (hr : procOK rest = true) :
    procOK (tp ++ rest) = true :=
  (skip_noFields procOK (fun _ _ => rfl) (fun _ => rfl) (fun _ => rfl) tp rest hn).trans hr

theorem detectOK_prefix (tp rest : List Piece) (hn : noFields tp = true) (hr : detectOK rest = true) :
    detectOK (tp ++ rest) = true :=
  (skip_noFields detectOK (fun _ _ => rfl) (fun _ => rfl) (fun _ => rfl) tp rest hn).trans hr

theorem procOK_logj (tp : List Piece) (hn : noFields tp = true) (xs : List Str) : procOK (logjPieces tp xs) = true := by
  cases xs with
  | nil => simpa [logjPieces] using procOK_prefix tp [] hn rfl
  | cons x xs =>
    exact procOK_prefix tp _ hn (procOK_cons rfl (procOK_cons (startsEscClose_logj_tail xs) (procOK_tail xs)))

theorem any_named_prefix (tp rest : List Piece) (hn : noFields tp = true) :
    (tp ++ rest).any Piece.isNamed = rest.any Piece.isNamed :=
  skip_noFields (·.any Piece.isNamed) (fun _ _ => rfl) (fun _ => rfl) (fun _ => rfl) tp rest hn

theorem keysOf_prefix (tp rest : List Piece) (hn : noFields tp = true) : keysOf (tp ++ rest) = keysOf rest :=
  skip_noFields keysOf (fun _ _ => rfl) (fun _ => rfl) (fun _ => rfl) tp rest hn

theorem map_erase_noFields (tp : List Piece) (hn : noFields tp = true) : tp.map Piece.erase = tp :=
  erase_of_not_named tp (by rw [← List.append_nil tp, any_named_prefix tp [] hn]; rfl)

theorem keysOf_logj_tail (xs : List Str) :
    keysOf (xs.flatMap (fun y => [Piece.text ',', Piece.text ' ', Piece.field y none])) = xs.map (fun y => (y, [])) := by
  induction xs with
  | nil => rfl
  | cons y ys ih => simp [keysOf, syntaxOf, ih]

theorem wf_logj (tp : List Piece) (hw : wf tp = true) (xs : List Str) (hx : ∀ x ∈ xs, nameOK x = true) :
    wf (logjPieces tp xs) = true := by
  cases xs with
  | nil => simpa [logjPieces] using hw
  | cons x xs =>
    simp only [wf, List.all_eq_true] at hw ⊢
    intro p hp
    simp only [logjPieces, List.mem_append, List.mem_cons, List.mem_flatMap, List.mem_nil_iff, or_false] at hp
    rcases hp with h | rfl | rfl | ⟨y, hy, rfl | rfl | rfl⟩
    · exact hw p h
    · decide
    · simpa [Piece.wf] using hx x (by simp)
    · decide
    · decide
    · simpa [Piece.wf] using hx y (by simp [hy])

end Named
