import QuillModel.NamedArgs.Basic
/-! JSON line assembly: `jsonBody` is the line without its newline, an object whose members come in a fixed order. -/
namespace Named

def replNl (c : Char) : Char := if c = '\n' then ' ' else c

theorem map_replNl_of_not_mem {l : Str} (h : '\n' ∉ l) : l.map replNl = l := by
  induction l with
  | nil => rfl
  | cons x xs ih =>
    have hx : x ≠ '\n' := fun e => h (by simp [e])
    simp only [List.map_cons, replNl, hx, if_false]
    rw [ih (fun e => h (by simp [e]))]

theorem nlLoop_append : ∀ (fuel : Nat) (pre suf : Str), suf.length < fuel →
    nlLoop fuel (pre ++ suf) pre.length = pre ++ suf.map replNl := by
  intro fuel
  induction fuel with
  | zero => intro pre suf h; omega
  | succ n ih =>
    intro pre suf h
    rw [nlLoop, findFrom_append]
    cases hi : idxOf '\n' suf with
    | none => rw [map_replNl_of_not_mem (idxOf_eq_none.1 hi)]; rfl
    | some k =>
      -- suf = a ++ '\n' :: b with no newline in `a`: the newline becomes a space, the loop goes on after it
      obtain ⟨hsplit, hnot⟩ := idxOf_split hi
      have hal : (suf.take k).length = k := by rw [List.length_take]; have := idxOf_lt hi; omega
      generalize suf.take k = a at hsplit hnot hal
      generalize suf.drop (k + 1) = b at hsplit
      subst hsplit; subst hal
      have hset : (pre ++ (a ++ '\n' :: b)).set (a.length + pre.length) ' ' = (pre ++ (a ++ [' '])) ++ b := by
        rw [List.set_append_right _ _ (by omega), List.set_append_right _ _ (by omega),
          show a.length + pre.length - pre.length - a.length = 0 by omega]
        simp
      have hp : a.length + pre.length + 1 = (pre ++ (a ++ [' '])).length := by simp; omega
      simp only [Option.map_some]
      rw [hset, hp, ih _ b (by simp at h; omega), List.map_append, map_replNl_of_not_mem hnot]
      simp [replNl]

theorem removeNewlines_eq (t : Str) : removeNewlines t = t.map replNl := by
  unfold removeNewlines
  split
  · exact nlLoop_append _ [] t (by omega)
  · rename_i h
    rw [map_replNl_of_not_mem]
    simpa using h

theorem removeNewlines_no_nl (t : Str) : '\n' ∉ removeNewlines t := by
  rw [removeNewlines_eq]
  simp only [List.mem_map, not_exists, not_and]
  intro c _ h
  by_cases hc : c = '\n'
  · rw [replNl, if_pos hc] at h; exact absurd h (by decide)
  · rw [replNl, if_neg hc] at h; exact hc h

/-- the object without the terminating newline -/
def jsonBody (layout : List (Str × HdrField)) (h : Hdr) (tmpl : Str) (pairs : Option (List (Str × Str))) : Str :=
  jsonHeader layout h (removeNewlines tmpl) ++ jsonArgsOpt pairs ++ ['}']

theorem jsonLine_eq_body (layout : List (Str × HdrField)) (h : Hdr) (tmpl : Str) (pairs : Option (List (Str × Str))) :
    jsonLine layout h tmpl pairs = jsonBody layout h tmpl pairs ++ ['\n'] := by
  simp [jsonLine, jsonBody]

theorem jsonLine_eq_record (layout : List (Str × HdrField)) (h : Hdr) (tmpl : Str) (pairs : Option (List (Str × Str))) :
    jsonLine layout h tmpl pairs = jsonRecord layout h tmpl pairs ++ ['}', '\n'] := by
  simp [jsonLine, jsonRecord]

theorem jsonArgs_eq (ps : List (Str × Str)) : jsonArgs ps = ps.flatMap (fun kv => ',' :: member kv.1 kv.2) := by
  induction ps with
  | nil => rfl
  | cons kv rest ih => obtain ⟨k, v⟩ := kv; simp [jsonArgs, ih, member, quoted]

/-- fixed key order: the header slots in the order of the layout, then the named pairs in their order -/
theorem jsonBody_members (layout : List (Str × HdrField)) (hl : layout ≠ []) (h : Hdr) (tmpl : Str)
    (pairs : Option (List (Str × Str))) :
    jsonBody layout h tmpl pairs =
      '{' :: joinVals [','] (layout.map (fun kf => member kf.1 (h.get (removeNewlines tmpl) kf.2)) ++
                              (pairs.getD []).map (fun kv => member kv.1 kv.2)) ++ ['}'] := by
  rw [joinVals_append_flat [','] _ _ (by simpa using hl)]
  cases pairs with
  | none => simp [jsonBody, jsonHeader, jsonArgsOpt]
  | some ps => simp [jsonBody, jsonHeader, jsonArgsOpt, jsonArgs_eq, List.flatMap_map]

theorem mem_joinVals {c : Char} {sep : Str} (hc : c ∉ sep) (l : List Str) : c ∈ joinVals sep l ↔ ∃ x ∈ l, c ∈ x := by
  cases l with
  | nil => simp [joinVals]
  | cons z l => rw [joinVals_cons]; simp [hc]

theorem mem_member {c : Char} (hq : c ≠ '"') (hcol : c ≠ ':') (k v : Str) : c ∈ member k v ↔ c ∈ k ∨ c ∈ v := by
  simp [member, quoted, hq, hcol]

/-- of the header values only the template is rewritten, and it is left without a newline -/
theorem nl_mem_get (h : Hdr) (tmpl : Str) (f : HdrField) :
    '\n' ∈ h.get (removeNewlines tmpl) f ↔ f ≠ .messageFormat ∧ '\n' ∈ h.get tmpl f := by
  cases f with
  | messageFormat => simp [Hdr.get, removeNewlines_no_nl]
  | _ => simp [Hdr.get]

/-- one line: the object contains a newline iff a key, a header value other than the (rewritten) template,
    or a pair does -/
theorem jsonBody_newline_iff (layout : List (Str × HdrField)) (hl : layout ≠ []) (h : Hdr) (tmpl : Str)
    (pairs : Option (List (Str × Str))) :
    '\n' ∈ jsonBody layout h tmpl pairs ↔
      (∃ kf ∈ layout, '\n' ∈ kf.1 ∨ (kf.2 ≠ .messageFormat ∧ '\n' ∈ h.get tmpl kf.2)) ∨
      (∃ kv ∈ pairs.getD [], '\n' ∈ kv.1 ∨ '\n' ∈ kv.2) := by
  have hnl : ∀ k v : Str, '\n' ∈ member k v ↔ '\n' ∈ k ∨ '\n' ∈ v := mem_member (by decide) (by decide)
  have hwrap : ∀ J : Str, '\n' ∈ '{' :: J ++ ['}'] ↔ '\n' ∈ J := by intro J; simp
  rw [jsonBody_members layout hl, hwrap, mem_joinVals (by decide)]
  simp only [List.mem_append, List.mem_map]
  constructor
  · rintro ⟨x, (⟨kf, hkf, rfl⟩ | ⟨kv, hkv, rfl⟩), hx⟩
    · exact Or.inl ⟨kf, hkf, ((hnl _ _).1 hx).imp_right (nl_mem_get h tmpl kf.2).1⟩
    · exact Or.inr ⟨kv, hkv, (hnl _ _).1 hx⟩
  · rintro (⟨kf, hkf, hx⟩ | ⟨kv, hkv, hx⟩)
    · exact ⟨_, Or.inl ⟨kf, hkf, rfl⟩, (hnl _ _).2 (hx.imp_right (nl_mem_get h tmpl kf.2).2)⟩
    · exact ⟨_, Or.inr ⟨kv, hkv, rfl⟩, (hnl _ _).2 hx⟩

end Named
