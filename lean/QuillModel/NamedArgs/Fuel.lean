import QuillModel.NamedArgs.Basic
/-!
Fuel adequacy of the loops of `process` (fuel `length + 1`) and of `splitValues` (fuel `length + 2`). For every input
string (not only templates of the grammar) more fuel changes nothing — so the definitions denote the C++ loops run to
completion and no theorem holds merely because a loop was cut short. The measure is the same in each: the position the
loop stands at moves strictly right at every iteration and does not pass the length, so a bound of the form
`length ≤ fuel + position` is kept. (The detection loops have theirs in `ScanDet.lean`.)
-/
namespace Named

theorem fuel_extra {α : Type} (g : Nat → α) (n : Nat) (h : ∀ k, n ≤ k → g (k + 1) = g k) :
    ∀ (extra : Nat), g (n + extra) = g n
  | 0 => rfl
  | e + 1 => (h (n + e) (Nat.le_add_right n e)).trans (fuel_extra g n h e)

theorem procInner_fuel (t : Str) (ob : Nat) : ∀ (fuel : Nat) (cb : Option Nat) (st : PSt),
    (∀ c, cb = some c → c < t.length ∧ t.length ≤ fuel + c) →
    procInner t ob (fuel + 1) cb st = procInner t ob fuel cb st := by
  intro fuel
  induction fuel with
  | zero =>
    intro cb st h
    cases cb with
    | none => simp [procInner]
    | some c => have := h c rfl; omega
  | succ f ih =>
    intro cb st h
    cases cb with
    | none => simp [procInner]
    | some c =>
      rw [procInner]
      conv => rhs; rw [procInner]
      cases ha : adjacentNext '}' t c with
      | none => rfl
      | some c2 =>
        simp only
        apply ih
        intro c3 hc3
        have h1 := adjacentNext_some ha
        have h2 := findFrom_some hc3
        have := h c rfl
        omega

theorem procInner_fuel_ge (t : Str) (ob : Nat) (cb : Option Nat) (st : PSt) (hcb : ∀ c, cb = some c → c < t.length) :
    ∀ (extra : Nat), procInner t ob (t.length + 1 + extra) cb st = procInner t ob (t.length + 1) cb st :=
  fuel_extra (fun f => procInner t ob f cb st) _
    (fun k hk => procInner_fuel t ob k cb st (fun c hc => ⟨hcb c hc, by omega⟩))

theorem procInner_cb_ge (t : Str) (ob : Nat) : ∀ (fuel : Nat) (cb : Option Nat) (st : PSt) (c' : Nat),
    (procInner t ob fuel cb st).2 = some c' → ∃ c, cb = some c ∧ c ≤ c' ∧ (c < t.length → c' < t.length) := by
  intro fuel
  induction fuel with
  | zero => intro cb st c' h; simp only [procInner] at h; exact ⟨c', h, Nat.le_refl _, id⟩
  | succ f ih =>
    intro cb st c' h
    cases cb with
    | none => simp [procInner] at h
    | some c =>
      rw [procInner] at h
      cases ha : adjacentNext '}' t c with
      | none =>
        simp only [ha, Option.some.injEq] at h
        exact ⟨c, rfl, by omega, fun hh => by omega⟩
      | some c2 =>
        simp only [ha] at h
        obtain ⟨c3, hc3, hle, hlt⟩ := ih _ st c' h
        have h1 := adjacentNext_some ha
        have h2 := findFrom_some hc3
        exact ⟨c, rfl, by omega, fun _ => hlt h2.2⟩

theorem procOuter_fuel (t : Str) : ∀ (fuel : Nat) (ob : Option Nat) (st : PSt),
    (∀ o, ob = some o → o < t.length ∧ t.length ≤ fuel + o) →
    procOuter t (fuel + 1) ob st = procOuter t fuel ob st := by
  intro fuel
  induction fuel with
  | zero =>
    intro ob st h
    cases ob with
    | none => simp [procOuter]
    | some o => have := h o rfl; omega
  | succ f ih =>
    intro ob st h
    cases ob with
    | none => simp [procOuter]
    | some o =>
      have ho := h o rfl
      rw [procOuter]
      conv => rhs; rw [procOuter]
      cases ha : adjacentNext '{' t o with
      | some o2 =>
        simp only
        apply ih
        intro o3 ho3
        have h1 := adjacentNext_some ha
        have h2 := findFrom_some ho3
        omega
      | none =>
        simp only
        apply ih
        intro o3 ho3
        cases hr : (procInner t o (t.length + 1) (findFrom '}' t (o + 1)) st).2 with
        | none => simp [hr, reopen] at ho3
        | some c' =>
          simp only [hr, reopen] at ho3
          obtain ⟨c, hc, hle, hlt⟩ := procInner_cb_ge t o _ _ st c' hr
          have h1 := findFrom_some hc
          have h2 := findFrom_some ho3
          omega

theorem process_fuel (t : Str) : ∀ (extra : Nat),
    procOuter t (t.length + 1 + extra) (findFrom '{' t 0) {} = procOuter t (t.length + 1) (findFrom '{' t 0) {} :=
  fuel_extra (fun f => procOuter t f (findFrom '{' t 0) {}) _
    (fun k hk => procOuter_fuel t k _ _ (fun o ho => ⟨(findFrom_some ho).2, by omega⟩))

theorem splitAssign_fuel {sep : Str} (hne : sep ≠ []) (s : Str) : ∀ (fuel start idx : Nat) (vals : List Str),
    start ≤ s.length → s.length + 1 ≤ fuel + start →
    splitAssign sep s (fuel + 1) start idx vals = splitAssign sep s fuel start idx vals := by
  have hsl : 1 ≤ sep.length := by cases sep with
    | nil => exact absurd rfl hne
    | cons _ _ => simp
  intro fuel
  induction fuel with
  | zero => intro start idx vals h1 h2; omega
  | succ f ih =>
    intro start idx vals h1 h2
    rw [splitAssign]
    conv => rhs; rw [splitAssign]
    cases hf : findSub sep s start with
    | none => rfl
    | some e =>
      have := findSub_some hf
      simp only
      split
      · exact ih _ _ _ (by omega) (by omega)
      · exact ih _ _ _ (by omega) (by omega)

/-- `splitAssign_fuel` asks for `length + 1 ≤ fuel` at `start = 0`: the `length + 2` of `splitValues` has one unit to spare -/
theorem splitValues_fuel {sep : Str} (hne : sep ≠ []) (s : Str) (n : Nat) : ∀ (extra : Nat),
    splitAssign sep s (s.length + 2 + extra) 0 0 (List.replicate n []) = splitValues sep s n :=
  fuel_extra (fun f => splitAssign sep s f 0 0 (List.replicate n [])) _
    (fun k hk => splitAssign_fuel hne s k 0 0 _ (by omega) (by omega))

end Named
