import QuillModel.NamedArgs.ScanProc
/-!
The class `procOK` is exactly the class on which `process` is right: for a template of the grammar with a placeholder
directly followed by an escaped `}}`, the key list the scanner returns differs from the placeholder names/specs — the
key of the first such placeholder swallows the whole run of `}}` that follows it.
-/
namespace Named

theorem emit_keys (t : Str) (ob cb : Nat) (st : PSt) :
    (emit t ob cb st).keys = st.keys ++ [splitColon (substr t (ob + 1) (subSz cb (ob + 1)))] := rfl

theorem procInner_keys (t : Str) (ob : Nat) : ∀ (fuel : Nat) (cb : Option Nat) (st : PSt),
    ∃ extra, (procInner t ob fuel cb st).1.keys = st.keys ++ extra := by
  intro fuel
  induction fuel with
  | zero => intro cb st; exact ⟨[], by simp [procInner]⟩
  | succ f ih =>
    intro cb st
    cases cb with
    | none => exact ⟨[], by simp [procInner]⟩
    | some c =>
      rw [procInner]
      cases adjacentNext '}' t c with
      | some c2 => exact ih _ st
      | none => exact ⟨_, emit_keys t ob c st⟩

theorem procOuter_keys (t : Str) : ∀ (fuel : Nat) (ob : Option Nat) (st : PSt),
    ∃ extra, (procOuter t fuel ob st).keys = st.keys ++ extra := by
  intro fuel
  induction fuel with
  | zero => intro ob st; exact ⟨[], by simp [procOuter]⟩
  | succ f ih =>
    intro ob st
    cases ob with
    | none => exact ⟨[], by simp [procOuter]⟩
    | some o =>
      rw [procOuter]
      cases adjacentNext '{' t o with
      | some o2 => exact ih _ st
      | none =>
        simp only
        obtain ⟨e1, h1⟩ := procInner_keys t o (t.length + 1) (findFrom '}' t (o + 1)) st
        obtain ⟨e2, h2⟩ := ih (reopen t (procInner t o (t.length + 1) (findFrom '}' t (o + 1)) st).2)
          (procInner t o (t.length + 1) (findFrom '}' t (o + 1)) st).1
        exact ⟨e1 ++ e2, by rw [h2, h1, List.append_assoc]⟩

theorem splitColon_append (x : Str) : (splitColon x).1 ++ (splitColon x).2 = x := by
  unfold splitColon
  cases hi : idxOf ':' x with
  | none => simp
  | some k =>
    have := idxOf_lt hi
    simp only [substr]
    rw [subSz_le (by omega), List.take_of_length_le (l := List.drop k x) (by simp), List.take_append_drop]

theorem run_split : ∀ (l : List Piece), ∃ k post, l = List.replicate k Piece.escClose ++ post ∧ startsEscClose post = false
  | [] => ⟨0, [], rfl, rfl⟩
  | p :: l => by
    cases p with
    | escClose =>
      obtain ⟨k, post, h1, h2⟩ := run_split l
      exact ⟨k + 1, post, by rw [h1, List.replicate_succ]; rfl, h2⟩
    | text c => exact ⟨0, _, rfl, rfl⟩
    | escOpen => exact ⟨0, _, rfl, rfl⟩
    | field n s => exact ⟨0, _, rfl, rfl⟩

theorem render_replicate_close (k : Nat) : render (List.replicate k Piece.escClose) = List.replicate (2 * k) '}' := by
  induction k with
  | zero => rfl
  | succ k ih =>
    rw [List.replicate_succ, render, ih, show 2 * (k + 1) = 2 * k + 1 + 1 by omega, List.replicate_succ, List.replicate_succ]
    rfl

/-- the first placeholder that is directly followed by an escaped `}}` -/
theorem first_bad : ∀ (ps : List Piece), procOK ps = false →
    ∃ pre n s k post, ps = pre ++ (Piece.field n s :: (List.replicate (k + 1) Piece.escClose ++ post)) ∧
      procOK pre = true ∧ startsEscClose post = false
  | [], h => by simp [procOK] at h
  | p :: rest, h => by
    simp only [procOK, Bool.and_eq_false_iff, Bool.not_eq_false'] at h
    by_cases hb : (p.isField && startsEscClose rest) = true
    · simp only [Bool.and_eq_true] at hb
      cases p with
      | field n s =>
        cases rest with
        | nil => simp [startsEscClose] at hb
        | cons q rest' =>
          cases q with
          | escClose =>
            obtain ⟨k, post, h1, h2⟩ := run_split rest'
            exact ⟨[], n, s, k, post, by rw [h1, List.replicate_succ]; rfl, rfl, h2⟩
          | text c => simp [startsEscClose] at hb
          | escOpen => simp [startsEscClose] at hb
          | field n2 s2 => simp [startsEscClose] at hb
      | text c => simp [Piece.isField] at hb
      | escOpen => simp [Piece.isField] at hb
      | escClose => simp [Piece.isField] at hb
    · have hr : procOK rest = false := by
        rcases h with h | h
        · exact absurd h hb
        · exact h
      obtain ⟨pre, n, s, k, post, h1, h2, h3⟩ := first_bad rest hr
      refine ⟨p :: pre, n, s, k, post, by rw [h1]; rfl, ?_, h3⟩
      simp only [procOK, h2, Bool.and_true, Bool.not_eq_true']
      cases pre with
      | nil => simp [startsEscClose]
      | cons q pre' =>
        have : startsEscClose (q :: pre') = startsEscClose rest := by rw [h1]; cases q <;> rfl
        rw [this]
        simpa using hb

theorem process_keys_ne (ps : List Piece) (hw : wf ps = true) (hbad : procOK ps = false) :
    (process (render ps)).2 ≠ keysOf ps := by
  obtain ⟨pre, n, s, k, post, hps, hpre, hpost⟩ := first_bad ps hbad
  obtain ⟨hwpre, hwf1, hwpost⟩ : wf pre = true ∧ (Piece.field n s).wf = true ∧ wf post = true := by
    rw [hps] at hw
    simp only [wf, List.all_append, List.all_cons, Bool.and_eq_true] at hw ⊢
    exact ⟨hw.1, hw.2.1, hw.2.2.2⟩
  have hnb := content_no_brace hwf1
  have hsufhead : (render post).head? ≠ some '}' := head?_render_ne_close hwpost hpost
  -- the template: good prefix, `{`, the placeholder's content, `}` and `k + 1` escaped `}}`, the rest
  have ht : render ps = render pre ++ ('{' :: (content n s ++ (List.replicate (2 * (k + 1) + 1) '}' ++ render post))) := by
    rw [hps, render_append, render, render_field, render_append, render_replicate_close]
    rw [List.replicate_succ (n := 2 * (k + 1))]
    simp
  generalize render ps = t at ht
  -- the loops walk the good prefix in step …
  obtain ⟨st', hrun, hat⟩ := procOuter_walk pre [] {} [] [] t
    ('{' :: (content n s ++ (List.replicate (2 * (k + 1) + 1) '}' ++ render post))) ht
    hwpre hpre (by simp) ⟨Nat.le_refl _, rfl, rfl⟩
  simp only [List.nil_append, List.length_nil] at hrun hat
  -- … and close the placeholder after the run of `}}`
  have hstep := procOuter_field_run (render pre) (content n s) (render post) (k + 1) t.length st' ht hnb.1 hnb.2 hsufhead
  have hinside : (render pre).length + 1 + (content n s).length + 2 * (k + 1)
      = (render pre).length + 1 + (content n s ++ List.replicate (2 * (k + 1)) '}').length := by simp; omega
  have hemit := emit_eq (t := t) (render pre) (content n s ++ List.replicate (2 * (k + 1)) '}') (render post) st'
    (by rw [ht, List.replicate_succ' (n := 2 * (k + 1))]; simp) hat.pos
  rw [hinside] at hstep
  obtain ⟨extra, hextra⟩ := procOuter_keys t t.length
    (findFrom '{' t ((render pre).length + 1 + (content n s ++ List.replicate (2 * (k + 1)) '}').length))
    (emit t (render pre).length ((render pre).length + 1 + (content n s ++ List.replicate (2 * (k + 1)) '}').length) st')
  have hfinal : (process t).2 = keysOf pre ++ (splitColon (content n s ++ List.replicate (2 * (k + 1)) '}') :: extra) := by
    simp only [process]
    rw [hrun, findFrom_here (render pre) _ ht, hstep, hextra, hemit, hat.keys]
    simp
  rw [hfinal, hps, keysOf_append]
  -- the key of the placeholder is longer than its name and spec
  intro heq
  have hhead := (List.cons.inj (List.append_cancel_left heq)).1
  have hcat := splitColon_append (content n s ++ List.replicate (2 * (k + 1)) '}')
  rw [hhead] at hcat
  have : (n ++ syntaxOf s).length = (content n s ++ List.replicate (2 * (k + 1)) '}').length := by
    simp only at hcat; rw [hcat]
  simp [content] at this

end Named
