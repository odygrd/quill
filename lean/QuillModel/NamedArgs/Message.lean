import QuillModel.NamedArgs.Grammar
/-! The text message: fmt's top level (`fmtSubst`) on an erased template is the intended text (`msgSpec`). -/
namespace Named

theorem fmtSubstF_text (f : Nat) (c : Char) (r : Str) (fv : List Str) (h1 : c ≠ '{') (h2 : c ≠ '}') :
    fmtSubstF (f + 1) (c :: r) fv = (fmtSubstF f r fv).map (c :: ·) := by
  simp [fmtSubstF, h1, h2]

theorem fmtSubstF_escOpen (f : Nat) (r : Str) (fv : List Str) :
    fmtSubstF (f + 1) ('{' :: '{' :: r) fv = (fmtSubstF f r fv).map ('{' :: ·) := by
  simp [fmtSubstF]

theorem fmtSubstF_escClose (f : Nat) (r : Str) (fv : List Str) :
    fmtSubstF (f + 1) ('}' :: '}' :: r) fv = (fmtSubstF f r fv).map ('}' :: ·) := by
  simp [fmtSubstF]

theorem fmtSubstF_field (f : Nat) (spec r : Str) (fv : List Str) (hs : '}' ∉ spec)
    (hc : spec = [] ∨ spec.head? = some ':') :
    fmtSubstF (f + 1) ('{' :: (spec ++ '}' :: r)) fv =
      match fv with
      | [] => none
      | v :: fv' => (fmtSubstF f r fv').map (v ++ ·) := by
  have hhead : (spec ++ '}' :: r).head? ≠ some '{' := by
    rcases hc with rfl | hc
    · simp
    · cases spec with
      | nil => simp
      | cons x xs => simp at hc; simp [hc]
  simp only [fmtSubstF, if_true, hhead, if_false, idxOf_append_hit spec r hs]
  cases fv with
  | nil => rfl
  | cons v fv' =>
    have hdrop : (spec ++ '}' :: r).drop (spec.length + 1) = r := by
      have hl : spec.length + 1 = (spec ++ ['}']).length := by simp
      rw [List.append_cons, hl, List.drop_left' rfl]
    simp only [List.take_left', hc, if_true, hdrop]

theorem syntaxOf_no_close {n : Str} {s : Option Str} (h : (Piece.field n s).wf = true) : '}' ∉ syntaxOf s :=
  fun hm => (content_no_brace h).2 (List.mem_append_right _ hm)

theorem fmtSubstF_render : ∀ (ps : List Piece) (fv : List Str) (fuel : Nat), wf ps = true →
    (render (ps.map Piece.erase)).length < fuel →
    fmtSubstF fuel (render (ps.map Piece.erase)) fv = msgSpec ps fv := by
  intro ps
  induction ps with
  | nil =>
    intro fv fuel _ hf
    obtain ⟨f, rfl⟩ : ∃ f, fuel = f + 1 := ⟨fuel - 1, by omega⟩
    rfl
  | cons p r ih =>
    intro fv fuel hw hf
    simp only [wf, List.all_cons, Bool.and_eq_true] at hw
    obtain ⟨f, rfl⟩ : ∃ f, fuel = f + 1 := ⟨fuel - 1, by omega⟩
    rw [render_map_erase_cons] at hf ⊢
    rw [List.length_append] at hf
    cases p with
    | text c =>
      have hc : c ≠ '{' ∧ c ≠ '}' := by
        have := hw.1; simp only [Piece.wf, Bool.and_eq_true, bne_iff_ne, ne_eq] at this; exact this
      change 1 + _ < _ at hf
      change fmtSubstF (f + 1) (c :: render (r.map Piece.erase)) fv = _
      rw [fmtSubstF_text f c _ fv hc.1 hc.2, ih fv f hw.2 (by omega)]; rfl
    | escOpen =>
      change 2 + _ < _ at hf
      change fmtSubstF (f + 1) ('{' :: '{' :: render (r.map Piece.erase)) fv = _
      rw [fmtSubstF_escOpen, ih fv f hw.2 (by omega)]; rfl
    | escClose =>
      change 2 + _ < _ at hf
      change fmtSubstF (f + 1) ('}' :: '}' :: render (r.map Piece.erase)) fv = _
      rw [fmtSubstF_escClose, ih fv f hw.2 (by omega)]; rfl
    | field n s =>
      rw [render_erase_field] at hf ⊢
      rw [List.cons_append, List.append_assoc, List.singleton_append,
        fmtSubstF_field f _ _ fv (syntaxOf_no_close hw.1) (by cases s <;> simp [syntaxOf])]
      cases fv with
      | nil => rfl
      | cons v fv' => simp only; rw [ih fv' f hw.2 (by simp at hf; omega)]; rfl

theorem fmtSubst_render (ps : List Piece) (fv : List Str) (hw : wf ps = true) :
    fmtSubst (render (ps.map Piece.erase)) fv = msgSpec ps fv :=
  fmtSubstF_render ps fv _ hw (by omega)

end Named
